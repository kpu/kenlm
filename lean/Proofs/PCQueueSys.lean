import Model.PCQueueSys
import Proofs.PCQueueRefine
import Proofs.PCQueueEintr
/-!
Forward simulation from the composed step-level system (`KV.Sys.cstep`, `cintr`) to the atomic-FIFO system
(`KV.Sys.astep`), for arbitrary client programs: every step of the product is a stutter step or exactly one step
of the atomic system under the abstraction `abs`.  First the equations of `astep` by the action of the stepping
thread.  Core Lean only.
-/
namespace KV.Sys
open KV.PCQueue
open KV.Chain (fifoPush fifoPop upd upd_same upd_ne upd_self)

variable {σ : Type} {P : Prog σ} {c c' : CState σ} {t q : Nat}
  {s s' : State} {th th' : Thread}
attribute [local simp] upd_same upd_ne


section astep
variable {a : AState σ}

theorem astep_lt {a' : AState σ} (hs : astep P a t = some a') : t < P.nthreads := by
  apply Decidable.byContradiction
  intro e; unfold astep at hs; rw [if_neg e] at hs; cases hs

theorem astep_produce (ht : t < P.nthreads) {q v : Nat} {k : σ} (h : P.act t (a.loc t) = .produce q v k) :
    astep P a t = if (a.q q).length < P.cap q then
        some { a with q := upd a.q q (a.q q ++ [v]), loc := upd a.loc t k }
      else none := by
  by_cases hl : (a.q q).length < P.cap q <;> simp only [astep, ht, h, fifoPush, hl, if_true, if_false]

theorem astep_consume (ht : t < P.nthreads) {q : Nat} {k : Nat → σ} (h : P.act t (a.loc t) = .consume q k) :
    astep P a t = match a.q q with
      | [] => none
      | v :: rest =>
        some { q := upd a.q q rest, loc := upd a.loc t (k v), popped := upd a.popped q (a.popped q ++ [(t, v)]) } := by
  cases hq : a.q q <;> simp only [astep, ht, h, fifoPop, hq, if_true]

theorem astep_tau (ht : t < P.nthreads) {k : σ} (h : P.act t (a.loc t) = .tau k) :
    astep P a t = some { a with loc := upd a.loc t k } := by
  simp only [astep, ht, h, if_true]

theorem astep_await (ht : t < P.nthreads) {p : Nat} {pred : σ → Bool} {k : σ}
    (h : P.act t (a.loc t) = .await p pred k) :
    astep P a t = if pred (a.loc p) then some { a with loc := upd a.loc t k } else none := by
  simp only [astep, ht, h, if_true]

theorem astep_stop (h : P.act t (a.loc t) = .stop) : astep P a t = none := by
  by_cases ht : t < P.nthreads <;> simp only [astep, ht, h, if_true, if_false]

end astep

/-- entering `Produce(v)`: an entry at rest holds no token and no mutex, so arming it disturbs nothing -/
theorem arm_prod_core (h : Core s) (hth : s.threads[t]? = some th)
    (hpc : th.pc = .done) (v : Nat) : Core (armProd s t v) :=
  core_control h hth (by simp [tokens, hpc]) (by simp [tokens, hpc])
    (h.pm.frame hth (by simp [holdsP, hpc])) (h.cm.frame hth (by simp [holdsC, hpc]))
    ⟨nofun, nofun, fun _ => rfl, nofun, nofun, nofun⟩

theorem arm_cons_core (h : Core s) (hth : s.threads[t]? = some th)
    (hpc : th.pc = .done) : Core (armCons s t) :=
  core_control h hth (by simp [tokens, hpc]) (by simp [tokens, hpc])
    (h.pm.frame hth (by simp [holdsP, hpc])) (h.cm.frame hth (by simp [holdsC, hpc]))
    ⟨nofun, nofun, nofun, fun _ _ => Nat.one_pos, nofun, fun _ => rfl⟩

def linearized (s : State) (t : Nat) : Bool :=
  match pcOf s t with
  | .unlock => true
  | .post => true
  | .done => true
  | _ => false

/-- local state of a thread in the atomic system: a thread inside `Produce`/`Consume` has already made its
abstract step iff its critical-section body (the linearisation point) has been executed -/
def absLoc (c : CState σ) (t : Nat) : σ :=
  match c.mode t with
  | .idle => c.loc t
  | .inP q _ k => if linearized (c.qs q) t then k else c.loc t
  | .inC q k => if linearized (c.qs q) t then k (lastGot (c.qs q) t) else c.loc t

def abs (c : CState σ) : AState σ :=
  { q := fun q => absBuf (c.qs q), loc := absLoc c, popped := fun q => (c.qs q).reads }

def preBody (pc : PC) : Prop := pc = .wait ∨ pc = .lock ∨ pc = .body
def postBody (pc : PC) : Prop := pc = .unlock ∨ pc = .post ∨ pc = .done

def ModeOK (P : Prog σ) (l : σ) (t q : Nat) (m : Mode σ) (th : Thread) : Prop :=
  match m with
  | .idle => th.pc = .done
  | .inP q' v k => q' = q ∧ P.act t l = .produce q v k ∧ th.role = .prod
      ∧ (preBody th.pc → th.items = [v]) ∧ (postBody th.pc → th.items = [])
  | .inC q' k => q' = q ∧ P.act t l = .consume q k ∧ th.role = .cons
      ∧ (preBody th.pc → th.quota = 1) ∧ (postBody th.pc → th.quota = 0)

def Mode.queue : Mode σ → Option Nat
  | .idle => none
  | .inP q _ _ => some q
  | .inC q _ => some q

structure CInv (P : Prog σ) (c : CState σ) : Prop where
  qinv : ∀ q, ∃ dP dC, Inv dP dC (c.qs q)
  qcap : ∀ q, (c.qs q).cap = P.cap q
  qlen : ∀ q, (c.qs q).threads.length = P.nthreads
  /-- outside the queue of its current operation every entry of a thread is at rest -/
  rest : ∀ t q, (c.mode t).queue ≠ some q → pcOf (c.qs q) t = .done
  mok : ∀ t q th, (c.mode t).queue = some q → (c.qs q).threads[t]? = some th → ModeOK P (c.loc t) t q (c.mode t) th

/-- each queue satisfies the part of `Inv` that does not count the calls still to come (`balance` says nothing under
the existential) -/
theorem CInv.core (h : CInv P c) (q : Nat) : Core (c.qs q) :=
  let ⟨_, _, hinv⟩ := h.qinv q
  hinv.core

theorem entry_of_lt (h : CInv P c) (ht : t < P.nthreads) (q : Nat) :
    ∃ th, (c.qs q).threads[t]? = some th := by
  have := h.qlen q
  exact ⟨(c.qs q).threads[t]'(by omega), List.getElem?_eq_getElem (by omega)⟩

theorem pcOf_eq (h : s.threads[t]? = some th) : pcOf s t = th.pc := by
  simp [pcOf, h]

theorem lastGot_eq (h : s.threads[t]? = some th) :
    lastGot s t = th.got.getLastD 0 := by
  simp [lastGot, h]

theorem get_set_self {s s' : State} (hth : s.threads[t]? = some th)
    (hset : s'.threads = s.threads.set t th') : s'.threads[t]? = some th' := by
  rw [hset]; exact set_self hth th'

theorem get_set_ne {s s' : State} {t t' : Nat} (hset : s'.threads = s.threads.set t th')
    (hne : t' ≠ t) : s'.threads[t']? = s.threads[t']? := by
  rw [hset]; exact List.getElem?_set_ne (Ne.symm hne)

theorem Mode.queue_cases {m : Mode σ} (hq : m.queue = some q) :
    (∃ v k, m = .inP q v k) ∨ ∃ k, m = .inC q k := by
  cases m with
  | idle => cases hq
  | inP q' v k => cases hq; exact Or.inl ⟨v, k, rfl⟩
  | inC q' k => cases hq; exact Or.inr ⟨k, rfl⟩

theorem ModeOK.cases {l : σ} {m : Mode σ} (h : ModeOK P l t q m th) (hq : m.queue = some q) :
    (∃ v k, m = .inP q v k ∧ P.act t l = .produce q v k ∧ th.role = .prod
      ∧ (preBody th.pc → th.items = [v]) ∧ (postBody th.pc → th.items = []))
    ∨ ∃ k, m = .inC q k ∧ P.act t l = .consume q k ∧ th.role = .cons
      ∧ (preBody th.pc → th.quota = 1) ∧ (postBody th.pc → th.quota = 0) := by
  cases m with
  | idle => cases hq
  | inP q' v k => cases hq; exact Or.inl ⟨v, k, rfl, h.2⟩
  | inC q' k => cases hq; exact Or.inr ⟨k, rfl, h.2⟩

theorem ModeOK.set_pc {l : σ} {m : Mode σ} {pc' : PC} (h : ModeOK P l t q m th) (hq : m.queue = some q)
    (h1 : preBody pc' → preBody th.pc) (h2 : postBody pc' → postBody th.pc) :
    ModeOK P l t q m { th with pc := pc' } := by
  cases m with
  | idle => cases hq
  | inP q' v k | inC q' k =>
    obtain ⟨e, hact, hro, hpre, hpost⟩ := h
    exact ⟨e, hact, hro, fun hp => hpre (h1 hp), fun hp => hpost (h2 hp)⟩

theorem ModeOK.next_done {l : σ} {m : Mode σ} (h : ModeOK P l t q m th) (hq : m.queue = some q)
    (hp : th.pc = .post) : th.next = .done := by
  cases m with
  | idle => cases hq
  | inP q' v k | inC q' k =>
    obtain ⟨-, -, hro, -, hpost⟩ := h
    simp only [Thread.next, hro, hpost (Or.inr (Or.inl hp))]
    rfl

theorem queue_inj {m : Mode σ} {q q' : Nat} (h : m.queue = some q) (h' : m.queue = some q') : q' = q :=
  Option.some.inj (h'.symm.trans h)

theorem entry_frame {qs : Nat → State} {th' : Thread}
    (hset : s'.threads = (qs q).threads.set t th') {t' : Nat} (hne : t' ≠ t) (q' : Nat) :
    (upd qs q s' q').threads[t']? = (qs q').threads[t']? := by
  by_cases e : q' = q
  · rw [e, upd_same, get_set_ne hset hne]
  · rw [upd_ne _ _ e]

/-- Replacing queue `q` by a state that differs only in the entry of thread `t` (a call or a micro-step), together
with a new mode of `t`.  Every clause of `CInv` is about one queue or one (thread, queue) pair, so the proof asks of
each whether it is the queue `q` / the thread `t` that changed, and uses the hypothesis for it or the old invariant. -/
theorem cinv_update (h : CInv P c) {th th' : Thread}
    {m' : Mode σ} (hth : (c.qs q).threads[t]? = some th) (hset : s'.threads = (c.qs q).threads.set t th')
    (hcap : s'.cap = (c.qs q).cap) (hinv : Core s')
    (hold : ∀ q', q' ≠ q → (c.mode t).queue ≠ some q')
    (hm : (m'.queue = some q ∧ ModeOK P (c.loc t) t q m' th') ∨ (m' = .idle ∧ th'.pc = .done)) :
    CInv P { c with qs := upd c.qs q s', mode := upd c.mode t m' } := by
  refine ⟨(Chain.forall_upd (R := fun _ s => ∃ dP dC, Inv dP dC s)).mpr ⟨hinv.exists_inv, fun q' _ => h.qinv q'⟩,
    (Chain.forall_upd (R := fun q' (s : State) => s.cap = P.cap q')).mpr ⟨hcap ▸ h.qcap q, fun q' _ => h.qcap q'⟩,
    (Chain.forall_upd (R := fun _ (s : State) => s.threads.length = P.nthreads)).mpr
      ⟨by rw [hset, List.length_set]; exact h.qlen q, fun q' _ => h.qlen q'⟩,
    fun t' q' hne => ?_, fun t' q' th0 hqq hget => ?_⟩
  · show pcOf (upd c.qs q s' q') t' = .done
    have hne : (upd c.mode t m' t').queue ≠ some q' := hne
    by_cases et : t' = t
    · rw [et, upd_same] at hne
      rw [et]
      by_cases e : q' = q
      · rw [e, upd_same, pcOf_eq (get_set_self hth hset)]
        exact hm.elim (fun h1 => absurd (e ▸ h1.1) hne) (·.2)
      · rw [upd_ne _ _ e]; exact h.rest t q' (hold q' e)
    · rw [upd_ne _ _ et] at hne
      have := h.rest t' q' hne
      simp only [pcOf, entry_frame hset et] at this ⊢
      exact this
  · have hqq : (upd c.mode t m' t').queue = some q' := hqq
    have hget : (upd c.qs q s' q').threads[t']? = some th0 := hget
    show ModeOK P (c.loc t') t' q' (upd c.mode t m' t') th0
    by_cases et : t' = t
    · rw [et, upd_same] at hqq ⊢
      rw [et] at hget
      rcases hm with ⟨h1, h2⟩ | ⟨h1, _⟩
      · cases queue_inj hqq h1
        rw [upd_same, get_set_self hth hset] at hget
        cases hget
        exact h2
      · rw [h1] at hqq; cases hqq
    · rw [upd_ne _ _ et] at hqq ⊢
      rw [entry_frame hset et] at hget
      exact h.mok t' q' th0 hqq hget

theorem cinv_loc (h : CInv P c) (hidle : c.mode t = .idle) (l' : σ) :
    CInv P { c with loc := upd c.loc t l' } := by
  refine ⟨h.qinv, h.qcap, h.qlen, h.rest, fun t' q th0 hq hget => ?_⟩
  show ModeOK P (upd c.loc t l' t') t' q (c.mode t') th0
  by_cases et : t' = t
  · rw [et, hidle] at hq; cases hq
  · rw [upd_ne _ _ et]; exact h.mok t' q th0 hq hget

theorem cinv_return (h : CInv P c) {t q : Nat}
    (hq : (c.mode t).queue = some q) (hdone : pcOf (c.qs q) t = .done) (l' : σ) :
    CInv P { c with loc := upd c.loc t l', mode := upd c.mode t .idle } := by
  refine ⟨h.qinv, h.qcap, h.qlen, fun t' q' hne => ?_, fun t' q' th0 hqq hget => ?_⟩
  · have hne : (upd c.mode t .idle t').queue ≠ some q' := hne
    by_cases et : t' = t
    · rw [et]
      by_cases e : q' = q
      · rw [e]; exact hdone
      · exact h.rest t q' fun e2 => e (queue_inj hq e2)
    · rw [upd_ne _ _ et] at hne
      exact h.rest t' q' hne
  · have hqq : (upd c.mode t .idle t').queue = some q' := hqq
    show ModeOK P (upd c.loc t l' t') t' q' (upd c.mode t .idle t') th0
    by_cases et : t' = t
    · rw [et, upd_same] at hqq; cases hqq
    · rw [upd_ne _ _ et] at hqq ⊢
      rw [upd_ne _ _ et]
      exact h.mok t' q' th0 hqq hget

theorem AState.ext {a b : AState σ} (h1 : a.q = b.q) (h2 : a.loc = b.loc) (h3 : a.popped = b.popped) : a = b := by
  cases a; cases b; simp at h1 h2 h3; simp [h1, h2, h3]

theorem absLoc_other (c c' : CState σ) (t' : Nat) (hloc : c'.loc t' = c.loc t') (hmode : c'.mode t' = c.mode t')
    (hpc : ∀ q', pcOf (c'.qs q') t' = pcOf (c.qs q') t')
    (hg : ∀ q', lastGot (c'.qs q') t' = lastGot (c.qs q') t') : absLoc c' t' = absLoc c t' := by
  unfold absLoc linearized
  rw [hmode, hloc]
  cases c.mode t' <;> simp [hpc, hg]

theorem abs_move (c c' : CState σ) {th' : Thread}
    (hqs : c'.qs = upd c.qs q s') (hset : s'.threads = (c.qs q).threads.set t th')
    (hloc : ∀ t', t' ≠ t → c'.loc t' = c.loc t') (hmode : ∀ t', t' ≠ t → c'.mode t' = c.mode t') :
    abs c' = { q := upd (abs c).q q (absBuf s'), loc := upd (abs c).loc t (absLoc c' t),
               popped := upd (abs c).popped q s'.reads } := by
  apply AState.ext
  · show (fun q' => absBuf (c'.qs q')) = _
    rw [hqs]; exact Chain.upd_comp absBuf c.qs q s'
  · funext t'
    show absLoc c' t' = upd (absLoc c) t (absLoc c' t) t'
    by_cases e : t' = t
    · subst e; simp
    · rw [upd_ne _ _ e]
      apply absLoc_other c c' t' (hloc t' e) (hmode t' e) <;> intro q' <;> rw [hqs]
      · simp only [pcOf, entry_frame hset e]
      · simp only [lastGot, entry_frame hset e]
  · show (fun q' => (c'.qs q').reads) = _
    rw [hqs]; exact Chain.upd_comp State.reads c.qs q s'

theorem abs_stutter (c c' : CState σ) {th' : Thread}
    (hqs : c'.qs = upd c.qs q s') (hset : s'.threads = (c.qs q).threads.set t th')
    (hloc : ∀ t', t' ≠ t → c'.loc t' = c.loc t') (hmode : ∀ t', t' ≠ t → c'.mode t' = c.mode t')
    (hbuf : absBuf s' = absBuf (c.qs q)) (hreads : s'.reads = (c.qs q).reads)
    (hself : absLoc c' t = absLoc c t) : abs c' = abs c := by
  rw [abs_move c c' hqs hset hloc hmode, hbuf, hreads, hself]
  exact AState.ext (upd_self _ q) (upd_self _ t) (upd_self _ q)

theorem linearized_eq (h : s.threads[t]? = some th) :
    linearized s t = (match th.pc with | .unlock => true | .post => true | .done => true | _ => false) := by
  simp [linearized, pcOf, h]

/-! ### a per-thread potential for termination

`gOf c t` = potential of thread `t`: idle 7; inside an operation 6, 5, 4 before the critical-section body and
10, 9, 8 after it (at `unlock`, `post`, returned-not-yet-handed-over).  Every stutter step of `t` lowers it; the
linearising body step raises it by 6 while the abstract system makes a step. -/

def gPc : PC → Nat
  | .wait => 6 | .lock => 5 | .body => 4 | .unlock => 10 | .post => 9 | .done => 8

def gOf (c : CState σ) (t : Nat) : Nat :=
  match c.mode t with
  | .idle => 7
  | .inP q _ _ => gPc (pcOf (c.qs q) t)
  | .inC q _ => gPc (pcOf (c.qs q) t)

theorem gOf_other (c c' : CState σ) (t' : Nat) (hmode : c'.mode t' = c.mode t')
    (hpc : ∀ q', pcOf (c'.qs q') t' = pcOf (c.qs q') t') : gOf c' t' = gOf c t' := by
  unfold gOf
  rw [hmode]
  cases c.mode t' <;> simp [hpc]

theorem gOf_frame (c c' : CState σ) {th' : Thread}
    (hqs : c'.qs = upd c.qs q s') (hset : s'.threads = (c.qs q).threads.set t th')
    (hmode : ∀ t', t' ≠ t → c'.mode t' = c.mode t') (t' : Nat) (hne : t' ≠ t) : gOf c' t' = gOf c t' := by
  apply gOf_other c c' t' (hmode t' hne)
  intro q'
  rw [hqs]
  simp only [pcOf, entry_frame hset hne]

def StepRel (P : Prog σ) (c c' : CState σ) (t : Nat) : Prop :=
  ((abs c' = abs c ∧ gOf c' t < gOf c t) ∨ (astep P (abs c) t = some (abs c') ∧ gOf c' t ≤ gOf c t + 6))
  ∧ ∀ t', t' ≠ t → gOf c' t' = gOf c t'

theorem gOf_eq (hq : (c.mode t).queue = some q)
    (hth : (c.qs q).threads[t]? = some th) : gOf c t = gPc th.pc := by
  unfold gOf
  rcases Mode.queue_cases hq with ⟨v, k, hm⟩ | ⟨k, hm⟩ <;> simp only [hm, pcOf_eq hth]

theorem linearized_iff (h : s.threads[t]? = some th) :
    linearized s t = true ↔ postBody th.pc := by
  rw [linearized_eq h]; cases th.pc <;> simp [postBody]

theorem linearized_false_iff (h : s.threads[t]? = some th) :
    linearized s t = false ↔ preBody th.pc := by
  rw [linearized_eq h]; cases th.pc <;> simp [preBody]

theorem cinv_micro (h : CInv P c)
    (hq : (c.mode t).queue = some q) (hth : (c.qs q).threads[t]? = some th) (hst : step (c.qs q) t = some s')
    (hset : s'.threads = (c.qs q).threads.set t th') (hmok : ModeOK P (c.loc t) t q (c.mode t) th') :
    CInv P { c with qs := upd c.qs q s' } := by
  have := cinv_update h hth hset (cap_step hst) (core_step (h.core q) hst)
    (fun q' e e2 => e (queue_inj hq e2)) (Or.inl ⟨hq, hmok⟩)
  rw [upd_self] at this
  exact this

theorem _root_.KV.PCQueue.Move.sides {nx pc pc' : PC} {x y : Nat × Nat × Option Nat} (hm : Move t nx pc pc' x y)
    (hnx : pc = .post → nx = .done) :
    (preBody pc' → preBody pc) ∧ (postBody pc' ↔ postBody pc) ∧ gPc pc' < gPc pc := by
  cases hm with
  | post _ => rw [hnx rfl]; simp [preBody, postBody, gPc]
  | _ => simp [preBody, postBody, gPc]

theorem sim_control (h : CInv P c) (hq : (c.mode t).queue = some q) (hth : (c.qs q).threads[t]? = some th)
    (hst : step (c.qs q) t = some s') {pc' : PC} {x y : Nat × Nat × Option Nat}
    (hset : s'.threads = (c.qs q).threads.set t { th with pc := pc' })
    (hw : s'.writes = (c.qs q).writes) (hr : s'.reads = (c.qs q).reads) (hm : Move t th.next th.pc pc' x y) :
    CInv P { c with qs := upd c.qs q s' } ∧ StepRel P c { c with qs := upd c.qs q s' } t := by
  have hmok := h.mok t q th hq hth
  have hth' := get_set_self hth hset
  obtain ⟨hpre, hpost, hdec⟩ := hm.sides (hmok.next_done hq)
  refine ⟨cinv_micro h hq hth hst hset (hmok.set_pc hq hpre hpost.mp), Or.inl ⟨?_, ?_⟩,
          gOf_frame c _ rfl hset (fun _ _ => rfl)⟩
  · apply abs_stutter c { c with qs := upd c.qs q s' } rfl hset (fun _ _ => rfl) (fun _ _ => rfl)
      (absBuf_frame hw hr) hr
    have hlin : linearized s' t = linearized (c.qs q) t :=
      Bool.eq_iff_iff.mpr (by rw [linearized_iff hth', linearized_iff hth]; exact hpost)
    have hgot : lastGot s' t = lastGot (c.qs q) t := by rw [lastGot_eq hth', lastGot_eq hth]
    unfold absLoc
    rcases Mode.queue_cases hq with ⟨v, k, hmd⟩ | ⟨k, hmd⟩ <;> simp [hmd, hlin, hgot]
  · rw [gOf_eq hq hth, gOf_eq (c := { c with qs := upd c.qs q s' }) hq (by simpa using hth')]
    exact hdec

theorem sim_return (h : CInv P c) (hq : (c.mode t).queue = some q)
    (hdone : pcOf (c.qs q) t = .done) :
    CInv P { c with loc := upd c.loc t (absLoc c t), mode := upd c.mode t .idle }
    ∧ StepRel P c { c with loc := upd c.loc t (absLoc c t), mode := upd c.mode t .idle } t := by
  refine ⟨cinv_return h hq hdone _, Or.inl ⟨?_, ?_⟩, fun t' e => ?_⟩
  · refine AState.ext rfl ?_ rfl
    funext t'
    show absLoc { c with loc := upd c.loc t (absLoc c t), mode := upd c.mode t .idle } t' = absLoc c t'
    by_cases e : t' = t
    · subst e; simp [absLoc]
    · apply absLoc_other <;> simp [e]
  · have : gOf c t = 8 := by
      unfold gOf
      rcases Mode.queue_cases hq with ⟨v, k, hm⟩ | ⟨k, hm⟩ <;> simp only [hm, hdone] <;> rfl
    rw [this]; simp [gOf]
  · apply gOf_other <;> simp [e]

/-- The steps of thread `t` of the composed system, by kind: the four actions of an idle thread; for a thread inside an
operation, the next step of its queue or the return with the result. -/
inductive CStep (P : Prog σ) (c : CState σ) (t : Nat) : CState σ → Prop
  | callP {q v : Nat} {k : σ} : c.mode t = .idle → P.act t (c.loc t) = .produce q v k →
      CStep P c t { c with qs := upd c.qs q (armProd (c.qs q) t v), mode := upd c.mode t (.inP q v k) }
  | callC {q : Nat} {k : Nat → σ} : c.mode t = .idle → P.act t (c.loc t) = .consume q k →
      CStep P c t { c with qs := upd c.qs q (armCons (c.qs q) t), mode := upd c.mode t (.inC q k) }
  | tau {k : σ} : c.mode t = .idle → P.act t (c.loc t) = .tau k → CStep P c t { c with loc := upd c.loc t k }
  | await {p : Nat} {pred : σ → Bool} {k : σ} : c.mode t = .idle → P.act t (c.loc t) = .await p pred k → c.mode p = .idle →
      pred (c.loc p) = true → CStep P c t { c with loc := upd c.loc t k }
  | micro {q : Nat} {s' : State} : (c.mode t).queue = some q → pcOf (c.qs q) t ≠ .done → step (c.qs q) t = some s' →
      CStep P c t { c with qs := upd c.qs q s' }
  | ret {q : Nat} : (c.mode t).queue = some q → pcOf (c.qs q) t = .done →
      CStep P c t { c with loc := upd c.loc t (absLoc c t), mode := upd c.mode t .idle }

theorem cstep_eq_some_iff : cstep P c t = some c' ↔ t < P.nthreads ∧ CStep P c t c' := by
  constructor
  · intro hs
    have ht : t < P.nthreads := Decidable.byContradiction fun e => by unfold cstep at hs; rw [if_neg e] at hs; cases hs
    refine ⟨ht, ?_⟩
    unfold cstep at hs
    rw [if_pos ht] at hs
    cases hm : c.mode t with
    | idle =>
      simp only [hm] at hs
      cases ha : P.act t (c.loc t) with
      | produce q v k => simp only [ha] at hs; cases hs; exact .callP hm ha
      | consume q k => simp only [ha] at hs; cases hs; exact .callC hm ha
      | tau k => simp only [ha] at hs; cases hs; exact .tau hm ha
      | stop => simp [ha] at hs
      | await p pred k =>
        simp only [ha] at hs
        cases hmp : c.mode p with
        | idle =>
          simp only [hmp] at hs
          by_cases hp : pred (c.loc p) = true
          · rw [if_pos hp] at hs; cases hs; exact .await hm ha hmp hp
          · rw [if_neg hp] at hs; cases hs
        | inP _ _ _ | inC _ _ => simp [hmp] at hs
    | inP q _ k | inC q k =>
      simp only [hm] at hs
      have hq : (c.mode t).queue = some q := by rw [hm]; rfl
      by_cases hd : pcOf (c.qs q) t = .done
      · rw [if_pos hd] at hs; cases hs
        have := CStep.ret (P := P) hq hd
        simpa [absLoc, hm, linearized, hd] using this
      · rw [if_neg hd] at hs
        cases hst : step (c.qs q) t with
        | none => simp [hst] at hs
        | some s' => simp only [hst] at hs; cases hs; exact .micro hq hd hst
  · rintro ⟨ht, hc⟩
    unfold cstep
    rw [if_pos ht]
    cases hc with
    | callP hm ha | callC hm ha | tau hm ha => simp only [hm, ha]
    | await hm ha hmp hp => simp only [hm, ha, hmp, hp, if_true]
    | micro hq hd hst => rcases Mode.queue_cases hq with ⟨v, k, hm⟩ | ⟨k, hm⟩ <;> simp only [hm, hd, hst, if_false]
    | ret hq hd => rcases Mode.queue_cases hq with ⟨v, k, hm⟩ | ⟨k, hm⟩ <;> simp [hm, hd, absLoc, linearized]

theorem CStep.ne_none (ht : t < P.nthreads) (h : CStep P c t c') : cstep P c t ≠ none := by
  rw [cstep_eq_some_iff.mpr ⟨ht, h⟩]; nofun

theorem CStep.mode_frame (h : CStep P c t c') {t' : Nat} (e : t' ≠ t) : c'.mode t' = c.mode t' := by
  cases h <;> first | rfl | exact upd_ne _ _ e

theorem abs_loc_idle (hm : c.mode t = .idle) : (abs c).loc t = c.loc t := by
  simp [abs, absLoc, hm]

theorem absLoc_pre (hq : (c.mode t).queue = some q)
    (hlin : linearized (c.qs q) t = false) : absLoc c t = c.loc t := by
  unfold absLoc
  rcases Mode.queue_cases hq with ⟨v, k, hm⟩ | ⟨k, hm⟩ <;> simp [hm, hlin]

theorem sim_body (h : CInv P c) (hq : (c.mode t).queue = some q) (hth : (c.qs q).threads[t]? = some th)
    (hst : step (c.qs q) t = some s') (hset : s'.threads = (c.qs q).threads.set t th')
    (hp : th.pc = .body) (hp' : th'.pc = .unlock) (hmok : ModeOK P (c.loc t) t q (c.mode t) th')
    (hast : astep P (abs c) t = some { q := upd (abs c).q q (absBuf s'),
                                       loc := upd (abs c).loc t (absLoc { c with qs := upd c.qs q s' } t),
                                       popped := upd (abs c).popped q s'.reads }) :
    CInv P { c with qs := upd c.qs q s' } ∧ StepRel P c { c with qs := upd c.qs q s' } t := by
  refine ⟨cinv_micro h hq hth hst hset hmok, Or.inr ⟨?_, ?_⟩, gOf_frame c _ rfl hset (fun _ _ => rfl)⟩
  · rw [abs_move c { c with qs := upd c.qs q s' } rfl hset (fun _ _ => rfl) (fun _ _ => rfl)]
    exact hast
  · rw [gOf_eq hq hth, gOf_eq (c := { c with qs := upd c.qs q s' }) hq
      (by simpa using get_set_self hth hset), hp, hp']
    decide

/-- The next step of the queue of a thread inside an operation.  By `step_cases` it is a move outside the body — a
stutter (`sim_control`) — or the body itself, where the role of the entry and `ModeOK` say which operation it is: the
abstract `Produce`/`Consume` is enabled because the step-level one was (`push_refines`, `pop_refines`), and happens now
(`sim_body`). -/
theorem sim_micro (h : CInv P c) (ht : t < P.nthreads) (hq : (c.mode t).queue = some q)
    (hst : step (c.qs q) t = some s') :
    CInv P { c with qs := upd c.qs q s' } ∧ StepRel P c { c with qs := upd c.qs q s' } t := by
  obtain ⟨th, hth⟩ := entry_of_lt h ht q
  have hmok := h.mok t q th hq hth
  have hinv := h.core q
  rcases step_cases hth hst with ⟨pc', e, u, pm, cm, rfl, hm⟩ | ⟨hr, hp, v0, rest, hitems, hs'⟩ | ⟨hr, hp, hs'⟩
  · rcases hm with ⟨-, -, hm⟩ | ⟨-, -, hm⟩ <;> exact sim_control h hq hth hst rfl rfl rfl hm
  · have hl := absLoc_pre hq (by rw [linearized_eq hth, hp])
    rcases hmok.cases hq with ⟨v, k, hmode, hact, hrole, hpre, -⟩ | ⟨_, _, _, hc, _⟩
    rotate_left
    · cases hr.symm.trans hc
    rw [hpre (Or.inr (Or.inr hp))] at hitems
    obtain ⟨rfl, rfl⟩ : v = v0 ∧ [] = rest := by simpa using hitems
    have hset : s'.threads = (c.qs q).threads.set t { th with pc := .unlock, items := [] } := by
      subst hs'; rfl
    refine sim_body h hq hth hst hset hp rfl ?_ ?_
    · rw [hmode]
      exact ⟨rfl, hact, hrole, by simp [preBody], fun _ => rfl⟩
    · obtain ⟨hlt, hbuf⟩ := Chain.fifoPush_some
        (push_refines (s' := s') (v := v) hinv hth hrole hp (by subst hs'; rfl) (by subst hs'; rfl))
      rw [h.qcap q] at hlt
      rw [astep_produce ht (by rw [show (abs c).loc t = c.loc t from hl]; exact hact),
        if_pos (show ((abs c).q q).length < P.cap q from hlt), hbuf,
        show s'.reads = (abs c).popped q by subst hs'; rfl, upd_self]
      simp [absLoc, hmode, linearized_eq (get_set_self hth hset)]
      rfl
  · have hl := absLoc_pre hq (by rw [linearized_eq hth, hp])
    rcases hmok.cases hq with ⟨_, _, _, _, hc, _⟩ | ⟨k, hmode, hact, hrole, hpre, -⟩
    · cases hr.symm.trans hc
    have hset : s'.threads = (c.qs q).threads.set t { th with pc := .unlock, quota := th.quota - 1
                                                              got := th.got ++ [(c.qs q).ring (c.qs q).consumeAt] } := by
      subst hs'; rfl
    refine sim_body h hq hth hst hset hp rfl ?_ ?_
    · rw [hmode]
      exact ⟨rfl, hact, hrole, by simp [preBody],
             fun _ => by show th.quota - 1 = 0; rw [hpre (Or.inr (Or.inr hp))]⟩
    · have hreads : s'.reads = (c.qs q).reads ++ [(t, (c.qs q).ring (c.qs q).consumeAt)] := by subst hs'; rfl
      rw [astep_consume ht (by rw [show (abs c).loc t = c.loc t from hl]; exact hact),
        show (abs c).q q = _ :: absBuf s' from
          Chain.fifoPop_some (pop_refines hinv hth hrole hp (by subst hs'; rfl) hreads), hreads]
      simp [absLoc, hmode, linearized_eq (get_set_self hth hset), lastGot_eq (get_set_self hth hset)]
      rfl

theorem abs_loc_step (c : CState σ) (hidle : c.mode t = .idle) (l' : σ) :
    abs { c with loc := upd c.loc t l' } = { abs c with loc := upd (abs c).loc t l' } := by
  apply AState.ext
  · rfl
  · funext t'
    show absLoc { c with loc := upd c.loc t l' } t' = upd (absLoc c) t l' t'
    by_cases e : t' = t
    · subst e; simp [absLoc, hidle]
    · rw [upd_ne _ _ e]
      apply absLoc_other <;> simp [e]
  · rfl

theorem sim_enter {m' : Mode σ}
    (h : CInv P c) (hmode : c.mode t = .idle) (hth : (c.qs q).threads[t]? = some th)
    (hset : s'.threads = (c.qs q).threads.set t th') (hcap : s'.cap = (c.qs q).cap)
    (hw : s'.writes = (c.qs q).writes) (hr : s'.reads = (c.qs q).reads) (hinv : Core s')
    (hpc : th'.pc = .wait) (hm : m'.queue = some q) (hmok : ModeOK P (c.loc t) t q m' th') :
    CInv P { c with qs := upd c.qs q s', mode := upd c.mode t m' }
    ∧ StepRel P c { c with qs := upd c.qs q s', mode := upd c.mode t m' } t := by
  have hth' := get_set_self hth hset
  have hfr : ∀ t', t' ≠ t → upd c.mode t m' t' = c.mode t' := fun t' e => upd_ne _ _ e
  refine ⟨cinv_update h hth hset hcap hinv (fun q' _ e => by rw [hmode] at e; cases e) (Or.inl ⟨hm, hmok⟩),
          Or.inl ⟨?_, ?_⟩, gOf_frame c _ rfl hset hfr⟩
  · apply abs_stutter c { c with qs := upd c.qs q s', mode := upd c.mode t m' } rfl hset (fun _ _ => rfl) hfr
      (absBuf_frame hw hr) hr
    have hlin : linearized s' t = false := by rw [linearized_eq hth', hpc]
    rcases Mode.queue_cases hm with ⟨v, k, rfl⟩ | ⟨k, rfl⟩ <;> simp [absLoc, hmode, hlin]
  · have : gOf c t = 7 := by simp [gOf, hmode]
    rw [this, gOf_eq (c := { c with qs := upd c.qs q s', mode := upd c.mode t m' }) (by simpa using hm)
      (by simpa using hth'), hpc]
    decide

theorem sim_local (h : CInv P c) (hmode : c.mode t = .idle) (k : σ)
    (hast : astep P (abs c) t = some { abs c with loc := upd (abs c).loc t k }) :
    CInv P { c with loc := upd c.loc t k } ∧ StepRel P c { c with loc := upd c.loc t k } t := by
  refine ⟨cinv_loc h hmode k, Or.inr ⟨?_, ?_⟩, fun t' e => ?_⟩
  · rw [abs_loc_step c hmode k]; exact hast
  · simp [gOf, hmode]
  · apply gOf_other <;> simp

theorem sim_step (h : CInv P c) (hs : cstep P c t = some c') : CInv P c' ∧ StepRel P c c' t := by
  obtain ⟨ht, hc⟩ := cstep_eq_some_iff.mp hs
  have hdone : ∀ {q th}, c.mode t = .idle → (c.qs q).threads[t]? = some th → th.pc = .done := fun hm hth => by
    rw [← pcOf_eq hth]; exact h.rest t _ (by rw [hm]; nofun)
  cases hc with
  | @callP q v k hm ha =>
    obtain ⟨th, hth⟩ := entry_of_lt h ht q
    exact sim_enter h hm hth rfl rfl rfl rfl (arm_prod_core (h.core q) hth (hdone hm hth) v) rfl rfl
      ⟨rfl, ha, rfl, fun _ => rfl, by simp [postBody]⟩
  | @callC q k hm ha =>
    obtain ⟨th, hth⟩ := entry_of_lt h ht q
    exact sim_enter h hm hth rfl rfl rfl rfl (arm_cons_core (h.core q) hth (hdone hm hth)) rfl rfl
      ⟨rfl, ha, rfl, fun _ => rfl, by simp [postBody]⟩
  | tau hm ha => exact sim_local h hm _ (astep_tau ht (by rw [abs_loc_idle hm]; exact ha))
  | await hm ha hmp hp =>
    exact sim_local h hm _ (by
      rw [astep_await ht (by rw [abs_loc_idle hm]; exact ha),
        abs_loc_idle hmp, if_pos hp])
  | micro hq _ hst => exact sim_micro h ht hq hst
  | ret hq hd => exact sim_return h hq hd

/-- thread numbers beyond the client threads are idle: an `await` may name any number, and `steplevel_no_deadlock` needs
the awaited thread, when inside an operation, to be one of the client threads, which `cstep` moves -/
def ModeLt (P : Prog σ) (c : CState σ) : Prop := ∀ t, P.nthreads ≤ t → c.mode t = .idle

theorem modeLt_step (hml : ModeLt P c) (hs : cstep P c t = some c') : ModeLt P c' := by
  intro t' ht'
  obtain ⟨ht, hc⟩ := cstep_eq_some_iff.mp hs
  rw [hc.mode_frame (by omega)]
  exact hml t' ht'

theorem sim_intr (hs : cintr c t = some c') : c' = c := by
  have key : ∀ q, (interrupt (c.qs q) t).map (fun s' => { c with qs := upd c.qs q s' }) = some c' → c' = c := by
    intro q hs
    cases hi : interrupt (c.qs q) t with
    | none => simp [hi] at hs
    | some s' =>
      simp [hi] at hs
      rw [interrupt_eq hi, upd_self] at hs
      exact hs.symm
  unfold cintr at hs
  cases hm : c.mode t with
  | idle => simp [hm] at hs
  | inP q _ _ | inC q _ => rw [hm] at hs; exact key q hs

theorem cinv_init (P : Prog σ) (loc0 : Nat → σ) (hcap : ∀ q, 0 < P.cap q) : CInv P (cinit P loc0) := by
  have hdone : ∀ (q t : Nat) (th : Thread), (cinit P loc0).qs q |>.threads[t]? = some th → th.pc = .done := by
    intro q t th hth
    have hm := List.mem_of_getElem? hth
    simp only [cinit, mkInit, List.map_nil, List.append_nil, List.map_replicate] at hm
    have := List.eq_of_mem_replicate hm
    rw [this]; rfl
  refine ⟨fun q => ⟨_, _, inv_init (P.cap q) _ [] (hcap q)⟩, fun q => rfl, ?_, ?_, ?_⟩
  · intro q; simp [cinit, mkInit]
  · intro t q _
    unfold pcOf
    cases hth : ((cinit P loc0).qs q).threads[t]? with
    | none => rfl
    | some th => exact hdone q t th hth
  · intro t q th hq _
    simp [cinit, Mode.queue] at hq

theorem abs_init (P : Prog σ) (loc0 : Nat → σ) : abs (cinit P loc0) = ainit loc0 := by
  apply AState.ext
  · funext q; simp [abs, cinit, absBuf, mkInit, ainit]
  · funext t; simp [abs, absLoc, cinit, ainit]
  · funext q; simp [abs, cinit, mkInit, ainit]

theorem creach_refines {loc0 : Nat → σ} (hcap : ∀ q, 0 < P.cap q) {c : CState σ}
    (hr : CReach P (cinit P loc0) c) : CInv P c ∧ ModeLt P c ∧ AReach P (ainit loc0) (abs c) := by
  induction hr with
  | init => exact ⟨cinv_init P loc0 hcap, fun _ _ => rfl, by rw [abs_init]; exact .init⟩
  | step _ hs ih =>
    obtain ⟨h1, h2, -⟩ := sim_step ih.1 hs
    refine ⟨h1, modeLt_step ih.2.1 hs, ?_⟩
    rcases h2 with ⟨e, _⟩ | ⟨e, _⟩
    · rw [e]; exact ih.2.2
    · exact .step ih.2.2 e
  | intr _ hs ih => rw [sim_intr hs]; exact ih

end KV.Sys
