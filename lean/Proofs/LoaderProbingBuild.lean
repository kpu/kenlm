import Proofs.LoaderProbing
import Proofs.ProbingBuildLoops
import Proofs.ProbingBuildFile
/-! Simulation between the fold-level model of lm/search_hashed.cc (`KV.ProbingBuild`, real probing tables) and the
loader model's probing verdict (`KV.LoaderArpa.probingRun`, a list of keys): the tables of `ProbingBuild` hold exactly the keys
of the loader model (`TabInv`), so capacity and missing-context errors arise at the same lines.  The payload-only phases of a
line change no table (`adjustLower_frame`); the three raising operations are tied one by one (`insert_sim`, `findLower_sim`,
`activate_sim`), then a line (`addLine_sim`), the fold over the lines (`fold_sim`) and the whole run (`build_sim`).  Core only. -/
namespace KV.LoaderPB
open KV.Arpa KV.ProbingBuild KV.Probing KV.ProbingLM
open KV.LoaderArpa (keys1)

/-- the key list that the table of order `m` is compared with.  The loader model keeps the keys of all middle orders in one
list `keys` (its table of order `m` is the part of length `m`: `cnt` filters by length) and does not keep the highest order at
all; `tops` stands for the lines of that order. -/
def keysAt (N : Nat) (keys tops : List Key) (m : Nat) : List Key := if m = N then tops else keys

/-- the tables of `ProbingBuild`'s state hold exactly `keys` (orders 2 … N−1) and `tops` (order N), with the entry counters and
capacities the loader model computes with -/
structure TabInv (combine : Nat → Word → Nat) (N : Nat) (caps : Nat → Nat) (keys tops : List Key) (s : St) : Prop where
  midlen : s.mid.length = N - 2
  tabs : ∀ m, 2 ≤ m → m ≤ N → ∃ M, OrdInv (tbl N s m) M ∧
    (∀ k : Key, k.length = m → (M (hashOf combine k) = none ↔ k ∉ keysAt N keys tops m)) ∧
    (tbl N s m).t.entries = cnt (keysAt N keys tops m) m ∧ (tbl N s m).t.N = caps m
  /-- no table is full: `entries_ < buckets_` (what `++entries_ >= buckets_` maintains) -/
  below : ∀ m, 2 ≤ m → m ≤ N → (tbl N s m).t.entries < (tbl N s m).t.N

/-- the lines of the highest order after the step for the line `g` (a ghost list: the loader model does not keep them) -/
def tops1 (N : Nat) (tops : List Key) (g : Key) : List Key := if g.length = N then g :: tops else tops

theorem keysAt_step_same (N : Nat) (keys tops : List Key) (g : Key) (hN : g.length ≤ N) :
    keysAt N (keys1 N keys g) (tops1 N tops g) g.length = g :: keysAt N keys tops g.length := by
  unfold keysAt keys1 tops1
  by_cases hgN : g.length = N
  · simp [hgN]
  · simp [hgN, Nat.lt_of_le_of_ne hN hgN]

theorem keysAt_step_other (N : Nat) (keys tops : List Key) (g : Key) (m : Nat) :
    keysAt N (keys1 N keys g) (tops1 N tops g) m = keysAt N keys tops m ∨
    keysAt N (keys1 N keys g) (tops1 N tops g) m = g :: keysAt N keys tops m := by
  unfold keysAt keys1 tops1
  by_cases hmN : m = N <;> by_cases hgN : g.length = N <;> by_cases hlt : g.length < N <;> simp [hmN, hgN, hlt]

/-! The payload-only phases of `ProbingBuild.addLine` (`AdjustLower`, `fillBlanks`, `markChain`): under the table invariant every
`find` succeeds, nothing raises, and no table changes (only payload cells are overwritten).  No assumption on contexts being
present, so this applies to every parsed file. -/

structure SameT (s s' : St) : Prop where
  midlen : s'.mid.length = s.mid.length
  mid : ∀ i, (s'.mid.getD i default).t = (s.mid.getD i default).t ∧ (s'.mid.getD i default).pay.length = (s.mid.getD i default).pay.length
  longest : s'.longest = s.longest

theorem SameT.refl (s : St) : SameT s s := ⟨rfl, fun _ => ⟨rfl, rfl⟩, rfl⟩

theorem SameT.trans {a b c : St} (h1 : SameT a b) (h2 : SameT b c) : SameT a c :=
  ⟨h2.midlen.trans h1.midlen, fun i => ⟨(h2.mid i).1.trans (h1.mid i).1, (h2.mid i).2.trans (h1.mid i).2⟩, h2.longest.trans h1.longest⟩

theorem modify_sameT (s : St) (r : Ref) (f : W → W) : SameT s (s.modify r f) := by
  cases r with
  | uni w => exact ⟨rfl, fun _ => ⟨rfl, rfl⟩, rfl⟩
  | mid om2 i =>
    refine ⟨by simp [St.modify], fun j => ?_, rfl⟩
    simp only [St.modify, getD_set]
    split
    · rename_i h; rw [h.1]; exact ⟨rfl, List.length_set⟩
    · exact ⟨rfl, rfl⟩

/-- every middle table (in or out of range) satisfies the C20 invariant for some map -/
def AllInv (s : St) : Prop := ∀ i, ∃ M, OrdInv (s.mid.getD i default) M

theorem ordInv_of_same {o o' : Ord} {M : Nat → Option Nat} (h : OrdInv o M) (ht : o'.t = o.t) (hp : o'.pay.length = o.pay.length) :
    OrdInv o' M :=
  ⟨by rw [ht]; exact h.inv, by rw [ht]; exact h.abs, fun k i hk => by rw [hp]; exact h.idx k i hk⟩

theorem AllInv.of_sameT {s s' : St} (h : AllInv s) (st : SameT s s') : AllInv s' := by
  intro i
  obtain ⟨M, hM⟩ := h i
  exact ⟨M, ordInv_of_same hM (st.mid i).1 (st.mid i).2⟩

theorem fillBlanks_frame (combine : Nat → Word → Nat) (g : List Word) :
    ∀ (changes : List Ref) (basis : Nat) (prob : Rat) (s0 s : St), AllInv s0 → SameT s0 s →
      ∃ s', fillBlanks combine false g changes basis prob s = .ok s' ∧ SameT s0 s' := by
  intro changes
  induction changes with
  | nil => intro basis prob s0 s _ st; exact ⟨s, rfl, st⟩
  | cons ch more ih =>
    intro basis prob s0 s hinv st
    obtain ⟨M, hM⟩ := hinv.of_sameT st (basis - 2)
    cases hr : M (hashOf combine ((g.drop 1).take basis)) with
    | none =>
      simp only [fillBlanks, ord_find hM, hr, bind, Except.bind]
      exact ih _ _ s0 _ hinv (st.trans (modify_sameT _ _ _))
    | some i =>
      simp only [fillBlanks, ord_find hM, hr, bind, Except.bind]
      exact ih _ _ s0 _ hinv (st.trans ((modify_sameT _ _ _).trans (modify_sameT _ _ _)))

theorem markChain_sameT : ∀ (refs : List Ref) (lr : Rat) (s : St), SameT s (markChain false refs lr s) := by
  intro refs
  induction refs with
  | nil => intro lr s; exact SameT.refl s
  | cons r more ih =>
    intro lr s
    simp only [markChain]
    exact (modify_sameT s r _).trans (ih _ _)

theorem adjustLower_frame (combine : Nat → Word → Nat) (ar : Rat) (g : List Word) (n : Nat) (between : List Ref) (s : St)
    (hinv : AllInv s) : ∃ s', adjustLower combine false ar g n between s = .ok s' ∧ SameT s s' := by
  -- the long cases end with `markChain` after `fillBlanks`
  have mark : ∀ (X : Except BErr St), (∃ s', X = .ok s' ∧ SameT s s') →
      ∃ s', (X >>= fun s2 => .ok (markChain false between ar s2)) = .ok s' ∧ SameT s s' := by
    rintro X ⟨s', h, st⟩
    exact ⟨_, by rw [h]; rfl, st.trans (markChain_sameT _ _ _)⟩
  match between with
  | [] => exact ⟨s, by simp [adjustLower], SameT.refl s⟩
  | [r] =>
    exact ⟨s.modify r clr, adjustLower_single combine ar g n r s, modify_sameT _ _ _⟩
  | r1 :: r2 :: rest =>
    by_cases hb : n - (r1 :: r2 :: rest).length = 1
    · -- basis is a unigram: the first blank is a hallucinated bigram
      cases hch : ((r1 :: r2 :: rest).dropLast).reverse with
      | nil =>
        have : ((r1 :: r2 :: rest).dropLast).reverse.length = 0 := by rw [hch]; rfl
        simp at this
      | cons ch more =>
        rw [adjustLower_fill_uni combine false ar g n _ s ch more hb hch]
        exact mark _ (fillBlanks_frame combine g more 2 _ s _ hinv ((modify_sameT _ _ _).trans (modify_sameT _ _ _)))
    · rw [adjustLower_fill combine false ar g n _ s (by simp) hb]
      exact mark _ (fillBlanks_frame combine g _ _ _ s s hinv (SameT.refl s))

theorem TabInv.of_sameT {combine : Nat → Word → Nat} {N : Nat} {caps : Nat → Nat} {keys tops : List Key} {s s' : St}
    (inv : TabInv combine N caps keys tops s) (st : SameT s s') : TabInv combine N caps keys tops s' := by
  have htt : ∀ m, (tbl N s' m).t = (tbl N s m).t ∧ (tbl N s' m).pay.length = (tbl N s m).pay.length := by
    intro m
    unfold tbl
    by_cases hm : m = N
    · simp [hm, st.longest]
    · simp only [hm, ↓reduceIte]; exact st.mid (m - 2)
  refine ⟨st.midlen.trans inv.midlen, ?_, fun m h2 hN => by rw [(htt m).1]; exact inv.below m h2 hN⟩
  intro m h2 hN
  obtain ⟨M, oi, hmem, hent, hcap⟩ := inv.tabs m h2 hN
  exact ⟨M, ordInv_of_same oi (htt m).1 (htt m).2, hmem, by rw [(htt m).1]; exact hent, by rw [(htt m).1]; exact hcap⟩

theorem TabInv.allInv {combine : Nat → Word → Nat} {N : Nat} {caps : Nat → Nat} {keys tops : List Key} {s : St}
    (inv : TabInv combine N caps keys tops s) : AllInv s := by
  intro i
  by_cases hi : i + 2 < N
  · obtain ⟨M, oi, _⟩ := inv.tabs (i + 2) (by omega) (by omega)
    have : tbl N s (i + 2) = s.mid.getD i default := by simp [tbl, Nat.ne_of_lt hi]
    rw [this] at oi
    exact ⟨M, oi⟩
  · have hl : s.mid.length ≤ i := by rw [inv.midlen]; omega
    have : s.mid.getD i default = emptyOrd 1 := by
      rw [List.getD_eq_getElem?_getD, List.getElem?_eq_none hl]; rfl
    rw [this]
    exact ⟨fun _ => none, emptyOrd_inv 1 (by omega)⟩

theorem tabInv_init (combine : Nat → Word → Nat) (N : Nat) (caps : Nat → Nat) (hN : 2 ≤ N) (hc : ∀ m, 0 < caps m) (uni : List W) :
    TabInv combine N caps [] []
      { uni := uni, mid := (List.range (N - 2)).map fun i => emptyOrd (caps (i + 2)), longest := emptyOrd (caps N) } := by
  have htbl : ∀ m, 2 ≤ m → m ≤ N →
      tbl N (St.mk uni ((List.range (N - 2)).map (fun i => emptyOrd (caps (i + 2)))) (emptyOrd (caps N))) m = emptyOrd (caps m) := by
    intro m h2 hmN
    by_cases hm : m = N
    · subst hm; simp [tbl]
    · have hlt : m - 2 < N - 2 := by omega
      simp only [tbl, hm, ↓reduceIte]
      rw [List.getD_eq_getElem?_getD, List.getElem?_map, List.getElem?_range hlt]
      simp only [Option.map_some, Option.getD_some]
      congr 2; omega
  refine ⟨by simp, ?_, ?_⟩
  · intro m h2 hmN
    rw [htbl m h2 hmN]
    refine ⟨fun _ => none, emptyOrd_inv (caps m) (hc m), ?_, ?_, ?_⟩
    · intro k _; unfold keysAt; split <;> simp
    · unfold keysAt; split <;> simp [cnt, emptyOrd, emptyTable]
    · simp [emptyOrd, emptyTable]
  · intro m h2 hmN
    rw [htbl m h2 hmN]
    simpa [emptyOrd, emptyTable] using hc m

/-- **storing a fresh key.**  `s1` differs from `s` in the table of order `m = g.length` only, which went from `M` to
`upd M (hash g) i` with one more entry and still below capacity: the tables represent the key lists extended by `g`.
The callers get `o'`, `i = o.pay.length` and the last four hypotheses from `ord_insert` / `ord_findOrInsert_new` on the table before the step,
`o = tbl N s m` with its map `M` (`inv.tabs m`), and `s1` with `hml`, `htb`, `hoth` from `insPhase_ok` or from `setMid`. -/
theorem TabInv.insert {combine : Nat → Word → Nat} (inj : ∀ k1 k2 : Key, k1.length = k2.length → hashOf combine k1 = hashOf combine k2 → k1 = k2)
    {N : Nat} {caps : Nat → Nat} {keys tops : List Key} {s : St} (inv : TabInv combine N caps keys tops s)
    (g : Key) {m : Nat} (hg : g.length = m) (s1 : St) (o' : Ord) (M : Nat → Option Nat) (i : Nat) (h2 : 2 ≤ m) (hN : m ≤ N)
    (hml : s1.mid.length = N - 2) (htb : tbl N s1 m = o') (hoth : ∀ m', m' ≠ m → 2 ≤ m' → tbl N s1 m' = tbl N s m')
    (hmem : ∀ k : Key, k.length = m → (M (hashOf combine k) = none ↔ k ∉ keysAt N keys tops m))
    (oi' : OrdInv o' (upd M (hashOf combine g) i)) (hN' : o'.t.N = (tbl N s m).t.N)
    (he' : o'.t.entries = (tbl N s m).t.entries + 1) (hc : (tbl N s m).t.entries + 1 < (tbl N s m).t.N) :
    TabInv combine N caps (keys1 N keys g) (tops1 N tops g) s1 := by
  subst hg
  refine ⟨hml, ?_, ?_⟩
  · intro m hm2 hmN
    by_cases hmg : m = g.length
    · subst hmg
      obtain ⟨_, _, _, hent, hcap⟩ := inv.tabs g.length h2 hN
      rw [htb, keysAt_step_same N keys tops g hN]
      refine ⟨_, oi', ?_, by rw [cnt_cons_same _ _ _ rfl, he', hent], by rw [hN', hcap]⟩
      intro k hk
      unfold upd
      by_cases hh : hashOf combine k = hashOf combine g
      · simp [inj _ _ hk hh]
      · have hkne : k ≠ g := fun h => hh (by rw [h])
        simp only [hh, ↓reduceIte, List.mem_cons, hkne, false_or]
        exact hmem k hk
    · rw [hoth m hmg hm2]
      obtain ⟨M2, oi2, hmem2, hent2, hcap2⟩ := inv.tabs m hm2 hmN
      rcases keysAt_step_other N keys tops g m with h | h <;> rw [h]
      · exact ⟨M2, oi2, hmem2, hent2, hcap2⟩
      · refine ⟨M2, oi2, fun k hk => ?_, by rw [cnt_cons_other _ _ _ (fun h => hmg h.symm)]; exact hent2, hcap2⟩
        have hkg : k ≠ g := fun h => hmg (by rw [← hk, h])
        rw [hmem2 k hk, List.mem_cons, not_or]
        exact ⟨fun h => ⟨hkg, h⟩, fun h => h.2⟩
  · intro m hm2 hmN
    by_cases hmg : m = g.length
    · subst hmg; rw [htb, he', hN']; exact hc
    · rw [hoth m hmg hm2]; exact inv.below m hm2 hmN

section
variable (combine : Nat → Word → Nat) (inj : ∀ k1 k2 : Key, k1.length = k2.length → hashOf combine k1 = hashOf combine k2 → k1 = k2)
  (N : Nat) (caps : Nat → Nat)

theorem activate_sim (keys tops : List Key) (s : St) (g : Key)
    (inv : TabInv combine N caps keys tops s) (h3 : 3 ≤ g.length) (hN : g.length ≤ N) :
    (KV.ProbingBuild.activate combine g g.length s = .error .format ↔ g.tail ∉ keys) ∧
    (g.tail ∈ keys → ∃ r f, KV.ProbingBuild.activate combine g g.length s = .ok (s.modify r f)) := by
  obtain ⟨l, hl⟩ := Nat.exists_eq_add_of_le' h3
  have hne : l + 2 ≠ N := by omega
  obtain ⟨M, oi, hmem, _, _⟩ := inv.tabs (l + 2) (Nat.le_add_left 2 l) (by omega)
  rw [tbl_mid N s _ hne, Nat.add_sub_cancel] at oi
  have key := hmem g.tail (by rw [List.length_tail, hl]; rfl)
  rw [show keysAt N keys tops (l + 2) = keys from if_neg hne] at key
  rw [← List.drop_one] at key ⊢
  rw [hl]
  constructor
  · rw [activate_format_iff combine g (l + 3) (by omega) s M oi]
    exact key
  · intro hin
    obtain ⟨i, hi⟩ := Option.ne_none_iff_exists'.mp fun hn => key.mp hn hin
    exact ⟨.mid l i, setExtension, by
      simp only [KV.ProbingBuild.activate, show (l + 3 == 2) = false from rfl, Bool.false_eq_true, if_false, Nat.add_sub_cancel,
        ord_find oi, hi, bind, Except.bind]⟩

include inj

/-- Induction on the loop counter: each round looks the prefix `g.take (f + 2)` up in its middle table; found, both loops stop;
absent with room, both store it (`TabInv.insert`) and go on; absent without room, the loader model's count of that order has
reached the capacity and stays there, since its `findLower` only adds keys (`findLower_eq`). -/
theorem findLower_sim (tops : List Key) (g : Key) :
    ∀ (f : Nat) (s : St) (between : List Ref) (keys : List Key), f + 1 < N → f + 1 < g.length → TabInv combine N caps keys tops s →
      (∃ s' b', KV.ProbingBuild.findLower combine g f s between = .ok (s', b') ∧
          TabInv combine N caps (KV.LoaderArpa.findLower g (f + 1) keys) tops s' ∧ s'.uni = s.uni) ∨
      (KV.ProbingBuild.findLower combine g f s between = .error .probingSize ∧
          ∃ m, 2 ≤ m ∧ m < N ∧ caps m ≤ cnt (KV.LoaderArpa.findLower g (f + 1) keys) m) := by
  intro f
  induction f with
  | zero =>
    intro s between keys _ _ inv
    exact Or.inl ⟨s, between ++ [.uni (g.headD 0)], rfl, inv, rfl⟩
  | succ f ih =>
    intro s between keys hN hg inv
    have hne : f + 2 ≠ N := Nat.ne_of_lt hN
    obtain ⟨M, oi, hmem, hent, hcap⟩ := inv.tabs (f + 2) (Nat.le_add_left 2 f) (Nat.le_of_lt hN)
    have hkl : (g.take (f + 2)).length = f + 2 := List.length_take_of_le (Nat.le_of_lt hg)
    have hka : keysAt N keys tops (f + 2) = keys := if_neg hne
    have hfl : f < s.mid.length := by rw [inv.midlen]; omega
    rw [KV.LoaderArpa.findLower, if_neg (by omega)]
    unfold KV.ProbingBuild.findLower
    have htbl : tbl N s (f + 2) = s.mid.getD f default := by unfold tbl; rw [if_neg hne]; rfl
    rw [← htbl]
    by_cases hcon : keys.contains (g.take (f + 2)) = true
    · rw [if_pos hcon]
      obtain ⟨i, hi⟩ := Option.ne_none_iff_exists'.mp fun hn => (hmem _ hkl).mp hn (by rw [hka]; simpa using hcon)
      refine Or.inl ⟨s, between ++ [.mid f i], ?_, inv, rfl⟩
      simp only [ord_findOrInsert_found oi _ blankW i hi, bind, Except.bind, if_true]
      rw [htbl, show ({ s with mid := s.mid.set f (s.mid.getD f default) } : St) = s from setMid_self s f hfl]
    · have hM : M (hashOf combine (g.take (f + 2))) = none := (hmem _ hkl).mpr (by rw [hka]; simpa using hcon)
      rw [if_neg hcon]
      by_cases hc : (tbl N s (f + 2)).t.entries + 1 < (tbl N s (f + 2)).t.N
      · obtain ⟨o', hfoi, oi', _, hN', he'⟩ := ord_findOrInsert_new oi _ blankW hM hc
        -- the state after the insertion represents `g.take (f+2) :: keys`
        have inv' := inv.insert inj (g.take (f + 2)) hkl (setMid s f o') o' M _ (Nat.le_add_left 2 f) (Nat.le_of_lt hN)
          (by simp [setMid, inv.midlen]) (by rw [tbl_setMid _ _ _ _ _ hfl, if_pos ⟨hne, rfl⟩])
          (fun m hm _ => by rw [tbl_setMid _ _ _ _ _ hfl, if_neg (by omega)]) hmem oi' hN' he' hc
        rw [keys1, tops1, hkl, if_pos hN, if_neg hne] at inv'
        simp only [hfoi, bind, Except.bind, Bool.false_eq_true, if_false]
        rcases ih (setMid s f o') (between ++ [.mid f (tbl N s (f + 2)).pay.length]) (g.take (f + 2) :: keys)
            (Nat.lt_of_succ_lt hN) (Nat.lt_of_succ_lt hg) inv' with ⟨s', b', hok, hinv, huni⟩ | ⟨herr, m, hm⟩
        · exact Or.inl ⟨s', b', hok, hinv, by rw [huni]; rfl⟩
        · exact Or.inr ⟨herr, m, hm⟩
      · right
        refine ⟨by simp only [ord_findOrInsert_full oi _ blankW hM (Nat.le_of_not_lt hc), bind, Except.bind], f + 2,
          Nat.le_add_left 2 f, hN, ?_⟩
        obtain ⟨pre, hp, _⟩ := KV.LoaderArpa.findLower_eq g (f + 1) (g.take (f + 2) :: keys)
        rw [hp, cnt_append, cnt_cons_same _ _ _ hkl, ← hka, ← hent, ← hcap]
        omega

theorem insert_sim (keys tops : List Key) (s : St) (g : Key) (e : KV.Arpa.Entry)
    (inv : TabInv combine N caps keys tops s) (h2 : 2 ≤ g.length) (hN : g.length ≤ N)
    (fresh : g ∉ keysAt N keys tops g.length) :
    (insPhase combine N s g e = .error .probingSize ↔ caps g.length ≤ cnt (keysAt N keys tops g.length) g.length + 1) ∧
    (cnt (keysAt N keys tops g.length) g.length + 1 < caps g.length →
      ∃ s1, insPhase combine N s g e = .ok s1 ∧ s1.uni = s.uni ∧ TabInv combine N caps (keys1 N keys g) (tops1 N tops g) s1) := by
  obtain ⟨M, oi, hmem, hent, hcap⟩ := inv.tabs g.length h2 hN
  have hok : cnt (keysAt N keys tops g.length) g.length + 1 < caps g.length →
      ∃ s1, insPhase combine N s g e = .ok s1 ∧ s1.uni = s.uni ∧ TabInv combine N caps (keys1 N keys g) (tops1 N tops g) s1 := by
    intro hc
    rw [← hent, ← hcap] at hc
    obtain ⟨o', hok, oi', _, hN', he'⟩ := ord_insert oi (hashOf combine g) (lineW e) ((hmem g rfl).mpr fresh) hc
    obtain ⟨s1, h1, huni, hml, htb, hoth⟩ := insPhase_ok combine N s g e o' h2 hN inv.midlen hok
    exact ⟨s1, h1, huni, inv.insert inj g rfl s1 o' M _ h2 hN hml htb hoth hmem oi' hN' he' hc⟩
  refine ⟨⟨fun herr => Nat.le_of_not_lt fun hc => ?_, fun hc => ?_⟩, hok⟩
  · obtain ⟨s1, h1, _⟩ := hok hc
    rw [h1] at herr; cases herr
  · have := ord_insert_full oi (hashOf combine g) (lineW e) (by rw [hent, hcap]; exact hc)
    unfold tbl at this
    unfold insPhase
    by_cases hgN : g.length = N
    · rw [if_pos hgN] at this; rw [if_pos (by simpa using hgN), this]; rfl
    · rw [if_neg hgN] at this; rw [if_neg (by simpa using hgN), this]; rfl

/-- The phases of `addLine_phases` in turn: `insert_sim`, `findLower_sim`, then `adjustLower_frame` (no table changes, so the invariant
carries over by `TabInv.of_sameT`), then `activate_sim` against the loader model's context test on the same key list `K`. -/
theorem addLine_sim (keys tops : List Key) (s : St) (g : Key) (e : KV.Arpa.Entry)
    (inv : TabInv combine N caps keys tops s) (h2 : 2 ≤ g.length) (hN : g.length ≤ N)
    (fresh : g ∉ keysAt N keys tops g.length) (htop : g.length = N → cnt tops N + 1 < caps N) :
    let K := KV.LoaderArpa.findLower g (g.length - 1) (keys1 N keys g)
    let ctx := decide (g.length < 3) || K.contains g.tail
    (∃ s', addLine combine false N s g e = .ok s' ∧ TabInv combine N caps K (tops1 N tops g) s' ∧ ctx = true) ∨
    (addLine combine false N s g e = .error .probingSize ∧ ∃ m, 2 ≤ m ∧ m < N ∧ caps m ≤ cnt K m) ∨
    (addLine combine false N s g e = .error .format ∧ ctx = false) := by
  intro K ctx
  rw [addLine_phases]
  obtain ⟨hins_err, hins_ok⟩ := insert_sim combine inj N caps keys tops s g e inv h2 hN fresh
  by_cases hc : cnt (keysAt N keys tops g.length) g.length + 1 < caps g.length
  · obtain ⟨s1, h1, _, inv1⟩ := hins_ok hc
    rw [h1]
    simp only [bind, Except.bind]
    have hfl := findLower_sim combine inj N caps (tops1 N tops g) g (g.length - 2) s1 [] (keys1 N keys g) (by omega) (by omega) inv1
    rw [show g.length - 2 + 1 = g.length - 1 by omega] at hfl
    rcases hfl with ⟨s2, b2, hok2, inv2, _⟩ | ⟨herr2, hfull⟩
    · rw [hok2]
      simp only
      obtain ⟨s3, hok3, same3⟩ := adjustLower_frame combine (lineW e).rest g g.length b2 s2 inv2.allInv
      rw [hok3]
      simp only
      have inv3 := inv2.of_sameT same3
      by_cases h3 : 3 ≤ g.length
      · obtain ⟨hfmt, hok⟩ := activate_sim combine N caps K (tops1 N tops g) s3 g inv3 h3 hN
        by_cases hin : g.tail ∈ K
        · obtain ⟨r, f, hok4⟩ := hok hin
          exact Or.inl ⟨_, hok4, inv3.of_sameT (modify_sameT _ _ _), by simp [ctx, hin]⟩
        · exact Or.inr (Or.inr ⟨hfmt.mpr hin, by simp [ctx, hin, Nat.not_lt.mpr h3]⟩)
      · have hg2 : g.length = 2 := by omega
        exact Or.inl ⟨s3.modify (.uni (g.getD 1 0)) setExtension, by simp [KV.ProbingBuild.activate, hg2],
          inv3.of_sameT (modify_sameT _ _ _), by simp [ctx, hg2]⟩
    · rw [herr2]
      exact Or.inr (Or.inl ⟨rfl, hfull⟩)
  · have hle := Nat.le_of_not_lt hc
    rw [hins_err.mpr hle]
    have hlt : g.length < N := by
      refine Nat.lt_of_le_of_ne hN fun hgN => ?_
      have := htop hgN
      rw [show keysAt N keys tops g.length = tops from if_pos hgN, hgN] at hle
      omega
    refine Or.inr (Or.inl ⟨rfl, g.length, h2, hlt, ?_⟩)
    obtain ⟨pre, hpre, _⟩ := KV.LoaderArpa.findLower_eq g (g.length - 1) (keys1 N keys g)
    rw [show keysAt N keys tops g.length = keys from if_neg (Nat.ne_of_lt hlt)] at hle
    rw [show K = _ from hpre, cnt_append, show keys1 N keys g = g :: keys from if_pos hlt, cnt_cons_same _ _ _ rfl]
    omega

/-- **the fold over the lines.**  Lines of orders 2 … N in section order, distinct, not yet stored; the highest order's table larger
than its line count.  Then `ProbingBuild`'s fold and the loader model's run agree: both go through (flag true, every middle count
below its capacity), or `ProbingBuild` raises `format` and the loader model's flag is false, or it raises `probingSize` and the
loader model's end-of-run capacity test fails.  It never diverges. -/
theorem fold_sim :
    ∀ (lines : List (Key × KV.Arpa.Entry)) (keys tops : List Key) (s : St),
      TabInv combine N caps keys tops s →
      (∀ p ∈ lines, 2 ≤ p.1.length ∧ p.1.length ≤ N) →
      lines.Pairwise (fun p q => p.1.length ≤ q.1.length) →
      (lines.map (·.1)).Nodup →
      (∀ p ∈ lines, p.1 ∉ keys ∧ p.1 ∉ tops) →
      cnt tops N + (lines.filter (fun p => p.1.length == N)).length < caps N →
      let fin := (lines.map (·.1)).foldl (KV.LoaderArpa.probingStep N) (keys, true)
      (∃ s', lines.foldlM (fun s p => addLine combine false N s p.1 p.2) s = .ok s' ∧ fin.2 = true ∧
          ∀ m, 2 ≤ m → m < N → cnt fin.1 m < caps m) ∨
      (lines.foldlM (fun s p => addLine combine false N s p.1 p.2) s = .error .format ∧ fin.2 = false) ∨
      (lines.foldlM (fun s p => addLine combine false N s p.1 p.2) s = .error .probingSize ∧
          ∃ m, 2 ≤ m ∧ m < N ∧ caps m ≤ cnt fin.1 m) := by
  intro lines
  induction lines with
  | nil =>
    intro keys tops s inv _ _ _ _ _
    refine Or.inl ⟨s, rfl, rfl, fun m h2 hN => ?_⟩
    obtain ⟨M, _, _, hent, hcap⟩ := inv.tabs m h2 (Nat.le_of_lt hN)
    have := inv.below m h2 (Nat.le_of_lt hN)
    rwa [hent, hcap, show keysAt N keys tops m = keys from if_neg (Nat.ne_of_lt hN)] at this
  | cons p lines ih =>
    intro keys tops s inv hlen hsorted hnd hfresh hcapN
    obtain ⟨g, e⟩ := p
    have hg := hlen (g, e) List.mem_cons_self
    have hfr := hfresh (g, e) List.mem_cons_self
    have fresh : g ∉ keysAt N keys tops g.length := by
      unfold keysAt; split
      · exact hfr.2
      · exact hfr.1
    -- the highest order's table keeps room for its remaining lines
    have hcap1 : cnt (tops1 N tops g) N + (lines.filter (fun p => p.1.length == N)).length < caps N ∧
        (g.length = N → cnt tops N + 1 < caps N) := by
      unfold tops1
      rw [List.filter_cons] at hcapN
      by_cases hgN : g.length = N
      · rw [if_pos hgN, cnt_cons_same _ _ _ hgN]
        rw [if_pos (by simpa using hgN), List.length_cons] at hcapN
        exact ⟨by omega, fun _ => by omega⟩
      · rw [if_neg hgN]
        rw [if_neg (by simpa using hgN)] at hcapN
        exact ⟨hcapN, fun h => absurd h hgN⟩
    simp only [List.map_cons, List.foldl_cons, List.foldlM_cons, bind, Except.bind]
    rcases addLine_sim combine inj N caps keys tops s g e inv hg.1 hg.2 fresh hcap1.2 with
      ⟨s', hok, inv', hctx⟩ | ⟨herr, m, hm2, hmN, hcap⟩ | ⟨herr, hctx⟩
    · rw [hok, show KV.LoaderArpa.probingStep N (keys, true) g = (_, true) from Prod.ext rfl hctx]
      have hnd' : g ∉ lines.map (·.1) ∧ (lines.map (·.1)).Nodup := List.nodup_cons.mp hnd
      have hsorted' := List.pairwise_cons.mp hsorted
      apply ih _ (tops1 N tops g) s' inv' (fun q hq => hlen q (List.mem_cons_of_mem _ hq)) hsorted'.2 hnd'.2 _ hcap1.1
      -- a later line is neither this one nor one of its blanks, which are shorter
      intro q hq
      have hqf := hfresh q (List.mem_cons_of_mem _ hq)
      have hqg : q.1 ≠ g := fun h => hnd'.1 (h ▸ List.mem_map_of_mem hq)
      have hql : g.length ≤ q.1.length := hsorted'.1 q hq
      constructor
      · intro hmem
        rcases KV.LoaderArpa.probingStep_mem N (keys, true) g q.1 hmem with h | h | ⟨i, h2, hi, he⟩
        · exact hqf.1 h
        · exact hqg h
        · have : q.1.length = i := by rw [he, List.length_take]; omega
          omega
      · unfold tops1
        split
        · intro hmem
          rcases List.mem_cons.mp hmem with h | h
          · exact hqg h
          · exact hqf.2 h
        · exact hqf.2
    · rw [herr]
      refine Or.inr (Or.inr ⟨rfl, m, hm2, hmN, ?_⟩)
      obtain ⟨pre, hpre⟩ := KV.LoaderArpa.fold_suffix N (lines.map (·.1)) (KV.LoaderArpa.probingStep N (keys, true) g)
      rw [hpre, cnt_append]
      exact Nat.le_trans hcap (Nat.le_add_left _ _)
    · rw [herr]
      exact Or.inr (Or.inl ⟨rfl, Bool.eq_false_iff.mpr fun hf => Bool.noConfusion (hctx.symm.trans (KV.LoaderArpa.fold_flag_mono N _ _ hf))⟩)

end

theorem build_sim (combine : Nat → Word → Nat)
    (inj : ∀ k1 k2 : Key, k1.length = k2.length → hashOf combine k1 = hashOf combine k2 → k1 = k2)
    (a : Arpa) (nWords : Nat) (buckets : List Nat) (u : Rat) (h2 : 2 ≤ a.order)
    (hlen : ∀ q ∈ ngramLines a, q.1.length ≤ a.order)
    (hsorted : (ngramLines a).Pairwise (fun x y => x.1.length ≤ y.1.length))
    (hnd : ((ngramLines a).map (·.1)).Nodup) (hpos : ∀ m, 0 < capOf buckets m)
    (htop : ((ngramLines a).filter (fun q => q.1.length == a.order)).length < capOf buckets a.order) :
    let fin := ((ngramLines a).map (·.1)).foldl (KV.LoaderArpa.probingStep a.order) ([], true)
    let r := build combine false a nWords buckets u
    ((∃ st, r = .ok st) ∧ fin.2 = true ∧ ∀ m, 2 ≤ m → m < a.order → cnt fin.1 m < capOf buckets m) ∨
    (r = .error .format ∧ fin.2 = false) ∨
    (r = .error .probingSize ∧ ∃ m, 2 ≤ m ∧ m < a.order ∧ capOf buckets m ≤ cnt fin.1 m) := by
  intro fin r
  have hr : r = ((ngramLines a).foldlM (fun st q => addLine combine false a.order st q.1 q.2) (initSt a nWords buckets)).map
      (fixUnk a u) := by
    show build combine false a nWords buckets u = _
    unfold build
    simp only [bind, Except.bind, Except.map]
    rfl
  have sim := fold_sim combine inj a.order (capOf buckets) (ngramLines a) [] [] (initSt a nWords buckets)
    (tabInv_init combine a.order (capOf buckets) h2 hpos (initUni a nWords))
    (fun q hq => ⟨(ngramLines_real a q hq).2, hlen q hq⟩) hsorted hnd (fun _ _ => ⟨by simp, by simp⟩)
    (by rw [show cnt [] a.order = 0 from rfl, Nat.zero_add]; exact htop)
  rcases sim with ⟨s', hok, hflag, hbelow⟩ | ⟨herr, hflag⟩ | ⟨herr, hfull⟩
  · exact Or.inl ⟨⟨_, by rw [hr, hok]; rfl⟩, hflag, hbelow⟩
  · exact Or.inr (Or.inl ⟨by rw [hr, herr]; rfl, hflag⟩)
  · exact Or.inr (Or.inr ⟨by rw [hr, herr]; rfl, hfull⟩)

end KV.LoaderPB
