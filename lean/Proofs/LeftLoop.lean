import Proofs.LeftFragC
/-! Semantics of `ExtendLoop` (`lm/partial.hh:19-81`): the write loop ("using full context, writing to new left
state"), the use loop ("using some of the new context") and the final `UnRest`, for the pointers of a fragment `F`
that already include the context `P`, when the further context `h` (of which `nu0` words are offered) is revealed.
The loops are analysed from an arbitrary loop state (`loopFrom`), which is how `NonTerminal` runs them
(`nonTerminal_loop`); `add` is whatever the caller passes as new context, as long as its first `nu0` words are those of `h`. -/
namespace KV.Left
open KV.Arpa KV.Table KV.State KV.Score

variable {a : Arpa} {T : Table}

/-- loop invariant before pointer `i`: `next_use` words of the history `h` can still matter behind the words the pointer
includes (`gm1 F i ++ P`), the buffer holds the back-offs of those contexts, every longer context is dead.  `hN`: the pointer
(`i + |P| + 1` words) and the words still on offer fit an n-gram.  `n` is kenlm's `next_use`; `nu0`, the number of words offered
to the first pointer, is only its upper bound, kept because the caller's `add` is known to agree with `h` up to there. -/
structure LoopInv (a : Arpa) (F P h : List Word) (nu0 i : Nat) (n : Nat) (bo : List Rat) : Prop where
  nu_le : n ≤ nu0
  hN : i + P.length + 1 + n ≤ a.order
  back : bo.take n = (List.range n).map (fun j => a.boW (gm1 F i ++ P ++ h.take (j+1)))
  dead : ∀ k, n < k → k ≤ h.length → ¬ live a (gm1 F i ++ P ++ h.take k)

theorem loop_step (H : Hyp a T) (R : Ptr → Rat) {F P h : List Word} {L nu0 : Nat} (C : LoopCtx a T F P h L nu0)
    {add : List Word} (hadd : ∀ j, j ≤ nu0 → add.take j = h.take j)
    {i : Nat} {v : ExtendReturn} (I : LoopInv a F P h nu0 i v.nextUse v.backIn) (hi : i < L) (hiw : i < F.length) :
    ∃ c0, ExtStep a T R F[i] (gm1 F i ++ P) h v.nextUse
        (extendLeft T R (add.take v.nextUse) v.backIn (pre F i ++ P) (i + P.length + 1)) c0 ∧
      LoopInv a F P h nu0 (i+1) (extendLeft T R (add.take v.nextUse) v.backIn (pre F i ++ P) (i + P.length + 1)).nextUse
        (extendLeft T R (add.take v.nextUse) v.backIn (pre F i ++ P) (i + P.length + 1)).backoffOut := by
  obtain ⟨tg, htg, hxl⟩ := xl_lookup (C.ptr_xl i hi)
  have hpc := pre_cons_P F P i hiw
  have hgl : (gm1 F i ++ P).length = i + P.length := by rw [List.length_append, gm1_length F i (by omega)]
  have hnul : v.nextUse ≤ h.length := by have := I.nu_le; have := C.nu0_le; omega
  have hb := C.bound
  have hstep := extendLeft_step H R F[i] (gm1 F i ++ P) h v.nextUse v.backIn tg (by rw [← hpc]; exact htg) hxl hnul
    (by rw [hgl]; exact I.hN) (by rw [hgl]; omega)
    I.back I.dead
  rw [hgl, ← hpc, ← hadd _ I.nu_le] at hstep
  obtain ⟨c0, hs⟩ := hstep
  generalize hret : extendLeft T R (add.take v.nextUse) v.backIn (pre F i ++ P) (i + P.length + 1) = ret at hs ⊢
  refine ⟨c0, hs, ?_⟩
  have hord := H.tf.order_eq
  refine ⟨?_, ?_, ?_, ?_⟩
  · have := hs.nu_le.1; have := hs.c0_le; have := I.nu_le
    show ret.nextUse ≤ nu0; omega
  · have := hs.nu_le.2; rw [hgl, hord] at this
    have := H.wf.order_ge
    show i + 1 + P.length + 1 + ret.nextUse ≤ a.order; omega
  · show ret.backoffOut.take ret.nextUse = _
    rw [hs.back, gm1_succ F i, hpc]
  · show ∀ k, ret.nextUse < k → _
    intro k h1 h2
    have := hs.dead k h1 h2
    rw [gm1_succ F i, hpc]
    simpa only [List.cons_append, List.append_assoc] using this

/-- **the use loop + final UnRest**: every remaining pointer receives its exact score − rest.  `i` is the pointer's index in
`F`, `j` the loop's own index, `seen` kenlm's count of words the pointers already include: `j + seen = i + |P|` is the
`extend_length - 1` passed to `ExtendLeft`. -/
theorem useLoop (H : Hyp a T) (R : Ptr → Rat) {F P h : List Word} {L nu0 : Nat} (C : LoopCtx a T F P h L nu0)
    {add : List Word} (hadd : ∀ j, j ≤ nu0 → add.take j = h.take j) (seen : Nat) :
    ∀ (ps : List Ptr) (j i : Nat) (v : ExtendReturn) (r : ExtendReturn × List Ptr × Nat),
      extendLoopUse T R seen add ps j v = r →
      ps = ((List.range L).map (fun i => pre F i ++ P)).drop i → i ≤ L → j + seen = i + P.length → LoopInv a F P h nu0 i v.nextUse v.backIn →
      (i = L → r.1 = v) ∧ LoopInv a F P h nu0 L r.1.nextUse r.1.backIn ∧
      r.1.adjust + unRest T R r.2.1 (r.2.2 + seen + 1) = v.adjust + dsum (doneTerm a R F P h) i (L - i) := by
  intro ps
  induction ps with
  | nil =>
    intro j i v r hr hps hi hj I
    have hiL := map_range_drop_nil hps hi
    subst hiL hr
    refine ⟨fun _ => rfl, I, ?_⟩
    simp only [extendLoopUse, unRest, List.map_nil, List.sum_nil, Nat.sub_self, dsum]
  | cons p ps ih =>
    intro j i v r hr hps hi hj I
    obtain ⟨hiL, hp, hps'⟩ := map_range_drop_cons hps
    have hiw : i < F.length := Nat.lt_of_lt_of_le hiL C.L_le
    have hb := C.bound
    unfold extendLoopUse at hr
    by_cases hz : (v.nextUse == 0) = true
    · simp only [hz, if_true] at hr
      subst hr
      have hz' : v.nextUse = 0 := by simpa using hz
      have hd : ∀ k, 1 ≤ k → k ≤ h.length → ¬ live a (gm1 F i ++ P ++ h.take k) := fun k h1 h2 => I.dead k (by omega) h2
      have hun := unrest_done H R C (L - i) i (j + seen + 1) rfl (by omega) hd
      refine ⟨fun hc => by omega, ⟨by rw [hz']; omega, by rw [hz']; have := H.wf.order_ge; omega, by rw [hz']; simp, ?_⟩, ?_⟩
      · intro k hk1 hk2; exact hun.2 k (by omega) hk2
      · show v.adjust + unRest T R (p :: ps) (j + seen + 1) = _
        rw [hp, hps', ← map_range_drop (fun i => pre F i ++ P) L i hiL, hun.1]
    · simp only [hz, Bool.false_eq_true, if_false] at hr
      obtain ⟨c0, hs, hnext⟩ := loop_step H R C hadd I hiL hiw
      have hext : j + seen + 1 = i + P.length + 1 := by rw [hj]
      rw [hp, hext] at hr
      generalize extendLeft T R (add.take v.nextUse) v.backIn (pre F i ++ P) (i + P.length + 1) = ret at hs hnext hr
      obtain ⟨_, h3, h4⟩ := ih (j+1) (i+1) _ r hr hps' hiL (by omega) hnext
      refine ⟨fun hc => by omega, h3, ?_⟩
      rw [h4]
      rw [dsum_cons _ hiL]
      simp only [doneTerm]
      rw [← List.getElem_eq_getD (h := hiw) 0]
      have hprob := hs.prob
      rw [← pre_cons_P F P i hiw] at hprob
      show v.adjust + ret.prob + _ = _
      rw [← hprob, Rat.add_sub_cancel, Rat.add_assoc]

/-- closure witness produced when the write loop stops after keeping `Lw` pointers: the stopped pointer, extended by `h`, has
no left extension in the table; or the last kept one does not extend right -/
def CN (T : Table) (F P h : List Word) (Lw : Nat) : Prop :=
  (Lw < F.length ∧ ∀ x, T.lookup (pre F Lw ++ P ++ h ++ [x]) = none) ∨ (0 < Lw ∧ T.xr (pre F (Lw-1) ++ P ++ h) = false)

/-- … remembering, for the first kind of witness, that the stopped pointer is one of the `L` pointers of the call -/
def CNL (T : Table) (F P h : List Word) (L Lw : Nat) : Prop :=
  (Lw < L ∧ Lw < F.length ∧ ∀ x, T.lookup (pre F Lw ++ P ++ h ++ [x]) = none) ∨ (0 < Lw ∧ T.xr (pre F (Lw-1) ++ P ++ h) = false)

theorem CNL.toCN {T : Table} {F P h : List Word} {L Lw : Nat} (c : CNL T F P h L Lw) : CN T F P h Lw := by
  rcases c with ⟨_, h1, h2⟩ | h
  · exact Or.inl ⟨h1, h2⟩
  · exact Or.inr h

theorem CNL.mono {T : Table} {F P h : List Word} {t L Lw : Nat} (c : CNL T F P h t Lw) (ht : t ≤ L) : CNL T F P h L Lw := by
  rcases c with ⟨h0, h1⟩ | h
  · exact Or.inl ⟨Nat.lt_of_lt_of_le h0 ht, h1⟩
  · exact Or.inr h

/-- **what one run of `ExtendLoop` does** to the pointers `i0 ≤ i < L`, from the loop state `v0` to `v`: the pointers
`i0 ≤ i < Lw` are rewritten (extended by the whole of `h`) and kept, the others are finalised -/
structure LoopOut (a : Arpa) (T : Table) (R : Ptr → Rat) (F P h : List Word) (L nu0 i0 : Nat) (write : Bool)
    (v0 v : ExtendReturn) (Lw : Nat) : Prop where
  le_Lw : i0 ≤ Lw
  Lw_le : Lw ≤ L
  use_only : write = false → Lw = i0
  written : v.written = v0.written ++ ((List.range Lw).drop i0).map (fun i' => pre F i' ++ P ++ h)
  xl : ∀ i', i0 ≤ i' → i' < Lw → T.xl (pre F i' ++ P ++ h) = true
  bound : i0 < Lw → Lw + P.length + h.length ≤ a.order - 1
  inv : LoopInv a F P h nu0 L v.nextUse v.backIn
  adjust : v.adjust = v0.adjust + dsum (openTerm R F P h) i0 (Lw - i0) + dsum (doneTerm a R F P h) Lw (L - Lw)
  /-- the write loop went through, or it stopped with a witness that the left state is complete -/
  stop : (v.makeFull = v0.makeFull ∧ (write = true → Lw = L ∧ v.nextUse = nu0)) ∨
    (v.makeFull = true ∧ write = true ∧ CNL T F P h L Lw)

/-- **the write loop**: pointers are extended by the whole offered context and stay in the left state until one is
independent of it or does not extend right any more.  `t` pointers are consumed (at most the one at which the loop stops
without being kept), and on those the write loop is a whole `ExtendLoop`; the pointers from `t` on are left to `useLoop`. -/
theorem writeLoop (H : Hyp a T) (R : Ptr → Rat) {F P h : List Word} {L nu0 : Nat} (C : LoopCtx a T F P h L nu0)
    {add : List Word} (hadd : ∀ j, j ≤ nu0 → add.take j = h.take j) (seen : Nat) (hall : nu0 = h.length) :
    ∀ (ps : List Ptr) (j i : Nat) (v : ExtendReturn) (r : ExtendReturn × List Ptr × Nat),
      extendLoopWrite T R seen add nu0 ps j v = r →
      ps = ((List.range L).map (fun i => pre F i ++ P)).drop i → i ≤ L → j + seen = i + P.length →
      LoopInv a F P h nu0 i v.nextUse v.backIn → v.nextUse = nu0 → v.makeFull = false →
      ∃ Lw t, t ≤ L ∧ r.2.1 = ((List.range L).map (fun i => pre F i ++ P)).drop t ∧ r.2.2 + seen = t + P.length ∧
        (r.1.makeFull = false → t = L) ∧ LoopOut a T R F P h t nu0 i true v r.1 Lw := by
  have hnil : ∀ (i : Nat) (w : List Ptr), w = w ++ ((List.range i).drop i).map (fun i' => pre F i' ++ P ++ h) := by
    intro i w; rw [List.drop_eq_nil_of_le (by simp)]; simp
  intro ps
  induction ps with
  | nil =>
    intro j i v r hr hps hi hj I hnu hmf
    have hiL := map_range_drop_nil hps hi
    subst hiL hr
    refine ⟨i, i, Nat.le_refl _, ?_, hj, fun _ => rfl, ⟨Nat.le_refl _, Nat.le_refl _, (fun hc => by cases hc), hnil i _,
      (fun i' h1 h2 => by omega), (fun hc => by omega), I, ?_, Or.inl ⟨rfl, fun _ => ⟨rfl, hnu⟩⟩⟩⟩
    · simp only [extendLoopWrite]; rw [List.drop_eq_nil_of_le (by simp)]
    · simp only [extendLoopWrite, Nat.sub_self, dsum, Rat.add_zero]
  | cons p ps ih =>
    intro j i v r hr hps hi hj I hnu hmf
    obtain ⟨hiL, hp, hps'⟩ := map_range_drop_cons hps
    have hiw : i < F.length := Nat.lt_of_lt_of_le hiL C.L_le
    have hord : T.order = a.order := H.tf.order_eq
    obtain ⟨c0, hs, hnext⟩ := loop_step H R C hadd I hiL hiw
    have hext : j + seen + 1 = i + P.length + 1 := by rw [hj]
    unfold extendLoopWrite at hr
    rw [hp, hext] at hr
    generalize extendLeft T R (add.take v.nextUse) v.backIn (pre F i ++ P) (i + P.length + 1) = ret at hs hnext hr
    rw [hnu, hall] at hs
    have hgl : (gm1 F i ++ P).length = i + P.length := by rw [List.length_append, gm1_length F i (Nat.le_of_lt hiw)]
    have hpc := pre_cons_P F P i hiw
    have hprob : ret.prob = doneTerm a R F P h i := by
      have := hs.prob
      rw [← hpc] at this
      simp only [doneTerm]
      rw [← List.getElem_eq_getD (h := hiw) 0, ← this, Rat.add_sub_cancel]
    have hone : i + 1 - i = 1 := Nat.add_sub_cancel_left i 1
    have hj' : j + 1 + seen = i + 1 + P.length := by omega
    by_cases hind : ret.independentLeft = true
    · simp only [hind, if_true] at hr
      subst hr
      have hcn : ∀ x, T.lookup (pre F i ++ P ++ h ++ [x]) = none := by
        intro x; rw [hpc]; exact hs.no_ext_of_indep H hind x
      refine ⟨i, i+1, hiL, hps', hj', (fun hc => by cases hc), ⟨Nat.le_refl _, Nat.le_succ _, (fun hc => by cases hc), hnil i _,
        (fun i' h1 h2 => by omega), (fun hc => by omega), hnext, ?_, Or.inr ⟨rfl, rfl, Or.inl ⟨Nat.lt_succ_self i, hiw, hcn⟩⟩⟩⟩
      show v.adjust + ret.prob = _
      rw [Nat.sub_self, hone]
      simp only [dsum, hprob, Rat.add_zero]
    · have hind' : ret.independentLeft = false := by simpa using hind
      simp only [hind', Bool.false_eq_true, if_false] at hr
      obtain ⟨hlenN, hi3, hptr, hrest, hxr⟩ := hs.pushed hind'
      rw [hgl] at hlenN
      rw [← hpc] at hi3 hptr hrest hxr
      have hrest' : ret.rest = openTerm R F P h i := by simp only [openTerm]; rw [← hrest, Rat.add_sub_cancel]
      have hb1 : i + 1 + P.length + h.length ≤ a.order - 1 := by rw [← hord]; omega
      by_cases hne : (ret.nextUse != nu0) = true
      · -- pushed, but it does not extend right: complete
        simp only [hne, if_true] at hr
        subst hr
        have hxr' : T.xr (pre F i ++ P ++ h) = false := hxr (by rw [← hall]; simpa using hne)
        refine ⟨i+1, i+1, hiL, hps', hj', (fun hc => by cases hc), ⟨Nat.le_succ _, Nat.le_refl _, (fun hc => by cases hc), ?_, ?_,
          fun _ => hb1, hnext, ?_, Or.inr ⟨rfl, rfl, Or.inr ⟨Nat.succ_pos _, hxr'⟩⟩⟩⟩
        · show v.written ++ [ret.extendLeft] = _
          rw [range_drop_cons (Nat.lt_succ_self i), List.drop_eq_nil_of_le (by simp), hptr]; rfl
        · intro i' h1 h2
          rw [show i' = i by omega]; exact hi3
        · show v.adjust + ret.rest = _
          rw [Nat.sub_self, hone]
          simp only [dsum, hrest', Rat.add_zero]
      · simp only [hne, Bool.false_eq_true, if_false] at hr
        have hnu' : ret.nextUse = nu0 := by simpa using hne
        obtain ⟨Lw, t, h3, h8, h9, hL, O⟩ := ih (j+1) (i+1) _ r hr hps' hiL hj' hnext hnu' hmf
        have h1 := O.le_Lw
        refine ⟨Lw, t, h3, h8, h9, hL, ⟨Nat.le_of_succ_le h1, O.Lw_le, (fun hc => by cases hc), ?_, ?_, fun _ => ?_, O.inv, ?_, O.stop⟩⟩
        · rw [O.written, range_drop_cons h1, hptr]
          show v.written ++ [pre F i ++ P ++ h] ++ _ = _
          simp only [List.map_cons, List.append_assoc, List.singleton_append]
        · intro i' h1' h2'
          by_cases hlt : i < i'
          · exact O.xl i' hlt h2'
          · rw [show i' = i by omega]; exact hi3
        · by_cases hlt : i + 1 < Lw
          · exact O.bound hlt
          · rw [show Lw = i + 1 by omega]; exact hb1
        · rw [O.adjust, dsum_cons _ h1]
          show v.adjust + ret.rest + _ + _ = _
          rw [hrest', Rat.add_assoc v.adjust]

theorem LoopOut.written₀ {R : Ptr → Rat} {F P h : List Word} {L nu0 i0 Lw : Nat} {write : Bool} {v0 v : ExtendReturn}
    (O : LoopOut a T R F P h L nu0 i0 write v0 v Lw) (h0 : v0.written = []) :
    v.written = ((List.range Lw).drop i0).map (fun i' => pre F i' ++ P ++ h) := by rw [O.written, h0]; rfl

theorem LoopOut.adjust₀ {R : Ptr → Rat} {F P h : List Word} {L nu0 i0 Lw : Nat} {write : Bool} {v0 v : ExtendReturn}
    (O : LoopOut a T R F P h L nu0 i0 write v0 v Lw) (h0 : v0.adjust = 0) :
    v.adjust = dsum (openTerm R F P h) i0 (Lw - i0) + dsum (doneTerm a R F P h) Lw (L - Lw) := by
  rw [O.adjust, h0, Rat.zero_add]

/-- in write mode the loop went through all pointers, offering each the whole context, or it stopped with a witness -/
theorem LoopOut.write_cases {R : Ptr → Rat} {F P h : List Word} {L nu0 i0 Lw : Nat} {write : Bool} {v0 v : ExtendReturn}
    (O : LoopOut a T R F P h L nu0 i0 write v0 v Lw) (hw : write = true) :
    (v.makeFull = v0.makeFull ∧ Lw = L ∧ v.nextUse = nu0) ∨ (v.makeFull = true ∧ CNL T F P h L Lw) := by
  rcases O.stop with ⟨hmf, hall⟩ | ⟨hmf, _, hcn⟩
  · exact Or.inl ⟨hmf, hall hw⟩
  · exact Or.inr ⟨hmf, hcn⟩

/-- … and it went through if `make_full` is not set afterwards -/
theorem LoopOut.through {R : Ptr → Rat} {F P h : List Word} {L nu0 i0 Lw : Nat} {write : Bool} {v0 v : ExtendReturn}
    (O : LoopOut a T R F P h L nu0 i0 write v0 v Lw) (hw : write = true) (hmf : v.makeFull = false) : Lw = L ∧ v.nextUse = nu0 := by
  rcases O.write_cases hw with ⟨_, hall⟩ | ⟨hmf', _⟩
  · exact hall
  · rw [hmf] at hmf'; cases hmf'

/-! `LoopOut` for all pointers of a fragment whose pointers include no context yet (`P = []`, `i0 = 0`), without the `++ []` -/

section
variable {R : Ptr → Rat} {F h : List Word} {L nu0 Lw : Nat} {write : Bool} {v0 v : ExtendReturn}
  (O : LoopOut a T R F [] h L nu0 0 write v0 v Lw)
include O

theorem LoopOut.written_nil : v.written = v0.written ++ (List.range Lw).map (fun i => pre F i ++ h) := by
  rw [O.written]; simp

theorem LoopOut.xl_nil (i : Nat) (hi : i < Lw) : T.xl (pre F i ++ h) = true := by
  simpa using O.xl i (Nat.zero_le _) hi

theorem LoopOut.bound_nil (hpos : 0 < Lw) : Lw + h.length ≤ a.order - 1 := by simpa using O.bound hpos

theorem LoopOut.adjust_nil :
    v.adjust = v0.adjust + (dsum (openTerm R F [] h) 0 Lw + dsum (doneTerm a R F [] h) Lw (L - Lw)) := by
  rw [O.adjust, Nat.sub_zero, Rat.add_assoc]

end

theorem ptrs_nil (F : List Word) (L : Nat) :
    (List.range L).map (pre F) = ((List.range L).map (fun i => pre F i ++ [])).drop 0 := by simp

/-- **the pointer loop, once**: started before pointer `i0` (`seen = i0 + |P|` is kenlm's count of the words a pointer already
includes) from any state `v0` that satisfies the invariant, the loops end in `LoopOut`; `hw`: a write loop starts with the whole of `h` on
offer (in use mode `nu0` may be less than `h.length`) and `make_full` unset -/
theorem loopFrom_sem (H : Hyp a T) (R : Ptr → Rat) {F P h : List Word} {L nu0 : Nat} (C : LoopCtx a T F P h L nu0)
    {add : List Word} (hadd : ∀ j, j ≤ nu0 → add.take j = h.take j)
    (seen i0 : Nat) (hseen : seen = i0 + P.length) (hi0 : i0 ≤ L) {v0 : ExtendReturn} (I0 : LoopInv a F P h nu0 i0 v0.nextUse v0.backIn)
    (write : Bool) (hw : write = true → nu0 = h.length ∧ v0.nextUse = nu0 ∧ v0.makeFull = false) (v : ExtendReturn)
    (hv : loopFrom T R seen add nu0 (((List.range L).map (fun i => pre F i ++ P)).drop i0) v0 write = v) :
    ∃ Lw, LoopOut a T R F P h L nu0 i0 write v0 v Lw := by
  unfold loopFrom at hv
  subst hv
  cases write with
  | false =>
    simp only [Bool.false_eq_true, if_false]
    obtain ⟨_, u3, u4⟩ := useLoop H R C hadd seen _ 0 i0 v0 _ rfl rfl hi0 (by omega) I0
    have u1 := extendLoopUse_written T R seen add (((List.range L).map (fun i => pre F i ++ P)).drop i0) 0 v0
    have u2 := extendLoopUse_makeFull T R seen add (((List.range L).map (fun i => pre F i ++ P)).drop i0) 0 v0
    generalize extendLoopUse T R seen add (((List.range L).map (fun i => pre F i ++ P)).drop i0) 0 v0 = r2 at u1 u2 u3 u4
    refine ⟨i0, ⟨Nat.le_refl _, hi0, fun _ => rfl, ?_, fun i' h1 h2 => by omega, fun hc => by omega, u3, ?_,
      Or.inl ⟨u2, fun hc => by cases hc⟩⟩⟩
    · show r2.1.written = _
      rw [u1, List.drop_eq_nil_of_le (by simp)]; simp
    · show r2.1.adjust + unRest T R r2.2.1 (r2.2.2 + seen + 1) = _
      rw [u4, Nat.sub_self]
      simp only [dsum, Rat.add_zero]
  | true =>
    simp only [if_true]
    obtain ⟨hall, hnu, hmf⟩ := hw rfl
    obtain ⟨Lw, t, w3, w8, w9, wL, W⟩ := writeLoop H R C hadd seen hall _ 0 i0 v0 _ rfl rfl hi0 (by omega) I0 hnu hmf
    generalize extendLoopWrite T R seen add nu0 (((List.range L).map (fun i => pre F i ++ P)).drop i0) 0 v0 = r1 at w8 w9 wL W
    obtain ⟨u0, u3, u4⟩ := useLoop H R C hadd seen r1.2.1 r1.2.2 t r1.1 _ rfl w8 w3 w9 W.inv
    have u1 := extendLoopUse_written T R seen add r1.2.1 r1.2.2 r1.1
    have u2 := extendLoopUse_makeFull T R seen add r1.2.1 r1.2.2 r1.1
    generalize extendLoopUse T R seen add r1.2.1 r1.2.2 r1.1 = r2 at u0 u1 u2 u3 u4
    have w2 := W.Lw_le
    refine ⟨Lw, ⟨W.le_Lw, Nat.le_trans w2 w3, (fun hc => by cases hc), by show r2.1.written = _; rw [u1, W.written], W.xl, W.bound, u3,
      ?_, ?_⟩⟩
    · show r2.1.adjust + unRest T R r2.2.1 (r2.2.2 + seen + 1) = _
      rw [u4, W.adjust]
      have hsplit : L - Lw = (t - Lw) + (L - t) := by omega
      rw [hsplit, dsum_add]
      have e : Lw + (t - Lw) = t := by omega
      rw [e, Rat.add_assoc]
    · rcases W.write_cases rfl with ⟨hsame, hLw, hnu'⟩ | ⟨hset, hcn⟩
      · have ht : t = L := wL (hsame.trans hmf)
        left
        refine ⟨by show r2.1.makeFull = _; rw [u2, hsame], fun _ => ⟨hLw.trans ht, ?_⟩⟩
        show r2.1.nextUse = nu0
        rw [u0 ht]; exact hnu'
      · right
        exact ⟨by show r2.1.makeFull = true; rw [u2]; exact hset, rfl, hcn.mono w3⟩

/-- `ExtendLoop` itself: `loopFrom_sem` for the zero start state, the caller's back-off buffer `bs` and `add = h.take nu0` -/
theorem extendLoop_sem (H : Hyp a T) (R : Ptr → Rat) {F P h : List Word} {L nu0 : Nat} (C : LoopCtx a T F P h L nu0)
    (seen i0 : Nat) (hseen : seen = i0 + P.length) (hi0 : i0 ≤ L) (bs : List Rat)
    (I0 : LoopInv a F P h nu0 i0 nu0 (bs.take nu0)) (write : Bool) (hall : write = true → nu0 = h.length)
    (v : ExtendReturn)
    (hv : extendLoop T R seen (h.take nu0) bs (((List.range L).map (fun i => pre F i ++ P)).drop i0) write = v) :
    ∃ Lw, LoopOut a T R F P h L nu0 i0 write { nextUse := nu0, backIn := bs.take nu0 } v Lw := by
  have haddl : (h.take nu0).length = nu0 := by rw [List.length_take]; exact Nat.min_eq_left C.nu0_le
  rw [extendLoop_eq, haddl] at hv
  exact loopFrom_sem H R C (fun _ hj => take_take_of_le (l := h) hj) seen i0 hseen hi0 I0 write
    (fun hc => ⟨hall hc, rfl, rfl⟩) v hv

theorem CNL.take {F P h : List Word} {L Lw : Nat} (c : CNL T F P h L Lw) (hL : L ≤ F.length) (hLw : Lw ≤ L) :
    CN T (F.take L) P h Lw := by
  rcases c with ⟨h0, _, h2⟩ | ⟨h1, h2⟩
  · exact Or.inl ⟨by rw [List.length_take]; omega, fun x => by rw [pre_take F h0]; exact h2 x⟩
  · exact Or.inr ⟨h1, by rw [pre_take F (by omega)]; exact h2⟩

theorem closedP_of_cn (H : Hyp a T) (M P h : List Word) (Lw : Nat) (hLw : Lw ≤ M.length)
    (hcn : CN T M P h Lw) : ClosedP T M (P ++ h) Lw := by
  rcases hcn with ⟨h1, h2⟩ | ⟨h1, h2⟩
  · left; exact ⟨h1, fun y => by have := h2 y; simpa only [List.append_assoc] using this⟩
  · by_cases hlt : Lw < M.length
    · -- the previous pointer does not extend right: nothing containing the next word exists
      left
      refine ⟨hlt, fun y => ?_⟩
      have hgm : gm1 M Lw = pre M (Lw - 1) := by
        cases Lw with
        | zero => omega
        | succ n => simp [gm1_succ M n]
      have hne : pre M (Lw-1) ++ P ++ h ≠ [] := by rw [pre_eq_cons M (Lw-1) (by omega)]; simp
      have hnone := H.none_of_not_xr hne h2 M[Lw]
      have := lookup_none_extend H.ok [y] _ (by simp) hnone
      rw [pre_eq_cons M Lw hlt, hgm]
      simpa only [List.cons_append, List.append_assoc] using this
    · right; left
      have hLwe : Lw = M.length := by omega
      refine ⟨hLwe, M.length + (P ++ h).length, by simp; omega, Nat.le_refl _, ?_⟩
      rw [List.take_of_length_le (by simp)]
      have : pre M (Lw - 1) = M.reverse := by
        unfold pre
        rw [List.take_of_length_le (by omega)]
      rw [this] at h2
      simpa only [List.append_assoc] using h2

end KV.Left
