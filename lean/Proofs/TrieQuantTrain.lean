import Model.TrieG
/-! `Bins::Encode` and the sizes of the trained tables (`lm/quantize.cc`), as `QSpec.train` needs them. -/
namespace KV.Quant

theorem length_makeBinsFrom (ops : Ops Nat) (sorted : List Nat) (bins : Nat) : ∀ fuel i prev,
    (makeBinsFrom ops sorted bins fuel i prev).length = fuel := by
  intro fuel
  induction fuel with
  | zero => intro i prev; rfl
  | succ f ih => intro i prev; simp only [makeBinsFrom, List.length_cons, ih]

theorem length_trainProb (ops : Ops Nat) (bits : Nat) (vals : List Nat) : (trainProb ops bits vals).length = 2^bits :=
  length_makeBinsFrom ops _ _ _ _ _

/-- the back-off table: two reserved codes, then `2^bits - 2` centres -/
theorem length_trainBackoff (ops : Ops Nat) (bits noExt ext : Nat) (vals : List Nat) (h : 2 ≤ bits) :
    (trainBackoff ops bits noExt ext vals).length = 2^bits := by
  have h4 : 2^2 ≤ 2^bits := Nat.pow_le_pow_right (by decide) h
  show (makeBinsFrom ops _ _ (2^bits - 2) 0 ops.negInf).length + 1 + 1 = _
  rw [length_makeBinsFrom]; omega

theorem encode_bounds (ops : Ops Nat) (centers : List Nat) (reserved v : Nat) (h : reserved < centers.length) :
    reserved ≤ encode ops centers reserved v ∧ encode ops centers reserved v < centers.length := by
  have hlb : reserved ≤ lowerBound ops centers reserved v ∧ lowerBound ops centers reserved v ≤ centers.length := by
    have := (List.takeWhile_sublist (l := centers.drop reserved) (fun c => ops.lt c v)).length_le
    rw [List.length_drop] at this
    exact ⟨Nat.le_add_right _ _, by unfold lowerBound; omega⟩
  unfold encode
  dsimp only
  generalize lowerBound ops centers reserved v = above at hlb
  by_cases h1 : above = reserved
  · rw [if_pos h1]; exact ⟨Nat.le_refl _, h⟩
  · rw [if_neg h1]
    by_cases h2 : above = centers.length
    · rw [if_pos h2]; exact ⟨Nat.le_sub_one_of_lt h, Nat.sub_lt (Nat.zero_lt_of_lt h) Nat.one_pos⟩
    · rw [if_neg h2]
      have hd : (if ops.lt (ops.sub v (centers.getD (above - 1) default)) (ops.sub (centers.getD above default) v) = true
          then 1 else 0) ≤ 1 := by split <;> decide
      generalize (if ops.lt _ _ = true then 1 else 0) = d at hd
      omega

end KV.Quant

namespace KV.TrieLM
open KV.Quant

theorem QSpec.train_ptab (ops : Ops Nat) (pb bb : Nat) (bt : BT) (order t : Nat) :
    (QSpec.train ops pb bb bt order).ptab t = trainProb ops pb ((keysOfLen bt (t + 2)).map (·.2.1)) := rfl

theorem QSpec.train_btab (ops : Ops Nat) (pb bb : Nat) (bt : BT) (order t : Nat) :
    (QSpec.train ops pb bb bt order).btab t = trainBackoff ops bb noExtensionBits 0
      (((keysOfLen bt (t + 2)).map (·.2.2)).filter fun b => b ≠ noExtensionBits ∧ b ≠ 0) := rfl

theorem QSpec.train_pcode (ops : Ops Nat) (pb bb : Nat) (bt : BT) (order : Nat) (g : List Arpa.Word) :
    (QSpec.train ops pb bb bt order).pcode g
      = encode ops ((QSpec.train ops pb bb bt order).ptab (g.length - 2)) 0 (valuesOf bt g).1 := rfl

theorem QSpec.train_bcode (ops : Ops Nat) (pb bb : Nat) (bt : BT) (order : Nat) (g : List Arpa.Word) :
    (QSpec.train ops pb bb bt order).bcode g
      = encodeBackoff ops ((QSpec.train ops pb bb bt order).btab (g.length - 2)) (valuesOf bt g).2 := rfl

end KV.TrieLM
