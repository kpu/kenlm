import Model.TrieLM
import Proofs.TrieLists
import Proofs.Basics
import Proofs.InsertionSort
/-! Combinatorics of the level-by-level trie builder `TrieLM.ofTable`: sorted children, positions of children in the next
level (`startOf`), running next pointers (`childStarts`: monotone, bounded by the size of the next level), membership and
uniqueness of keys in levels; what the builder asks of a bit table (`BTOK`, `ValsOK`); the counts it hands to the layout. -/
namespace KV.TrieLM

theorem insertNat_eq (x : Nat) : ∀ l, insertNat x l = insertBy (fun a b => decide (a ≤ b)) x l
  | [] => rfl
  | y :: ys => by rw [insertNat, insertBy_decide, insertNat_eq x ys]

theorem sortNat_eq (l : List Nat) : sortNat l = insertionSort (fun a b => decide (a ≤ b)) l := foldr_eq_insertionSort insertNat_eq l

theorem sortNat_perm (l : List Nat) : (sortNat l).Perm l := sortNat_eq l ▸ insertionSort_perm _ l

theorem mem_sortNat (l : List Nat) (y : Nat) : y ∈ sortNat l ↔ y ∈ l := (sortNat_perm l).mem_iff

theorem sorted_sortNat (l : List Nat) : (sortNat l).Pairwise (· ≤ ·) :=
  sortNat_eq l ▸ insertionSort_sorted (r := fun a b => decide (a ≤ b)) (S := (· ≤ ·)) (fun _ _ h => of_decide_eq_true h)
    (fun _ _ h => Nat.le_of_not_le (of_decide_eq_false h)) (fun _ _ _ => Nat.le_trans) l

theorem length_insertNat (x : Nat) (l : List Nat) : (insertNat x l).length = l.length + 1 :=
  insertNat_eq x l ▸ (insertBy_perm _ x l).length_eq

theorem nodup_sortNat (l : List Nat) (h : l.Nodup) : (sortNat l).Nodup := (sortNat_perm l).nodup_iff.mpr h

/-- number of records of the next level that belong to the first `j` records of `lvl` -/
def startOf (bt : BT) (lvl : List (List Nat)) (j : Nat) : Nat := ((lvl.take j).map fun g => (childrenOf bt g).length).sum

theorem startOf_succ (bt : BT) (lvl : List (List Nat)) (j : Nat) (hj : j < lvl.length) :
    startOf bt lvl (j + 1) = startOf bt lvl j + (childrenOf bt lvl[j]).length := by
  unfold startOf
  rw [List.take_succ_eq_append_getElem hj, List.map_append, List.sum_append]
  simp

theorem startOf_cons (bt : BT) (g : List Nat) (rest : List (List Nat)) (j : Nat) :
    startOf bt (g :: rest) (j + 1) = (childrenOf bt g).length + startOf bt rest j := by
  simp [startOf]

theorem length_nextLevel (bt : BT) (lvl : List (List Nat)) : (nextLevel bt lvl).length = startOf bt lvl lvl.length := by
  unfold nextLevel startOf
  rw [List.take_length]
  induction lvl with
  | nil => rfl
  | cons g rest ih => simp [List.flatMap_cons, ih]

theorem nextLevel_getElem (bt : BT) : ∀ (lvl : List (List Nat)) (j i : Nat) (hj : j < lvl.length)
    (hi : i < (childrenOf bt lvl[j]).length),
    (nextLevel bt lvl)[startOf bt lvl j + i]? = some (lvl[j] ++ [(childrenOf bt lvl[j])[i]])
  | [], j, _, hj, _ => by simp at hj
  | g :: rest, 0, i, _, hi => by
    simp only [nextLevel, List.flatMap_cons, startOf, List.take_zero, List.map_nil, List.sum_nil, Nat.zero_add]
    rw [List.getElem?_append_left (by simpa using hi)]
    simp at hi ⊢
  | g :: rest, j+1, i, hj, hi => by
    have hj' : j < rest.length := by simpa using hj
    have ih := nextLevel_getElem bt rest j i hj' (by simpa using hi)
    simp only [nextLevel, List.flatMap_cons] at ih ⊢
    rw [startOf_cons, List.getElem?_append_right (by simp; omega)]
    simp only [List.length_map, List.getElem_cons_succ]
    have : (childrenOf bt g).length + startOf bt rest j + i - (childrenOf bt g).length = startOf bt rest j + i := by omega
    rw [this]; exact ih

def IsKey (bt : BT) (g : List Nat) : Prop := ∃ p ∈ bt, p.1 = g

theorem lookup_ne_none_iff (bt : BT) (g : List Nat) : bt.lookup g ≠ none ↔ IsKey bt g := lookup_ne_none bt g

theorem mem_childrenOf (bt : BT) (g : List Nat) (w : Nat) : w ∈ childrenOf bt g ↔ IsKey bt (g ++ [w]) := by
  unfold childrenOf
  rw [mem_sortNat, List.mem_filterMap]
  constructor
  · rintro ⟨p, hp, h⟩
    split at h
    · rename_i hc
      exact ⟨p, hp, (split_last p.1 g w).mp ⟨hc.1, hc.2, h⟩⟩
    · cases h
  · rintro ⟨p, hp, e⟩
    refine ⟨p, hp, ?_⟩
    have := (split_last p.1 g w).mpr e
    rw [if_pos ⟨this.1, this.2.1⟩]; exact this.2.2

theorem childStarts_fold (bt : BT) (l : List (List Nat)) : ∀ (acc : List Nat) (n : Nat),
    l.foldl (fun (a : List Nat × Nat) g => (a.1 ++ [a.2], a.2 + (childrenOf bt g).length)) (acc, n)
      = (acc ++ (List.range l.length).map (fun j => n + startOf bt l j), n + startOf bt l l.length) := by
  induction l with
  | nil => intro acc n; simp [startOf]
  | cons g rest ih =>
    intro acc n
    rw [List.foldl_cons, ih]
    have h1 := startOf_cons bt g rest
    have h0 : startOf bt (g :: rest) 0 = 0 := by simp [startOf]
    simp only [List.length_cons, List.range_succ_eq_map, List.map_cons, List.map_map, h0, Nat.add_zero, List.append_assoc,
      List.singleton_append, h1]
    congr 1
    · congr 2
      apply List.map_congr_left
      intro j _
      simp only [Function.comp, h1]; omega
    · omega

theorem childStarts_getD (bt : BT) (lvl : List (List Nat)) (j : Nat) (hj : j ≤ lvl.length) :
    (childStarts bt lvl).getD j 0 = startOf bt lvl j := by
  unfold childStarts
  rw [childStarts_fold]
  have hsum : (lvl.map fun g => (childrenOf bt g).length).sum = startOf bt lvl lvl.length := by
    simp [startOf]
  simp only [List.nil_append, Nat.zero_add, hsum, List.getD_eq_getElem?_getD]
  by_cases h : j < lvl.length
  · rw [List.getElem?_append_left (by simpa using h)]
    simp [h]
  · have : j = lvl.length := by omega
    subst this
    rw [List.getElem?_append_right (by simp)]
    simp

/-- well-formedness of a bit table for the builder: what `buildTable` delivers (at least two orders, unique keys of lengths
within the order, words below the bound, all unigrams, every entry's parent present = suffix closure after blank insertion) -/
structure BTOK (bt : BT) (bound order : Nat) : Prop where
  order2 : 2 ≤ order
  nodup : (bt.map (·.1)).Nodup
  len : ∀ p ∈ bt, 1 ≤ p.1.length ∧ p.1.length ≤ order
  words : ∀ p ∈ bt, ∀ w ∈ p.1, w < bound
  unigrams : ∀ w, w < bound → IsKey bt [w]
  parent : ∀ p ∈ bt, 2 ≤ p.1.length → IsKey bt p.1.dropLast

/-! `childrenOf`, `IsKey`, `BTOK` look at the keys of a bit table only (`childrenOf_congr`, `isKey_congr`, `BTOK.congr`) -/

theorem isKey_iff_mem (bt : BT) (g : List Nat) : IsKey bt g ↔ g ∈ bt.map (·.1) := by
  simp only [IsKey, List.mem_map]

theorem childrenOf_keys (bt : BT) (g : List Nat) : childrenOf bt g =
    sortNat ((bt.map (·.1)).filterMap fun k => if k.length = g.length + 1 ∧ k.dropLast = g then k.getLast? else none) := by
  rw [List.filterMap_map]; rfl

section
variable {bt bt' : BT} (h : bt.map (·.1) = bt'.map (·.1))
include h

theorem childrenOf_congr (g : List Nat) : childrenOf bt g = childrenOf bt' g := by
  rw [childrenOf_keys, childrenOf_keys, h]

theorem isKey_congr (g : List Nat) : IsKey bt g ↔ IsKey bt' g := by
  rw [isKey_iff_mem, isKey_iff_mem, h]

theorem forall_keys_congr (P : List Nat → Prop) (hP : ∀ p ∈ bt, P p.1) : ∀ p ∈ bt', P p.1 := by
  have keys : ∀ {bt : BT}, (∀ p ∈ bt, P p.1) ↔ ∀ k ∈ bt.map (·.1), P k := by
    simp only [List.mem_map, forall_exists_index, and_imp, forall_apply_eq_imp_iff₂, implies_true]
  exact keys.2 (h ▸ keys.1 hP)

theorem BTOK.congr {bound order : Nat} (ok : BTOK bt bound order) : BTOK bt' bound order :=
  ⟨ok.order2, h ▸ ok.nodup, forall_keys_congr h (fun k => 1 ≤ k.length ∧ k.length ≤ order) ok.len,
     forall_keys_congr h (fun k => ∀ w ∈ k, w < bound) ok.words,
    fun w hw => (isKey_congr h _).1 (ok.unigrams w hw),
    forall_keys_congr h (fun k => 2 ≤ k.length → IsKey bt' k.dropLast) fun p hp h2 => (isKey_congr h _).1 (ok.parent p hp h2)⟩

end

theorem nodup_childrenOf (bt : BT) (hn : (bt.map (·.1)).Nodup) (g : List Nat) : (childrenOf bt g).Nodup := by
  rw [childrenOf_keys]
  apply nodup_sortNat
  refine List.Pairwise.filterMap _ ?_ hn
  intro k k' hkk w h1 w' h2 hww
  subst hww
  apply hkk
  split at h1
  · rename_i c1
    split at h2
    · rename_i c2
      have e1 := (split_last k g w).mp ⟨c1.1, c1.2, h1⟩
      have e2 := (split_last k' g w).mp ⟨c2.1, c2.2, h2⟩
      rw [e1, e2]
    · cases h2
  · cases h1

theorem level_one (bt : BT) (bound : Nat) : level bt bound 1 = (List.range bound).map fun w => [w] := rfl

theorem level_add_two (bt : BT) (bound k : Nat) : level bt bound (k + 2) = nextLevel bt (level bt bound (k + 1)) := rfl

theorem level_succ (bt : BT) (bound k : Nat) (hk : 1 ≤ k) : level bt bound (k + 1) = nextLevel bt (level bt bound k) := by
  cases k with
  | zero => omega
  | succ k => rfl

theorem mem_level (bt : BT) (bound order : Nat) (ok : BTOK bt bound order) :
    ∀ k, 1 ≤ k → ∀ g, g ∈ level bt bound k ↔ (IsKey bt g ∧ g.length = k) := by
  intro k hk
  induction k with
  | zero => omega
  | succ k ih =>
    intro g
    cases k with
    | zero =>
      rw [level_one]
      simp only [List.mem_map, List.mem_range]
      constructor
      · rintro ⟨w, hw, rfl⟩; exact ⟨ok.unigrams w hw, rfl⟩
      · rintro ⟨⟨p, hp, e⟩, hl⟩
        match g, hl with
        | [w], _ => exact ⟨w, ok.words p hp w (by rw [e]; simp), rfl⟩
    | succ k =>
      have ih' := ih (by omega)
      rw [level_add_two]
      simp only [nextLevel, List.mem_flatMap, List.mem_map]
      constructor
      · rintro ⟨h, hh, w, hw, rfl⟩
        exact ⟨(mem_childrenOf bt h w).mp hw, by simp [((ih' h).mp hh).2]⟩
      · rintro ⟨⟨p, hp, e⟩, hl⟩
        have hne : g ≠ [] := by intro e'; rw [e'] at hl; simp at hl
        have hsplit : g = g.dropLast ++ [g.getLast hne] := (List.dropLast_concat_getLast hne).symm
        have hpar : IsKey bt g.dropLast := by rw [← e]; exact ok.parent p hp (by rw [e]; omega)
        refine ⟨g.dropLast, (ih' _).mpr ⟨hpar, by simp [hl]⟩, g.getLast hne, ?_, hsplit.symm⟩
        rw [mem_childrenOf, ← hsplit]; exact ⟨p, hp, e⟩

theorem nodup_level (bt : BT) (bound : Nat) (hn : (bt.map (·.1)).Nodup) : ∀ k, (level bt bound k).Nodup := by
  intro k
  induction k with
  | zero => simp [level]
  | succ k ih =>
    cases k with
    | zero =>
      rw [level_one]
      refine List.Pairwise.map _ ?_ List.nodup_range
      intro a b hab h; exact hab (by simpa using h)
    | succ k =>
      rw [level_add_two]
      unfold nextLevel
      show List.Pairwise (· ≠ ·) _
      rw [List.pairwise_flatMap]
      constructor
      · intro g _
        refine List.Pairwise.map _ ?_ (nodup_childrenOf bt hn g)
        intro a b hab h; exact hab (by simpa using h)
      · refine List.Pairwise.imp ?_ ih
        intro a b hab x hx1 y hx2 hxy
        simp only [List.mem_map] at hx1 hx2
        obtain ⟨w1, _, rfl⟩ := hx1
        obtain ⟨w2, _, rfl⟩ := hx2
        have := congrArg List.dropLast hxy
        simp at this
        exact hab this

/-- the key at index `i` of level `k` -/
theorem level_getD_key (bt : BT) (bound order : Nat) (ok : BTOK bt bound order) (k i : Nat) (hk : 1 ≤ k)
    (hi : i < (level bt bound k).length) : IsKey bt ((level bt bound k).getD i []) ∧ ((level bt bound k).getD i []).length = k :=
  (mem_level bt bound order ok k hk _).mp (getD_mem [] hi)

/-- the record at index `i` of level `k`: its child range runs from the child count before it to the child count after it -/
theorem level_range (bt : BT) (bound order : Nat) (ok : BTOK bt bound order) (k i : Nat) (hk : 1 ≤ k)
    (hi : i < (level bt bound k).length) :
    rngOf bt bound ((level bt bound k).getD i []) = (startOf bt (level bt bound k) i, startOf bt (level bt bound k) (i + 1)) ∧
    startOf bt (level bt bound k) (i + 1)
      = startOf bt (level bt bound k) i + (childrenOf bt ((level bt bound k).getD i [])).length := by
  have hlen := (level_getD_key bt bound order ok k i hk hi).2
  rw [← List.getElem_eq_getD (h := hi)] at hlen ⊢
  refine ⟨?_, startOf_succ bt _ i hi⟩
  simp only [rngOf, hlen, (nodup_level bt bound ok.nodup k).idxOf_getElem i hi]
  rw [childStarts_getD _ _ i (by omega), childStarts_getD _ _ (i + 1) (by omega)]

/-- a child pointer of level `k + 1` is a position of level `k + 2` or its length -/
theorem startOf_le (bt : BT) (bound k i : Nat) : startOf bt (level bt bound (k + 1)) i ≤ (level bt bound (k + 2)).length := by
  show _ ≤ (nextLevel bt _).length
  rw [length_nextLevel]
  unfold startOf
  rw [List.take_length, List.map_take]
  exact sum_take_le _ i

theorem startOf_mono (bt : BT) (lvl : List (List Nat)) {i j : Nat} (h : i ≤ j) : startOf bt lvl i ≤ startOf bt lvl j := by
  induction h with
  | refl => exact Nat.le_refl _
  | @step j _ ih =>
    by_cases h : j < lvl.length
    · rw [startOf_succ bt lvl j h]; omega
    · have e : startOf bt lvl (j + 1) = startOf bt lvl j := by
        unfold startOf
        rw [List.take_of_length_le (by omega), List.take_of_length_le (by omega)]
      rw [e]; exact ih

theorem childStarts_length (bt : BT) (lvl : List (List Nat)) : (childStarts bt lvl).length = lvl.length + 1 := by
  unfold childStarts; rw [childStarts_fold]; simp

theorem childStarts_le (bt : BT) (bound k i : Nat) :
    (childStarts bt (level bt bound (k + 1))).getD i 0 ≤ (level bt bound (k + 2)).length := by
  by_cases h : i ≤ (level bt bound (k + 1)).length
  · rw [childStarts_getD _ _ i h]; exact startOf_le bt bound k i
  · rw [List.getD_eq_getElem?_getD, List.getElem?_eq_none (by rw [childStarts_length]; omega)]; simp

theorem childStarts_ne (bt : BT) (lvl : List (List Nat)) : childStarts bt lvl ≠ [] := by
  intro h
  have := childStarts_length bt lvl
  rw [h] at this; simp at this

theorem childStarts_getElem (bt : BT) (lvl : List (List Nat)) (i : Nat) (hi : i < (childStarts bt lvl).length) :
    (childStarts bt lvl)[i] = startOf bt lvl i := by
  have hl := childStarts_length bt lvl
  rw [List.getElem_eq_getD 0]
  exact childStarts_getD bt lvl i (by omega)

theorem childStarts_mono (bt : BT) (lvl : List (List Nat)) : (childStarts bt lvl).Pairwise (· ≤ ·) := by
  rw [List.pairwise_iff_getElem]
  intro i j hi hj hij
  rw [childStarts_getElem, childStarts_getElem]
  exact startOf_mono bt lvl (Nat.le_of_lt hij)

theorem childStarts_last (bt : BT) (bound k : Nat) :
    (childStarts bt (level bt bound (k + 1))).getLast (childStarts_ne bt _) = (level bt bound (k + 2)).length := by
  show _ = (nextLevel bt _).length
  rw [List.getLast_eq_getElem, childStarts_getElem, length_nextLevel]
  congr 1
  rw [childStarts_length]; omega

theorem level1_length (bt : BT) (bound : Nat) : (level bt bound 1).length = bound := by simp [level_one]

theorem level_getD_length (bt : BT) (bound order : Nat) (ok : BTOK bt bound order) (k i : Nat) (hk : 1 ≤ k)
    (hi : i < (level bt bound k).length) : ((level bt bound k).getD i []).length = k :=
  (level_getD_key bt bound order ok k i hk hi).2

theorem level_word_lt (bt : BT) (bound order : Nat) (ok : BTOK bt bound order) (k i : Nat) (hk : 1 ≤ k)
    (hi : i < (level bt bound k).length) : ((level bt bound k).getD i []).getLast?.getD 0 < bound := by
  obtain ⟨⟨p, hp, e⟩, hl⟩ := level_getD_key bt bound order ok k i hk hi
  have hne : (level bt bound k).getD i [] ≠ [] := by intro e'; rw [e'] at hl; simp at hl; omega
  rw [List.getLast?_eq_some_getLast hne, Option.getD_some]
  exact ok.words p hp _ (by rw [e]; exact List.getLast_mem hne)

def ValsOK (bt : BT) : Prop := ∀ p ∈ bt, p.2.1 < 2^32 ∧ p.2.2 < 2^32

theorem valuesOf_of_lookup {bt : BT} {g : List Nat} {v : Nat × Nat} (h : bt.lookup g = some v) : valuesOf bt g = v := by
  unfold valuesOf; rw [h]; rfl

theorem valuesOf_of_mem {bt : BT} (hn : (bt.map (·.1)).Nodup) {p : List Nat × (Nat × Nat)} (hp : p ∈ bt) : valuesOf bt p.1 = p.2 :=
  valuesOf_of_lookup (lookup_of_nodup_keys hn hp)

theorem valuesOf_lt (bt : BT) (hv : ValsOK bt) (g : List Nat) : (valuesOf bt g).1 < 2^32 ∧ (valuesOf bt g).2 < 2^32 := by
  cases h : bt.lookup g with
  | none => unfold valuesOf; rw [h]; exact ⟨Nat.two_pow_pos 32, Nat.two_pow_pos 32⟩
  | some v => rw [valuesOf_of_lookup h]; exact hv (g, v) (lookup_some_mem _ _ _ h)

theorem countsOf_cnt (bt : BT) (bound order k : Nat) (hk : k < order) :
    Binary.cnt (countsOf bt bound order) k = (level bt bound (k + 1)).length := by
  simp [Binary.cnt, countsOf, List.getD_eq_getElem?_getD, hk]

theorem countsOf_length (bt : BT) (bound order : Nat) : (countsOf bt bound order).length = order := by simp [countsOf]

theorem countsOf_cnt_zero (bt : BT) (bound order : Nat) (ho : 1 ≤ order) : Binary.cnt (countsOf bt bound order) 0 = bound := by
  rw [countsOf_cnt _ _ _ 0 ho, level1_length]

end KV.TrieLM
