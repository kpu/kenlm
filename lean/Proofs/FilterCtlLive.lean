import Proofs.FilterCtlInv
import Proofs.FilterCtlShutdown
/-!
Deadlock freedom of the threaded filter (fixed code): from `Inv` and `Shutdown`, some thread is enabled in every
unfinished state (`not_deadlocked`).
-/
namespace KV.FilterCtl
open KV.Filter (Verdict)
variable {α : Type} {cfg : Cfg α} {p : List (ROp α)} {c : List (List α)} {s s' : State α}

theorem enabled_of_step {t : Tid} (ht : t ∈ allTids cfg) (h : Step cfg s t s') : enabled cfg s ≠ [] :=
  List.ne_nil_of_mem (List.mem_filter.mpr ⟨ht, by rw [h.to_step]; rfl⟩)

theorem reader_enabled (h : Step cfg s .reader s') : enabled cfg s ≠ [] :=
  enabled_of_step List.mem_cons_self h

theorem outw_enabled (h : Step cfg s .outw s') : enabled cfg s ≠ [] :=
  enabled_of_step (List.mem_cons_of_mem _ List.mem_cons_self) h

theorem worker_enabled (hl : Shutdown cfg s) {i : Nat} {w : WSt α} (hw : s.workers[i]? = some w)
    (h : Step cfg s (.worker i) s') : enabled cfg s ≠ [] :=
  have hi : i < cfg.workers := hl.nworkers ▸ (List.getElem?_eq_some_iff.mp hw).1
  enabled_of_step (List.mem_cons_of_mem _ (List.mem_cons_of_mem _ (List.mem_map.mpr ⟨i, List.mem_range.mpr hi, rfl⟩))) h

theorem reader_run_enabled {top : Batch α} {lr : List (Batch α)} (hr : s.rpc = .run)
    (hlr : s.localRead = top :: lr) (hroom : s.filterQ.length < cfg.queue) : enabled cfg s ≠ [] := by
  cases hp : s.prog with
  | nil => exact reader_enabled (.finish hr hp)
  | cons o rest =>
    cases o with
    | emit m => exact reader_enabled (.emit hr hp)
    | add x =>
      by_cases hfull : (top.input ++ [x]).length = cfg.batchSize
      · cases lr with
        | nil => exact reader_enabled (.addLast hr hp hlr hfull hroom)
        | cons t2 lr2 => exact reader_enabled (.addNext hr hp hlr (List.cons_ne_nil _ _) hfull hroom)
      · exact reader_enabled (.add hr hp hlr hfull)
    | flush =>
      by_cases hemp : top.input = []
      · exact reader_enabled (.flushEmpty hr hp hlr hemp)
      · exact reader_enabled (.flushSend hr hp hlr hemp hroom)

theorem worker_put_enabled
    (hi : Inv cfg p c s) (hl : Shutdown cfg s) (hnd : nones s.doneQ = 0) {b : Batch α} (hb : b ∈ held s.workers) :
    enabled cfg s ≠ [] := by
  obtain ⟨i, hw⟩ := List.getElem?_of_mem (mem_held.mp hb)
  have hroom : s.doneQ.length < cfg.queue := by
    have h1 := length_eq_somes_add_nones s.doneQ
    have h2 := hi.count
    have h3 : 0 < (held s.workers).length := List.length_pos_of_mem hb
    omega
  exact worker_enabled hl hw (.put hw hroom)

theorem worker_take_enabled (hl : Shutdown cfg s) (hh : held s.workers = [])
    (hex : exitedCount s.workers < s.workers.length) (hq : s.filterQ ≠ []) : enabled cfg s ≠ [] := by
  obtain ⟨i, hw⟩ := exists_idle hh hex
  cases hf : s.filterQ with
  | nil => exact absurd hf hq
  | cons x q =>
    cases x with
    | none => exact worker_enabled hl hw (.exit hw hf)
    | some b => exact worker_enabled hl hw (.take hw hf)

theorem outw_ready (hoe : s.oExited = false) (hroom : s.toRead.length < cfg.queue)
    (h : s.doneQ ≠ [] ∨ ∃ b rest, s.ordering = some b :: rest) : enabled cfg s ≠ [] := by
  by_cases hfront : ∃ b rest, s.ordering = some b :: rest
  · obtain ⟨b, rest, hord⟩ := hfront
    exact outw_enabled (.write hoe hord hroom)
  · have hfront : ∀ b rest, s.ordering ≠ some b :: rest := fun b rest e => hfront ⟨b, rest, e⟩
    cases hd : s.doneQ with
    | nil => exact absurd hd (h.resolve_right (fun ⟨b, rest, e⟩ => hfront b rest e))
    | cons y q =>
      cases y with
      | none => exact outw_enabled (.stop hoe hfront hd)
      | some b => exact outw_enabled (.file hoe hfront hd)

/-- while batches are on their way and the reader waits, a worker or the output worker can move:
the oldest batch is held by a worker, waits in a queue, or stands at the front of `ordering_` -/
theorem pipeline_enabled (hq : 1 ≤ cfg.queue) (hw : 1 ≤ cfg.workers)
    (hi : Inv cfg p c s) (hl : Shutdown cfg s)
    (hnd : nones s.doneQ = 0) (hex : exitedCount s.workers = 0) (hoe : s.oExited = false)
    (htr : s.toRead = []) (hne : c ≠ []) : enabled cfg s ≠ [] := by
  have hroom : s.toRead.length < cfg.queue := by rw [htr]; exact hq
  obtain ⟨b, hb, hbs⟩ := hi.pipe.flight.exists_base hne
  rcases List.mem_append.mp hb with hb | hb
  · cases hh : held s.workers with
    | cons b' r => exact worker_put_enabled hi hl hnd (by rw [hh]; exact List.mem_cons_self)
    | nil =>
      refine worker_take_enabled hl hh (by rw [hex, hl.nworkers]; omega) fun hf => ?_
      rw [hh, hf] at hb; cases hb
  · refine outw_ready hoe hroom ?_
    rcases List.mem_append.mp hb with hb | hb
    · exact .inl fun hd => by rw [hd] at hb; cases hb
    · obtain ⟨i, hidx⟩ := mem_somes_idx hb
      have := hi.pipe.slots i b hidx
      obtain rfl : i = 0 := by omega
      cases ho : s.ordering with
      | nil => rw [ho] at hidx; cases hidx
      | cons x rest => rw [ho] at hidx; cases hidx; exact .inr ⟨b, rest, rfl⟩

/-- Who can move, by reader state.  `run`: the reader (its batch is not in `filter_.in_`, so there is room).  Waiting
with `to_read_` empty: the oldest pending batch is somewhere between a worker and the front of `ordering_`
(`pipeline_enabled`).  `poisonW`: the reader while there is room, else an idle worker takes what heads the queue;
with all poisons sent a worker that has not exited has one waiting for it.  `poisonO`: the reader (`output_.in_` is
empty).  `joinO`: the output worker takes its poison. -/
theorem not_deadlocked (hq : 1 ≤ cfg.queue) (hw : 1 ≤ cfg.workers)
    (hi : Inv cfg p c s) (hl : Shutdown cfg s) : ¬ Deadlocked cfg s := by
  rintro ⟨hnd, hen⟩
  refine absurd hen ?_
  have hcl := hl.clause
  have hwf := hi.wfRest
  cases hr : s.rpc with
  | done => exact absurd hr hnd
  | run =>
    rw [hr] at hcl
    obtain ⟨top, lr, hlr, _⟩ := hi.top hr
    refine reader_run_enabled hr hlr ?_
    have h1 := length_eq_somes_add_nones s.filterQ
    have := hcl.noPoisonW
    have hcnt := hi.count
    rw [hlr] at hcnt
    simp only [List.length_cons] at hcnt
    omega
  | waitOne =>
    rw [hr] at hcl hwf
    cases htr : s.toRead with
    | cons b tr =>
      exact reader_enabled (.getOne hr htr)
    | nil =>
      refine pipeline_enabled hq hw hi hl hcl.noPoisonO hcl.noneExited hcl.outAlive htr fun hc => ?_
      have ht := hi.home.total
      rw [hwf.noBatch, htr, hc] at ht
      rw [← ht] at hq
      exact Nat.not_succ_le_zero 0 hq
  | waitAll =>
    rw [hr] at hcl
    by_cases hlen : s.localRead.length < cfg.queue
    · cases htr : s.toRead with
      | cons b tr =>
        exact reader_enabled (.getAll hr hlen htr)
      | nil =>
        refine pipeline_enabled hq hw hi hl hcl.noPoisonO hcl.noneExited hcl.outAlive htr fun hc => ?_
        have ht := hi.home.total
        rw [htr, hc] at ht
        rw [← ht] at hlen
        exact Nat.lt_irrefl _ hlen
    · exact reader_enabled (.resume hr hlen)
  | poisonW k =>
    rw [hr] at hcl hwf
    obtain ⟨_, hh, _, _⟩ := (hi.home.full hwf.allHome ▸ hi.pipe).empty
    cases k with
    | zero =>
      by_cases hall : s.workers.all WSt.isExited = true
      · exact reader_enabled (.joinW hr hall)
      · have hne : exitedCount s.workers ≠ s.workers.length := fun h => hall ((all_exited_iff _).mpr h)
        have hle := exitedCount_le_length s.workers
        apply worker_take_enabled hl hh (by omega)
        intro hf
        rw [hf] at hcl
        have := hcl.sent; have := hl.nworkers; simp only [nones_nil] at *; omega
    | succ k =>
      by_cases hroom : s.filterQ.length < cfg.queue
      · exact reader_enabled (.poisonW hr hroom)
      · have := hcl.sent
        apply worker_take_enabled hl hh (by have := hl.nworkers; omega)
        intro hf
        rw [hf] at hroom; simp at hroom; omega
  | poisonO =>
    rw [hr] at hcl hwf
    obtain ⟨_, _, hd, _⟩ := (hi.home.full hwf.allHome ▸ hi.pipe).empty
    have hroom : s.doneQ.length < cfg.queue := by
      have h1 := length_eq_somes_add_nones s.doneQ
      have := hcl.noPoisonO
      rw [hd] at h1; simp only [List.length_nil] at h1
      omega
    exact reader_enabled (.poisonO hr hroom)
  | joinO =>
    rw [hr] at hcl hwf
    by_cases hoe : s.oExited = true
    · exact reader_enabled (.joinO hr hoe)
    · have hoe' : s.oExited = false := by simpa using hoe
      have ht0 : s.toRead.length < cfg.queue := by
        have ht := hi.home.total; rw [hwf.allHome] at ht; omega
      refine outw_ready hoe' ht0 (.inl fun hd => ?_)
      rw [hoe', hd] at hcl
      rcases hcl.out with ⟨h, _⟩ | ⟨_, h⟩
      · cases h
      · cases h

end KV.FilterCtl
