import Proofs.FilterCtlStep
/-!
The no-reallocation invariant of `InputBuffer`: `Controller` reserves `batch_size` lines per batch
(`ThreadBatch::Reserve`), every `Line` keeps a `StringPiece` into its own `std::string`, so
`lines_` must never grow beyond the reservation.  In the model: whenever the reader is about to
execute `AddNGram`, the current batch holds fewer than `batch_size` lines.
-/
namespace KV.FilterCtl
variable {α : Type}

def CurBelow (cfg : Cfg α) (s : State α) : Prop :=
  s.rpc = .run → ∀ top lr, s.localRead = top :: lr → top.input.length < cfg.batchSize

theorem curBelow_newInput (cfg : Cfg α) (hb : 1 ≤ cfg.batchSize) (s : State α) : CurBelow cfg (newInput cfg s) := by
  intro _ top lr h
  rcases newInput_cases cfg s with ⟨h0, e⟩ | ⟨_, _, _, e⟩ <;> rw [e] at h
  · rw [h0] at h; cases h
  · cases h; exact hb

theorem curBelow_reach (cfg : Cfg α) (hb : 1 ≤ cfg.batchSize) (prog : List (ROp α)) {s : State α}
    (hr : Reach cfg prog s) : CurBelow cfg s := by
  refine hr.invariant (curBelow_newInput cfg hb _) fun s t s' h hst => ?_
  cases hst with
  | addNext | getOne | resume => exact curBelow_newInput cfg hb _
  | add hrpc _ hlr hne =>
    intro _ top' lr' hl
    cases hl
    have := h hrpc _ _ hlr
    simp only [List.length_append, List.length_cons, List.length_nil] at hne ⊢
    omega
  | emit | take | exit | put | write | stop | file => exact h
  | getAll hrpc => intro hh; rw [hrpc] at hh; cases hh
  | finish | addLast | flushEmpty | flushSend | poisonW | joinW | poisonO | joinO => intro hh; cases hh

end KV.FilterCtl
