import Proofs.InterpUnion
/-!
The linear domain of the interpolation model (C13): any field `F` with a function `E : ℚ → F` such that
`E (a + b) = E a * E b` and `E 0 = 1` (an abstract `x ↦ 10^x`).  The incremental normaliser `Zinc` of
`normalize.cc` equals the defining sum `Zdirect` (telescoping over the context), and the ARPA back-off
recursion over the written table `interpOut` evaluates to `E (usum c w) / Z c`.
-/
namespace KV.Interp

section Log
variable {W : Type} [DecidableEq W]

theorem rawScore_cons_of_not_ext (m : LM W) (y : W) (c : List W) (x : W) (h : x ∉ m.ext (y :: c)) :
    m.rawScore (y :: c) x = m.boOf (y :: c) + m.rawScore c x := by
  rw [LM.rawScore, find_eq_none_of_not_mem_ext m _ _ h]

theorem usum_cons_of_not_explicit (cs : Comps W) (y : W) (c : List W) (x : W)
    (h : x ∉ explicit cs (y :: c)) :
    usum cs (y :: c) x = usum cs c x + bsum cs (y :: c) := by
  unfold usum bsum
  rw [← List.sum_map_add]
  exact congrArg List.sum (List.map_congr_left (fun p hp => by
    rw [rawScore_cons_of_not_ext _ _ _ _ (fun hx => h (mem_explicit.2 ⟨p, hp, hx⟩))]; ring))

end Log

/-- all that the identities use of `x ↦ 10^x` on the exact log values; `E10` (Proofs/InterpReal.lean) is the real one -/
structure IsExp {F : Type} [Field F] (E : ℚ → F) : Prop where
  add : ∀ a b, E (a + b) = E a * E b
  zero : E 0 = 1

theorem IsExp.ne_zero {F : Type} [Field F] {E : ℚ → F} (hE : IsExp E) (a : ℚ) : E a ≠ 0 := by
  intro h
  have : E (a + -a) = E a * E (-a) := hE.add _ _
  rw [add_neg_cancel, hE.zero, h, zero_mul] at this
  exact one_ne_zero this

section Lin
variable {W : Type} [DecidableEq W] {F : Type} [Field F]

theorem zinc_eq_zdirect (E : ℚ → F) (hE : IsExp E) (cs : Comps W) (V : List W) (bos : W)
    (hV : V.Nodup) (hbos : bos ∈ V) (hbos0 : usum cs [] bos = 0)
    (hex : ∀ y c, ∀ x ∈ explicit cs (y :: c), x ∈ V ∧ x ≠ bos) :
    ∀ c, Zinc E cs V c = Zdirect E cs V bos c := by
  intro c
  induction c with
  | nil =>
    unfold Zinc Zdirect
    rw [sum_filter_ne (fun w => E (usum cs [] w)) bos V hV hbos, hbos0, hE.zero]
    ring
  | cons y c ih =>
    unfold Zinc
    rw [ih]
    unfold Zdirect
    -- off the explicit words every component backs off once; on them the difference is added
    rw [sum_split (fun w => E (usum cs (y :: c) w)) (fun w => E (usum cs c w + bsum cs (y :: c)))
      (V.filter (fun w => decide (w ≠ bos))) (explicit cs (y :: c)) (hV.filter _) (nodup_explicit _ _)
      (fun x hx => List.mem_filter.2 ⟨(hex y c x hx).1, decide_eq_true (hex y c x hx).2⟩)
      (fun w _ hw => by rw [usum_cons_of_not_explicit cs y c w hw]),
      ← List.sum_map_mul_left]
    congr 2
    apply List.map_congr_left
    intro w _
    rw [hE.add, mul_comm]

end Lin

section Out
variable {W : Type} [DecidableEq W] {F : Type} [Field F]

theorem map_interpOut (E : ℚ → F) (cs : Comps W) (V : List W) :
    (interpOut E cs V).map (fun e => (e.ctx, e.word)) = unionGrams cs := by
  unfold interpOut
  rw [List.map_map]
  exact (List.map_congr_left (fun g _ => rfl)).trans (List.map_id _)

theorem outFind_interpOut_of_mem (E : ℚ → F) (cs : Comps W) (V : List W) (c : List W) (w : W)
    (h : (c, w) ∈ unionGrams cs) :
    ∃ e, outFind (interpOut E cs V) c w = some e ∧ e.p = pOut E cs V c w := by
  unfold outFind interpOut
  rw [List.find?_map]
  cases hf : (unionGrams cs).find? _ with
  | none => exact absurd (decide_eq_true ⟨rfl, rfl⟩) (List.find?_eq_none.1 hf (c, w) h)
  | some g =>
    have hp := List.find?_some hf
    obtain ⟨rfl, rfl⟩ : g.1 = c ∧ g.2 = w := of_decide_eq_true hp
    exact ⟨_, rfl, rfl⟩

theorem outFind_interpOut_of_not_mem (E : ℚ → F) (cs : Comps W) (V : List W) (c : List W) (w : W)
    (h : (c, w) ∉ unionGrams cs) :
    outFind (interpOut E cs V) c w = none := by
  unfold outFind interpOut
  rw [List.find?_map, List.find?_eq_none.2 (fun g hg hp => h (by
    obtain ⟨h1, h2⟩ : g.1 = c ∧ g.2 = w := of_decide_eq_true hp
    rw [← h1, ← h2]
    exact hg))]
  rfl


theorem outBo_interpOut (E : ℚ → F) (cs : Comps W) (V : List W) (hpc : PrefixClosedD cs)
    (y : W) (c : List W) :
    outBo (interpOut E cs V) (y :: c) =
      if (explicit cs (y :: c)).isEmpty then 1 else boSame E cs V (y :: c) := by
  unfold outBo
  cases hf : (interpOut E cs V).find? (fun e => decide (e.gram = y :: c)) with
  | some e =>
    have hm := List.mem_of_find?_eq_some hf
    have hp := List.find?_some hf
    simp only [decide_eq_true_eq] at hp
    unfold interpOut at hm
    rw [List.mem_map] at hm
    obtain ⟨g, _, rfl⟩ := hm
    simp only [OutEntry.gram] at hp
    simp only [hp]
  | none =>
    -- a context with an extension is itself written, so a missing entry means no extension
    have hne : (explicit cs (y :: c)).isEmpty = true := by
      by_contra hcon
      have hne : explicit cs (y :: c) ≠ [] := by
        intro h0; rw [h0] at hcon; simp at hcon
      obtain ⟨g, hg, hgram⟩ := List.mem_map.1 (mem_unionN_of_explicit hpc (List.cons_ne_nil y c) hne)
      rw [List.find?_eq_none] at hf
      apply hf _ (List.mem_map.2 ⟨g, hg, rfl⟩)
      simp [OutEntry.gram, hgram]
    simp [hne]

theorem outScore_interpOut (E : ℚ → F) (hE : IsExp E) (cs : Comps W) (V : List W)
    (hpc : PrefixClosedD cs) (hZ : ∀ c, Zinc E cs V c ≠ 0) (w : W) (hw : ([], w) ∈ unionGrams cs) :
    ∀ c, outScore (interpOut E cs V) c w = E (usum cs c w) / Zinc E cs V c := by
  intro c
  induction c with
  | nil =>
    obtain ⟨e, he, hp⟩ := outFind_interpOut_of_mem E cs V [] w hw
    rw [outScore, he]
    exact hp
  | cons y c ih =>
    by_cases hm : (y :: c, w) ∈ unionGrams cs
    · obtain ⟨e, he, hp⟩ := outFind_interpOut_of_mem E cs V (y :: c) w hm
      rw [outScore, he]
      exact hp
    · rw [outScore, outFind_interpOut_of_not_mem E cs V _ _ hm]
      simp only
      rw [ih, outBo_interpOut E cs V hpc]
      have hx : w ∉ explicit cs (y :: c) := fun h => hm (mem_unionGrams_iff_explicit.2 h)
      rw [usum_cons_of_not_explicit cs y c w hx, hE.add]
      have hB := hE.ne_zero (bsum cs (y :: c))
      have hZc := hZ c
      by_cases hemp : (explicit cs (y :: c)).isEmpty = true
      · -- no explicit word: `Z(y :: c) = 10^B · Z(c)` and the back-off written is 1
        have hz : Zinc E cs V (y :: c) = E (bsum cs (y :: c)) * Zinc E cs V c := by
          rw [Zinc, List.isEmpty_iff.1 hemp, List.map_nil, List.sum_nil, add_zero]
        rw [if_pos hemp, hz, one_mul, mul_comm (E (usum cs c w)), mul_div_mul_left _ _ hB]
      · rw [if_neg hemp, boSame, div_mul_div_comm, mul_right_comm, mul_comm (E (bsum cs (y :: c))),
          mul_div_mul_right _ _ hZc]

end Out

end KV.Interp
