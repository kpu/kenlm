import Proofs.TrieBuildInput
import Proofs.TrieOfTable
/-! The bit table the trie builder hands to the fold `ofTable` (`genTable`: the records in visit order with the extension marks of
`WriteEntries`, then the blanks with their summed probability and their message mark), under the outcome `PassOut` of the pass:
its keys and lookups, which keys have a child (`extendsLeft`), which back-offs get marked (`isContext`), that it is a well-formed bit
table (`BTOK`, `ValsOK`); and the `<unk>` fix-up `fixUnk`, which changes the record of `[0]` and nothing else. -/
namespace KV.TrieBuild
open KV.Arpa KV.Table KV.TrieLM KV.Score

/-! `TrieBuild.buildTable` (Model/TrieBuild.lean) computes its table from local `let`s; `ctxsOf`, `msgsOf`, `markedBG`, `genTable` name
them (`ctxs`, `msgs`, the back-off bits of a `real` record, `table`) as functions of the visit order and the blanks, so that lemmas can
be stated about each; `buildTable_passOut` ties them back to `buildTable` by unfolding.  `closedTable` is `genTable` without blanks. -/

/-- `ctxs`: contexts of the real entries of order ≥ 2 -/
def ctxsOf (sorted : List Gram) : List (List Word) := sorted.filterMap fun g => if g.key.length ≥ 2 then some (g.key.drop 1) else none

/-- `msgs`: the contexts the blanks ask for their back-off (`SRISucks::Send`) -/
def msgsOf (blanks : List Blank) : List (List Word) := blanks.flatMap messageKeys

/-- the back-off bits `WriteEntries` stores for a real record `g`: 0 at the top order, and `-0.0` turned into `+0.0` when `g` is marked -/
def markedBG (order : Nat) (sorted : List Gram) (blanks : List Blank) (g : List Word) (b : Nat) : Nat :=
  if g.length = order then 0
  else if b = minusZero ∧ ((ctxsOf sorted).contains g ∨ (msgsOf blanks).contains g) then plusZero else b

def genTable (fadd : Nat → Nat → Nat) (order : Nat) (sorted : List Gram) (blanks : List Blank) : BT :=
  sorted.map (fun g => (g.key, (g.prob, markedBG order sorted blanks g.key g.backoff))) ++
  blanks.map (fun b => (b.key, (blankProb fadd sorted b, if (msgsOf blanks).contains b.key then plusZero else minusZero)))

def closedTable (order : Nat) (sorted : List Gram) : BT :=
  sorted.map fun g => (g.key, (g.prob, markedBG order sorted [] g.key g.backoff))

theorem genTable_nil (fadd : Nat → Nat → Nat) (order : Nat) (sorted : List Gram) :
    genTable fadd order sorted [] = closedTable order sorted := List.append_nil _

variable {fval : Nat → Rat} {a : Arpa} {bound : Nat} {P B : List Word → Nat} {sorted : List Gram} {blanks : List Blank}

theorem buildTable_passOut (fadd : Nat → Nat → Nat) (keys : ArpaKeys a bound) :
    ∃ st b, visitAll (visitOrder (gramsOf a P B)) = .ok st ∧
      PassOut a bound P B (visitOrder (gramsOf a P B)) st.blanks ∧
      buildTable fadd a.order (gramsOf a P B) = .ok b ∧
      b.table = genTable fadd a.order (visitOrder (gramsOf a P B)) st.blanks ∧ b.blanks = st.blanks := by
  obtain ⟨st, hst, po⟩ := visit_passOut (P := P) (B := B) keys
  obtain ⟨hdup, hctx⟩ := visitOrder_checks (P := P) (B := B) keys.wf keys.nodup
  unfold buildTable
  simp only [hdup, Bool.false_eq_true, if_false, hst, hctx]
  exact ⟨st, _, rfl, po, rfl, rfl, rfl⟩

theorem mem_genTable {fadd : Nat → Nat → Nat} {order : Nat} {p : List Word × (Nat × Nat)} :
    p ∈ genTable fadd order sorted blanks ↔
      (∃ r ∈ sorted, p = (r.key, (r.prob, markedBG order sorted blanks r.key r.backoff))) ∨
      ∃ b ∈ blanks, p = (b.key, (blankProb fadd sorted b, if (msgsOf blanks).contains b.key then plusZero else minusZero)) := by
  simp only [genTable, List.mem_append, List.mem_map, eq_comm]

theorem genTable_keys (fadd : Nat → Nat → Nat) (order : Nat) (sorted : List Gram) (blanks : List Blank) :
    (genTable fadd order sorted blanks).map (·.1) = sorted.map (·.key) ++ blanks.map (·.key) := by
  simp only [genTable, List.map_append, List.map_map]
  rfl

theorem PassOut.table_nodup (po : PassOut a bound P B sorted blanks) (fadd : Nat → Nat → Nat) :
    ((genTable fadd a.order sorted blanks).map (·.1)).Nodup := by
  rw [genTable_keys, List.nodup_append]
  refine ⟨po.recs.nodup, po.blank_nodup, ?_⟩
  rintro k hk1 _ hk2 rfl
  obtain ⟨r, hr, rfl⟩ := List.mem_map.mp hk1
  exact po.recs.real_of_mem hr ((po.blank_key _).mp (List.mem_map.mp hk2)).1

theorem PassOut.isKey (po : PassOut a bound P B sorted blanks) (fadd : Nat → Nat → Nat) (g : List Word) :
    IsKey (genTable fadd a.order sorted blanks) g ↔ (a.gram g ≠ none ∨ IsBlankKey a g) := by
  rw [isKey_iff_mem, genTable_keys, List.mem_append, List.mem_map, List.mem_map, po.blank_key]
  refine or_congr_left ⟨?_, fun hg => ⟨_, po.recs.mem_real hg, rfl⟩⟩
  rintro ⟨r, hr, rfl⟩
  exact po.recs.real_of_mem hr

theorem PassOut.lookup_real (po : PassOut a bound P B sorted blanks) (fadd : Nat → Nat → Nat) {g : List Word} (hg : a.gram g ≠ none) :
    (genTable fadd a.order sorted blanks).lookup g = some (P g, markedBG a.order sorted blanks g (B g)) := by
  exact KV.lookup_of_nodup_keys (po.table_nodup fadd) (mem_genTable.mpr (.inl ⟨_, po.recs.mem_real hg, rfl⟩))

theorem PassOut.lookup_blank (po : PassOut a bound P B sorted blanks) (fadd : Nat → Nat → Nat) {b : Blank} (hb : b ∈ blanks) :
    (genTable fadd a.order sorted blanks).lookup b.key
      = some (blankProb fadd sorted b, if (msgsOf blanks).contains b.key then plusZero else minusZero) := by
  exact KV.lookup_of_nodup_keys (po.table_nodup fadd) (mem_genTable.mpr (.inr ⟨b, hb, rfl⟩))

theorem PassOut.lookup_none (po : PassOut a bound P B sorted blanks) (fadd : Nat → Nat → Nat) {g : List Word} (hr : a.gram g = none)
    (hb : ¬ IsBlankKey a g) : (genTable fadd a.order sorted blanks).lookup g = none := by
  refine Classical.not_not.mp fun h => ?_
  rcases (po.isKey fadd g).mp ((lookup_ne_none_iff _ g).mp h) with h1 | h1
  · exact h1 hr
  · exact hb h1

theorem mem_msgsOf (blanks : List Blank) (g : List Word) :
    g ∈ msgsOf blanks ↔ ∃ b ∈ blanks, ∃ i, b.basedOn ≤ i ∧ i < b.key.length ∧ g = (b.key.drop 1).take i := by
  simp only [msgsOf, List.mem_flatMap, messageKeys, List.mem_map, List.mem_range'_1]
  constructor
  · rintro ⟨b, hb, i, ⟨h1, h2⟩, rfl⟩
    exact ⟨b, hb, i, h1, by omega, rfl⟩
  · rintro ⟨b, hb, i, h1, h2, rfl⟩
    exact ⟨b, hb, i, ⟨h1, by omega⟩, rfl⟩

theorem mem_ctxsOf (sorted : List Gram) (g : List Word) :
    g ∈ ctxsOf sorted ↔ ∃ r ∈ sorted, 2 ≤ r.key.length ∧ r.key.drop 1 = g := by
  simp only [ctxsOf, List.mem_filterMap]
  constructor
  · rintro ⟨r, hr, h⟩
    split at h
    · rename_i hl; exact ⟨r, hr, hl, Option.some.inj h⟩
    · cases h
  · rintro ⟨r, hr, hl, rfl⟩
    exact ⟨r, hr, by rw [if_pos hl]⟩

theorem PassOut.marks (po : PassOut a bound P B sorted blanks) (g : List Word) (hg : g ≠ []) :
    (g ∈ ctxsOf sorted ∨ g ∈ msgsOf blanks) ↔ isContext a g = true := by
  rw [isContext_iff_key]
  constructor
  · rintro (h | h)
    · obtain ⟨r, hr, hl, rfl⟩ := (mem_ctxsOf _ _).mp h
      obtain ⟨x, t, hxt⟩ := List.exists_cons_of_length_pos (Nat.lt_of_lt_of_le Nat.zero_lt_two hl)
      exact ⟨x, r.key, po.recs.real_of_mem hr, by rw [hxt]; exact List.prefix_refl _⟩
    · -- the blank `x :: t` that sends the message is a prefix of an n-gram `q`, and `g` is a prefix of `t`
      obtain ⟨b, hb, i, _, _, rfl⟩ := (mem_msgsOf _ _).mp h
      obtain ⟨hne, q, hq, hpre⟩ := (tableKey_iff_prefix po.keys _).mp (.inr ((po.blank_key _).mp ⟨b, hb, rfl⟩))
      obtain ⟨x, t, hxt⟩ := List.exists_cons_of_ne_nil hne
      rw [hxt] at hpre ⊢
      exact ⟨x, q, hq, ((List.prefix_cons_inj x).mpr (List.take_prefix i t)).trans hpre⟩
  · -- `x :: g` is an n-gram with context `g`, or a blank that sends a message to `g`
    rintro ⟨x, q, hq, hpre⟩
    rcases (tableKey_iff_prefix po.keys (x :: g)).mpr ⟨List.cons_ne_nil x g, q, hq, hpre⟩ with hr | hbk
    · exact .inl ((mem_ctxsOf _ _).mpr ⟨_, po.recs.mem_real hr, Nat.succ_le_succ (List.length_pos_iff.mpr hg), rfl⟩)
    · obtain ⟨b, hb, hbx⟩ := (po.blank_key _).mpr hbk
      have hj := (po.blank_basis b hb).lt
      rw [hbx] at hj
      exact .inr ((mem_msgsOf _ _).mpr ⟨b, hb, g.length, Nat.le_of_lt_succ hj, by rw [hbx]; exact Nat.lt_succ_self _,
        by rw [hbx]; exact (List.take_length).symm⟩)

theorem PassOut.children (po : PassOut a bound P B sorted blanks) (fadd : Nat → Nat → Nat) (g : List Word) :
    (!(childrenOf (genTable fadd a.order sorted blanks) g).isEmpty) = extendsLeft a g := by
  apply Bool.eq_iff_iff.mpr
  rw [extendsLeft_iff_child, Bool.not_eq_true', List.isEmpty_eq_false_iff_exists_mem]
  simp only [mem_childrenOf, po.isKey, tableKey_iff_prefix po.keys]
  exact exists_congr fun w => and_iff_right (by simp)

theorem PassOut.btok (po : PassOut a bound P B sorted blanks) (fadd : Nat → Nat → Nat) :
    BTOK (genTable fadd a.order sorted blanks) bound a.order := by
  have hkey : ∀ p ∈ genTable fadd a.order sorted blanks, p.1 ≠ [] ∧ ∃ q, a.gram q ≠ none ∧ p.1 <+: q :=
    fun p hp => (tableKey_iff_prefix po.keys p.1).mp ((po.isKey fadd p.1).mp ⟨p, hp, rfl⟩)
  refine ⟨po.keys.wf.order_ge, po.table_nodup fadd, ?_, ?_, ?_, ?_⟩
  · intro p hp
    obtain ⟨hne, q, hq, hpre⟩ := hkey p hp
    exact ⟨List.length_pos_iff.mpr hne, Nat.le_trans hpre.length_le (po.keys.wf.len_le q hq)⟩
  · intro p hp w hw
    obtain ⟨_, q, hq, hpre⟩ := hkey p hp
    exact po.keys.word_lt hq (hpre.subset hw)
  · intro w hw
    exact (po.isKey fadd [w]).mpr (.inl (po.keys.unigrams w hw))
  · intro p hp h2
    obtain ⟨_, q, hq, hpre⟩ := hkey p hp
    rw [po.isKey, tableKey_iff_prefix po.keys]
    refine ⟨fun e => ?_, q, hq, (List.dropLast_prefix _).trans hpre⟩
    have := congrArg List.length e
    rw [List.length_dropLast, List.length_nil] at this
    omega

theorem genTable_vals (fadd : Nat → Nat → Nat) (order : Nat) (sorted : List Gram) (blanks : List Blank)
    (hr : ∀ r ∈ sorted, r.prob < 2^32 ∧ r.backoff < 2^32) (hb : ∀ b ∈ blanks, blankProb fadd sorted b < 2^32) :
    ValsOK (genTable fadd order sorted blanks) := by
  intro p hp
  rcases mem_genTable.mp hp with ⟨r, hr', rfl⟩ | ⟨b, hb', rfl⟩
  · refine ⟨(hr r hr').1, ?_⟩
    simp only [markedBG]
    split
    · decide
    · split
      · decide
      · exact (hr r hr').2
  · refine ⟨hb b hb', ?_⟩
    dsimp only
    split <;> decide

theorem fixUnk_some (u : Nat) (T : BT) :
    fixUnk (some u) T = T.map fun p => (p.1, if p.1 = [0] then (u, plusZero) else p.2) := by
  refine List.map_congr_left fun p _ => ?_
  split <;> rfl

theorem fixUnk_keys (u : Option Nat) (T : BT) : (fixUnk u T).map (·.1) = T.map (·.1) := by
  cases u with
  | none => rfl
  | some u => rw [fixUnk_some, List.map_map]; rfl

theorem childrenOf_fixUnk (u : Option Nat) (T : BT) (g : List Nat) : childrenOf (fixUnk u T) g = childrenOf T g :=
  childrenOf_congr (fixUnk_keys u T) g

theorem entryOf_fixUnk (u : Option Nat) (T : BT) (order : Nat) (g : List Nat) :
    entryOf fval (fixUnk u T) order g = entryOf fval T order g := by
  funext v
  unfold entryOf
  rw [childrenOf_fixUnk]

theorem lookup_fixUnk_some (u : Nat) (T : BT) (g : List Nat) :
    (fixUnk (some u) T).lookup g = if g = [0] then (T.lookup g).map (fun _ => (u, plusZero)) else T.lookup g := by
  rw [fixUnk_some, lookup_map fun k v => if k = [0] then (u, plusZero) else v]
  by_cases h : g = [0]
  · simp only [h, if_true]
  · simp only [h, if_false, Option.map_id']

theorem lookup_fixUnk_ne (u : Option Nat) (T : BT) (g : List Nat) (h : u = none ∨ g ≠ [0]) :
    (fixUnk u T).lookup g = T.lookup g := by
  cases u with
  | none => rfl
  | some u =>
    rw [lookup_fixUnk_some]
    rcases h with h | h
    · cases h
    · simp [h]

theorem mem_fixUnk (u : Option Nat) (T : BT) (p : List Word × (Nat × Nat)) (hp : p ∈ fixUnk u T) :
    (∃ x, u = some x ∧ p = ([0], (x, plusZero))) ∨ p ∈ T := by
  cases u with
  | none => exact .inr hp
  | some x =>
    rw [fixUnk_some, List.mem_map] at hp
    obtain ⟨q, hq, rfl⟩ := hp
    by_cases h0 : q.1 = [0]
    · exact .inl ⟨x, rfl, by rw [if_pos h0, h0]⟩
    · exact .inr (by rw [if_neg h0]; exact hq)

theorem fixUnk_btok (u : Option Nat) (T : BT) (bound order : Nat) (ok : BTOK T bound order) : BTOK (fixUnk u T) bound order :=
  ok.congr (fixUnk_keys u T).symm

theorem fixUnk_vals (u : Option Nat) (T : BT) (hu : ∀ x, u = some x → x < 2^32) (hv : ValsOK T) : ValsOK (fixUnk u T) := by
  intro p hp
  rcases mem_fixUnk u T p hp with ⟨x, hx, rfl⟩ | hp
  · exact ⟨hu x hx, (by decide : plusZero < 2^32)⟩
  · exact hv p hp

end KV.TrieBuild
