import Proofs.PCQueueSys
/-!
Liveness of the composed step-level system, transported from the atomic system: deadlock freedom and termination
(a strictly decreasing natural-number measure for every `cstep`; interrupts are stutters and are bounded by the
explicit fairness hypothesis).  A model with a step function of its own (ThreadPool, Chain) enters through
`Presents`: the atomic system running its client program is that model, so the model's deadlock freedom and measure
carry over to the program on step-level queues.  At the end `enc`/`dec`, the coding of `Item`s as queue values
(0 = poison) that both client programs use.  Core Lean only.
-/
namespace KV.Sys
open KV.PCQueue
open KV.Chain (upd sumTo sumTo_change)

variable {σ : Type} {P : Prog σ} {c c' : CState σ} {t q : Nat}

theorem cstep_of_step (ht : t < P.nthreads)
    (hq : (c.mode t).queue = some q) (hst : pcOf (c.qs q) t ≠ .done → step (c.qs q) t ≠ none) :
    cstep P c t ≠ none := by
  by_cases hd : pcOf (c.qs q) t = .done
  · exact (CStep.ret hq hd).ne_none ht
  · cases hs : step (c.qs q) t with
    | none => exact absurd hs (hst hd)
    | some s' => exact (CStep.micro hq hd hs).ne_none ht

theorem steplevel_op_progress (h : CInv P c) (ht : t < P.nthreads)
    (hq : (c.mode t).queue = some q) (hpre : linearized (c.qs q) t = false)
    (hen : (∀ v k, c.mode t = .inP q v k → ((abs c).q q).length < P.cap q)
         ∧ (∀ k, c.mode t = .inC q k → (abs c).q q ≠ [])) :
    ∃ t', cstep P c t' ≠ none := by
  obtain ⟨th, hth⟩ := entry_of_lt h ht q
  have hinv := h.core q
  have hen' : (th.role = .prod → (absBuf (c.qs q)).length < (c.qs q).cap)
      ∧ (th.role = .cons → absBuf (c.qs q) ≠ []) := by
    rcases (h.mok t q th hq hth).cases hq with ⟨v, k, hm, -, hrole, -⟩ | ⟨k, hm, -, hrole, -⟩ <;> rw [hrole]
    · exact ⟨fun _ => h.qcap q ▸ hen.1 v k hm, nofun⟩
    · exact ⟨nofun, fun _ => hen.2 k hm⟩
  obtain ⟨t', ht'⟩ := queue_progress hinv hth ((linearized_false_iff hth).mp hpre) hen'
  -- the stepping entry belongs to a thread that is inside an operation on `q`
  obtain ⟨th', hth', hen⟩ := (step_ne_none_iff hinv).mp ht'
  have hlt : t' < P.nthreads := h.qlen q ▸ (List.getElem?_eq_some_iff.mp hth').1
  have hq' : (c.mode t').queue = some q :=
    Decidable.byContradiction fun e => hen.ne_done (pcOf_eq hth' ▸ h.rest t' q e)
  exact ⟨t', cstep_of_step hlt hq' fun _ => ht'⟩

/-- the predicate a thread waits for only holds in local states in which the awaited thread is not about to call
`Produce` / `Consume` (thread start and `join` wait for a thread that is stopped or is itself waiting) -/
def AwaitQuiet (P : Prog σ) : Prop :=
  ∀ t l p pred k lp, P.act t l = .await p pred k → pred lp = true →
    (∀ q v k', P.act p lp ≠ .produce q v k') ∧ (∀ q k', P.act p lp ≠ .consume q k')

theorem cstep_after_body (h : CInv P c) (ht : t < P.nthreads)
    (hq : (c.mode t).queue = some q) (hlin : linearized (c.qs q) t = true) : cstep P c t ≠ none := by
  obtain ⟨th, hth⟩ := entry_of_lt h ht q
  refine cstep_of_step ht hq fun hd => (step_ne_none_iff (h.core q)).mpr ⟨th, hth, .of_past ?_⟩
  rcases (linearized_iff hth).mp hlin with e | e | e
  · exact .inr (.inl e)
  · exact .inr (.inr e)
  · exact absurd (pcOf_eq hth ▸ e) hd

theorem inOp_cases (h : CInv P c) (ht : t < P.nthreads)
    (hq : (c.mode t).queue = some q) :
    cstep P c t ≠ none ∨ (linearized (c.qs q) t = false ∧ (abs c).loc t = c.loc t
      ∧ ((∃ v k, c.mode t = .inP q v k ∧ P.act t (c.loc t) = .produce q v k)
        ∨ ∃ k, c.mode t = .inC q k ∧ P.act t (c.loc t) = .consume q k)) := by
  by_cases hlin : linearized (c.qs q) t = true
  · exact Or.inl (cstep_after_body h ht hq hlin)
  · have hlin' : linearized (c.qs q) t = false := by simpa using hlin
    obtain ⟨th, hth⟩ := entry_of_lt h ht q
    refine Or.inr ⟨hlin', absLoc_pre hq hlin', ?_⟩
    rcases (h.mok t q th hq hth).cases hq with ⟨v, k, hm, ha, -⟩ | ⟨k, hm, ha, -⟩
    · exact Or.inl ⟨v, k, hm, ha⟩
    · exact Or.inr ⟨k, hm, ha⟩

theorem steplevel_no_deadlock {P : Prog σ} {c : CState σ} (h : CInv P c) (hml : ModeLt P c) (haq : AwaitQuiet P)
    (hen : ∃ t, astep P (abs c) t ≠ none) : ∃ t', cstep P c t' ≠ none := by
  obtain ⟨t, hten⟩ := hen
  have ht : t < P.nthreads := Decidable.byContradiction fun e => hten (by unfold astep; rw [if_neg e])
  -- `t` is inside an operation: past its body it goes on itself; before it the abstract operation is enabled
  have in_op : ∀ q, (c.mode t).queue = some q → ∃ t', cstep P c t' ≠ none := by
    intro q hq
    rcases inOp_cases h ht hq with hstep | ⟨hlin', hl, hact⟩
    · exact ⟨t, hstep⟩
    · refine steplevel_op_progress h ht hq hlin' ?_
      rcases hact with ⟨v, k, hmd, e⟩ | ⟨k, hmd, e⟩
      · rw [astep_produce ht (by rw [hl]; exact e)] at hten
        exact ⟨fun _ _ _ => ite_ne_none hten, fun k' e' => (by rw [hmd] at e'; cases e')⟩
      · rw [astep_consume ht (by rw [hl]; exact e)] at hten
        have hne : (abs c).q q ≠ [] := fun e' => hten (by rw [e'])
        exact ⟨fun v' k' e' => (by rw [hmd] at e'; cases e'), fun _ _ => hne⟩
  cases hm : c.mode t with
  | idle =>
    have hl := abs_loc_idle hm
    cases ha : P.act t (c.loc t) with
    | produce q v k => exact ⟨t, (CStep.callP hm ha).ne_none ht⟩
    | consume q k => exact ⟨t, (CStep.callC hm ha).ne_none ht⟩
    | tau k => exact ⟨t, (CStep.tau hm ha).ne_none ht⟩
    | stop => exact absurd (astep_stop (by rw [hl]; exact ha)) hten
    | await p pred k =>
      rw [astep_await ht (by rw [hl]; exact ha)] at hten
      have hpred : pred ((abs c).loc p) = true := ite_ne_none hten
      by_cases hmp : c.mode p = .idle
      · rw [abs_loc_idle hmp] at hpred
        exact ⟨t, (CStep.await hm ha hmp hpred).ne_none ht⟩
      · -- the awaited thread is inside an operation: by `AwaitQuiet` it is past its body
        have hp : p < P.nthreads := Decidable.byContradiction fun e => hmp (hml p (Nat.le_of_not_lt e))
        obtain ⟨q', hqp⟩ : ∃ q', (c.mode p).queue = some q' := by
          cases hc : c.mode p with
          | idle => exact absurd hc hmp
          | inP q' _ _ | inC q' _ => exact ⟨q', rfl⟩
        rcases inOp_cases h hp hqp with hstep | ⟨_, hlp, hact⟩
        · exact ⟨p, hstep⟩
        · rw [hlp] at hpred
          obtain ⟨hq1, hq2⟩ := haq t _ p pred k _ ha hpred
          rcases hact with ⟨v, k', _, e⟩ | ⟨k', _, e⟩
          · exact absurd e (hq1 _ _ _)
          · exact absurd e (hq2 _ _)
  | inP q _ _ | inC q _ => exact in_op q (by rw [hm]; rfl)

/-- the measure of the composed system: 8 × the abstract measure + the potentials of the threads.  A step that
linearises raises the potential of its thread by at most 6 (`StepRel`) while the abstract measure falls by at least 1:
the factor must exceed 6; every other step lowers a potential and leaves the abstraction alone. -/
def cmeasure (P : Prog σ) (amu : AState σ → Nat) (c : CState σ) : Nat :=
  8 * amu (abs c) + sumTo (gOf c) P.nthreads

theorem cmeasure_step {amu : AState σ → Nat} (h : CInv P c)
    (hdec : ∀ a', astep P (abs c) t = some a' → amu a' < amu (abs c))
    (hs : cstep P c t = some c') : cmeasure P amu c' < cmeasure P amu c := by
  have ht := (cstep_eq_some_iff.mp hs).1
  obtain ⟨_, hrel, hfr⟩ := sim_step h hs
  have hsum := sumTo_change (gOf c) (gOf c') ht hfr
  unfold cmeasure
  rcases hrel with ⟨he, hg⟩ | ⟨ha, hg⟩
  · rw [he]; omega
  · have := hdec _ ha
    omega

inductive Label
  | step (t : Nat)
  | intr (t : Nat)

def crun (P : Prog σ) : CState σ → List Label → Option (CState σ)
  | c, [] => some c
  | c, .step t :: ls => match cstep P c t with
    | some c' => crun P c' ls
    | none => none
  | c, .intr t :: ls => match cintr c t with
    | some c' => crun P c' ls
    | none => none

def countSteps : List Label → Nat
  | [] => 0
  | .step _ :: ls => countSteps ls + 1
  | .intr _ :: ls => countSteps ls

/-- the fairness assumption on signals, as a property of the run: no more than `E` consecutive interrupts
(finitely many EINTR per wait); `cur` = interrupts seen since the last step -/
def InterruptFair (E : Nat) : Nat → List Label → Prop
  | _, [] => True
  | _, .step _ :: ls => InterruptFair E 0 ls
  | cur, .intr _ :: ls => cur < E ∧ InterruptFair E (cur + 1) ls

theorem fair_length (E : Nat) : ∀ (ls : List Label) (cur : Nat), cur ≤ E → InterruptFair E cur ls →
    ls.length + cur ≤ countSteps ls * (E + 1) + E := by
  intro ls
  induction ls with
  | nil => intro cur hc _; simp [countSteps]; exact hc
  | cons l ls ih =>
    intro cur hc hf
    cases l with
    | step t =>
      have := ih 0 (by omega) hf
      simp only [List.length_cons, countSteps, Nat.add_mul] at this ⊢
      omega
    | intr t =>
      obtain ⟨h1, h2⟩ := hf
      have := ih (cur + 1) (by omega) h2
      simp only [List.length_cons, countSteps] at this ⊢
      omega

theorem crun_bounded {amu : AState σ → Nat} (AOK : AState σ → Prop)
    (hstep : ∀ a a' t, AOK a → astep P a t = some a' → AOK a' ∧ amu a' < amu a)
    {ls : List Label} (h : CInv P c) (hml : ModeLt P c) (ha : AOK (abs c))
    (hr : crun P c ls = some c') (E : Nat) :
    CInv P c' ∧ ModeLt P c' ∧ AOK (abs c') ∧ countSteps ls + cmeasure P amu c' ≤ cmeasure P amu c
    ∧ (InterruptFair E 0 ls → ls.length ≤ cmeasure P amu c * (E + 1) + E) := by
  have main : CInv P c' ∧ ModeLt P c' ∧ AOK (abs c') ∧ countSteps ls + cmeasure P amu c' ≤ cmeasure P amu c := by
    induction ls generalizing c with
    | nil => cases hr; exact ⟨h, hml, ha, Nat.le_of_eq (Nat.zero_add _)⟩
    | cons l ls ih =>
      cases l with
      | step t =>
        simp only [crun] at hr
        cases hs : cstep P c t with
        | none => rw [hs] at hr; cases hr
        | some c1 =>
          rw [hs] at hr
          obtain ⟨h1, hrel, _⟩ := sim_step h hs
          have ha1 : AOK (abs c1) := by
            rcases hrel with ⟨he, _⟩ | ⟨hast, _⟩
            · rw [he]; exact ha
            · exact (hstep _ _ _ ha hast).1
          have hlt := cmeasure_step (amu := amu) h (fun a' e => (hstep _ _ _ ha e).2) hs
          obtain ⟨h2, hml2, ha2, hle⟩ := ih h1 (modeLt_step hml hs) ha1 hr
          exact ⟨h2, hml2, ha2, by simp only [countSteps]; omega⟩
      | intr t =>
        simp only [crun] at hr
        cases hs : cintr c t with
        | none => rw [hs] at hr; cases hr
        | some c1 =>
          rw [hs, sim_intr hs] at hr
          exact ih h hml ha hr
  obtain ⟨h', hml', ha', hle⟩ := main
  refine ⟨h', hml', ha', hle, fun hf => ?_⟩
  have := fair_length E ls 0 (Nat.zero_le _) hf
  have : countSteps ls * (E + 1) ≤ cmeasure P amu c * (E + 1) := Nat.mul_le_mul_right _ (by omega)
  omega

variable {X : Type}

/-- The client program `P` presents the model with step function `xstep`: on the states `OK` of the atomic client
system (an invariant of it), a step of thread `t` is `xstep · t` on the denoted state, enabled in the one iff in
the other. -/
structure Presents (P : Prog σ) (xstep : X → Nat → Option X) (den : AState σ → X) (OK : AState σ → Prop) :
    Prop where
  step_eq : ∀ {a : AState σ} (t : Nat), OK a → (astep P a t).map den = xstep (den a) t
  ok_step : ∀ {a a' : AState σ} {t : Nat}, OK a → astep P a t = some a' → OK a'

/-- one leaf of a proof that a client program is a model: both sides step, to the same state, and well-formedness is
kept -/
theorem step_eq_some {den : AState σ → X} {WF : AState σ → Prop} {a' : AState σ} {x' : X}
    (hden : den a' = x') (hwf : WF a') :
    (some a').map den = some x' ∧ ∀ a'', some a' = some a'' → WF a'' :=
  ⟨congrArg some hden, fun _ e => Option.some.inj e ▸ hwf⟩

/-- the same for a guarded step whose guard is, on the other side, an equivalent one -/
theorem step_eq_ite {den : AState σ → X} {WF : AState σ → Prop} {p q : Prop} [Decidable p] [Decidable q] (hpq : p ↔ q)
    {a' : AState σ} {x' : X} (hden : den a' = x') (hwf : WF a') :
    (if p then some a' else none).map den = (if q then some x' else none)
    ∧ ∀ a'', (if p then some a' else none) = some a'' → WF a'' := by
  by_cases hp : p
  · rw [if_pos hp, if_pos (hpq.mp hp)]; exact step_eq_some hden hwf
  · rw [if_neg hp, if_neg fun h => hp (hpq.mpr h)]; exact ⟨rfl, nofun⟩

namespace Presents
variable {xstep : X → Nat → Option X} {den : AState σ → X} {OK : AState σ → Prop}

/-- `Presents` from one step equation: `OK` is well-formedness of the local states together with a predicate `R` on the
denoted state that the model's steps keep (its reachability), under which the equation holds -/
theorem of_step_eq {WF : AState σ → Prop} {R : X → Prop} (hR : ∀ {x t x'}, R x → xstep x t = some x' → R x')
    (h : ∀ {a : AState σ} (t : Nat), WF a → R (den a) →
      (astep P a t).map den = xstep (den a) t ∧ ∀ a', astep P a t = some a' → WF a') :
    Presents P xstep den (fun a => WF a ∧ R (den a)) :=
  ⟨fun t hok => (h t hok.1 hok.2).1, fun {a a' t} hok hs =>
    ⟨(h t hok.1 hok.2).2 a' hs, hR hok.2 (by rw [← (h t hok.1 hok.2).1, hs]; rfl)⟩⟩

theorem areach (hp : Presents P xstep den OK) {a0 a : AState σ} (h0 : OK a0) (hr : AReach P a0 a) : OK a := by
  induction hr with
  | init => exact h0
  | step _ hs ih => exact hp.ok_step ih hs

theorem creach (hp : Presents P xstep den OK) {loc0 : Nat → σ} (hcap : ∀ q, 0 < P.cap q) (h0 : OK (ainit loc0))
    (hr : CReach P (cinit P loc0) c) : CInv P c ∧ ModeLt P c ∧ OK (abs c) :=
  let ⟨h, hml, ha⟩ := creach_refines hcap hr
  ⟨h, hml, hp.areach h0 ha⟩

theorem no_deadlock (hp : Presents P xstep den OK) (haq : AwaitQuiet P) (h : CInv P c) (hml : ModeLt P c)
    (hok : OK (abs c)) (hen : ∃ t, xstep (den (abs c)) t ≠ none) : ∃ t, cstep P c t ≠ none := by
  obtain ⟨t, ht⟩ := hen
  refine steplevel_no_deadlock h hml haq ⟨t, fun e => ht ?_⟩
  rw [← hp.step_eq t hok, e]; rfl

theorem stuck (hp : Presents P xstep den OK) (haq : AwaitQuiet P) (h : CInv P c) (hml : ModeLt P c)
    (hok : OK (abs c)) (hmax : ∀ t, cstep P c t = none) (t : Nat) : xstep (den (abs c)) t = none := by
  cases hx : xstep (den (abs c)) t with
  | none => rfl
  | some x =>
    obtain ⟨t', ht'⟩ := hp.no_deadlock haq h hml hok ⟨t, by rw [hx]; nofun⟩
    exact absurd (hmax t') ht'

theorem run_bounded (hp : Presents P xstep den OK) (mu : X → Nat)
    (hmu : ∀ a t x', OK a → xstep (den a) t = some x' → mu x' < mu (den a))
    {ls : List Label} (h : CInv P c) (hml : ModeLt P c) (hok : OK (abs c)) (hr : crun P c ls = some c') (E : Nat) :
    CInv P c' ∧ ModeLt P c' ∧ OK (abs c')
    ∧ countSteps ls + cmeasure P (fun a => mu (den a)) c' ≤ cmeasure P (fun a => mu (den a)) c
    ∧ (InterruptFair E 0 ls → ls.length ≤ cmeasure P (fun a => mu (den a)) c * (E + 1) + E) :=
  crun_bounded OK (fun a a' t ha hs => ⟨hp.ok_step ha hs, hmu a t (den a') ha (by rw [← hp.step_eq t ha, hs]; rfl)⟩)
    h hml hok hr E

end Presents

/-! ### items as queue values, for the client programs that send `Item`s (ThreadPool, Chain) -/
open KV.Chain (Item)

/-- the queues of the composed system carry numbers: 0 stands for the poison -/
def enc : Item → Nat
  | .poison => 0
  | .val v => v + 1

def dec : Nat → Item
  | 0 => .poison
  | n + 1 => .val n

theorem dec_enc (x : Item) : dec (enc x) = x := by cases x <;> rfl

end KV.Sys
