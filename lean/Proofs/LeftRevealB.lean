import Proofs.LeftJoin
/-! `RevealBefore` (`lm/partial.hh:83-109`), revealing the right state of a preceding fragment `B` to a fragment `M`: one call
(`reveal_full = false`, one more word) seen from `M`'s left state, and the final `reveal_full` call with the assembly of the
canonical description of `B ++ M`.  The protocols made of these calls are in `LeftBoth`. -/
namespace KV.Left
open KV.Arpa KV.Table KV.State KV.Score

variable {a : Arpa} {T : Table}

/-- **the description of a fragment `F` relative to revealed context**: `bw` are the words before it, newest first (the
reversed preceding fragment), of which `k` have been revealed; `Lk` pointers are left, each including those `k` words; `pF` is
the fragment's own score and `acc` the adjustments so far.  The two-sided invariant of `LeftBoth` has this as its left-state half. -/
structure PBw (a : Arpa) (T : Table) (R : Ptr → Rat) (F : List Word) (pF : Rat) (bw : List Word) (k Lk : Nat)
    (left : LeftSt) (acc : Rat) : Prop where
  ptrs : left.pointers = (List.range Lk).map (fun i => pre F i ++ bw.take k)
  xl : ∀ i, i < Lk → T.xl (pre F i ++ bw.take k) = true
  Lk_le : Lk ≤ F.length
  bound : Lk + k ≤ a.order - 1
  score : pF + acc = psum R F (bw.take k) Lk + specSeq a (gm1 F Lk ++ bw.take k) (F.drop Lk)
  open_w : left.full = false → Lk = F.length
  closed : left.full = true → ClosedP T F (bw.take k) Lk

/-- **what one `RevealBefore` call does to the description of `F` relative to the revealed words**: with a complete left
state the back-offs of the new contexts go to the first word after it and the right state is not touched; with an open
one the right state takes up the new word if it can still matter.  The call is one `ExtendLoop` over all pointers with the
one new word `x`; `v` is the loop state after all pointers. -/
theorem revealBefore_step (H : Hyp a T) (R : Ptr → Rat) {F bw : List Word} {sB : State} {pF : Rat} (sfB : StateFor a bw sB)
    {k Lk : Nat} {left : LeftSt} {acc : Rat} (I : PBw a T R F pF bw k Lk left acc) (hk : k < sB.length) (right : State)
    (hright : right.length ≤ F.length + k) :
    ∃ (x : Word) (v : ExtendReturn) (Lk' : Nat), bw.take (k+1) = bw.take k ++ [x] ∧
      PBw a T R F pF bw (k+1) Lk' (revealBefore T R { sB with length := k + 1 } k false left right).2.1
        (acc + (revealBefore T R { sB with length := k + 1 } k false left right).1) ∧
      LoopInv a F (bw.take k) [x] 1 Lk v.nextUse v.backIn ∧
      (revealBefore T R { sB with length := k + 1 } k false left right).2.2 =
        (if left.full then right else mergedState right [x] v) ∧
      (left.full = true → (revealBefore T R { sB with length := k + 1 } k false left right).2.1.full = true) ∧
      ((revealBefore T R { sB with length := k + 1 } k false left right).2.1.full = false → v.nextUse = 1) := by
  have hord : T.order = a.order := H.tf.order_eq
  have hN2 := H.wf.order_ge
  have hnb : sB.length ≤ bw.length := sfB.len_le_h
  have hnbN : sB.length ≤ a.order - 1 := sfB.len_le_N
  have hkb : k < bw.length := Nat.lt_of_lt_of_le hk hnb
  have hP' : bw.take (k+1) = bw.take k ++ [bw[k]] := List.take_succ_eq_append_getElem hkb
  have hPl : (bw.take k).length = k := by rw [List.length_take, Nat.min_eq_left (Nat.le_of_lt hkb)]
  have hwords : sB.words.take (k+1) = bw.take (k+1) := by
    have e : sB.words.take (k+1) = (sB.words.take sB.length).take (k+1) := by
      rw [List.take_take, Nat.min_eq_left hk]
    rw [e, sfB.words, List.take_take, Nat.min_eq_left hk]
  have hbo : (sB.backoff.take (k+1)).drop k = [a.boW (bw.take (k+1))] := by
    have e : sB.backoff.take (k+1) = (sB.backoff.take sB.length).take (k+1) := by
      rw [List.take_take, Nat.min_eq_left hk]
    rw [e, sfB.backoff, ← List.map_take, List.take_range, Nat.min_eq_left hk, List.range_succ, List.map_append,
      List.drop_append_of_le_length (by simp), List.drop_of_length_le (by simp)]
    rfl
  generalize bw[k] = x at hP'
  have hadd : (sB.words.take (k+1)).drop k = [x] := by
    rw [hwords, hP', List.drop_append_of_le_length (by omega), List.drop_of_length_le (by omega)]
    rfl
  have C : LoopCtx a T F (bw.take k) [x] Lk 1 := ⟨I.Lk_le, I.xl, by rw [hPl]; exact I.bound, by simp⟩
  have I0 : LoopInv a F (bw.take k) [x] 1 0 1 ([a.boW (bw.take (k+1))].take 1) := by
    refine ⟨Nat.le_refl _, by rw [hPl]; show 0 + k + 1 + 1 ≤ a.order; omega, ?_, fun kk h1 h2 => by
      have h1' : 1 < kk := h1
      simp at h2; omega⟩
    show ([a.boW (bw.take (k+1))].take 1).take 1 = _
    simp [gm1, hP']
  obtain ⟨v, hv⟩ : ∃ v, extendLoop T R k [x] [a.boW (bw.take (k+1))]
      (((List.range Lk).map (fun i => pre F i ++ bw.take k)).drop 0) true = v := ⟨_, rfl⟩
  obtain ⟨Lw, O⟩ :=
    extendLoop_sem H R C k 0 (by rw [hPl]; simp) (Nat.zero_le _) [a.boW (bw.take (k+1))] I0 true (fun _ => by simp) v hv
  have hext : ∀ i, pre F i ++ bw.take k ++ [x] = pre F i ++ bw.take (k+1) := by intro i; rw [hP', List.append_assoc]
  have hres : revealBefore T R { sB with length := k + 1 } k false left right =
      (if left.full then (v.adjust + (v.backIn.take v.nextUse).sum, { pointers := v.written, full := true }, right)
       else (v.adjust,
             { pointers := v.written,
               full := (v.makeFull || v.written.length == T.order - 1) || (right.length + v.nextUse) == T.order - 1 },
             mergedState right [x] v)) := by
    unfold revealBefore
    dsimp only
    have hptrs0 : left.pointers = ((List.range Lk).map (fun i => pre F i ++ bw.take k)).drop 0 := by rw [I.ptrs]; rfl
    rw [hadd, hbo, hptrs0]
    simp only [Bool.not_false]
    rw [hv]
    simp only [Bool.false_eq_true, if_false]
    rfl
  have hloop := O.inv
  have hwritten : v.written = (List.range Lw).map (fun i => pre F i ++ bw.take (k+1)) := by
    rw [O.written₀ rfl, List.drop_zero]
    apply List.map_congr_left; intro i _; exact hext i
  have hxl' : ∀ i, i < Lw → T.xl (pre F i ++ bw.take (k+1)) = true := fun i hi => by
    rw [← hext i]; exact O.xl i (Nat.zero_le _) hi
  have hLw := O.Lw_le
  have hbound' : Lw + (k+1) ≤ a.order - 1 := by
    by_cases hpos : 0 < Lw
    · have := O.bound hpos; rw [hPl] at this; simp only [List.length_singleton] at this; omega
    · have := I.bound; omega
  have hadjv : v.adjust = dsum (openTerm R F (bw.take k) [x]) 0 Lw + dsum (doneTerm a R F (bw.take k) [x]) Lw (Lk - Lw) := by
    rw [O.adjust₀ rfl, Nat.sub_zero]
  -- the loop went through, or the new left state is complete
  have hstop : (v.makeFull = false ∧ Lw = Lk ∧ v.nextUse = 1) ∨ (v.makeFull = true ∧ ClosedP T F (bw.take (k+1)) Lw) := by
    rcases O.write_cases rfl with hthrough | ⟨hset, hcn⟩
    · exact Or.inl hthrough
    · exact Or.inr ⟨hset, by rw [hP']; exact closedP_of_cn H F (bw.take k) [x] Lw (Nat.le_trans O.Lw_le I.Lk_le) hcn.toCN⟩
  rw [hres]
  refine ⟨x, v, Lw, hP', ?_⟩
  -- the new description, given what the words after the left state receive and why the new left state is complete
  have key : ∀ (left' : LeftSt) (tail : Rat), left'.pointers = v.written →
      specSeq a (gm1 F Lk ++ bw.take k) (F.drop Lk) + tail = specSeq a (gm1 F Lk ++ (bw.take k ++ [x])) (F.drop Lk) →
      (left'.full = false → Lw = F.length) → (left'.full = true → ClosedP T F (bw.take (k+1)) Lw) →
      PBw a T R F pF bw (k+1) Lw left' (acc + (v.adjust + tail)) := by
    intro left' tail hp htail ho hc
    refine ⟨by rw [hp, hwritten], hxl', Nat.le_trans hLw I.Lk_le, hbound', ?_, ho, hc⟩
    rw [hP', ← Rat.add_assoc]
    exact score_after_loop R F (bw.take k) [x] hLw I.Lk_le I.score hadjv htail
  by_cases hfull : left.full = true
  · rw [if_pos hfull, if_pos hfull]
    refine ⟨?_, hloop, rfl, fun _ => rfl, fun hc => by cases hc⟩
    refine key _ _ rfl ?_ (fun hc => by cases hc) fun _ => ?_
    · rw [hloop.back, sum_range_map, ← List.append_assoc]
      exact (closedP_tail H (I.closed hfull) [x] v.nextUse (by have := hloop.hN; omega) (by simpa using hloop.nu_le) hloop.dead).symm
    · rcases hstop with ⟨_, m3, _⟩ | ⟨_, m3⟩
      · -- every pointer was extended by the new word: the old reason carries over
        rw [m3, hP']
        exact (I.closed hfull).more_ctx H [x] (by rw [hPl, hord, ← m3]; exact hbound')
      · exact m3
  · have hopen : left.full = false := by simpa using hfull
    have o1 := I.open_w hopen
    rw [if_neg hfull, if_neg hfull]
    refine ⟨?_, hloop, rfl, fun hc => absurd hc hfull, fun hc => ?_⟩
    · rw [← Rat.add_zero v.adjust]
      refine key _ 0 rfl ?_ (fun hc => ?_) fun hc => ?_
      · -- nothing comes after the old left state: everything was in it
        rw [o1, List.drop_eq_nil_of_le (Nat.le_refl _)]; exact Rat.add_zero _
      · have hc' : ((v.makeFull || v.written.length == T.order - 1) || (right.length + v.nextUse) == T.order - 1) = false := hc
        simp only [Bool.or_eq_false_iff] at hc'
        rcases hstop with ⟨_, m3, _⟩ | ⟨m1, _⟩
        · omega
        · rw [m1] at hc'; cases hc'.1.1
      · have hc' : ((v.makeFull || v.written.length == T.order - 1) || (right.length + v.nextUse) == T.order - 1) = true := hc
        rcases hstop with ⟨m1, m3, m4⟩ | ⟨_, m3⟩
        · -- nothing stopped the loop: the fragment has become an (N-1)-gram
          right; right
          refine ⟨by omega, ?_⟩
          rw [m1, hwritten] at hc'
          simp only [Bool.false_or, Bool.or_eq_true, beq_iff_eq, List.length_map, List.length_range] at hc'
          rw [hP', List.length_append, hPl, List.length_singleton]
          have := hright
          omega
        · exact m3
    · have hc' : ((v.makeFull || v.written.length == T.order - 1) || (right.length + v.nextUse) == T.order - 1) = false := hc
      simp only [Bool.or_eq_false_iff] at hc'
      rcases hstop with ⟨_, _, m4⟩ | ⟨m1, _⟩
      · exact m4
      · rw [m1] at hc'; cases hc'.1.1

/-- **the final `RevealBefore` call** (`reveal_full`, if the preceding fragment's left state is full) and the assembly of
the canonical description of `B ++ F` -/
theorem finish_before (H : Hyp a T) (R : Ptr → Rat) {B F : List Word} {Lb : Nat} {cB : Chart} {pB pF : Rat}
    (GB : FragC a T R B Lb cB pB) {Lk : Nat} {l : LeftSt} {acc : Rat} (r : State)
    (I : PBw a T R F pF B.reverse cB.right.length Lk l acc) :
    ∃ L' c', c'.left.pointers = cB.left.pointers ++
        (if cB.left.full then (revealBefore T R cB.right cB.right.length true l r).2.1 else l).pointers ∧
      (cB.left.full = false → c'.left.full = l.full) ∧
      FragC a T R (B ++ F) L' c' (pB + pF +
        (if cB.left.full then acc + (revealBefore T R cB.right cB.right.length true l r).1 else acc)) := by
  have hN2 := H.wf.order_ge
  have sfB := GB.right_for
  have hnb : cB.right.length ≤ B.reverse.length := sfB.len_le_h
  obtain ⟨Iptrs, Ixl, ILk, Ibound, Iscore, Iopen, Iclosed⟩ := I
  by_cases hfB : cB.left.full = true
  · simp only [hfB, if_true]
    have hdead : specSeq a B.reverse F = specSeq a (B.reverse.take cB.right.length) F := by
      conv => lhs; rw [← List.take_append_drop cB.right.length B.reverse]
      apply specSeq_dead H.wf
      intro kk hk1 hk2
      rw [← List.take_add]
      simp only [List.length_drop] at hk2
      exact sfB.dead _ (by omega) (by omega)
    have hPl : (B.reverse.take cB.right.length).length = cB.right.length := by
      rw [List.length_take, Nat.min_eq_left hnb]
    generalize B.reverse.take cB.right.length = P at Iptrs Ixl Iscore hdead hPl
    have C : LoopCtx a T F P [] Lk 0 := ⟨ILk, Ixl, by rw [hPl]; exact Ibound, Nat.le_refl _⟩
    have I0 : LoopInv a F P [] 0 0 0 (([] : List Rat).take 0) := by
      refine ⟨Nat.le_refl _, by rw [hPl]; show 0 + cB.right.length + 1 + 0 ≤ a.order; have := sfB.len_le_N; omega, by simp,
        fun kk h1 h2 => by simp at h2; omega⟩
    obtain ⟨v, hv⟩ : ∃ v, extendLoop T R cB.right.length [] [] (((List.range Lk).map (fun i => pre F i ++ P)).drop 0) false = v :=
      ⟨_, rfl⟩
    obtain ⟨Lw, O⟩ :=
      extendLoop_sem H R C cB.right.length 0 (by rw [hPl]; simp) (Nat.zero_le _) [] I0 false (fun hc => by cases hc) v hv
    have hLw : Lw = 0 := O.use_only rfl
    subst hLw
    have hnu0 : v.nextUse = 0 := Nat.eq_zero_of_le_zero O.inv.nu_le
    have hres : (revealBefore T R cB.right cB.right.length true l r).2.1.pointers = [] ∧
        (revealBefore T R cB.right cB.right.length true l r).1 = v.adjust := by
      have hadd : (cB.right.words.take cB.right.length).drop cB.right.length = [] :=
        List.drop_eq_nil_of_le (by simp; exact Nat.min_le_left _ _)
      have hbo : (cB.right.backoff.take cB.right.length).drop cB.right.length = [] :=
        List.drop_eq_nil_of_le (by simp; exact Nat.min_le_left _ _)
      have hptrs0 : l.pointers = ((List.range Lk).map (fun i => pre F i ++ P)).drop 0 := by rw [Iptrs]; rfl
      unfold revealBefore
      dsimp only
      rw [hadd, hbo, hptrs0]
      simp only [Bool.not_true]
      rw [hv]
      cases hl : l.full <;> simp [hnu0, Rat.add_zero]
    have htot : pF + (acc + v.adjust) = specSeq a B.reverse F := by
      have := score_after_loop (tail := 0) R F P [] (Nat.zero_le Lk) ILk Iscore (O.adjust₀ rfl) (by rw [List.append_nil, Rat.add_zero])
      simp only [Rat.add_zero, List.append_nil, psum, dsum, Rat.zero_add, gm1, List.take_zero, List.reverse_nil, List.nil_append,
        List.drop_zero] at this
      rw [hdead, ← Rat.add_assoc]; exact this
    obtain ⟨sR, hsR1, hsR2, _⟩ := stateFor_exists H.wf (B ++ F).reverse
    refine ⟨Lb, { left := cB.left, right := sR }, by rw [hres.1]; simp, (fun hc => by cases hc),
      fragC_append_full H R GB hfB rfl hfB hsR1 hsR2 ?_⟩
    rw [hres.2, ← htot, Rat.add_assoc]
  · -- the preceding fragment is open: all its words were revealed
    have hfB' : cB.left.full = false := by simpa using hfB
    simp only [hfB', Bool.false_eq_true, if_false]
    obtain ⟨hLb, hnbB⟩ := GB.open_ hfB'
    have hP : B.reverse.take cB.right.length = B.reverse := List.take_of_length_le (by rw [hnbB]; simp)
    rw [hP] at Iptrs Ixl Iscore Iclosed
    obtain ⟨sR, hsR1, hsR2, hsR3⟩ := stateFor_exists H.wf (B ++ F).reverse
    refine ⟨B.length + Lk, { left := { pointers := cB.left.pointers ++ l.pointers, full := l.full }, right := sR }, rfl,
      fun _ => rfl, FragC.ofFrag (Frag.build R GB.toFrag hfB' Lk (beginNonTerminal _ _) ILk (by omega)
        (by rw [← List.reverse_append]; exact hsR1) hsR2 (by show _ ++ l.pointers = _; rw [Iptrs]; rfl) Ixl
        (by show pB + pF + acc = pB + _; rw [Rat.add_assoc, Iscore]) (fun hc => ?_) fun hc => Closed.concat (Iclosed hc))⟩
    -- everything is in the left state: the fragment is short enough for a right state holding all its words
    have o1 : Lk = F.length := Iopen hc
    refine ⟨o1, ?_⟩
    show sR.length = _
    rw [hsR3, List.length_reverse, List.length_append, Nat.min_eq_left (by omega), Nat.add_comm]

end KV.Left
