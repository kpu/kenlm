import Proofs.ProbingBuildLineSem
import Proofs.ProbingBuildFold
/-! The per-line step for every line of a proper ARPA file (`NoRestBuild`): under `ArpaOK'` the blank-probability loop computes the
backed-off score `val` (`CH.vAt_val`), so each blank receives what `Table.build a` prescribes (`CH.blank_val`); with
`invG_step_line` that is the step for a line with a chain (`step_chain`), without blank (`step_stored`), for any line (`stepAll`). -/
namespace KV.ProbingBuild
open KV.Arpa KV.Table KV.Score KV.ProbingLM

/-- what the statements about a line with a chain of blanks take: `Blanks S p b L` written out, with `1 ≤ L`, and `ArpaOK'`, `SInv`, `LC` -/
structure CH (combine : Nat → Word → Nat) (a : Arpa) (nWords : Nat) (um : Rat) (caps : Nat → Nat) (S : List Key)
    (p : Key) (e : Entry) (b L : Nat) : Prop where
  ok : ArpaOK' a nWords um
  si : SInv a S
  lc : LC combine a (initUni a nWords) a.order caps S p e
  hb : 1 ≤ b
  hL : 1 ≤ L
  hpl : p.length = b + L + 1
  hbasis : b = 1 ∨ p.take b ∈ S
  hmiss : ∀ j, b < j → j ≤ b + L → p.take j ∉ S

section
variable {combine : Nat → Word → Nat} {a : Arpa} {nWords : Nat} {um : Rat} {caps : Nat → Nat} {S : List Key}
  {p : Key} {e : Entry} {b L : Nat}

theorem CH.blanks (ch : CH combine a nWords um caps S p e b L) : Blanks S p b L := ⟨ch.hb, ch.hpl, ch.hbasis, ch.hmiss⟩

theorem CH.lineOK (ch : CH combine a nWords um caps S p e b L) : LineOK combine a.order caps (initUni a nWords).length S p b L :=
  LineOK.of_lc ch.si ch.lc ch.blanks

theorem CH.drop_mem (ch : CH combine a nWords um caps S p e b L) : p.drop 1 ∈ S :=
  ch.lc.ctx (by have := ch.hpl; have := ch.hb; have := ch.hL; omega)

theorem CH.ctx_mem (ch : CH combine a nWords um caps S p e b L) (j : Nat) (h2 : 2 ≤ j) (hj : j ≤ b + L) : (p.drop 1).take j ∈ S :=
  ctx_take_mem ch.si p ch.drop_mem j h2 (ch.blanks.lt_len hj)

theorem CH.isKey (ch : CH combine a nWords um caps S p e b L) (j : Nat) (h1 : 1 ≤ j) (hj : j ≤ b + L + 1) : IsKey a (p.take j) := by
  have hp : IsKey a p := isKey_of_gram (Nat.le_of_succ_le ch.lc.n2) (by rw [ch.lc.real]; simp)
  exact isKey_take a p hp j h1 (by rw [ch.hpl]; exact hj)

theorem CH.blank_none (ch : CH combine a nWords um caps S p e b L) (j : Nat) (h1 : b < j) (hj : j ≤ b + L) : a.gram (p.take j) = none := by
  cases hg : a.gram (p.take j) with
  | none => rfl
  | some e' =>
    have hl := ch.blanks.take_len (Nat.le_succ_of_le hj)
    exact absurd (ch.lc.rs _ (by rw [hg]; simp) (by rw [hl]; exact ch.blanks.two_le h1) (by rw [hl]; exact ch.blanks.lt_len hj))
      (ch.hmiss j h1 hj)

theorem CH.noctx (ch : CH combine a nWords um caps S p e b L) (j : Nat) (h1 : b < j) (h2 : j ≤ b + L) :
    startsWithK S (p.take j) = false :=
  Bool.eq_false_iff.mpr fun h => by
    obtain ⟨k', hk', hl', hd⟩ := (startsWithK_true_iff S _).mp h
    exact ch.hmiss j h1 h2 (hd ▸ ch.si.cs k' hk' (by
      rw [hl', ch.blanks.take_len (Nat.le_succ_of_le h2)]; exact Nat.succ_le_succ (ch.blanks.two_le h1)))

theorem wantAll_backoff (ok : ArpaOK' a nWords um) (S : List Key) (k : Key)
    (hk : k.length = 1 → a.gram k ≠ none) : (wantAll a (initUni a nWords) S k).backoff = a.boW k := by
  by_cases hl : k.length = 1
  · match k, hl with
    | [y], _ =>
      rw [wantAll_uni]
      show ((initUni a nWords).getD y default).backoff = a.boW [y]
      unfold Arpa.boW
      have hsl := initUni_slot ok y
      generalize (initUni a nWords).getD y default = sl at hsl ⊢
      cases hsl with
      | oov hg => exact absurd hg (hk rfl)
      | unk e h0 _ he _ hb => rw [h0, he]; exact hb.symm
      | real e he _ _ => rw [he]
  · unfold wantAll Arpa.boW
    rw [if_neg hl]
    cases hg : a.gram k <;> simp [wantW, baseW, hg, lineW]

theorem neg_mag_uni (ok : ArpaOK' a nWords um) (S : List Key) (x : Word)
    (hx : a.gram [x] ≠ none) (hnu : (x == 0 && a.unkHallucinated) = false) :
    -(wantAll a (initUni a nWords) S [x]).mag = val a [x] := by
  rw [wantAll_uni, val_uni]
  show -((initUni a nWords).getD x default).mag = a.uniProb x
  unfold Arpa.uniProb
  have hsl := initUni_slot ok x
  generalize (initUni a nWords).getD x default = sl at hsl ⊢
  cases hsl with
  | oov hg => exact absurd hg hx
  | unk e h0 hu _ _ _ => simp [h0, hu] at hnu
  | real e he _ hp => rw [he]; exact neg_abs_of_nonpos _ hp

theorem neg_mag_key (ok : ArpaOK' a nWords um) (u0 : List W) (S : List Key) (k : Key)
    (h2 : 2 ≤ k.length) (hN : k.length ≤ a.order) (hkey : IsKey a k) : -(wantAll a u0 S k).mag = val a k := by
  rw [wantAll_key a u0 S h2]
  cases hg : a.gram k with
  | some e =>
    have : (wantW a S k).mag = e.prob.abs := by simp [wantW, baseW, hg, lineW]
    rw [val_real a k e h2 hN hg, this]
    exact neg_abs_of_nonpos _ (ok.nonpos _ e hg)
  | none =>
    have : (wantW a S k).mag = (val a k).abs := by simp [wantW, baseW, hg, val]
    rw [this]
    exact neg_abs_of_nonpos _ (ok.proper _ hkey hg)

theorem CH.ctx_backoff (ch : CH combine a nWords um caps S p e b L) (β : Nat) (h1 : 1 ≤ β) (h2 : β < b + L) :
    (setExtension (afterFind (wantAll a (initUni a nWords) S) p (lineW e) b L ((p.drop 1).take β))).backoff =
      a.boW ((p.drop 1).take β) := by
  have hl := ch.blanks.ctx_len (Nat.le_of_lt h2)
  have hk : (p.drop 1).take β ∈ S ∨ ((p.drop 1).take β).length = 1 := by
    by_cases hβ : 2 ≤ β
    · exact Or.inl (ch.ctx_mem β hβ (Nat.le_of_lt h2))
    · right; rw [hl]; omega
  rw [setExtension_backoff, ch.lineOK.afterFind_old _ _ _ hk, wantAll_backoff ch.ok]
  intro h
  have hβ : β = 1 := hl ▸ h
  have hp2 : 2 ≤ p.length := by rw [ch.hpl]; omega
  rw [hβ, (ctx_take_one p hp2).1]
  exact ch.ok.words p (by rw [ch.lc.real]; simp) _ (ctx_take_one p hp2).2

theorem CH.basis_val (ch : CH combine a nWords um caps S p e b L) :
    -(afterFind (wantAll a (initUni a nWords) S) p (lineW e) b L (p.take b)).mag = val a (p.take b) := by
  have hbL : b ≤ b + L + 1 := Nat.le_succ_of_le (Nat.le_add_right _ _)
  have hl := ch.blanks.take_len hbL
  rcases ch.hbasis with hb1 | hm
  · subst hb1
    have hp1 : 1 ≤ p.length := Nat.le_of_lt (ch.blanks.lt_len (Nat.le_add_right _ _))
    have h2L : 2 ≤ 1 + L := Nat.add_le_add_left ch.hL 1
    have hx : p.headD 0 ∈ p := headD_mem p hp1
    rw [ch.lineOK.afterFind_old _ _ _ (Or.inr hl), take_one_headD p hp1]
    refine neg_mag_uni ch.ok S _ (ch.ok.words p (by rw [ch.lc.real]; simp) _ hx) ?_
    -- a blank of order 2 is not based on a hallucinated `<unk>`
    cases hu : a.unkHallucinated with
    | false => exact Bool.and_false _
    | true =>
      have := ch.ok.unkBasis hu _ (ch.isKey 2 (by decide) (Nat.le_succ_of_le h2L)) (ch.blank_none 2 (Nat.lt_succ_self 1) h2L)
      rw [show (p.take 2).headD 0 = p.headD 0 by match p, hp1 with | x :: _, _ => rfl] at this
      rw [Bool.and_true]; exact beq_false_of_ne this
  · have h2 : 2 ≤ (p.take b).length := ch.si.len2 _ hm
    rw [ch.lineOK.afterFind_old _ _ _ (Or.inl hm)]
    exact neg_mag_key ch.ok _ S _ h2 (hl.symm ▸ Nat.le_trans (Nat.le_of_lt (ch.blanks.lt_len (Nat.le_add_right _ _))) ch.lc.nN)
      (ch.isKey b ch.hb hbL)

theorem CH.vAt_val (ch : CH combine a nWords um caps S p e b L) : ∀ (i β : Nat) (prob : Rat),
    b ≤ β → β + i ≤ b + L → prob = val a (p.take β) →
    vAt (afterFind (wantAll a (initUni a nWords) S) p (lineW e) b L) p i β prob = val a (p.take (β + i)) := by
  intro i
  induction i with
  | zero => intro β prob _ _ h; exact h
  | succ i ih =>
    intro β prob h1 h2 hp
    have hβL : β + 1 ≤ b + L := Nat.le_trans (Nat.add_le_add_left (Nat.succ_le_succ (Nat.zero_le i)) β) h2
    have hβ1 : 1 ≤ β := Nat.le_trans ch.hb h1
    have hl := ch.blanks.take_len (Nat.le_succ_of_le hβL)
    show vAt _ p i (β + 1) _ = _
    rw [ih (β + 1) _ (Nat.le_succ_of_le h1) (by rw [Nat.succ_add_eq_add_succ]; exact h2) ?_, Nat.succ_add_eq_add_succ]
    -- the blank of order `β+1` backs off to the one of order `β`
    rw [val_step a (p.take (β + 1)) (hl.symm ▸ Nat.succ_le_succ hβ1)
        (hl.symm ▸ Nat.le_trans (Nat.le_of_lt (ch.blanks.lt_len hβL)) ch.lc.nN)
        (ch.blank_none (β + 1) (Nat.lt_succ_of_le h1) hβL), hl,
      ← List.drop_one, List.drop_take, Nat.add_sub_cancel, KV.take_take_of_le (Nat.le_succ _),
      ch.ctx_backoff β hβ1 hβL, hp, Rat.add_comm]

theorem CH.blank_val (ch : CH combine a nWords um caps S p e b L) (i : Nat) (hi : i < L) :
    blankAt (afterFind (wantAll a (initUni a nWords) S) p (lineW e) b L) p b i =
      markW (baseAll a (initUni a nWords) (p.take (b + i + 1))) true false := by
  have h1 : b < b + i + 1 := Nat.lt_succ_of_le (Nat.le_add_right b i)
  have h2 : b + i + 1 ≤ b + L := Nat.add_lt_add_left hi b
  have hl := ch.blanks.take_len (Nat.le_succ_of_le h2)
  unfold blankAt baseAll
  rw [ch.vAt_val (i + 1) b _ (Nat.le_refl _) h2 ch.basis_val, if_neg (by rw [hl]; exact Nat.ne_of_gt (ch.blanks.two_le h1))]
  -- the magnitude is `|val|` on both sides now; every other field is a literal
  simp [clr, setProb, blankW, markW, baseW, ch.blank_none _ h1 h2, val]
  rfl

theorem step_chain (ch : CH combine a nWords um caps S p e b L) (s : St)
    (inv : InvG combine a (initUni a nWords) a.order caps S s) :
    ∃ s', addLine combine false a.order s p e = .ok s' ∧
      InvG combine a (initUni a nWords) a.order caps (addLineKeys S p) s' :=
  invG_step_line (initUni_ok a nWords) inv ch.lineOK e ch.lc.real ch.lc.asc ch.noctx ch.blank_val

end

theorem step_stored {combine : Nat → Word → Nat} {a : Arpa} {nWords : Nat} {N : Nat} {caps : Nat → Nat} {S : List Key} {s : St}
    {p : Key} {e : Entry} {b : Nat} (inv : InvG combine a (initUni a nWords) N caps S s) (si : SInv a S)
    (lc : LC combine a (initUni a nWords) N caps S p e) (bl : Blanks S p b 0) :
    ∃ s', addLine combine false N s p e = .ok s' ∧ InvG combine a (initUni a nWords) N caps (addLineKeys S p) s' :=
  invG_step_line (initUni_ok a nWords) inv (LineOK.of_lc si lc bl) e lc.real lc.asc
    (fun _ h1 h2 => absurd h1 (Nat.not_lt_of_le h2)) (fun i hi => absurd hi (Nat.not_lt_zero i))

theorem stepAll (combine : Nat → Word → Nat) (a : Arpa) (nWords : Nat) (um : Rat) (ok : ArpaOK' a nWords um) (caps : Nat → Nat) :
    StepOK combine a (initUni a nWords) a.order caps false (InvG combine a (initUni a nWords) a.order caps) (fun _ => True) := by
  intro S s p e inv si lc _
  obtain ⟨b, L, bl⟩ := exists_blanks S p lc.n2
  cases L with
  | zero => exact step_stored inv si lc bl
  | succ L => exact step_chain ⟨ok, si, lc, bl.hb, Nat.succ_pos L, bl.hpl, bl.basis, bl.miss⟩ s inv

end KV.ProbingBuild
