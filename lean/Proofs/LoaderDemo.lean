import Model.LoaderArpa
/-! A small valid ARPA file and what the loader front end makes of it, evaluated once. -/
namespace KV.C10
open KV.Arpa KV.LoaderArpa

/-- a small valid file: 3 unigrams, 1 bigram, CRLF-free -/
def demoBytes : Bytes :=
  str "\\data\\\nngram 1=3\nngram 2=1\n\n\\1-grams:\n-1\t<s>\n-1\ta\t-0.5\n-2\tb\n\n\\2-grams:\n-0.25\ta b\n\n\\end\\\n"

def demoParsed : LParsed :=
  { order := 2, counts := [3, 1], vocab := [str "<unk>", str "<s>", str "a", str "b"], sawUnk := false,
    grams := [[([1], .fin (-1) false, 0), ([2], .fin (-1) false, -1/2), ([3], .fin (-2) false, 0)],
              [([3, 2], .fin (-1/4) false, 0)]] }

/-- non-vacuity: the file is accepted.  `LParsed` has no `DecidableEq`, so the equation is decided field by field and put
together again. -/
theorem parse_demo : LoaderArpa.parse 6 true demoBytes = .ok demoParsed := by
  have h : (match LoaderArpa.parse 6 true demoBytes with
      | .ok p => decide (p.order = demoParsed.order ∧ p.counts = demoParsed.counts ∧ p.vocab = demoParsed.vocab ∧
          p.sawUnk = demoParsed.sawUnk ∧ p.grams = demoParsed.grams)
      | .error _ => false) = true := by decide +kernel
  cases hp : LoaderArpa.parse 6 true demoBytes with
  | error e => rw [hp] at h; cases h
  | ok p =>
    rw [hp] at h
    obtain ⟨h1, h2, h3, h4, h5⟩ := of_decide_eq_true h
    cases p
    cases h1; cases h2; cases h3; cases h4; cases h5
    rfl

end KV.C10
