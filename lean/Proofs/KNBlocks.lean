import Model.KNBlocks
/-!
The compacting iterators of `Model/KNBlocks.lean` output exactly the filtered stream.

`CollapseStream` shows the consumer every record of the block in order, and leaves a permutation of the
records without `<s>` in position 1; hence for every partition into blocks the output multiset is the
filter of the input stream.  The run is followed on states `cst W R k seen` (the iterator behind `W`, in
front of `R`): while `copy_from_` is ahead, `R = M ++ b :: T` with the copy source `b` a record to keep
(`csteps_live`); once it has been passed nothing moves any more (`csteps_passed`).

`PruneNGramStream` with `copySpecials = true` (`initial_probabilities.cc:53-62`) leaves `(block.filter keptBy).map f` in order; so does the
form with `copySpecials = false` when no special unigram follows a dropped record in its block, and it does not otherwise
(`prune_stream_unfixed_false`, a block of two records).
-/
namespace KV.KN.Blocks

open KV.KN

theorem getElem?_mid {α : Type} (W : List α) (q : α) (R : List α) : (W ++ q :: R)[W.length]? = some q := by
  rw [List.getElem?_append_right (Nat.le_refl _)]; simp

theorem set_mid {α : Type} (W : List α) (a b : α) (R : List α) :
    (W ++ a :: R).set W.length b = W ++ b :: R := by
  induction W with
  | nil => rfl
  | cons w W ih => simp [ih]

-- nothing in the development uses this
theorem drop_mid {α : Type} (W R : List α) : (W ++ R).drop W.length = R :=
  List.drop_left

section Collapse
variable {α : Type} (p : α → Bool)

theorem down_all (cur : Nat) (P : List α) (hP : ∀ x ∈ P, p x = true) :
    ∀ (W Z : List α), cur ≤ W.length →
      down p (W ++ (P ++ Z)) cur (W.length + P.length) = down p (W ++ (P ++ Z)) cur W.length := by
  induction P with
  | nil => intro W Z _; rfl
  | cons q P ih =>
    intro W Z hc
    have h1 := ih (fun x hx => hP x (List.mem_cons_of_mem _ hx)) (W ++ [q]) Z
      (by rw [List.length_append]; exact Nat.le_succ_of_le hc)
    rw [List.append_assoc, List.length_append] at h1
    have e : W.length + (q :: P).length = W.length + 1 + P.length :=
      (Nat.add_right_comm W.length 1 P.length).symm
    rw [e]
    refine h1.trans ?_
    show down p (W ++ q :: (P ++ Z)) cur (W.length + 1) = _
    rw [down, if_neg (Nat.not_lt.2 hc), getElem?_mid]
    dsimp only
    rw [hP q (List.mem_cons_self ..), if_pos rfl]
    rfl

theorem split_last (L : List α) :
    (∀ x ∈ L, p x = true) ∨ ∃ Y y P, L = Y ++ y :: P ∧ p y = false ∧ ∀ x ∈ P, p x = true := by
  induction L with
  | nil => left; intro x hx; cases hx
  | cons a L ih =>
    rcases ih with h | ⟨Y, y, P, rfl, hy, hP⟩
    · by_cases ha : p a = true
      · left
        intro x hx
        rcases List.mem_cons.mp hx with rfl | hx
        · exact ha
        · exact h x hx
      · right
        exact ⟨[], a, L, rfl, by simpa using ha, h⟩
    · right
      exact ⟨a :: Y, y, P, rfl, hy, hP⟩

theorem filter_all (P : List α) (hP : ∀ x ∈ P, p x = true) : P.filter (fun x => !p x) = [] := by
  rw [List.filter_eq_nil_iff]
  intro x hx
  simp [hP x hx]

theorem down_last (cur : Nat) (W : List α) (y : α) (P Z : List α) (hy : p y = false) (hP : ∀ x ∈ P, p x = true)
    (hc : cur ≤ W.length) : down p (W ++ y :: (P ++ Z)) cur (W.length + 1 + P.length) = W.length + 1 := by
  have h := down_all p cur P hP (W ++ [y]) Z (by rw [List.length_append]; exact Nat.le_succ_of_le hc)
  rw [List.length_append, List.append_assoc] at h
  refine h.trans ?_
  show down p (W ++ y :: (P ++ Z)) cur (W.length + 1) = _
  rw [down, if_neg (Nat.not_lt.2 hc), getElem?_mid]
  simp [hy]

def cst (W R : List α) (k : Nat) (seen : List α) : CState α := ⟨W ++ R, W.length, k, seen⟩

theorem cstep_keep (W : List α) (a : α) (R : List α) (k : Nat) (s : List α)
    (h : p a = false ∨ k ≤ W.length + 1) : cstep p (cst W (a :: R) k s) = cst (W ++ [a]) R k (a :: s) := by
  have hc : (p a && decide (W.length + 1 < k)) = false := by
    rcases h with h | h
    · rw [h]; rfl
    · rw [decide_eq_false (Nat.not_lt.2 h), Bool.and_false]
  unfold cstep cst
  dsimp only
  rw [getElem?_mid]
  dsimp only
  rw [hc]
  simp

/-- `operator++` on a record that is overwritten by the copy source `b`.  The next copy source is the last
record to keep of `b :: M`: there is one, since `b` itself now stands in the overwritten slot. -/
theorem cstep_copy (W : List α) (a : α) (M : List α) (b : α) (T s : List α) (h : p a = true)
    {Y : List α} {y : α} {P : List α} (hd : b :: M = Y ++ y :: P) (hy : p y = false) (hP : ∀ x ∈ P, p x = true) :
    cstep p (cst W (a :: (M ++ b :: T)) ((W ++ a :: M).length + 1) s) =
      cst (W ++ [b]) (M ++ b :: T) ((W ++ Y).length + 1) (a :: s) := by
  have hc : (p a && decide (W.length + 1 < (W ++ a :: M).length + 1)) = true := by
    rw [h, decide_eq_true (Nat.succ_lt_succ (by
      rw [List.length_append]; exact Nat.lt_add_of_pos_right (Nat.succ_pos _)))]
    rfl
  have hb : (W ++ a :: (M ++ b :: T))[(W ++ a :: M).length + 1 - 1]? = some b := by
    have := getElem?_mid (W ++ a :: M) b T
    rwa [List.append_assoc] at this
  have hl : (W ++ [b]) ++ (M ++ b :: T) = (W ++ Y) ++ y :: (P ++ b :: T) := by
    rw [List.append_assoc W, List.singleton_append, ← List.cons_append, hd]; simp
  have hlen : (W ++ a :: M).length + 1 - 1 = (W ++ Y).length + 1 + P.length := by
    have := congrArg List.length hd
    rw [List.length_cons, List.length_append, List.length_cons] at this
    rw [Nat.add_sub_cancel, List.length_append, List.length_append, List.length_cons]
    omega
  unfold cstep cst
  dsimp only
  rw [getElem?_mid]
  dsimp only
  rw [hc, if_pos rfl, hb]
  dsimp only
  rw [set_mid, show W ++ b :: (M ++ b :: T) = (W ++ [b]) ++ (M ++ b :: T) by simp, hl, hlen,
    down_last p W.length (W ++ Y) y P (b :: T) hy hP (by rw [List.length_append]; exact Nat.le_add_right ..),
    ← hl]
  congr 1
  exact (List.length_append (as := W) (bs := [b])).symm

/-- once `copy_from_` has been passed (`k ≤ W.length`) nothing moves -/
theorem csteps_passed (k : Nat) (R W s : List α) (h : k ≤ W.length) :
    csteps p R.length (cst W R k s) = cst (W ++ R) [] k (R.reverse ++ s) := by
  induction R generalizing W s with
  | nil => simp [csteps]
  | cons a R ih =>
    show csteps p R.length (cstep p (cst W (a :: R) k s)) = _
    rw [cstep_keep p W a R k s (.inr (Nat.le_succ_of_le h)),
      ih (W ++ [a]) (a :: s) (by rw [List.length_append]; exact Nat.le_succ_of_le h)]
    simp

/-- the run from a state with the copy source `b` behind the unvisited `M`: it ends with the slots `O ++ G`, `copy_from_ + 1`
at `O.length` — `O` is what flows downstream, `G` the stale tail behind it — and what is kept are the done part `D`, the
records of `M` to keep, and `b`.  Strong induction on `M.length` with `D` growing: after a copy the next copy source is a
record `y` inside `M`, so the rest of the run starts from a shorter `M`, not from its tail. -/
theorem csteps_live (M D : List α) (b : α) (T s : List α) (hb : p b = false) :
    ∃ O G, csteps p (M ++ b :: T).length (cst D (M ++ b :: T) ((D ++ M).length + 1) s) =
        cst (O ++ G) [] O.length ((M ++ b :: T).reverse ++ s) ∧
      O.Perm (D ++ (M.filter (fun x => !p x) ++ [b])) := by
  induction hn : M.length using Nat.strongRecOn generalizing M D b T s with | ind n ih => ?_
  subst hn
  cases M with
  | nil =>
    -- the copy source itself: kept in place, the prefix is final
    refine ⟨D ++ [b], T, ?_, .refl _⟩
    show csteps p T.length (cstep p (cst D (b :: T) _ s)) = _
    rw [cstep_keep p D b T _ s (.inl hb), csteps_passed p _ T _ _ (by simp)]
    simp
  | cons a M =>
    show ∃ O G, csteps p (M ++ b :: T).length (cstep p (cst D (a :: (M ++ b :: T)) _ s)) = _ ∧ _
    by_cases ha : p a = true
    · obtain ⟨Y, y, P, hd, hy, hP⟩ : ∃ Y y P, b :: M = Y ++ y :: P ∧ p y = false ∧ ∀ x ∈ P, p x = true := by
        rcases split_last p (b :: M) with h | h
        · rw [h b (List.mem_cons_self ..)] at hb; cases hb
        · exact h
      rw [cstep_copy p D a M b T s ha hd hy hP]
      cases Y with
      | nil =>
        -- nothing else to keep below the copy source
        obtain ⟨rfl, rfl⟩ : b = y ∧ M = P := List.cons.inj hd
        refine ⟨D ++ [b], M ++ b :: T, ?_, ?_⟩
        · rw [csteps_passed p _ _ _ _ (by simp)]; simp
        · simp [ha, filter_all p M hP]
      | cons y0 Y0 =>
        -- `y` is the new copy source
        obtain ⟨rfl, rfl⟩ : b = y0 ∧ M = Y0 ++ y :: P := List.cons.inj hd
        obtain ⟨O, G, h1, h2⟩ := ih Y0.length (by simp; omega) Y0 (D ++ [b]) y (P ++ b :: T) (a :: s) hy rfl
        rw [List.append_assoc D, List.singleton_append] at h1
        refine ⟨O, G, ?_, ?_⟩
        · rw [List.append_assoc Y0, List.cons_append, h1]
          simp
        · refine h2.trans ?_
          simp only [List.filter_cons, ha, List.filter_append, hy, filter_all p P hP]
          simp only [Bool.not_true, Bool.false_eq_true, if_false, Bool.not_false, if_true, List.append_assoc]
          exact List.Perm.append_left D (List.perm_append_comm.trans (by rw [List.append_assoc]))
    · have ha' : p a = false := by simpa using ha
      obtain ⟨O, G, h1, h2⟩ := ih M.length (Nat.lt_succ_self _) M (D ++ [a]) b T (a :: s) hb rfl
      rw [List.append_assoc D, List.singleton_append] at h1
      refine ⟨O, G, ?_, ?_⟩
      · rw [cstep_keep p D a _ _ s (.inl ha'), h1]; simp
      · simpa [ha'] using h2

theorem collapse_run (block : List α) : ∃ O G,
    csteps p block.length (cstart p block) = cst (O ++ G) [] O.length block.reverse ∧
      O.Perm (block.filter fun x => !p x) := by
  rcases split_last p block with h | ⟨Y, y, P, rfl, hy, hP⟩
  · have hd : down p block 0 block.length = 0 := by
      have := down_all p 0 block h [] [] (Nat.zero_le _)
      simp only [List.nil_append, List.append_nil, List.length_nil, Nat.zero_add] at this
      rw [this]; rfl
    refine ⟨[], block, ?_, by rw [filter_all p block h]⟩
    show csteps p block.length (cst [] block (down p block 0 block.length) []) = _
    rw [hd, csteps_passed p 0 block [] [] (Nat.le_refl _)]
    simp
  · obtain ⟨O, G, h1, h2⟩ := csteps_live p Y [] y P [] hy
    have hd : down p (Y ++ y :: P) 0 (Y ++ y :: P).length = ([] ++ Y).length + 1 := by
      have := down_last p 0 Y y P [] hy hP (Nat.zero_le _)
      rw [List.append_nil] at this
      rw [List.length_append, List.length_cons, ← Nat.add_assoc, Nat.add_right_comm]
      exact this
    refine ⟨O, G, ?_, ?_⟩
    · show csteps p _ (cst [] (Y ++ y :: P) (down p (Y ++ y :: P) 0 (Y ++ y :: P).length) []) = _
      rw [hd, h1, List.append_nil]
    · simpa [List.filter_append, hy, filter_all p P hP] using h2

theorem collapse_seen (block : List α) : (collapseBlock p block).1 = block := by
  obtain ⟨O, G, h, _⟩ := collapse_run p block
  unfold collapseBlock
  simp only [h, cst, List.reverse_reverse]

theorem collapse_perm (block : List α) :
    (collapseBlock p block).2.Perm (block.filter fun x => !p x) := by
  obtain ⟨O, G, h, hp⟩ := collapse_run p block
  unfold collapseBlock
  simp only [h, cst, List.append_nil, List.take_left]
  exact hp

-- nothing in the development uses this
theorem collapseStream_seen (blocks : List (List α)) : (collapseStream p blocks).1 = blocks.flatten := by
  show blocks.flatMap (fun b => (collapseBlock p b).1) = blocks.flatten
  have : (fun b => (collapseBlock p b).1) = id := funext (collapse_seen p)
  rw [this]
  exact List.flatMap_id

theorem collapseStream_perm (blocks : List (List α)) :
    (collapseStream p blocks).2.Perm (blocks.flatten.filter fun x => !p x) := by
  show (blocks.flatMap fun b => (collapseBlock p b).2).Perm (blocks.flatten.filter fun x => !p x)
  induction blocks with
  | nil => simp
  | cons b t ih =>
    rw [List.flatMap_cons, List.flatten_cons, List.filter_append]
    exact (collapse_perm p b).append ih

end Collapse

section Prune
variable {β : Type}

theorem keptBy_eq (e : Emit) : keptBy e = (specialUnigram e || decide (e.cutoff > 0)) := rfl

structure PInv (f : Emit → β) (proc : List Emit) (st : PState β) : Prop where
  len : st.slots.length = proc.length
  dest : st.dest = (proc.filter keptBy).length
  take : st.slots.take st.dest = (proc.filter keptBy).map f

theorem PInv.dest_le {f : Emit → β} {proc : List Emit} {st : PState β} (h : PInv f proc st) :
    st.dest ≤ st.slots.length := by
  rw [h.len, h.dest]; exact List.length_filter_le _ _

theorem take_succ_copied (slots : List β) (v : β) (dest : Nat) (hd : dest ≤ slots.length) :
    (if dest < slots.length then (slots ++ [v]).set dest v else slots ++ [v]).take (dest + 1)
      = slots.take dest ++ [v] := by
  split
  · next h =>
    rw [List.take_add_one, List.take_set_of_le (Nat.le_refl _),
      List.getElem?_set_self (by rw [List.length_append]; exact Nat.lt_succ_of_lt h),
      List.take_append_of_le_length hd]
    rfl
  · next h =>
    have : dest = slots.length := Nat.le_antisymm hd (Nat.not_lt.1 h)
    subst this
    rw [List.take_of_length_le (by simp), List.take_of_length_le (Nat.le_refl _)]

theorem keep_step (f : Emit → β) (proc : List Emit) (st : PState β) (e : Emit) (h : PInv f proc st)
    (hk : keptBy e = true) :
    PInv f (proc ++ [e])
      ⟨if st.dest < st.slots.length then (st.slots ++ [f e]).set st.dest (f e) else st.slots ++ [f e],
        st.dest + 1⟩ := by
  have hf : (proc ++ [e]).filter keptBy = proc.filter keptBy ++ [e] := by
    simp [List.filter_append, hk]
  refine ⟨?_, ?_, ?_⟩
  · show (if st.dest < st.slots.length then _ else _ : List β).length = _
    split <;> simp [h.len]
  · show st.dest + 1 = _
    rw [hf, h.dest]; simp
  · show (if st.dest < st.slots.length then _ else _ : List β).take (st.dest + 1) = _
    rw [take_succ_copied _ _ _ h.dest_le, h.take, hf]; simp

theorem drop_step (f : Emit → β) (proc : List Emit) (st : PState β) (e : Emit) (h : PInv f proc st)
    (hk : keptBy e = false) : PInv f (proc ++ [e]) ⟨st.slots ++ [f e], st.dest⟩ := by
  have hf : (proc ++ [e]).filter keptBy = proc.filter keptBy := by
    simp [List.filter_append, hk]
  refine ⟨by simp [h.len], by rw [hf]; exact h.dest, ?_⟩
  show (st.slots ++ [f e]).take st.dest = _
  rw [List.take_append_of_le_length h.dest_le, h.take, hf]

/-- no special unigram is preceded in the block by a dropped record -/
def SpecialsFirst (block : List Emit) : Prop :=
  ∀ pre e post, block = pre ++ e :: post → specialUnigram e = true → ∀ x ∈ pre, keptBy x = true

/-- one record, both forms of `operator++`; with `copySpecials = false` it is needed that a special unigram finds
`dest_ = current_`, i.e. nothing was dropped before it -/
theorem pstep_inv (cs : Bool) (f : Emit → β) (proc : List Emit) (st : PState β) (e : Emit) (h : PInv f proc st)
    (hs : cs = false → specialUnigram e = true → ∀ x ∈ proc, keptBy x = true) :
    PInv f (proc ++ [e]) (pstep cs f st e) := by
  unfold pstep
  cases cs with
  | true =>
    rw [if_pos rfl, ← keptBy_eq]
    by_cases hk : keptBy e = true
    · rw [if_pos hk]; exact keep_step f proc st e h hk
    · rw [if_neg hk]; exact drop_step f proc st e h (by simpa using hk)
  | false =>
    rw [if_neg Bool.false_ne_true]
    by_cases hsp : specialUnigram e = true
    · -- `dest_ = current_`: the slot already holds the value
      rw [if_pos hsp]
      have hall : proc.filter keptBy = proc := List.filter_eq_self.mpr (hs rfl hsp)
      have hd : st.dest = st.slots.length := by rw [h.dest, hall, h.len]
      have := keep_step f proc st e h (by rw [keptBy_eq, hsp]; rfl)
      rwa [if_neg (Nat.not_lt.2 (Nat.le_of_eq hd.symm))] at this
    · have hsp' : specialUnigram e = false := by simpa using hsp
      rw [if_neg hsp]
      by_cases hc : e.cutoff > 0
      · rw [if_pos hc]
        exact keep_step f proc st e h (by rw [keptBy_eq, hsp']; simpa using hc)
      · rw [if_neg hc]
        exact drop_step f proc st e h (by rw [keptBy_eq, hsp']; simpa using hc)

theorem prun_inv (cs : Bool) (f : Emit → β) (block : List Emit) (hb : cs = true ∨ SpecialsFirst block)
    (rest proc : List Emit) (st : PState β) (hpr : proc ++ rest = block) (h : PInv f proc st) :
    PInv f (proc ++ rest) (prun cs f st rest) := by
  induction rest generalizing proc st with
  | nil => simpa [prun] using h
  | cons e t ih =>
    have hstep := pstep_inv cs f proc st e h fun hcs hsp =>
      hb.elim (fun h => absurd (h.symm.trans hcs) (by decide)) fun hb => hb proc e t hpr.symm hsp
    simpa [prun] using ih (proc ++ [e]) _ (by simpa using hpr) hstep

theorem pruneBlock_eq (cs : Bool) (f : Emit → β) (block : List Emit) (hb : cs = true ∨ SpecialsFirst block) :
    pruneBlock cs f block = (block.filter keptBy).map f := by
  have := prun_inv cs f block hb block [] ⟨[], 0⟩ rfl ⟨rfl, rfl, rfl⟩
  simpa [pruneBlock] using this.take

theorem pruneBlock_fixed (f : Emit → β) (block : List Emit) :
    pruneBlock true f block = (block.filter keptBy).map f :=
  pruneBlock_eq true f block (.inl rfl)

theorem pruneStream_fixed (f : Emit → β) (blocks : List (List Emit)) :
    pruneStream true f blocks = (blocks.flatten.filter keptBy).map f := by
  unfold pruneStream
  induction blocks with
  | nil => rfl
  | cons b t ih =>
    rw [List.flatMap_cons, List.flatten_cons, List.filter_append, List.map_append, pruneBlock_fixed, ih]

/-- `copySpecials = false` gives the same result when no special unigram follows a dropped
record in its block (ids 0, 1, 2 come first unless the vocabulary is renumbered) -/
theorem pruneBlock_unfixed (f : Emit → β) (block : List Emit) (hb : SpecialsFirst block) :
    pruneBlock false f block = (block.filter keptBy).map f :=
  pruneBlock_eq false f block (.inr hb)

/-- … and not otherwise: a marked record followed by `</s>`: the output holds the dropped record's
stale slot instead of `</s>` -/
theorem prune_stream_unfixed_false :
    pruneBlock false id [⟨[5], 1, true⟩, ⟨[2], 3, false⟩] = [⟨[5], 1, true⟩] ∧
    pruneBlock true id [⟨[5], 1, true⟩, ⟨[2], 3, false⟩] = [⟨[2], 3, false⟩] ∧
    ([⟨[5], 1, true⟩, ⟨[2], 3, false⟩] : List Emit).filter keptBy = [⟨[2], 3, false⟩] := by
  decide

end Prune

/-- copying happens: the two `<s> <s> x` records are overwritten from the end -/
example : collapseBlock bosAt1 [([5, 1, 1], 1), ([6, 1, 1], 1), ([7, 4, 1], 1), ([8, 4, 3], 2)] =
    ([([5, 1, 1], 1), ([6, 1, 1], 1), ([7, 4, 1], 1), ([8, 4, 3], 2)],
     [([8, 4, 3], 2), ([7, 4, 1], 1)]) := by decide

/-- `copy_from_` ends below `current_` -/
example : collapseBlock bosAt1 [([7, 4, 1], 1), ([5, 1, 1], 1), ([6, 1, 1], 1)] =
    ([([7, 4, 1], 1), ([5, 1, 1], 1), ([6, 1, 1], 1)], [([7, 4, 1], 1)]) := by decide

/-- a block of `<s> <s> x` records only: nothing flows downstream -/
example : collapseBlock bosAt1 [([5, 1, 1], 1), ([6, 1, 1], 1)] =
    ([([5, 1, 1], 1), ([6, 1, 1], 1)], []) := by decide

theorem collapse_filter (cfg : Cfg) (full : List (Gram × Nat)) :
    collapse cfg full = (full.filter fun e => !bosAt1 e).map fun e => ⟨e.1, e.2, markOf cfg e.2 e.1⟩ :=
  rfl

/-- for every partition into blocks, the (marked) output of `CollapseStream` is a permutation of
`KV.KN.collapse` of the whole stream — so after the sort that follows it is the same stream -/
theorem collapseStream_collapse (cfg : Cfg) (blocks : List (List (Gram × Nat))) :
    ((collapseStream bosAt1 blocks).2.map fun e => (⟨e.1, e.2, markOf cfg e.2 e.1⟩ : Emit)).Perm
      (collapse cfg blocks.flatten) := by
  rw [collapse_filter]
  exact (collapseStream_perm bosAt1 blocks).map _

end KV.KN.Blocks
