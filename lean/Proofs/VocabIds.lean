import Proofs.VocabWords
/-!
`GrowableVocab` in the shape of KV.C07's hypothesis `h_vocab`: the ids `lmplz` assigns, as a function of the
memory configuration, against the ids by first occurrence.
-/
namespace KV.Vocab
open KV.Probing

section C07
variable {W : Type} [DecidableEq W]

/-- the id sequences of a run of `growableEncode`; `[]` stands for "the tool died" (which `vocab_ids_indep` excludes) -/
def idsOf : Except VErr (List (List Nat) × Nat) → List (List Nat)
  | .ok r => r.1
  | .error _ => []

/-- the `encode` component of `lmplz` (tokens → id sequences, special words skipped) when the memory
configuration leads to the initial-size argument `x` of the vocabulary's `AutoProbing` table -/
def growableIds (hash : W → Nat) (unk bos eos : W) (unkCapHash : Nat) (x : Nat) (text : List (List W)) :
    List (List Nat) :=
  idsOf (growableEncode ⟨hash unk, unkCapHash, hash bos, hash eos⟩ x (text.map (·.map hash)))

/-- the configuration-free specification: every token gets the index of its first occurrence among the
distinct words (`<unk>`, `<s>`, `</s>` are 0, 1, 2); occurrences of the three special words are dropped -/
def firstOccurrenceIds (unk bos eos : W) (text : List (List W)) : List (List Nat) :=
  (specEncode unk bos eos text).1

/-- **`vocab_ids_indep`** in the shape of KV.C07's hypothesis `h_vocab : ∀ m, I.encode m text = ids text`:
`Mem` is any type of memory configurations, `xOf m` the argument `RoundBuckets` receives for the
`--vocab_estimate` of `m`.  `_hnz` (no word hashes to the invalid key 0) is in C07's list of hypotheses
because the code needs it; the model has no invalid key, so no proof uses it. -/
theorem vocab_ids_indep {Mem : Type} (hash : W → Nat) (unk bos eos : W) (unkCapHash : Nat) (xOf : Mem → Nat)
    (hx : ∀ m, 1 ≤ xOf m ∧ xOf m ≤ 2^63) (text : List (List W))
    (hsp : unk ≠ bos ∧ unk ≠ eos ∧ bos ≠ eos)
    (hinj : InjOn hash ([unk, bos, eos] ++ text.flatten))
    (_hnz : ∀ w, w ∈ [unk, bos, eos] ++ text.flatten → hash w ≠ 0)
    (hmax : (specEncode unk bos eos text).2 < kWordIndexMax) :
    ∀ m, growableIds hash unk bos eos unkCapHash (xOf m) text = firstOccurrenceIds unk bos eos text := by
  intro m
  show idsOf (growableEncode ⟨hash unk, unkCapHash, hash bos, hash eos⟩ (xOf m) (text.map (·.map hash))) = _
  rw [growable_ids_first_occurrence hash unk bos eos unkCapHash text hsp hinj hmax (xOf m) (hx m).1 (hx m).2]
  rfl

end C07

end KV.Vocab
