import Proofs.ProbingInv
/-!
The map a hash-table vocabulary holds: the distinct words seen so far, each with its position plus
`base` (`ProbingVocabulary` numbers from 1, `GrowableVocab` from 0).
-/
namespace KV.Vocab
open KV.Probing

def mapFrom (base : Nat) (seen : List Nat) : Nat → Option Nat :=
  fun k => if k ∈ seen then some (seen.idxOf k + base) else none

theorem mapFrom_nil (base : Nat) : mapFrom base [] = fun _ => none := by funext k; simp [mapFrom]

theorem mapFrom_append (base : Nat) (seen : List Nat) (k : Nat) (hk : k ∉ seen) :
    upd (mapFrom base seen) k (seen.length + base) = mapFrom base (seen ++ [k]) := by
  funext x
  unfold upd mapFrom
  by_cases hx : x = k
  · subst hx
    simp [List.idxOf_append, hk]
  · by_cases hm : x ∈ seen
    · simp [hx, hm, List.idxOf_append]
    · simp [hx, hm]

end KV.Vocab
