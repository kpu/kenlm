import Proofs.ProbingScan
/-!
The invariant of the probing table, the abstraction to a finite map, and the fixed-size
operations `Find`, `Insert`, `FindOrInsert`, `UncheckedInsert`.
-/
namespace KV.Probing

variable (h : Nat → Nat)

def Stored (s : Slots) (N k v : Nat) : Prop := ∃ p, p < N ∧ s p = some (k, v)

/-- bucket-level well-formedness under hash `h` and bucket count `N`: keys are stored once and
every bucket between a key's ideal bucket and its actual bucket (cyclically) is occupied -/
structure WF (h : Nat → Nat) (s : Slots) (N : Nat) : Prop where
  pos : 0 < N
  distinct : ∀ p q k v w, p < N → q < N → s p = some (k, v) → s q = some (k, w) → p = q
  path : ∀ p k v, p < N → s p = some (k, v) → PathOK s N (ideal h N k) p

/-- the field `distinct`, spelled out in `WF` as written, is `KeysDistinct` -/
theorem WF.keysDistinct {h : Nat → Nat} {s : Slots} {N : Nat} (wf : WF h s N) : KeysDistinct s N := wf.distinct

/-- the table invariant: well-formed buckets, at least one empty bucket, and `entries_` is an
upper bound of the number of occupied buckets (it runs ahead after a `ProbingSizeException`) -/
structure Inv (h : Nat → Nat) (t : Table) : Prop where
  wf : WF h t.s t.N
  hole : ∃ e, e < t.N ∧ t.s e = none
  cnt : occ t.s t.N ≤ t.entries

def Abs (t : Table) (M : Nat → Option Nat) : Prop := ∀ k v, Stored t.s t.N k v ↔ M k = some v

theorem WF_fill (s : Slots) (N k v q : Nat) (wf : WF h s N)
    (hpath : PathOK s N (ideal h N k) q) (hfresh : Fresh s N k) :
    WF h (set s q (some (k, v))) N := by
  refine ⟨wf.pos, wf.keysDistinct.fill hfresh q v, ?_⟩
  intro p k' v' hp h1
  rw [set_eq_some_iff] at h1
  rcases h1 with ⟨rfl, e⟩ | ⟨_, h1⟩
  · cases e; exact PathOK_mono s _ N _ _ (set_mono s p _) hpath
  · exact PathOK_mono s _ N _ _ (set_mono s q _) (wf.path p k' v' hp h1)

theorem Stored_fill (s : Slots) (N k v q : Nat) (hq : q < N) (hqs : s q = none) (k' v' : Nat) :
    Stored (set s q (some (k, v))) N k' v' ↔ Stored s N k' v' ∨ (k' = k ∧ v' = v) := by
  constructor
  · rintro ⟨p, hp, h1⟩
    rw [set_eq_some_iff] at h1
    rcases h1 with ⟨_, e⟩ | ⟨_, h1⟩
    · cases e; exact Or.inr ⟨rfl, rfl⟩
    · exact Or.inl ⟨p, hp, h1⟩
  · rintro (⟨p, hp, h1⟩ | ⟨rfl, rfl⟩)
    · have e : p ≠ q := by intro e; subst e; rw [hqs] at h1; cases h1
      exact ⟨p, hp, by rw [set_ne _ _ e]; exact h1⟩
    · exact ⟨q, hq, set_self ..⟩

/-- an entry taken out of its bucket and put into an empty one: the stored pairs are the same -/
theorem Stored_move (s : Slots) (N i q k v : Nat) (hi : i < N) (hsi : s i = some (k, v)) (hq : q < N)
    (hqs : set s i none q = none) (k' v' : Nat) :
    Stored (set (set s i none) q (some (k, v))) N k' v' ↔ Stored s N k' v' := by
  rw [Stored_fill (set s i none) N k v q hq hqs k' v']
  constructor
  · rintro (⟨p, hp, h1⟩ | ⟨rfl, rfl⟩)
    · rw [set_eq_some_iff] at h1
      rcases h1 with ⟨_, e⟩ | ⟨_, h1⟩
      · cases e
      · exact ⟨p, hp, h1⟩
    · exact ⟨i, hi, hsi⟩
  · rintro ⟨p, hp, h1⟩
    by_cases e : p = i
    · subst e
      rw [hsi] at h1
      cases h1
      exact Or.inr ⟨rfl, rfl⟩
    · exact Or.inl ⟨p, hp, by rw [set_ne _ _ e]; exact h1⟩

/-- with room in the buckets the `UncheckedInsert` loop stops, at an empty bucket behind an occupied path -/
theorem firstEmpty_room (s : Slots) (N i : Nat) (hc : occ s N < N) (hi : i < N) :
    ∃ q, firstEmpty s N N i = some q ∧ q < N ∧ s q = none ∧ PathOK s N i q :=
  let ⟨e, he, hes⟩ := exists_hole s N hc
  firstEmpty_total s N e i he hes hi

theorem Abs_fresh (t : Table) (M : Nat → Option Nat) (abs : Abs t M) (k : Nat) (hM : M k = none) :
    Fresh t.s t.N k := by
  intro p w hp hs
  have := (abs k w).1 ⟨p, hp, hs⟩
  rw [hM] at this; cases this

theorem upd_eq_some_iff (M : Nat → Option Nat) (k v k' v' : Nat) (hM : M k = none) :
    upd M k v k' = some v' ↔ M k' = some v' ∨ (k' = k ∧ v' = v) := by
  unfold upd
  by_cases hk : k' = k
  · subst hk; simp [hM, eq_comm]
  · simp [hk]

theorem Abs_fill (t : Table) (M : Nat → Option Nat) (abs : Abs t M) (k v q : Nat) (hq : q < t.N)
    (hqs : t.s q = none) (hM : M k = none) (e : Nat) :
    Abs { s := set t.s q (some (k, v)), N := t.N, entries := e } (upd M k v) := by
  intro k' v'
  show Stored (set t.s q (some (k, v))) t.N k' v' ↔ _
  rw [Stored_fill t.s t.N k v q hq hqs, upd_eq_some_iff M k v k' v' hM, abs k' v']

theorem Inv_empty (N : Nat) (hN : 0 < N) : Inv h (emptyTable N) := by
  refine ⟨⟨hN, ?_, ?_⟩, ⟨0, hN, rfl⟩, ?_⟩
  · intro p q k v w _ _ h1; cases h1
  · intro p k v _ h1; cases h1
  · show occ (fun _ => none) N ≤ 0
    rw [occ_empty]; exact Nat.le_refl _

theorem Abs_empty (N : Nat) : Abs (emptyTable N) (fun _ => none) := by
  intro k v
  constructor
  · rintro ⟨p, _, h1⟩; cases h1
  · intro h1; cases h1

theorem scan_stored (t : Table) (inv : Inv h t) (k p v : Nat) (hp : p < t.N)
    (hs : t.s p = some (k, v)) :
    scan t.s t.N k t.N (ideal h t.N k) = some (.found p v) :=
  scan_found t.s t.N k p v hp hs
    (fun q w hq hqs => inv.wf.distinct q p k w v hq hp hqs hs)
    t.N _ (ideal_lt h t.N k inv.wf.pos) (dist_lt _ _ _ (ideal_lt h t.N k inv.wf.pos) hp)
    (inv.wf.path p k v hp hs)

theorem scan_not_stored (t : Table) (inv : Inv h t) (k : Nat) (hk : Fresh t.s t.N k) :
    ∃ q, scan t.s t.N k t.N (ideal h t.N k) = some (.absent q) ∧ q < t.N ∧ t.s q = none ∧
      PathOK t.s t.N (ideal h t.N k) q ∧ firstEmpty t.s t.N t.N (ideal h t.N k) = some q := by
  obtain ⟨e, he, hes⟩ := inv.hole
  obtain ⟨q, hq, hqN, hqs, hp⟩ :=
    firstEmpty_total t.s t.N e (ideal h t.N k) he hes (ideal_lt h t.N k inv.wf.pos)
  refine ⟨q, ?_, hqN, hqs, hp, hq⟩
  rw [scan_absent_eq t.s t.N k hk t.N _ (ideal_lt h t.N k inv.wf.pos), hq]
  rfl

theorem find_correct (t : Table) (M : Nat → Option Nat) (inv : Inv h t)
    (abs : Abs t M) (k : Nat) : find h t k = some (M k) := by
  cases hM : M k with
  | none =>
    obtain ⟨q, hq, _⟩ := scan_not_stored h t inv k (Abs_fresh t M abs k hM)
    simp [find, hq]
  | some v =>
    obtain ⟨p, hp, hs⟩ := (abs k v).2 hM
    simp [find, scan_stored h t inv k p v hp hs]

theorem Inv_bump (t : Table) (inv : Inv h t) :
    Inv h { t with entries := t.entries + 1 } :=
  ⟨inv.wf, inv.hole, Nat.le_succ_of_le inv.cnt⟩

/-- what an insertion of the pair `(k, v)`, not in the map `M` of the table `t`, leaves: the table `t'` with the pair in
bucket `q` and `entries_ = e` -/
structure Inserted (h : Nat → Nat) (t : Table) (M : Nat → Option Nat) (k v e q : Nat) (t' : Table) : Prop where
  inv : Inv h t'
  abs : Abs t' (upd M k v)
  N : t'.N = t.N
  entries : t'.entries = e
  pos : q < t.N
  stored : t'.s q = some (k, v)

/-- the key goes into the empty bucket `q` at the end of its probe path; a hole must be left and `e` count the new entry -/
theorem Inv_fill (t : Table) (M : Nat → Option Nat) (k v q e : Nat) (wf : WF h t.s t.N) (abs : Abs t M)
    (hM : M k = none) (hq : q < t.N) (hqs : t.s q = none) (hp : PathOK t.s t.N (ideal h t.N k) q)
    (hc : occ t.s t.N + 1 < t.N) (he : occ t.s t.N + 1 ≤ e) :
    Inserted h t M k v e q { s := set t.s q (some (k, v)), N := t.N, entries := e } := by
  have hocc : occ (set t.s q (some (k, v))) t.N = occ t.s t.N + 1 := occ_set_some t.s q (k, v) t.N hq hqs
  exact ⟨⟨WF_fill h t.s t.N k v q wf hp (Abs_fresh t M abs k hM), exists_hole _ _ (hocc ▸ hc), hocc ▸ he⟩,
    Abs_fill t M abs k v q hq hqs hM e, rfl, rfl, hq, set_self ..⟩

theorem uncheckedInsert_spec (t : Table) (M : Nat → Option Nat) (k v : Nat)
    (wf : WF h t.s t.N) (hc : occ t.s t.N + 1 < t.N) (hcnt : occ t.s t.N + 1 ≤ t.entries)
    (abs : Abs t M) (hM : M k = none) :
    ∃ q t', uncheckedInsert h t k v = some (q, t') ∧ Inserted h t M k v t.entries q t' := by
  obtain ⟨q, hq, hqN, hqs, hp⟩ := firstEmpty_room t.s t.N _ (Nat.lt_of_succ_lt hc) (ideal_lt h t.N k wf.pos)
  exact ⟨q, _, by simp [uncheckedInsert, hq], Inv_fill h t M k v q t.entries wf abs hM hqN hqs hp hc hcnt⟩

theorem insert_spec (t : Table) (M : Nat → Option Nat) (k v : Nat)
    (inv : Inv h t) (abs : Abs t M) (hM : M k = none) (hc : t.entries + 1 < t.N) :
    ∃ q t', insert h t k v = .ok (q, t') ∧ Inserted h t M k v (t.entries + 1) q t' := by
  have hcnt := inv.cnt
  obtain ⟨q, t', hu, r⟩ :=
    uncheckedInsert_spec h { t with entries := t.entries + 1 } M k v inv.wf
      (by show occ t.s t.N + 1 < t.N; omega) (by show occ t.s t.N + 1 ≤ t.entries + 1; omega)
      abs hM
  have hnf : ¬ (t.entries + 1 ≥ t.N) := by omega
  exact ⟨q, t', by simp [insert, hnf, hu], r.inv, r.abs, r.N, r.entries, r.pos, r.stored⟩

theorem insert_full (t : Table) (k v : Nat) (hc : t.entries + 1 ≥ t.N) :
    insert h t k v = .full { t with entries := t.entries + 1 } := by
  simp [insert, hc]

theorem findOrInsert_found (t : Table) (M : Nat → Option Nat) (k v v' : Nat)
    (inv : Inv h t) (abs : Abs t M) (hM : M k = some v') :
    ∃ p, findOrInsert h t k v = .ok (true, p, v', t) ∧ p < t.N ∧ t.s p = some (k, v') := by
  obtain ⟨p, hp, hs⟩ := (abs k v').2 hM
  exact ⟨p, by simp [findOrInsert, scan_stored h t inv k p v' hp hs], hp, hs⟩

theorem findOrInsert_new (t : Table) (M : Nat → Option Nat) (k v : Nat)
    (inv : Inv h t) (abs : Abs t M) (hM : M k = none) (hc : t.entries + 1 < t.N) :
    ∃ p t', findOrInsert h t k v = .ok (false, p, v, t') ∧ Inserted h t M k v (t.entries + 1) p t' := by
  obtain ⟨q, hq, hqN, hqs, hp, _⟩ := scan_not_stored h t inv k (Abs_fresh t M abs k hM)
  have hcnt := inv.cnt
  have hnf : ¬ (t.entries + 1 ≥ t.N) := by omega
  exact ⟨q, _, by simp [findOrInsert, hq, hnf],
    Inv_fill h t M k v q (t.entries + 1) inv.wf abs hM hqN hqs hp (by omega) (by omega)⟩

/-- the scan ends at the hole the invariant guarantees, so the capacity test is reached -/
theorem findOrInsert_full (t : Table) (M : Nat → Option Nat) (k v : Nat)
    (inv : Inv h t) (abs : Abs t M) (hM : M k = none) (hc : t.entries + 1 ≥ t.N) :
    findOrInsert h t k v = .full { t with entries := t.entries + 1 } := by
  obtain ⟨q, hq, _⟩ := scan_not_stored h t inv k (Abs_fresh t M abs k hM)
  simp [findOrInsert, hq, hc]

end KV.Probing
