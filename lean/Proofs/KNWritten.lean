import Proofs.KNProb
/-!
What the model of a well-formed table contains (table level, every order ≥ 1): an n-gram has an
entry iff it is a record of its order and is not pruned (`written_iff`); written = unmarked
(`RecordsOK.kept_eq_unmarked`), so the header counts are the numbers of entries (`header_counts_table`); the
written n-grams are closed under dropping the newest and the oldest word (`closed_tableOK`).
-/
namespace KV.KN.Norm

open KV.KN KV.KN.Spec

section
variable {cfg : Cfg} {full : Table} (hw : WF cfg full)
include hw

theorem key_row {n : Nat} (h1 : 1 ≤ n) (hn : n ≤ cfg.order) {g : Gram} (hg : g ∈ ksOf cfg full n) :
    g = [unk] ∨ g = [bos] ∨ ∃ e ∈ full, e.1.take g.length = g := by
  by_cases hn1 : n = 1
  · subst hn1
    refine (mem_ksOf_one.mp hg).imp_right (Or.imp_right fun hk => ?_)
    obtain ⟨e, he, _, rfl⟩ := mem_keys.mp hk
    exact ⟨e, he, by rw [hw.take_len he hn]⟩
  · obtain ⟨m, rfl⟩ : ∃ m, n = m + 1 := ⟨n - 1, (Nat.sub_add_cancel h1).symm⟩
    have hm : 1 ≤ m := Nat.lt_of_le_of_ne (Nat.zero_le m) fun h => hn1 (h ▸ rfl)
    obtain ⟨e, he, _, rfl⟩ := hi_key (hw.hi (Nat.le_trans (Nat.succ_le_succ hm) hn)) hm hn hg
    exact Or.inr (Or.inr ⟨e, he, by rw [hw.take_len he hn]⟩)

theorem written_iff (discs : List (Disc × Bool)) (g : Gram) :
    (Query.lookup (ordersOf (specCtx cfg full discs)) g).isSome = true ↔
      1 ≤ g.length ∧ g.length ≤ cfg.order ∧ g ∈ (Spec.ents cfg full g.length).map (·.gram) ∧
        Spec.pruned cfg full g = false := by
  by_cases hne : g = []
  · subst hne; simp [Query.lookup]
  have hl1 : 1 ≤ g.length := List.length_pos_iff.mpr hne
  rw [lookup_isSome_iff _ hne, keptIn_iff]
  constructor
  · rintro ⟨e, he, hke, heg⟩
    by_cases hlen : g.length ≤ cfg.order
    · rw [esAt_mid hw discs hl1 hlen] at he
      obtain ⟨k, _, hk⟩ := mem_ents.mp he
      have hkg : k = g := by rw [← recOf_gram cfg full k, hk, heg]
      subst hkg
      refine ⟨hl1, hlen, List.mem_map.mpr ⟨e, he, heg⟩, ?_⟩
      rw [← hk] at hke
      exact pruned_false_of_kept hke
    · rw [esAt_above hw discs (Nat.lt_of_not_le hlen)] at he; cases he
  · rintro ⟨_, hlen, hmem, hp⟩
    rw [ents_grams] at hmem
    refine ⟨recOf cfg full g, ?_, ?_, recOf_gram ..⟩
    · rw [esAt_mid hw discs hl1 hlen]
      exact mem_ents.mpr ⟨g, hmem, rfl⟩
    · refine keptBy_recOf.mpr ?_
      rcases key_row hw hl1 hlen hmem with h | h | ⟨e, he, hk⟩
      · exact .inl (.inl h)
      · exact .inl (.inr (.inl h))
      · exact .inr ⟨hp, adj_pos he hk (hw.pos e he)⟩

theorem written_iff_nopruning (hthr0 : ∀ i, cfg.thr i = 0) (hex : ∀ w, cfg.excl w = false)
    (discs : List (Disc × Bool)) (g : Gram) :
    (Query.lookup (ordersOf (specCtx cfg full discs)) g).isSome = true ↔
      1 ≤ g.length ∧ g.length ≤ cfg.order ∧ g ∈ (Spec.ents cfg full g.length).map (·.gram) := by
  rw [written_iff hw discs g]
  refine and_congr_right fun h1 => and_congr_right fun h2 => and_iff_left_of_imp fun h3 => ?_
  rw [ents_grams] at h3
  rcases key_row hw h1 h2 h3 with h | h | ⟨e, he, hk⟩
  · subst h; rfl
  · subst h; rfl
  · refine (pruned_eq_false_iff ..).mpr (Or.inr ⟨?_, fun w _ => hex w⟩)
    rw [hthr0]
    exact trueCount_pos he hk (hw.pos e he)

end

theorem esAt_of_mem (c : Spec.Ctx) {l : List Emit} (hl : l ∈ c.es) : ∃ n, 1 ≤ n ∧ c.esAt n = l := by
  obtain ⟨i, hi⟩ := List.mem_iff_getElem?.mp hl
  exact ⟨i + 1, Nat.le_add_left 1 i, esAt_getElem? hi⟩

/-- Header counts (table level): the per-order counts in the header (`counts_pruned`) count the
unmarked records, and on a well-formed table written = unmarked: they are the numbers of entries
written. -/
theorem header_counts_table (cfg : Cfg) (fallback : Option Disc) (full : Spec.Table) (m : Model)
    (hm : Spec.estimateFrom cfg fallback full = .ok m) (hw : WF cfg full) :
    m.header = m.orders.map List.length := by
  obtain ⟨discs, _, ho⟩ := estimateFrom_orders cfg fallback full m hm
  rw [estimateFrom_header cfg fallback full m hm, ho]
  unfold ordersOf
  have hes : (specCtx cfg full discs).es = specRecords cfg full := rfl
  rw [hes, List.map_map, List.map_map]
  apply List.map_congr_left
  intro l hl
  obtain ⟨n, hn, hln⟩ := esAt_of_mem (specCtx cfg full discs) (hes ▸ hl)
  simp only [Function.comp, List.length_mergeSort, List.length_map, Spec.stats]
  rw [List.countP_eq_length_filter]
  congr 1
  apply List.filter_congr
  intro e he
  rw [(recordsOK_of_wf hw discs).kept_eq_unmarked hn (hln ▸ he)]

theorem closed_tableOK {c : Spec.Ctx} (h : TableOK c) (g : Gram) (hg : 2 ≤ g.length)
    (hin : (Query.lookup (ordersOf c) g).isSome = true) :
    (Query.lookup (ordersOf c) g.tail).isSome = true ∧
      (Query.lookup (ordersOf c) g.dropLast).isSome = true := by
  cases g with
  | nil => simp at hg
  | cons w ctx =>
    have hc : ctx ≠ [] := by intro h0; subst h0; simp at hg
    have hk := (lookup_isSome_iff c (List.cons_ne_nil w ctx)).mp hin
    rw [List.tail_cons, List.dropLast_cons_of_ne_nil hc]
    exact ⟨(lookup_isSome_iff c hc).mpr (keptIn_tail h w ctx hc hk),
      (lookup_isSome_iff c (List.cons_ne_nil _ _)).mpr (keptIn_dropLast h w ctx hc hk)⟩

section
variable {cfg : Cfg} {full : Table} (hw : TableWF1 cfg full) (discs : List (Disc × Bool))
include hw

/-- no n-gram of length ≥ 2 is written by the order-1 model (so the closure clause,
`closed_tableOK`, is vacuous there) -/
theorem no_higher_order1 (g : Gram) (hg : 2 ≤ g.length) :
    (Query.lookup (ordersOf (specCtx cfg full discs)) g).isSome = false := by
  rw [Bool.eq_false_iff, ne_eq, written_iff (.inr hw) discs g, hw.order1]
  exact fun h => absurd (Nat.le_trans hg h.2.1) (by decide)
end

end KV.KN.Norm
