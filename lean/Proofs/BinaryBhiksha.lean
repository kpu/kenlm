import Model.Bhiksha
import Proofs.Basics
/-! The ArrayBhiksha offset table in closed form (`offsSpec`: what the successive `WriteNext` calls fill in) and, from it, what
`FinishedLoading` accepts and `ReadNext` returns (`array_table`). -/
namespace KV.Bhiksha
open KV.Bits KV.Binary

/-- what the successive `WriteNext` calls append to `offset_begin_[1..]`: record `i` is written into every slot from the
current fill level up to the high part of its pointer -/
def offsSpec (bits : Nat) : List Nat → Nat → Nat → List Nat
  | [], _, _ => []
  | v :: vs, i, len => List.replicate ((v >>> bits) - len) i ++ offsSpec bits vs (i + 1) (max len (v >>> bits))

theorem writeAll_bits (vs : List Nat) : ∀ i a, (writeAll vs i a).bits = a.bits := by
  induction vs with
  | nil => intro i a; rfl
  | cons v vs ih => intro i a; simp [writeAll, ih, Arr.writeNext]

theorem writeAll_fields (vs : List Nat) : ∀ i a, (writeAll vs i a).count = a.count ∧
    (writeAll vs i a).inl = a.inl ++ vs.map (· % 2^a.bits) ∧
    (writeAll vs i a).offs = a.offs ++ offsSpec a.bits vs i a.offs.length := by
  induction vs with
  | nil => intro i a; simp [writeAll, offsSpec]
  | cons v vs ih =>
    intro i a
    obtain ⟨hc, hi, ho⟩ := ih (i + 1) (a.writeNext i v)
    refine ⟨hc, hi.trans ?_, ho.trans ?_⟩
    · simp [Arr.writeNext]
    -- the fill level after writing `v`: `len + (v >>> bits - len) = max len (v >>> bits)`
    · simp only [offsSpec, Arr.writeNext, List.append_assoc, List.length_append, List.length_replicate,
        Nat.add_comm a.offs.length, Nat.sub_add_eq_max, Nat.max_comm (v >>> a.bits)]

theorem offsSpec_mem (bits : Nat) (vs : List Nat) : ∀ i len, ∀ x ∈ offsSpec bits vs i len, i ≤ x ∧ x < i + vs.length := by
  induction vs with
  | nil => intro i len x hx; cases hx
  | cons v vs ih =>
    intro i len x hx
    rw [List.length_cons, ← Nat.add_assoc]
    rcases List.mem_append.mp hx with h | h
    · rw [(List.mem_replicate.mp h).2]
      exact ⟨Nat.le_refl i, Nat.lt_succ_of_le (Nat.le_add_right i _)⟩
    · have := ih _ _ x h
      exact ⟨Nat.le_of_succ_le this.1, Nat.add_right_comm i 1 _ ▸ this.2⟩

theorem offsSpec_cons_of_le {bits v len : Nat} (vs : List Nat) (i : Nat) (h : len ≤ v >>> bits) :
    offsSpec bits (v :: vs) i len = List.replicate (v >>> bits - len) i ++ offsSpec bits vs (i + 1) (v >>> bits) := by
  rw [offsSpec, Nat.max_eq_right h]

theorem offsSpec_length (bits : Nat) (vs : List Nat) (hne : vs ≠ []) (hmono : vs.Pairwise (· ≤ ·)) :
    ∀ i len, (∀ v ∈ vs, len ≤ v >>> bits) → (offsSpec bits vs i len).length = (vs.getLast hne >>> bits) - len := by
  induction vs with
  | nil => exact absurd rfl hne
  | cons v vs ih =>
    intro i len hlen
    have hm := List.pairwise_cons.mp hmono
    rw [offsSpec_cons_of_le vs i (hlen v List.mem_cons_self), List.length_append, List.length_replicate]
    by_cases hvs : vs = []
    · subst hvs; rfl
    · have hle : ∀ w ∈ vs, (v >>> bits) ≤ w >>> bits := fun w hw => shr_mono bits (hm.1 w hw)
      rw [ih hvs hm.2 _ _ hle, List.getLast_cons hvs, Nat.add_comm,
        Nat.sub_add_sub_cancel (hle _ (List.getLast_mem hvs)) (hlen v List.mem_cons_self)]

theorem offsSpec_takeWhile (bits : Nat) (vs : List Nat) (hmono : vs.Pairwise (· ≤ ·)) :
    ∀ i len k (h : k < vs.length), (∀ v ∈ vs, len ≤ v >>> bits) →
      ((offsSpec bits vs i len).takeWhile (· ≤ i + k)).length = (vs[k] >>> bits) - len := by
  induction vs with
  | nil => intro i len k h; cases h
  | cons v vs ih =>
    intro i len k hk hlen
    have hm := List.pairwise_cons.mp hmono
    -- the entries for `v` all count; those for later pointers count iff `k > 0`
    rw [offsSpec_cons_of_le vs i (hlen v List.mem_cons_self),
      List.takeWhile_append_of_pos (by intro y hy; rw [(List.mem_replicate.mp hy).2]; simp),
      List.length_append, List.length_replicate]
    cases k with
    | zero =>
      rw [takeWhile_none]
      · rfl
      · intro y hy
        exact decide_eq_false (Nat.not_le_of_gt (offsSpec_mem bits vs _ _ y hy).1)
    | succ k =>
      have hk' : k < vs.length := Nat.lt_of_succ_lt_succ hk
      have hle : ∀ w ∈ vs, (v >>> bits) ≤ w >>> bits := fun w hw => shr_mono bits (hm.1 w hw)
      rw [Nat.add_left_comm i k 1, Nat.add_comm k, ih hm.2 (i + 1) (v >>> bits) k hk' hle,
        List.getElem_cons_succ, Nat.add_comm,
        Nat.sub_add_sub_cancel (hle _ (List.getElem_mem hk')) (hlen v List.mem_cons_self)]

/-- **the ArrayBhiksha round trip.**  For a non-decreasing pointer sequence `vs` whose last element has the table's top index as
high part: `FinishedLoading` accepts; the table is the leading 0 followed by the slots `WriteNext` filled, one per value of the
high part, each a record index; the inline fields are the low parts; and `ReadNext` of every record returns the pair that was
written. -/
theorem array_table (bits : Nat) (vs : List Nat) (hne : vs ≠ []) (hmono : vs.Pairwise (· ≤ ·)) :
    let a := writeAll vs 0 (Arr.init bits ((vs.getLast hne >>> bits) + 1))
    a.finish = some (0 :: a.offs) ∧ a.offs.length = vs.getLast hne >>> bits ∧ (∀ x ∈ a.offs, x < vs.length) ∧
    a.inl = vs.map (· % 2^bits) ∧
    ∀ i, i + 1 < vs.length → readNext bits (0 :: a.offs) a.inl i = (vs.getD i 0, vs.getD (i + 1) 0) := by
  intro a
  obtain ⟨hcount, hinl, hoffs⟩ : a.count = (vs.getLast hne >>> bits) + 1 ∧ a.inl = [] ++ vs.map (· % 2^bits) ∧
      a.offs = [] ++ offsSpec bits vs 0 0 := writeAll_fields vs 0 _
  rw [List.nil_append] at hinl hoffs
  have hlen0 : ∀ v ∈ vs, 0 ≤ v >>> bits := fun _ _ => Nat.zero_le _
  have hlen : a.offs.length = vs.getLast hne >>> bits := by rw [hoffs, offsSpec_length bits vs hne hmono 0 0 hlen0, Nat.sub_zero]
  refine ⟨by rw [Arr.finish, hlen, hcount, if_pos rfl], hlen,
    fun x hx => Nat.zero_add vs.length ▸ (offsSpec_mem bits vs 0 0 x (hoffs ▸ hx)).2, hinl, fun i hi => ?_⟩
  have hi0 : i < vs.length := Nat.lt_of_succ_lt hi
  -- the table has `vs[i] >>> bits` entries `≤ i` after the leading 0, and `vs[i+1] >>> bits` entries `≤ i + 1`
  have tw1 := offsSpec_takeWhile bits vs hmono 0 0 i hi0 hlen0
  have tw2 := offsSpec_takeWhile bits vs hmono 0 0 (i + 1) hi hlen0
  rw [Nat.zero_add, Nat.sub_zero] at tw1 tw2
  generalize hb : vs[i] >>> bits = b at tw1
  generalize he : vs[i + 1] >>> bits = e at tw2
  have hmon : b ≤ e := by
    rw [← hb, ← he]
    exact shr_mono bits (List.pairwise_iff_getElem.mp hmono i (i + 1) hi0 hi (Nat.lt_succ_self i))
  have hub : upperBound (0 :: offsSpec bits vs 0 0) i = b + 1 := by
    rw [upperBound, List.takeWhile_cons_of_pos (by simp), List.length_cons, tw1]
  have hdrop : (((0 :: offsSpec bits vs 0 0).drop (b + 1)).takeWhile (· ≤ i + 1)).length = e - b := by
    rw [List.drop_succ_cons, takeWhile_drop_length _ _ _ (by rw [tw2]; exact hmon), tw2]
  have g : ∀ j (h : j < vs.length), (vs.map (· % 2^bits)).getD j 0 = vs[j] % 2^bits := fun j h => by
    rw [List.getD_eq_getElem?_getD, List.getElem?_map, List.getElem?_eq_getElem h]; rfl
  rw [hoffs, readNext, hub, Nat.add_sub_cancel, hdrop, Nat.add_right_comm, Nat.add_sub_cancel, Nat.add_sub_cancel' hmon, hinl,
    g i hi0, g (i + 1) hi, ← hb, ← he, shift_or, shift_or, ← List.getElem_eq_getD (h := hi0), ← List.getElem_eq_getD (h := hi)]

end KV.Bhiksha
