import Model.Search
/-! Soundness, completeness, termination and in-range probing of the interpolation search.

The lemmas about `bfind` ask only for `key ≤ hiV`.  The C20 statements (and `probes_in_range`, which C10 calls with it) also carry `loV ≤ key`: it is the precondition of
the code under which the model's truncated `key - loV` is the code's unsigned subtraction, not something a proof uses. -/
namespace KV.Search

/-- what the search needs of the `Pivot` template parameter of `sorted_uniform.hh`: for an offset `key - before_v` within the
value range `after_v - before_v` (the precondition `before_v ≤ key ≤ after_v`) it returns an offset inside the bracket -/
def PivotOK (pivot : Nat → Nat → Nat → Nat) : Prop :=
  ∀ off range width, 0 < width → off ≤ range → pivot off range width < width

theorem pivot32_ok : PivotOK pivot32 := by
  intro off range width hw hor
  unfold pivot32
  rw [Nat.div_lt_iff_lt_mul (by omega)]
  have h1 : (off * width) % 2^64 ≤ off * width := Nat.mod_le _ _
  have h2 : off * width < width * (range + 1) := by
    rw [Nat.mul_comm width]
    exact Nat.mul_lt_mul_of_lt_of_le (by omega) (Nat.le_refl _) hw
  omega

/-- `Pivot64` is acceptable whatever the floating-point unit computes (even for NaN/inf casts):
the final cap alone guarantees it. -/
theorem pivot64_ok (f : Nat → Nat → Nat → Nat) : PivotOK (pivot64 f) := by
  intro off range width hw _
  unfold pivot64
  split <;> omega

/-- the positions `bfind` reads, in order: a second copy of its loop that collects them (the model's `bfind` returns only
the result).  The two recursions agree line by line; no lemma ties them, `probes_in_range` is about this copy -/
def probes (a : Nat → Nat) (pivot : Nat → Nat → Nat → Nat) (key : Nat) :
    (fuel : Nat) → (lo : Nat) → (loV : Nat) → (hi : Nat) → (hiV : Nat) → List Nat
  | 0, _, _, _, _ => []
  | fuel+1, lo, loV, hi, hiV =>
    if hi - lo > 1 then
      let p := lo + (1 + pivot (key - loV) (hiV - loV) (hi - lo - 1))
      let mid := a p
      if mid < key then p :: probes a pivot key fuel p mid hi hiV
      else if mid > key then p :: probes a pivot key fuel lo loV p mid
      else [p]
    else []

theorem probe_between {pivot} (hp : PivotOK pivot) {key lo loV hi hiV : Nat} (h2 : key ≤ hiV)
    (hgap : hi - lo > 1) :
    lo < lo + (1 + pivot (key - loV) (hiV - loV) (hi - lo - 1)) ∧
      lo + (1 + pivot (key - loV) (hiV - loV) (hi - lo - 1)) < hi := by
  have hx := hp (key - loV) (hiV - loV) (hi - lo - 1) (Nat.sub_pos_of_lt hgap) (Nat.sub_le_sub_right h2 loV)
  generalize pivot (key - loV) (hiV - loV) (hi - lo - 1) = x at hx ⊢
  omega

theorem probes_in_range (a pivot key) (hp : PivotOK pivot) : ∀ fuel lo loV hi hiV,
    loV ≤ key → key ≤ hiV → ∀ p ∈ probes a pivot key fuel lo loV hi hiV, lo < p ∧ p < hi := by
  intro fuel lo loV hi hiV
  fun_induction probes a pivot key fuel lo loV hi hiV with
  | case1 => intro _ _ q h; cases h
  | case2 fuel lo loV hi hiV hgap p mid hlt ih =>
    intro h1 h2 q h
    have hb : lo < p ∧ p < hi := probe_between hp h2 hgap
    clear_value p
    rcases List.mem_cons.mp h with h | h
    · subst h; exact hb
    · have := ih (Nat.le_of_lt hlt) h2 q h; omega
  | case3 fuel lo loV hi hiV hgap p mid hlt hgt ih =>
    intro h1 h2 q h
    have hb : lo < p ∧ p < hi := probe_between hp h2 hgap
    clear_value p
    rcases List.mem_cons.mp h with h | h
    · subst h; exact hb
    · have := ih h1 (Nat.le_of_lt hgt) q h; omega
  | case4 fuel lo loV hi hiV hgap p mid hlt hgt =>
    intro h1 h2 q h
    rw [List.mem_singleton] at h
    subst h; exact probe_between hp h2 hgap
  | case5 => intro _ _ q h; cases h

theorem bfind_sound (a pivot key) (hp : PivotOK pivot) : ∀ fuel lo loV hi hiV p, key ≤ hiV →
    bfind a pivot key fuel lo loV hi hiV = some p → a p = key ∧ lo < p ∧ p < hi := by
  intro fuel lo loV hi hiV
  fun_induction bfind a pivot key fuel lo loV hi hiV with
  | case1 => intro q _ h; cases h
  | case2 fuel lo loV hi hiV hgap p mid hlt ih =>
    intro q h2 h
    have hb : lo < p ∧ p < hi := probe_between hp h2 hgap
    clear_value p
    have := ih q h2 h
    omega
  | case3 fuel lo loV hi hiV hgap p mid hlt hgt ih =>
    intro q h2 h
    have hb : lo < p ∧ p < hi := probe_between hp h2 hgap
    clear_value p
    have := ih q (Nat.le_of_lt hgt) h
    omega
  | case4 fuel lo loV hi hiV hgap p mid hlt hgt =>
    intro q h2 h
    cases h
    exact ⟨by omega, probe_between hp h2 hgap⟩
  | case5 => intro q _ h; cases h

def SortedIn (a : Nat → Nat) (lo hi : Nat) : Prop := ∀ i j, lo < i → i ≤ j → j < hi → a i ≤ a j

theorem SortedIn.mono {a : Nat → Nat} {lo hi lo' hi' : Nat} (h : SortedIn a lo hi) (h1 : lo ≤ lo')
    (h2 : hi' ≤ hi) : SortedIn a lo' hi' :=
  fun i j hi hij hj => h i j (Nat.lt_of_le_of_lt h1 hi) hij (Nat.lt_of_lt_of_le hj h2)

theorem bfind_complete (a pivot key) (hp : PivotOK pivot) : ∀ fuel lo loV hi hiV,
    SortedIn a lo hi → key ≤ hiV →
    hi ≤ lo + fuel + 1 → (∃ q, lo < q ∧ q < hi ∧ a q = key) →
    ∃ p, bfind a pivot key fuel lo loV hi hiV = some p := by
  intro fuel lo loV hi hiV
  fun_induction bfind a pivot key fuel lo loV hi hiV with
  | case1 => intro _ _ hf ⟨q, h1, h2, _⟩; omega
  | case2 fuel lo loV hi hiV hgap p mid hlt ih =>
    intro mono hh hf ⟨q, h1, h2, h3⟩
    have hb : lo < p ∧ p < hi := probe_between hp hh hgap
    clear_value p
    -- the key lies to the right of `p`: left of it the values are at most `a p < key`
    have hq : p < q := Nat.lt_of_not_le fun h =>
      Nat.not_le_of_lt (h3.symm ▸ hlt : a p < a q) (mono q p h1 h hb.2)
    exact ih (mono.mono (Nat.le_of_lt hb.1) (Nat.le_refl _)) hh (by omega) ⟨q, hq, h2, h3⟩
  | case3 fuel lo loV hi hiV hgap p mid hlt hgt ih =>
    intro mono hh hf ⟨q, h1, h2, h3⟩
    have hb : lo < p ∧ p < hi := probe_between hp hh hgap
    clear_value p
    have hq : q < p := Nat.lt_of_not_le fun h =>
      Nat.not_le_of_lt (h3.symm ▸ hgt : a q < a p) (mono p q hb.1 h h2)
    exact ih (mono.mono (Nat.le_refl _) (Nat.le_of_lt hb.2)) (Nat.le_of_lt hgt) (by omega) ⟨q, h1, hq, h3⟩
  | case4 => intro _ _ _ _; exact ⟨_, rfl⟩
  | case5 => intro _ _ hf ⟨q, h1, h2, _⟩; omega

theorem bfind_fuel (a pivot key) (hp : PivotOK pivot) : ∀ f1 f2 lo loV hi hiV,
    key ≤ hiV → hi ≤ lo + f1 + 1 → hi ≤ lo + f2 + 1 →
    bfind a pivot key f1 lo loV hi hiV = bfind a pivot key f2 lo loV hi hiV := by
  intro f1 f2 lo loV hi hiV
  revert f2
  fun_induction bfind a pivot key f1 lo loV hi hiV with
  | case1 lo loV hi hiV =>
    intro f2 _ h1 _
    cases f2 with
    | zero => rfl
    | succ m => rw [bfind, if_neg (by omega)]
  | case2 fuel lo loV hi hiV hgap p mid hlt ih =>
    intro f2 hh h1 h2
    have hb : lo < p ∧ p < hi := probe_between hp hh hgap
    cases f2 with
    | zero => omega
    | succ m =>
      rw [bfind, if_pos hgap]
      simp only [p, mid, hlt, ↓reduceIte] at ih ⊢
      exact ih m hh (by omega) (by omega)
  | case3 fuel lo loV hi hiV hgap p mid hlt hgt ih =>
    intro f2 hh h1 h2
    have hb : lo < p ∧ p < hi := probe_between hp hh hgap
    cases f2 with
    | zero => omega
    | succ m =>
      rw [bfind, if_pos hgap]
      simp only [p, mid, hlt, hgt, ↓reduceIte] at ih ⊢
      exact ih m (Nat.le_of_lt hgt) (by omega) (by omega)
  | case4 fuel lo loV hi hiV hgap p mid hlt hgt =>
    intro f2 _ _ h2
    cases f2 with
    | zero => omega
    | succ m =>
      rw [bfind, if_pos hgap]
      simp only [p, mid, hlt, hgt, ↓reduceIte]
  | case5 fuel lo loV hi hiV hgap =>
    intro f2 _ _ _
    cases f2 with
    | zero => rfl
    | succ m => rw [bfind, if_neg hgap]

theorem sortedUniformFind_sound (a pivot key) (hp : PivotOK pivot) (b e p : Nat) (hle : b ≤ e) :
    sortedUniformFind a pivot key b e = some p → a p = key ∧ b ≤ p ∧ p < e := by
  fun_cases sortedUniformFind a pivot key b e with
  | case1 => intro h; cases h
  | case2 hbe below h1 h2 => intro h; cases h; exact ⟨h2.symm, Nat.le_refl _, by omega⟩
  | case3 => intro h; cases h
  | case4 hbe below h1 e' above h3 h4 =>
    intro h
    rw [← Option.some.inj h]
    exact ⟨h4.symm, by omega, by omega⟩
  | case5 => intro h; cases h
  | case6 hbe below h1 e' above h3 =>
    intro h
    have := bfind_sound a pivot key hp _ _ _ _ _ p (Nat.le_of_lt (Nat.lt_of_not_ge h3)) h
    omega

theorem sortedUniformFind_complete (a pivot key) (hp : PivotOK pivot) (b e : Nat)
    (hs : ∀ i j, b ≤ i → i ≤ j → j < e → a i ≤ a j) :
    (∃ q, b ≤ q ∧ q < e ∧ a q = key) → ∃ p, sortedUniformFind a pivot key b e = some p := by
  fun_cases sortedUniformFind a pivot key b e with
  | case1 => intro ⟨q, h1, h2, _⟩; omega
  | case2 => intro _; exact ⟨_, rfl⟩
  | case3 hbe below h1 h2 =>
    intro ⟨q, h3, h4, h5⟩
    have := hs b q (Nat.le_refl _) h3 h4
    omega
  | case4 => intro _; exact ⟨_, rfl⟩
  | case5 hbe below h1 e' above h3 h4 =>
    intro ⟨q, h5, h6, h7⟩
    have := hs q e' h5 (by omega) (by omega)
    omega
  | case6 hbe below h1 e' above h3 =>
    intro ⟨q, h5, h6, h7⟩
    -- the key differs from both end values, so it occurs strictly between the ends
    have hq : b < q ∧ q < e' := by
      refine ⟨Nat.lt_of_le_of_ne h5 ?_, Nat.lt_of_le_of_ne (by omega) ?_⟩
      · intro h; subst h; omega
      · intro h; subst h; omega
    exact bfind_complete a pivot key hp _ _ _ _ _
      (fun i j hi hij hj => hs i j (Nat.le_of_lt hi) hij (by omega))
      (Nat.le_of_lt (Nat.lt_of_not_ge h3)) (by omega) ⟨q, hq.1, hq.2, h7⟩

theorem half_between {b e : Nat} (h : e > b) : b ≤ b + (e - b) / 2 ∧ b + (e - b) / 2 < e := by omega

theorem binaryFind_sound (a key) : ∀ fuel b e p,
    binaryFind a key fuel b e = some p → a p = key ∧ b ≤ p ∧ p < e := by
  intro fuel b e
  fun_induction binaryFind a key fuel b e with
  | case1 => intro q h; cases h
  | case2 fuel b e hgt p mid hlt ih =>
    intro q h
    have hb : b ≤ p ∧ p < e := half_between hgt
    clear_value p
    have := ih q h; omega
  | case3 fuel b e hgt p mid hlt hgt' ih =>
    intro q h
    have hb : b ≤ p ∧ p < e := half_between hgt
    clear_value p
    have := ih q h; omega
  | case4 fuel b e hgt p mid hlt hgt' =>
    intro q h
    cases h
    exact ⟨by omega, half_between hgt⟩
  | case5 => intro q h; cases h

theorem binaryFind_complete (a key) : ∀ fuel b e,
    (∀ i j, b ≤ i → i ≤ j → j < e → a i ≤ a j) → e ≤ b + fuel →
    (∃ q, b ≤ q ∧ q < e ∧ a q = key) → ∃ p, binaryFind a key fuel b e = some p := by
  intro fuel b e
  fun_induction binaryFind a key fuel b e with
  | case1 => intro _ hf ⟨q, h1, h2, _⟩; omega
  | case2 fuel b e hgt p mid hlt ih =>
    intro mono hf ⟨q, h1, h2, h3⟩
    have hb : b ≤ p ∧ p < e := half_between hgt
    clear_value p
    have hq : p < q := Nat.lt_of_not_le fun h =>
      Nat.not_le_of_lt (h3.symm ▸ hlt : a p < a q) (mono q p h1 h hb.2)
    exact ih (fun i j hi hij hj => mono i j (by omega) hij hj) (by omega) ⟨q, hq, h2, h3⟩
  | case3 fuel b e hgt p mid hlt hgt' ih =>
    intro mono hf ⟨q, h1, h2, h3⟩
    have hb : b ≤ p ∧ p < e := half_between hgt
    clear_value p
    have hq : q < p := Nat.lt_of_not_le fun h =>
      Nat.not_le_of_lt (h3.symm ▸ hgt' : a q < a p) (mono p q hb.1 h h2)
    exact ih (fun i j hi hij hj => mono i j hi hij (by omega)) (by omega) ⟨q, h1, hq, h3⟩
  | case4 => intro _ _ _; exact ⟨_, rfl⟩
  | case5 => intro _ hf ⟨q, h1, h2, _⟩; omega

/-- soundness and completeness of a search result, put together in the shape of the C20 statements -/
theorem found_iff {r : Option Nat} {A B C : Nat → Prop} (sound : ∀ p, r = some p → A p ∧ B p ∧ C p)
    (complete : (∃ q, B q ∧ C q ∧ A q) → ∃ p, r = some p) :
    (r.isSome ↔ ∃ q, B q ∧ C q ∧ A q) ∧ ∀ p, r = some p → A p ∧ B p ∧ C p := by
  refine ⟨⟨fun h => ?_, fun h => ?_⟩, sound⟩
  · obtain ⟨p, hp⟩ := Option.isSome_iff_exists.mp h
    obtain ⟨a, b, c⟩ := sound p hp
    exact ⟨p, b, c, a⟩
  · obtain ⟨p, hp⟩ := complete h
    rw [hp]; rfl

end KV.Search
