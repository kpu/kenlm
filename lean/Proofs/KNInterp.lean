import Proofs.KNInitial
/-!
Stage 4 of `lmplz` (`Interpolate`, `Model/KN.lean` §5) against the set-based specification, and
with it theorem family `interp_eq` of property C05.

Each streaming step computes a look-up: `joinLower` on suffix-sorted streams is the look-up of the
back-off n-gram; the two ways of attaching back-offs give every record the `γ` of its own n-gram
(`gamOf`).  One order of stage 4 on stage 3 then writes the order-`n` entries of
`Spec.estimateFrom` under the ordering and closure hypotheses `OrderOK'` (`interpOrder_ok'`), and
`interpAll` is the induction over the orders (`interp_eq'`).  `OrderOK'` in turn follows from
closure facts about the records alone (`ClosureFacts`, `orderOK_of_closure'`): the ordering halves
come from the sorting, and two strictly sorted lists are sublists of each other as soon as they
are subsets.

The pipeline (`Proofs/KNPipeline.lean`) uses the primed statements.  `OrderOK`, `interp_eq`,
`OrderOKOfClosure`, `orderOK_of_closure` are the same with the stronger hypothesis "every ordinary
unigram is unmarked" (true without unigram pruning only); nothing in the development uses them.
-/
namespace KV.KN.Interp

open KV.KN KV.KN.Norm

theorem dropLast_sorted (xs : List Uninterp) (n : Nat) (hlen : ∀ x ∈ xs, x.gram.length = n)
    (hs : xs.Pairwise fun a b => a.gram ≤ b.gram) :
    (xs.map (·.gram.dropLast)).Pairwise (· ≤ ·) := by
  rw [List.pairwise_map]
  refine List.Pairwise.imp_of_mem ?_ hs
  intro a b ha hb hab
  rcases List.le_iff_lt_or_eq.mp hab with h | h
  · exact dropLast_le_of_lt _ _ ((hlen a ha).trans (hlen b hb).symm) h
  · rw [h]; exact List.le_refl _

/-- `joinLower` hands every record the value stored for its back-off n-gram, under `LowerOK`.  The
case of the proof with content is the one that drops a lower record `k` (case 4): `k` lies
strictly below every back-off n-gram still to come, so dropping it changes no look-up. -/
theorem joinLower_eq (xs : List Uninterp) (lower : List (Gram × Rat)) (n : Nat)
    (hl : lower.Pairwise fun a b => a.1 < b.1)
    (hx : (xs.map (·.gram.dropLast)).Pairwise (· ≤ ·))
    (hc : ∀ x ∈ xs, x.gram.dropLast ∈ lower.map (·.1)) :
    joinLower xs lower n
      = .ok (xs.map fun x => (x, (lower.lookup x.gram.dropLast).getD 0)) := by
  fun_induction joinLower xs lower n with
  | case1 => rfl
  | case2 x xs n =>
    exact absurd (hc x List.mem_cons_self) List.not_mem_nil
  | case3 x xs p ys n ih =>
    rw [List.map_cons, List.pairwise_cons] at hx
    rw [ih hl hx.2 (fun x' hx' => hc x' (List.mem_cons_of_mem _ hx'))]
    simp only [bind, Except.bind, pure, Except.pure, List.map_cons, List.lookup, BEq.rfl,
      Option.getD_some]
  | case4 x xs k p ys n hne ih =>
    rw [List.pairwise_cons] at hl
    have hlt : ∀ x' ∈ x :: xs, k < x'.gram.dropLast := by
      have hx0 : k < x.gram.dropLast := by
        have := hc x List.mem_cons_self
        rw [List.map_cons, List.mem_cons] at this
        rcases this with h | h
        · exact absurd h hne
        · rcases List.mem_map.mp h with ⟨b, hb, hb2⟩
          rw [← hb2]; exact hl.1 b hb
      intro x' hx'
      rcases List.mem_cons.mp hx' with h | h
      · rw [h]; exact hx0
      · rw [List.map_cons, List.pairwise_cons] at hx
        exact Std.lt_of_lt_of_le hx0 (hx.1 _ (List.mem_map.mpr ⟨x', h, rfl⟩))
    have hc' : ∀ x' ∈ x :: xs, x'.gram.dropLast ∈ ys.map (·.1) := by
      intro x' hx'
      have := hc x' hx'
      rw [List.map_cons, List.mem_cons] at this
      rcases this with h | h
      · exact absurd h.symm (Std.ne_of_lt (hlt x' hx'))
      · exact h
    rw [ih hl.2 hx hc']
    congr 1
    apply List.map_congr_left
    intro x' hx'
    rw [List.lookup_cons, beq_false_of_ne (Ne.symm (Std.ne_of_lt (hlt x' hx')))]

theorem joinLower_error (xs : List Uninterp) (lower : List (Gram × Rat)) (n : Nat)
    (hc : ∃ x ∈ xs, x.gram.dropLast ∉ lower.map (·.1)) :
    joinLower xs lower n = .error (Err.noMatchingSuffix n) := by
  fun_induction joinLower xs lower n with
  | case1 => obtain ⟨x, hx, _⟩ := hc; cases hx
  | case2 x xs n => rfl
  | case3 x xs p ys n ih =>
    obtain ⟨x', hx', hbad⟩ := hc
    have : x' ∈ xs := by
      rcases List.mem_cons.mp hx' with h | h
      · subst h; exact absurd (by simp) hbad
      · exact h
    rw [ih ⟨x', this, hbad⟩]; rfl
  | case4 x xs k p ys n hne ih =>
    obtain ⟨x', hx', hbad⟩ := hc
    exact ih ⟨x', hx', fun h => hbad (by rw [List.map_cons]; exact List.mem_cons_of_mem _ h)⟩

theorem joinLower_error_only (xs : List Uninterp) (lower : List (Gram × Rat)) (n : Nat) (e : Err)
    (h : joinLower xs lower n = .error e) : e = Err.noMatchingSuffix n := by
  fun_induction joinLower xs lower n with
  | case1 => cases h
  | case2 x xs n => cases h; rfl
  | case3 x xs p ys n ih =>
    cases hr : joinLower xs ((x.gram.dropLast, p) :: ys) n with
    | error e' => rw [hr] at h; cases h; exact ih hr
    | ok r => rw [hr] at h; cases h
  | case4 x xs k p ys n hne ih => exact ih h

def gamOf (gams : List Gam) (g : Gram) : Rat := ((gams.find? fun x => x.ctx == g).map (·.gamma)).getD 1

def specBackoffs (gs : List Gram) (gams : List Gam) : List Rat :=
  gs.map fun g => if wantsBackoff g then gamOf gams g else 1

theorem gamOf_cons_eq (gam : Gam) (gams : List Gam) : gamOf (gam :: gams) gam.ctx = gam.gamma := by
  simp [gamOf]

theorem gamOf_cons_ne {gam : Gam} {gams : List Gam} {g : Gram} (h : gam.ctx ≠ g) :
    gamOf (gam :: gams) g = gamOf gams g := by
  have : (gam.ctx == g) = false := by simpa using h
  simp [gamOf, this]

theorem gamOf_append_of_not_mem {pre l : List Gam} {g : Gram} (h : ∀ x ∈ pre, x.ctx ≠ g) :
    gamOf (pre ++ l) g = gamOf l g := by
  induction pre with
  | nil => rfl
  | cons a t ih =>
    rw [List.cons_append, gamOf_cons_ne (h a List.mem_cons_self)]
    exact ih fun x hx => h x (List.mem_cons_of_mem _ hx)

theorem specBackoffs_congr (gs : List Gram) (gams gams' : List Gam)
    (h : ∀ g ∈ gs, wantsBackoff g = true → gamOf gams g = gamOf gams' g) :
    specBackoffs gs gams = specBackoffs gs gams' := by
  unfold specBackoffs
  apply List.map_congr_left
  intro g hg
  by_cases hw : wantsBackoff g = true
  · simp only [hw, if_true, h g hg hw]
  · have hw' : wantsBackoff g = false := by simpa using hw
    simp [hw']

theorem takeBackoffsSeq_skip {g : Gram} (gs : List Gram) (gams : List Gam)
    (h : wantsBackoff g = false) : takeBackoffsSeq (g :: gs) gams = 1 :: takeBackoffsSeq gs gams := by
  cases gams <;> simp [takeBackoffsSeq, h]

theorem leftoverSeq_skip {g : Gram} (gs : List Gram) (gams : List Gam)
    (h : wantsBackoff g = false) (h0 : leftoverSeq gs gams = 0) : leftoverSeq (g :: gs) gams = 0 := by
  cases gams <;> simp [leftoverSeq, h, h0]

theorem skipTo_spec (g : Gram) (gams : List Gam) (v : Rat) (rest : List Gam)
    (h : skipTo g gams = some (v, rest)) :
    ∃ pre gam, gams = pre ++ gam :: rest ∧ gam.ctx = g ∧ v = gam.gamma ∧ ∀ x ∈ pre, x.ctx ≠ g := by
  induction gams with
  | nil => cases h
  | cons a t ih =>
    by_cases ha : a.ctx = g
    · simp only [skipTo, ha, if_true, Option.some.injEq, Prod.mk.injEq] at h
      exact ⟨[], a, by simp [h.2], ha, h.1.symm, by simp⟩
    · simp only [skipTo, ha, if_false] at h
      obtain ⟨pre, gam, h1, h2, h3, h4⟩ := ih h
      refine ⟨a :: pre, gam, by simp [h1], h2, h3, ?_⟩
      intro x hx
      rcases List.mem_cons.mp hx with hx | hx
      · rw [hx]; exact ha
      · exact h4 x hx

theorem skipTo_none (g : Gram) (gams : List Gam) (h : skipTo g gams = none) :
    g ∉ gams.map (·.ctx) := by
  induction gams with
  | nil => simp
  | cons a t ih =>
    by_cases ha : a.ctx = g
    · simp [skipTo, ha] at h
    · simp only [skipTo, ha, if_false] at h
      simp only [List.map_cons, List.mem_cons, not_or]
      exact ⟨fun e => ha e.symm, ih h⟩

/-- `skipTo` splits `gams = pre ++ gam :: rest` with `g ∉ pre`; the later askers are a sublist of
`rest`, so for them looking up in `rest` is looking up in the whole (`specBackoffs_congr`). -/
theorem takeBackoffsHash_eq (gs : List Gram) (gams : List Gam)
    (hnd : (gams.map (·.ctx)).Nodup) (h : (gs.filter wantsBackoff).Sublist (gams.map (·.ctx))) :
    takeBackoffsHash gs gams = specBackoffs gs gams := by
  induction gs generalizing gams with
  | nil => rfl
  | cons g gs ih =>
    by_cases hw : wantsBackoff g = true
    · rw [List.filter_cons_of_pos hw] at h
      have hmem : g ∈ gams.map (·.ctx) := h.subset List.mem_cons_self
      have hne : gams.isEmpty = false := by
        cases gams with
        | nil => simp at hmem
        | cons _ _ => rfl
      cases hs : skipTo g gams with
      | none => exact absurd hmem (skipTo_none g gams hs)
      | some vr =>
        obtain ⟨v, rest⟩ := vr
        obtain ⟨pre, gam, h1, h2, h3, h4⟩ := skipTo_spec g gams v rest hs
        have hg_pre : g ∉ pre.map (·.ctx) := by
          intro hm
          rcases List.mem_map.mp hm with ⟨x, hx, hxe⟩
          exact h4 x hx hxe
        subst h1
        rw [List.map_append, List.map_cons, h2] at h hnd
        have hsub : (gs.filter wantsBackoff).Sublist (rest.map (·.ctx)) := sublist_after hg_pre h
        have hnd' := List.nodup_append.mp hnd
        have hnd2 := List.nodup_cons.mp hnd'.2.1
        simp only [takeBackoffsHash, hw, hne, Bool.not_false, Bool.and_self, if_true, hs,
          ih rest hnd2.2 hsub]
        have hgam : gamOf (pre ++ gam :: rest) g = v := by
          rw [gamOf_append_of_not_mem h4, ← h2, gamOf_cons_eq, h3]
        have htl : specBackoffs gs rest = specBackoffs gs (pre ++ gam :: rest) := by
          apply specBackoffs_congr
          intro g' hg' hw'
          have hm : g' ∈ rest.map (·.ctx) := hsub.subset (List.mem_filter.mpr ⟨hg', hw'⟩)
          have hne1 : gam.ctx ≠ g' := by
            intro e; rw [h2] at e; exact hnd2.1 (e ▸ hm)
          have hne2 : ∀ x ∈ pre, x.ctx ≠ g' := by
            intro x hx e
            exact hnd'.2.2 g' (e ▸ List.mem_map.mpr ⟨x, hx, rfl⟩) g' (List.mem_cons_of_mem _ hm) rfl
          rw [gamOf_append_of_not_mem hne2, gamOf_cons_ne hne1]
        rw [htl]
        simp only [specBackoffs, List.map_cons, hw, if_true, hgam]
    · have hw' : wantsBackoff g = false := by simpa using hw
      rw [List.filter_cons_of_neg hw] at h
      simp only [takeBackoffsHash, hw', Bool.false_and, Bool.false_eq_true, if_false, ih gams hnd h]
      simp [specBackoffs, hw']

/-- when the gammas are exactly those of the records that ask for one, in the same order, consuming
them in sequence is matching them by context, and nothing is left over -/
theorem takeBackoffsSeq_eq_hash (gs : List Gram) (gams : List Gam)
    (h : gams.map (·.ctx) = gs.filter wantsBackoff) :
    takeBackoffsSeq gs gams = takeBackoffsHash gs gams ∧ leftoverSeq gs gams = 0 := by
  induction gs generalizing gams with
  | nil =>
    have : gams = [] := by simpa using h
    subst this; exact ⟨rfl, rfl⟩
  | cons g gs ih =>
    by_cases hw : wantsBackoff g = true
    · rw [List.filter_cons_of_pos hw] at h
      rcases gams with _ | ⟨gam, gams'⟩
      · cases h
      · rw [List.map_cons, List.cons.injEq] at h
        obtain ⟨ih1, ih2⟩ := ih gams' h.2
        simp [takeBackoffsSeq, takeBackoffsHash, leftoverSeq, skipTo, hw, h.1, ih1, ih2]
    · have hw' : wantsBackoff g = false := by simpa using hw
      rw [List.filter_cons_of_neg hw] at h
      obtain ⟨ih1, ih2⟩ := ih gams h
      refine ⟨?_, leftoverSeq_skip gs gams hw' ih2⟩
      rw [takeBackoffsSeq_skip gs gams hw', ih1]
      simp [takeBackoffsHash, hw']

theorem takeBackoffsSeq_eq (gs : List Gram) (gams : List Gam)
    (hnd : (gams.map (·.ctx)).Nodup) (h : gams.map (·.ctx) = gs.filter wantsBackoff) :
    takeBackoffsSeq gs gams = specBackoffs gs gams ∧ leftoverSeq gs gams = 0 :=
  have ⟨h1, h2⟩ := takeBackoffsSeq_eq_hash gs gams h
  ⟨h1.trans (takeBackoffsHash_eq gs gams hnd (h ▸ List.Sublist.refl _)), h2⟩

def lowerVal (lower : Option (List (Gram × Rat))) (uniform : Rat) (g : Gram) : Rat :=
  match lower with
  | none => uniform
  | some l => (l.lookup g.dropLast).getD 0

def boVal (next : Option (List Gam × Bool)) (g : Gram) : Rat :=
  match next with
  | none => 1
  | some (gams, _) => if wantsBackoff g then gamOf gams g else 1

def LowerOK (us : List Uninterp) : Option (List (Gram × Rat)) → Prop
  | none => True
  | some l => (l.Pairwise fun a b => a.1 < b.1) ∧ (us.map (·.gram.dropLast)).Pairwise (· ≤ ·) ∧
      ∀ x ∈ us, x.gram.dropLast ∈ l.map (·.1)

/-- what the back-off column needs of the gammas of the next order; the `Bool` says whether that
order is pruned (`takeBackoffsHash`: the records asking for a `γ` are a sublist of the contexts) or
not (`takeBackoffsSeq`: they are exactly the contexts) -/
def NextOK (us : List Uninterp) : Option (List Gam × Bool) → Prop
  | none => True
  | some (gams, false) => (gams.map (·.ctx)).Nodup ∧
      gams.map (·.ctx) = (us.map (·.gram)).filter wantsBackoff
  | some (gams, true) => (gams.map (·.ctx)).Nodup ∧
      ((us.map (·.gram)).filter wantsBackoff).Sublist (gams.map (·.ctx))

theorem specBackoffs_map (us : List Uninterp) (gams : List Gam) :
    specBackoffs (us.map (·.gram)) gams
      = us.map fun x => if wantsBackoff x.gram then gamOf gams x.gram else 1 := by
  unfold specBackoffs; rw [List.map_map]; rfl

theorem interpOrder_eq (n : Nat) (us : List Uninterp) (lower : Option (List (Gram × Rat)))
    (uniform : Rat) (next : Option (List Gam × Bool)) (hl : LowerOK us lower) (hn : NextOK us next) :
    interpOrder n us lower uniform next
      = .ok (us.map fun x => ⟨x.gram, interpProb x (lowerVal lower uniform x.gram), boVal next x.gram⟩) := by
  have hg : ∀ f : Uninterp → Rat, ((us.map fun x => (x, f x)).map (·.1.gram)) = us.map (·.gram) := by
    intro f; rw [List.map_map]; rfl
  have hz : ∀ (f g : Uninterp → Rat),
      (((us.map fun x => (x, f x)).zip (us.map g)).map
          fun x => (⟨x.1.1.gram, interpProb x.1.1 x.1.2, x.2⟩ : Entry))
        = us.map fun x => ⟨x.gram, interpProb x (f x), g x⟩ := by
    intro f g
    rw [List.zip_map', List.map_map]; rfl
  unfold interpOrder
  -- whichever way, the join hands every record `x` a value `f x`; from there on `f` plays no role
  rcases lower with _ | l <;> dsimp only
  on_goal 2 => rw [joinLower_eq us l n hl.1 hl.2.1 hl.2.2]
  all_goals
    rcases next with _ | ⟨gams, _ | _⟩
    · simp only [List.map_map, pure, Except.pure, bind, Except.bind]
      exact congrArg Except.ok (hz _ fun _ => 1)
    · obtain ⟨h1, h2⟩ := takeBackoffsSeq_eq (us.map (·.gram)) gams hn.1 hn.2
      simp only [hg, h1, h2, specBackoffs_map, ne_eq, not_true_eq_false, if_false, Bool.false_eq_true,
        pure, Except.pure, bind, Except.bind]
      exact congrArg Except.ok (hz _ _)
    · have h1 := takeBackoffsHash_eq (us.map (·.gram)) gams hn.1 hn.2
      simp only [hg, h1, specBackoffs_map, if_true, pure, Except.pure, bind, Except.bind]
      exact congrArg Except.ok (hz _ _)


theorem gamOf_initialOrder (interpUni : Bool) (n : Nat) (d : Disc) (es : List Emit) (g : Gram) :
    gamOf (initialOrder interpUni n d es).2 g
      = if (Spec.group es g).isEmpty then 1 else Spec.gamma d es g := by
  obtain ⟨_, hmem, hval⟩ := initialOrder_gams interpUni n d es
  generalize (initialOrder interpUni n d es).2 = gams at hmem hval
  rw [gamOf, find?_key_eq Gam.ctx gams g ⟨g, Spec.den es g, Spec.gamma d es g⟩ fun x hx hxg => by
    obtain ⟨h1, h2⟩ := hval x hx
    obtain ⟨ctx, den, gamma⟩ := x
    cases hxg
    rw [show den = _ from h1, show gamma = _ from h2]]
  by_cases hg : g ∈ gams.map (·.ctx)
  · rw [if_pos hg, group_isEmpty_eq_false.mpr ((hmem g).mp hg)]; rfl
  · have : (Spec.group es g).isEmpty = true := by
      cases hb : (Spec.group es g).isEmpty
      · exact absurd ((hmem g).mpr (group_isEmpty_eq_false.mp hb)) hg
      · rfl
    rw [if_neg hg, this]; rfl

/-- the order-`n` entries of the specification (`(ordersOf c).getD (n - 1) []`, `orders_getD`) -/
def specOrder (c : Spec.Ctx) (n : Nat) : List Entry :=
  (((c.esAt n).filter keptBy).map (mkEntry c)).mergeSort Spec.specLe

theorem specLe_trans (a b c : Entry) (h1 : Spec.specLe a b = true) (h2 : Spec.specLe b c = true) :
    Spec.specLe a c = true := keyLe_trans Entry.gram a b c h1 h2

theorem specLe_total (a b : Entry) : (Spec.specLe a b || Spec.specLe b a) = true :=
  keyLe_total Entry.gram a b

/-- the entries written from the suffix-sorted survivors of stage 3 are the order of the
specification (both are sorted by n-gram, and an entry is determined by its n-gram) -/
theorem us_map_entry (c : Spec.Ctx) (es : List Emit) :
    ((((es.mergeSort ctxLe).filter keptBy).map (uninterpOf c)).mergeSort uninterpLe).map
        (fun x => (⟨x.gram, c.prob x.gram, c.backoff x.gram⟩ : Entry))
      = ((es.filter keptBy).map (mkEntry c)).mergeSort Spec.specLe := by
  rw [List.map_mergeSort (r := uninterpLe) (s := Spec.specLe)
    (f := fun x : Uninterp => (⟨x.gram, c.prob x.gram, c.backoff x.gram⟩ : Entry))
    (fun a _ b _ => rfl), List.map_map]
  have hfun : ((fun x : Uninterp => (⟨x.gram, c.prob x.gram, c.backoff x.gram⟩ : Entry)) ∘ uninterpOf c)
      = mkEntry c := rfl
  rw [hfun]
  apply List.Perm.eq_of_pairwise (le := fun a b => Spec.specLe a b = true)
  · intro a b ha hb hab hba
    have ha' := (List.mergeSort_perm _ _).mem_iff.mp ha
    have hb' := (List.mergeSort_perm _ _).mem_iff.mp hb
    rcases List.mem_map.mp ha' with ⟨e1, _, rfl⟩
    rcases List.mem_map.mp hb' with ⟨e2, _, rfl⟩
    have hg : e1.gram = e2.gram := by
      unfold Spec.specLe at hab hba
      exact List.le_antisymm (of_decide_eq_true hab) (of_decide_eq_true hba)
    simp only [mkEntry, hg]
  · exact List.pairwise_mergeSort specLe_trans specLe_total _
  · exact List.pairwise_mergeSort specLe_trans specLe_total _
  · exact (List.mergeSort_perm _ _).trans
      ((((List.mergeSort_perm es ctxLe).filter _).map _).trans (List.mergeSort_perm _ _).symm)

theorem specOrder_p (c : Spec.Ctx) (n : Nat) : ∀ e ∈ specOrder c n, e.p = c.prob e.gram := by
  intro e he
  have := (List.mergeSort_perm _ _).mem_iff.mp he
  rcases List.mem_map.mp this with ⟨x, _, rfl⟩
  rfl

/-- what `interpAll` passes down as the lower order of order `n` -/
def lowerOf (c : Spec.Ctx) (n : Nat) : Option (List (Gram × Rat)) :=
  if n = 1 then none else some ((specOrder c (n - 1)).map fun e => (e.gram, e.p))

/-- what `interpAll` passes as the gammas of the next order -/
def nextOf (c : Spec.Ctx) (pruned : Nat → Bool) (n : Nat) : Option (List Gam × Bool) :=
  if n < c.cfg.order then some ((stage3Of c (n + 1)).2, pruned n) else none

structure OrderOK (c : Spec.Ctx) (pruned : Nat → Bool) (n : Nat) : Prop where
  len : ∀ e ∈ c.esAt n, e.gram.length = n
  nd : ((c.esAt n).map (·.gram)).Nodup
  unmarked : n = 1 → ∀ e ∈ c.esAt 1, e.gram ≠ [unk] → e.gram ≠ [bos] → e.marked = false
  lower : LowerOK (stage3Of c n).1 (lowerOf c n)
  next : NextOK (stage3Of c n).1 (nextOf c pruned n)

/-- `OrderOK` asking only the *kept* ordinary unigrams to be unmarked.  A marked ordinary unigram
is read with its mark bit by `MergeRight` (`Emit.rawCount`) but removed by `PruneNGramStream` right
afterwards, so this is all stage 4 needs. -/
structure OrderOK' (c : Spec.Ctx) (pruned : Nat → Bool) (n : Nat) : Prop where
  len : ∀ e ∈ c.esAt n, e.gram.length = n
  nd : ((c.esAt n).map (·.gram)).Nodup
  unmarked : n = 1 → ∀ e ∈ c.esAt 1, keptBy e = true → e.gram ≠ [unk] → e.gram ≠ [bos] → e.marked = false
  lower : LowerOK (stage3Of c n).1 (lowerOf c n)
  next : NextOK (stage3Of c n).1 (nextOf c pruned n)

theorem OrderOK.weaken {c : Spec.Ctx} {pruned : Nat → Bool} {n : Nat} (h : OrderOK c pruned n) :
    OrderOK' c pruned n :=
  ⟨h.len, h.nd, fun h1 e he _ => h.unmarked h1 e he, h.lower, h.next⟩

theorem lowerVal_lowerOf (c : Spec.Ctx) {n : Nat} {us : List Uninterp}
    (hl : LowerOK us (lowerOf c n)) {x : Uninterp} (hx : x ∈ us) (hg : x.gram.length = n) :
    lowerVal (lowerOf c n) c.uniform x.gram = c.prob x.gram.dropLast := by
  unfold lowerOf at hl ⊢
  by_cases h1 : n = 1
  · rw [if_pos h1]
    have : x.gram.dropLast = [] :=
      List.eq_nil_of_length_eq_zero (by rw [List.length_dropLast, hg, h1])
    rw [this, prob_nil]; rfl
  · rw [if_neg h1] at hl ⊢
    obtain ⟨p, hp1⟩ := Option.ne_none_iff_exists'.mp ((lookup_ne_none _ _).mpr (List.mem_map.mp (hl.2.2 x hx)))
    have hp2 := lookup_some_mem _ _ _ hp1
    obtain ⟨e, he, hep⟩ := List.mem_map.mp hp2
    simp only [lowerVal, hp1, Option.getD_some]
    rw [← (Prod.mk.inj hep).1, ← (Prod.mk.inj hep).2]
    exact specOrder_p c (n - 1) e he

theorem boVal_nextOf (c : Spec.Ctx) (pruned : Nat → Bool) {n : Nat} {g : Gram} (hg : g.length = n) :
    boVal (nextOf c pruned n) g = c.backoff g := by
  subst hg
  unfold Spec.Ctx.backoff boVal nextOf stage3Of
  by_cases h1 : g.length < c.cfg.order
  · simp only [if_pos h1, gamOf_initialOrder, decide_eq_true h1, Bool.true_and]
    cases wantsBackoff g <;> cases (Spec.group (c.esAt (g.length + 1)) g).isEmpty <;> rfl
  · simp [h1]

/-- `interp_eq` for one order: fed with stage 3 of the order (and of the next order for the
back-offs) and with the entries of the lower order, the streaming stage 4 writes exactly the
order-`n` entry list of the specification: `Spec.Ctx.prob` and `Spec.Ctx.backoff` for every
surviving record.  `LowerOK`/`NextOK` inside `OrderOK'` are the ordering and closure facts about
the streams. -/
theorem interpOrder_ok' (c : Spec.Ctx) (pruned : Nat → Bool) (n : Nat) (hn0 : 1 ≤ n)
    (h : OrderOK' c pruned n) :
    interpOrder n (stage3Of c n).1 (lowerOf c n) c.uniform (nextOf c pruned n)
      = .ok (specOrder c n) := by
  have hus := stage3Of_fst c n h.len h.nd h.unmarked
  rw [interpOrder_eq n _ _ _ _ h.lower h.next]
  congr 1
  unfold specOrder
  rw [← us_map_entry c (c.esAt n), ← hus]
  apply List.map_congr_left
  intro x hx
  obtain ⟨e, he, _, hxe⟩ := mem_sorted_kept _ _ _ _ (hus ▸ hx)
  have hlg : x.gram.length = n := by rw [hxe]; exact h.len e he
  have hne : x.gram ≠ [] := by intro h0; rw [h0] at hlg; simp at hlg; omega
  rw [lowerVal_lowerOf c h.lower hx hlg, boVal_nextOf c pruned hlg, prob_step c x.gram hne, hxe]
  rfl

/-- `List.range' n m` with `n + m = order + 1` are the orders `n, …, order`.  The `show (do …)` in
the step spells `interpAll` out because the matcher of its `match rest with` is not the one a local
`match` elaborates to, so `unfold interpAll; rw` does not find it. -/
theorem interpAll_eq' (c : Spec.Ctx) (pruned : Nat → Bool)
    (hok : ∀ n, 1 ≤ n → n ≤ c.cfg.order → OrderOK' c pruned n) :
    ∀ (m n : Nat), 1 ≤ n → n + m = c.cfg.order + 1 →
      interpAll pruned c.uniform n ((List.range' n m).map (stage3Of c)) (lowerOf c n)
        = .ok ((List.range' n m).map (specOrder c)) := by
  intro m
  induction m with
  | zero => intro n _ _; rfl
  | succ m ih =>
    intro n hn0 hnm
    have hle : n ≤ c.cfg.order := by omega
    have hord := interpOrder_ok' c pruned n hn0 (hok n hn0 hle)
    have hnext : (match (List.range' (n + 1) m).map (stage3Of c) with
        | (_, gams) :: _ => some (gams, pruned n)
        | [] => none) = nextOf c pruned n := by
      unfold nextOf
      cases m with
      | zero => rw [if_neg (by omega)]; rfl
      | succ m' => rw [if_pos (by omega)]; rfl
    have hlow : (some ((specOrder c n).map fun e => (e.gram, e.p)) : Option (List (Gram × Rat)))
        = lowerOf c (n + 1) := by
      unfold lowerOf
      rw [if_neg (by omega)]; rfl
    rw [List.range'_succ, List.map_cons, List.map_cons]
    show (do
      let es ← interpOrder n (stage3Of c n).1 (lowerOf c n) c.uniform
        (match (List.range' (n + 1) m).map (stage3Of c) with
          | (_, gams) :: _ => some (gams, pruned n)
          | [] => none)
      let tl ← interpAll pruned c.uniform (n + 1) ((List.range' (n + 1) m).map (stage3Of c))
        (some (es.map fun e : Entry => (e.gram, e.p)))
      pure (es :: tl)) = _
    rw [hnext, hord]
    simp only [bind, Except.bind]
    rw [hlow, ih (n + 1) (by omega) (by omega)]
    rfl

theorem interp_eq' (c : Spec.Ctx) (pruned : Nat → Bool)
    (hok : ∀ n, 1 ≤ n → n ≤ c.cfg.order → OrderOK' c pruned n) :
    interpAll pruned c.uniform 1 ((List.range' 1 c.cfg.order).map (stage3Of c)) none
      = .ok ((List.range' 1 c.cfg.order).map (specOrder c)) :=
  interpAll_eq' c pruned hok c.cfg.order 1 (Nat.le_refl 1) (by omega)

theorem interp_eq (c : Spec.Ctx) (pruned : Nat → Bool)
    (hok : ∀ n, 1 ≤ n → n ≤ c.cfg.order → OrderOK c pruned n) :
    interpAll pruned c.uniform 1 ((List.range' 1 c.cfg.order).map (stage3Of c)) none
      = .ok ((List.range' 1 c.cfg.order).map (specOrder c)) :=
  interp_eq' c pruned fun n h1 h2 => (hok n h1 h2).weaken

/-! ### From `OrderOK'` to facts about the records

`OrderOK'.lower` and `OrderOK'.next` are ordering-plus-closure facts about the streams.  The
ordering halves follow from `dropLast_sorted` with `mergeSort_key_grams` (a merge sort by a key with distinct
values is strictly sorted) for the upper stream (`stage3_grams`) and for the lower stream
(`specOrder_grams`), `initialOrder_gams` for the gammas; two strictly sorted lists are sublists of
each other as soon as they are subsets.  What then remains are the three closure facts below,
which speak about the records only. -/

/-- closure facts of order `n`: the back-off n-gram of a kept record is a kept record of the
lower order; a kept record that asks for a back-off is the context of a record of the next
order; and, when the next order is not pruned, conversely every context of the next order is
a kept record that asks for a back-off -/
def ClosureFacts (c : Spec.Ctx) (pruned : Nat → Bool) (n : Nat) : Prop :=
  (n ≠ 1 → ∀ e ∈ c.esAt n, keptBy e = true →
      ∃ e' ∈ c.esAt (n - 1), keptBy e' = true ∧ e'.gram = e.gram.dropLast) ∧
  (n < c.cfg.order → ∀ e ∈ c.esAt n, keptBy e = true → wantsBackoff e.gram = true →
      ∃ e' ∈ c.esAt (n + 1), e'.gram.tail = e.gram) ∧
  (n < c.cfg.order → pruned n = false → ∀ e' ∈ c.esAt (n + 1),
      ∃ e ∈ c.esAt n, keptBy e = true ∧ wantsBackoff e.gram = true ∧ e.gram = e'.gram.tail)

/-- the statement of `orderOK_of_closure` at the end of the file -/
def OrderOKOfClosure : Prop :=
  ∀ (c : Spec.Ctx) (pruned : Nat → Bool) (n : Nat), 1 ≤ n → n ≤ c.cfg.order →
    (∀ k, 1 ≤ k → k ≤ c.cfg.order → (∀ e ∈ c.esAt k, e.gram.length = k) ∧
      ((c.esAt k).map (·.gram)).Nodup) →
    (∀ e ∈ c.esAt 1, e.gram ≠ [unk] → e.gram ≠ [bos] → e.marked = false) →
    ClosureFacts c pruned n → OrderOK c pruned n


theorem uninterpLe_trans (a b c : Uninterp) (h1 : uninterpLe a b = true) (h2 : uninterpLe b c = true) :
    uninterpLe a c = true := keyLe_trans Uninterp.gram a b c h1 h2

theorem uninterpLe_total (a b : Uninterp) : (uninterpLe a b || uninterpLe b a) = true :=
  keyLe_total Uninterp.gram a b

def keptGrams (es : List Emit) : List Gram := (es.filter keptBy).map (·.gram)

theorem mem_keptGrams {es : List Emit} {g : Gram} :
    g ∈ keptGrams es ↔ ∃ e ∈ es, keptBy e = true ∧ e.gram = g := by
  simp only [keptGrams, List.mem_map, List.mem_filter]
  constructor
  · rintro ⟨e, ⟨h1, h2⟩, h3⟩; exact ⟨e, h1, h2, h3⟩
  · rintro ⟨e, h1, h2, h3⟩; exact ⟨e, ⟨h1, h2⟩, h3⟩

theorem keptGrams_nodup {es : List Emit} (h : (es.map (·.gram)).Nodup) : (keptGrams es).Nodup :=
  (List.filter_sublist.map _).nodup h

theorem stage3_grams (c : Spec.Ctx) (n : Nat)
    (hlen : ∀ e ∈ c.esAt n, e.gram.length = n)
    (hnd : ((c.esAt n).map (·.gram)).Nodup)
    (hm : n = 1 → ∀ e ∈ c.esAt 1, keptBy e = true → e.gram ≠ [unk] → e.gram ≠ [bos] → e.marked = false) :
    (((stage3Of c n).1).map (·.gram)).Pairwise (· < ·) ∧
      (((stage3Of c n).1).map (·.gram)).Perm (keptGrams (c.esAt n)) := by
  rw [stage3Of_fst c n hlen hnd hm]
  refine mergeSort_key_grams Uninterp.gram ?_ (keptGrams_nodup hnd)
  rw [List.map_map]
  exact ((List.mergeSort_perm (c.esAt n) ctxLe).filter keptBy).map _

theorem specOrder_grams (c : Spec.Ctx) (n : Nat) (hnd : ((c.esAt n).map (·.gram)).Nodup) :
    ((specOrder c n).map (·.gram)).Pairwise (· < ·) ∧
      ((specOrder c n).map (·.gram)).Perm (keptGrams (c.esAt n)) := by
  refine mergeSort_key_grams Entry.gram ?_ (keptGrams_nodup hnd)
  rw [List.map_map]
  exact .refl _

theorem orderOK_of_closure' (c : Spec.Ctx) (pruned : Nat → Bool) (n : Nat) (hn0 : 1 ≤ n)
    (hn : n ≤ c.cfg.order)
    (hrec : ∀ k, 1 ≤ k → k ≤ c.cfg.order → (∀ e ∈ c.esAt k, e.gram.length = k) ∧
      ((c.esAt k).map (·.gram)).Nodup)
    (hm : ∀ e ∈ c.esAt 1, keptBy e = true → e.gram ≠ [unk] → e.gram ≠ [bos] → e.marked = false)
    (hcl : ClosureFacts c pruned n) : OrderOK' c pruned n := by
  obtain ⟨hlen, hnd⟩ := hrec n hn0 hn
  have hm' : n = 1 → ∀ e ∈ c.esAt 1, keptBy e = true → e.gram ≠ [unk] → e.gram ≠ [bos] → e.marked = false :=
    fun _ => hm
  obtain ⟨hus_sorted, hus_perm⟩ := stage3_grams c n hlen hnd hm'
  have hus_mem : ∀ {x}, x ∈ (stage3Of c n).1 → ∃ e ∈ c.esAt n, keptBy e = true ∧ e.gram = x.gram :=
    fun hx => mem_keptGrams.mp (hus_perm.mem_iff.mp (List.mem_map.mpr ⟨_, hx, rfl⟩))
  refine ⟨hlen, hnd, hm', ?_, ?_⟩
  · unfold lowerOf
    by_cases h1 : n = 1
    · rw [if_pos h1]; trivial
    · rw [if_neg h1]
      obtain ⟨_, hnd'⟩ := hrec (n - 1) (by omega) (by omega)
      obtain ⟨hlo_sorted, hlo_perm⟩ := specOrder_grams c (n - 1) hnd'
      have hkeys : ((specOrder c (n - 1)).map fun e => (e.gram, e.p)).map (·.1)
          = (specOrder c (n - 1)).map (·.gram) := by
        rw [List.map_map]; rfl
      refine ⟨?_, ?_, ?_⟩
      · have := hlo_sorted
        rw [← hkeys, List.pairwise_map] at this
        exact this
      · apply dropLast_sorted _ n
        · intro x hx
          obtain ⟨e, he, _, heg⟩ := hus_mem hx
          rw [← heg]; exact hlen e he
        · have := hus_sorted
          rw [List.pairwise_map] at this
          exact this.imp List.le_of_lt
      · intro x hx
        obtain ⟨e, he, hk, heg⟩ := hus_mem hx
        obtain ⟨e', he', hk', heg'⟩ := hcl.1 h1 e he hk
        rw [hkeys, ← heg, ← heg']
        exact hlo_perm.mem_iff.mpr (mem_keptGrams.mpr ⟨e', he', hk', rfl⟩)
  · unfold nextOf
    by_cases h1 : n < c.cfg.order
    · rw [if_pos h1]
      obtain ⟨hg_sorted, hg_mem, _⟩ :=
        initialOrder_gams c.cfg.interpUni (n + 1) (c.dAt (n + 1)) (c.esAt (n + 1))
      have hg_nodup : (((stage3Of c (n + 1)).2).map (·.ctx)).Nodup :=
        hg_sorted.imp Std.ne_of_lt
      have hf_sorted : ((((stage3Of c n).1).map (·.gram)).filter wantsBackoff).Pairwise (· < ·) :=
        hus_sorted.filter _
      have hsub : ∀ g ∈ (((stage3Of c n).1).map (·.gram)).filter wantsBackoff,
          g ∈ ((stage3Of c (n + 1)).2).map (·.ctx) := by
        intro g hg
        obtain ⟨hg1, hg2⟩ := List.mem_filter.mp hg
        obtain ⟨e, he, hk, heg⟩ := mem_keptGrams.mp (hus_perm.mem_iff.mp hg1)
        obtain ⟨e', he', ht⟩ := hcl.2.1 h1 e he hk (heg ▸ hg2)
        exact (hg_mem g).mpr ⟨e', he', ht.trans heg⟩
      rcases hp : pruned n with _ | _
      · refine ⟨hg_nodup, ?_⟩
        apply strict_sorted_ext (fun _ _ => List.lt_asymm) hg_sorted hf_sorted
        intro g
        constructor
        · intro hg
          obtain ⟨e', he', ht⟩ := (hg_mem g).mp hg
          obtain ⟨e, he, hk, hw, heg⟩ := hcl.2.2 h1 hp e' he'
          apply List.mem_filter.mpr
          refine ⟨hus_perm.mem_iff.mpr (mem_keptGrams.mpr ⟨e, he, hk, heg.trans ht⟩), ?_⟩
          rw [← ht, ← heg]; exact hw
        · exact hsub g
      · exact ⟨hg_nodup, sublist_of_subset_sorted _ _ hf_sorted hg_sorted hsub⟩
    · rw [if_neg h1]; trivial

theorem orderOK_of_closure : OrderOKOfClosure := by
  intro c pruned n hn0 hn hrec hm hcl
  have h := orderOK_of_closure' c pruned n hn0 hn hrec (fun e he _ => hm e he) hcl
  exact ⟨h.len, h.nd, fun _ => hm, h.lower, h.next⟩

def exLower : List (Gram × Rat) := [([2], 1/10), ([5], 1/5), ([6], 3/10), ([7], 2/5)]

def exUs : List Uninterp := [⟨[2, 1], 1/4, 1/2, true⟩, ⟨[5, 1], 1/6, 1/3, true⟩, ⟨[7, 5], 1, 0, true⟩]

example : LowerOK exUs (some exLower) := by
  refine ⟨by decide, by decide, by decide⟩

example : joinLower exUs exLower 2
    = .ok (exUs.map fun x => (x, (exLower.lookup x.gram.dropLast).getD 0)) :=
  joinLower_eq exUs exLower 2 (by decide) (by decide) (by decide)

example : joinLower exUs [([2], 1/10), ([6], 3/10)] 2 = .error (Err.noMatchingSuffix 2) :=
  joinLower_error _ _ _ (by decide)

example : ([3, 6] : Gram) < [7, 5] ∧ ([3, 6] : Gram).dropLast ≤ ([7, 5] : Gram).dropLast := by decide

def exGams : List Gam := [⟨[5, 1], 3, 1/3⟩, ⟨[6, 2], 1, 1/2⟩, ⟨[7, 5], 2, 1/4⟩]

def exGs : List Gram := exUs.map (·.gram)

example : (exGams.map (·.ctx)).Nodup ∧ (exGs.filter wantsBackoff).Sublist (exGams.map (·.ctx)) := by
  decide

example : takeBackoffsHash exGs exGams = specBackoffs exGs exGams :=
  takeBackoffsHash_eq exGs exGams (by decide) (by decide)

example : takeBackoffsSeq exGs [exGams[0], exGams[2]] = specBackoffs exGs [exGams[0], exGams[2]] ∧
    leftoverSeq exGs [exGams[0], exGams[2]] = 0 :=
  takeBackoffsSeq_eq exGs _ (by decide) (by decide)

example : leftoverSeq exGs exGams = 1 := by decide

example : NextOK exUs (some ([exGams[0], exGams[2]], false)) ∧ NextOK exUs (some (exGams, true)) := by
  refine ⟨⟨by decide, by decide⟩, ⟨by decide, by decide⟩⟩


end KV.KN.Interp
