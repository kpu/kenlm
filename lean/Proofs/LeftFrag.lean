import Proofs.LeftExt
/-! The fragment invariant `Frag` of chart scoring and its vocabulary (`pre`, `gm1`, `restSum`); why a left state is
complete (`Closed`, and `ClosedP` relative to context the pointers already include) and how that moves: under appended
words, more context, across a concatenation; the two ways a fragment grows (`Frag.append_done`: words scored onto a
complete left state, `Frag.build`: pointers pushed to an open one). -/
namespace KV.Left
open KV.Arpa KV.Table KV.State KV.Score

variable {a : Arpa} {T : Table}

/-- the pointer of the prefix of length `i+1`: the reversed n-gram `w_0 … w_i` -/
def pre (ws : List Word) (i : Nat) : Ptr := (ws.take (i+1)).reverse

def restSum (R : Ptr → Rat) (ws : List Word) : Nat → Rat
  | 0 => 0
  | L+1 => restSum R ws L + R (pre ws L)

def NormS (s : State) : Prop := s.words.length = s.length ∧ s.backoff.length = s.length

/-- why a fragment's left state is complete: (a) the n-gram `w_0 … w_L` cannot be extended to the left by any
table entry, (b) all words are in the left state but some suffix of the fragment does not extend right, or
(c) the fragment is a complete (N-1)-gram -/
def Closed (T : Table) (ws : List Word) (L : Nat) : Prop :=
  (L < ws.length ∧ ∀ x, T.lookup (pre ws L ++ [x]) = none) ∨
  (L = ws.length ∧ 0 < L ∧ ∃ k, 1 ≤ k ∧ k ≤ ws.length ∧ T.xr (ws.reverse.take k) = false) ∨
  (L = ws.length ∧ L = T.order - 1)

/-- **the fragment invariant** (`RuleScore` before `Finish`): the chart state and accumulated score are the
canonical ones of the word sequence `ws`, with `L` words still in the left state -/
structure Frag (a : Arpa) (T : Table) (R : Ptr → Rat) (ws : List Word) (L : Nat) (rs : RS) : Prop where
  right_for : StateFor a ws.reverse rs.out.right
  right_norm : NormS rs.out.right
  L_le : L ≤ ws.length
  L_lt : L ≤ a.order - 1
  ptrs : rs.out.left.pointers = (List.range L).map (pre ws)
  ptr_xl : ∀ i, i < L → T.xl (pre ws i) = true
  prob_eq : rs.prob = restSum R ws L + specSeq a (ws.take L).reverse (ws.drop L)
  open_ : rs.leftDone = false → L = ws.length ∧ rs.out.right.length = ws.length
  closed : rs.leftDone = true → Closed T ws L

theorem pre_append (ws l : List Word) {i : Nat} (hi : i < ws.length) : pre (ws ++ l) i = pre ws i := by
  unfold pre
  rw [List.take_append_of_le_length (by omega)]

theorem pre_full (ws : List Word) (w : Word) : pre (ws ++ [w]) ws.length = w :: ws.reverse := by
  unfold pre
  rw [List.take_of_length_le (by simp)]
  simp

/-- the fragment-internal (reversed) history of word `i` (the pointer of word `i` minus its own word: `pre ws i = ws[i] :: gm1 ws i`) -/
def gm1 (ws : List Word) (i : Nat) : List Word := (ws.take i).reverse

theorem pre_eq_cons (ws : List Word) (i : Nat) (hi : i < ws.length) : pre ws i = ws[i] :: gm1 ws i := by
  unfold pre gm1
  rw [List.take_succ_eq_append_getElem hi]
  simp

theorem gm1_succ (ws : List Word) (i : Nat) : gm1 ws (i+1) = pre ws i := rfl

theorem gm1_length (ws : List Word) (i : Nat) (hi : i ≤ ws.length) : (gm1 ws i).length = i := by
  simp [gm1]; omega

theorem gm1_full (ws : List Word) : gm1 ws ws.length = ws.reverse := by
  unfold gm1; rw [List.take_of_length_le (Nat.le_refl _)]

theorem gm1_append (F l : List Word) (L : Nat) (hL : L ≤ F.length) : gm1 (F ++ l) L = gm1 F L := by
  unfold gm1
  rw [List.take_append_of_le_length hL]

theorem reverse_append_take (M A : List Word) (k : Nat) : (M ++ A.take k).reverse = gm1 A k ++ M.reverse :=
  List.reverse_append

theorem rev_split (ws : List Word) (i : Nat) : ws.reverse = (ws.drop i).reverse ++ gm1 ws i := by
  unfold gm1
  rw [← List.reverse_append, List.take_append_drop]

theorem pre_cons_P (F P : List Word) (i : Nat) (hi : i < F.length) : pre F i ++ P = F[i] :: (gm1 F i ++ P) := by
  rw [pre_eq_cons F i hi]; rfl

theorem pre_concat (ws1 ws2 : List Word) (i : Nat) :
    pre (ws1 ++ ws2) (ws1.length + i) = pre ws2 i ++ ws1.reverse := by
  unfold pre
  have : ws1.length + i + 1 = ws1.length + (i + 1) := by omega
  rw [this, List.take_length_add_append, List.reverse_append]

theorem pre_take (F : List Word) {i n : Nat} (hi : i < n) : pre (F.take n) i = pre F i := by
  unfold pre; rw [List.take_take, Nat.min_eq_left (by omega)]

theorem ptrs_concat (ws1 ws2 : List Word) (Lp : Nat) :
    (List.range ws1.length).map (pre ws1) ++ (List.range Lp).map (fun i' => pre ws2 i' ++ ws1.reverse) =
      (List.range (ws1.length + Lp)).map (pre (ws1 ++ ws2)) := by
  rw [List.range_add, List.map_append, List.map_map]
  congr 1
  · apply List.map_congr_left
    intro i hi
    have : i < ws1.length := by simpa using hi
    rw [pre_append ws1 ws2 this]
  · apply List.map_congr_left
    intro i hi
    have : i < Lp := by simpa using hi
    show pre ws2 i ++ ws1.reverse = pre (ws1 ++ ws2) (ws1.length + i)
    rw [pre_concat ws1 ws2 i]

/-- Σ_{i<L} R(w_0 … w_i preceded by the included context Q) -/
def psum (R : Ptr → Rat) (F Q : List Word) (L : Nat) : Rat := dsum (fun i => R (pre F i ++ Q)) 0 L

theorem psum_zero (R : Ptr → Rat) (F Q : List Word) : psum R F Q 0 = 0 := rfl

theorem psum_nil (R : Ptr → Rat) (F : List Word) : ∀ L, psum R F [] L = restSum R F L := by
  intro L
  induction L with
  | zero => rfl
  | succ L ih =>
    unfold psum at ih ⊢
    rw [dsum_snoc, ih]
    simp [restSum]

theorem psum_append (R : Ptr → Rat) (F l Q : List Word) (L : Nat) (hL : L ≤ F.length) : psum R (F ++ l) Q L = psum R F Q L := by
  unfold psum
  apply dsum_congr
  intro j _ hj
  rw [pre_append F l (by omega)]

theorem restSum_append (R : Ptr → Rat) (ws l : List Word) (L : Nat) (h : L ≤ ws.length) :
    restSum R (ws ++ l) L = restSum R ws L := by
  rw [← psum_nil, ← psum_nil]; exact psum_append R ws l [] L h

theorem restSum_concat (R : Ptr → Rat) (ws1 ws2 : List Word) :
    ∀ Lp, Lp ≤ ws2.length → restSum R (ws1 ++ ws2) (ws1.length + Lp) = restSum R ws1 ws1.length + psum R ws2 ws1.reverse Lp := by
  intro Lp
  induction Lp with
  | zero => intro _; rw [Nat.add_zero, restSum_append R ws1 ws2 _ (Nat.le_refl _)]; exact (Rat.add_zero _).symm
  | succ Lp ih =>
    intro h
    show restSum R (ws1 ++ ws2) (ws1.length + Lp) + R (pre (ws1 ++ ws2) (ws1.length + Lp)) = _
    unfold psum at ih ⊢
    rw [ih (Nat.le_of_succ_le h), pre_concat ws1 ws2 Lp, dsum_snoc]
    exact Rat.add_assoc _ _ _

theorem normS_of_stateFor {h : List Word} {s : State} (sf : StateFor a h s) : NormS (normS s) ∧ StateFor a h (normS s) := by
  have h1 := congrArg List.length sf.words
  have h2 := congrArg List.length sf.backoff
  simp only [List.length_take, List.length_map, List.length_range] at h1 h2
  have h3 := sf.len_le_h
  refine ⟨⟨?_, ?_⟩, ⟨sf.len_le_h, sf.len_le_N, ?_, ?_, sf.dead⟩⟩
  · simp only [normS, List.length_take]; omega
  · simp only [normS, List.length_take]; omega
  · simp only [normS, List.take_take, Nat.min_self]; exact sf.words
  · simp only [normS, List.take_take, Nat.min_self]; exact sf.backoff

/-- why `M`'s left state is complete, relative to the included context `P` -/
def ClosedP (T : Table) (M P : List Word) (Lk : Nat) : Prop :=
  (Lk < M.length ∧ ∀ y, T.lookup (pre M Lk ++ P ++ [y]) = none) ∨
  (Lk = M.length ∧ ∃ j, 1 ≤ j ∧ j ≤ M.length + P.length ∧ T.xr ((M.reverse ++ P).take j) = false) ∨
  (Lk = M.length ∧ Lk + P.length = T.order - 1)

theorem Closed.toP {F : List Word} {L : Nat} (hc : Closed T F L) : ClosedP T F [] L := by
  rcases hc with ⟨h1, h2⟩ | ⟨h1, _, j, hj1, hj2, h3⟩ | ⟨h1, h2⟩
  · left; exact ⟨h1, by simpa using h2⟩
  · right; left; exact ⟨h1, j, hj1, by simpa using hj2, by simpa using h3⟩
  · right; right; exact ⟨h1, by simpa using h2⟩

theorem ClosedP.toClosed {F : List Word} {L : Nat} (hc : ClosedP T F [] L) : Closed T F L := by
  rcases hc with ⟨h1, h2⟩ | ⟨h1, j, hj1, hj2, h3⟩ | ⟨h1, h2⟩
  · left; exact ⟨h1, by simpa using h2⟩
  · right; left
    have hj2' : j ≤ F.length := by simpa using hj2
    exact ⟨h1, by omega, j, hj1, hj2', by simpa using h3⟩
  · right; right; exact ⟨h1, by simpa using h2⟩

theorem ClosedP.append_word (H : Hyp a T) {F P : List Word} {Lk : Nat} (hc : ClosedP T F P Lk) (w : Word) :
    ClosedP T (F ++ [w]) P Lk := by
  have hp : Lk = F.length → pre (F ++ [w]) Lk = w :: F.reverse := by
    intro h1; rw [h1]; exact pre_full F w
  rcases hc with ⟨h1, h2⟩ | ⟨h1, j, hj1, hj2, h3⟩ | ⟨h1, h2⟩
  · left
    exact ⟨by simp; omega, by rw [pre_append F [w] h1]; exact h2⟩
  · left
    refine ⟨by simp; omega, ?_⟩
    intro y
    have hne : (F.reverse ++ P).take j ≠ [] := take_ne_nil hj1 (by simpa using hj2)
    have hnone := H.none_of_not_xr hne h3 w
    have h4 := lookup_none_take H.ok w (F.reverse ++ P) j (F.reverse ++ P).length (by simpa using hj2) hnone
    rw [List.take_of_length_le (Nat.le_refl _)] at h4
    rw [hp h1]
    have := lookup_none_extend H.ok [y] (w :: (F.reverse ++ P)) (by simp) h4
    simpa only [List.cons_append, List.append_assoc] using this
  · left
    refine ⟨by simp; omega, ?_⟩
    intro y
    rw [hp h1]
    apply Classical.byContradiction; intro hne
    have := H.ok.len_le _ hne
    simp only [List.length_cons, List.length_append, List.length_reverse, List.length_nil] at this
    have := H.ok.order_ge
    omega

theorem ClosedP.append_words (H : Hyp a T) {P : List Word} {Lk : Nat} :
    ∀ (l F : List Word), ClosedP T F P Lk → ClosedP T (F ++ l) P Lk := by
  intro l
  induction l with
  | nil => intro F h; simpa using h
  | cons w l ih =>
    intro F h
    have := ih (F ++ [w]) (h.append_word H w)
    simpa using this

theorem closedP_dead (H : Hyp a T) {F P : List Word} {L : Nat} (hc : ClosedP T F P L) (c : List Word) (hcne : c ≠ []) :
    ¬ live a (F.reverse ++ P ++ c) := by
  rcases hc with ⟨h1, h2⟩ | ⟨h1, j, hj1, hj2, h3⟩ | ⟨h1, h2⟩
  · have hne : pre F L ++ P ≠ [] := by rw [pre_cons_P F P L h1]; simp
    have := H.dead_of_no_ext hne h2 (F.drop (L+1)).reverse c hcne
    rw [← List.append_assoc, ← List.append_assoc, ← gm1_succ F L, ← rev_split] at this
    exact this
  · have hne : (F.reverse ++ P).take j ≠ [] := take_ne_nil hj1 (by simpa using hj2)
    have := H.dead_of_not_xr hne h3 ((F.reverse ++ P).drop j ++ c)
    rwa [← List.append_assoc, List.take_append_drop] at this
  · intro hl
    have hlen := live_length_lt H.wf hl
    have hcl : 1 ≤ c.length := by
      cases c with
      | nil => exact absurd rfl hcne
      | cons x c' => simp
    simp only [List.length_append, List.length_reverse] at hlen
    rw [H.tf.order_eq] at h2
    omega

/-- once the left state of `F` (which begins with `M`) is complete relative to the `k` words of `bw` revealed so far, every
longer stretch of the history `M.reverse ++ bw` is dead -/
theorem closedP_dead_beyond (H : Hyp a T) {F bw : List Word} {k Lk : Nat} (hc : ClosedP T F (bw.take k) Lk) {X M : List Word}
    (hF : F.reverse = X ++ M.reverse) {kk : Nat} (h1 : M.length + k < kk) (h2 : kk ≤ M.length + bw.length) :
    ¬ live a (X ++ (M.reverse ++ bw).take kk) := by
  obtain ⟨d, rfl⟩ : ∃ d, kk = M.length + (k + d) := ⟨kk - (M.length + k), by omega⟩
  rw [take_rev_add, List.take_add, ← List.append_assoc, ← List.append_assoc, ← hF]
  apply closedP_dead H hc
  apply take_ne_nil (by omega)
  rw [List.length_drop]; omega

theorem Closed.append (H : Hyp a T) {ws : List Word} {L : Nat} (hc : Closed T ws L) (l : List Word) : Closed T (ws ++ l) L :=
  (ClosedP.append_words H l ws hc.toP).toClosed

/-- closure survives revealing more context `Q`, as long as the pointers could still take it up -/
theorem ClosedP.more_ctx (H : Hyp a T) {F P : List Word} {L : Nat} (hc : ClosedP T F P L) (Q : List Word)
    (hb : L + P.length + Q.length ≤ T.order - 1) : ClosedP T F (P ++ Q) L := by
  rcases hc with ⟨h1, h2⟩ | ⟨h1, j, hj1, hj2, h3⟩ | ⟨h1, h2⟩
  · left
    refine ⟨h1, fun y => ?_⟩
    cases hq : Q ++ [y] with
    | nil => simp at hq
    | cons z rest =>
      have e : pre F L ++ (P ++ Q) ++ [y] = (pre F L ++ P ++ [z]) ++ rest := by
        have : pre F L ++ (P ++ Q) ++ [y] = pre F L ++ P ++ (Q ++ [y]) := by simp only [List.append_assoc]
        rw [this, hq]; simp
      rw [e]
      exact lookup_none_extend H.ok _ _ (by simp) (h2 z)
  · right; left
    refine ⟨h1, j, hj1, by simp only [List.length_append]; omega, ?_⟩
    rw [← List.append_assoc, List.take_append_of_le_length (by simpa using hj2)]; exact h3
  · have : Q = [] := List.eq_nil_of_length_eq_zero (by omega)
    subst this
    right; right; exact ⟨h1, by simpa using h2⟩

theorem ClosedP.concat {F1 F2 P : List Word} {L : Nat} (hc : ClosedP T F2 (F1.reverse ++ P) L) :
    ClosedP T (F1 ++ F2) P (F1.length + L) := by
  rcases hc with ⟨h1, h2⟩ | ⟨h1, j, hj1, hj2, h3⟩ | ⟨h1, h2⟩
  · left
    refine ⟨by rw [List.length_append]; omega, fun y => ?_⟩
    rw [pre_concat F1 F2 L]
    have := h2 y
    simpa only [List.append_assoc] using this
  · right; left
    refine ⟨by rw [List.length_append, h1], j, hj1, ?_, ?_⟩
    · simp only [List.length_append, List.length_reverse] at hj2 ⊢; omega
    · rw [List.reverse_append, List.append_assoc]; exact h3
  · right; right
    refine ⟨by rw [List.length_append, h1], ?_⟩
    simp only [List.length_append, List.length_reverse] at h2; omega

theorem Closed.concat {ws1 ws2 : List Word} {L : Nat} (hc : ClosedP T ws2 ws1.reverse L) :
    Closed T (ws1 ++ ws2) (ws1.length + L) :=
  ClosedP.toClosed (ClosedP.concat (P := []) (by simpa using hc))

theorem init_frag (R : Ptr → Rat) : Frag a T R [] 0 RS.init := by
  refine ⟨⟨Nat.le_refl _, Nat.zero_le _, rfl, rfl, fun k h1 h2 => by simp at h2; simp [RS.init] at h1; omega⟩, ⟨rfl, rfl⟩,
    Nat.le_refl _, Nat.zero_le _, rfl, fun i hi => by omega, ?_, fun _ => ⟨rfl, rfl⟩, fun h => by simp [RS.init] at h⟩
  simp [RS.init, restSum, specSeq]; exact (Rat.add_zero 0).symm

theorem Frag.congr {R : Ptr → Rat} {ws : List Word} {L : Nat} {rs rs' : RS} (F : Frag a T R ws L rs) (ho : rs'.out = rs.out)
    (hd : rs'.leftDone = rs.leftDone) (hp : rs'.prob = rs.prob) : Frag a T R ws L rs' := by
  obtain ⟨out, d, p⟩ := rs'
  simp only at ho hd hp
  subst ho hd hp
  exact F

/-- a fragment stays one when the words `l` are scored onto it without touching its left state, which is
complete afterwards: the right state and the score are those of the longer sequence -/
theorem Frag.append_done {R : Ptr → Rat} {ws : List Word} {L : Nat} {rs : RS} (F : Frag a T R ws L rs) {l : List Word}
    (hc : Closed T (ws ++ l) L) {rs' : RS} (hdone : rs'.leftDone = true) (hleft : rs'.out.left.pointers = rs.out.left.pointers)
    (sf : StateFor a (l.reverse ++ ws.reverse) rs'.out.right) (nm : NormS rs'.out.right)
    (hp : rs'.prob = rs.prob + specSeq a ws.reverse l) : Frag a T R (ws ++ l) L rs' := by
  have hL := F.L_le
  refine ⟨by rw [List.reverse_append]; exact sf, nm, by simp; omega, F.L_lt, ?_, ?_, ?_,
    (fun ho => by rw [hdone] at ho; cases ho), fun _ => hc⟩
  · rw [hleft, F.ptrs]
    apply List.map_congr_left
    intro i hi
    have : i < L := by simpa using hi
    rw [pre_append ws l (by omega)]
  · intro i hi
    rw [pre_append ws l (by omega)]; exact F.ptr_xl i hi
  · rw [hp, F.prob_eq, restSum_append R ws l L hL, List.take_append_of_le_length hL, List.drop_append_of_le_length hL,
      specSeq_append]
    have : (ws.drop L).reverse ++ (ws.take L).reverse = ws.reverse := by
      rw [← List.reverse_append, List.take_append_drop]
    rw [this]; exact Rat.add_assoc _ _ _

/-- the fragment of a concatenation from its pieces, when the first fragment was open and `Lp` pointers of the second
were pushed to its left state -/
theorem Frag.build (R : Ptr → Rat) {ws1 ws2 : List Word} {L1 : Nat} {rs : RS}
    (F : Frag a T R ws1 L1 rs) (hopen : rs.leftDone = false)
    (Lp : Nat) (rs' : RS) (hLp : Lp ≤ ws2.length) (hb : Lp + ws1.length ≤ a.order - 1)
    (hsf : StateFor a (ws2.reverse ++ ws1.reverse) rs'.out.right) (hnm : NormS rs'.out.right)
    (hptr : rs'.out.left.pointers = rs.out.left.pointers ++ (List.range Lp).map (fun i' => pre ws2 i' ++ ws1.reverse))
    (hxl : ∀ i', i' < Lp → T.xl (pre ws2 i' ++ ws1.reverse) = true)
    (hprob : rs'.prob = rs.prob + (psum R ws2 ws1.reverse Lp + specSeq a (gm1 ws2 Lp ++ ws1.reverse) (ws2.drop Lp)))
    (hop : rs'.leftDone = false → Lp = ws2.length ∧ rs'.out.right.length = ws2.length + ws1.length)
    (hcl : rs'.leftDone = true → Closed T (ws1 ++ ws2) (ws1.length + Lp)) :
    Frag a T R (ws1 ++ ws2) (ws1.length + Lp) rs' := by
  obtain ⟨hL1, hrl⟩ := F.open_ hopen
  have hp1 : rs.prob = restSum R ws1 ws1.length := by
    rw [F.prob_eq, hL1, List.drop_eq_nil_of_le (Nat.le_refl _)]; exact Rat.add_zero _
  refine ⟨by rw [List.reverse_append]; exact hsf, hnm, by simp; omega, by omega, ?_, ?_, ?_, ?_, hcl⟩
  · rw [hptr, F.ptrs, hL1]; exact ptrs_concat ws1 ws2 Lp
  · intro i hi
    by_cases hlt : i < ws1.length
    · rw [pre_append ws1 ws2 hlt]; exact F.ptr_xl i (by omega)
    · obtain ⟨i', rfl⟩ : ∃ i', i = ws1.length + i' := ⟨i - ws1.length, by omega⟩
      rw [pre_concat ws1 ws2 i']; exact hxl i' (by omega)
  · rw [hprob, hp1, restSum_concat R ws1 ws2 Lp hLp, List.take_length_add_append, List.reverse_append,
      show (ws1 ++ ws2).drop (ws1.length + Lp) = ws2.drop Lp by rw [List.drop_append]; simp]
    exact (Rat.add_assoc _ _ _).symm
  · intro ho
    obtain ⟨h1, h2⟩ := hop ho
    exact ⟨by simp; omega, by rw [h2]; simp; omega⟩

end KV.Left
