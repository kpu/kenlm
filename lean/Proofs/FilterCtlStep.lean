import Model.FilterCtl
/-!
The steps of the threaded filter as a relation: one constructor of `Step` per branch of
`readerStep`, `workerStep` and `outStep`, with the guards of the branch as hypotheses and the
successor written as an update of the state.  `Step.of_step` and `Step.to_step` are the one place where the
three step functions are taken apart: every fact about "all steps" is a case analysis over `Step`, and a thread
is shown to be enabled by exhibiting a constructor.
-/
namespace KV.FilterCtl
variable {α : Type}

theorem newInput_cases (cfg : Cfg α) (s : State α) :
    (s.localRead = [] ∧ newInput cfg s = s) ∨
    ∃ top lr, s.localRead = top :: lr ∧ newInput cfg s =
      { s with localRead := fill top s.seqNo :: lr, seqNo := if cfg.variant.burnSeq then s.seqNo + 1 else s.seqNo } := by
  unfold newInput
  split
  · exact .inl ⟨‹_›, rfl⟩
  · exact .inr ⟨_, _, ‹_›, rfl⟩

theorem newInput_eq (cfg : Cfg α) (s : State α) :
    ∃ lr n, newInput cfg s = { s with localRead := lr, seqNo := n } := by
  rcases newInput_cases cfg s with ⟨_, e⟩ | ⟨_, _, _, e⟩
  · exact ⟨s.localRead, s.seqNo, e⟩
  · exact ⟨_, _, e⟩

theorem send_fixed {cfg : Cfg α} (hbs : cfg.variant.burnSeq = false) (s : State α) (top : Batch α)
    (lr : List (Batch α)) :
    send cfg s top lr = { s with filterQ := s.filterQ ++ [some top], localRead := lr, seqNo := s.seqNo + 1 } := by
  simp only [send, hbs, Bool.false_eq_true, if_false]

theorem newInput_fixed {cfg : Cfg α} {s : State α} (hbs : cfg.variant.burnSeq = false) {top : Batch α}
    {lr : List (Batch α)} (hl : s.localRead = top :: lr) :
    newInput cfg s = { s with localRead := fill top s.seqNo :: lr } := by
  rcases newInput_cases cfg s with ⟨e, _⟩ | ⟨_, _, e, h⟩
  · rw [hl] at e; cases e
  · rw [hl] at e; cases e
    rw [h, hbs]; rfl

inductive Step (cfg : Cfg α) (s : State α) : Tid → State α → Prop
  | finish : s.rpc = .run → s.prog = [] → Step cfg s .reader { s with rpc := .poisonW cfg.workers }
  | emit {m rest} : s.rpc = .run → s.prog = .emit m :: rest →
      Step cfg s .reader { s with prog := rest, out := s.out ++ [.mark m] }
  | add {x rest top lr} :
      s.rpc = .run → s.prog = .add x :: rest → s.localRead = top :: lr →
      (top.input ++ [x]).length ≠ cfg.batchSize →
      Step cfg s .reader { s with prog := rest, localRead := { top with input := top.input ++ [x] } :: lr }
  | addLast {x rest top} :
      s.rpc = .run → s.prog = .add x :: rest → s.localRead = [top] →
      (top.input ++ [x]).length = cfg.batchSize → s.filterQ.length < cfg.queue →
      Step cfg s .reader
        { send cfg { s with prog := rest } { top with input := top.input ++ [x] } [] with rpc := .waitOne }
  | addNext {x rest top lr} :
      s.rpc = .run → s.prog = .add x :: rest → s.localRead = top :: lr → lr ≠ [] →
      (top.input ++ [x]).length = cfg.batchSize → s.filterQ.length < cfg.queue →
      Step cfg s .reader
        (newInput cfg (send cfg { s with prog := rest } { top with input := top.input ++ [x] } lr))
  | flushEmpty {rest top lr} :
      s.rpc = .run → s.prog = .flush :: rest → s.localRead = top :: lr → top.input = [] →
      Step cfg s .reader { s with prog := rest, rpc := .waitAll }
  | flushSend {rest top lr} :
      s.rpc = .run → s.prog = .flush :: rest → s.localRead = top :: lr → top.input ≠ [] →
      s.filterQ.length < cfg.queue →
      Step cfg s .reader { send cfg { s with prog := rest } top lr with rpc := .waitAll }
  | getOne {b tr} : s.rpc = .waitOne → s.toRead = b :: tr →
      Step cfg s .reader (newInput cfg { s with toRead := tr, localRead := b :: s.localRead, rpc := .run })
  | getAll {b tr} :
      s.rpc = .waitAll → s.localRead.length < cfg.queue → s.toRead = b :: tr →
      Step cfg s .reader { s with toRead := tr, localRead := b :: s.localRead }
  | resume : s.rpc = .waitAll → ¬ s.localRead.length < cfg.queue →
      Step cfg s .reader (newInput cfg { s with rpc := .run })
  | poisonW {k} : s.rpc = .poisonW (k+1) → s.filterQ.length < cfg.queue →
      Step cfg s .reader { s with filterQ := s.filterQ ++ [none], rpc := .poisonW k }
  | joinW : s.rpc = .poisonW 0 → s.workers.all WSt.isExited = true →
      Step cfg s .reader { s with rpc := .poisonO }
  | poisonO : s.rpc = .poisonO → s.doneQ.length < cfg.queue →
      Step cfg s .reader { s with doneQ := s.doneQ ++ [none], rpc := .joinO }
  | joinO : s.rpc = .joinO → s.oExited = true → Step cfg s .reader { s with rpc := .done }
  | take {i b q} :
      s.workers[i]? = some .idle → s.filterQ = some b :: q →
      Step cfg s (.worker i) { s with filterQ := q, workers := s.workers.set i (.holding b) }
  | exit {i q} :
      s.workers[i]? = some .idle → s.filterQ = none :: q →
      Step cfg s (.worker i) { s with filterQ := q, workers := s.workers.set i .exited }
  | put {i b} :
      s.workers[i]? = some (.holding b) → s.doneQ.length < cfg.queue →
      Step cfg s (.worker i)
        { s with doneQ := s.doneQ ++ [some (callFilter cfg b).1], workers := s.workers.set i .idle,
                 ub := s.ub || (callFilter cfg b).2 }
  | write {b rest} :
      s.oExited = false → s.ordering = some b :: rest → s.toRead.length < cfg.queue →
      Step cfg s .outw
        { s with out := s.out ++ b.out.events,
                 toRead := s.toRead ++ [{ b with out := b.out.flushed cfg.variant }],
                 ordering := rest, baseSeq := s.baseSeq + 1 }
  | stop {q} :
      s.oExited = false → (∀ b rest, s.ordering ≠ some b :: rest) → s.doneQ = none :: q →
      Step cfg s .outw { s with doneQ := q, oExited := true }
  | file {b q} :
      s.oExited = false → (∀ b rest, s.ordering ≠ some b :: rest) → s.doneQ = some b :: q →
      Step cfg s .outw
        { s with doneQ := q,
                 ordering := (s.ordering ++ List.replicate (b.seq - s.baseSeq + 1 - s.ordering.length) none).set
                               (b.seq - s.baseSeq) (some b) }

theorem Step.of_step {cfg : Cfg α} {s s' : State α} {t : Tid} (hst : step cfg s t = some s') :
    Step cfg s t s' := by
  cases t with
  | reader =>
    revert hst
    show readerStep cfg s = some s' → _
    fun_cases readerStep cfg s <;> intro hst <;> cases hst
    next hrpc hp => exact .finish hrpc hp
    next hrpc m rest hp => exact .emit hrpc hp
    next hrpc x rest hp top lr hlr _ hfull hroom _ hemp =>
      obtain rfl := List.isEmpty_iff.mp hemp
      exact .addLast hrpc hp hlr hfull hroom
    next hrpc x rest hp top lr hlr _ hfull hroom _ hemp =>
      exact .addNext hrpc hp hlr (fun h => hemp (List.isEmpty_iff.mpr h)) hfull hroom
    next hrpc x rest hp top lr hlr _ hnf => exact .add hrpc hp hlr hnf
    next hrpc rest hp top lr hlr hemp => exact .flushEmpty hrpc hp hlr (List.isEmpty_iff.mp hemp)
    next hrpc rest hp top lr hlr hne hroom =>
      exact .flushSend hrpc hp hlr (fun h => hne (List.isEmpty_iff.mpr h)) hroom
    next hrpc b tr htr => exact .getOne hrpc htr
    next hrpc hlt b tr htr => exact .getAll hrpc hlt htr
    next hrpc hge => exact .resume hrpc hge
    next hrpc hall => exact .joinW hrpc hall
    next k hrpc hroom => exact .poisonW hrpc hroom
    next hrpc hroom => exact .poisonO hrpc hroom
    next hrpc hoe => exact .joinO hrpc hoe
  | worker i =>
    revert hst
    show workerStep cfg s i = some s' → _
    fun_cases workerStep cfg s i <;> intro hst <;> cases hst
    next hw b q hq => exact .take hw hq
    next hw q hq => exact .exit hw hq
    next b hw hroom _ => exact .put hw hroom
  | outw =>
    revert hst
    show outStep cfg s = some s' → _
    fun_cases outStep cfg s <;> intro hst <;> cases hst
    next hoe b rest hord hroom => exact .write (by simpa using hoe) hord hroom
    next hoe q hq hfront => exact .stop (by simpa using hoe) hfront hq
    next hoe b q hq _ _ hfront => exact .file (by simpa using hoe) hfront hq

theorem Step.to_step {cfg : Cfg α} {s s' : State α} {t : Tid} (h : Step cfg s t s') : step cfg s t = some s' := by
  cases h with
  | finish hrpc hp => simp only [step, readerStep, hrpc, hp]
  | emit hrpc hp => simp only [step, readerStep, hrpc, hp]
  | add hrpc hp hlr hnf => simp only [step, readerStep, hrpc, hp, hlr, hnf, if_false]
  | addLast hrpc hp hlr hfull hroom => simp only [step, readerStep, hrpc, hp, hlr, hfull, hroom, if_true, List.isEmpty_nil]
  | addNext hrpc hp hlr hne hfull hroom =>
    simp only [step, readerStep, hrpc, hp, hlr, hfull, hroom, if_true, List.isEmpty_iff, hne, if_false]
  | flushEmpty hrpc hp hlr hemp => simp only [step, readerStep, hrpc, hp, hlr, hemp, List.isEmpty_nil, if_true]
  | flushSend hrpc hp hlr hne hroom => simp only [step, readerStep, hrpc, hp, hlr, List.isEmpty_iff, hne, hroom, if_true, if_false]
  | getOne hrpc htr => simp only [step, readerStep, hrpc, htr]
  | getAll hrpc hlt htr => simp only [step, readerStep, hrpc, hlt, htr, if_true]
  | resume hrpc hge => simp only [step, readerStep, hrpc, hge, if_false]
  | poisonW hrpc hroom => simp only [step, readerStep, hrpc, hroom, if_true]
  | joinW hrpc hall => simp only [step, readerStep, hrpc, hall, if_true]
  | poisonO hrpc hroom => simp only [step, readerStep, hrpc, hroom, if_true]
  | joinO hrpc hoe => simp only [step, readerStep, hrpc, hoe, if_true]
  | take hw hq => simp only [step, workerStep, hw, hq]
  | exit hw hq => simp only [step, workerStep, hw, hq]
  | put hw hroom => simp only [step, workerStep, hw, hroom, if_true]
  | write hoe hord hroom => simp only [step, outStep, hoe, hord, hroom, if_true, Bool.false_eq_true, if_false]
  | stop hoe hfront hq => simp only [step, outStep, hoe, Bool.false_eq_true, if_false, hq]
  | file hoe hfront hq => simp only [step, outStep, hoe, Bool.false_eq_true, if_false, hq]

theorem Reach.invariant {cfg : Cfg α} {prog : List (ROp α)} {P : State α → Prop} (h0 : P (FilterCtl.init cfg prog))
    (hstep : ∀ s t s', P s → Step cfg s t s' → P s') {s : State α} (hr : Reach cfg prog s) : P s := by
  induction hr with
  | init => exact h0
  | step t _ hst ih => exact hstep _ t _ ih (.of_step hst)

end KV.FilterCtl
