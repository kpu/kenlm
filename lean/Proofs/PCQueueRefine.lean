import Proofs.PCQueueLive
/-!
Refinement: the step-level PCQueue model (semaphores, mutexes, ring, cursors) refines the atomic bounded
FIFO `KV.Chain.fifoPush` / `KV.Chain.fifoPop` that the ThreadPool / Chain models are built on (and that the queues of
`Model/FilterCtl.lean` are instances of: `Proofs/FilterCtlFifo.lean`).

Abstraction function: `absBuf s` = the values written and not yet read, oldest first.
Linearisation points: the critical-section bodies (`pc = body`) of `Produce` and `Consume`; every other
synchronisation step is a stutter step of the atomic FIFO.  Conversely (`queue_progress`), while an operation of the
atomic FIFO is enabled and its thread has not reached the linearisation point, some thread of the queue can step.
Core Lean only.
-/
namespace KV.PCQueue
open KV.Chain (fifoPush fifoPop)

variable {s s' : State}

def absBuf (s : State) : List Nat := (s.writes.map (·.2)).drop s.reads.length

inductive Ev
  | push (tid v : Nat)
  | pop (tid v : Nat)
  deriving DecidableEq, Repr

/-- the operation that a step linearises, if any -/
def stepEvent (s : State) (tid : Nat) : Option Ev :=
  match s.threads[tid]? with
  | none => none
  | some th =>
    match th.role, th.pc with
    | .prod, .body => th.items.head?.map (Ev.push tid)
    | .cons, .body => some (Ev.pop tid (s.ring s.consumeAt))
    | _, _ => none

def fifoApply (cap : Nat) (buf : List Nat) : Ev → Option (List Nat)
  | .push _ v => fifoPush cap buf v
  | .pop _ v =>
    match fifoPop buf with
    | some (x, rest) => if x = v then some rest else none
    | none => none

def fifoRun (cap : Nat) : List Nat → List Ev → Option (List Nat)
  | buf, [] => some buf
  | buf, e :: es => match fifoApply cap buf e with
    | some buf' => fifoRun cap buf' es
    | none => none

def events : State → List Nat → List Ev
  | _, [] => []
  | s, t :: ts =>
    match step s t with
    | none => []
    | some s' => (match stepEvent s t with | some e => [e] | none => []) ++ events s' ts

theorem absBuf_length (s : State) : (absBuf s).length = s.writes.length - s.reads.length := by
  simp [absBuf]

theorem absBuf_frame (hw : s'.writes = s.writes) (hr : s'.reads = s.reads) :
    absBuf s' = absBuf s := by unfold absBuf; rw [hw, hr]

theorem push_refines {t v : Nat} {th : Thread} (h : Core s) (hth : s.threads[t]? = some th)
    (hr : th.role = .prod) (hp : th.pc = .body) (hw : s'.writes = s.writes ++ [(t, v)])
    (hrd : s'.reads = s.reads) : fifoPush s.cap (absBuf s) v = some (absBuf s') := by
  obtain ⟨hle, hlt⟩ := room_of_producer h hth hr hp
  unfold fifoPush absBuf
  rw [hw, hrd, List.map_append, List.drop_append_of_le_length (by simpa using hle), if_pos (by simp; omega)]
  rfl

theorem pop_refines {t : Nat} {th : Thread} (h : Core s) (hth : s.threads[t]? = some th)
    (hr : th.role = .cons) (hp : th.pc = .body) (hw : s'.writes = s.writes)
    (hrd : s'.reads = s.reads ++ [(t, s.ring s.consumeAt)]) :
    fifoPop (absBuf s) = some (s.ring s.consumeAt, absBuf s') := by
  obtain ⟨hlt, hv⟩ := unread_of_consumer h hth hr hp
  have hlt' : s.reads.length < (s.writes.map (·.2)).length := by simpa using hlt
  have hget : (s.writes.map (·.2))[s.reads.length] = s.ring s.consumeAt := by
    have : (s.writes.map (·.2))[s.reads.length]? = some (s.ring s.consumeAt) := by
      rw [List.getElem?_map]; exact hv
    rw [List.getElem?_eq_getElem hlt'] at this
    exact Option.some.inj this
  unfold absBuf fifoPop
  rw [hw, hrd, List.drop_eq_getElem_cons hlt', hget]
  simp

theorem step_refines {tid : Nat} (h : Core s) (hs : step s tid = some s') :
    match stepEvent s tid with
    | none => absBuf s' = absBuf s
    | some (.push _ v) => fifoPush s.cap (absBuf s) v = some (absBuf s')
    | some (.pop _ v) => fifoPop (absBuf s) = some (v, absBuf s') := by
  obtain ⟨⟨role, pc, items, orig, quota, got⟩, hth⟩ := step_entry hs
  unfold stepEvent
  simp only [hth]
  rcases step_cases hth hs with ⟨pc', e, u, pm, cm, rfl, hrole⟩ | ⟨hr, hp, v, rest, hi, rfl⟩ | ⟨hr, hp, rfl⟩
  · rcases hrole with ⟨hr, -, hm⟩ | ⟨hr, -, hm⟩ <;> cases hr <;> cases hm <;> exact absBuf_frame rfl rfl
  · cases hr; cases hp; cases hi
    exact push_refines h hth rfl rfl rfl rfl
  · cases hr; cases hp
    exact pop_refines h hth rfl rfl rfl rfl

theorem run_refines {s0 : State} (h0 : Core s0) (sched : List Nat) {s : State}
    (hrun : runSched s0 sched = some s) :
    fifoRun s0.cap (absBuf s0) (events s0 sched) = some (absBuf s) := by
  induction sched generalizing s0 with
  | nil => simp [runSched] at hrun; subst hrun; rfl
  | cons t ts ih =>
    simp only [runSched] at hrun
    cases hst : step s0 t with
    | none => simp [hst] at hrun
    | some s1 =>
      simp only [hst] at hrun
      have h1 := core_step h0 hst
      have hcap := cap_step hst
      have hr := step_refines h0 hst
      have ih' := ih h1 hrun
      rw [hcap] at ih'
      simp only [events, hst]
      cases hev : stepEvent s0 t with
      | none =>
        rw [hev] at hr
        simp only [List.nil_append]
        rw [← hr]; exact ih'
      | some e =>
        rw [hev] at hr
        cases e with
        | push p v =>
          simp only at hr
          simp only [List.singleton_append, fifoRun, fifoApply, hr]
          exact ih'
        | pop p v =>
          simp only at hr
          simp only [List.singleton_append, fifoRun, fifoApply, hr, if_true]
          exact ih'

theorem queue_progress {t : Nat} {th : Thread} (h : Core s) (hth : s.threads[t]? = some th)
    (hpre : th.pc = .wait ∨ th.pc = .lock ∨ th.pc = .body)
    (hen : (th.role = .prod → (absBuf s).length < s.cap) ∧ (th.role = .cons → absBuf s ≠ [])) :
    ∃ t', step s t' ≠ none := by
  apply Classical.byContradiction
  intro hn
  have hstuck := none_of_not_exists hn
  obtain ⟨hsem, hlen⟩ := stuck_counts h hstuck
  have hbuf : (absBuf s).length = s.used := by rw [absBuf_length]; omega
  -- `th` waits on a semaphore without tokens: the buffer is full resp. empty
  rcases stuck_quiet h hstuck hth with hd | ⟨_, hprod, hcons⟩
  · rcases hpre with e | e | e <;> simp [hd] at e
  · cases hr : th.role
    · have := hen.1 hr
      have := hprod hr
      omega
    · exact hen.2 hr (List.eq_nil_of_length_eq_zero (hbuf.trans (hcons hr)))

end KV.PCQueue
