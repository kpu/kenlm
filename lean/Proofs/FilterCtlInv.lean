import Proofs.FilterBuf
import Proofs.FilterLists
import Proofs.FilterCtlStep
/-!
The inductive invariant of the threaded filter (fixed code) and its preservation by every
step of every thread: `Inv`.  Consequence: `ctl_output`.

The lines of the batches sent and not yet written, oldest first, are kept beside the state (`c`).
`Flight` says what the batches on their way carry, `Pipe` places them in the two queues, the
workers' hands and `ordering_`; both are stated over variables, and every move of a batch from
one stage to the next is a permutation of the two lists of `Flight`.  `Inv` adds the reader.
-/
namespace KV.FilterCtl
open KV.Filter (Verdict)
variable {α : Type}

/-- `unf` are the batches sent and not yet filtered, `fil` the filtered ones not yet written, `c` their lines, oldest
first: the sequence numbers are `base, base + 1, …`, each once, and number `base + i` carries `c[i]`; a buffer is clean
before `CallFilter` and holds the calls of the sequential filter after it. -/
structure Flight (f : α → Verdict) (c : List (List α)) (base : Nat) (unf fil : List (Batch α)) : Prop where
  seqs : ((unf ++ fil).map Batch.seq).Perm (List.range' base c.length)
  chunk : ∀ b ∈ unf ++ fil, ∀ i, b.seq = base + i → c[i]? = some b.input
  clean : ∀ b ∈ unf, b.out = {}
  done : ∀ b ∈ fil, b.out.events = evs f b.input

namespace Flight
variable {f : α → Verdict} {c : List (List α)} {base : Nat} {unf fil unf' fil' : List (Batch α)} {b b' : Batch α}
  {x : List α}

theorem perm (h : Flight f c base unf fil) (pu : unf'.Perm unf) (pf : fil'.Perm fil) :
    Flight f c base unf' fil' where
  seqs := ((pu.append pf).map _).trans h.seqs
  chunk b hb := h.chunk b ((pu.append pf).mem_iff.mp hb)
  clean b hb := h.clean b (pu.mem_iff.mp hb)
  done b hb := h.done b (pf.mem_iff.mp hb)

theorem size (h : Flight f c base unf fil) : (unf ++ fil).length = c.length := by
  have := h.seqs.length_eq
  rwa [List.length_map, List.length_range'] at this

theorem range (h : Flight f c base unf fil) (hb : b ∈ unf ++ fil) : ∃ i, b.seq = base + i :=
  (Nat.le.dest (List.mem_range'_1.mp (h.seqs.mem_iff.mp (List.mem_map_of_mem hb))).1).imp fun _ => Eq.symm

theorem not_twice {d : Batch α} (h : Flight f c base unf (b :: fil)) (hd : d ∈ fil) : d.seq ≠ b.seq := fun e => by
  have hn : ((unf ++ b :: fil).map Batch.seq).Nodup := h.seqs.nodup_iff.mpr (List.nodup_range' ..)
  rw [List.map_append, List.map_cons] at hn
  exact (List.nodup_cons.mp (List.nodup_append.mp hn).2.1).1 (e ▸ List.mem_map_of_mem hd)

theorem exists_base (h : Flight f c base unf fil) (hne : c ≠ []) : ∃ b ∈ unf ++ fil, b.seq = base :=
  List.mem_map.mp (h.seqs.mem_iff.mpr (List.mem_range'_1.mpr
    ⟨Nat.le_refl _, Nat.lt_add_of_pos_right (List.length_pos_iff.mpr hne)⟩))

theorem send (h : Flight f c base unf fil) (hs : b.seq = base + c.length) (ho : b.out = {}) :
    Flight f (c ++ [b.input]) base (b :: unf) fil where
  seqs := by
    rw [List.length_append, List.length_singleton, List.range'_concat, Nat.one_mul, List.cons_append, List.map_cons, hs]
    exact (h.seqs.cons _).trans (List.perm_append_singleton _ _).symm
  chunk b' hb' i hi := by
    rcases List.mem_cons.mp hb' with rfl | hb'
    · rw [Nat.add_left_cancel (hi.symm.trans hs), List.getElem?_append_right (Nat.le_refl _), Nat.sub_self]; rfl
    · have := h.chunk b' hb' i hi
      rwa [List.getElem?_append_left (List.getElem?_eq_some_iff.mp this).1]
  clean b' hb' := by
    rcases List.mem_cons.mp hb' with rfl | hb'
    · exact ho
    · exact h.clean b' hb'
  done := h.done

theorem filter (h : Flight f c base (b :: unf) fil) (hs : b'.seq = b.seq) (hi : b'.input = b.input)
    (he : b'.out.events = evs f b.input) : Flight f c base unf (b' :: fil) where
  seqs := by
    have := h.seqs
    rw [List.cons_append, List.map_cons, List.map_append] at this
    rw [List.map_append, List.map_cons, hs]
    exact List.perm_middle.trans this
  chunk b'' hb'' := by
    rcases List.mem_append.mp hb'' with hb'' | hb''
    · exact h.chunk b'' (List.mem_cons_of_mem _ (List.mem_append_left _ hb''))
    · rcases List.mem_cons.mp hb'' with rfl | hb''
      · rw [hs, hi]; exact h.chunk b List.mem_cons_self
      · exact h.chunk b'' (List.mem_cons_of_mem _ (List.mem_append_right _ hb''))
  clean b'' hb'' := h.clean b'' (List.mem_cons_of_mem _ hb'')
  done b'' hb'' := by
    rcases List.mem_cons.mp hb'' with rfl | hb''
    · rw [hi]; exact he
    · exact h.done b'' hb''

theorem retire (h : Flight f (x :: c) base unf (b :: fil)) (hs : b.seq = base) : Flight f c (base + 1) unf fil where
  seqs := by
    have := h.seqs
    rw [List.length_cons, List.range'_succ, List.map_append, List.map_cons, hs] at this
    rw [List.map_append]
    exact (List.perm_middle.symm.trans this).cons_inv
  chunk b' hb' i hi :=
    h.chunk b' (List.perm_middle.mem_iff.mpr (List.mem_cons_of_mem _ hb')) (i + 1) (by rw [hi, Nat.add_assoc, Nat.add_comm 1])
  clean := h.clean
  done b' hb' := h.done b' (List.mem_cons_of_mem _ hb')

end Flight
/-- The pipeline between `filter_.Produce` and the `Flush` of the output worker; `ordering_[i]` is
for number `base + i`. -/
structure Pipe (cfg : Cfg α) (c : List (List α)) (base : Nat) (fq : List (Option (Batch α)))
    (ws : List (WSt α)) (dq ord : List (Option (Batch α))) : Prop where
  flight : Flight cfg.f c base (somes fq ++ held ws) (somes dq ++ somes ord)
  slots : ∀ (i : Nat) (b : Batch α), ord[i]? = some (some b) → b.seq = base + i

namespace Pipe
variable {cfg : Cfg α} {c : List (List α)} {base i : Nat} {fq dq ord : List (Option (Batch α))}
  {ws : List (WSt α)} {b : Batch α}

theorem send (h : Pipe cfg c base fq ws dq ord) (hs : b.seq = base + c.length) (ho : b.out = {}) :
    Pipe cfg (c ++ [b.input]) base (fq ++ [some b]) ws dq ord where
  flight := (h.flight.send hs ho).perm
    (by simp only [somes_append, somes_cons_some, somes_nil, List.append_assoc, List.singleton_append]
        exact List.perm_middle) (.refl _)
  slots := h.slots

theorem poisonW (h : Pipe cfg c base fq ws dq ord) : Pipe cfg c base (fq ++ [none]) ws dq ord :=
  { h with flight := by simpa using h.flight }

theorem poisonO (h : Pipe cfg c base fq ws dq ord) : Pipe cfg c base fq ws (dq ++ [none]) ord :=
  { h with flight := by simpa using h.flight }

theorem take (h : Pipe cfg c base (some b :: fq) ws dq ord) (hw : ws[i]? = some .idle) :
    Pipe cfg c base fq (ws.set i (.holding b)) dq ord :=
  { h with flight := h.flight.perm (((held_set_take b hw).1.append_left _).trans List.perm_middle) (.refl _) }

theorem exit (h : Pipe cfg c base (none :: fq) ws dq ord) (hw : ws[i]? = some .idle) :
    Pipe cfg c base fq (ws.set i .exited) dq ord :=
  { h with flight := by rw [(held_set_exit hw).1]; exact h.flight }

theorem put (h : Pipe cfg c base fq ws dq ord) (hw : ws[i]? = some (.holding b)) :
    Pipe cfg c base fq (ws.set i .idle) (dq ++ [some (callFilter cfg b).1]) ord ∧ (callFilter cfg b).2 = false := by
  have p := ((held_set_put hw).1.append_left (somes fq)).trans List.perm_middle
  obtain ⟨g1, g2⟩ := callFilter_clean cfg b (h.flight.clean b (p.mem_iff.mpr List.mem_cons_self))
  refine ⟨{ h with flight := ((h.flight.perm p.symm (.refl _)).filter (b' := (callFilter cfg b).1) rfl rfl g2).perm (.refl _) ?_ }, g1⟩
  simp only [somes_append, somes_cons_some, somes_nil, List.append_assoc, List.singleton_append]
  exact List.perm_middle

theorem write {rest : List (Option (Batch α))} (h : Pipe cfg c base fq ws dq (some b :: rest)) :
    ∃ c', c = b.input :: c' ∧ Pipe cfg c' (base + 1) fq ws dq rest ∧ b.out.events = evs cfg.f b.input := by
  have hs : b.seq = base := h.slots 0 b rfl
  have hfl := h.flight.perm (.refl _) (List.perm_middle (a := b)).symm
  have h0 := hfl.chunk b (List.mem_append_right _ List.mem_cons_self) 0 hs
  cases c with
  | nil => cases h0
  | cons x c' =>
    cases h0
    exact ⟨c', rfl, ⟨hfl.retire hs, fun i b' hb' => (h.slots (i + 1) b' hb').trans (by rw [Nat.add_assoc, Nat.add_comm 1])⟩,
      hfl.done b List.mem_cons_self⟩

theorem stop (h : Pipe cfg c base fq ws (none :: dq) ord) : Pipe cfg c base fq ws dq ord :=
  { h with flight := h.flight }

/-- a request is filed at `seq - base`; that slot is free because the number is carried once -/
theorem file (h : Pipe cfg c base fq ws (some b :: dq) ord) :
    Pipe cfg c base fq ws dq
      ((ord ++ List.replicate (b.seq - base + 1 - ord.length) none).set (b.seq - base) (some b)) := by
  have hfl := h.flight
  rw [somes_cons_some] at hfl
  obtain ⟨k, hk⟩ := hfl.range (List.mem_append_right _ List.mem_cons_self)
  rw [hk, Nat.add_sub_cancel_left]
  have hslot : (ord ++ List.replicate (k + 1 - ord.length) none)[k]? = some none := by
    by_cases hpos : k < ord.length
    · rw [List.getElem?_append_left hpos]
      cases hx : ord[k]? with
      | none => rw [List.getElem?_eq_none_iff] at hx; omega
      | some o =>
        cases o with
        | none => rfl
        | some d =>
          have hd : d ∈ somes ord := List.mem_filterMap.mpr ⟨some d, List.mem_of_getElem? hx, rfl⟩
          exact absurd ((h.slots _ d hx).trans hk.symm) (hfl.not_twice (List.mem_append_right _ hd))
    · rw [List.getElem?_append_right (by omega), List.getElem?_replicate, if_pos (by omega)]
  have p := somes_set_none b hslot
  simp only [somes_append, somes_replicate_none, List.append_nil] at p
  refine { flight := hfl.perm (.refl _) ((p.append_left _).trans List.perm_middle), slots := fun i b' hb' => ?_ }
  rw [List.getElem?_set] at hb'
  split at hb'
  · rename_i hi
    split at hb'
    · cases hb'; exact hi ▸ hk
    · cases hb'
  · by_cases hil : i < ord.length
    · rw [List.getElem?_append_left hil] at hb'
      exact h.slots i b' hb'
    · rw [List.getElem?_append_right (by omega), List.getElem?_replicate] at hb'
      split at hb' <;> cases hb'

theorem empty (h : Pipe cfg [] base fq ws dq ord) :
    somes fq = [] ∧ held ws = [] ∧ somes dq = [] ∧ somes ord = [] := by
  have h0 : somes fq ++ held ws ++ (somes dq ++ somes ord) = [] := List.eq_nil_of_length_eq_zero h.flight.size
  simpa only [List.append_eq_nil_iff, and_assoc] using h0

end Pipe

/-- The batches not on their way: `lr` = `local_read_`, `tr` = `to_read_`, with clean buffers; together with the
pending ones (`c`) they are all `q` batches. -/
structure Home (q : Nat) (c : List (List α)) (lr tr : List (Batch α)) : Prop where
  clean : ∀ b ∈ lr ++ tr, b.out = {}
  total : lr.length + tr.length + c.length = q

namespace Home
variable {q : Nat} {c : List (List α)} {x : List α} {lr tr : List (Batch α)} {top top' b : Batch α}

theorem fill (h : Home q c (top :: lr) tr) (ho : top'.out = top.out) : Home q c (top' :: lr) tr :=
  ⟨List.forall_mem_cons.mpr ⟨ho.trans (h.clean top List.mem_cons_self), fun b hb => h.clean b (List.mem_cons_of_mem _ hb)⟩,
    h.total⟩

theorem send (h : Home q c (top :: lr) tr) : Home q (c ++ [x]) lr tr :=
  ⟨fun b hb => h.clean b (List.mem_cons_of_mem _ hb),
    by have := h.total; simp only [List.length_cons, List.length_append, List.length_nil] at this ⊢; omega⟩

theorem recycle (h : Home q c lr (b :: tr)) : Home q c (b :: lr) tr :=
  ⟨fun y hy => h.clean y (List.perm_middle.mem_iff.mpr hy),
    by have := h.total; simp only [List.length_cons] at this ⊢; omega⟩

theorem write (h : Home q (x :: c) lr tr) (hb : b.out = {}) : Home q c lr (tr ++ [b]) :=
  ⟨fun y hy => by
      rcases List.mem_append.mp ((List.append_assoc ..).symm ▸ hy) with hy | hy
      · exact h.clean y hy
      · rw [List.mem_singleton.mp hy]; exact hb,
    by have := h.total; simp only [List.length_cons, List.length_append, List.length_nil] at this ⊢; omega⟩

theorem full (h : Home q c lr tr) (hl : lr.length = q) : c = [] :=
  List.eq_nil_of_length_eq_zero (by have := h.total; omega)

end Home

def curInput (s : State α) : List α :=
  match s.rpc, s.localRead with
  | .run, top :: _ => top.input
  | _, _ => []

theorem curInput_run {s : State α} {top : Batch α} {lr : List (Batch α)} (h1 : s.rpc = .run)
    (h2 : s.localRead = top :: lr) : curInput s = top.input := by
  simp [curInput, h1, h2]

theorem curInput_not_run {s : State α} (h1 : s.rpc ≠ .run) : curInput s = [] := by
  unfold curInput
  split
  · rename_i h _; exact absurd h h1
  · rfl

theorem wf_of_true {d : Bool} {p : List (ROp α)} (h : wf true p = true) : wf d p = true := by
  cases d with
  | true => exact h
  | false =>
    cases p with
    | nil => simp [wf] at h
    | cons o r => cases o <;> simp_all [wf]

theorem wf_adds_flush (d : Bool) (l : List α) (r : List (ROp α)) :
    wf d (l.map ROp.add ++ ROp.flush :: r) = wf false r := by
  induction l generalizing d with
  | nil => rfl
  | cons x l ih => exact ih true

/-- the reader waits for one recycled batch after sending its last one: something has been added since the last `flush` -/
structure AtWaitOne (lr : List (Batch α)) (prog : List (ROp α)) : Prop where
  rest : wf true prog = true
  noBatch : lr = []

/-- from the end of the parser on (the two `~ThreadPool`s, `done`) -/
structure AtEnd (q : Nat) (lr : List (Batch α)) (prog : List (ROp α)) : Prop where
  progDone : prog = []
  allHome : lr.length = q

/-- What the rest of the reader program must look like, by reader state.  The flag of `wf` says "something was added
since the last `flush`"; while the parser runs that is: not (all `q` batches are in `local_read_` and `input_` is empty) —
with every batch at home nothing is pending, and this is what lets an `emit` write its mark straight to the output. -/
def WfClause (q : Nat) (rpc : RPc) (lr : List (Batch α)) (cur : List α) (prog : List (ROp α)) : Prop :=
  match rpc with
  | .run => wf (!(decide (lr.length = q) && cur.isEmpty)) prog = true
  | .waitOne => AtWaitOne lr prog
  | .waitAll => wf false prog = true
  | _ => AtEnd q lr prog

/-- `c`: the lines of the batches sent and not yet written, oldest first.  `log`: what has been written, then
these lines, then `input_`, then what the parser still has to deliver make up the sequential log. -/
structure Inv (cfg : Cfg α) (prog₀ : List (ROp α)) (c : List (List α)) (s : State α) : Prop where
  pipe : Pipe cfg c s.baseSeq s.filterQ s.workers s.doneQ s.ordering
  seq : s.seqNo = s.baseSeq + c.length
  home : Home cfg.queue c s.localRead s.toRead
  log : s.out ++ evs cfg.f (c.flatten ++ curInput s) ++ seqLog cfg.f s.prog = seqLog cfg.f prog₀
  noUb : s.ub = false
  top : s.rpc = .run → ∃ top lr, s.localRead = top :: lr ∧ top.seq = s.seqNo
  wfRest : WfClause cfg.queue s.rpc s.localRead (curInput s) s.prog

variable {cfg : Cfg α} {p : List (ROp α)} {c : List (List α)} {s s' : State α}

theorem Inv.count (h : Inv cfg p c s) :
    s.localRead.length + s.toRead.length + (somes s.filterQ).length + (held s.workers).length
      + (somes s.doneQ).length + (somes s.ordering).length = cfg.queue := by
  have := h.pipe.flight.size
  have := h.home.total
  simp only [List.length_append] at *
  omega

theorem Inv.run (h : Inv cfg p c s) (hrpc : s.rpc = .run) {top : Batch α} {lr : List (Batch α)}
    (hlr : s.localRead = top :: lr) {prog : List (ROp α)} (hp : s.prog = prog) :
    top.seq = s.baseSeq + c.length ∧ Home cfg.queue c (top :: lr) s.toRead ∧
    s.out ++ evs cfg.f (c.flatten ++ top.input) ++ seqLog cfg.f prog = seqLog cfg.f p ∧
    wf (!(decide ((top :: lr).length = cfg.queue) && top.input.isEmpty)) prog = true := by
  subst hp
  obtain ⟨_, _, h0, htop⟩ := h.top hrpc
  rw [hlr] at h0; cases h0
  have hwf := h.wfRest
  have hlog := h.log
  rw [hrpc, curInput_run hrpc hlr, hlr] at hwf
  rw [curInput_run hrpc hlr] at hlog
  exact ⟨htop.trans h.seq, hlr ▸ h.home, hlog, hwf⟩

theorem Inv.log_idle (h : Inv cfg p c s) (hr : s.rpc ≠ .run) :
    s.out ++ evs cfg.f (c.flatten ++ []) ++ seqLog cfg.f s.prog = seqLog cfg.f p := by
  have := h.log
  rwa [curInput_not_run hr] at this

theorem hseq_send {n base : Nat} (x : List α) (h : n = base + c.length) : n + 1 = base + (c ++ [x]).length := by
  rw [List.length_append, h]; rfl

section log
variable {f : α → Verdict} {o L : List (OutEv α)} {c : List (List α)} {l : List α} {x : α} {r : List (ROp α)}

theorem log_add (h : o ++ evs f (c.flatten ++ l) ++ seqLog f (.add x :: r) = L) :
    o ++ evs f (c.flatten ++ (l ++ [x])) ++ seqLog f r = L := by
  simpa only [seqLog, evs_append, evs_single, List.append_assoc] using h

theorem log_sent {r : List (OutEv α)} (h : o ++ evs f (c.flatten ++ l) ++ r = L) :
    o ++ evs f ((c ++ [l]).flatten ++ []) ++ r = L := by
  simpa only [List.flatten_append, List.flatten_cons, List.flatten_nil, List.append_nil] using h

end log

/-- The reader's arms are about `log`, `wfRest`, `top` and `home` (`seq` and `pipe` where a batch is sent); the workers' arms
about `pipe` alone; the output worker's `write` moves a batch from `pipe` to `home` and its lines from `c` to `out`. -/
theorem inv_step (hv : cfg.variant = Variant.fixed) (hq : 1 ≤ cfg.queue) {t : Tid} (h : Inv cfg p c s) (hst : Step cfg s t s') : ∃ c', Inv cfg p c' s' := by
  have hbs : cfg.variant.burnSeq = false := by rw [hv]; rfl
  cases hst with
  | finish hrpc hp =>
    obtain ⟨top, lr, hlr, -⟩ := h.top hrpc
    obtain ⟨-, -, hlog, hwf⟩ := h.run hrpc hlr rfl
    rw [hp] at hwf
    simp only [wf, Bool.not_not, Bool.and_eq_true, decide_eq_true_eq, List.isEmpty_iff] at hwf
    rw [hwf.2] at hlog
    exact ⟨c, { h with log := hlog, top := nofun, wfRest := ⟨hp, hlr ▸ hwf.1⟩ }⟩
  | @emit m rest hrpc hp =>
    obtain ⟨top, lr, hlr, -⟩ := h.top hrpc
    obtain ⟨-, -, hlog, hwf⟩ := h.run hrpc hlr hp
    simp only [wf, Bool.not_not, Bool.and_eq_true, decide_eq_true_eq, List.isEmpty_iff] at hwf
    obtain ⟨⟨hlen, hemp⟩, hrest⟩ := hwf
    have hcur' : curInput { s with prog := rest, out := s.out ++ [OutEv.mark m] } = [] :=
      (curInput_run hrpc hlr).trans hemp
    have hd := h.home.full (hlr ▸ hlen)
    rw [hemp, hd] at hlog
    refine ⟨c, { h with log := ?_, wfRest := ?_ }⟩
    · rw [hcur', hd]
      simpa only [seqLog, List.flatten_nil, List.append_nil, evs_nil, List.append_assoc, List.singleton_append] using hlog
    · show WfClause cfg.queue s.rpc s.localRead _ rest
      rw [hcur', hrpc, hlr]
      simpa only [WfClause, hlen, decide_true, List.isEmpty_nil, Bool.and_self, Bool.not_true] using hrest
  | @add x rest top lr hrpc hp hlr hnf =>
    obtain ⟨htop, hm, hlog, hwf⟩ := h.run hrpc hlr hp
    have hcur' : curInput { s with prog := rest, localRead := { top with input := top.input ++ [x] } :: lr }
        = top.input ++ [x] := by simp only [curInput, hrpc]
    refine ⟨c, { h with home := hm.fill rfl, log := ?_, top := fun _ => ⟨_, _, rfl, htop.trans h.seq.symm⟩, wfRest := ?_ }⟩
    · rw [hcur']; exact log_add hlog
    · show WfClause cfg.queue s.rpc _ _ rest
      rw [hcur', hrpc]
      have e : (top.input ++ [x]).isEmpty = false := by simp
      simp only [WfClause, e, Bool.and_false, Bool.not_false]
      exact hwf
  | @addLast x rest top hrpc hp hlr hfull hroom =>
    obtain ⟨htop, hm, hlog, hwf⟩ := h.run hrpc hlr hp
    rw [send_fixed hbs]
    refine ⟨c ++ [top.input ++ [x]], {
      pipe := h.pipe.send (b := { top with input := top.input ++ [x] }) htop (hm.clean top List.mem_cons_self)
      seq := hseq_send _ h.seq, home := hm.send, log := ?_, noUb := h.noUb, top := nofun, wfRest := ⟨hwf, rfl⟩ }⟩
    rw [curInput_not_run (by simp)]
    exact log_sent (log_add hlog)
  | @addNext x rest top lr hrpc hp hlr hne hfull hroom =>
    obtain ⟨t2, lr2, rfl⟩ := List.exists_cons_of_ne_nil hne
    obtain ⟨htop, hm, hlog, hwf⟩ := h.run hrpc hlr hp
    rw [send_fixed hbs, newInput_fixed hbs (top := t2) (lr := lr2) rfl]
    refine ⟨c ++ [top.input ++ [x]], {
      pipe := h.pipe.send (b := { top with input := top.input ++ [x] }) htop (hm.clean top List.mem_cons_self)
      seq := hseq_send _ h.seq, home := hm.send.fill rfl
      log := ?_, noUb := h.noUb, top := fun _ => ⟨_, _, rfl, rfl⟩, wfRest := ?_ }⟩
    · simp only [curInput, hrpc, fill]
      exact log_sent (log_add hlog)
    · have : ¬ (lr2.length + 1 = cfg.queue) := by
        have := hm.total; simp only [List.length_cons] at this; omega
      simp only [WfClause, curInput, hrpc, fill, List.length_cons, this, decide_false, Bool.false_and, Bool.not_false]
      exact hwf
  | @flushEmpty rest top lr hrpc hp hlr hemp =>
    obtain ⟨-, -, hlog, hwf⟩ := h.run hrpc hlr hp
    rw [hemp] at hlog
    exact ⟨c, { h with log := hlog, top := nofun, wfRest := hwf }⟩
  | @flushSend rest top lr hrpc hp hlr hne hroom =>
    obtain ⟨htop, hm, hlog, hwf⟩ := h.run hrpc hlr hp
    rw [send_fixed hbs]
    refine ⟨c ++ [top.input], {
      pipe := h.pipe.send htop (hm.clean top List.mem_cons_self)
      seq := hseq_send _ h.seq, home := hm.send, log := ?_, noUb := h.noUb, top := nofun, wfRest := hwf }⟩
    rw [curInput_not_run (by simp)]
    exact log_sent hlog
  | @getOne b tr hrpc htr =>
    have hwf := h.wfRest; have hm := h.home
    rw [hrpc] at hwf
    have hl0 := hwf.noBatch
    have hwf := hwf.rest
    rw [htr, hl0] at hm
    rw [newInput_fixed hbs (top := b) (lr := s.localRead) rfl, hl0]
    exact ⟨c, { h with home := hm.recycle.fill rfl, log := h.log_idle (by simp [hrpc]), top := fun _ => ⟨_, _, rfl, rfl⟩,
                       wfRest := wf_of_true hwf }⟩
  | @getAll b tr hrpc hlt htr =>
    have hwf := h.wfRest; have hlog := h.log
    refine ⟨c, { h with home := (htr ▸ h.home).recycle, log := ?_, top := fun hh => by simp [hrpc] at hh, wfRest := ?_ }⟩
    · rw [curInput_not_run (by simp [hrpc])] at hlog ⊢; exact hlog
    · show WfClause cfg.queue s.rpc _ _ s.prog
      rw [hrpc] at hwf ⊢; exact hwf
  | resume hrpc hge =>
    have hwf := h.wfRest; have hm := h.home
    have hlen : s.localRead.length = cfg.queue := by have := hm.total; omega
    obtain ⟨top, lr, hlr⟩ := List.exists_cons_of_length_pos (l := s.localRead) (by omega)
    rw [hrpc] at hwf
    rw [newInput_fixed hbs (s := { s with rpc := .run }) hlr]
    rw [hlr] at hm hlen
    refine ⟨c, { h with home := hm.fill rfl, log := h.log_idle (by simp [hrpc]), top := fun _ => ⟨_, _, rfl, rfl⟩, wfRest := ?_ }⟩
    show wf (!(decide ((fill top s.seqNo :: lr).length = cfg.queue) && ([] : List α).isEmpty)) s.prog = true
    have e : lr.length + 1 = cfg.queue := hlen
    simpa [WfClause, e] using hwf
  | poisonW hrpc =>
    have hwf := h.wfRest
    rw [hrpc] at hwf
    exact ⟨c, { h with pipe := h.pipe.poisonW, log := h.log_idle (by simp [hrpc]), top := nofun, wfRest := hwf }⟩
  | poisonO hrpc =>
    have hwf := h.wfRest
    rw [hrpc] at hwf
    exact ⟨c, { h with pipe := h.pipe.poisonO, log := h.log_idle (by simp [hrpc]), top := nofun, wfRest := hwf }⟩
  | joinW hrpc | joinO hrpc =>
    have hwf := h.wfRest
    rw [hrpc] at hwf
    exact ⟨c, { h with log := h.log_idle (by simp [hrpc]), top := nofun, wfRest := hwf }⟩
  | take hw hq => exact ⟨c, { h with pipe := (hq ▸ h.pipe).take hw }⟩
  | exit hw hq => exact ⟨c, { h with pipe := (hq ▸ h.pipe).exit hw }⟩
  | put hw =>
    obtain ⟨hp, hu⟩ := h.pipe.put hw
    exact ⟨c, { h with pipe := hp, noUb := by simp [h.noUb, hu] }⟩
  | @write b rest _ hord =>
    obtain ⟨c', rfl, hp, he⟩ := (hord ▸ h.pipe).write
    have hlog := h.log
    refine ⟨c', { h with pipe := hp, seq := h.seq.trans (by rw [List.length_cons, Nat.add_assoc, Nat.add_comm 1])
                         home := h.home.write (flushed_fixed _ hv _), log := ?_ }⟩
    show s.out ++ b.out.events ++ evs cfg.f (c'.flatten ++ curInput s) ++ _ = _
    rw [he]
    simpa [evs_append, List.append_assoc] using hlog
  | stop _ _ hq => exact ⟨c, { h with pipe := (hq ▸ h.pipe).stop }⟩
  | file _ _ hq => exact ⟨c, { h with pipe := (hq ▸ h.pipe).file }⟩

theorem inv_init (hv : cfg.variant = Variant.fixed) (hq : 1 ≤ cfg.queue) (p : List (ROp α))
    (hp : wf false p = true) : Inv cfg p [] (init cfg p) := by
  have hbs : cfg.variant.burnSeq = false := by rw [hv]; rfl
  obtain ⟨n, hn⟩ : ∃ n, cfg.queue = n + 1 := ⟨cfg.queue - 1, by omega⟩
  have hrange : (List.range cfg.queue).reverse = n :: (List.range n).reverse := by
    rw [hn, List.range_succ]; simp
  have hinit : init cfg p =
      { prog := p, rpc := .run,
        localRead := fill { id := n, seq := 0, input := [] } 0 :: (List.range n).reverse.map fun i => { id := i, seq := 0, input := [] },
        seqNo := 0, toRead := [], filterQ := [], workers := List.replicate cfg.workers .idle,
        doneQ := [], ordering := [], baseSeq := 0, oExited := false, out := [], ub := false } := by
    rw [init, newInput_fixed hbs (by rw [hrange]; rfl)]
  rw [hinit]
  refine { pipe := ⟨⟨?_, ?_, ?_, ?_⟩, ?_⟩, seq := rfl, home := ⟨?_, ?_⟩, log := ?_, noUb := rfl,
           top := ?_, wfRest := ?_ }
  · simp
  · intro b hb; simp at hb
  · intro b hb; simp at hb
  · intro b hb; simp at hb
  · intro i b hb; simp at hb
  · intro b hb
    simp only [List.append_nil, List.mem_cons, List.mem_map] at hb
    rcases hb with rfl | ⟨i, _, rfl⟩ <;> rfl
  · simp [hn]
  · simp [curInput, fill]
  · intro _; exact ⟨_, _, rfl, rfl⟩
  · simp only [WfClause, curInput, fill, List.length_cons, List.length_map, List.length_reverse, List.length_range, hn,
      decide_true, List.isEmpty_nil, Bool.and_self, Bool.not_true]
    exact hp

theorem reach_inv (hv : cfg.variant = Variant.fixed) (hq : 1 ≤ cfg.queue)
    (hp : wf false p = true) (hr : Reach cfg p s) : ∃ c, Inv cfg p c s :=
  hr.invariant (P := fun s => ∃ c, Inv cfg p c s) ⟨[], inv_init hv hq p hp⟩ fun _ _ _ ⟨_, hc⟩ hst => inv_step hv hq hc hst

theorem inv_terminal (h : Inv cfg p c s)
    (hd : s.rpc = .done) : s.out = seqLog cfg.f p ∧ s.ub = false := by
  have hwf := h.wfRest
  rw [hd] at hwf
  have hl := h.log
  rw [h.home.full hwf.allHome, hwf.progDone, curInput_not_run (by rw [hd]; simp)] at hl
  exact ⟨by simpa [seqLog] using hl, h.noUb⟩

end KV.FilterCtl
