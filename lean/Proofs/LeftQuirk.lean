import Proofs.LeftSem
/-! The probing structures' unigram sign-bit quirk (`Table.withSignQuirk`, known finding of C01) only turns
"does not extend left" into "extends left" for some unigrams: the hypotheses of the chart theorems survive. -/
namespace KV.Left
open KV.Arpa KV.Table KV.State KV.Score

variable {a : Arpa} {T : Table}

theorem quirk_lookup (a : Arpa) (T : Table) (g : List Word) :
    (T.lookup g = none ∧ (withSignQuirk a T).lookup g = none) ∨
    ∃ t t', T.lookup g = some t ∧ (withSignQuirk a T).lookup g = some t' ∧ t'.prob = t.prob ∧ t'.backoff = t.backoff ∧
      t'.extendsRight = t.extendsRight ∧ (t'.extendsLeft = false → t.extendsLeft = false) := by
  obtain ⟨o, ho⟩ : ∃ o, T.lookup g = o := ⟨_, rfl⟩
  cases o with
  | none => left; exact ⟨ho, by simp [withSignQuirk, ho]⟩
  | some t =>
    right
    match g with
    | [] => exact ⟨t, t, ho, by simp [withSignQuirk, ho], rfl, rfl, rfl, id⟩
    | [w] =>
      by_cases hq : (a.gram [w]).any (·.plusZero) = true
      · exact ⟨t, { t with extendsLeft := true }, ho, by simp [withSignQuirk, ho, hq], rfl, rfl, rfl, fun h => by simp at h⟩
      · exact ⟨t, t, ho, by simp [withSignQuirk, ho, hq], rfl, rfl, rfl, id⟩
    | w :: x :: r => exact ⟨t, t, ho, by simp [withSignQuirk, ho], rfl, rfl, rfl, id⟩

theorem quirk_none_iff (a : Arpa) (T : Table) (g : List Word) : (withSignQuirk a T).lookup g = none ↔ T.lookup g = none := by
  rcases quirk_lookup a T g with ⟨h1, h2⟩ | ⟨t, t', h1, h2, _⟩
  · simp [h1, h2]
  · simp [h1, h2]

theorem quirk_some {g : List Word} {t' : TEntry} (h : (withSignQuirk a T).lookup g = some t') :
    ∃ t, T.lookup g = some t ∧ t'.prob = t.prob ∧ t'.backoff = t.backoff ∧ t'.extendsRight = t.extendsRight ∧
      (t'.extendsLeft = false → t.extendsLeft = false) := by
  rcases quirk_lookup a T g with ⟨_, h2⟩ | ⟨t, t'', h1, h2, h3⟩
  · rw [h2] at h; cases h
  · rw [h2] at h; cases h
    exact ⟨t, h1, h3⟩

theorem hyp_quirk (H : Hyp a T) : Hyp a (withSignQuirk a T) := by
  have tf := H.tf
  refine ⟨H.wf, ⟨⟨tf.order_ge, ?_, ?_, ?_⟩, tf.order_eq, ?_, ?_, ?_, ?_⟩, ?_, H.premise⟩
  · intro g x hg h
    rw [Ne, quirk_none_iff] at h ⊢
    exact tf.prefix_closed g x hg h
  · intro g x t' ht' hxl
    rw [quirk_none_iff]
    obtain ⟨t, h1, _, _, _, h6⟩ := quirk_some ht'
    exact tf.xl_sound g x t h1 (h6 hxl)
  · intro g h
    rw [Ne, quirk_none_iff] at h
    exact tf.len_le g h
  · intro g e hg
    obtain ⟨t, ht, hp, hb⟩ := tf.real g e hg
    rcases quirk_lookup a T g with ⟨h1, _⟩ | ⟨t0, t', h1, h2, h3, h4, _, _⟩
    · rw [h1] at ht; cases ht
    · rw [h1] at ht; cases ht
      exact ⟨t', h2, by rw [h3, hp], by rw [h4, hb]⟩
  · intro w ctx t' ht' hg
    obtain ⟨t, h1, h3, h4, _, _⟩ := quirk_some ht'
    have := tf.blank w ctx t h1 hg
    exact ⟨by rw [h3]; exact this.1, by rw [h4]; exact this.2⟩
  · intro g t' ht' hl
    obtain ⟨t, h1, _, _, h5, _⟩ := quirk_some ht'
    rw [h5]; exact tf.xr_live g t h1 hl
  · rw [quirk_none_iff]; exact tf.nil_none
  · intro g y hg h
    rw [Ne, quirk_none_iff] at h
    have := H.marks g y hg h
    unfold Table.xr at this ⊢
    rcases quirk_lookup a T g with ⟨h1, _⟩ | ⟨t, t', h1, h2, _, _, h5, _⟩
    · rw [h1] at this; cases this
    · rw [h1] at this; rw [h2]; simpa [h5] using this

end KV.Left
