import Model.QuantBins
import Proofs.QuantArith
import Proofs.Basics
/-! Lossless quantisation over exact rationals (`Model/QuantBins.lean`): (a) value count ≤ bins, (b) equal multiplicities with one bin per
distinct value.  (a) has its twin for any arithmetic in Proofs/QuantOps.lean (see the head of that file). -/
namespace KV.QuantBins

theorem roundTrip_of_index (cs : List (Option Rat)) (v : Rat) (j : Nat) (hj : j < cs.length)
    (hv : cs[j] = some v) (hlt : ∀ i (hi : i < j), ltOpt (cs[i]'(by omega)) v = true) :
    decode cs (encode cs v) = some v := by
  have hlb : lowerBound cs v = j :=
    takeWhile_length_of_prefix _ cs j hj hlt (by rw [hv]; exact decide_eq_false Rat.lt_irrefl)
  -- the encoder returns `j`: its left neighbour, if there is one, is further from `v` than `v` itself
  suffices h : encode cs v = j by rw [h, decode, ← List.getElem_eq_getD (h := hj), hv]
  unfold encode
  simp only [hlb]
  cases j with
  | zero => rfl
  | succ k =>
    have hk : k < cs.length := Nat.lt_of_succ_lt hj
    rw [if_neg (Nat.succ_ne_zero k), if_neg (Nat.ne_of_lt hj), Nat.add_sub_cancel, ← List.getElem_eq_getD (h := hk), ← List.getElem_eq_getD (h := hj), hv]
    have hprev := hlt k (Nat.lt_succ_self k)
    cases hc : cs[k] with
    | none => rfl
    | some lo =>
      rw [hc] at hprev
      have hlo : lo < v := of_decide_eq_true hprev
      show (if v - lo < v - v then k else k + 1) = k + 1
      rw [if_neg]
      rw [Rat.sub_self, Rat.not_lt]
      exact (Rat.le_iff_sub_nonneg lo v).mp (Rat.le_of_lt hlo)

theorem sum_replicate (m : Nat) (d : Rat) : (List.replicate m d).sum = (m : Rat) * d := by
  induction m with
  | zero => simp
  | succ m ih => rw [List.replicate_succ, List.sum_cons, ih]; push_cast; grind

theorem mean_replicate (m : Nat) (hm : 0 < m) (d : Rat) : mean (List.replicate m d) = d := by
  unfold mean
  rw [sum_replicate, List.length_replicate]
  have : (m : Rat) ≠ 0 := by
    have : (0 : Rat) < (m : Rat) := by exact_mod_cast hm
    grind
  grind

theorem mean_singleton (x : Rat) : mean [x] = x := mean_replicate 1 Nat.one_pos x

theorem centreAt_of_ne {vals : List Rat} {bins i : Nat} (h : (seg vals bins i).isEmpty = false) :
    centreAt vals bins i = some (mean (seg vals bins i)) := by
  cases i <;> simp only [centreAt, h, Bool.false_eq_true, if_false]

theorem drop_flatMap_replicate (m : Nat) : ∀ (ds : List Rat) (i : Nat),
    (ds.flatMap (List.replicate m)).drop (m * i) = (ds.drop i).flatMap (List.replicate m) := by
  intro ds
  induction ds with
  | nil => intro i; simp
  | cons d rest ih =>
    intro i
    cases i with
    | zero => simp
    | succ i =>
      rw [List.flatMap_cons, show m * (i + 1) = (List.replicate m d).length + m * i by simp [Nat.mul_succ, Nat.add_comm],
        List.drop_length_add_append, ih]
      rfl

theorem length_flatMap_replicate (m : Nat) (ds : List Rat) : (ds.flatMap (List.replicate m)).length = ds.length * m := by
  simp [List.length_flatMap, List.map_const', List.sum_replicate_nat]

theorem seg_equal_mult (m : Nat) (ds : List Rat) (i : Nat) (hi : i < ds.length) :
    seg (ds.flatMap (List.replicate m)) ds.length i = List.replicate m ds[i] := by
  have hk : 0 < ds.length := by omega
  unfold seg binLo binHi
  rw [length_flatMap_replicate]
  have key : ∀ k, ds.length * m * k / ds.length = m * k := fun k => by
    rw [Nat.mul_assoc]; exact Nat.mul_div_cancel_left _ hk
  rw [key, key, drop_flatMap_replicate]
  have h3 : m * (i + 1) - m * i = m := by rw [Nat.mul_succ]; omega
  rw [h3, List.drop_eq_getElem_cons hi, List.flatMap_cons]
  rw [List.take_append_of_le_length (by simp)]
  simp

theorem makeBins_equal_mult (m : Nat) (hm : 0 < m) (ds : List Rat) :
    makeBins (ds.flatMap (List.replicate m)) ds.length = ds.map some := by
  unfold makeBins
  apply List.ext_getElem
  · simp
  · intro i h1 h2
    have hi : i < ds.length := by simpa using h1
    have hs := seg_equal_mult m ds i hi
    simp [centreAt_of_ne (by rw [hs, List.isEmpty_replicate]; exact decide_eq_false (Nat.ne_of_gt hm)), hs,
      mean_replicate m hm]

theorem bin_width_le_one (n bins i : Nat) (hb : 0 < bins) (hn : n ≤ bins) :
    binHi n bins i - binLo n bins i ≤ 1 :=
  Nat.sub_le_of_le_add (Nat.add_comm .. ▸ (KV.Quant.binEnd_step n bins i hb hn).2)

/-- centre as a function of the upper index of the bin: the last value below it -/
def lastBelow (vals : List Rat) (h : Nat) : Option Rat := if h = 0 then none else vals[h - 1]?

theorem bin_empty_or_single (vals : List Rat) (bins i : Nat) (hb : 0 < bins) (hn : vals.length ≤ bins) (hi : i < bins) :
    (binHi vals.length bins i = binLo vals.length bins i ∧ seg vals bins i = []) ∨
    centreAt vals bins i = lastBelow vals (binHi vals.length bins i) := by
  have h2 : binLo vals.length bins i ≤ binHi vals.length bins i := (KV.Quant.binEnd_step vals.length bins i hb hn).1
  have h1 : binHi vals.length bins i ≤ binLo vals.length bins i + 1 := (KV.Quant.binEnd_step vals.length bins i hb hn).2
  have h3 : binHi vals.length bins i ≤ vals.length := KV.Quant.binEnd_le vals.length bins (i + 1) hb hi
  by_cases he : binHi vals.length bins i = binLo vals.length bins i
  · exact Or.inl ⟨he, by rw [seg, he, Nat.sub_self, List.take_zero]⟩
  · have he' : binHi vals.length bins i = binLo vals.length bins i + 1 := by omega
    have hlo : binLo vals.length bins i < vals.length := by omega
    have hs : seg vals bins i = [vals[binLo vals.length bins i]] := by
      rw [seg, he', Nat.add_sub_cancel_left, List.drop_eq_getElem_cons hlo]; rfl
    right
    rw [centreAt_of_ne (by rw [hs]; rfl), hs, mean_singleton, he', lastBelow, if_neg (Nat.succ_ne_zero _),
      Nat.add_sub_cancel, List.getElem?_eq_getElem hlo]

theorem centreAt_fits (vals : List Rat) (bins : Nat) (hb : 0 < bins) (hn : vals.length ≤ bins) :
    ∀ i, i < bins → centreAt vals bins i = lastBelow vals (binHi vals.length bins i) := by
  intro i
  induction i with
  | zero =>
    intro hi
    rcases bin_empty_or_single vals bins 0 hb hn hi with ⟨he, hs⟩ | h
    · simp [centreAt, hs, lastBelow, he, binLo]
    · exact h
  | succ i ih =>
    -- an empty bin repeats the previous centre, and its lower index is the upper index of the previous bin
    intro hi
    rcases bin_empty_or_single vals bins (i+1) hb hn hi with ⟨he, hs⟩ | h
    · rw [he, centreAt, hs]
      exact ih (Nat.lt_of_succ_lt hi)
    · exact h

/-- a quantised order is lossless whenever its value count (with multiplicity) fits the bins: each equal-population
bin holds at most one value, and the encoder finds the first centre equal to the value -/
theorem roundTrip_of_length_le (vals : List Rat) (bins : Nat) (hsorted : vals.Pairwise (· ≤ ·)) (hn : vals.length ≤ bins)
    (v : Rat) (hv : v ∈ vals) : roundTrip vals bins v = some v := by
  have hpos : 0 < vals.length := List.length_pos_of_mem hv
  have hb : 0 < bins := by omega
  obtain ⟨h0, hh, he, hmin⟩ := first_occurrence vals v hv
  let f := fun i => binHi vals.length bins i
  obtain ⟨j, hjb, hj2, hj3⟩ : ∃ j, j < bins ∧ f j = h0 + 1 ∧ ∀ i, i < j → f i < h0 + 1 :=
    KV.Quant.finish_hits vals.length bins (h0 + 1) hn (Nat.succ_pos h0) hh
  have hc : ∀ i (hi : i < bins), (makeBins vals bins)[i]'(by simp [makeBins]; exact hi) = lastBelow vals (f i) := by
    intro i hi
    simp only [makeBins, List.getElem_map, List.getElem_range]
    exact centreAt_fits vals bins hb hn i hi
  apply roundTrip_of_index (makeBins vals bins) v j (by simp [makeBins]; exact hjb)
  · rw [hc j hjb, hj2]
    simp [lastBelow, List.getElem?_eq_getElem hh, he]
  · -- an earlier bin ends before the first occurrence of `v`, so its centre is a smaller value
    intro i hi
    rw [hc i (Nat.lt_trans hi hjb)]
    have hlt := hj3 i hi
    unfold lastBelow
    by_cases hz : f i = 0
    · rw [if_pos hz]; rfl
    · have hidx : f i - 1 < h0 := by omega
      have hidx' : f i - 1 < vals.length := Nat.lt_trans hidx hh
      rw [if_neg hz, List.getElem?_eq_getElem hidx']
      have hle := (List.pairwise_iff_getElem.mp hsorted) (f i - 1) h0 hidx' hh hidx
      rw [he] at hle
      exact decide_eq_true (Rat.lt_of_le_of_ne hle (hmin (f i - 1) hidx))

end KV.QuantBins
