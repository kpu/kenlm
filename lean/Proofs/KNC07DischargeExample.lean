import Proofs.KNC07Discharge
/-!
Two concrete implementations that meet the hypotheses of `lmplzOut_growable` and `lmplz_eq_spec_sorters`: the vocabulary is C20's
`GrowableVocab`, the first sort C16's `extSort` with the plan and tie-break index of the memory configuration (`exImplD`), and
in `exImplD2` the schedule and the order decide which of two different correct sorts the later stages use.
-/
namespace KV.C07
open KV.KN KV.KN.Count KV.KN.Interp

section examples
open KV.Vocab

/-! ### non-vacuity: an implementation built from C16's `extSort` and C20's `GrowableVocab` -/

theorem toRec_ofRec (r : KV.Sort.Rec) : toRec (ofRec r) = r := by
  cases r; simp [toRec, ofRec]

theorem sortImpl_of_extSort (pick : KV.Sort.Pick KV.Sort.Rec) (plan : List (List Nat)) (blocks : List (List Count.Rec)) :
    KV.Sort.extSort KV.Sort.suffixLt KV.Sort.combineCounts pick (toBlocks blocks) plan =
      some ((((KV.Sort.extSort KV.Sort.suffixLt KV.Sort.combineCounts pick (toBlocks blocks) plan).getD []).map ofRec).map toRec) := by
  rw [KV.Sort.extSort_eq]
  simp [List.map_map, Function.comp_def, toRec_ofRec]

/-- an implementation over numbers as words (hash `· + 1`) whose vocabulary is `GrowableVocab` sized by the first component of
the memory configuration and whose first sort is `extSort` with the plan and tie-break index of the configuration: the text
`[[5, 9, 5, 9], [5, 9]]` meets `GrowableImpl` -/
theorem exGrowable {Sched Out : Type} (I : Impl (Nat × List (List Nat) × Nat) Sched (List (List Nat)) Out)
    (henc : ∀ m t, I.encode m t = KV.Vocab.growableIds (· + 1) 0 1 2 999 (m.1 % 1000 + 1) t)
    (hsort : ∀ m s blocks, I.sortCombine m s blocks =
      ((KV.Sort.extSort KV.Sort.suffixLt KV.Sort.combineCounts (fun _ _ _ => m.2.2) (toBlocks blocks) m.2.1).getD []).map ofRec) :
    GrowableImpl I [[5, 9, 5, 9], [5, 9]] (· + 1) 0 1 2 999 (fun m => m.1 % 1000 + 1) where
  size := fun m => by omega
  enc := henc
  specials := by decide
  inj := fun a _ b _ e => by simpa using e
  nonzero := fun w _ => by simp
  types := by decide
  sort := fun m s blocks => ⟨_, _, hsort m s blocks ▸ sortImpl_of_extSort (fun _ _ _ => m.2.2) m.2.1 blocks⟩

/-- memory configuration = (block capacity and vocabulary size argument, merge plan, tie-break index);
words = numbers, hash = `· + 1`; the first sort is C16's `extSort`, the later stages C05's `estimateFrom` -/
def exImplD : Impl (Nat × List (List Nat) × Nat) Unit (List (List Nat)) (Except Err Model) where
  cap := fun m => m.1
  encode := fun m t => KV.Vocab.growableIds (· + 1) 0 1 2 999 (m.1 % 1000 + 1) t
  sortCombine := fun m _ blocks =>
    ((KV.Sort.extSort KV.Sort.suffixLt KV.Sort.combineCounts (fun _ _ _ => m.2.2) (toBlocks blocks) m.2.1).getD []).map ofRec
  post := fun _ _ o full => estimateFrom o.cfg o.pruneVocab o.fallback full

/-- capacity 1 with a two-pass plan and capacity 100 (one block, `ReadSingle`) agree -/
example (opts : Opts) (hN : 1 ≤ opts.cfg.order) :
    lmplzOut exImplD (1, [[2, 2, 1], [2, 1]], 1) () opts [[5, 9, 5, 9], [5, 9]] =
      lmplzOut exImplD (100, [], 0) () opts [[5, 9, 5, 9], [5, 9]] := by
  have h := lmplzOut_growable (exGrowable exImplD (fun _ _ => rfl) fun _ _ _ => rfl) opts hN
  exact (h (1, [[2, 2, 1], [2, 1]], 1) ()).trans (h (100, [], 0) ()).symm

/-! ### non-vacuity: a schedule-dependent, non-stable sort in the later stages -/

/-- sort the reversed input (a correct sort that breaks ties the other way round) -/
def revSorters : Sorters where
  ctx := fun l => l.reverse.mergeSort ctxLe
  suf := fun l => l.reverse.mergeSort uninterpLe

theorem revSorters_ok : SortsOK revSorters :=
  ⟨fun l => ⟨(List.mergeSort_perm _ _).trans (List.reverse_perm l),
      List.pairwise_mergeSort ctxLe_trans ctxLe_total _⟩,
   fun l => ⟨(List.mergeSort_perm _ _).trans (List.reverse_perm l),
      List.pairwise_mergeSort uninterpLe_trans uninterpLe_total _⟩⟩

/-- as `exImplD`, but the schedule (a `Bool`) and the order decide which sort the later stages use -/
def exImplD2 : Impl (Nat × List (List Nat) × Nat) Bool (List (List Nat)) (Except Err Model) where
  cap := fun m => m.1
  encode := fun m t => KV.Vocab.growableIds (· + 1) 0 1 2 999 (m.1 % 1000 + 1) t
  sortCombine := fun m _ blocks =>
    ((KV.Sort.extSort KV.Sort.suffixLt KV.Sort.combineCounts (fun _ _ _ => m.2.2) (toBlocks blocks) m.2.1).getD []).map ofRec
  post := fun m s o full =>
    estimateFromWith (fun n => if s && (n + m.1) % 2 == 0 then revSorters else stdSorters)
      o.cfg o.pruneVocab o.fallback full

example (opts : Opts) (hN : 1 ≤ opts.cfg.order) (hk : opts.cfg.keepSpecials = true) :
    lmplzOut exImplD2 (1, [[2, 2, 1], [2, 1]], 1) true opts [[5, 9, 5, 9], [5, 9]] =
      lmplzOut exImplD2 (100, [], 0) false opts [[5, 9, 5, 9], [5, 9]] := by
  have h := lmplz_eq_spec_sorters exImplD2 id _ opts hN [[5, 9, 5, 9], [5, 9]]
    (firstOccurrenceIds_not_special 0 1 2 _)
    (lmplzOut_growable (exGrowable exImplD2 (fun _ _ => rfl) fun _ _ _ => rfl) opts hN)
    (fun m s n => if s && (n + m.1) % 2 == 0 then revSorters else stdSorters)
    (fun _ _ _ => rfl) (fun m s n => by split <;> [exact revSorters_ok; exact stdSorters_ok]) hk
  exact (h _ _).trans (h _ _).symm

end examples

end KV.C07
