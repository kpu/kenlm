import Model.LoaderBin
import Proofs.Basics
/-! The binary-header acceptance model (`KV.LoaderBin.loadBinary`): where undefined behaviour can come from. -/
namespace KV.LoaderBin
open KV.Gen.C10

theorem mapAndVocab_cases (req : Request) (bound : Params → Nat) (file : File) (p : Params) (sz : Nat) :
    mapAndVocab req bound file p sz = .ok p ∨ ∃ e, mapAndVocab req bound file p sz = .error e := by
  unfold mapAndVocab
  dsimp only
  split
  · exact Or.inr ⟨_, rfl⟩
  · split
    · split
      · exact Or.inr ⟨_, rfl⟩
      · exact Or.inl rfl
    · exact Or.inl rfl

theorem loadBinary_ub (req : Request) (size : Params → SizeR) (bound : Params → Nat) (file : File)
    (h : loadBinary req size bound file = .ub) :
    ∃ f, recognize file = .header f ∧ checkCountsMinOrder ≤ f.order ∧
      (f.order = 0 ∨ (isNaN f.multBits = true ∧ readHeaderRejectsNaN = false)) := by
  unfold loadBinary at h
  cases hrec : recognize file with
  | notBinary => rw [hrec] at h; cases h
  | err e => rw [hrec] at h; cases h
  | header f =>
    rw [hrec] at h
    dsimp only at h
    obtain ⟨_, h⟩ := of_ite_eq h nofun
    obtain ⟨hnan, h⟩ := of_ite_eq h nofun
    cases hcs : readCounts f.order (file.drop (sizeofSanity + sizeofFixed)) with
    | none => rw [hcs] at h; cases h
    | some cs =>
      rw [hcs] at h
      dsimp only at h
      obtain ⟨_, h⟩ := of_ite_eq h nofun
      obtain ⟨_, h⟩ := of_ite_eq h nofun
      obtain ⟨_, h⟩ := of_ite_eq h nofun
      obtain ⟨hmin, h⟩ := of_ite_eq h nofun
      refine ⟨f, rfl, Nat.le_of_not_lt hmin, ?_⟩
      by_cases h0 : f.order = 0
      · exact Or.inl h0
      · rw [if_neg (by simpa using h0)] at h
        obtain ⟨_, h⟩ := of_ite_eq h nofun
        by_cases hm : (isNaN f.multBits && req.usesMultiplier) = true
        · cases hn : isNaN f.multBits with
          | false => rw [hn] at hm; cases hm
          | true => rw [hn] at hnan; exact Or.inr ⟨rfl, by simpa using hnan⟩
        · rw [if_neg hm] at h
          cases hs : size ⟨f, cs⟩ with
          | unknown => rw [hs] at h; cases h
          | err e => rw [hs] at h; cases h
          | known sz =>
            rw [hs] at h
            dsimp only at h
            rcases mapAndVocab_cases req bound file ⟨f, cs⟩ sz with e | ⟨_, e⟩
            · rw [e] at h; cases h
            · rw [e] at h; cases h

end KV.LoaderBin
