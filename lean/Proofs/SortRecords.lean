import Model.SortBytes
import Proofs.SortOffsets
/-! C16 byte level: records ↔ bytes.  `bytesOf` and `recordsOf s` are inverse to each other between lists of `s`-byte
records (`Uniform s`) and byte strings whose length is a multiple of `s`; both commute with cutting after `k` records. -/
namespace KV.Sort
open List

def Uniform (s : Nat) (recs : List (List Nat)) : Prop := ∀ r ∈ recs, r.length = s

theorem length_bytesOf {s : Nat} : ∀ {recs : List (List Nat)}, Uniform s recs → (bytesOf recs).length = recs.length * s
  | [], _ => by simp [bytesOf]
  | r :: rs, h => by
    have ih := length_bytesOf (s := s) (recs := rs) (fun x hx => h x (by simp [hx]))
    simp only [bytesOf, flatten_cons, length_append, length_cons] at ih ⊢
    rw [ih, h r (by simp), Nat.succ_mul]; omega

theorem chunk_bytesOf {s : Nat} : ∀ (recs : List (List Nat)), Uniform s recs →
    chunk s recs.length (bytesOf recs) = recs
  | [], _ => rfl
  | r :: rs, h => by
    have hr := h r (by simp)
    have ih := chunk_bytesOf (s := s) rs (fun x hx => h x (by simp [hx]))
    simp only [bytesOf, flatten_cons, length_cons, chunk] at ih ⊢
    rw [take_left' hr, drop_left' hr, ih]

theorem recordsOf_bytesOf {s : Nat} (hs : 0 < s) (recs : List (List Nat)) (h : Uniform s recs) :
    recordsOf s (bytesOf recs) = recs := by
  unfold recordsOf
  rw [length_bytesOf h, Nat.mul_div_cancel _ hs]
  exact chunk_bytesOf recs h

theorem chunk_uniform {s : Nat} : ∀ (n : Nat) (buf : Buf), n * s ≤ buf.length → Uniform s (chunk s n buf)
  | 0, _, _ => by simp [chunk, Uniform]
  | n + 1, buf, h => by
    rw [Nat.succ_mul] at h
    intro r hr
    simp only [chunk, mem_cons] at hr
    rcases hr with rfl | hr
    · exact length_take.trans (Nat.min_eq_left (Nat.le_trans (Nat.le_add_left _ _) h))
    · exact chunk_uniform n (buf.drop s) (by rw [length_drop]; exact Nat.le_sub_of_add_le h) r hr

theorem bytesOf_chunk {s : Nat} : ∀ (n : Nat) (buf : Buf), buf.length = n * s → bytesOf (chunk s n buf) = buf
  | 0, buf, h => by
    have : buf = [] := List.eq_nil_of_length_eq_zero (h.trans (Nat.zero_mul s))
    simp [chunk, bytesOf, this]
  | n + 1, buf, h => by
    rw [Nat.succ_mul] at h
    have ih := bytesOf_chunk (s := s) n (buf.drop s) (by rw [length_drop, h, Nat.add_sub_cancel])
    simp only [chunk, bytesOf, flatten_cons] at ih ⊢
    rw [ih, take_append_drop]

theorem recordsOf_uniform {s : Nat} (buf : Buf) : Uniform s (recordsOf s buf) := by
  unfold recordsOf
  apply chunk_uniform
  exact Nat.div_mul_le_self _ _

theorem bytesOf_recordsOf {s : Nat} (buf : Buf) (hd : s ∣ buf.length) :
    bytesOf (recordsOf s buf) = buf := by
  unfold recordsOf
  apply bytesOf_chunk
  exact (Nat.div_mul_cancel hd).symm

/-- cutting by chunks and cutting by index give the same records -/
theorem chunk_eq_map_recAt (s : Nat) : ∀ (n : Nat) (buf : Buf), chunk s n buf = (List.range n).map (recAt s buf)
  | 0, _ => rfl
  | n + 1, buf => by
    rw [chunk, chunk_eq_map_recAt s n, range_succ_eq_map, map_cons, map_map]
    congr 1
    · simp [recAt]
    · refine map_congr_left fun i _ => ?_
      simp only [recAt, Function.comp, drop_drop, Nat.succ_mul]
      rw [Nat.add_comm]

theorem recordsOf_length {s : Nat} (buf : Buf) : (recordsOf s buf).length = buf.length / s := by
  rw [recordsOf, chunk_eq_map_recAt, length_map, length_range]

theorem uniform_flatten {E : Nat} {runs : List (List (List Nat))} :
    Uniform E runs.flatten ↔ ∀ r ∈ runs, Uniform E r :=
  ⟨fun h r hr x hx => h x (mem_flatten.mpr ⟨r, hr, hx⟩),
    fun h x hx => let ⟨r, hr, hxr⟩ := mem_flatten.mp hx; h r hr x hxr⟩

theorem map_length_bytesOf {s : Nat} {runs : List (List (List Nat))} (hu : ∀ r ∈ runs, Uniform s r) :
    runs.map (fun r => r.length * s) = (runs.map bytesOf).map List.length := by
  rw [map_map]
  exact map_congr_left fun r hr => (length_bytesOf (hu r hr)).symm

theorem nonempties_map_bytesOf {s : Nat} (hs : 0 < s) (runs : List (List (List Nat)))
    (hu : ∀ r ∈ runs, Uniform s r) : (nonempties (runs.map bytesOf)).map (recordsOf s) = nonempties runs := by
  rw [nonempties_map (p := fun r => !r.isEmpty) fun r hr => ?_, map_map]
  · exact (map_congr_left fun r hr => recordsOf_bytesOf hs r (hu r (mem_nonempties.mp hr).1)).trans (map_id' _)
  · rw [not_isEmpty_iff, length_bytesOf (hu r hr), Ne, Ne, Nat.mul_eq_zero, or_iff_left (Nat.ne_of_gt hs)]

theorem bytesOf_take_drop {s : Nat} (recs : List (List Nat)) (k : Nat) (h : Uniform s recs) :
    (bytesOf recs).take (k * s) = bytesOf (recs.take k) ∧ (bytesOf recs).drop (k * s) = bytesOf (recs.drop k) := by
  have hl : (bytesOf (recs.take k)).length = min k recs.length * s := by
    rw [length_bytesOf fun r hr => h r (mem_of_mem_take hr), length_take]
  have hsplit : bytesOf recs = bytesOf (recs.take k) ++ bytesOf (recs.drop k) := by
    unfold bytesOf; rw [← flatten_append, take_append_drop]
  rcases Nat.le_total k recs.length with hk | hk
  · rw [Nat.min_eq_left hk] at hl
    rw [hsplit]
    exact ⟨take_left' hl, drop_left' hl⟩
  · have : (bytesOf recs).length ≤ k * s := by rw [length_bytesOf h]; exact Nat.mul_le_mul_right s hk
    rw [take_of_length_le this, drop_of_length_le this, take_of_length_le hk, drop_of_length_le hk]
    exact ⟨rfl, rfl⟩

theorem recordsOf_take_drop {s : Nat} (hs : 0 < s) (buf : Buf) (hd : s ∣ buf.length) (k : Nat) :
    recordsOf s (buf.take (k * s)) = (recordsOf s buf).take k ∧
      recordsOf s (buf.drop (k * s)) = (recordsOf s buf).drop k := by
  have hu := recordsOf_uniform (s := s) buf
  obtain ⟨ht, hdr⟩ := bytesOf_take_drop _ k hu
  rw [bytesOf_recordsOf buf hd] at ht hdr
  rw [ht, hdr, recordsOf_bytesOf hs _ fun r hr => hu r (mem_of_mem_take hr),
    recordsOf_bytesOf hs _ fun r hr => hu r (mem_of_mem_drop hr)]
  exact ⟨rfl, rfl⟩

theorem recordsOf_eq_nil {s : Nat} (buf : Buf) (hd : s ∣ buf.length) :
    recordsOf s buf = [] ↔ buf = [] := by
  constructor
  · intro h
    have := bytesOf_recordsOf buf hd
    rw [h] at this
    exact this.symm
  · intro h; subst h; simp [recordsOf, chunk]

theorem recordsOf_cons {E : Nat} (hE : 0 < E) (l : Buf) (h : E ≤ l.length) :
    recordsOf E l = l.take E :: recordsOf E (l.drop E) := by
  unfold recordsOf
  rw [Nat.div_eq_sub_div hE h, length_drop]
  rfl

-- nothing in the development uses this lemma
theorem recordsOf_short {E : Nat} (hE : 0 < E) (l : Buf) (h : l.length < E) : recordsOf E l = [] := by
  unfold recordsOf
  rw [Nat.div_eq_of_lt h]; rfl

end KV.Sort
