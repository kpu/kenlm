import Model.IO
import Proofs.Basics
/-! The retry loops of `Model/IO.lean` as instances of one transfer loop `xfer`, and what holds of every run of it.  `e0` is the value
`errno` has when a call is made: 0 at the top of an iteration, `EINTR` after an interrupted call of the same iteration. -/
namespace KV.IO

/-- an answer that lets the loop go on: EINTR or a positive transfer -/
def Ans.benign : Ans → Prop
  | .ok n => 0 < n
  | .eintr => True
  | _ => False

instance : DecidablePred Ans.benign := fun a => by
  cases a <;> simp only [Ans.benign] <;> infer_instance

/-- The transfer loop of which `readOrThrow`, `readOrEOF`, `writeOrThrow`, `ersatzPRead` and `ersatzPWrite` of `Model/IO.lean` are
instances (`*_eq` below): call until `amount` bytes are moved.  `zero e0` = what a zero return means when `errno` is `e0`,
`posn` = whether the offset advances.  The sixth primitive, `partialRead`, returns after its first successful call and is not an
instance. -/
def xfer (zero : Nat → Res) (posn : Bool) (orc : Oracle) :
    (fuel i : Nat) → (src : Bytes) → (amount off e0 : Nat) → Out
  | _, i, src, 0, _, _ => ⟨.ok, i, [], src, []⟩
  | 0, i, src, _+1, _, _ => ⟨.fuel, i, [], src, []⟩
  | fuel+1, i, src, a+1, off, e0 =>
    let amount := a + 1
    let c : Call := { req := amount, off := off }
    match (orc i).ret amount src.length with
    | .eintr => (xfer zero posn orc fuel (i+1) src amount off kEINTR).cons c []
    | .err e => ⟨.errno e, i+1, [], src, [c]⟩
    | .count 0 => ⟨zero e0, i+1, [], src, [c]⟩
    | .count (r+1) =>
      (xfer zero posn orc fuel (i+1) (src.drop (r+1)) (amount - (r+1))
        (if posn then off + (r+1) else off) 0).cons c (src.take (r+1))

theorem eintrCount_succ_le (orc : Oracle) (i n : Nat) :
    eintrCount orc (i+1) n ≤ eintrCount orc i (n+1) := by
  simp only [eintrCount]; omega

theorem eintrCount_eintr (orc : Oracle) (i n : Nat) (h : orc i = .eintr) :
    eintrCount orc i (n+1) = 1 + eintrCount orc (i+1) n := by
  simp [eintrCount, h]

theorem eintr_budget {orc : Oracle} {i B : Nat} (hi : orc i = .eintr) (hB : ∀ n, eintrCount orc i n ≤ B) :
    1 ≤ B ∧ ∀ n, eintrCount orc (i+1) n ≤ B - 1 := by
  have h := fun n => eintrCount_eintr orc i n hi ▸ hB (n + 1)
  exact ⟨Nat.le_trans (Nat.le_add_right 1 _) (h 0), fun n => Nat.le_sub_of_add_le (Nat.add_comm _ 1 ▸ h n)⟩

@[simp] theorem cons_res (c : Call) (p : Bytes) (o : Out) : (o.cons c p).res = o.res := rfl
@[simp] theorem cons_next (c : Call) (p : Bytes) (o : Out) : (o.cons c p).next = o.next := rfl
@[simp] theorem cons_moved (c : Call) (p : Bytes) (o : Out) : (o.cons c p).moved = p ++ o.moved := rfl
@[simp] theorem cons_rest (c : Call) (p : Bytes) (o : Out) : (o.cons c p).rest = o.rest := rfl
@[simp] theorem cons_log (c : Call) (p : Bytes) (o : Out) : (o.cons c p).log = c :: o.log := rfl

theorem ret_count_le {a : Ans} {req avail r : Nat} (h : a.ret req avail = .count r) :
    r ≤ req ∧ r ≤ avail := by
  cases a with
  | ok n =>
    obtain rfl : min n (min req avail) = r := Ret.count.inj h
    exact ⟨Nat.le_trans (Nat.min_le_right ..) (Nat.min_le_left ..), Nat.le_trans (Nat.min_le_right ..) (Nat.min_le_right ..)⟩
  | eof => obtain rfl : 0 = r := Ret.count.inj h; exact ⟨Nat.zero_le _, Nat.zero_le _⟩
  | eintr | err e => cases h

theorem ret_count_pos {a : Ans} {req avail r : Nat} (h : a.ret req avail = .count (r+1)) :
    a.benign := by
  cases a with
  | ok n => exact Nat.lt_of_lt_of_le (Nat.succ_pos r) (Nat.le_trans (Nat.le_of_eq (Ret.count.inj h).symm) (Nat.min_le_left ..))
  | eintr => trivial
  | err e | eof => cases h

theorem ret_eintr {a : Ans} {req avail : Nat} (h : a.ret req avail = .eintr) : a = .eintr := by
  cases a <;> simp [Ans.ret] at h ⊢

theorem ret_err {a : Ans} {req avail e : Nat} (h : a.ret req avail = .err e) : a = .err e := by
  cases a <;> simp [Ans.ret] at h ⊢; exact h

theorem ret_zero_not_benign {a : Ans} {req avail : Nat} (hr : 0 < req) (ha : 0 < avail)
    (h : a.ret req avail = .count 0) : ¬ a.benign := by
  cases a <;> simp [Ans.ret, Ans.benign] at h ⊢; omega

/- The lemmas about `xfer` go by its functional induction.  Its cases: 1 nothing left to transfer, 2 out of fuel,
3 EINTR (retry), 4 `err e`, 5 a zero return, 6 a partial transfer of `r+1` bytes (continue with the tail).  A case names, with
`rename_i`, the last hypotheses it uses: `hr` says what the call returned, `ih` is the statement for the rest of the run. -/

-- The three lemmas of this section are stated for their own sake: nothing in the development uses them.
section
variable (zero : Nat → Res) (posn : Bool) (orc : Oracle)

theorem xfer_next_ge : ∀ fuel i src amount off e0,
    i ≤ (xfer zero posn orc fuel i src amount off e0).next := by
  intro fuel i src amount off e0
  fun_induction xfer zero posn orc fuel i src amount off e0 with
  | case1 | case2 => exact Nat.le_refl _
  | case4 | case5 => exact Nat.le_succ _
  | case3 | case6 => rename_i ih; exact Nat.le_of_succ_le ih

theorem xfer_errno : ∀ fuel i src amount off e0 e,
    (xfer zero posn orc fuel i src amount off e0).res = .errno e →
    orc ((xfer zero posn orc fuel i src amount off e0).next - 1) = .err e ∨
      (∃ e1, (e1 = e0 ∨ e1 = kEINTR ∨ e1 = 0) ∧ zero e1 = .errno e) := by
  intro fuel i src amount off e0 e he
  fun_induction xfer zero posn orc fuel i src amount off e0 with
  | case1 | case2 => simp at he
  | case4 =>
    rename_i hr
    simp only [Res.errno.injEq] at he
    exact .inl (by simp [ret_err hr, he])
  | case5 => exact .inr ⟨_, .inl rfl, he⟩
  -- in the recursive cases the errno state was reset to EINTR resp. 0, which are among the allowed `e1`
  | case3 | case6 =>
    rename_i ih
    rcases ih he with h | ⟨e1, he1, hz⟩
    · exact .inl h
    · exact .inr ⟨e1, by rcases he1 with rfl | rfl | rfl <;> simp, hz⟩

theorem xfer_log_req : ∀ fuel i src amount off e0,
    ∀ c ∈ (xfer zero posn orc fuel i src amount off e0).log, 0 < c.req ∧ c.req ≤ amount := by
  intro fuel i src amount off e0 c hc
  fun_induction xfer zero posn orc fuel i src amount off e0 with
  | case1 | case2 => simp at hc
  | case4 | case5 => obtain rfl := List.mem_singleton.mp hc; exact ⟨Nat.succ_pos _, Nat.le_refl _⟩
  | case3 =>
    rename_i ih
    rcases List.mem_cons.mp hc with rfl | hc
    · exact ⟨Nat.succ_pos _, Nat.le_refl _⟩
    · exact ih hc
  | case6 =>
    rename_i ih
    rcases List.mem_cons.mp hc with rfl | hc
    · exact ⟨Nat.succ_pos _, Nat.le_refl _⟩
    · exact ⟨(ih hc).1, Nat.le_trans (ih hc).2 (Nat.sub_le _ _)⟩

end

theorem take_len_rest {a : Ans} {src : Bytes} {amount r : Nat} (h : a.ret amount src.length = .count r) :
    (src.take r).length + (amount - r) = amount := by
  rw [List.length_take, Nat.min_eq_left (ret_count_le h).2]
  exact Nat.add_sub_cancel' (ret_count_le h).1

section
variable {zero : Nat → Res} {posn : Bool} {orc : Oracle} {fuel i : Nat} {src : Bytes} {amount off e0 : Nat}

theorem xfer_split :
    (xfer zero posn orc fuel i src amount off e0).moved ++ (xfer zero posn orc fuel i src amount off e0).rest = src := by
  fun_induction xfer zero posn orc fuel i src amount off e0 <;> simp_all

theorem xfer_moved_len :
    (xfer zero posn orc fuel i src amount off e0).moved.length ≤ amount := by
  fun_induction xfer zero posn orc fuel i src amount off e0 with
  | case3 => rename_i ih; exact ih
  | case6 =>
    rename_i hr ih
    rw [cons_moved, List.length_append]
    exact Nat.le_trans (Nat.add_le_add_left ih _) (Nat.le_of_eq (take_len_rest hr))
  | _ => simp

theorem xfer_ok_len (hz : ∀ e, zero e ≠ .ok)
    (hok : (xfer zero posn orc fuel i src amount off e0).res = .ok) :
    (xfer zero posn orc fuel i src amount off e0).moved.length = amount := by
  fun_induction xfer zero posn orc fuel i src amount off e0 with
  | case3 => rename_i ih; exact ih hok
  | case5 => exact absurd hok (hz _)
  | case6 => rename_i hr ih; rw [cons_moved, List.length_append, ih hok, take_len_rest hr]
  | _ => simp_all

theorem xfer_ok_moved (hz : ∀ e, zero e ≠ .ok) (hok : (xfer zero posn orc fuel i src amount off e0).res = .ok) :
    (xfer zero posn orc fuel i src amount off e0).moved = src.take amount :=
  take_of_split xfer_split (xfer_ok_len hz hok)

theorem xfer_ok_le_src (hz : ∀ e, zero e ≠ .ok) (hok : (xfer zero posn orc fuel i src amount off e0).res = .ok) :
    amount + (xfer zero posn orc fuel i src amount off e0).rest.length = src.length := by
  have h := congrArg List.length (@xfer_split zero posn orc fuel i src amount off e0)
  rwa [List.length_append, xfer_ok_len hz hok] at h

theorem xfer_ok_rest (hz : ∀ e, zero e ≠ .ok) (hok : (xfer zero posn orc fuel i src amount off e0).res = .ok)
    (hl : amount = src.length) : (xfer zero posn orc fuel i src amount off e0).rest = [] :=
  List.eq_nil_of_length_eq_zero (Nat.add_left_cancel ((xfer_ok_le_src hz hok).trans (hl.symm.trans (Nat.add_zero _).symm)))

/-- every answer the run consumed before its last one let the loop go on; so did the last one when the run succeeded and a zero
return is no success -/
theorem xfer_benign_before (j : Nat) (hij : i ≤ j) (hj : j < (xfer zero posn orc fuel i src amount off e0).next)
    (h : j + 1 < (xfer zero posn orc fuel i src amount off e0).next ∨
      ((∀ e, zero e ≠ .ok) ∧ (xfer zero posn orc fuel i src amount off e0).res = .ok)) : (orc j).benign := by
  fun_induction xfer zero posn orc fuel i src amount off e0 with
  | case1 | case2 => exact absurd hj (Nat.not_lt.mpr hij)
  | case4 =>
    obtain rfl := Nat.le_antisymm hij (Nat.le_of_lt_succ hj)
    exact h.elim (fun h => absurd h (Nat.lt_irrefl _)) (fun h => nomatch h.2)
  | case5 =>
    obtain rfl := Nat.le_antisymm hij (Nat.le_of_lt_succ hj)
    exact h.elim (fun h => absurd h (Nat.lt_irrefl _)) (fun h => absurd h.2 (h.1 _))
  | case3 =>
    rename_i hr ih
    rcases Nat.eq_or_lt_of_le hij with rfl | hlt
    · rw [ret_eintr hr]; trivial
    · exact ih hlt hj h
  | case6 =>
    rename_i hr ih
    rcases Nat.eq_or_lt_of_le hij with rfl | hlt
    · exact ret_count_pos hr
    · exact ih hlt hj h

theorem xfer_ok_benign (hz : ∀ e, zero e ≠ .ok)
    (hok : (xfer zero posn orc fuel i src amount off e0).res = .ok) (j : Nat) (hij : i ≤ j)
    (hj : j < (xfer zero posn orc fuel i src amount off e0).next) : (orc j).benign :=
  xfer_benign_before j hij hj (.inr ⟨hz, hok⟩)

theorem xfer_prefix_benign (j : Nat) (hij : i ≤ j)
    (hj : j + 1 < (xfer zero posn orc fuel i src amount off e0).next) : (orc j).benign :=
  xfer_benign_before j hij (Nat.lt_of_succ_lt hj) (.inl hj)

/-- a failure (not `ok`, not out of fuel) is caused by the last consumed answer, which is not benign
(given that a zero return is only possible from a non-benign answer: `amount ≤ src.length`) -/
theorem xfer_fail_cause (hl : amount ≤ src.length)
    (h1 : (xfer zero posn orc fuel i src amount off e0).res ≠ .ok)
    (h2 : (xfer zero posn orc fuel i src amount off e0).res ≠ .fuel) :
    i < (xfer zero posn orc fuel i src amount off e0).next ∧
      ¬ (orc ((xfer zero posn orc fuel i src amount off e0).next - 1)).benign := by
  fun_induction xfer zero posn orc fuel i src amount off e0 with
  | case1 => exact absurd rfl h1
  | case2 => exact absurd rfl h2
  | case3 =>
    rename_i ih
    have := ih hl h1 h2
    exact ⟨Nat.lt_of_succ_lt this.1, this.2⟩
  | case4 =>
    rename_i hr
    refine ⟨Nat.lt_succ_self _, ?_⟩
    show ¬ (orc (_ + 1 - 1)).benign
    rw [Nat.add_sub_cancel, ret_err hr]; exact id
  | case5 =>
    rename_i hr
    refine ⟨Nat.lt_succ_self _, ?_⟩
    show ¬ (orc (_ + 1 - 1)).benign
    rw [Nat.add_sub_cancel]
    exact ret_zero_not_benign (Nat.succ_pos _) (Nat.lt_of_lt_of_le (Nat.succ_pos _) hl) hr
  | case6 =>
    rename_i ih
    have := ih (drop_covers hl _) h1 h2
    exact ⟨Nat.lt_of_succ_lt this.1, this.2⟩

theorem xfer_eof
    (he : (xfer zero posn orc fuel i src amount off e0).res = .eofErr) :
    (∃ e1, zero e1 = .eofErr) ∧ ∃ req avail, 0 < req ∧
      (orc ((xfer zero posn orc fuel i src amount off e0).next - 1)).ret req avail = .count 0 := by
  fun_induction xfer zero posn orc fuel i src amount off e0 with
  | case3 | case6 => rename_i ih; exact ih he
  | case5 => rename_i hr; exact ⟨⟨_, he⟩, _, _, Nat.succ_pos _, by simpa using hr⟩
  | _ => simp at he

/-- the measure: every call uses up one of the `B` interruptions still to come or moves at least one of the `amount` bytes -/
theorem xfer_terminates (hz : ∀ e, zero e ≠ .fuel) (B : Nat)
    (hB : ∀ n, eintrCount orc i n ≤ B) (hf : amount + B ≤ fuel) :
    (xfer zero posn orc fuel i src amount off e0).res ≠ .fuel := by
  fun_induction xfer zero posn orc fuel i src amount off e0 generalizing B with
  | case1 | case4 => exact Res.noConfusion
  | case2 => exact absurd (Nat.le_trans (Nat.le_add_right _ B) hf) (Nat.not_succ_le_zero _)
  | case3 =>
    rename_i hr ih
    obtain ⟨h1, hB'⟩ := eintr_budget (ret_eintr hr) hB
    exact ih (B - 1) hB' (Nat.le_of_succ_le_succ (by rw [Nat.succ_eq_add_one, Nat.add_assoc, Nat.sub_add_cancel h1]; exact hf))
  | case5 => exact hz _
  | case6 =>
    rename_i ih
    exact ih B (fun n => Nat.le_trans (eintrCount_succ_le orc _ n) (hB (n + 1))) (by omega)

theorem xfer_fuel_mono
    (h : (xfer zero posn orc fuel i src amount off e0).res ≠ .fuel) :
    xfer zero posn orc (fuel+1) i src amount off e0 = xfer zero posn orc fuel i src amount off e0 := by
  fun_induction xfer zero posn orc fuel i src amount off e0 with
  | case1 => simp [xfer]
  | case2 => simp at h
  | case3 | case6 => rename_i hr ih; rw [xfer, hr]; simp only; rw [ih (by simpa using h)]
  | case4 | case5 => rename_i hr; rw [xfer, hr]

theorem xfer_fuel_add (h : (xfer zero posn orc fuel i src amount off e0).res ≠ .fuel) (k : Nat) :
    xfer zero posn orc (fuel + k) i src amount off e0 = xfer zero posn orc fuel i src amount off e0 := by
  induction k with
  | zero => rfl
  | succ k ih => rw [← Nat.add_assoc, xfer_fuel_mono (ih ▸ h), ih]

theorem xfer_err_throws (j e) (hij : i ≤ j)
    (hj : j < (xfer zero posn orc fuel i src amount off e0).next) (hje : orc j = .err e) :
    (xfer zero posn orc fuel i src amount off e0).res = .errno e := by
  have here : ∀ {req avail r}, (orc j).ret req avail = r → r = .err e := fun hr => by rw [← hr, hje]; rfl
  fun_induction xfer zero posn orc fuel i src amount off e0 with
  | case1 | case2 => exact absurd hj (Nat.not_lt.mpr hij)
  | case3 =>
    rename_i hr ih
    rcases Nat.eq_or_lt_of_le hij with rfl | hlt
    · cases here hr
    · exact ih hlt hj
  | case4 =>
    rename_i hr
    obtain rfl := Nat.le_antisymm hij (Nat.le_of_lt_succ hj)
    cases here hr; rfl
  | case5 =>
    rename_i hr
    obtain rfl := Nat.le_antisymm hij (Nat.le_of_lt_succ hj)
    cases here hr
  | case6 =>
    rename_i hr ih
    rcases Nat.eq_or_lt_of_le hij with rfl | hlt
    · cases here hr
    · exact ih hlt hj

/-- under an OS that only interrupts and splits (never fails, never lies about EOF) and with enough source bytes,
the loop can only succeed (or run out of fuel), and success moves exactly `amount` bytes (also when a zero return
would have been a success, as in ReadOrEOF) -/
theorem xfer_benign (hb : ∀ j, i ≤ j → (orc j).benign) (hl : amount ≤ src.length) :
    ((xfer zero posn orc fuel i src amount off e0).res = .ok ∧
      (xfer zero posn orc fuel i src amount off e0).moved.length = amount) ∨
    (xfer zero posn orc fuel i src amount off e0).res = .fuel := by
  fun_induction xfer zero posn orc fuel i src amount off e0 with
  | case1 => exact .inl ⟨rfl, rfl⟩
  | case2 => exact .inr rfl
  | case3 => rename_i ih; exact ih (fun j hj => hb j (Nat.le_of_succ_le hj)) hl
  | case4 => rename_i hr; exact absurd (hb _ (Nat.le_refl _)) (by rw [ret_err hr]; exact id)
  | case5 =>
    rename_i hr
    exact absurd (hb _ (Nat.le_refl _))
      (ret_zero_not_benign (Nat.succ_pos _) (Nat.lt_of_lt_of_le (Nat.succ_pos _) hl) hr)
  | case6 =>
    rename_i hr ih
    refine (ih (fun j hj => hb j (Nat.le_of_succ_le hj)) (drop_covers hl _)).imp (fun ⟨hok, hlen⟩ => ⟨hok, ?_⟩) id
    rw [cons_moved, List.length_append, hlen, take_len_rest hr]

end

theorem xfer_offsets {zero : Nat → Res} {orc : Oracle} {fuel i : Nat} {src : Bytes} {amount off e0 : Nat} (c : Call)
    (hc : c ∈ (xfer zero true orc fuel i src amount off e0).log) : c.off + c.req = off + amount := by
  fun_induction xfer zero true orc fuel i src amount off e0 with
  | case1 | case2 => simp at hc
  | case4 | case5 => obtain rfl := List.mem_singleton.mp hc; rfl
  | case3 =>
    rename_i ih
    rcases List.mem_cons.mp hc with rfl | hc
    · rfl
    · exact ih hc
  | case6 =>
    rename_i hr ih
    rcases List.mem_cons.mp hc with rfl | hc
    · rfl
    · exact (ih hc).trans (by rw [if_pos rfl, Nat.add_assoc, Nat.add_sub_cancel' (ret_count_le hr).1])

theorem xfer_e0_irrel (zero : Nat → Res) (posn orc) (hz : ∀ e e', zero e = zero e') (fuel i src amount off e0 e0') :
    xfer zero posn orc fuel i src amount off e0 = xfer zero posn orc fuel i src amount off e0' := by
  cases fuel <;> cases amount <;> simp only [xfer, hz e0 e0']

theorem ersatzPRead_eq (orc) : ∀ fuel i src size off,
    ersatzPRead orc fuel i src size off = xfer (fun _ => .eofErr) true orc fuel i src size off 0 := by
  intro fuel i src size off
  fun_induction ersatzPRead orc fuel i src size off with
  | case1 | case2 => rw [xfer]
  | case3 => rename_i hr ih; rw [xfer, hr, ih, xfer_e0_irrel _ _ _ (fun _ _ => rfl) _ _ _ _ _ kEINTR 0]
  | case4 | case5 => rename_i hr; rw [xfer, hr]
  | case6 => rename_i hr ih; rw [xfer, hr, ih]; rfl

theorem readOrThrow_eq (orc) : ∀ fuel i src amount,
    readOrThrow orc fuel i src amount = xfer (fun _ => .eofErr) false orc fuel i src amount 0 0 := by
  intro fuel i src amount
  fun_induction readOrThrow orc fuel i src amount with
  | case1 | case2 => rw [xfer]
  | case3 => rename_i hr ih; rw [xfer, hr, ih, xfer_e0_irrel _ _ _ (fun _ _ => rfl) _ _ _ _ _ kEINTR 0]
  | case4 | case5 => rename_i hr; rw [xfer, hr]
  | case6 => rename_i hr ih; rw [xfer, hr, ih]; rfl

theorem readOrEOF_eq (orc) : ∀ fuel i src amount,
    readOrEOF orc fuel i src amount = xfer (fun _ => .ok) false orc fuel i src amount 0 0 := by
  intro fuel i src amount
  fun_induction readOrEOF orc fuel i src amount with
  | case1 | case2 => rw [xfer]
  | case3 => rename_i hr ih; rw [xfer, hr, ih, xfer_e0_irrel _ _ _ (fun _ _ => rfl) _ _ _ _ _ kEINTR 0]
  | case4 | case5 => rename_i hr; rw [xfer, hr]
  | case6 => rename_i hr ih; rw [xfer, hr, ih]; rfl

theorem ersatzPWrite_eq (orc) : ∀ fuel i data off,
    ersatzPWrite orc fuel i data off = xfer (fun _ => .eofErr) true orc fuel i data data.length off 0 := by
  intro fuel
  induction fuel with
  | zero => intro i data off; cases data <;> simp [xfer, ersatzPWrite]
  | succ f ih =>
    intro i data off
    cases data with
    | nil => simp [xfer, ersatzPWrite]
    | cons d ds =>
      simp only [xfer, ersatzPWrite, List.length_cons, if_true, ih, List.length_drop]
      rw [xfer_e0_irrel _ _ _ (fun _ _ => rfl) f (i+1) (d :: ds) (ds.length+1) off kEINTR 0]
      rfl

theorem writeOrThrow_eq (orc) : ∀ fuel i data e0,
    writeOrThrow orc fuel i data e0 = xfer (fun e => .errno e) false orc fuel i data data.length 0 e0 := by
  intro fuel
  induction fuel with
  | zero => intro i data e0; cases data <;> simp [xfer, writeOrThrow]
  | succ f ih =>
    intro i data e0
    cases data with
    | nil => simp [xfer, writeOrThrow]
    | cons d ds =>
      simp only [xfer, writeOrThrow, ih, List.length_cons, List.length_drop]
      rfl

theorem writeOrThrow_split (orc : Oracle) (fuel i : Nat) (data : Bytes) (e0 : Nat) :
    (writeOrThrow orc fuel i data e0).moved ++ (writeOrThrow orc fuel i data e0).rest = data := by
  rw [writeOrThrow_eq]; exact xfer_split

theorem writeOrThrow_ok_rest (orc : Oracle) (fuel i : Nat) (data : Bytes) (e0 : Nat)
    (h : (writeOrThrow orc fuel i data e0).res = .ok) : (writeOrThrow orc fuel i data e0).rest = [] := by
  rw [writeOrThrow_eq] at h ⊢
  exact xfer_ok_rest (fun _ => nofun) h rfl

def insertAt (orc : Oracle) (k : Nat) (a : Ans) : Oracle :=
  fun j => if j < k then orc j else if j = k then a else orc (j - 1)

theorem insertAt_lt {orc : Oracle} {k j : Nat} {a : Ans} (h : j < k) : insertAt orc k a j = orc j := if_pos h

theorem insertAt_self {orc : Oracle} {k : Nat} {a : Ans} : insertAt orc k a k = a := by
  rw [insertAt, if_neg (Nat.lt_irrefl k), if_pos rfl]

theorem insertAt_succ {orc : Oracle} {k j : Nat} {a : Ans} (h : k ≤ j) : insertAt orc k a (j + 1) = orc j := by
  rw [insertAt, if_neg (Nat.not_lt.mpr (Nat.le_succ_of_le h)), if_neg (Nat.ne_of_gt (Nat.lt_succ_of_le h)),
    Nat.add_sub_cancel]

theorem xfer_shift (zero : Nat → Res) (posn : Bool) (orc orc' : Oracle) (fuel i src amount off e0)
    (h : ∀ j, i ≤ j → orc' (j + 1) = orc j) :
    xfer zero posn orc' fuel (i + 1) src amount off e0 =
      { xfer zero posn orc fuel i src amount off e0 with
        next := (xfer zero posn orc fuel i src amount off e0).next + 1 } := by
  fun_induction xfer zero posn orc fuel i src amount off e0 with
  | case1 | case2 => rw [xfer]
  | case3 | case6 =>
    rename_i hr ih
    rw [xfer, h _ (Nat.le_refl _), hr]
    dsimp only
    rw [ih fun j hj => h j (Nat.le_of_succ_le hj)]; rfl
  | case4 | case5 => rename_i hr; rw [xfer, h _ (Nat.le_refl _), hr]

/-- `o'` transfers what `o` transfers, and with the same result, except that a zero return on which `o` ends
may be one `o'` sees right after an EINTR -/
def SameTransfer (zero : Nat → Res) (o' o : Out) : Prop :=
  o'.moved = o.moved ∧ o'.rest = o.rest ∧ (o'.res = o.res ∨ ∃ e, o.res = zero e ∧ o'.res = zero kEINTR)

theorem SameTransfer.refl (zero : Nat → Res) (o : Out) : SameTransfer zero o o := ⟨rfl, rfl, .inl rfl⟩

theorem SameTransfer.cons {zero : Nat → Res} {o' o : Out} (h : SameTransfer zero o' o) (c : Call) (p : Bytes) :
    SameTransfer zero (o'.cons c p) (o.cons c p) :=
  ⟨congrArg (p ++ ·) h.1, h.2.1, h.2.2⟩

/-- the errno state `e0` matters only through a zero return of the very next call -/
theorem xfer_e0_first (zero : Nat → Res) (posn : Bool) (orc : Oracle) (fuel i : Nat) (src : Bytes)
    (amount off e0 : Nat) :
    SameTransfer zero (xfer zero posn orc fuel i src amount off kEINTR) (xfer zero posn orc fuel i src amount off e0) := by
  cases fuel <;> cases amount <;> try exact .refl _ _
  rw [xfer, xfer]
  split
  · exact .refl _ _
  · exact .refl _ _
  · exact ⟨rfl, rfl, .inr ⟨e0, rfl, rfl⟩⟩
  · exact .refl _ _

/-- an EINTR answer inserted before the call at hand: it is consumed now, and the rest is the original run one call later -/
theorem xfer_insert_here (zero : Nat → Res) (posn : Bool) (orc : Oracle) (fuel i src amount off e0) :
    SameTransfer zero (xfer zero posn (insertAt orc i .eintr) (fuel + 1) i src amount off e0)
      (xfer zero posn orc fuel i src amount off e0) := by
  cases amount with
  | zero => rw [xfer, xfer]; exact .refl _ _
  | succ a =>
    rw [xfer, insertAt_self, xfer_shift zero posn orc _ fuel i src (a + 1) off kEINTR fun j hj => insertAt_succ hj]
    exact xfer_e0_first zero posn orc fuel i src (a + 1) off e0

theorem xfer_insert_later (zero : Nat → Res) (posn : Bool) (orc : Oracle) (k : Nat) (fuel i src amount off e0)
    (hik : i < k) (hf : (xfer zero posn orc fuel i src amount off e0).res ≠ .fuel) :
    SameTransfer zero (xfer zero posn (insertAt orc k .eintr) (fuel + 1) i src amount off e0)
      (xfer zero posn orc fuel i src amount off e0) := by
  fun_induction xfer zero posn orc fuel i src amount off e0 with
  | case1 => rw [xfer]; exact .refl _ _
  | case2 => exact absurd rfl hf
  | case3 | case6 =>
    rename_i hr ih
    rw [xfer, insertAt_lt hik, hr]
    dsimp only
    refine SameTransfer.cons ?_ _ _
    rcases Nat.eq_or_lt_of_le hik with rfl | hlt
    · exact xfer_insert_here zero posn orc _ _ _ _ _ _
    · exact ih hlt hf
  | case4 | case5 => rename_i hr; rw [xfer, insertAt_lt hik, hr]; exact .refl _ _

/-- **EINTR insertion**: inserting one EINTR answer before any call `k ≥ i` (and granting one more
unit of fuel) changes neither the bytes moved nor the bytes left, and changes the result only in
the one case the real code exhibits: when the call right after the inserted EINTR returns 0, the
exception carries `zero EINTR` instead of `zero e` (for `WriteOrThrow`: errno 4 instead of the
errno state `e`; for the other loops `zero` is constant and nothing changes). -/
theorem xfer_insert_eintr (zero : Nat → Res) (posn : Bool) (orc : Oracle) (k : Nat) (fuel i src amount off e0) (hik : i ≤ k)
    (hf : (xfer zero posn orc fuel i src amount off e0).res ≠ .fuel) :
    SameTransfer zero (xfer zero posn (insertAt orc k .eintr) (fuel + 1) i src amount off e0)
      (xfer zero posn orc fuel i src amount off e0) := by
  rcases Nat.eq_or_lt_of_le hik with rfl | hlt
  · exact xfer_insert_here zero posn orc fuel i src amount off e0
  · exact xfer_insert_later zero posn orc k fuel i src amount off e0 hlt hf

end KV.IO
