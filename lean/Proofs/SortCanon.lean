import Proofs.SortExt
import Proofs.Basics
/-! C16: with a key-total order and an adding combiner the combined output is canonical
(one record per key, carrying the key's total), hence independent of blocks / plan / ties. -/
namespace KV.Sort
open List

variable {α κ : Type}

/-- the order tells records apart exactly by `key`, `key` and `val` determine a record, and `comb` merges exactly the
records with equal keys, adding their values (`CombineCounts` under Suffix/Prefix/ContextOrder) -/
structure Counting (lt : α → α → Bool) (key : α → κ) (val : α → Nat) (comb : α → α → Option α) : Prop where
  sw : StrictWeak lt
  keyEq : ∀ a b, (lt a b = false ∧ lt b a = false) ↔ key a = key b
  inj : ∀ a b, key a = key b → val a = val b → a = b
  add : ∀ a b c, comb a b = some c → key a = key b ∧ key c = key a ∧ val c = val a + val b
  complete : ∀ a b, key a = key b → (comb a b).isSome = true

variable {lt : α → α → Bool} {key : α → κ} {val : α → Nat} {comb : α → α → Option α}

theorem Counting.keeps (C : Counting lt key val comb) : CombKeeps lt comb := by
  intro a b c h
  have := (C.add a b c h).2.1
  exact (C.keyEq a c).mpr this.symm

theorem Counting.combComplete (C : Counting lt key val comb) : CombComplete lt comb :=
  fun a b h1 h2 => C.complete a b ((C.keyEq a b).mp ⟨h1, h2⟩)

def tot [DecidableEq κ] (key : α → κ) (val : α → Nat) (k : κ) (l : List α) : Nat :=
  (l.map (fun a => if key a = k then val a else 0)).sum

def SameKeys (key : α → κ) (l₁ l₂ : List α) : Prop :=
  (∀ x ∈ l₁, ∃ z ∈ l₂, key z = key x) ∧ (∀ z ∈ l₂, ∃ x ∈ l₁, key x = key z)

theorem sameKeys_iff {l₁ l₂ : List α} : SameKeys key l₁ l₂ ↔ ∀ k, k ∈ l₁.map key ↔ k ∈ l₂.map key := by
  simp only [SameKeys, mem_map]
  constructor
  · rintro ⟨h1, h2⟩ k
    exact ⟨fun ⟨x, hx, e⟩ => e ▸ h1 x hx, fun ⟨z, hz, e⟩ => e ▸ h2 z hz⟩
  · intro h
    exact ⟨fun x hx => (h _).mp ⟨x, hx, rfl⟩, fun z hz => (h _).mpr ⟨z, hz, rfl⟩⟩

theorem SameKeys.trans {l₁ l₂ l₃ : List α} (h1 : SameKeys key l₁ l₂) (h2 : SameKeys key l₂ l₃) : SameKeys key l₁ l₃ :=
  sameKeys_iff.mpr fun k => (sameKeys_iff.mp h1 k).trans (sameKeys_iff.mp h2 k)

theorem SameKeys.symm {l₁ l₂ : List α} (h : SameKeys key l₁ l₂) : SameKeys key l₂ l₁ := ⟨h.2, h.1⟩

theorem SameKeys.of_perm {l₁ l₂ : List α} (h : l₁ ~ l₂) : SameKeys key l₁ l₂ :=
  sameKeys_iff.mpr fun _ => (h.map key).mem_iff

theorem SameKeys.append {a₁ a₂ b₁ b₂ : List α} (h1 : SameKeys key a₁ a₂) (h2 : SameKeys key b₁ b₂) :
    SameKeys key (a₁ ++ b₁) (a₂ ++ b₂) :=
  sameKeys_iff.mpr fun k => by
    simp only [map_append, mem_append, sameKeys_iff.mp h1 k, sameKeys_iff.mp h2 k]

theorem Combined.sameKeys (C : Counting lt key val comb) {l l' : List α} (h : Combined comb l l') :
    SameKeys key l l' := by
  induction h with
  | perm h => exact SameKeys.of_perm h.symm
  | @comb a b c h =>
    obtain ⟨k1, k2, _⟩ := C.add a b c h
    exact sameKeys_iff.mpr fun k => by simp only [map_cons, map_nil, mem_cons, k2, ← k1, or_self_left]
  | trans _ _ ih1 ih2 => exact ih1.trans ih2
  | append _ _ ih1 ih2 => exact ih1.append ih2

variable [DecidableEq κ]

theorem additive_of_add (hadd : ∀ a b c, comb a b = some c → key a = key b ∧ key c = key a ∧ val c = val a + val b)
    (k : κ) : ∀ a b c, comb a b = some c →
      (if key c = k then val c else 0) = (if key a = k then val a else 0) + (if key b = k then val b else 0) := by
  intro a b c h
  obtain ⟨k1, k2, k3⟩ := hadd a b c h
  rw [k2, ← k1, k3]
  by_cases hk : key a = k <;> simp [hk]

theorem combineCounts_add (a b c : Rec) (h : combineCounts a b = some c) :
    a.key = b.key ∧ c.key = a.key ∧ c.payload = a.payload + b.payload := by
  unfold combineCounts at h
  by_cases hab : a.key = b.key
  · rw [if_pos hab] at h; cases h; exact ⟨hab, rfl, rfl⟩
  · rw [if_neg hab] at h; cases h

theorem tot_zero (key : α → κ) (val : α → Nat) (k : κ) : ∀ (l : List α), (∀ z ∈ l, key z ≠ k) → tot key val k l = 0
  | [], _ => rfl
  | y :: ys, h => by
    have := tot_zero key val k ys (fun z hz => h z (by simp [hz]))
    simp only [tot, map_cons, sum_cons] at this ⊢
    simp [h y (by simp), this]

theorem tot_unique (key : α → κ) (val : α → Nat) : ∀ (l : List α), l.Pairwise (fun a b => key a ≠ key b) →
    ∀ x ∈ l, tot key val (key x) l = val x
  | [], _, x, hx => by simp at hx
  | y :: ys, hp, x, hx => by
    obtain ⟨hy, hys⟩ := pairwise_cons.mp hp
    simp only [mem_cons] at hx
    rcases hx with rfl | hx
    · have := tot_zero key val (key x) ys (fun z hz => (hy z hz).symm)
      simp only [tot, map_cons, sum_cons] at this ⊢
      simp [this]
    · have ih := tot_unique key val ys hys x hx
      simp only [tot, map_cons, sum_cons] at ih ⊢
      simp [hy x hx, ih]

/-- what "the combined result" means: strictly increasing, the same keys as the input, and each
key's total -/
structure Canon (lt : α → α → Bool) (key : α → κ) (val : α → Nat) (input out : List α) : Prop where
  strict : out.Pairwise (fun a b => lt a b = true)
  keys : SameKeys key input out
  totals : ∀ k, tot key val k out = tot key val k input

omit [DecidableEq κ] in
theorem strict_keys_ne (C : Counting lt key val comb) {l : List α} (h : l.Pairwise (fun a b => lt a b = true)) :
    l.Pairwise (fun a b => key a ≠ key b) :=
  h.imp (fun {a b} hab hk => by
    have := ((C.keyEq a b).mpr hk).1
    rw [hab] at this; cases this)

theorem tot_perm (key : α → κ) (val : α → Nat) (k : κ) {l₁ l₂ : List α} (h : l₁ ~ l₂) :
    tot key val k l₁ = tot key val k l₂ := (h.map _).sum_nat

theorem Canon.unique (C : Counting lt key val comb) {in₁ in₂ out₁ out₂ : List α}
    (h1 : Canon lt key val in₁ out₁) (h2 : Canon lt key val in₂ out₂) (hp : in₁ ~ in₂) : out₁ = out₂ := by
  -- same keys and, per key, the same total carried by the one record with that key: the same members
  have sub : ∀ {i₁ i₂ o₁ o₂ : List α}, Canon lt key val i₁ o₁ → Canon lt key val i₂ o₂ → i₁ ~ i₂ →
      ∀ x ∈ o₁, x ∈ o₂ := by
    intro i₁ i₂ o₁ o₂ c1 c2 hp x hx
    obtain ⟨y, hy, e1⟩ := c1.keys.2 x hx
    obtain ⟨z, hz, e2⟩ := c2.keys.1 y (hp.subset hy)
    have hkz : key z = key x := e2.trans e1
    have t1 := tot_unique key val o₁ (strict_keys_ne C c1.strict) x hx
    have t2 := tot_unique key val o₂ (strict_keys_ne C c2.strict) z hz
    rw [hkz, c2.totals, ← tot_perm key val (key x) hp, ← c1.totals, t1] at t2
    rw [C.inj x z hkz.symm t2]
    exact hz
  exact strict_sorted_ext (fun a b hab hba => by rw [C.sw.asymm a b hab] at hba; cases hba) h1.strict h2.strict
    fun a => ⟨sub h1 h2 hp a, sub h2 h1 hp.symm a⟩

theorem Canon.of_combined (C : Counting lt key val comb) {input out : List α}
    (hs : out.Pairwise (fun a b => lt a b = true)) (h : Combined comb input out) : Canon lt key val input out :=
  ⟨hs, h.sameKeys C, fun k => h.sum _ (additive_of_add C.add k)⟩

theorem sortSpec_canon (C : Counting lt key val comb) (blocks : List (List α))
    (hb : 2 ≤ (blocks.filter (fun b => !b.isEmpty)).length) :
    Canon lt key val blocks.flatten (sortSpec lt comb blocks) := by
  refine Canon.of_combined C ?_ (sortSpec_combined lt comb blocks)
  unfold sortSpec
  simp only
  rw [if_neg (Nat.not_le.mpr hb)]
  exact combineAdj_pairwise C.sw C.keeps (separated_lt C.sw C.combComplete) _ (blockSort_sorted C.sw _)

/-- with a `Counting` combiner the output of the plan is the canonical form of the input, provided the blocks are
duplicate-free or at least two of them are non-empty (so that something is merged at all) -/
theorem extSortOut_canon (C : Counting lt key val comb) (pick) (blocks : List (List α))
    (hb : (∀ b ∈ blocks, (b.map key).Nodup) ∨ 2 ≤ (blocks.filter (fun b => !b.isEmpty)).length) (plan) :
    Canon lt key val blocks.flatten (extSortOut lt comb pick blocks plan) := by
  have h0 : MergeInv lt (fun a b => lt a b = true) (initialRuns lt blocks) :=
    { sorted := initialRuns_sorted C.sw blocks
      strict := hb.symm.imp (fun hb => by rwa [initialRuns_eq, length_map, nonempties_eq_filter])
        (initialRuns_strict key C.sw (fun a b => (C.keyEq a b).mp) blocks) }
  exact Canon.of_combined C (extSortOut_pairwise C.sw C.keeps (separated_lt C.sw C.combComplete) blocks plan h0)
    (extSortOut_combined C.sw blocks plan)

/-- the counting combiner satisfies `Counting` under every order that tells records apart exactly by their key words -/
theorem counting_of_keyTotal {lt : Rec → Rec → Bool} (sw : StrictWeak lt)
    (hk : ∀ a b : Rec, (lt a b = false ∧ lt b a = false) ↔ a.key = b.key) :
    Counting lt Rec.key Rec.payload combineCounts where
  sw := sw
  keyEq := hk
  inj := fun a b h1 h2 => by cases a; cases b; simp_all
  add := combineCounts_add
  complete := fun a b h => by simp [combineCounts, h]

/-- `CombineCounts` under `SuffixOrder`, the pairing `lmplz` uses -/
theorem counting_suffixLt : Counting suffixLt Rec.key Rec.payload combineCounts :=
  counting_of_keyTotal (lexLt_strictWeak.comap _) fun a b =>
    ⟨fun ⟨h1, h2⟩ => List.reverse_inj.mp (lexLt_tri _ _ h1 h2), fun hk => by simp [suffixLt, hk, lexLt_irrefl]⟩

end KV.Sort
