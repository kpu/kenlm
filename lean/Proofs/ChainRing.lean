import Proofs.ChainUtil
/-! The ring invariant of the Chain model: stage input/output relation, queue
conservation, poison bookkeeping, user-thread bookkeeping; preserved by every step.  Core Lean only. -/
namespace KV.Chain

variable {i k : Nat} {s : Stage} {x : Item} {rest : List Item} {c' : Chain}

/-- the stage functions of the pass-through stages: any deterministic (possibly stateful) stream transducers,
given as functions of the history of received items and the current content.  A class, without a global instance, so
that every definition and lemma of the ring has them as one ambient parameter; a use supplies them by `letI`
(`defaultStageFn`, `Transducers.toStageFn`). -/
class StageFn where
  tr : Nat → List Item → Nat → Nat

variable [StageFn]

/-- `Chain.body` with the chain's constants as parameters: the model reads `m`, `data`, `tr` off the state, the ring
invariant and the C17 statements speak of them as given (`RInv.m_eq`, `data_eq`, `tr_eq` say they are the same) -/
def bodyP (m : Nat) (data : List Nat) (i : Nat) (hist : List Item) (v : Nat) : Option Nat :=
  if i = 0 then data[hist.length]? else if i = m then some v else some (StageFn.tr i hist v)

theorem Chain.body_eq {c : Chain} {m : Nat} {data : List Nat} (hm : c.m = m) (hd : c.data = data)
    (htr : c.tr = StageFn.tr) (i : Nat) (hist : List Item) (v : Nat) : c.body i hist v = bodyP m data i hist v := by
  unfold Chain.body bodyP; rw [hm, hd, htr]

/-- what stage `i` outputs for an input received after the history `hist` -/
def outOf (m : Nat) (data : List Nat) (i : Nat) (hist : List Item) : Item → Item
  | .val v => match bodyP m data i hist v with
    | some v' => .val v'
    | none => .poison
  | .poison => .poison

/-- the output sequence for the inputs `l` received after the history `pre` -/
def outFrom (m : Nat) (data : List Nat) (i : Nat) : List Item → List Item → List Item
  | _, [] => []
  | pre, x :: xs => outOf m data i pre x :: outFrom m data i (pre ++ [x]) xs

theorem outFrom_append (m : Nat) (data : List Nat) (i : Nat) (pre l1 l2 : List Item) :
    outFrom m data i pre (l1 ++ l2) = outFrom m data i pre l1 ++ outFrom m data i (pre ++ l1) l2 := by
  induction l1 generalizing pre with
  | nil => simp [outFrom]
  | cons a l ih =>
    simp only [List.cons_append, outFrom, ih]
    simp

theorem outFrom_length (m : Nat) (data : List Nat) (i : Nat) (pre l : List Item) :
    (outFrom m data i pre l).length = l.length := by
  induction l generalizing pre with
  | nil => rfl
  | cons a l ih => simp [outFrom, ih]

theorem outOf_ne_poison {m : Nat} {data : List Nat} (hi : i ≠ 0) (hist : List Item) (v : Nat) :
    outOf m data i hist (.val v) ≠ .poison := by
  unfold outOf bodyP
  simp only [hi, if_false]
  by_cases e : i = m <;> simp [e]

theorem outFrom_poison_mem {m : Nat} {data : List Nat} (hi : i ≠ 0) {pre : List Item} {l : List Item}
    (h : Item.poison ∈ outFrom m data i pre l) : Item.poison ∈ l := by
  induction l generalizing pre with
  | nil => simp [outFrom] at h
  | cons a l ih =>
    simp only [outFrom, List.mem_cons] at h
    rcases h with h | h
    · cases a with
      | val v => exact absurd h.symm (outOf_ne_poison hi pre v)
      | poison => simp
    · exact List.mem_cons_of_mem _ (ih h)

theorem outFrom_src_poison {m : Nat} {data : List Nat} {l : List Item} (hl : data.length < l.length) :
    Item.poison ∈ outFrom m data 0 [] l := by
  rw [← List.take_append_drop data.length l, outFrom_append]
  apply List.mem_append_right
  cases hd : l.drop data.length with
  | nil => have := congrArg List.length hd; simp at this; omega
  | cons x xs =>
    cases x with
    | val v => simp [outFrom, outOf, bodyP, Nat.min_eq_left (Nat.le_of_lt hl)]
    | poison => simp [outFrom, outOf]

/-- items waiting in the hand of a stage: what its next `Produce` will push -/
def pend (s : Stage) : List Item :=
  match s.pc with
  | .incProduce => [s.cur]
  | .incPoison => [s.cur]
  | .dtor => [s.cur]
  | .poisonCall => [.poison]
  | _ => []

def consuming (s : Stage) : Prop := s.pc = .init ∨ s.pc = .incConsume
def producing (s : Stage) : Prop :=
  s.pc = .incProduce ∨ s.pc = .incPoison ∨ s.pc = .poisonCall ∨ s.pc = .dtor

omit [StageFn] in
theorem pc_cases (s : Stage) : s.pc = .start ∨ consuming s ∨ producing s ∨ s.pc = .finished := by
  unfold consuming producing
  cases s.pc <;> simp

section
omit [StageFn]
variable (h : consuming s) (hp : producing s)
include h
theorem consuming.ne_start : s.pc ≠ .start := by rcases h with e | e <;> simp [e]
theorem consuming.ne_finished : s.pc ≠ .finished := by rcases h with e | e <;> simp [e]
theorem consuming.ne_incPoison : s.pc ≠ .incPoison := by rcases h with e | e <;> simp [e]
theorem consuming.ne_dtor : s.pc ≠ .dtor := by rcases h with e | e <;> simp [e]
theorem consuming.pend_nil : pend s = [] := by rcases h with e | e <;> simp [e, pend]
omit h
include hp
theorem producing.ne_start : s.pc ≠ .start := by rcases hp with e | e | e | e <;> simp [e]
theorem producing.ne_finished : s.pc ≠ .finished := by rcases hp with e | e | e | e <;> simp [e]
end

omit [StageFn] in
theorem pend_of_producing (h : producing s) : ∃ x, pend s = [x] := by
  rcases h with e | e | e | e <;> simp [pend, e]

omit [StageFn] in
theorem pend_nil_of_not_producing (h : ¬ producing s) : pend s = [] := by
  unfold producing at h
  unfold pend
  cases hpc : s.pc <;> simp [hpc] at h ⊢

/-- the state of stage `i` after it consumed `x`: `Link::Init`, or the second half of `operator++` -/
def Chain.afterConsume (c : Chain) (i : Nat) (s : Stage) (x : Item) : Stage :=
  match s.pc with
  | .init => c.loopTest i s.inp { s with poisoned := false, cur := x, inp := s.inp ++ [x] }
  | _ =>
    let s1 := { s with cur := x, inp := s.inp ++ [x] }
    match x with
    | .poison => { s1 with poisoned := true, pc := .incPoison }
    | .val _ => c.loopTest i s.inp s1

def afterProduce (s : Stage) : Stage :=
  match s.pc with
  | .incProduce => { s with pc := .incConsume, out := s.out ++ [s.cur] }
  | .incPoison => exitLoop { s with out := s.out ++ [s.cur] }
  | .poisonCall => exitLoop { s with cur := .poison, poisoned := true, out := s.out ++ [.poison] }
  | .dtor => { s with pc := .finished, out := s.out ++ [s.cur] }
  | _ => s

section stageStep
omit [StageFn]
variable {c : Chain}

theorem stageStep_start_fill (h : (c.st i).pc = .start) (e : c.main = .fill k) : c.stageStep i = none := by
  simp only [Chain.stageStep, h, e]

theorem stageStep_start (h : (c.st i).pc = .start) (hns : ∀ k, c.main ≠ .fill k) :
    c.stageStep i = some { c with st := upd c.st i { c.st i with pc := .init } } := by
  simp only [Chain.stageStep, h]

theorem stageStep_consuming (h : consuming (c.st i)) :
    c.stageStep i = match c.q i with
      | [] => none
      | x :: rest => some { c with q := upd c.q i rest, st := upd c.st i (c.afterConsume i (c.st i) x) } := by
  rcases h with e | e <;> cases hq : c.q i <;> simp only [Chain.stageStep, e, hq, fifoPop, Chain.afterConsume] <;> rfl

theorem stageStep_producing (h : producing (c.st i)) (hx : pend (c.st i) = [x]) :
    c.stageStep i =
      if (c.q (c.outQ i)).length < c.b then
        some { c with q := upd c.q (c.outQ i) (c.q (c.outQ i) ++ [x]), st := upd c.st i (afterProduce (c.st i)) }
      else none := by
  rcases h with e | e | e | e <;> simp only [pend, e, List.cons.injEq, and_true] at hx <;> subst hx <;>
    by_cases hl : (c.q (c.outQ i)).length < c.b <;>
    simp only [Chain.stageStep, e, fifoPush, hl, afterProduce, if_true, if_false]

theorem stageStep_finished (h : (c.st i).pc = .finished) : c.stageStep i = none := by
  simp only [Chain.stageStep, h]

theorem stageStep_cases (hs : c.stageStep i = some c') :
    ((c.st i).pc = .start ∧ (∀ k, c.main ≠ .fill k) ∧ c' = { c with st := upd c.st i { c.st i with pc := .init } })
    ∨ (consuming (c.st i) ∧ ∃ x rest, c.q i = x :: rest
        ∧ c' = { c with q := upd c.q i rest, st := upd c.st i (c.afterConsume i (c.st i) x) })
    ∨ (producing (c.st i) ∧ ∃ x, pend (c.st i) = [x] ∧ (c.q (c.outQ i)).length < c.b
        ∧ c' = { c with q := upd c.q (c.outQ i) (c.q (c.outQ i) ++ [x]), st := upd c.st i (afterProduce (c.st i)) }) := by
  rcases pc_cases (c.st i) with h | h | h | h
  · have hns : ∀ k, c.main ≠ .fill k := fun k e => by rw [stageStep_start_fill h e] at hs; cases hs
    rw [stageStep_start h hns] at hs
    exact Or.inl ⟨h, hns, (Option.some.inj hs).symm⟩
  · rw [stageStep_consuming h] at hs
    cases hq : c.q i with
    | nil => rw [hq] at hs; cases hs
    | cons x rest => rw [hq] at hs; exact Or.inr (Or.inl ⟨h, x, rest, rfl, (Option.some.inj hs).symm⟩)
  · obtain ⟨x, hx⟩ := pend_of_producing h
    rw [stageStep_producing h hx] at hs
    by_cases hl : (c.q (c.outQ i)).length < c.b
    · rw [if_pos hl] at hs; exact Or.inr (Or.inr ⟨h, x, hx, hl, (Option.some.inj hs).symm⟩)
    · rw [if_neg hl] at hs; cases hs
  · rw [stageStep_finished h] at hs; cases hs

theorem stageStep_ne_none_iff :
    c.stageStep i ≠ none ↔ ((c.st i).pc = .start ∧ ∀ k, c.main ≠ .fill k) ∨ (consuming (c.st i) ∧ c.q i ≠ [])
      ∨ (producing (c.st i) ∧ (c.q (c.outQ i)).length < c.b) := by
  constructor
  · intro hne
    cases hs : c.stageStep i with
    | none => exact absurd hs hne
    | some c' =>
      rcases stageStep_cases hs with ⟨h1, h2, _⟩ | ⟨h1, x, rest, hq, _⟩ | ⟨h1, x, _, hl, _⟩
      · exact .inl ⟨h1, h2⟩
      · exact .inr (.inl ⟨h1, by rw [hq]; nofun⟩)
      · exact .inr (.inr ⟨h1, hl⟩)
  · rintro (⟨h1, h2⟩ | ⟨h1, hq⟩ | ⟨h1, hl⟩)
    · rw [stageStep_start h1 h2]; nofun
    · rw [stageStep_consuming h1]
      cases hqq : c.q i with
      | nil => exact absurd hqq hq
      | cons x rest => nofun
    · obtain ⟨x, hx⟩ := pend_of_producing h1
      rw [stageStep_producing h1 hx, if_pos hl]; nofun

theorem mainStep_fill_zero (e : c.main = .fill 0) : c.mainStep = some { c with main := .join 1 } := by
  simp only [Chain.mainStep, e]

theorem mainStep_fill_succ (e : c.main = .fill (k + 1)) :
    c.mainStep = if (c.q 0).length < c.b then
        some { c with q := upd c.q 0 (c.q 0 ++ [.val 0]), main := if k = 0 then .join 1 else .fill k }
      else none := by
  by_cases hl : (c.q 0).length < c.b <;> simp only [Chain.mainStep, e, fifoPush, hl, if_true, if_false]

theorem mainStep_join {j : Nat} (e : c.main = .join j) :
    c.mainStep = if (c.st (j - 1)).pc = .finished then
        some { c with main := if j = c.m + 1 then .drain 0 else .join (j + 1) }
      else none := by
  simp only [Chain.mainStep, e]
  cases hpc : (c.st (j - 1)).pc <;> simp

theorem mainStep_drain (e : c.main = .drain k) :
    c.mainStep = match c.q 0 with
      | [] => none
      | x :: rest => some { c with q := upd c.q 0 rest, drained := c.drained ++ [x],
                                   main := match x with
                                     | .poison => .finished
                                     | .val _ => if k = c.b then .aborted else .drain (k + 1) } := by
  simp only [Chain.mainStep, e]
  cases hq : c.q 0 with
  | nil => rfl
  | cons x rest => cases x <;> rfl

theorem mainStep_done (e : c.main = .aborted ∨ c.main = .finished) : c.mainStep = none := by
  rcases e with e | e <;> simp only [Chain.mainStep, e]

theorem mainStep_cases (hs : c.mainStep = some c') :
    (c.main = .fill 0 ∧ c' = { c with main := .join 1 })
    ∨ (∃ k, c.main = .fill (k + 1) ∧ (c.q 0).length < c.b
        ∧ c' = { c with q := upd c.q 0 (c.q 0 ++ [.val 0]), main := if k = 0 then .join 1 else .fill k })
    ∨ (∃ j, c.main = .join j ∧ (c.st (j - 1)).pc = .finished
        ∧ c' = { c with main := if j = c.m + 1 then .drain 0 else .join (j + 1) })
    ∨ (∃ k x rest, c.main = .drain k ∧ c.q 0 = x :: rest
        ∧ c' = { c with q := upd c.q 0 rest, drained := c.drained ++ [x],
                        main := match x with
                          | .poison => .finished
                          | .val _ => if k = c.b then .aborted else .drain (k + 1) }) := by
  revert hs
  fun_cases Chain.mainStep c <;> intro hs <;> cases hs
  next k hmn buf hp =>
    obtain ⟨hl, rfl⟩ := fifoPush_some hp
    exact .inr (.inl ⟨k, hmn, hl, rfl⟩)
  next hmn => exact .inl ⟨hmn, rfl⟩
  next j hmn hf => exact .inr (.inr (.inl ⟨j, hmn, hf, rfl⟩))
  next k hmn rest hp => exact .inr (.inr (.inr ⟨k, _, rest, hmn, fifoPop_some hp, rfl⟩))
  next k hmn v rest hp => exact .inr (.inr (.inr ⟨k, _, rest, hmn, fifoPop_some hp, rfl⟩))

theorem mainStep_ne_none_iff :
    c.mainStep ≠ none ↔ c.main = .fill 0 ∨ (∃ k, c.main = .fill (k + 1) ∧ (c.q 0).length < c.b)
      ∨ (∃ j, c.main = .join j ∧ (c.st (j - 1)).pc = .finished) ∨ ∃ k, c.main = .drain k ∧ c.q 0 ≠ [] := by
  constructor
  · intro hne
    cases hs : c.mainStep with
    | none => exact absurd hs hne
    | some c' =>
      rcases mainStep_cases hs with ⟨e, _⟩ | ⟨k, e, hl, _⟩ | ⟨j, e, hf, _⟩ | ⟨k, x, rest, e, hq, _⟩
      · exact .inl e
      · exact .inr (.inl ⟨k, e, hl⟩)
      · exact .inr (.inr (.inl ⟨j, e, hf⟩))
      · exact .inr (.inr (.inr ⟨k, e, by rw [hq]; nofun⟩))
  · rintro (e | ⟨k, e, hl⟩ | ⟨j, e, hf⟩ | ⟨k, e, hq⟩)
    · rw [mainStep_fill_zero e]; nofun
    · rw [mainStep_fill_succ e, if_pos hl]; nofun
    · rw [mainStep_join e, if_pos hf]; nofun
    · rw [mainStep_drain e]
      cases hqq : c.q 0 with
      | nil => exact absurd hqq hq
      | cons x rest => nofun

theorem Chain.step_stage (hi : i ≤ c.m) : c.step (i + 1) = c.stageStep i := by
  simp only [Chain.step, if_pos hi]

theorem Chain.step_beyond (hi : ¬ i ≤ c.m) : c.step (i + 1) = none := by
  simp only [Chain.step, if_neg hi]

theorem Chain.step_cases {tid : Nat} (hs : c.step tid = some c') :
    (tid = 0 ∧ c.mainStep = some c') ∨ ∃ i, tid = i + 1 ∧ i ≤ c.m ∧ c.stageStep i = some c' := by
  cases tid with
  | zero => exact Or.inl ⟨rfl, hs⟩
  | succ i =>
    by_cases hi : i ≤ c.m
    · exact Or.inr ⟨i, rfl, hi, Chain.step_stage hi ▸ hs⟩
    · rw [Chain.step_beyond hi] at hs; cases hs

end stageStep

def HandOK (s : Stage) : Prop :=
  (s.pc = .incProduce → ∃ v, s.cur = .val v) ∧ (s.pc = .incPoison → s.cur = .poison ∧ s.poisoned = true)
  ∧ (s.pc = .dtor → s.cur = .poison)

structure StageOK (m : Nat) (data : List Nat) (i : Nat) (s : Stage) : Prop where
  /-- what the stage has produced, with the item in its hand, is the image of what it has received -/
  image : s.out ++ pend s = outFrom m data i [] s.inp
  hand : HandOK s
  /-- the poison is the last thing a stage produces, and it produces it exactly once -/
  fin : s.pc = .finished ↔ Item.poison ∈ s.out
  last : Item.poison ∉ s.out.dropLast
  /-- a stage that has received the poison is forwarding it (`incPoison`, `dtor`) or has finished -/
  no_poison : s.pc ≠ .incPoison → s.pc ≠ .dtor → s.pc ≠ .finished → Item.poison ∉ s.inp
  at_start : s.pc = .start → s.inp = []
  /-- the source turns block `data.length + 1` into the poison, after which nothing more goes round -/
  len : s.inp.length ≤ data.length + 1
  src : i = 0 → Item.poison ∉ s.inp

variable {b m : Nat} {data : List Nat} {c : Chain}

/-- a `Consume` puts the image of the item received into the hand of the stage; a received poison is forwarded
by `operator++` itself (`incPoison`) or left to `~Link` (`dtor`, after `Init`, where `poisoned_` is false) -/
theorem afterConsume_spec (hm : c.m = m) (hd : c.data = data) (htr : c.tr = StageFn.tr) (i : Nat) {s : Stage}
    (hc : consuming s) (x : Item) :
    (c.afterConsume i s x).inp = s.inp ++ [x] ∧ (c.afterConsume i s x).out = s.out
    ∧ pend (c.afterConsume i s x) = [outOf m data i s.inp x]
    ∧ producing (c.afterConsume i s x) ∧ HandOK (c.afterConsume i s x)
    ∧ (x = .poison → (c.afterConsume i s x).pc = .incPoison ∨ (c.afterConsume i s x).pc = .dtor) := by
  have hb := c.body_eq hm hd htr i s.inp
  rcases hc with e | e
  · cases x with
    | poison => simp [Chain.afterConsume, Chain.loopTest, exitLoop, e, pend, outOf, producing, HandOK]
    | val v =>
      cases hv : bodyP m data i s.inp v <;>
        simp [Chain.afterConsume, Chain.loopTest, e, hb, hv, pend, outOf, producing, HandOK]
  · cases x with
    | poison => simp [Chain.afterConsume, e, pend, outOf, producing, HandOK]
    | val v =>
      cases hv : bodyP m data i s.inp v <;>
        simp [Chain.afterConsume, Chain.loopTest, e, hb, hv, pend, outOf, producing, HandOK]

omit [StageFn] in
theorem afterProduce_spec (hp : producing s) (hk : HandOK s) :
    ∃ x, pend s = [x] ∧ (afterProduce s).inp = s.inp ∧ (afterProduce s).out = s.out ++ [x]
      ∧ ((afterProduce s).pc = .finished ∧ x = .poison
        ∨ (afterProduce s).pc = .incConsume ∧ x ≠ .poison ∧ s.pc = .incProduce) := by
  obtain ⟨k1, k2, k3⟩ := hk
  rcases hp with e | e | e | e
  · obtain ⟨v, hv⟩ := k1 e
    exact ⟨.val v, by simp [pend, e, hv], by simp [afterProduce, e], by simp [afterProduce, e, hv],
      Or.inr (by simp [afterProduce, e])⟩
  · obtain ⟨hc, hpo⟩ := k2 e
    exact ⟨.poison, by simp [pend, e, hc], by simp [afterProduce, e, exitLoop, hc, hpo],
      by simp [afterProduce, e, exitLoop, hc, hpo], Or.inl (by simp [afterProduce, e, exitLoop, hc, hpo])⟩
  · exact ⟨.poison, by simp [pend, e], by simp [afterProduce, e, exitLoop], by simp [afterProduce, e, exitLoop],
      Or.inl (by simp [afterProduce, e, exitLoop])⟩
  · have hc := k3 e
    exact ⟨.poison, by simp [pend, e, hc], by simp [afterProduce, e], by simp [afterProduce, e, hc],
      Or.inl (by simp [afterProduce, e])⟩

theorem StageOK.consume (h : StageOK m data i s) (hm : c.m = m) (hd : c.data = data)
    (htr : c.tr = StageFn.tr) (hc : consuming s) (x : Item) (hlen : s.inp.length < data.length + 1)
    (hsrc : i = 0 → x ≠ .poison) : StageOK m data i (c.afterConsume i s x) := by
  obtain ⟨hinp, hout, hpend, hprod, hhand, hpoi⟩ := afterConsume_spec hm hd htr i hc x
  have hr : s.out = outFrom m data i [] s.inp := by rw [← h.image, hc.pend_nil, List.append_nil]
  have hnfout : Item.poison ∉ s.out := fun hp => hc.ne_finished (h.fin.mpr hp)
  refine ⟨?_, hhand, ⟨fun e => absurd e hprod.ne_finished, fun hp => absurd (hout ▸ hp) hnfout⟩, hout ▸ h.last, ?_,
    fun e => absurd e hprod.ne_start, by rw [hinp, List.length_append]; exact hlen, ?_⟩
  · rw [hout, hpend, hinp, outFrom_append, ← hr]; rfl
  · intro h1 h2 _ hmem
    rw [hinp] at hmem
    rcases List.mem_append.mp hmem with hmem | hmem
    · exact h.no_poison hc.ne_incPoison hc.ne_dtor hc.ne_finished hmem
    · rcases hpoi (List.mem_singleton.mp hmem).symm with e | e
      · exact h1 e
      · exact h2 e
  · intro hi hmem
    rw [hinp] at hmem
    rcases List.mem_append.mp hmem with hmem | hmem
    · exact h.src hi hmem
    · exact hsrc hi (List.mem_singleton.mp hmem).symm

theorem StageOK.produce (h : StageOK m data i s) (hp : producing s) :
    StageOK m data i (afterProduce s) := by
  obtain ⟨x, hx, hinp, hout, hpc⟩ := afterProduce_spec hp h.hand
  have hnfout : Item.poison ∉ s.out := fun hq => hp.ne_finished (h.fin.mpr hq)
  have hpe : pend (afterProduce s) = [] := by rcases hpc with ⟨e, _⟩ | ⟨e, _⟩ <;> simp [pend, e]
  have hr := h.image
  rw [hx] at hr
  refine ⟨by rw [hpe, hout, hinp, hr, List.append_nil], ?_, ?_, ?_, ?_, ?_, hinp ▸ h.len, hinp ▸ h.src⟩
  · rcases hpc with ⟨e, _⟩ | ⟨e, _⟩ <;> simp [HandOK, e]
  · rw [hout]
    rcases hpc with ⟨e, ex⟩ | ⟨e, ex, _⟩
    · simp [e, ex]
    · simp [e, hnfout, Ne.symm ex]
  · rw [hout, List.dropLast_concat]; exact hnfout
  · rcases hpc with ⟨e, _⟩ | ⟨_, _, e⟩
    · intro _ _ hf; exact absurd e hf
    · intro _ _ _; rw [hinp]; exact h.no_poison (by simp [e]) (by simp [e]) (by simp [e])
  · rcases hpc with ⟨e, _⟩ | ⟨e, _⟩ <;> simp [e]

theorem StageOK.of_start (h : StageOK m data i s) (hs : s.pc = .start) :
    s.inp = [] ∧ s.out = [] := by
  have hr := h.image
  rw [h.at_start hs] at hr
  exact ⟨h.at_start hs, (List.append_eq_nil_iff.mp hr).1⟩

theorem StageOK.start (h : StageOK m data i s) (hs : s.pc = .start) :
    StageOK m data i { s with pc := .init } := by
  have hr := h.image
  have hnp : Item.poison ∉ s.inp := h.no_poison (by simp [hs]) (by simp [hs]) (by simp [hs])
  refine ⟨by simpa [pend, hs] using hr, by simp [HandOK], ?_, h.last, fun _ _ _ => hnp, by simp, h.len, h.src⟩
  have := h.fin
  simp [hs] at this
  simpa using this

/-- the blocks `Chain::Start` has still to put into queue 0 -/
def fillRem (c : Chain) : Nat := match c.main with | .fill k => k | _ => 0

omit [StageFn] in
theorem fillRem_fill (h : c.main = .fill k) : fillRem c = k := by
  unfold fillRem; rw [h]

omit [StageFn] in
theorem fillRem_of_not_fill (h : ∀ k, c.main ≠ .fill k) : fillRem c = 0 := by
  unfold fillRem
  cases hm : c.main <;> first | rfl | exact absurd hm (h _)

/-! What holds of the stages and of what `Chain::Wait` has drained, by the phase of the user thread. -/

structure AtFill (b m : Nat) (c : Chain) (k : Nat) : Prop where
  le : k ≤ b
  start : ∀ i, i ≤ m → (c.st i).pc = .start
  drained : c.drained = []

structure AtJoin (m : Nat) (c : Chain) (i : Nat) : Prop where
  pos : 1 ≤ i
  le : i ≤ m + 1
  fin : ∀ j, j + 1 < i → (c.st j).pc = .finished
  drained : c.drained = []

structure AtDrain (m : Nat) (c : Chain) (k : Nat) : Prop where
  fin : ∀ j, j ≤ m → (c.st j).pc = .finished
  len : k = c.drained.length
  no_poison : Item.poison ∉ c.drained

structure AtEnd (m : Nat) (c : Chain) : Prop where
  fin : ∀ j, j ≤ m → (c.st j).pc = .finished
  poison : Item.poison ∈ c.drained

def MainAt (b m : Nat) (c : Chain) : MPC → Prop
  | .fill k => AtFill b m c k
  | .join i => AtJoin m c i
  | .drain k => AtDrain m c k
  | .finished => AtEnd m c
  | .aborted => False

def MainOK (b m : Nat) (c : Chain) : Prop := MainAt b m c c.main

section mainOK
omit [StageFn]

theorem MainOK.of_main (h : MainOK b m c) {pc : MPC} (e : c.main = pc) : MainAt b m c pc := e ▸ h

/-- "Chain ending without poison." is not reached -/
theorem MainOK.not_aborted (h : MainOK b m c) : c.main ≠ .aborted := fun e => h.of_main e

theorem MainOK.of_unfinished (h : MainOK b m c) (hi : i ≤ m) (hnf : (c.st i).pc ≠ .finished) :
    c.drained = [] ∧ ((∃ k, c.main = .fill k ∧ (c.st i).pc = .start) ∨ ∃ j, c.main = .join j) := by
  cases hm : c.main with
  | fill k => exact ⟨(h.of_main hm).drained, Or.inl ⟨k, rfl, (h.of_main hm).start i hi⟩⟩
  | join j => exact ⟨(h.of_main hm).drained, Or.inr ⟨j, rfl⟩⟩
  | drain k => exact absurd ((h.of_main hm).fin i hi) hnf
  | finished => exact absurd ((h.of_main hm).fin i hi) hnf
  | aborted => exact absurd hm h.not_aborted

theorem MainOK.running (h : MainOK b m c) (hi : i ≤ m) (hnst : (c.st i).pc ≠ .start)
    (hnf : (c.st i).pc ≠ .finished) : c.drained = [] ∧ ∀ k, c.main ≠ .fill k := by
  obtain ⟨hdr, ⟨_, _, e⟩ | ⟨j, e⟩⟩ := h.of_unfinished hi hnf
  · exact absurd e hnst
  · exact ⟨hdr, fun k e' => by rw [e] at e'; cases e'⟩

theorem MainOK.upd_stage (h : MainOK b m c) (hi : i ≤ m) (hnf : (c.st i).pc ≠ .finished)
    (hns : ∀ k, c.main ≠ .fill k) (q' : Nat → List Item) (s' : Stage) :
    MainOK b m { c with q := q', st := upd c.st i s' } := by
  obtain ⟨_, ⟨k, e, _⟩ | ⟨j, e⟩⟩ := h.of_unfinished hi hnf
  · exact absurd e (hns k)
  · obtain ⟨h1, h2, h3, h4⟩ := h.of_main e
    show MainAt b m _ c.main
    rw [e]
    refine ⟨h1, h2, fun j' hj' => ?_, h4⟩
    show (upd c.st i s' j').pc = _
    rw [upd_ne c.st s' (fun e' => hnf (by rw [← e']; exact h3 j' hj'))]
    exact h3 j' hj'

end mainOK

structure RInv (b m : Nat) (data : List Nat) (c : Chain) : Prop where
  b_eq : c.b = b
  m_eq : c.m = m
  data_eq : c.data = data
  tr_eq : c.tr = StageFn.tr
  bpos : 0 < b
  mpos : 1 ≤ m
  sok : ∀ i, i ≤ m → StageOK m data i (c.st i)
  /-- stage `i+1` has received exactly a prefix of what stage `i` produced; the rest is in queue `i+1` -/
  q : ∀ i, i < m → (c.st i).out = (c.st (i + 1)).inp ++ c.q (i + 1)
  /-- queue 0: the blocks of `Chain::Start`, then the recycler's output; read by the source, then by `Wait` -/
  q0 : List.replicate (b - fillRem c) (Item.val 0) ++ (c.st m).out = (c.st 0).inp ++ c.drained ++ c.q 0
  mainok : MainOK b m c

theorem RInv.fin_pred (h : RInv b m data c) {j : Nat} (hj : j + 1 ≤ m)
    (hf : (c.st (j + 1)).pc = .finished) : (c.st j).pc = .finished := by
  have ok := h.sok (j + 1) hj
  have hp : Item.poison ∈ outFrom m data (j + 1) [] (c.st (j + 1)).inp := by
    rw [← ok.image]; exact List.mem_append_left _ (ok.fin.mp hf)
  apply (h.sok j (by omega)).fin.mpr
  rw [h.q j (by omega)]
  exact List.mem_append_left _ (outFrom_poison_mem (by omega) hp)

theorem RInv.fin_le (h : RInv b m data c) {j : Nat} (hj : j ≤ m) (hf : (c.st j).pc = .finished) :
    ∀ i, i ≤ j → (c.st i).pc = .finished := by
  induction j with
  | zero => intro i hi; rw [Nat.le_zero.mp hi]; exact hf
  | succ j ih =>
    intro i hi
    by_cases e : i = j + 1
    · rw [e]; exact hf
    · exact ih (by omega) (h.fin_pred hj hf) i (by omega)

/-- conservation of blocks: queues + hands + drained + not yet put into queue 0 = `b` -/
theorem RInv.conservation (h : RInv b m data c) :
    sumTo (fun j => (c.q j).length) (m + 1) + sumTo (fun i => (pend (c.st i)).length) (m + 1)
      + c.drained.length + fillRem c = b := by
  have hfr : fillRem c ≤ b := by
    unfold fillRem
    cases hm : c.main with
    | fill k => exact (h.mainok.of_main hm).le
    | _ => exact Nat.zero_le _
  -- per stage: |out| + |pend| = |inp|
  have e1 : sumTo (fun i => (c.st i).out.length) (m + 1) + sumTo (fun i => (pend (c.st i)).length) (m + 1)
      = sumTo (fun i => (c.st i).inp.length) (m + 1) := by
    rw [← sumTo_add]
    apply sumTo_congr
    intro i hi
    have := congrArg List.length (h.sok i (by omega)).image
    rw [List.length_append, outFrom_length] at this
    exact this
  have e2 : sumTo (fun i => (c.st i).out.length) m
      = sumTo (fun i => (c.st (i + 1)).inp.length) m + sumTo (fun i => (c.q (i + 1)).length) m := by
    rw [← sumTo_add]
    apply sumTo_congr
    intro i hi
    have := congrArg List.length (h.q i hi)
    rw [List.length_append] at this
    exact this
  have e3 := congrArg List.length h.q0
  simp only [List.length_append, List.length_replicate] at e3
  have s1 : sumTo (fun i => (c.st i).inp.length) (m + 1)
      = (c.st 0).inp.length + sumTo (fun i => (c.st (i + 1)).inp.length) m := sumTo_shift _ m
  have s2 : sumTo (fun j => (c.q j).length) (m + 1)
      = (c.q 0).length + sumTo (fun i => (c.q (i + 1)).length) m := sumTo_shift _ m
  have s3 : sumTo (fun i => (c.st i).out.length) (m + 1)
      = sumTo (fun i => (c.st i).out.length) m + (c.st m).out.length := rfl
  omega

theorem RInv.room (h : RInv b m data c) {j i : Nat} (hj : j ≤ m) (hi : i ≤ m) :
    (c.q j).length + (pend (c.st i)).length + c.drained.length + fillRem c ≤ b := by
  have hc := h.conservation
  have h1 := le_sumTo (fun j => (c.q j).length) (i := j) (k := m + 1) (by omega)
  have h2 := le_sumTo (fun i => (pend (c.st i)).length) (i := i) (k := m + 1) (by omega)
  omega

theorem RInv.queue_le (h : RInv b m data c) {j : Nat} (hj : j ≤ m) : (c.q j).length ≤ b := by
  have := h.room hj (Nat.zero_le m)
  omega

theorem RInv.consume_len (h : RInv b m data c) (hi : i ≤ m) (hc : consuming (c.st i))
    (hq : c.q i = x :: rest) : (c.st i).inp.length < data.length + 1 := by
  have ok := h.sok i hi
  cases i with
  | zero =>
    apply Classical.byContradiction
    intro hge
    have hr := ok.image
    rw [hc.pend_nil, List.append_nil] at hr
    have := outFrom_src_poison (m := m) (data := data) (l := (c.st 0).inp) (by omega)
    rw [← hr] at this
    exact hc.ne_finished (ok.fin.mpr this)
  | succ j =>
    have hqj := congrArg List.length (h.q j (by omega))
    rw [hq, List.length_append, List.length_cons] at hqj
    have okj := h.sok j (by omega)
    have hrj := congrArg List.length okj.image
    rw [List.length_append, outFrom_length] at hrj
    have := okj.len
    omega

/-- the source never receives poison: the recycler forwards it only when every stage has finished -/
theorem RInv.consume_src (h : RInv b m data c) (hi : i ≤ m) (hc : consuming (c.st i))
    (hq : c.q i = x :: rest) : i = 0 → x ≠ .poison := by
  intro hi0 hx
  subst hi0; subst hx
  have : Item.poison ∈ (c.st 0).inp ++ c.drained ++ c.q 0 := by rw [hq]; simp
  rw [← h.q0] at this
  rcases List.mem_append.mp this with hp | hp
  · simp at hp
  · have hfm := (h.sok m (Nat.le_refl _)).fin.mpr hp
    exact hc.ne_finished (h.fin_le (Nat.le_refl _) hfm 0 (by omega))

theorem sok_upd (h : ∀ j, j ≤ m → StageOK m data j (c.st j)) {s' : Stage} (ok' : StageOK m data i s') :
    ∀ j, j ≤ m → StageOK m data j (upd c.st i s' j) :=
  (forall_upd (R := fun j s => j ≤ m → StageOK m data j s)).mpr ⟨fun _ => ok', fun j _ => h j⟩

theorem RInv.stage_consume (h : RInv b m data c) (hi : i ≤ m) (hc : consuming (c.st i))
    (hq : c.q i = x :: rest) :
    RInv b m data { c with q := upd c.q i rest, st := upd c.st i (c.afterConsume i (c.st i) x) } := by
  have hnf := hc.ne_finished
  obtain ⟨hdr, hns⟩ := h.mainok.running hi hc.ne_start hnf
  obtain ⟨hinp, hout, _⟩ := afterConsume_spec h.m_eq h.data_eq h.tr_eq i hc x
  have ok' := (h.sok i hi).consume h.m_eq h.data_eq h.tr_eq hc x (h.consume_len hi hc hq) (h.consume_src hi hc hq)
  refine { h with sok := sok_upd h.sok ok', q := ?_, q0 := ?_, mainok := h.mainok.upd_stage hi hnf hns _ _ }
  · intro j hj
    show (upd c.st i _ j).out = (upd c.st i _ (j + 1)).inp ++ upd c.q i rest (j + 1)
    rw [upd_proj Stage.out c.st hout, h.q j hj]
    by_cases e : j + 1 = i
    · subst e; rw [upd_same, upd_same, hinp, hq, List.append_assoc]; rfl
    · rw [upd_ne _ _ e, upd_ne _ _ e]
  · show List.replicate (b - fillRem c) (Item.val 0) ++ (upd c.st i _ m).out
        = (upd c.st i _ 0).inp ++ c.drained ++ upd c.q i rest 0
    rw [upd_proj Stage.out c.st hout, h.q0, hdr]
    by_cases e : 0 = i
    · subst e; rw [upd_same, upd_same, hinp, hq]; simp
    · rw [upd_ne _ _ e, upd_ne _ _ e]

omit [StageFn] in
theorem outQ_eq (hm : c.m = m) (i : Nat) : c.outQ i = if i = m then 0 else i + 1 := by
  unfold Chain.outQ; rw [hm]

theorem RInv.stage_produce (h : RInv b m data c) (hi : i ≤ m) (hp : producing (c.st i))
    (hx : pend (c.st i) = [x]) :
    RInv b m data { c with q := upd c.q (c.outQ i) (c.q (c.outQ i) ++ [x]),
                           st := upd c.st i (afterProduce (c.st i)) } := by
  have hnf := hp.ne_finished
  obtain ⟨hdr, hns⟩ := h.mainok.running hi hp.ne_start hnf
  obtain ⟨x', hx', hinp, hout, _⟩ := afterProduce_spec hp (h.sok i hi).hand
  obtain rfl : x' = x := by rw [hx] at hx'; exact (List.cons.inj hx').1.symm
  have hoq := outQ_eq h.m_eq i
  have hmp := h.mpos
  refine { h with sok := sok_upd h.sok ((h.sok i hi).produce hp), q := ?_, q0 := ?_,
                  mainok := h.mainok.upd_stage hi hnf hns _ _ }
  · intro j hj
    show (upd c.st i _ j).out = (upd c.st i _ (j + 1)).inp ++ upd c.q (c.outQ i) _ (j + 1)
    rw [upd_proj Stage.inp c.st hinp, hoq]
    by_cases e : j = i
    · rw [e, upd_same, hout, if_neg (by omega), upd_same, ← e, h.q j hj, List.append_assoc]
    · rw [upd_ne _ _ e, upd_ne _ _ (by split <;> omega)]; exact h.q j hj
  · show List.replicate (b - fillRem c) (Item.val 0) ++ (upd c.st i _ m).out
        = (upd c.st i _ 0).inp ++ c.drained ++ upd c.q (c.outQ i) _ 0
    rw [upd_proj Stage.inp c.st hinp, hoq]
    by_cases e : i = m
    · rw [if_pos e, ← e, upd_same, upd_same, hout, ← List.append_assoc, e, h.q0, List.append_assoc]
    · rw [if_neg e, upd_ne _ _ (Ne.symm e), upd_ne _ _ (by omega)]; exact h.q0

theorem RInv.stage_start (h : RInv b m data c) (hi : i ≤ m) (hs : (c.st i).pc = .start)
    (hns : ∀ k, c.main ≠ .fill k) :
    RInv b m data { c with st := upd c.st i { c.st i with pc := .init } } := by
  have hnf : (c.st i).pc ≠ .finished := by simp [hs]
  refine { h with sok := sok_upd h.sok ((h.sok i hi).start hs), q := ?_, q0 := ?_,
                  mainok := h.mainok.upd_stage hi hnf hns c.q _ }
  · intro j hj
    show (upd c.st i _ j).out = (upd c.st i _ (j + 1)).inp ++ c.q (j + 1)
    rw [upd_proj Stage.out c.st (i := i) (v := { c.st i with pc := .init }) rfl,
      upd_proj Stage.inp c.st (i := i) (v := { c.st i with pc := .init }) rfl]
    exact h.q j hj
  · show List.replicate (b - fillRem c) (Item.val 0) ++ (upd c.st i _ m).out
        = (upd c.st i _ 0).inp ++ c.drained ++ c.q 0
    rw [upd_proj Stage.out c.st (i := i) (v := { c.st i with pc := .init }) rfl,
      upd_proj Stage.inp c.st (i := i) (v := { c.st i with pc := .init }) rfl]
    exact h.q0

theorem rinv_stageStep (h : RInv b m data c) (hi : i ≤ m) {c' : Chain}
    (hs : c.stageStep i = some c') : RInv b m data c' := by
  rcases stageStep_cases hs with ⟨hpc, hns, rfl⟩ | ⟨hc, x, rest, hq, rfl⟩ | ⟨hp, x, hx, _, rfl⟩
  · exact h.stage_start hi hpc hns
  · exact h.stage_consume hi hc hq
  · exact h.stage_produce hi hp hx

/-- `Chain::Wait` finds the poison among the first `b + 1` items it drains -/
theorem RInv.drain_lt (h : RInv b m data c) (hmn : c.main = .drain k) {x : Item}
    (hq : c.q 0 = x :: rest) : k < b := by
  have := h.room (Nat.zero_le m) (Nat.zero_le m)
  rw [hq, ← (h.mainok.of_main hmn).len, List.length_cons] at this
  omega

/-- The user thread touches only queue 0, `main` and `drained`: of `RInv` only `q0` and `mainok` are at stake, case by
case of `mainStep_cases` (last block put in, a block put in, a stage joined, an item drained). -/
theorem rinv_mainStep (h : RInv b m data c) (hs : c.mainStep = some c') : RInv b m data c' := by
  have hqsucc : ∀ (l : List Item) j, j < m → (c.st j).out = (c.st (j + 1)).inp ++ upd c.q 0 l (j + 1) :=
    fun l j hj => by rw [upd_ne c.q l (Nat.succ_ne_zero j)]; exact h.q j hj
  have hq0 := h.q0
  have hmp := h.mpos
  rcases mainStep_cases hs with ⟨hmn, rfl⟩ | ⟨k, hmn, _, rfl⟩ | ⟨j, hmn, hf, rfl⟩ | ⟨k, x, rest, hmn, hq, rfl⟩
  · rw [fillRem_fill hmn] at hq0
    refine { h with q0 := hq0, mainok := ?_ }
    exact ⟨Nat.le_refl 1, Nat.succ_le_succ (Nat.zero_le m), fun j hj => absurd hj (by omega), (h.mainok.of_main hmn).drained⟩
  · obtain ⟨hk, hst, hdr⟩ := h.mainok.of_main hmn
    -- nothing has moved yet: queue 0 holds the blocks `Chain::Start` has put in so far
    obtain ⟨hi0, _⟩ := (h.sok 0 (Nat.zero_le m)).of_start (hst 0 (Nat.zero_le m))
    obtain ⟨_, hom⟩ := (h.sok m (Nat.le_refl m)).of_start (hst m (Nat.le_refl m))
    rw [fillRem_fill hmn, hi0, hom, hdr, List.append_nil, List.nil_append,
      List.nil_append] at hq0
    have hq0' : List.replicate (b - k) (Item.val 0) ++ (c.st m).out
        = (c.st 0).inp ++ c.drained ++ upd c.q 0 (c.q 0 ++ [.val 0]) 0 := by
      rw [upd_same, hi0, hom, hdr, List.append_nil, List.nil_append, List.nil_append, ← hq0,
        replicate_sub_succ _ hk]
    by_cases e : k = 0
    · rw [if_pos e]; subst e
      refine { h with q := hqsucc (c.q 0 ++ [.val 0]), q0 := hq0', mainok := ?_ }
      exact ⟨Nat.le_refl 1, Nat.succ_le_succ (Nat.zero_le m), fun j hj => absurd hj (by omega), hdr⟩
    · rw [if_neg e]
      refine { h with q := hqsucc (c.q 0 ++ [.val 0]), q0 := hq0', mainok := ?_ }
      exact ⟨Nat.le_of_succ_le hk, hst, hdr⟩
  · obtain ⟨h1, h2, h3, hdr⟩ := h.mainok.of_main hmn
    rw [fillRem_of_not_fill (by rw [hmn]; nofun)] at hq0
    have hcm := h.m_eq
    by_cases e : j = c.m + 1
    · rw [if_pos e]
      refine { h with q0 := hq0, mainok := ?_ }
      refine ⟨fun j' hj' => ?_, hdr ▸ rfl, hdr ▸ List.not_mem_nil⟩
      by_cases ej : j' = m
      · rw [ej, ← hcm]; rw [e] at hf; exact hf
      · exact h3 j' (by omega)
    · rw [if_neg e]
      refine { h with q0 := hq0, mainok := ?_ }
      refine ⟨Nat.le_succ_of_le h1, by omega, fun j' hj' => ?_, hdr⟩
      by_cases ej : j' + 1 = j
      · rw [← ej] at hf; exact hf
      · exact h3 j' (by omega)
  · obtain ⟨hall, hk, hnp⟩ := h.mainok.of_main hmn
    have hkb : k ≠ c.b := by rw [h.b_eq]; exact Nat.ne_of_lt (h.drain_lt hmn hq)
    rw [fillRem_of_not_fill (by rw [hmn]; nofun)] at hq0
    have hq0' : List.replicate (b - 0) (Item.val 0) ++ (c.st m).out
        = (c.st 0).inp ++ (c.drained ++ [x]) ++ upd c.q 0 rest 0 := by
      rw [hq0, hq, upd_same]; simp
    cases x with
    | poison =>
      refine { h with q := hqsucc rest, q0 := hq0', mainok := ?_ }
      exact ⟨hall, List.mem_append_right _ (List.mem_singleton.mpr rfl)⟩
    | val v =>
      simp only [if_neg hkb]
      refine { h with q := hqsucc rest, q0 := hq0', mainok := ?_ }
      exact ⟨hall, by rw [List.length_append, ← hk]; rfl, by simpa using hnp⟩

theorem rinv_step (h : RInv b m data c) {tid : Nat} (hs : c.step tid = some c') :
    RInv b m data c' := by
  rcases Chain.step_cases hs with ⟨-, hs⟩ | ⟨i, -, hi, hs⟩
  · exact rinv_mainStep h hs
  · exact rinv_stageStep h (h.m_eq ▸ hi) hs

theorem rinv_init (b m : Nat) (data : List Nat) (hb : 0 < b) (hm : 1 ≤ m) :
    RInv b m data (Chain.initT b m data StageFn.tr) := by
  refine { b_eq := rfl, m_eq := rfl, data_eq := rfl, tr_eq := rfl, bpos := hb, mpos := hm, sok := fun i _ => ?_,
           q := fun i _ => rfl, q0 := ?_, mainok := ?_ }
  · refine ⟨rfl, ⟨nofun, nofun, nofun⟩, ⟨nofun, nofun⟩, nofun, fun _ _ _ => nofun, fun _ => rfl,
      Nat.zero_le _, fun _ => nofun⟩
  · simp [Chain.initT, Chain.init, fillRem]
  · exact ⟨Nat.le_refl b, fun _ _ => rfl, rfl⟩

theorem rinv_reach {b m : Nat} {data : List Nat} {c : Chain} (hb : 0 < b) (hm : 1 ≤ m)
    (hr : Chain.Reach (Chain.initT b m data StageFn.tr) c) : RInv b m data c := by
  induction hr with
  | init => exact rinv_init b m data hb hm
  | step _ hs ih => exact rinv_step ih hs

end KV.Chain
