import Proofs.PCQueue
import Proofs.ChainUtil
/-!
What a step does (`step_cases`: a `Move` outside the critical-section body, the body of `Produce`, the body of
`Consume`); the invariant is inductive: `Core` is preserved by every step (`core_step`: all transitions outside the
bodies are instances of `core_control`), a step conserves the values and calls of a closed configuration
(`conserved_step`), hence `Inv` (`inv_step`), which holds in the initial state of every configuration (`inv_init`).
Core Lean only.
-/
namespace KV.PCQueue

variable {dP dC : Nat} {s s' : State} {tid : Nat} {th th' : Thread} {l : List Thread}

theorem nextProd_cases (items : List Nat) :
    (nextProd items = .done ∧ items = []) ∨ (nextProd items = .wait ∧ items ≠ []) := by
  cases items <;> simp [nextProd]

theorem nextCons_cases (q : Nat) : (nextCons q = .done ∧ q = 0) ∨ (nextCons q = .wait ∧ 0 < q) := by
  unfold nextCons
  by_cases h : q = 0
  · simp [h]
  · simp [h]; omega

def Thread.next (th : Thread) : PC :=
  match th.role with
  | .prod => nextProd th.items
  | .cons => nextCons th.quota

theorem Thread.next_rest (th : Thread) : th.next = .wait ∨ th.next = .done := by
  unfold Thread.next
  cases th.role
  · exact (nextProd_cases _).elim (fun h => Or.inr h.1) (fun h => Or.inl h.1)
  · exact (nextCons_cases _).elim (fun h => Or.inr h.1) (fun h => Or.inl h.1)

/-- `Produce` and `Consume` are one protocol on swapped semaphores.  The steps outside the critical-section body, as
moves of the program counter together with what they do to `(i, o, m)`: the semaphore the operation waits on, the
semaphore it posts, and its mutex.  `nx` is where the thread goes after `post`. -/
inductive Move (t : Nat) (nx : PC) : PC → PC → Nat × Nat × Option Nat → Nat × Nat × Option Nat → Prop
  | wait {i o m} : i ≠ 0 → Move t nx .wait .lock (i, o, m) (i - 1, o, m)
  | lock {i o m} : m = none → Move t nx .lock .body (i, o, m) (i, o, some t)
  | unlock {i o m} : Move t nx .unlock .post (i, o, m) (i, o, none)
  | post {i o m} : nx = .wait ∨ nx = .done → Move t nx .post nx (i, o, m) (i, o + 1, m)

theorem step_cases (hth : s.threads[t]? = some th) (hs : step s t = some s') :
    (∃ pc' e u pm cm,
        s' = { s.setT t { th with pc := pc' } with empty := e, used := u, pmutex := pm, cmutex := cm }
        ∧ ((th.role = .prod ∧ cm = s.cmutex
              ∧ Move t th.next th.pc pc' (s.empty, s.used, s.pmutex) (e, u, pm))
          ∨ (th.role = .cons ∧ pm = s.pmutex
              ∧ Move t th.next th.pc pc' (s.used, s.empty, s.cmutex) (u, e, cm))))
    ∨ (th.role = .prod ∧ th.pc = .body ∧ ∃ v rest, th.items = v :: rest
        ∧ s' = { s.setT t { th with pc := .unlock, items := rest } with
                 ring := upd s.ring s.produceAt v
                 produceAt := wrap s.cap s.produceAt
                 writes := s.writes ++ [(t, v)] })
    ∨ (th.role = .cons ∧ th.pc = .body
        ∧ s' = { s.setT t { th with pc := .unlock, quota := th.quota - 1, got := th.got ++ [s.ring s.consumeAt] } with
                 consumeAt := wrap s.cap s.consumeAt
                 reads := s.reads ++ [(t, s.ring s.consumeAt)] }) := by
  unfold step at hs
  simp only [hth] at hs
  obtain ⟨role, pc, items, orig, quota, got⟩ := th
  cases role <;> cases pc <;> simp only at hs
  · by_cases h : s.empty = 0
    · rw [if_pos h] at hs; cases hs
    · rw [if_neg h] at hs; cases hs
      exact Or.inl ⟨_, _, _, _, _, rfl, Or.inl ⟨rfl, rfl, .wait h⟩⟩
  · cases hm : s.pmutex with
    | some u => simp [hm] at hs
    | none =>
      simp [hm] at hs; cases hs
      exact Or.inl ⟨_, _, _, _, _, rfl, Or.inl ⟨rfl, rfl, .lock rfl⟩⟩
  · cases items <;> cases hs
    exact Or.inr (Or.inl ⟨rfl, rfl, _, _, rfl, rfl⟩)
  · cases hs
    exact Or.inl ⟨_, _, _, _, _, rfl, Or.inl ⟨rfl, rfl, .unlock⟩⟩
  · cases hs
    exact Or.inl ⟨_, _, _, _, _, rfl, Or.inl ⟨rfl, rfl, .post (Thread.next_rest _)⟩⟩
  · cases hs
  · by_cases h : s.used = 0
    · rw [if_pos h] at hs; cases hs
    · rw [if_neg h] at hs; cases hs
      exact Or.inl ⟨_, _, _, _, _, rfl, Or.inr ⟨rfl, rfl, .wait h⟩⟩
  · cases hm : s.cmutex with
    | some u => simp [hm] at hs
    | none =>
      simp [hm] at hs; cases hs
      exact Or.inl ⟨_, _, _, _, _, rfl, Or.inr ⟨rfl, rfl, .lock rfl⟩⟩
  · cases hs
    exact Or.inr (Or.inr ⟨rfl, rfl, rfl⟩)
  · cases hs
    exact Or.inl ⟨_, _, _, _, _, rfl, Or.inr ⟨rfl, rfl, .unlock⟩⟩
  · cases hs
    exact Or.inl ⟨_, _, _, _, _, rfl, Or.inr ⟨rfl, rfl, .post (Thread.next_rest _)⟩⟩
  · cases hs

theorem step_entry {t : Nat} (hs : step s t = some s') : ∃ th, s.threads[t]? = some th := by
  cases hth : s.threads[t]? with
  | none => simp [step, hth] at hs
  | some th => exact ⟨th, rfl⟩

theorem cap_step (hs : step s tid = some s') : s'.cap = s.cap := by
  obtain ⟨th, hth⟩ := step_entry hs
  rcases step_cases hth hs with ⟨_, _, _, _, _, rfl, _⟩ | ⟨_, _, _, _, _, rfl⟩ | ⟨_, _, rfl⟩ <;> rfl

theorem MutexOK.frame {m : Option Nat} {H : Thread → Prop} {th th' : Thread}
    (h : MutexOK m l H) (hth : l[tid]? = some th) (hiff : H th ↔ H th') : MutexOK m (l.set tid th') H := by
  constructor
  · intro t ht
    obtain ⟨th0, h0, h1⟩ := h.1 t ht
    by_cases e : t = tid
    · subst e
      rw [hth] at h0; cases h0
      exact ⟨th', set_self hth th', hiff.mp h1⟩
    · exact ⟨th0, by rw [List.getElem?_set_ne (Ne.symm e)]; exact h0, h1⟩
  · intro t th0 h0 h1
    rcases set_cases hth h0 with ⟨rfl, rfl⟩ | ⟨_, h0⟩
    · exact h.2 _ th hth (hiff.mpr h1)
    · exact h.2 t th0 h0 h1

theorem MutexOK.acquire {H : Thread → Prop} {th th' : Thread}
    (h : MutexOK none l H) (hth : l[tid]? = some th) (hnew : H th') : MutexOK (some tid) (l.set tid th') H := by
  constructor
  · intro t ht
    cases ht
    exact ⟨th', set_self hth th', hnew⟩
  · intro t th0 h0 h1
    rcases set_cases hth h0 with ⟨rfl, rfl⟩ | ⟨_, h0⟩
    · rfl
    · have := h.2 t th0 h0 h1
      cases this

theorem MutexOK.release {m : Option Nat} {H : Thread → Prop} {th th' : Thread}
    (h : MutexOK m l H) (hth : l[tid]? = some th) (hold : H th) (hnew : ¬ H th') : MutexOK none (l.set tid th') H := by
  have hm : m = some tid := h.2 tid th hth hold
  constructor
  · intro t ht; cases ht
  · intro t th0 h0 h1
    rcases set_cases hth h0 with ⟨rfl, rfl⟩ | ⟨hne, h0⟩
    · exact absurd h1 hnew
    · have := h.2 t th0 h0 h1
      rw [hm] at this
      cases this
      exact absurd rfl hne

theorem Move.mutex {H : Thread → Prop} {nx pc pc' : PC} {i o i' o' : Nat} {m m' : Option Nat}
    (hm : Move t nx pc pc' (i, o, m) (i', o', m'))
    (h : MutexOK m l H) (hth : l[t]? = some th)
    (hH : H th ↔ pc = .body ∨ pc = .unlock) (hH' : H th' ↔ pc' = .body ∨ pc' = .unlock) :
    MutexOK m' (l.set t th') H := by
  cases hm with
  | wait _ => exact h.frame hth (by simp [hH, hH'])
  | lock e => exact (e ▸ h).acquire hth (hH'.mpr (Or.inl rfl))
  | unlock => exact h.release hth (hH.mpr (Or.inr rfl)) (by simp [hH'])
  | post hnx => exact h.frame hth (by rcases hnx with rfl | rfl <;> simp [hH, hH'])

/-- stated with the `if`s of `tokens`, so that the counting clauses of `core_step` close by `simp [tokens]` and `omega` -/
theorem Move.tokens {nx pc pc' : PC} {i o i' o' : Nat} {m m' : Option Nat}
    (hm : Move t nx pc pc' (i, o, m) (i', o', m')) :
    i' + (if pc' = .lock ∨ pc' = .body then 1 else 0) = i + (if pc = .lock ∨ pc = .body then 1 else 0)
    ∧ o' + (if pc' = .unlock ∨ pc' = .post then 1 else 0) = o + (if pc = .unlock ∨ pc = .post then 1 else 0) := by
  cases hm with
  | wait h => simp; omega
  | lock => simp
  | unlock => simp
  | post hnx => rcases hnx with rfl | rfl <;> simp

theorem thr_update {th th' : Thread}
    (h : ∀ (t : Nat) th0, s.threads[t]? = some th0 → ThreadOK s t th0) (hth : s.threads[tid]? = some th)
    (hnew : ThreadOK s' tid th')
    (hframe : ∀ t th0, t ≠ tid → ThreadOK s t th0 → ThreadOK s' t th0) :
    ∀ (t : Nat) th0, (s.threads.set tid th')[t]? = some th0 → ThreadOK s' t th0 := by
  intro t th0 h0
  rcases set_cases hth h0 with ⟨rfl, rfl⟩ | ⟨hne, h0⟩
  · exact hnew
  · exact hframe t th0 hne (h t th0 h0)

theorem ThreadOK.frame {t : Nat} (h : ThreadOK s t th)
    (hw : writesOf s'.writes t = writesOf s.writes t) (hr : writesOf s'.reads t = writesOf s.reads t) :
    ThreadOK s' t th :=
  ⟨h.p_nonempty, h.p_done, by rw [hw]; exact h.p_orig, h.c_pos, h.c_done, by rw [hr]; exact h.c_got⟩

/-- The counting part of the invariant after the entry of thread `tid` has been replaced: it is enough to account
for what the old and the new entry contribute.  `W`, `R` are the new lengths of the histories; the hypotheses are
written additively so that no truncated subtraction appears. -/
theorem counts_set (h : Core s) (hth : s.threads[tid]? = some th)
    (th' : Thread) {e u W R : Nat}
    (hacct : e + isA th' + isB th' + u + isC th' + isD th' = s.empty + isA th + isB th + s.used + isC th + isD th)
    (hocc : W + (s.reads.length + isB th + s.used + isC th) = s.writes.length + (R + isB th' + u + isC th')) :
    e + sumBy isA (s.threads.set tid th') + sumBy isB (s.threads.set tid th') + u
        + sumBy isC (s.threads.set tid th') + sumBy isD (s.threads.set tid th') = s.cap
    ∧ W = R + sumBy isB (s.threads.set tid th') + u + sumBy isC (s.threads.set tid th') := by
  have hA := sumBy_set (f := isA) hth th'
  have hB := sumBy_set (f := isB) hth th'
  have hC := sumBy_set (f := isC) hth th'
  have hD := sumBy_set (f := isD) hth th'
  -- each equation is given only the sums it mentions
  refine ⟨?_, ?_⟩
  · have := h.acct; clear hocc; omega
  · have := h.occ; clear hacct hA hD; omega

/-- A transition that replaces the entry of thread `tid` and changes semaphores and mutexes, but neither the ring nor
the ghost histories, preserves the invariant as soon as the token of the thread stays accounted for, the mutex owners
are right and the new entry is consistent with the histories. -/
theorem core_control {e u : Nat} {pm cm : Option Nat}
    (h : Core s) (hth : s.threads[tid]? = some th)
    (hacct : e + isA th' + isB th' + u + isC th' + isD th' = s.empty + isA th + isB th + s.used + isC th + isD th)
    (hocc : isB th' + u + isC th' = isB th + s.used + isC th)
    (hpm : MutexOK pm (s.threads.set tid th') holdsP) (hcm : MutexOK cm (s.threads.set tid th') holdsC)
    (hok : ThreadOK s tid th') :
    Core { s.setT tid th' with empty := e, used := u, pmutex := pm, cmutex := cm } := by
  obtain ⟨acct, occ⟩ := counts_set h hth th' hacct (W := s.writes.length) (R := s.reads.length) (by omega)
  exact { cap_pos := h.cap_pos, acct := acct, occ := occ, pat := h.pat, cat := h.cat, ringv := h.ringv,
          fifo := h.fifo, pm := hpm, cm := hcm,
          thr := thr_update h.thr hth (hok.frame rfl rfl) fun _ _ _ h0 => h0.frame rfl rfl }

theorem core_prod_body {v : Nat} {rest : List Nat} (h : Core s)
    (hth : s.threads[tid]? = some th) (hr : th.role = .prod) (hp : th.pc = .body) (hi : th.items = v :: rest) :
    Core { s.setT tid { th with pc := .unlock, items := rest } with
          ring := upd s.ring s.produceAt v
          produceAt := wrap s.cap s.produceAt
          writes := s.writes ++ [(tid, v)] } := by
  have ok := h.thr tid th hth
  obtain ⟨hle, hlt⟩ := room_of_producer h hth hr hp
  obtain ⟨acct, occ⟩ := counts_set h hth { th with pc := .unlock, items := rest }
    (e := s.empty) (u := s.used) (W := (s.writes ++ [(tid, v)]).length) (R := s.reads.length)
    (by simp [tokens, hr, hp]) (by simp [tokens, hr, hp]; omega)
  refine { cap_pos := h.cap_pos, acct := acct, occ := occ, pat := ?_, cat := h.cat, ringv := ?_, fifo := ?_,
           pm := h.pm.frame hth (by simp [holdsP, hr, hp]), cm := h.cm.frame hth (by simp [holdsC, hr]), thr := ?_ }
  · show wrap s.cap s.produceAt = (s.writes ++ [(tid, v)]).length % s.cap
    rw [h.pat, List.length_append]; exact wrap_mod h.cap_pos
  · -- the new value is in the slot written; that slot held no unread value
    intro i hi1 hi2
    show ((s.writes ++ [(tid, v)])[i]?).map (·.2) = some (upd s.ring s.produceAt v (i % s.cap))
    have hi1 : s.reads.length ≤ i := hi1
    have hi2 : i < (s.writes ++ [(tid, v)]).length := hi2
    rw [List.length_append, List.length_singleton] at hi2
    by_cases e : i = s.writes.length
    · subst e
      simp [upd, h.pat]
    · have hi3 : i < s.writes.length := by omega
      have hne := h.slot_free hlt i hi1 hi3
      rw [List.getElem?_append_left hi3, h.ringv i hi1 hi3]
      simp [upd, hne]
  · show s.reads.map (·.2) = ((s.writes ++ [(tid, v)]).map (·.2)).take s.reads.length
    rw [List.map_append, List.take_append_of_le_length (by simpa using hle)]
    exact h.fifo
  · refine thr_update h.thr hth ⟨nofun, nofun, fun _ => ?_, by simp [hr], by simp [hr], by simp [hr]⟩ ?_
    · show th.orig = writesOf (s.writes ++ [(tid, v)]) tid ++ rest
      rw [writesOf_append_self, ok.p_orig hr, hi]; simp
    · intro t th0 hne h0
      exact h0.frame (writesOf_append_other _ _ (Ne.symm hne)) rfl

theorem core_cons_body (h : Core s)
    (hth : s.threads[tid]? = some th) (hr : th.role = .cons) (hp : th.pc = .body) :
    Core { s.setT tid { th with pc := .unlock, quota := th.quota - 1, got := th.got ++ [s.ring s.consumeAt] } with
          consumeAt := wrap s.cap s.consumeAt
          reads := s.reads ++ [(tid, s.ring s.consumeAt)] } := by
  have ok := h.thr tid th hth
  have hq : 0 < th.quota := ok.c_pos hr (Or.inr (Or.inr hp))
  obtain ⟨hlt, hv⟩ := unread_of_consumer h hth hr hp
  obtain ⟨acct, occ⟩ := counts_set h hth
    { th with pc := .unlock, quota := th.quota - 1, got := th.got ++ [s.ring s.consumeAt] }
    (e := s.empty) (u := s.used) (W := s.writes.length) (R := (s.reads ++ [(tid, s.ring s.consumeAt)]).length)
    (by simp [tokens, hr, hp]) (by simp [tokens, hr, hp]; omega)
  refine { cap_pos := h.cap_pos, acct := acct, occ := occ, pat := h.pat, cat := ?_, ringv := ?_, fifo := ?_,
           pm := h.pm.frame hth (by simp [holdsP, hr]), cm := h.cm.frame hth (by simp [holdsC, hr, hp]), thr := ?_ }
  · show wrap s.cap s.consumeAt = (s.reads ++ [(tid, s.ring s.consumeAt)]).length % s.cap
    rw [h.cat, List.length_append]; exact wrap_mod h.cap_pos
  · intro i hi1 hi2
    have hi1 : (s.reads ++ [(tid, s.ring s.consumeAt)]).length ≤ i := hi1
    rw [List.length_append] at hi1
    exact h.ringv i (by omega) hi2
  · show (s.reads ++ [(tid, s.ring s.consumeAt)]).map (·.2)
        = (s.writes.map (·.2)).take (s.reads ++ [(tid, s.ring s.consumeAt)]).length
    rw [List.length_append, List.length_singleton, List.take_add_one, ← h.fifo, List.getElem?_map, hv]
    simp
  · refine thr_update h.thr hth ⟨by simp [hr], by simp [hr], by simp [hr], nofun, nofun, fun _ => ?_⟩ ?_
    · show th.got ++ [s.ring s.consumeAt] = writesOf (s.reads ++ [(tid, s.ring s.consumeAt)]) tid
      rw [writesOf_append_self, ok.c_got hr]
    · intro t th0 hne h0
      exact h0.frame rfl (writesOf_append_other _ _ (Ne.symm hne))

theorem ThreadOK.move (ok : ThreadOK s t th) {pc' : PC} {x y : Nat × Nat × Option Nat}
    (hm : Move t th.next th.pc pc' x y) : ThreadOK s t { th with pc := pc' } := by
  obtain ⟨role, pc, items, orig, quota, got⟩ := th
  -- a move either is the `post`, or leads neither to `done` nor from after the body to before it
  have key : (pc = .post ∧ pc' = Thread.next ⟨role, pc, items, orig, quota, got⟩)
      ∨ (pc' ≠ .done ∧ ((pc' = .wait ∨ pc' = .lock ∨ pc' = .body) → (pc = .wait ∨ pc = .lock ∨ pc = .body))) := by
    cases hm <;> simp
  rcases key with ⟨-, rfl⟩ | ⟨hnd, hpre⟩
  · refine ⟨fun hr hp => ?_, fun hr hp => ?_, ok.p_orig, fun hr hp => ?_, fun hr hp => ?_, ok.c_got⟩ <;>
      cases hr <;> simp only [Thread.next] at hp
    · rcases nextProd_cases items with ⟨e, _⟩ | ⟨_, e⟩
      · rw [e] at hp; simp at hp
      · exact e
    · rcases nextProd_cases items with ⟨_, e⟩ | ⟨e, _⟩
      · exact e
      · rw [e] at hp; cases hp
    · rcases nextCons_cases quota with ⟨e, _⟩ | ⟨_, e⟩
      · rw [e] at hp; simp at hp
      · exact e
    · rcases nextCons_cases quota with ⟨_, e⟩ | ⟨e, _⟩
      · exact e
      · rw [e] at hp; cases hp
  · exact ⟨fun hr hp => ok.p_nonempty hr (hpre hp), fun _ hp => absurd hp hnd, ok.p_orig,
      fun hr hp => ok.c_pos hr (hpre hp), fun _ hp => absurd hp hnd, ok.c_got⟩

theorem core_step (h : Core s) (hs : step s t = some s') : Core s' := by
  obtain ⟨th, hth⟩ := step_entry hs
  have ok := h.thr t th hth
  rcases step_cases hth hs with ⟨pc', e, u, pm, cm, rfl, hrole⟩ | ⟨hr, hp, v, rest, hi, rfl⟩ | ⟨hr, hp, rfl⟩
  · rcases hrole with ⟨hr, rfl, hm⟩ | ⟨hr, rfl, hm⟩
    · obtain ⟨h1, h2⟩ := hm.tokens
      exact core_control h hth (by simp [tokens, hr]; omega) (by simp [tokens, hr]; omega)
        (hm.mutex h.pm hth (by simp [holdsP, hr]) (by simp [holdsP, hr]))
        (h.cm.frame hth (by simp [holdsC, hr]))
        (ok.move hm)
    · obtain ⟨h1, h2⟩ := hm.tokens
      exact core_control h hth (by simp [tokens, hr]; omega) (by simp [tokens, hr]; omega)
        (h.pm.frame hth (by simp [holdsP, hr]))
        (hm.mutex h.cm hth (by simp [holdsC, hr]) (by simp [holdsC, hr]))
        (ok.move hm)
  · exact core_prod_body h hth hr hp hi
  · exact core_cons_body h hth hr hp

theorem conserved_step (h : Core s) (hs : step s t = some s') :
    sumBy remP s'.threads + s'.writes.length = sumBy remP s.threads + s.writes.length
    ∧ sumBy remC s'.threads + s'.reads.length = sumBy remC s.threads + s.reads.length := by
  obtain ⟨th, hth⟩ := step_entry hs
  have key : ∀ (th' : Thread) (W' R' : Nat), remP th' + W' = remP th + s.writes.length →
      remC th' + R' = remC th + s.reads.length →
      sumBy remP (s.threads.set t th') + W' = sumBy remP s.threads + s.writes.length
      ∧ sumBy remC (s.threads.set t th') + R' = sumBy remC s.threads + s.reads.length := by
    intro th' W' R' hP hQ
    have := sumBy_set (f := remP) hth th'
    have := sumBy_set (f := remC) hth th'
    omega
  rcases step_cases hth hs with ⟨pc', e, u, pm, cm, rfl, -⟩ | ⟨hr, hp, v, rest, hi, rfl⟩ | ⟨hr, hp, rfl⟩
  · exact key _ _ _ rfl rfl
  · exact key _ (s.writes ++ [(t, v)]).length s.reads.length (by simp [remP, hr, hi]; omega) (by simp [remC, hr])
  · have hq : 0 < th.quota := (h.thr t th hth).c_pos hr (Or.inr (Or.inr hp))
    exact key _ s.writes.length (s.reads ++ [(t, s.ring s.consumeAt)]).length (by simp [remP, hr])
      (by simp [remC, hr]; omega)

theorem inv_step (h : Inv dP dC s) (hs : step s t = some s') : Inv dP dC s' :=
  (core_step h.core hs).inv (by have := conserved_step h.core hs; have := h.balance; omega)

theorem inFlight_zero (hp : th.pc = .wait ∨ th.pc = .done) :
    isA th = 0 ∧ isB th = 0 ∧ isC th = 0 ∧ isD th = 0 := by
  rcases hp with hp | hp <;> simp [tokens, hp]

theorem quiet_sums {l : List Thread} (hq : ∀ (t : Nat) (th : Thread), l[t]? = some th → th.pc = .wait ∨ th.pc = .done) :
    sumBy isA l = 0 ∧ sumBy isB l = 0 ∧ sumBy isC l = 0 ∧ sumBy isD l = 0 :=
  ⟨sumBy_eq_zero fun t th hth => (inFlight_zero (hq t th hth)).1,
   sumBy_eq_zero fun t th hth => (inFlight_zero (hq t th hth)).2.1,
   sumBy_eq_zero fun t th hth => (inFlight_zero (hq t th hth)).2.2.1,
   sumBy_eq_zero fun t th hth => (inFlight_zero (hq t th hth)).2.2.2⟩

theorem quiet_mutex {l : List Thread} (hq : ∀ (t : Nat) (th : Thread), l[t]? = some th → th.pc = .wait ∨ th.pc = .done)
    {H : Thread → Prop} (hH : ∀ th, H th → th.pc = .body ∨ th.pc = .unlock) : MutexOK none l H :=
  ⟨nofun, fun t th hth hh => by
    rcases hq t th hth with e | e <;> rcases hH th hh with e' | e' <;> rw [e] at e' <;> cases e'⟩

theorem inv_init (cap : Nat) (ps : List (List Nat)) (qs : List Nat) (hcap : 0 < cap)
    : Inv (ps.map List.length).sum qs.sum (mkInit cap ps qs) := by
  have hth : ∀ (t : Nat) (th : Thread), (mkInit cap ps qs).threads[t]? = some th →
      (∃ a, th = mkProd a) ∨ (∃ q, th = mkCons q) := fun _ _ h => by
    rcases List.mem_append.mp (List.mem_of_getElem? h) with h1 | h1
    · obtain ⟨a, _, ha⟩ := List.mem_map.mp h1
      exact Or.inl ⟨a, ha.symm⟩
    · obtain ⟨a, _, ha⟩ := List.mem_map.mp h1
      exact Or.inr ⟨a, ha.symm⟩
  have hq : ∀ (t : Nat) (th : Thread), (mkInit cap ps qs).threads[t]? = some th → th.pc = .wait ∨ th.pc = .done := by
    intro t th h
    rcases hth t th h with ⟨a, rfl⟩ | ⟨q, rfl⟩
    · rcases nextProd_cases a with ⟨e, _⟩ | ⟨e, _⟩ <;> simp [mkProd, e]
    · rcases nextCons_cases q with ⟨e, _⟩ | ⟨e, _⟩ <;> simp [mkCons, e]
  obtain ⟨zA, zB, zC, zD⟩ := quiet_sums hq
  refine { cap_pos := hcap, acct := ?_, occ := ?_, pat := ?_, cat := ?_, ringv := ?_, fifo := ?_,
           pm := quiet_mutex hq fun _ hh => hh.2, cm := quiet_mutex hq fun _ hh => hh.2, balance := ?_, thr := ?_ }
  · rw [zA, zB, zC, zD]; rfl
  · rw [zB, zC]; rfl
  · exact (Nat.zero_mod _).symm
  · exact (Nat.zero_mod _).symm
  · intro i _ h2; exact absurd h2 (Nat.not_lt_zero _)
  · rfl
  · show sumBy remP (ps.map mkProd ++ qs.map mkCons) + 0 + qs.sum
        = sumBy remC (ps.map mkProd ++ qs.map mkCons) + 0 + (ps.map List.length).sum
    simp [sumBy_append, sumBy_map, remP, remC, mkProd, mkCons, List.map_const']
    exact Nat.add_comm _ _
  · intro t th h0
    rcases hth t th h0 with ⟨a, rfl⟩ | ⟨q, rfl⟩
    · refine ⟨fun _ hp => ?_, fun _ hp => ?_, fun _ => rfl, nofun, nofun, nofun⟩ <;>
        cases a <;> simp [mkProd, nextProd] at hp ⊢
    · refine ⟨nofun, nofun, nofun, fun _ hp => ?_, fun _ hp => ?_, fun _ => rfl⟩ <;>
        by_cases e : q = 0 <;> simp [mkCons, nextCons, e] at hp ⊢
      omega

theorem inv_reach {s0 s : State} (h0 : Inv dP dC s0) (hr : Reach s0 s) : Inv dP dC s := by
  induction hr with
  | init => exact h0
  | step _ hs ih => exact inv_step ih hs

theorem cap_reach {s0 s : State} (hr : Reach s0 s) : s.cap = s0.cap := by
  induction hr with
  | init => rfl
  | step _ hs ih => exact (cap_step hs).trans ih

end KV.PCQueue
