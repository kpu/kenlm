/-! Facts about lists and options that are not about tries, for the trie files and Proofs/SearchSim.lean (core imports only;
Proofs/Basics.lean is the other such module). -/
namespace KV

theorem getD_mem {α} {l : List α} {c : Nat} (d : α) (hc : c < l.length) : l.getD c d ∈ l :=
  List.getElem_eq_getD (h := hc) d ▸ List.getElem_mem hc

theorem getD_map {α β} (f : α → β) (l : List α) (d : α) (d' : β) {i : Nat} (h : i < l.length) :
    (l.map f).getD i d' = f (l.getD i d) := by
  rw [← List.getElem_eq_getD (h := by rw [List.length_map]; exact h), ← List.getElem_eq_getD (h := h), List.getElem_map]

theorem append_congr₃ {α} {a b b' c c' : List α} (hb : b = b') (hc : c = c') : a ++ b ++ c = a ++ b' ++ c' := by rw [hb, hc]

theorem pairwise_trichotomy {α} {R : α → α → Prop} {l : List α} (h : l.Pairwise R) :
    ∀ a ∈ l, ∀ b ∈ l, a = b ∨ R a b ∨ R b a := by
  induction l with
  | nil => intro a ha; simp at ha
  | cons x xs ih =>
    have hp := List.pairwise_cons.mp h
    intro a ha b hb
    rcases List.mem_cons.mp ha with ha | ha <;> rcases List.mem_cons.mp hb with hb | hb
    · left; rw [ha, hb]
    · right; left; rw [ha]; exact hp.1 b hb
    · right; right; rw [hb]; exact hp.1 a ha
    · exact ih hp.2 a ha b hb

theorem split_last {α} (l g : List α) (w : α) : (l.length = g.length + 1 ∧ l.dropLast = g ∧ l.getLast? = some w) ↔ l = g ++ [w] := by
  constructor
  · rintro ⟨_, h2, h3⟩
    have hne : l ≠ [] := by intro e; rw [e] at h3; simp at h3
    have h4 : l.getLast hne = w := by
      rw [List.getLast?_eq_some_getLast hne] at h3; exact Option.some.inj h3
    have := List.dropLast_concat_getLast hne
    rw [h2, h4] at this; exact this.symm
  · rintro rfl; simp

theorem sum_take_le (l : List Nat) (i : Nat) : (l.take i).sum ≤ l.sum := by
  induction l generalizing i with
  | nil => simp
  | cons x xs ih =>
    cases i with
    | zero => simp
    | succ i => simp only [List.take_succ_cons, List.sum_cons]; have := ih i; omega

theorem zip_range_mem {α} [Inhabited α] (l : List α) (j : Nat) (hj : j < l.length) : (l.getD j default, j) ∈ l.zip (List.range l.length) := by
  rw [List.mem_iff_getElem]
  refine ⟨j, by simpa using hj, ?_⟩
  rw [List.getElem_zip, List.getElem_range, ← List.getElem_eq_getD (h := hj)]

theorem zip_range_of_mem {α} [Inhabited α] (l : List α) (mi : α × Nat) (h : mi ∈ l.zip (List.range l.length)) :
    mi.2 < l.length ∧ mi.1 = l.getD mi.2 default := by
  obtain ⟨idx, hidx, hget⟩ := List.mem_iff_getElem.mp h
  simp only [List.length_zip, List.length_range, Nat.min_self] at hidx
  simp only [List.getElem_zip, List.getElem_range] at hget
  subst hget
  exact ⟨hidx, List.getElem_eq_getD default⟩

theorem zip_range_map {α β} (l : List α) (d : α) (g : α × Nat → β) :
    (l.zip (List.range l.length)).map g = (List.range l.length).map (fun j => g (l.getD j d, j)) := by
  apply List.ext_getElem
  · simp
  · intro i h1 h2
    simp at h1
    simp [List.getD_eq_getElem?_getD, h1]

theorem zip_range_flatMap {α β} [Inhabited α] (l : List α) (g : α × Nat → List β) :
    (l.zip (List.range l.length)).flatMap g = (List.range l.length).flatMap (fun j => g (l.getD j default, j)) := by
  rw [List.flatMap_def, List.flatMap_def, zip_range_map l default g]

theorem lookup_map {κ β γ} [BEq κ] [LawfulBEq κ] (f : κ → β → γ) (l : List (κ × β)) (g : κ) :
    (l.map fun p => (p.1, f p.1 p.2)).lookup g = (l.lookup g).map (f g) := by
  induction l with
  | nil => rfl
  | cons p ps ih =>
    rw [List.map_cons, List.lookup_cons, List.lookup_cons, ih]
    cases h : g == p.1 with
    | false => rfl
    | true => rw [beq_iff_eq.mp h]; rfl

theorem rel_of_eq {α} {r : α → α → Prop} (hr : ∀ a, r a a) {o₁ o₂ : Option α} (h : o₁ = o₂) : Option.Rel r o₁ o₂ := by
  subst h
  cases o₁ with
  | none => exact .none
  | some a => exact .some (hr a)

theorem rel_map {α β α' β'} {r : α → β → Prop} {r' : α' → β' → Prop} {f : α → α'} {g : β → β'} {o₁ : Option α}
    {o₂ : Option β} (h : Option.Rel r o₁ o₂) (hr : ∀ a b, r a b → r' (f a) (g b)) : Option.Rel r' (o₁.map f) (o₂.map g) := by
  cases h with
  | none => exact .none
  | some h => exact .some (hr _ _ h)

section
variable {α β : Type} {r : α → β → Prop} {o₁ : Option α} {o₂ : Option β}

theorem rel_imp {r' : α → β → Prop} (h : Option.Rel r o₁ o₂) (hr : ∀ a b, r a b → r' a b) : Option.Rel r' o₁ o₂ := by
  cases h with
  | none => exact .none
  | some h => exact .some (hr _ _ h)

theorem rel_ne_none (h : Option.Rel r o₁ o₂) : o₂ ≠ none → o₁ ≠ none := by
  cases h with
  | none => exact fun h => absurd rfl h
  | some _ => exact fun _ => Option.some_ne_none _

theorem rel_some {a : α} (h : Option.Rel r (some a) o₂) : ∃ b, o₂ = some b ∧ r a b := by
  cases h with
  | some k => exact ⟨_, rfl, k⟩

theorem rel_of_map_eq {γ : Type} {f : α → γ} {g : β → γ} (h : o₁.map f = o₂.map g) : Option.Rel (fun a b => f a = g b) o₁ o₂ := by
  cases o₁ <;> cases o₂
  · exact .none
  · cases h
  · cases h
  · exact .some (Option.some.inj h)

end

end KV
