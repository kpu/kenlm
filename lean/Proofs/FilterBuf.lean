import Model.FilterCtl
/-!
`MultipleOutputBuffer` with `last_` cleared at the start of a use: `CallFilter` followed by
`Flush` makes exactly the calls of the sequential filter on the lines of the batch.
-/
namespace KV.FilterCtl
open KV.Filter (Verdict)
variable {α : Type}

/-- the calls the sequential filter makes for the lines `xs` -/
def evs (f : α → Verdict) (xs : List α) : List (OutEv α) := xs.flatMap (itemEvents f)

@[simp] theorem evs_nil (f : α → Verdict) : evs f [] = [] := rfl
theorem evs_append (f : α → Verdict) (a b : List α) : evs f (a ++ b) = evs f a ++ evs f b := by
  simp [evs]
@[simp] theorem evs_single (f : α → Verdict) (x : α) : evs f [x] = itemEvents f x := by
  simp [evs]


/-! `events_cons`, `events_last`: equations of `OutBuf.events` that nothing in the development uses. -/

theorem events_cons (a : Annot α) (r : List (Annot α)) (l : Option Addr) :
    (OutBuf.events ⟨a :: r, l⟩) = (OutBuf.events ⟨r, l⟩) ++ a.events := by
  simp [OutBuf.events, List.flatMap_append]

theorem events_last (r : List (Annot α)) (l l' : Option Addr) :
    (OutBuf.events ⟨r, l⟩) = (OutBuf.events ⟨r, l'⟩) := rfl

theorem addKs_same (a : Addr) (x : α) (ks sys : List Nat) (r : List (Annot α)) (u : Bool) :
    addKs a x ks (⟨⟨sys, x⟩ :: r, some a⟩, u) = (⟨⟨sys ++ ks, x⟩ :: r, some a⟩, u) := by
  induction ks generalizing sys u with
  | nil => simp [addKs]
  | cons k ks ih =>
    simp only [addKs, OutBuf.addSingle, if_true, Bool.or_false]
    rw [ih]
    simp

theorem addKs_fresh (a : Addr) (x : α) (k : Nat) (ks : List Nat) (b : OutBuf α) (u : Bool)
    (h : b.last ≠ some a) :
    addKs a x (k :: ks) (b, u) = (⟨⟨k :: ks, x⟩ :: b.rev, some a⟩, u) := by
  simp only [addKs, OutBuf.addSingle, if_neg h, Bool.or_false]
  rw [addKs_same]
  simp

/-- state of the buffer while lines `0 … i-1` of batch `id` have been filtered: no `back()` of an
empty vector so far, and `last_` is not the address of a line still to come -/
structure BufOk (id i : Nat) (st : OutBuf α × Bool) : Prop where
  noUb : st.2 = false
  last : ∀ j len, st.1.last = some (id, j, len) → j < i

theorem addItem_ok (cfg : Cfg α) (id i : Nat) (x : α) (st : OutBuf α × Bool) (h : BufOk id i st) :
    BufOk id (i+1) (addItem cfg id i x st) ∧
    (addItem cfg id i x st).1.events = st.1.events ++ itemEvents cfg.f x := by
  obtain ⟨⟨r, l⟩, u⟩ := st
  obtain ⟨hu, hl⟩ := h
  subst hu
  have hkeep : ∀ j len, l = some (id, j, len) → j < i + 1 := fun j len e => Nat.lt_succ_of_lt (hl j len e)
  unfold addItem itemEvents
  cases hf : cfg.f x with
  | all => exact ⟨⟨rfl, hkeep⟩, by simp [OutBuf.addAll, OutBuf.events, Annot.events]⟩
  | only ks =>
    cases ks with
    | nil => exact ⟨⟨rfl, hkeep⟩, by simp [addKs]⟩
    | cons k ks =>
      dsimp only
      rw [addKs_fresh _ _ _ _ _ _ fun e => Nat.lt_irrefl i (hl i _ e)]
      refine ⟨⟨rfl, fun j len e => ?_⟩, by simp [OutBuf.events, Annot.events]⟩
      injection e with e; injection e with _ e; injection e with e _
      exact e ▸ Nat.lt_succ_self i

theorem callFilterFrom_ok (cfg : Cfg α) (id : Nat) (xs : List α) (i : Nat) (st : OutBuf α × Bool)
    (h : BufOk id i st) :
    (callFilterFrom cfg id i xs st).2 = false ∧
    (callFilterFrom cfg id i xs st).1.events = st.1.events ++ evs cfg.f xs := by
  induction xs generalizing i st with
  | nil => simp [callFilterFrom, h.noUb]
  | cons x xs ih =>
    obtain ⟨h1, h2⟩ := addItem_ok cfg id i x st h
    obtain ⟨g1, g2⟩ := ih (i+1) _ h1
    simp only [callFilterFrom]
    refine ⟨g1, ?_⟩
    rw [g2, h2, List.append_assoc, ← evs_single, ← evs_append]; rfl

theorem callFilter_clean (cfg : Cfg α) (b : Batch α) (hb : b.out = {}) :
    (callFilter cfg b).2 = false ∧ (callFilter cfg b).1.out.events = evs cfg.f b.input := by
  have h := callFilterFrom_ok cfg b.id b.input 0 (b.out, false) ⟨rfl, fun j len e => by rw [hb] at e; cases e⟩
  refine ⟨h.1, ?_⟩
  simp only [callFilter]
  rw [h.2, hb]
  simp [OutBuf.events]

theorem flushed_fixed (v : Variant) (hv : v = Variant.fixed) (o : OutBuf α) : o.flushed v = {} := by
  subst hv; simp [OutBuf.flushed, Variant.fixed]

end KV.FilterCtl
