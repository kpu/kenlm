import Model.Interp
import Proofs.Basics
/-!
`BoundedSequenceEncoding`: `Decode (Encode v) = v` for every bound vector and every value vector
within the field widths, any number of entries (any number of 64-bit words).  Core-only proofs,
everything is reduced to `Nat.testBit`.
-/
namespace KV.Interp.BSE

/-- the entries produced by the constructor form a chain: a field either continues the current
word at the running shift, or starts a new word at shift 0; it never crosses bit 64. -/
inductive Chain : Nat → List Ent → Prop
  | nil (s : Nat) : Chain s []
  | cont (s : Nat) (e : Ent) (es : List Ent) : e.next = false → e.shift = s → s + e.len ≤ 64 →
      Chain (s + e.len) es → Chain s (e :: es)
  | next (s : Nat) (e : Ent) (es : List Ent) : e.next = true → e.shift = 0 → e.len ≤ 64 →
      Chain e.len es → Chain s (e :: es)

theorem bitLen_le (b : Nat) (hb : b < 256) : bitLen b ≤ 8 := by
  unfold bitLen
  split
  · omega
  · have : Nat.log2 b < 8 := (Nat.log2_lt (by omega)).2 (by omega)
    omega

theorem chain_build : ∀ (bounds : List Nat) (s : Nat), (∀ b ∈ bounds, b < 256) →
    Chain s (build bounds s).1
  | [], s, _ => Chain.nil s
  | b :: bs, s, h => by
    have hb := bitLen_le b (h b List.mem_cons_self)
    have hbs : ∀ x ∈ bs, x < 256 := fun x hx => h x (List.mem_cons_of_mem _ hx)
    unfold build
    split
    · exact Chain.next s _ _ rfl rfl (by simp; omega) (chain_build bs _ hbs)
    · exact Chain.cont s _ _ rfl rfl (by simp; omega) (chain_build bs _ hbs)

def Fits : List Ent → List Nat → Prop
  | [], [] => True
  | e :: es, v :: vs => v < 2^e.len ∧ Fits es vs
  | _, _ => False

theorem testBit_wordsToNat_cons (w : Nat) (ws : List Nat) (i : Nat) :
    (wordsToNat (w :: ws)).testBit i =
      if i < 64 then w.testBit i else (wordsToNat ws).testBit (i - 64) := by
  have hw : wordsToNat (w :: ws) = (w % 2^64) ||| (wordsToNat ws <<< 64) := rfl
  rw [hw]
  rw [Nat.testBit_or, Nat.testBit_mod_two_pow, Nat.testBit_shiftLeft]
  by_cases h : i < 64
  · have h' : ¬ 64 ≤ i := by omega
    simp [h, h']
  · have h' : 64 ≤ i := by omega
    simp [h, h']

theorem wordsToNat_cons_shiftRight (w : Nat) (ws : List Nat) :
    wordsToNat (w :: ws) >>> 64 = wordsToNat ws := by
  apply Nat.eq_of_testBit_eq
  intro j
  rw [Nat.testBit_shiftRight, testBit_wordsToNat_cons, if_neg (by omega), Nat.add_sub_cancel_left]

theorem testBit_or_shiftLeft (cur v s : Nat) {i : Nat} (hi : i < 64) :
    ((cur ||| (v <<< s)) % 2^64).testBit i = (cur.testBit i || (decide (s ≤ i) && v.testBit (i - s))) := by
  rw [Nat.testBit_mod_two_pow, Nat.testBit_or, Nat.testBit_shiftLeft]
  simp [hi]

theorem or_shiftLeft_lt {cur v s len : Nat} (hcur : cur < 2^s) (hv : v < 2^len) :
    (cur ||| (v <<< s)) % 2^64 < 2^(s + len) := by
  apply Nat.lt_of_le_of_lt (Nat.mod_le _ _)
  apply Nat.or_lt_two_pow
  · exact Nat.lt_of_lt_of_le hcur (Nat.pow_le_pow_right (by omega) (by omega))
  · rw [Nat.shiftLeft_eq, Nat.pow_add, Nat.mul_comm]
    exact Nat.mul_lt_mul_of_pos_left hv (Nat.two_pow_pos s)

theorem field_eq {w sh len v : Nat} (hv : v < 2^len) (h64 : sh + len ≤ 64)
    (hbits : ∀ j, j < len → w.testBit (sh + j) = v.testBit j) :
    ((w % 2^64) >>> sh) % 2^len = v := by
  apply Nat.eq_of_testBit_eq
  intro j
  rw [Nat.testBit_mod_two_pow, Nat.testBit_shiftRight, Nat.testBit_mod_two_pow]
  by_cases hj : j < len
  · simp [hj, show sh + j < 64 by omega, hbits j hj]
  · simp only [hj, decide_false, Bool.false_and]
    exact (KV.testBit_of_lt_two_pow hv (by omega)).symm

def bitsUsed : Nat → List Ent → Nat
  | s, [] => s
  | s, e :: es => if e.next then 64 + bitsUsed e.len es else bitsUsed (s + e.len) es

theorem build_bits : ∀ (bounds : List Nat) (s : Nat),
    64 * (build bounds s).2.2 + (build bounds s).2.1 = bitsUsed s (build bounds s).1
  | [], s => by simp [build, bitsUsed]
  | b :: bs, s => by
    unfold build
    split
    · have := build_bits bs (bitLen b)
      simp only [bitsUsed, if_true]
      omega
    · have := build_bits bs (s + bitLen b)
      simp only [bitsUsed, Bool.false_eq_true, if_false]
      omega

/-- **main invariant**: the words written from state `cur` (whose bits below `s` are already fixed)
decode to the values, the first word keeps the bits of `cur` below `s`, and nothing is written above
the bits accounted for by `byte_length_`. -/
theorem encWords_spec : ∀ (es : List Ent) (s : Nat) (vs : List Nat) (cur : Nat),
    Chain s es → s ≤ 64 → cur < 2^s → Fits es vs →
    decM es (wordsToNat (encWords es vs cur)) = vs ∧
      (∀ i, i < s → (wordsToNat (encWords es vs cur)).testBit i = cur.testBit i) ∧
      (∀ i, bitsUsed s es ≤ i → (wordsToNat (encWords es vs cur)).testBit i = false) := by
  intro es
  induction es with
  | nil =>
    intro s vs cur _ hs hcur hf
    have henc : encWords [] vs cur = [cur] := by cases vs <;> rfl
    rw [henc]
    refine ⟨?_, fun i hi => ?_, fun i hi => ?_⟩
    · cases vs with
      | nil => rfl
      | cons v vs => exact absurd hf (by simp [Fits])
    · rw [testBit_wordsToNat_cons, if_pos (Nat.lt_of_lt_of_le hi hs)]
    · rw [testBit_wordsToNat_cons]
      split
      · exact KV.testBit_of_lt_two_pow hcur hi
      · exact Nat.zero_testBit _
  | cons e es ih =>
    intro s vs cur hc hs hcur hf
    obtain ⟨v, vs, rfl⟩ : ∃ v vs', vs = v :: vs' := by
      cases vs with
      | nil => exact absurd hf (by simp [Fits])
      | cons v vs' => exact ⟨v, vs', rfl⟩
    obtain ⟨hv, hf'⟩ := hf
    cases hc with
    | cont _ _ _ hn hsh hle hc' =>
      subst hsh
      obtain ⟨ih1, ih2, ih3⟩ :=
        ih (e.shift + e.len) vs _ hc' hle (or_shiftLeft_lt hcur hv) hf'
      have henc : encWords (e :: es) (v :: vs) cur =
          encWords es vs ((cur ||| (v <<< e.shift)) % 2^64) := by
        rw [encWords, if_neg (by rw [hn]; exact Bool.false_ne_true)]
      have hdec : ∀ m, decM (e :: es) m = (((m % 2^64) >>> e.shift) % 2^e.len) :: decM es m := by
        intro m; rw [decM]; simp only [hn, Bool.false_eq_true, if_false]
      have hused : bitsUsed e.shift (e :: es) = bitsUsed (e.shift + e.len) es := by
        rw [bitsUsed, if_neg (by rw [hn]; exact Bool.false_ne_true)]
      rw [henc, hdec, ih1]
      refine ⟨?_, fun i hi => ?_, fun i hi => ih3 i (hused ▸ hi)⟩
      · congr 1
        refine field_eq hv hle (fun j hj => ?_)
        rw [ih2 _ (Nat.add_lt_add_left hj _),
          testBit_or_shiftLeft _ _ _ (Nat.lt_of_lt_of_le (Nat.add_lt_add_left hj _) hle),
          KV.testBit_of_lt_two_pow hcur (Nat.le_add_right _ _), Bool.false_or,
          decide_eq_true (Nat.le_add_right _ _), Bool.true_and, Nat.add_sub_cancel_left]
      · rw [ih2 i (Nat.lt_add_right _ hi), testBit_or_shiftLeft _ _ _ (Nat.lt_of_lt_of_le hi hs),
          decide_eq_false (Nat.not_le_of_lt hi), Bool.false_and, Bool.or_false]
    | next _ _ _ hn hsh hle hc' =>
      have hz : (v <<< e.shift) % 2^64 = v := by
        rw [hsh, Nat.shiftLeft_zero]
        exact Nat.mod_eq_of_lt (Nat.lt_of_lt_of_le hv (Nat.pow_le_pow_right Nat.two_pos hle))
      obtain ⟨ih1, ih2, ih3⟩ := ih e.len vs v hc' hle hv hf'
      have henc : encWords (e :: es) (v :: vs) cur = cur :: encWords es vs v := by
        rw [encWords, if_pos hn, hz]
      have hdec : ∀ m, decM (e :: es) m =
          ((((m >>> 64) % 2^64) >>> e.shift) % 2^e.len) :: decM es (m >>> 64) := by
        intro m; rw [decM]; simp only [hn, if_true]
      rw [henc, hdec, wordsToNat_cons_shiftRight, ih1]
      refine ⟨?_, fun i hi => ?_, fun i hi => ?_⟩
      · congr 1
        refine field_eq hv (by rw [hsh, Nat.zero_add]; exact hle) (fun j hj => ?_)
        rw [hsh, Nat.zero_add, ih2 j hj]
      · rw [testBit_wordsToNat_cons, if_pos (Nat.lt_of_lt_of_le hi hs)]
      · have hi' : 64 + bitsUsed e.len es ≤ i := by rwa [bitsUsed, if_pos hn] at hi
        rw [testBit_wordsToNat_cons, if_neg (Nat.not_lt.2 (Nat.le_trans (Nat.le_add_right _ _) hi'))]
        exact ih3 (i - 64) (Nat.le_sub_of_add_le' hi')

theorem decode_encode (bounds vs : List Nat) (hb : ∀ b ∈ bounds, b < 256)
    (hf : Fits (entries bounds) vs) : decode bounds (encode bounds vs) = vs := by
  have hc := chain_build bounds 0 hb
  have hlt : wordsToNat (encWords (entries bounds) vs 0) < 2^(8 * byteLength bounds) := by
    apply Nat.lt_pow_two_of_testBit
    intro i hi
    apply (encWords_spec (entries bounds) 0 vs 0 hc (by omega) (by simp) hf).2.2
    have hbits := build_bits bounds 0
    unfold byteLength at hi
    unfold entries
    simp only at hi
    omega
  unfold decode encode
  rw [Nat.mod_eq_of_lt hlt, Nat.mod_eq_of_lt hlt]
  exact (encWords_spec (entries bounds) 0 vs 0 hc (by omega) (by simp) hf).1

theorem lt_two_pow_bitLen {v b : Nat} (h : v < b) : v < 2^bitLen b := by
  unfold bitLen
  split
  · omega
  · exact Nat.lt_trans h Nat.lt_log2_self

/-- the contract of the class as used by `merge_probabilities.cc`: every `from` is strictly below
its bound `min(order, orderᵢ)` -/
def Below : List Nat → List Nat → Prop
  | [], [] => True
  | b :: bs, v :: vs => v < b ∧ Below bs vs
  | _, _ => False

instance decBelow : ∀ (bs vs : List Nat), Decidable (Below bs vs)
  | [], [] => isTrue trivial
  | [], _ :: _ => isFalse (by simp [Below])
  | _ :: _, [] => isFalse (by simp [Below])
  | b :: bs, v :: vs =>
    match Nat.decLt v b, decBelow bs vs with
    | isTrue h1, isTrue h2 => isTrue ⟨h1, h2⟩
    | isFalse h1, _ => isFalse (fun h => h1 h.1)
    | _, isFalse h2 => isFalse (fun h => h2 h.2)

theorem fits_of_below : ∀ (bounds vs : List Nat) (s : Nat), Below bounds vs →
    Fits (build bounds s).1 vs
  | [], [], _, _ => trivial
  | [], _ :: _, _, h => False.elim h
  | _ :: _, [], _, h => False.elim h
  | b :: bs, v :: vs, s, h => by
    obtain ⟨hv, hrest⟩ := h
    unfold build
    split <;> exact ⟨lt_two_pow_bitLen hv, fits_of_below bs vs _ hrest⟩

theorem bitLen_pos {b : Nat} (h : 2 ≤ b) : 0 < bitLen b := by
  unfold bitLen
  rw [if_neg (by omega)]
  omega

/-- with all bounds ≥ 2 (every component of order ≥ 2, n-gram order ≥ 2) every field has positive
width, so every shift is below 64 -/
theorem all_shift_lt : ∀ (bounds : List Nat) (s : Nat), (∀ b ∈ bounds, 2 ≤ b ∧ b < 256) →
    ∀ e ∈ (build bounds s).1, e.shift < 64
  | [], _, _ => by simp [build]
  | b :: bs, s, h => by
    have hb := h b List.mem_cons_self
    have hpos := bitLen_pos hb.1
    have hbs : ∀ x ∈ bs, 2 ≤ x ∧ x < 256 := fun x hx => h x (List.mem_cons_of_mem _ hx)
    unfold build
    split
    · intro e he
      rcases List.mem_cons.1 he with rfl | he
      · simp
      · exact all_shift_lt bs _ hbs e he
    · intro e he
      rcases List.mem_cons.1 he with rfl | he
      · simp only; omega
      · exact all_shift_lt bs _ hbs e he

theorem ubFree_of_two_le (bounds : List Nat) (h : ∀ b ∈ bounds, 2 ≤ b ∧ b < 256) :
    ubFree bounds = true := by
  unfold ubFree entries
  rw [List.all_eq_true]
  intro e he
  simpa using all_shift_lt bounds 0 h e he

/-- unigram records: all bounds are 1, all fields have width 0 at shift 0 -/
theorem ubFree_replicate_one (n : Nat) : ubFree (List.replicate n 1) = true := by
  have hb : ∀ (n s : Nat), s < 64 → ∀ e ∈ (build (List.replicate n 1) s).1, e.shift < 64 := by
    intro n
    induction n with
    | zero => intro s _; simp [build]
    | succ k ih =>
      intro s hs e he
      rw [List.replicate_succ] at he
      unfold build at he
      have hl : bitLen 1 = 0 := by simp [bitLen]
      rw [hl] at he
      rw [if_neg (by omega)] at he
      rcases List.mem_cons.1 he with rfl | he
      · exact hs
      · exact ih s hs e (by simpa using he)
  unfold ubFree entries
  rw [List.all_eq_true]
  intro e he
  simpa using hb n 0 (by omega) e he

end KV.Interp.BSE
