import Proofs.ProbingBuildLists
import Proofs.TableBuild
/-! The stored keys of the builder: a key is a reversed n-gram (newest word first), so `p.take j` is the suffix of order `j` of the
n-gram `p` and `p.drop 1` its context.  The keys of one order (`keysOf`), the two marks a key receives from the keys of the next
order (`endsInK`, `startsWithK`), the keys a line adds (`missing`, `addLineKeys`, `foldKeys`), the shape of a line relative to the
stored keys (`Blanks S p b L`: suffix of order `b` stored, `L` blanks above it) with the key set after the line, the keys of
`Table.build a` with their value (`IsKey`, `val`), and the invariants of the stored-key set along the file (`SInv`, `sInv_addLine`). -/
namespace KV.ProbingBuild
open KV.Arpa KV.Table KV.Score KV.ProbingLM

abbrev Key := List Word

abbrev Line := List Word × Entry

/-- the stored keys of order `m`, in the order of insertion: the content of the table of that order -/
def keysOf (S : List Key) (m : Nat) : List Key := S.filter (fun k => k.length == m)

/-- some stored key of the next order has `h` as its suffix (as lists: `take`): the n-gram `h` extends to the left, its sign bit is
cleared -/
def endsInK (S : List Key) (h : Key) : Bool := S.any fun k => k.length == h.length + 1 && k.take h.length == h

/-- some stored key of the next order has `h` as its context (`drop 1`): `h` extends to the right, its extension bit is set -/
def startsWithK (S : List Key) (h : Key) : Bool := S.any fun k => k.length == h.length + 1 && k.drop 1 == h

theorem keysOf_append_same (S : List Key) (g : Key) (m : Nat) (h : g.length = m) : keysOf (S ++ [g]) m = keysOf S m ++ [g] := by
  simp [keysOf, List.filter_append, h]

theorem keysOf_append_other (S : List Key) (g : Key) (m : Nat) (h : g.length ≠ m) : keysOf (S ++ [g]) m = keysOf S m := by
  simp [keysOf, List.filter_append, h]

theorem keysOf_append_list (S X : List Key) (m : Nat) : keysOf (S ++ X) m = keysOf S m ++ keysOf X m := by
  simp [keysOf, List.filter_append]

theorem mem_keysOf (S : List Key) (m : Nat) (k : Key) : k ∈ keysOf S m ↔ k ∈ S ∧ k.length = m := by
  simp [keysOf]

theorem keysOf_len (S : List Key) (m : Nat) (k : Key) (hk : k ∈ keysOf S m) : k.length = m := ((mem_keysOf S m k).mp hk).2

theorem keysOf_mem (S : List Key) (m : Nat) (k : Key) (hk : k ∈ keysOf S m) : k ∈ S := ((mem_keysOf S m k).mp hk).1

theorem keysOf_len_mono (S X : List Key) (m : Nat) : (keysOf S m).length ≤ (keysOf (S ++ X) m).length := by
  simp [keysOf, List.filter_append]

theorem endsInK_append (S : List Key) (g h : Key) :
    endsInK (S ++ [g]) h = (endsInK S h || (g.length == h.length + 1 && g.take h.length == h)) := by
  simp [endsInK, List.any_append]

theorem startsWithK_append (S : List Key) (g h : Key) :
    startsWithK (S ++ [g]) h = (startsWithK S h || (g.length == h.length + 1 && g.drop 1 == h)) := by
  simp [startsWithK, List.any_append]

theorem endsInK_true_iff (X : List Key) (k : Key) :
    endsInK X k = true ↔ ∃ k' ∈ X, k'.length = k.length + 1 ∧ k'.take k.length = k := by
  simp [endsInK]

theorem startsWithK_true_iff (X : List Key) (k : Key) :
    startsWithK X k = true ↔ ∃ k' ∈ X, k'.length = k.length + 1 ∧ k'.drop 1 = k := by
  simp [startsWithK]

theorem any_next_false (S : List Key) (g : Key) (h : ∀ k ∈ S, k.length ≤ g.length) (f : Key → Key) :
    S.any (fun k => k.length == g.length + 1 && f k == g) = false := by
  rw [List.any_eq_false]
  intro k hk
  have := h k hk
  have hne : (k.length == g.length + 1) = false := by simp; omega
  simp [hne]

theorem endsInK_false_len (S : List Key) (g : Key) (h : ∀ k ∈ S, k.length ≤ g.length) : endsInK S g = false :=
  any_next_false S g h _

theorem startsWithK_false_len (S : List Key) (g : Key) (h : ∀ k ∈ S, k.length ≤ g.length) : startsWithK S g = false :=
  any_next_false S g h _

/-- the suffixes of `p` (lengths `j`, `j-1`, … ≥ 2) that are not stored yet, lowest order first: the blanks
`FindLower` inserts -/
def missing (S : List Key) (p : Key) : Nat → List Key
  | 0 => []
  | 1 => []
  | j+2 => if p.take (j+2) ∈ S then [] else missing S p (j+1) ++ [p.take (j+2)]

def addLineKeys (S : List Key) (p : Key) : List Key := S ++ missing S p (p.length - 1) ++ [p]

theorem mem_addLineKeys (S : List Key) (p k : Key) :
    k ∈ addLineKeys S p ↔ k ∈ S ∨ k ∈ missing S p (p.length - 1) ∨ k = p := by
  simp [addLineKeys, or_assoc]

theorem missing_mem (S : List Key) (p : Key) : ∀ j k, k ∈ missing S p j → ∃ i, 2 ≤ i ∧ i ≤ j ∧ k = p.take i ∧ k ∉ S := by
  intro j
  induction j using Nat.strongRecOn with
  | _ j ih =>
    intro k hk
    match j, hk with
    | 0, hk => simp [missing] at hk
    | 1, hk => simp [missing] at hk
    | j+2, hk =>
      simp only [missing] at hk
      split at hk
      · simp at hk
      · rename_i hns
        rcases List.mem_append.mp hk with h | h
        · obtain ⟨i, h1, h2, h3, h4⟩ := ih (j+1) (by omega) k h
          exact ⟨i, h1, by omega, h3, h4⟩
        · simp at h; subst h; exact ⟨j+2, by omega, Nat.le_refl _, rfl, hns⟩

theorem missing_nil_of_mem (S : List Key) (p : Key) (j : Nat) (h : j < 2 ∨ p.take j ∈ S) : missing S p j = [] := by
  match j, h with
  | 0, _ => rfl
  | 1, _ => rfl
  | j+2, h =>
    rcases h with h | h
    · omega
    · simp [missing, h]

theorem addLineKeys_of_stored (S : List Key) (p : Key) (h : p.length < 3 ∨ p.take (p.length - 1) ∈ S) :
    addLineKeys S p = S ++ [p] := by
  rw [addLineKeys, missing_nil_of_mem S p _ (h.imp_left fun h => by omega), List.append_nil]

def foldKeys (S : List Key) (ls : List Line) : List Key := ls.foldl (fun S p => addLineKeys S p.1) S

theorem foldKeys_append (ls : List Line) : ∀ S, ∃ X, foldKeys S ls = S ++ X := by
  induction ls with
  | nil => intro S; exact ⟨[], by simp [foldKeys]⟩
  | cons p ls ih =>
    intro S
    obtain ⟨X, hX⟩ := ih (addLineKeys S p.1)
    refine ⟨missing S p.1 (p.1.length - 1) ++ [p.1] ++ X, ?_⟩
    simp only [foldKeys, List.foldl_cons] at hX ⊢
    rw [hX]; simp [addLineKeys]

/-- relative to the stored keys `S`, the line `p` of order `b + L + 1` has its suffix of order `b` stored (or `b = 1`: the unigram)
and its `L` suffixes above that not: the keys the line adds are `p.take j`, `b < j ≤ b + L + 1` (the last one is the line) -/
structure Blanks (S : List Key) (p : Key) (b L : Nat) : Prop where
  hb : 1 ≤ b
  hpl : p.length = b + L + 1
  basis : b = 1 ∨ p.take b ∈ S
  miss : ∀ j, b < j → j ≤ b + L → p.take j ∉ S

/-- the key lists per order after the line: the line appended at its order, then each blank at its own (the order in which
`FindLower` inserts; `Blanks.keysOf_addLineKeys`) -/
def keysAfter (S : List Key) (p : Key) (b L : Nat) : Nat → List Key := fun m =>
  if b < m ∧ m ≤ b + L then keysOf (S ++ [p]) m ++ [p.take m] else keysOf (S ++ [p]) m

theorem keysAfter_blank (S : List Key) (p : Key) {b L m : Nat} (h1 : b < m) (h2 : m ≤ b + L) :
    keysAfter S p b L m = keysOf (S ++ [p]) m ++ [p.take m] := if_pos ⟨h1, h2⟩

theorem keysAfter_other (S : List Key) (p : Key) {b L m : Nat} (h : ¬ (b < m ∧ m ≤ b + L)) :
    keysAfter S p b L m = keysOf (S ++ [p]) m := if_neg h

variable {S : List Key} {p : Key} {b L : Nat}

theorem Blanks.lt_len (bl : Blanks S p b L) {j : Nat} (hj : j ≤ b + L) : j < p.length := by
  rw [bl.hpl]; exact Nat.lt_succ_of_le hj

theorem Blanks.two_le (bl : Blanks S p b L) {j : Nat} (h1 : b < j) : 2 ≤ j :=
  Nat.succ_le_of_lt (Nat.lt_of_le_of_lt bl.hb h1)

theorem Blanks.take_len (bl : Blanks S p b L) {j : Nat} (hj : j ≤ b + L + 1) : (p.take j).length = j :=
  List.length_take_of_le (by rw [bl.hpl]; exact hj)

theorem Blanks.take_top (bl : Blanks S p b L) : p.take (b + L + 1) = p := by
  rw [← bl.hpl, List.take_length]

theorem Blanks.ctx_len (bl : Blanks S p b L) {j : Nat} (hj : j ≤ b + L) : ((p.drop 1).take j).length = j :=
  length_ctx_take p j (bl.lt_len hj)

theorem Blanks.ctx_top (bl : Blanks S p b L) : (p.drop 1).take (b + L) = p.drop 1 :=
  List.take_of_length_le (by rw [List.length_drop, bl.hpl, Nat.add_sub_cancel]; exact Nat.le_refl _)

/-- `Blanks`, and the line is new while its contexts of orders `≥ 2` from the basis upwards are stored: what the key-level statements
about a line need -/
structure LineKeys (S : List Key) (p : Key) (b L : Nat) : Prop extends Blanks S p b L where
  ctx : ∀ j, 2 ≤ j → b ≤ j → j ≤ b + L → (p.drop 1).take j ∈ S
  new : p ∉ S

theorem LineKeys.ctx_above (lk : LineKeys S p b L) (j : Nat) (h1 : b < j) (h2 : j ≤ b + L) : (p.drop 1).take j ∈ S :=
  lk.ctx j (lk.two_le h1) (Nat.le_of_lt h1) h2

theorem exists_basis (S : List Key) (p : Key) : ∀ J, 1 ≤ J →
    ∃ b, 1 ≤ b ∧ b ≤ J ∧ (b = 1 ∨ p.take b ∈ S) ∧ ∀ j, b < j → j ≤ J → p.take j ∉ S := by
  intro J
  induction J with
  | zero => intro h; exact absurd h (by decide)
  | succ J ih =>
    intro _
    by_cases hm : p.take (J + 1) ∈ S
    · exact ⟨J + 1, Nat.succ_le_succ (Nat.zero_le _), Nat.le_refl _, Or.inr hm, fun j h1 h2 => absurd h1 (Nat.not_lt_of_le h2)⟩
    · rcases Nat.eq_zero_or_pos J with hJ | hJ
      · subst hJ
        exact ⟨1, Nat.le_refl _, Nat.le_refl _, Or.inl rfl, fun j h1 h2 => absurd h1 (Nat.not_lt_of_le h2)⟩
      · obtain ⟨b, h1, h2, h3, h4⟩ := ih hJ
        refine ⟨b, h1, Nat.le_succ_of_le h2, h3, fun j hj1 hj2 => ?_⟩
        rcases Nat.lt_or_eq_of_le hj2 with hj | hj
        · exact h4 j hj1 (Nat.le_of_lt_succ hj)
        · rw [hj]; exact hm

/-- every line has such a shape: `b` is the order of its longest stored suffix (1 if there is none of order ≥ 2) -/
theorem exists_blanks (S : List Key) (p : Key) (h2 : 2 ≤ p.length) : ∃ b L, Blanks S p b L := by
  obtain ⟨J, hJ⟩ : ∃ J, p.length = J + 1 := ⟨p.length - 1, (Nat.sub_add_cancel (Nat.le_of_succ_le h2)).symm⟩
  obtain ⟨b, hb1, hbJ, hbasis, hmiss⟩ := exists_basis S p J (by omega)
  obtain ⟨L, rfl⟩ := Nat.le.dest hbJ
  exact ⟨b, L, hb1, hJ, hbasis, hmiss⟩

theorem Blanks.missing_keys (bl : Blanks S p b L) : ∀ d, d ≤ L → ∀ m,
    keysOf (missing S p (b + d)) m = if b < m ∧ m ≤ b + d then [p.take m] else [] := by
  intro d
  induction d with
  | zero =>
    intro _ m
    rw [missing_nil_of_mem S p (b + 0) (bl.basis.imp_left fun h => h ▸ Nat.lt_succ_self 1),
      if_neg fun c => Nat.lt_irrefl _ (Nat.lt_of_lt_of_le c.1 c.2)]
    rfl
  | succ d ih =>
    intro hd m
    have hbd : b + d + 1 ≤ b + L := Nat.add_lt_add_left hd b
    have hns := bl.miss (b + d + 1) (Nat.lt_succ_of_le (Nat.le_add_right b d)) hbd
    have hl : (p.take (b + d + 1)).length = b + d + 1 := bl.take_len (Nat.le_succ_of_le hbd)
    have ih := ih (Nat.le_of_succ_le hd) m
    -- `b + d ≥ 1`: write it as a successor, so that `missing` unfolds
    obtain ⟨J, hJ⟩ : ∃ J, b + d = J + 1 :=
      Nat.exists_eq_succ_of_ne_zero (Nat.ne_of_gt (Nat.lt_of_lt_of_le bl.hb (Nat.le_add_right b d)))
    have hbJ : b ≤ J + 1 := hJ ▸ Nat.le_add_right b d
    show keysOf (missing S p (b + d + 1)) m = if b < m ∧ m ≤ b + d + 1 then [p.take m] else []
    rw [hJ] at hns hl ih ⊢
    simp only [missing, hns, if_false]
    rw [keysOf_append_list, ih]
    by_cases hm : m = J + 1 + 1
    · subst hm
      rw [if_neg fun c => Nat.not_succ_le_self _ c.2, if_pos ⟨Nat.lt_succ_of_le hbJ, Nat.le_refl _⟩]
      simp [keysOf, hl]
    · have : keysOf [p.take (J + 1 + 1)] m = [] := by simp [keysOf, hl]; exact Ne.symm hm
      simp only [this, List.append_nil, interval_succ hm]

theorem Blanks.keysOf_addLineKeys (bl : Blanks S p b L) : keysOf (addLineKeys S p) = keysAfter S p b L := by
  funext m
  have hn1 : p.length - 1 = b + L := by rw [bl.hpl]; rfl
  unfold addLineKeys
  rw [hn1, keysOf_append_list, keysOf_append_list, bl.missing_keys L (Nat.le_refl _) m]
  by_cases hc : b < m ∧ m ≤ b + L
  · have : keysOf [p] m = [] := by simp [keysOf]; exact Nat.ne_of_gt (bl.lt_len hc.2)
    rw [keysAfter_blank S p hc.1 hc.2, keysOf_append_list S, if_pos hc, this, List.append_nil, List.append_nil]
  · rw [keysAfter_other S p hc, keysOf_append_list S, if_neg hc, List.append_nil]

theorem Blanks.mem_addLineKeys (bl : Blanks S p b L) (k : Key) :
    k ∈ addLineKeys S p ↔ k ∈ S ∨ ∃ j, b < j ∧ j ≤ b + L + 1 ∧ k = p.take j := by
  have hmem : k ∈ addLineKeys S p ↔ k ∈ keysAfter S p b L k.length := by
    rw [← bl.keysOf_addLineKeys, mem_keysOf]; exact (and_iff_left rfl).symm
  have hSp : k ∈ keysOf (S ++ [p]) k.length ↔ k ∈ S ∨ k = p := by
    rw [mem_keysOf, List.mem_append, List.mem_singleton]; exact and_iff_left rfl
  rw [hmem]
  have htop : k = p → ∃ j, b < j ∧ j ≤ b + L + 1 ∧ k = p.take j := fun he =>
    ⟨b + L + 1, Nat.lt_succ_of_le (Nat.le_add_right b L), Nat.le_refl _, he.trans bl.take_top.symm⟩
  constructor
  · intro h
    by_cases hc : b < k.length ∧ k.length ≤ b + L
    · rw [keysAfter_blank S p hc.1 hc.2] at h
      rcases List.mem_append.mp h with h | h
      · exact (hSp.mp h).imp_right htop
      · exact Or.inr ⟨k.length, hc.1, Nat.le_succ_of_le hc.2, List.mem_singleton.mp h⟩
    · rw [keysAfter_other S p hc] at h
      exact (hSp.mp h).imp_right htop
  · rintro (h | ⟨j, h1, h2, he⟩)
    · exact mem_ite_append _ _ _ _ (hSp.mpr (Or.inl h))
    · have hl : k.length = j := he ▸ bl.take_len h2
      rcases Nat.lt_or_eq_of_le h2 with hj | hj
      · rw [keysAfter_blank S p (hl ▸ h1) (hl ▸ Nat.le_of_lt_succ hj), hl]
        exact List.mem_append_right _ (List.mem_singleton.mpr he)
      · exact mem_ite_append _ _ _ _ (hSp.mpr (Or.inr (he.trans (hj ▸ bl.take_top))))

theorem mem_keysAfter (S : List Key) (p : Key) (b L : Nat) {k : Key} {j : Nat} (hk : k ∈ S) (hl : k.length = j) (hj : j < p.length) :
    k ∈ keysAfter S p b L j :=
  mem_ite_append _ _ _ _ (by rw [keysOf_append_other S p j (Nat.ne_of_gt hj)]; exact (mem_keysOf S j k).mpr ⟨hk, hl⟩)

/-- `k` is a suffix of the line of order `b .. b+L` (its sign is cleared by the chain) -/
def cK (p : Key) (b L : Nat) (k : Key) : Bool := decide (SufIn p b (b + L) k)

/-- `k` is a suffix of the line's context of order `b .. b+L` (its extension bit is set by the chain) -/
def cX (p : Key) (b L : Nat) (k : Key) : Bool := decide (SufIn (p.drop 1) b (b + L) k)

theorem Blanks.any_new (bl : Blanks S p b L) (k : Key) (f : Key → Key) :
    (addLineKeys S p).any (fun k' => k'.length == k.length + 1 && f k' == k) =
      (S.any (fun k' => k'.length == k.length + 1 && f k' == k) ||
        decide (b ≤ k.length ∧ k.length ≤ b + L ∧ k = f (p.take (k.length + 1)))) := by
  apply Bool.eq_iff_iff.mpr
  simp only [Bool.or_eq_true, List.any_eq_true, Bool.and_eq_true, beq_iff_eq, decide_eq_true_eq]
  constructor
  · rintro ⟨k', hk', hl, ht⟩
    rcases (bl.mem_addLineKeys k').mp hk' with h | ⟨j, h1, h2, he⟩
    · exact Or.inl ⟨k', h, hl, ht⟩
    · have hjl : k.length + 1 = j := by rw [← hl, he]; exact bl.take_len h2
      subst hjl
      exact Or.inr ⟨Nat.le_of_lt_succ h1, Nat.le_of_succ_le_succ h2, by rw [← he]; exact ht.symm⟩
  · rintro (⟨k', h, hl, ht⟩ | ⟨h1, h2, he⟩)
    · exact ⟨k', (bl.mem_addLineKeys k').mpr (Or.inl h), hl, ht⟩
    · exact ⟨p.take (k.length + 1), (bl.mem_addLineKeys _).mpr (Or.inr ⟨_, Nat.lt_succ_of_le h1, Nat.succ_le_succ h2, rfl⟩),
        bl.take_len (Nat.succ_le_succ h2), he.symm⟩

theorem Blanks.endsInK_new (bl : Blanks S p b L) (k : Key) : endsInK (addLineKeys S p) k = (endsInK S k || cK p b L k) := by
  unfold endsInK cK
  rw [bl.any_new k (·.take k.length), KV.take_take_of_le (Nat.le_succ _)]

theorem Blanks.startsWithK_new (bl : Blanks S p b L) (k : Key) :
    startsWithK (addLineKeys S p) k = (startsWithK S k || cX p b L k) := by
  unfold startsWithK cX
  rw [bl.any_new k (·.drop 1), List.drop_take, Nat.add_sub_cancel]

/-- the value `Table.build` prescribes for a key: the (backed-off) score of its newest word after the rest -/
def val (a : Arpa) (k : Key) : Rat := score a k.tail (k.headD 0)

theorem val_uni (a : Arpa) (w : Word) : val a [w] = a.uniProb w := by simp [val, score, scoreAt]

theorem val_cons (a : Arpa) (w : Word) (c : List Word) (hN : c.length + 1 ≤ a.order) :
    val a (w :: c) = scoreAt a c w c.length := by
  simp only [val, score, List.tail_cons, List.headD_cons, Nat.min_eq_left (Nat.le_sub_one_of_lt hN)]

theorem val_real (a : Arpa) (k : Key) (e : Entry) (hk : 2 ≤ k.length) (hN : k.length ≤ a.order) (hg : a.gram k = some e) :
    val a k = e.prob := by
  match k, hk with
  | w :: x :: ctx, _ =>
    rw [val_cons a w _ hN]
    exact scoreAt_real _ (by rw [List.take_length]; exact hg)

theorem val_step (a : Arpa) (k : Key) (hk : 2 ≤ k.length) (hN : k.length ≤ a.order) (hg : a.gram k = none) :
    val a k = a.boW k.tail + val a (k.take (k.length - 1)) := by
  match k, hk with
  | w :: x :: ctx, _ =>
    have hl : ((x :: ctx).take ctx.length).length = ctx.length := List.length_take_of_le (Nat.le_succ _)
    have h2 : (w :: x :: ctx).take ((w :: x :: ctx).length - 1) = w :: (x :: ctx).take ctx.length := rfl
    rw [h2, val_cons a w _ hN, val_cons a w _ (by rw [hl]; exact Nat.le_of_succ_le hN), hl,
      scoreAt_take a (x :: ctx) w ctx.length ctx.length (Nat.le_refl _)]
    simp only [List.length_cons, scoreAt]
    rw [← List.length_cons, List.take_length, hg]
    rfl

/-- the probability `Table.build a` stores for a key is `val` -/
theorem build_prob_val (a : Arpa) (wf : WellFormed a) (k : Key) (t : TEntry) (ht : (KV.Table.build a).lookup k = some t) :
    t.prob = val a k := by
  cases k with
  | nil => simp [KV.Table.build] at ht
  | cons w ctx =>
    cases hg : a.gram (w :: ctx) with
    | some e =>
      simp only [KV.Table.build, hg] at ht
      injection ht with ht
      subst ht
      cases ctx with
      | nil => simp [val_uni, Arpa.uniProb, hg]
      | cons x xs =>
        exact (val_real a _ e (by simp) (wf.len_le _ (by rw [hg]; simp)) hg).symm
    | none =>
      simp only [KV.Table.build, hg] at ht
      split at ht
      · injection ht with ht
        subst ht
        rfl
      · cases ht

/-- keys of `Table.build a`: the n-grams of the model and their proper suffixes (as lists: the reversed n-grams and their proper prefixes) -/
def IsKey (a : Arpa) (k : Key) : Prop := k ≠ [] ∧ (a.gram k ≠ none ∨ extendsLeft a k = true)

theorem isKey_of_gram {a : Arpa} {p : Key} (hl : 1 ≤ p.length) (h : a.gram p ≠ none) : IsKey a p :=
  ⟨fun hn => by rw [hn] at hl; exact absurd hl (by decide), Or.inl h⟩

theorem isKey_take (a : Arpa) (k : Key) (hk : IsKey a k) (j : Nat) (hj : 1 ≤ j) (hjl : j ≤ k.length) : IsKey a (k.take j) :=
  ⟨fun h => by rw [← List.length_eq_zero_iff, List.length_take_of_le hjl] at h; exact absurd (h ▸ hj) (by decide),
    (key_iff_prefix a _).mpr (let ⟨q, hq, hp⟩ := (key_iff_prefix a k).mp hk.2; ⟨q, hq, (List.take_prefix j k).trans hp⟩)⟩

/-- the stored keys along the file: keys of `Table.build a` of order ≥ 2, closed under the next shorter suffix (`pc`) and under the
context (`cs`) -/
structure SInv (a : Arpa) (S : List Key) : Prop where
  len2 : ∀ k ∈ S, 2 ≤ k.length
  keys : ∀ k ∈ S, IsKey a k
  pc : ∀ k ∈ S, 3 ≤ k.length → k.take (k.length - 1) ∈ S
  cs : ∀ k ∈ S, 3 ≤ k.length → k.drop 1 ∈ S

theorem SInv.take_mem_le {a : Arpa} {S : List Key} (h : SInv a S) (k : Key) (hk : k ∈ S) (j : Nat) (h2 : 2 ≤ j) (hj : j ≤ k.length) :
    k.take j ∈ S := by
  obtain ⟨d, hd⟩ := Nat.le.dest hj
  induction d generalizing k with
  | zero => rw [Nat.add_zero] at hd; rw [hd, List.take_length]; exact hk
  | succ d ih =>
    have hl : (k.take (k.length - 1)).length = k.length - 1 := List.length_take_of_le (Nat.sub_le _ _)
    have := ih (k.take (k.length - 1)) (h.pc k hk (by omega)) (by rw [hl]; omega) (by rw [hl]; omega)
    rwa [KV.take_take_of_le (by omega)] at this

theorem SInv.take_of_take {a : Arpa} {S : List Key} (h : SInv a S) {p : Key} {i j : Nat} (hi : p.take i ∈ S) (hil : i ≤ p.length)
    (h2 : 2 ≤ j) (hj : j ≤ i) : p.take j ∈ S := by
  have := h.take_mem_le _ hi j h2 (by rw [List.length_take_of_le hil]; exact hj)
  rwa [KV.take_take_of_le hj] at this

/-- below a stored basis every suffix of the line of order ≥ 2 is stored -/
theorem SInv.suffix_mem {a : Arpa} (h : SInv a S) (bl : Blanks S p b L) (j : Nat) (h2 : 2 ≤ j) (hj : j ≤ b) : p.take j ∈ S :=
  h.take_of_take (bl.basis.resolve_left fun h1 => absurd (h1 ▸ Nat.le_trans h2 hj) (by decide))
    (Nat.le_of_lt (bl.lt_len (Nat.le_add_right b L))) h2 hj

theorem sInv_addLine {a : Arpa} {S : List Key} (h : SInv a S) (p : Key) (hreal : a.gram p ≠ none) (h2 : 2 ≤ p.length)
    (hctx : 3 ≤ p.length → p.drop 1 ∈ S) : SInv a (addLineKeys S p) := by
  obtain ⟨b, L, bl⟩ := exists_blanks S p h2
  have hkp : IsKey a p := isKey_of_gram (Nat.le_of_succ_le h2) hreal
  have hold : ∀ {k}, k ∈ S → k ∈ addLineKeys S p := fun hk => (bl.mem_addLineKeys _).mpr (Or.inl hk)
  have hlen : ∀ {j}, j ≤ b + L + 1 → j ≤ p.length := fun hj => bl.hpl ▸ hj
  -- afterwards every suffix of the line of order ≥ 2 is stored: a new one above the basis, an old one below
  have htake : ∀ j, 2 ≤ j → j ≤ b + L + 1 → p.take j ∈ addLineKeys S p := fun j hj2 hj => by
    by_cases hbj : b < j
    · exact (bl.mem_addLineKeys _).mpr (Or.inr ⟨j, hbj, hj, rfl⟩)
    · have hjb := Nat.le_of_not_lt hbj
      exact hold (h.suffix_mem bl j hj2 hjb)
  refine ⟨fun k hk => ?_, fun k hk => ?_, fun k hk h3 => ?_, fun k hk h3 => ?_⟩ <;>
    rcases (bl.mem_addLineKeys k).mp hk with hk | ⟨j, h1, hj, rfl⟩
  · exact h.len2 k hk
  · rw [bl.take_len hj]; exact bl.two_le h1
  · exact h.keys k hk
  · exact isKey_take a p hkp j (Nat.le_of_lt (Nat.lt_of_le_of_lt bl.hb h1)) (hlen hj)
  · exact hold (h.pc k hk h3)
  · rw [bl.take_len hj] at h3 ⊢
    rw [KV.take_take_of_le (Nat.sub_le j 1)]
    exact htake (j - 1) (Nat.le_sub_one_of_lt h3) (Nat.le_trans (Nat.sub_le j 1) hj)
  · exact hold (h.cs k hk h3)
  · rw [bl.take_len hj] at h3
    rw [List.drop_take]
    exact hold (h.take_mem_le _ (hctx (Nat.le_trans h3 (hlen hj))) (j - 1) (Nat.le_sub_one_of_lt h3)
      (by rw [List.length_drop]; exact Nat.sub_le_sub_right (hlen hj) 1))

end KV.ProbingBuild
