import Proofs.ProbingRun
import Proofs.ProbingP2
/-!
`AutoProbing`: with a threshold function `θ` such that `θ N ≤ N - 1` and `N ≤ θ (2 N)` every
script refines the plain map — no capacity exception, no divergence, across any number of doublings.
Its real backend is `ProbingHashTable<…, Power2Mod>`: the scripts run with the mask arithmetic
(`runAP2`) refine the map as well, since `RoundBuckets` makes the bucket count a power of two and every
step keeps it one (Proofs/ProbingP2.lean).
-/
namespace KV.Probing

/-- what `AutoProbing` needs of its threshold `θ N` for `N` buckets: below it the backend never meets its capacity
(`le`), and a doubling makes room again (`grow`) -/
structure ThetaOK (θ : Nat → Nat) : Prop where
  le : ∀ N, 0 < N → θ N ≤ N - 1
  grow : ∀ N, 0 < N → N ≤ θ (2 * N)

theorem thetaReal_ok : ThetaOK thetaReal := by
  constructor
  · intro N _; unfold thetaReal; omega
  · intro N hN; unfold thetaReal; omega

variable (h : Nat → Nat) (θ : Nat → Nat)

structure AInv (h : Nat → Nat) (θ : Nat → Nat) (a : Auto) : Prop where
  inv : Inv h a.t
  thr : a.thr = θ a.t.N
  le : a.t.entries ≤ a.thr

/-- what `DoubleIfNeeded` leaves of the state `a`, whose backend holds the map `M` (doubled or not) -/
structure DoubledIfNeeded (h : Nat → Nat) (θ : Nat → Nat) (a : Auto) (M : Nat → Option Nat) (a2 : Auto) : Prop where
  inv : Inv h a2.t
  abs : Abs a2.t M
  thr : a2.thr = θ a2.t.N
  entries : a2.t.entries = a.t.entries
  occ_eq : occ a2.t.s a2.t.N = occ a.t.s a.t.N
  /-- `Insert` calls `DoubleIfNeeded` after `++entries_`, `FindOrInsert` before: `d` is by how much `entries_` may exceed
  the threshold on entry (1 resp. 0); afterwards it is at least one further down, so that the insertion fits -/
  room : ∀ d, a.t.entries ≤ a.thr + d → a2.t.entries + 1 ≤ a2.thr + d

theorem doubleIfNeeded_spec (hθ : ThetaOK θ) (a : Auto)
    (M : Nat → Option Nat) (inv : Inv h a.t) (hthr : a.thr = θ a.t.N) (abs : Abs a.t M) :
    ∃ a2, doubleIfNeeded h θ a = some a2 ∧ DoubledIfNeeded h θ a M a2 := by
  by_cases hc : a.t.entries < a.thr
  · exact ⟨a, doubleIfNeeded_below h hc, inv, abs, hthr, rfl, rfl, fun d _ => by omega⟩
  · obtain ⟨t', hd, d⟩ := double_preserves h a.t M inv abs
    refine ⟨{ t := t', thr := θ t'.N }, by rw [doubleIfNeeded_at h hc, hd]; rfl, d.inv, d.abs, rfl, d.entries, d.occ_eq, ?_⟩
    -- `entries ≤ θ N + d ≤ N - 1 + d` and `N ≤ θ (2 N)`: after the doubling there is room for one more
    intro d' hd'
    have hpos := inv.wf.pos
    have h1 := hθ.le a.t.N inv.wf.pos
    have h2 := hθ.grow a.t.N inv.wf.pos
    show t'.entries + 1 ≤ θ t'.N + d'
    rw [d.N, d.entries]; omega

/-- `Inv ∧ Abs` for the backend, and (`AInv`) `threshold_` is the one of the current bucket count and `entries_` has not passed it -/
structure ARef (h : Nat → Nat) (θ : Nat → Nat) (a : Auto) (M : Nat → Option Nat) : Prop where
  ai : AInv h θ a
  abs : Abs a.t M

/-- the state `a'` an `AutoProbing` operation leaves behind `a`: it represents `M'`, `entries_ = e`, and its bucket count
is a power of two if it was one -/
structure AutoOp (h : Nat → Nat) (θ : Nat → Nat) (a : Auto) (M' : Nat → Option Nat) (e : Nat) (a' : Auto) : Prop where
  ref : ARef h θ a' M'
  entries : a'.t.entries = e
  pow : Pow2 a.t.N → Pow2 a'.t.N

/-- an insertion into the backend of `a2` that stays below the threshold keeps the invariant of `AutoProbing` -/
theorem AInv_insert {a2 : Auto} {M : Nat → Option Nat} {k v e q : Nat} {t' : Table} (hthr : a2.thr = θ a2.t.N)
    (r : Inserted h a2.t M k v e q t') (hle : e ≤ a2.thr) : AInv h θ { a2 with t := t' } :=
  ⟨r.inv, hthr.trans (congrArg θ r.N.symm), r.entries ▸ hle⟩

theorem auto_insert_spec (hθ : ThetaOK θ) (a : Auto)
    (M : Nat → Option Nat) (k v : Nat) (ai : AInv h θ a) (abs : Abs a.t M) (hM : M k = none) :
    ∃ q a', a.insert h θ k v = some (q, a') ∧ AutoOp h θ a (upd M k v) (a.t.entries + 1) a' := by
  obtain ⟨inv, hthr, hle⟩ := ai
  obtain ⟨a2, hd, c⟩ :=
    doubleIfNeeded_spec h θ hθ { a with t := { a.t with entries := a.t.entries + 1 } } M
      (Inv_bump h a.t inv) hthr abs
  have hE2' : a2.t.entries = a.t.entries + 1 := c.entries
  have hocc2' : occ a2.t.s a2.t.N = occ a.t.s a.t.N := c.occ_eq
  have hle2 : a2.t.entries ≤ a2.thr := Nat.le_of_succ_le_succ (c.room 1 (Nat.succ_le_succ hle))
  have hcnt := inv.cnt
  have hcap := hθ.le a2.t.N c.inv.wf.pos
  have hpos := c.inv.wf.pos
  have hthr2 := c.thr
  obtain ⟨q, t', hu, r⟩ := uncheckedInsert_spec h a2.t M k v c.inv.wf (by omega) (by omega) c.abs hM
  exact ⟨q, { a2 with t := t' }, by simp [Auto.insert, hd, hu], ⟨AInv_insert h θ c.thr r hle2, r.abs⟩,
    r.entries.trans hE2', fun hp => r.N ▸
      doubleIfNeeded_pow2 h θ { a with t := { a.t with entries := a.t.entries + 1 } } a2 hp hd⟩

theorem auto_findOrInsert_spec (hθ : ThetaOK θ) (a : Auto)
    (M : Nat → Option Nat) (k v : Nat) (ai : AInv h θ a) (abs : Abs a.t M) :
    (∀ v', M k = some v' → ∃ p a', a.findOrInsert h θ k v = .ok (true, p, v', a') ∧
        AutoOp h θ a M a.t.entries a') ∧
    (M k = none → ∃ p a', a.findOrInsert h θ k v = .ok (false, p, v, a') ∧
        AutoOp h θ a (upd M k v) (a.t.entries + 1) a') := by
  obtain ⟨inv, hthr, hle⟩ := ai
  obtain ⟨a2, hd, c⟩ := doubleIfNeeded_spec h θ hθ a M inv hthr abs
  have hpow : Pow2 a.t.N → Pow2 a2.t.N := fun hp => doubleIfNeeded_pow2 h θ a a2 hp hd
  have hlt2 : a2.t.entries + 1 ≤ a2.thr := c.room 0 hle
  constructor
  · intro v' hM
    obtain ⟨p, hf, _⟩ := findOrInsert_found h a2.t M k v v' c.inv c.abs hM
    exact ⟨p, a2, by simp [Auto.findOrInsert, hd, hf], ⟨⟨c.inv, c.thr, Nat.le_of_succ_le hlt2⟩, c.abs⟩, c.entries, hpow⟩
  · intro hM
    have hcap := hθ.le a2.t.N c.inv.wf.pos
    have hpos := c.inv.wf.pos
    have hthr2 := c.thr
    obtain ⟨p, t', hf, r⟩ := findOrInsert_new h a2.t M k v c.inv c.abs hM (by omega)
    exact ⟨p, { a2 with t := t' }, by simp [Auto.findOrInsert, hd, hf], ⟨AInv_insert h θ c.thr r hlt2, r.abs⟩,
      r.entries.trans (congrArg (· + 1) c.entries), fun hp => r.N ▸ hpow hp⟩

theorem stepA_refines (hθ : ThetaOK θ) (a : Auto) (M : Nat → Option Nat)
    (op : Op) (o : Out) (M' : Nat → Option Nat) (r : ARef h θ a M) (hs : stepMap M op = some (o, M')) :
    ∃ a', stepA h θ a op = some (o, a') ∧ ARef h θ a' M' ∧ (Pow2 a.t.N → Pow2 a'.t.N) := by
  obtain ⟨ai, abs⟩ := r
  cases stepMap_iff.1 hs with
  | @insert k v hM =>
    obtain ⟨q, a', hi, r⟩ := auto_insert_spec h θ hθ a M k v ai abs hM
    exact ⟨a', by simp [stepA, hi], r.ref, r.pow⟩
  | @found k v w hM =>
    obtain ⟨p, a', hf, r⟩ := (auto_findOrInsert_spec h θ hθ a M k v ai abs).1 w hM
    exact ⟨a', by simp [stepA, hf], r.ref, r.pow⟩
  | @new k v hM =>
    obtain ⟨p, a', hf, r⟩ := (auto_findOrInsert_spec h θ hθ a M k v ai abs).2 hM
    exact ⟨a', by simp [stepA, hf], r.ref, r.pow⟩
  | @find k => exact ⟨a, by simp [stepA, Auto.find, find_correct h a.t M ai.inv abs k], ⟨ai, abs⟩, id⟩

/-- scripts on `AutoProbing` refine the plain map, and the scripts run with the mask arithmetic (`runAP2`) are the same
runs as long as the bucket count starts as a power of two -/
theorem runA_refines_both (hθ : ThetaOK θ) :
    ∀ (ops : List Op) (a : Auto) (M : Nat → Option Nat) (outs : List Out) (M' : Nat → Option Nat),
    ARef h θ a M → runMap M ops = some (outs, M') →
    ∃ a', runA h θ a ops = some (outs, a') ∧ ARef h θ a' M' ∧
      (Pow2 a.t.N → runAP2 h θ a ops = some (outs, a') ∧ Pow2 a'.t.N) := by
  intro ops
  induction ops with
  | nil => intro a M outs M' r hs; cases hs; exact ⟨a, rfl, r, fun hp => ⟨rfl, hp⟩⟩
  | cons op ops ih =>
    intro a M outs M' r hs
    obtain ⟨o, M1, os, h1, h2, rfl⟩ := runMap_cons_some hs
    obtain ⟨a1, ha1, r1, hp1⟩ := stepA_refines h θ hθ a M op o M1 r h1
    obtain ⟨a2, ha2, r2, hp2⟩ := ih a1 M1 os _ r1 h2
    refine ⟨a2, by simp only [runA, ha1, ha2], r2, fun hp => ?_⟩
    obtain ⟨hrun, hp'⟩ := hp2 (hp1 hp)
    exact ⟨by simp only [runAP2, stepAP2_eq h θ a op hp, ha1, hrun], hp'⟩

theorem runA_refines (hθ : ThetaOK θ) (ops : List Op) (a : Auto) (M : Nat → Option Nat) (outs : List Out)
    (M' : Nat → Option Nat) (r : ARef h θ a M) (hs : runMap M ops = some (outs, M')) :
    ∃ a', runA h θ a ops = some (outs, a') ∧ ARef h θ a' M' :=
  let ⟨a', ha, r', _⟩ := runA_refines_both h θ hθ ops a M outs M' r hs
  ⟨a', ha, r'⟩

theorem auto_init (N : Nat) (hN : 0 < N) :
    ARef h θ { t := emptyTable N, thr := θ N } (fun _ => none) :=
  ⟨⟨Inv_empty h N hN, rfl, Nat.zero_le _⟩, Abs_empty N⟩

theorem runAP2_refines (hθ : ThetaOK θ) (ops : List Op) (a : Auto) (M : Nat → Option Nat) (outs : List Out)
    (M' : Nat → Option Nat) (r : ARef h θ a M) (hp : Pow2 a.t.N) (hs : runMap M ops = some (outs, M')) :
    ∃ a', runAP2 h θ a ops = some (outs, a') ∧ ARef h θ a' M' ∧ Pow2 a'.t.N :=
  let ⟨a', _, r', hp2⟩ := runA_refines_both h θ hθ ops a M outs M' r hs
  ⟨a', (hp2 hp).1, r', (hp2 hp).2⟩

end KV.Probing
