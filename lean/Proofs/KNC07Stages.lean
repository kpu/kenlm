import Model.KNChainStages
import Model.KNChainAdder
import Proofs.KNBlocks
import Proofs.KNInitial
/-!
The stages of lmplz's step 3 as per-block state transformers (`Model/KNChainStages.lean`, `Model/KNChainAdder.lean`): what they
hand on does not depend on how their input stream is cut into blocks.

`Streaming step` says that block boundaries are invisible to a stage: it treats `a ++ b` as `a`, then `b` from the state
reached.  For such a stage and ANY partition of its input stream into blocks, the concatenation of what it hands on is its
output on the whole stream (`Streaming.flatten`); `OnlyGamma`, `MergeRight` over `PruneNGramStream`, its order-1 branch and
`AddRight` are instances, `CollapseStream` hands on a permutation of the filtered stream per block (`collapse_partition`).
What the output on the whole stream is, is said run by run (over lists of runs as `ctxRuns` returns them: `IsCtxRuns`): `MergeRight` gives every
run the next entry of the sums stream (`mrRun_runs`), `AddRight` writes one entry per run (`arRun_runs`).
-/
namespace KV.KN.ChainStages
open KV.KN KV.KN.Blocks KV.KN.Interp

section streaming
variable {σ β γ : Type}

structure Streaming (step : Stage σ β γ) : Prop where
  nil : ∀ s, step s [] = (s, [])
  append : ∀ s a b, step s (a ++ b) = ((step (step s a).1 b).1, (step s a).2 ++ (step (step s a).1 b).2)

theorem Streaming.flatten {step : Stage σ β γ} (h : Streaming step) (s : σ) (blocks : List (List β)) :
    (runBlocks step s blocks).flatten = (step s blocks.flatten).2 := by
  induction blocks generalizing s with
  | nil => rw [List.flatten_nil, h.nil]; rfl
  | cons b bs ih => rw [runBlocks, List.flatten_cons, List.flatten_cons, h.append, ih]

theorem Streaming.of_additive (F : σ → List β → List γ) (h0 : ∀ s, F s [] = [])
    (happ : ∀ s a b, F s (a ++ b) = F s a ++ F s b) : Streaming fun s b => (s, F s b) :=
  ⟨fun s => by rw [h0], fun s a b => by rw [happ]⟩

theorem runBlocks_stateless (F : List β → List γ) (s : σ) (blocks : List (List β)) :
    runBlocks (fun s b => (s, F b)) s blocks = blocks.map F := by
  induction blocks with
  | nil => rfl
  | cons b bs ih => simp only [runBlocks, List.map_cons, ih]

end streaming

theorem onlyGammaBlock_streaming (pruning : Bool) : Streaming (onlyGammaBlock pruning) :=
  .of_additive (fun _ b => b.map (onlyGamma pruning)) (fun _ => rfl) fun _ _ _ => List.map_append

/-- `PruneNGramStream` (`copySpecials = true`) under the order-1 consumer is a filter and a map -/
theorem mrUnigramBlock_streaming (iu : Bool) (d : Disc) : Streaming (mrUnigramBlock iu d) :=
  .of_additive (fun g b => pruneBlock true (mrUniOut iu d g) b) (fun _ => rfl) fun g a b => by
    simp only [pruneBlock_fixed, List.filter_append, List.map_append]

theorem mrRun_append (d : Disc) (a b : List Emit) (st : MRState) :
    mrRun d st (a ++ b) = ((mrRun d (mrRun d st a).1 b).1, (mrRun d st a).2 ++ (mrRun d (mrRun d st a).1 b).2) := by
  induction a generalizing st with
  | nil => rfl
  | cons e a ih => simp only [List.cons_append, mrRun, ih (mrStep d st e).1]

theorem mrBlock_streaming (d : Disc) : Streaming (mrBlock d) :=
  ⟨fun _ => rfl, fun s a b => by simp only [mrBlock, mrRun_append, List.filter_append]⟩

/-- `CollapseStream`: what flows on is `KV.KN.Blocks.collapseStream`, for every partition a
permutation of the filtered stream (the consumer is a sort: `SortsOK` only needs the multiset) -/
theorem collapse_partition {α : Type} (p : α → Bool) (blocks : List (List α)) :
    (runBlocks (collapseStage p) () blocks).flatten = (collapseStream p blocks).2
    ∧ (collapseStream p blocks).2.Perm (blocks.flatten.filter fun a => !p a) := by
  refine ⟨?_, collapseStream_perm p blocks⟩
  unfold collapseStage
  rw [runBlocks_stateless (fun b => (collapseBlock p b).2)]
  simp [collapseStream, List.flatMap]

theorem mrRun_same (d : Disc) (c : Gram) (g : Gam) (S : List Gam) (xs : List Emit)
    (h : ∀ x ∈ xs, x.gram.tail = c) (ys : List Emit) :
    mrRun d ⟨S, some (c, g)⟩ (xs ++ ys) =
      ((mrRun d ⟨S, some (c, g)⟩ ys).1, xs.map (mrOut d g) ++ (mrRun d ⟨S, some (c, g)⟩ ys).2) := by
  induction xs with
  | nil => rfl
  | cons x xs ih =>
    simp only [List.cons_append, mrRun, mrStep, h x (List.mem_cons_self ..), if_true,
      ih fun y hy => h y (List.mem_cons_of_mem _ hy), List.map_cons]

/-- neighbouring runs have different contexts, whatever the input (with `ctxRuns_ok`: all that `ctxRuns` guarantees) -/
theorem ctxRuns_adjacent (l : List Emit) : (ctxRuns l).IsChain fun r s => runCtx r ≠ runCtx s := by
  induction l with
  | nil => exact .nil
  | cons e t ih =>
    rcases ctxRuns_cons_cases e t with ⟨_, h⟩ | ⟨f, r, rs, ht, hef, h⟩ | ⟨f, r, rs, ht, hef, h⟩ <;> rw [h]
    · exact .singleton _
    · rw [ht] at ih
      cases rs with
      | nil => exact .singleton _
      | cons s rs =>
        exact List.isChain_cons_cons.2
          ⟨fun h' => (List.isChain_cons_cons.1 ih).1 (hef.symm.trans h'), (List.isChain_cons_cons.1 ih).2⟩
    · exact List.isChain_cons_cons.2 ⟨hef, ht ▸ ih⟩

/-- `R` has the three properties of `ctxRuns`'s result: non-empty runs, of constant context, neighbours with different contexts -/
structure IsCtxRuns (R : List (List Emit)) : Prop where
  ne : ∀ r ∈ R, r ≠ []
  const : ∀ r ∈ R, ∀ e ∈ r, e.gram.tail = runCtx r
  adj : R.IsChain fun r s => runCtx r ≠ runCtx s

theorem isCtxRuns_ctxRuns (l : List Emit) : IsCtxRuns (ctxRuns l) :=
  ⟨ctxRuns_ne_nil l, ctxRuns_const l, ctxRuns_adjacent l⟩

theorem IsCtxRuns.tail {run : List Emit} {R : List (List Emit)} (h : IsCtxRuns (run :: R)) : IsCtxRuns R :=
  ⟨fun r hr => h.ne r (List.mem_cons_of_mem _ hr), fun r hr => h.const r (List.mem_cons_of_mem _ hr), h.adj.of_cons⟩

theorem IsCtxRuns.cons_inv {run : List Emit} {R : List (List Emit)} (h : IsCtxRuns (run :: R)) :
    ∃ e rest, run = e :: rest ∧ (∀ x ∈ rest, x.gram.tail = e.gram.tail) ∧
      ∀ r2, R.head? = some r2 → runCtx r2 ≠ e.gram.tail := by
  obtain ⟨e, rest, rfl⟩ := List.exists_cons_of_ne_nil (h.ne _ List.mem_cons_self)
  refine ⟨e, rest, rfl, fun x hx => h.const _ List.mem_cons_self x (List.mem_cons_of_mem _ hx), fun r2 h2 => ?_⟩
  cases R with
  | nil => cases h2
  | cons s R' => cases h2; exact fun h' => (List.isChain_cons_cons.1 h.adj).1 h'.symm

/-- run by run: each run takes the next entry of the sums stream.  `extra`: the sums stream may be longer than the runs; `hcur`:
the entry in hand belongs to another context than the first run. -/
theorem mrRun_runs (d : Disc) (sumsOf : List Emit → Gam) (R : List (List Emit)) (hR : IsCtxRuns R) (extra : List Gam)
    (cur : Option (Gram × Gam)) (hcur : ∀ c g, cur = some (c, g) → ∀ r2, R.head? = some r2 → runCtx r2 ≠ c) :
    (mrRun d ⟨R.map sumsOf ++ extra, cur⟩ R.flatten).2 = R.flatMap (fun run => run.map (mrOut d (sumsOf run))) := by
  induction R generalizing cur with
  | nil => rfl
  | cons run R ih =>
      obtain ⟨e, rest, rfl, hrest, hnext⟩ := hR.cons_inv
      have hstep : mrStep d ⟨sumsOf (e :: rest) :: (List.map sumsOf R ++ extra), cur⟩ e =
          (⟨R.map sumsOf ++ extra, some (e.gram.tail, sumsOf (e :: rest))⟩, mrOut d (sumsOf (e :: rest)) e) := by
        cases cur with
        | none => simp [mrStep]
        | some cg =>
          obtain ⟨c, g⟩ := cg
          have hne' : ¬ e.gram.tail = c := fun h' => hcur c g rfl (e :: rest) rfl h'
          simp [mrStep, hne']
      simp only [List.flatten_cons, List.cons_append, mrRun, hstep, List.flatMap_cons, List.map_cons]
      rw [mrRun_same d _ _ _ rest hrest, ih hR.tail _ fun c g hcg r2 h2 => by cases hcg; exact hnext r2 h2]

/-- `MergeRight` over `PruneNGramStream` on a whole stream, the sums stream holding one entry per context in order: the
stage function of `initialOrder` before the suffix sort -/
theorem mrBlock_ctxRuns (d : Disc) (es : List Emit) :
    (mrBlock d ⟨(ctxRuns es).map (addRight d), none⟩ es).2 = ((ctxRuns es).flatMap (mergeRight d)).filter (·.keep) := by
  have := mrRun_runs d (addRight d) (ctxRuns es) (isCtxRuns_ctxRuns es) [] none
    (fun c g h => by cases h)
  rw [List.append_nil, ctxRuns_flatten] at this
  exact congrArg (List.filter (·.keep)) this

theorem ctxRuns_single (c : Gram) (es : List Emit) (hne : es ≠ []) (h : ∀ e ∈ es, e.gram.tail = c) :
    ctxRuns es = [es] := by
  induction es with
  | nil => exact absurd rfl hne
  | cons e t ih =>
    cases t with
    | nil => rfl
    | cons f r =>
      have hef : e.gram.tail = f.gram.tail := by
        rw [h e (List.mem_cons_self ..), h f (List.mem_cons_of_mem _ (List.mem_cons_self ..))]
      rw [ctxRuns, ih (List.cons_ne_nil _ _) fun x hx => h x (List.mem_cons_of_mem _ hx)]
      simp [hef]

theorem filter_keep_map {f : Emit → Uninterp} (hf : ∀ e, (f e).keep = keptBy e) (l : List Emit) :
    (l.map f).filter (·.keep) = (l.filter keptBy).map f := by
  induction l with
  | nil => rfl
  | cons e l ih =>
    simp only [List.map_cons, List.filter_cons, hf e]
    cases keptBy e <;> simp [ih]

theorem mrUniOut_gram_keep (iu : Bool) (d : Disc) (g : Gam) (e : Emit) :
    (mrUniOut iu d g e).gram = e.gram ∧ (mrUniOut iu d g e).keep = keptBy e := by
  unfold mrUniOut
  dsimp only
  split
  · exact ⟨rfl, rfl⟩
  · split <;> exact ⟨rfl, rfl⟩

theorem mrUnigramBlock_ctxRuns (iu : Bool) (d : Disc) (es : List Emit) (hne : es ≠ []) (huni : ∀ e ∈ es, e.gram.tail = []) :
    (mrUnigramBlock iu d (addRight d es) es).2 = ((ctxRuns es).flatMap (mergeRightUnigram iu d)).filter (·.keep) := by
  rw [ctxRuns_single [] es hne huni, List.flatMap_cons, List.flatMap_nil, List.append_nil]
  exact (pruneBlock_fixed _ es).trans (filter_keep_map (fun e => (mrUniOut_gram_keep iu d (addRight d es) e).2) es).symm

theorem arRun_append (d : Disc) (a b : List Emit) (run : List Emit) :
    arRun d run (a ++ b) = ((arRun d (arRun d run a).1 b).1, (arRun d run a).2 ++ (arRun d (arRun d run a).1 b).2) := by
  induction a generalizing run with
  | nil => simp [arRun]
  | cons e a ih => simp only [List.cons_append, arRun, ih (arStep d run e).1, List.append_assoc]

theorem arBlock_streaming (d : Disc) : Streaming (arBlock d) :=
  ⟨fun _ => rfl, fun s a b => arRun_append d a b s⟩

theorem arRun_same (d : Disc) (f : Emit) (xs : List Emit) (h : ∀ x ∈ xs, x.gram.tail = f.gram.tail)
    (o ys : List Emit) : arRun d (f :: o) (xs ++ ys) = arRun d (f :: o ++ xs) ys := by
  induction xs generalizing o with
  | nil => rw [List.append_nil]; rfl
  | cons x xs ih =>
    have ih := ih (fun y hy => h y (List.mem_cons_of_mem _ hy)) (o ++ [x])
    rw [List.cons_append, List.append_assoc, List.singleton_append] at ih
    simp only [List.cons_append, arRun, arStep, h x (List.mem_cons_self ..), if_true, List.nil_append] at ih ⊢
    exact ih

/-- run by run: one entry per run, the last one at the end of the stream.  `arFinish d o` on the right: the open run `o` is
flushed by the first record of another context. -/
theorem arRun_runs (d : Disc) (R : List (List Emit)) (hR : IsCtxRuns R) (o : List Emit)
    (ho : o = [] ∨ ∀ r2, R.head? = some r2 → runCtx r2 ≠ runCtx o) :
    (arRun d o R.flatten).2 ++ arFinish d (arRun d o R.flatten).1 = arFinish d o ++ R.map (addRight d) := by
  induction R generalizing o with
  | nil => simp [arRun]
  | cons run R ih =>
      obtain ⟨e, rest, rfl, hrest, hnext⟩ := hR.cons_inv
      have hstep : arStep d o e = ([e], arFinish d o) := by
        cases o with
        | nil => rfl
        | cons f o' =>
          have hne' : ¬ e.gram.tail = f.gram.tail := fun h' =>
            ho.elim (fun ho => nomatch ho) fun ho => ho (e :: rest) rfl h'
          simp [arStep, hne', arFinish]
      simp only [List.flatten_cons, List.cons_append, arRun, hstep, List.map_cons]
      rw [arRun_same d e rest hrest [] _, List.singleton_append, List.append_assoc,
        ih hR.tail (e :: rest) (.inr hnext)]
      simp [arFinish]

theorem addRightStream_eq (d : Disc) (inBlocks : List (List Emit)) :
    addRightStream d inBlocks = (ctxRuns inBlocks.flatten).map (addRight d) := by
  have := arRun_runs d (ctxRuns inBlocks.flatten) (isCtxRuns_ctxRuns _) [] (Or.inl rfl)
  rw [ctxRuns_flatten] at this
  simpa [addRightStream, arFinish] using this

end KV.KN.ChainStages
