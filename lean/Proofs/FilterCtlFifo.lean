import Proofs.FilterCtlStep
import Model.Chain
/-!
The three queues of `KV.FilterCtl` are used only through the atomic bounded-FIFO operations
`KV.Chain.fifoPush cfg.queue` / `KV.Chain.fifoPop` — the interface that
`KV.C17.pcqueue_refines_fifo` proves the step-level model of `util::PCQueue` refines.
-/
namespace KV.FilterCtl
open KV.Chain (fifoPush fifoPop)
variable {α : Type}

def FifoOp {β : Type} (cap : Nat) (q q' : List β) : Prop :=
  q' = q ∨ (∃ x, fifoPush cap q x = some q') ∨ (∃ x, fifoPop q = some (x, q'))

theorem FifoOp.same {β : Type} (cap : Nat) (q : List β) : FifoOp cap q q := Or.inl rfl

theorem FifoOp.push {β : Type} {cap : Nat} {q : List β} (x : β) (h : q.length < cap) : FifoOp cap q (q ++ [x]) :=
  Or.inr (Or.inl ⟨x, by simp [fifoPush, h]⟩)

theorem FifoOp.pop {β : Type} (cap : Nat) (x : β) (q : List β) : FifoOp cap (x :: q) q :=
  Or.inr (Or.inr ⟨x, rfl⟩)

def QueuesFifo (cfg : Cfg α) (s s' : State α) : Prop :=
  FifoOp cfg.queue s.toRead s'.toRead ∧ FifoOp cfg.queue s.filterQ s'.filterQ ∧ FifoOp cfg.queue s.doneQ s'.doneQ

theorem QueuesFifo.newInput {cfg : Cfg α} {s x : State α} (h : QueuesFifo cfg s x) :
    QueuesFifo cfg s (newInput cfg x) := by
  obtain ⟨lr, n, e⟩ := newInput_eq cfg x
  rw [e]; exact h

theorem Step.queues_fifo {cfg : Cfg α} {s s' : State α} {t : Tid} (h : Step cfg s t s') : QueuesFifo cfg s s' := by
  cases h with
  | finish | emit | add | flushEmpty | joinW | joinO => exact ⟨.same _ _, .same _ _, .same _ _⟩
  | addLast _ _ _ _ hroom | flushSend _ _ _ _ hroom | poisonW _ hroom => exact ⟨.same _ _, .push _ hroom, .same _ _⟩
  | addNext _ _ _ _ _ hroom => exact .newInput ⟨.same _ _, .push _ hroom, .same _ _⟩
  | getOne _ htr => exact .newInput ⟨by rw [htr]; exact .pop _ _ _, .same _ _, .same _ _⟩
  | getAll _ _ htr => exact ⟨by rw [htr]; exact .pop _ _ _, .same _ _, .same _ _⟩
  | resume => exact .newInput ⟨.same _ _, .same _ _, .same _ _⟩
  | poisonO _ hroom | put _ hroom => exact ⟨.same _ _, .same _ _, .push _ hroom⟩
  | take _ hq | exit _ hq => exact ⟨.same _ _, by rw [hq]; exact .pop _ _ _, .same _ _⟩
  | write _ _ hroom => exact ⟨.push _ hroom, .same _ _, .same _ _⟩
  | stop _ _ hq | file _ _ hq => exact ⟨.same _ _, .same _ _, by rw [hq]; exact .pop _ _ _⟩

end KV.FilterCtl
