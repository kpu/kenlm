import Model.Filter
/-!
Sorted-list intersection (`util/multi_intersection.hh`): ranges and how the loops advance them.

`FirstIntersectionSorted` / `AllIntersection` only ever advance a range past elements below the
current `highest` (`Adv`).  That alone makes what the restart loop returns an element of every
range, for *every* order of the ranges and without any sortedness assumption
(`firstInterFuel_sound`).  On strictly increasing ranges the restart loop is complete: the lowest
common value is found, and `AllIntersection` reports every common value exactly once, in
increasing order.
-/
namespace KV.Filter

abbrev Inc (l : List Nat) : Prop := l.Pairwise (· < ·)

theorem Inc.suffix {l m : List Nat} (h : Inc m) (hs : l <:+ m) : Inc l := h.sublist hs.sublist

theorem Inc.head_le {x : Nat} {l : List Nat} (h : Inc (x :: l)) {c : Nat} (hc : c ∈ x :: l) : x ≤ c := by
  rcases List.mem_cons.mp hc with rfl | hc
  · exact Nat.le_refl _
  · exact Nat.le_of_lt ((List.pairwise_cons.mp h).1 c hc)

theorem Inc.tail_gt {x : Nat} {l : List Nat} (h : Inc (x :: l)) {c : Nat} (hc : c ∈ l) : x < c :=
  (List.pairwise_cons.mp h).1 c hc

theorem Inc.count_le_one {l : List Nat} (h : Inc l) (k : Nat) : l.count k ≤ 1 := by
  have hn : l.Nodup := h.imp Nat.ne_of_lt
  rw [hn.count]
  split
  · exact Nat.le_refl 1
  · exact Nat.zero_le 1

theorem inc_filter_range (n : Nat) (p : Nat → Bool) : Inc ((List.range n).filter p) :=
  List.Pairwise.sublist List.filter_sublist List.pairwise_lt_range

def AllInc (sets : List (List Nat)) : Prop := ∀ s ∈ sets, Inc s
def Common (c : Nat) (sets : List (List Nat)) : Prop := ∀ s ∈ sets, c ∈ s

/-- `a` is `s` without a prefix of elements below `b` -/
def Cut (b : Nat) (a s : List Nat) : Prop := ∃ pre, s = pre ++ a ∧ ∀ x ∈ pre, x < b

variable {b b' c m : Nat} {a a' s : List Nat} {r sets : List (List Nat)}

theorem Cut.refl (b : Nat) (s : List Nat) : Cut b s s := ⟨[], rfl, nofun⟩

theorem Cut.trans (h : Cut b a s) (h' : Cut b' a' a) (hb : b ≤ b') : Cut b' a' s := by
  obtain ⟨p, rfl, hp⟩ := h
  obtain ⟨p', rfl, hp'⟩ := h'
  refine ⟨p ++ p', (List.append_assoc ..).symm, fun x hx => ?_⟩
  rcases List.mem_append.mp hx with hx | hx
  · exact Nat.lt_of_lt_of_le (hp x hx) hb
  · exact hp' x hx

theorem Cut.suffix (h : Cut b a s) : a <:+ s := by
  obtain ⟨p, rfl, _⟩ := h
  exact List.suffix_append p a

theorem Cut.mem (h : Cut b a s) (hc : c ∈ s) (hb : b ≤ c) : c ∈ a := by
  obtain ⟨p, rfl, hp⟩ := h
  rcases List.mem_append.mp hc with hc | hc
  · exact absurd (hp c hc) (Nat.not_lt.mpr hb)
  · exact hc

theorem Cut.tail (m : Nat) (u : List Nat) : Cut (m + 1) u (m :: u) :=
  ⟨[m], rfl, fun x hx => by rw [List.mem_singleton.mp hx]; exact Nat.lt_succ_self m⟩

theorem lowerBound_cut (h : Nat) (l : List Nat) : Cut h (lowerBound h l) l :=
  ⟨l.takeWhile (· < h), List.takeWhile_append_dropWhile.symm, fun x hx => by
    simpa using List.all_eq_true.mp List.all_takeWhile x hx⟩

theorem lowerBound_suffix (h : Nat) (l : List Nat) : lowerBound h l <:+ l := (lowerBound_cut h l).suffix

theorem mem_lowerBound {h c : Nat} {l : List Nat} (hc : c ∈ l) (hn : ¬ c < h) : c ∈ lowerBound h l :=
  (lowerBound_cut h l).mem hc (Nat.not_lt.mp hn)

theorem lowerBound_head {h : Nat} : ∀ {l s : List Nat} {x : Nat}, lowerBound h l = x :: s → ¬ x < h
  | [], _, _, e => by cases e
  | y :: l, s, x, e => by
    unfold lowerBound at e
    rw [List.dropWhile_cons] at e
    split at e
    · exact lowerBound_head (l := l) e
    · rename_i hy
      injection e with e1 _; subst e1; simpa using hy

theorem lowerBound_ge {h : Nat} {l : List Nat} (hl : Inc l) : ∀ x ∈ lowerBound h l, h ≤ x := by
  intro x hx
  cases hlb : lowerBound h l with
  | nil => rw [hlb] at hx; cases hx
  | cons y t =>
    have hy := lowerBound_head hlb
    have hinc : Inc (y :: t) := hl.suffix (by rw [← hlb]; exact lowerBound_suffix h l)
    rw [hlb] at hx
    exact Nat.le_trans (Nat.not_lt.mp hy) (hinc.head_le hx)

/-- the ranges `r` are the ranges `sets` advanced below `b`: position by position a range has
lost only a prefix of elements below `b` -/
inductive Adv (b : Nat) : List (List Nat) → List (List Nat) → Prop
  | nil : Adv b [] []
  | cons {a s : List Nat} {r sets : List (List Nat)} : Cut b a s → Adv b r sets → Adv b (a :: r) (s :: sets)

theorem Adv.refl (b : Nat) : ∀ sets : List (List Nat), Adv b sets sets
  | [] => .nil
  | s :: sets => .cons (Cut.refl b s) (Adv.refl b sets)

theorem Adv.trans (h : Adv b r sets) :
    ∀ {r' : List (List Nat)}, Adv b' r' r → b ≤ b' → Adv b' r' sets := by
  induction h with
  | nil => intro r' h' _; exact h'
  | cons hc _ ih => intro r' h' hb; cases h' with | cons hc' hr' => exact .cons (hc.trans hc' hb) (ih hr' hb)

theorem Adv.forall_advanced {P Q : List Nat → Prop} (hpq : ∀ {a s}, Cut b a s → P s → Q a)
    (h : Adv b r sets) : (∀ s ∈ sets, P s) → ∀ a ∈ r, Q a := by
  induction h with
  | nil => exact fun _ _ ha => nomatch ha
  | cons hc _ ih =>
    intro hs
    obtain ⟨h1, h2⟩ := List.forall_mem_cons.mp hs
    exact List.forall_mem_cons.mpr ⟨hpq hc h1, ih h2⟩

theorem Adv.common_of (h : Adv b r sets) (hm : Common m r) : Common m sets := by
  induction h with
  | nil => exact fun _ hs => nomatch hs
  | cons hc _ ih =>
    obtain ⟨h1, h2⟩ := List.forall_mem_cons.mp hm
    exact List.forall_mem_cons.mpr ⟨hc.suffix.subset h1, ih h2⟩

theorem Adv.common (h : Adv b r sets) (hc : Common c sets) (hb : b ≤ c) :
    Common c r :=
  h.forall_advanced (fun hcut hcs => hcut.mem hcs hb) hc

theorem Adv.allInc (h : Adv b r sets) (hi : AllInc sets) : AllInc r :=
  h.forall_advanced (fun hcut hs => Inc.suffix hs hcut.suffix) hi

theorem totalLen_cons (s : List Nat) (rest : List (List Nat)) : totalLen (s :: rest) = s.length + totalLen rest := rfl

theorem Adv.totalLen_le (h : Adv b r sets) : totalLen r ≤ totalLen sets := by
  induction h with
  | nil => exact Nat.le_refl _
  | cons hc _ ih =>
    rw [totalLen_cons, totalLen_cons]
    exact Nat.add_le_add hc.suffix.length_le ih

/-- every range is headed by `m` -/
def Fronts (m : Nat) (r : List (List Nat)) : Prop := ∀ a ∈ r, ∃ t, a = m :: t

theorem Fronts.common (h : Fronts m r) : Common m r := fun a ha => by
  obtain ⟨t, rfl⟩ := h a ha
  exact List.mem_cons_self

theorem pass_spec (h : Nat) (sets : List (List Nat)) :
    match pass h sets with
    | .exhausted => ∃ s ∈ sets, ∀ x ∈ s, x < h
    | .same r => Adv h r sets ∧ Fronts h r
    | .higher h' r => Adv h r sets ∧ h < h' ∧ ∃ a ∈ r, ∃ t, a = h' :: t := by
  fun_induction pass h sets with
  | case1 => exact ⟨.nil, nofun⟩
  | case2 s rest hlb =>
    obtain ⟨pre, hs, hpre⟩ := lowerBound_cut h s
    rw [hlb, List.append_nil] at hs
    exact ⟨s, List.mem_cons_self, hs ▸ hpre⟩
  | case3 s rest x s' hlb hhx =>
    exact ⟨.cons (hlb ▸ lowerBound_cut h s) (Adv.refl h rest), hhx, _, List.mem_cons_self, s', rfl⟩
  | case4 s rest x s' hlb hhx hp ih =>
    obtain ⟨t, ht, hall⟩ := hp ▸ ih
    exact ⟨t, List.mem_cons_of_mem _ ht, hall⟩
  | case5 s rest x s' hlb hhx r hp ih =>
    obtain rfl : x = h := Nat.le_antisymm (Nat.not_lt.mp hhx) (Nat.not_lt.mp (lowerBound_head hlb))
    rw [hp] at ih
    exact ⟨.cons (hlb ▸ lowerBound_cut x s) ih.1, List.forall_mem_cons.mpr ⟨⟨s', rfl⟩, ih.2⟩⟩
  | case6 s rest x s' hlb hhx h' r hp ih =>
    rw [hp] at ih
    obtain ⟨h1, h2, a, ha, hat⟩ := ih
    exact ⟨.cons (hlb ▸ lowerBound_cut h s) h1, h2, a, List.mem_cons_of_mem _ ha, hat⟩

theorem firstInterFuel_sound (fuel h : Nat) (sets : List (List Nat)) {m : Nat} {r : List (List Nat)}
    (e : firstInterFuel fuel h sets = some (some (m, r))) : h ≤ m ∧ Adv m r sets ∧ Fronts m r := by
  fun_induction firstInterFuel fuel h sets with
  | case1 => cases e
  | case2 => cases e
  | case3 fuel h sets r' hq =>
    have hp := pass_spec h sets
    rw [hq] at hp
    cases e
    exact ⟨Nat.le_refl _, hp⟩
  | case4 fuel h sets h' r' hq ih =>
    obtain ⟨g0, g1, g2⟩ := ih e
    obtain ⟨hadv, hlt, -⟩ := hq ▸ pass_spec h sets
    have hle : h ≤ m := Nat.le_trans (Nat.le_of_lt hlt) g0
    exact ⟨hle, hadv.trans g1 hle, g2⟩

/-- **the restart loop finds a value when one exists**, and it is not above any common value:
every restart raises `highest` to the front of a range, which is at most the common value -/
theorem firstInterFuel_complete (fuel h c : Nat) (sets : List (List Nat)) (hi : AllInc sets) (hc : Common c sets)
    (hle : h ≤ c) (hf : c - h < fuel) : ∃ m r, firstInterFuel fuel h sets = some (some (m, r)) ∧ m ≤ c := by
  fun_induction firstInterFuel fuel h sets with
  | case1 => exact absurd hf (Nat.not_lt_zero _)
  | case2 fuel h sets hq =>
    obtain ⟨s, hs, hall⟩ := hq ▸ pass_spec h sets
    exact absurd (hall c (hc s hs)) (Nat.not_lt.mpr hle)
  | case3 fuel h sets r hq => exact ⟨h, r, rfl, hle⟩
  | case4 fuel h sets h' r hq ih =>
    obtain ⟨hadv, hlt, a, ha, t, rfl⟩ := hq ▸ pass_spec h sets
    have hcr := hadv.common hc hle
    have hri := hadv.allInc hi
    have hle' : h' ≤ c := (hri _ ha).head_le (hcr _ ha)
    exact ih hri hcr hle'
      (Nat.lt_of_lt_of_le (Nat.sub_lt_sub_left (Nat.lt_of_lt_of_le hlt hle') hlt) (Nat.le_of_lt_succ hf))

theorem le_maxElem {s : List Nat} (hs : s ∈ sets) (hc : c ∈ s) : c ≤ maxElem sets := by
  have hm : c ∈ sets.flatten := List.mem_flatten.mpr ⟨s, hs, hc⟩
  unfold maxElem
  generalize sets.flatten = l at hm
  induction l with
  | nil => cases hm
  | cons y l ih =>
    rw [List.foldr_cons]
    rcases List.mem_cons.mp hm with rfl | hm
    · exact Nat.le_max_left _ _
    · exact Nat.le_trans (ih hm) (Nat.le_max_right _ _)

theorem firstInterSets_sound (e : firstInterSets sets = some (m, r)) :
    Adv m r sets ∧ Fronts m r := by
  unfold firstInterSets at e
  split at e
  · cases e
  · cases e
  · split at e
    · rename_i hf
      subst e
      exact (firstInterFuel_sound _ _ _ hf).2
    · cases e

theorem firstInterSets_common (e : firstInterSets sets = some (m, r)) :
    Common m sets :=
  (firstInterSets_sound e).1.common_of (firstInterSets_sound e).2.common

theorem firstInterSets_complete (hne : sets ≠ []) (hi : AllInc sets)
    (hc : Common c sets) : ∃ m r, firstInterSets sets = some (m, r) ∧ m ≤ c := by
  cases sets with
  | nil => exact absurd rfl hne
  | cons s0 rest =>
    cases s0 with
    | nil => cases hc [] List.mem_cons_self
    | cons x s =>
      have hc0 := hc _ List.mem_cons_self
      have hcm : c ≤ maxElem ((x :: s) :: rest) := le_maxElem List.mem_cons_self hc0
      obtain ⟨m, r, e, hm⟩ := firstInterFuel_complete (maxElem ((x :: s) :: rest) + 1) x c _ hi hc
        ((hi _ List.mem_cons_self).head_le hc0) (Nat.lt_succ_of_le (Nat.le_trans (Nat.sub_le c x) hcm))
      exact ⟨m, r, by simp only [firstInterSets, e], hm⟩

/-- **`FirstIntersection` is sound for every order of the ranges**: the reported value lies in
every range -/
theorem firstInter_mem (e : firstInter sets = some m) : Common m sets := by
  unfold firstInter at e
  cases hf : firstInterSets sets with
  | none => rw [hf] at e; cases e
  | some p =>
    rw [hf] at e
    injection e with e; subst e
    exact firstInterSets_common hf

theorem firstInter_isSome_iff (hne : sets ≠ []) (hi : AllInc sets) :
    (firstInter sets).isSome = true ↔ ∃ c, Common c sets := by
  constructor
  · intro h
    obtain ⟨m, hf⟩ := Option.isSome_iff_exists.mp h
    exact ⟨m, firstInter_mem hf⟩
  · rintro ⟨c, hc⟩
    obtain ⟨m, r, e, _⟩ := firstInterSets_complete hne hi hc
    simp only [firstInter, e, Option.map_some, Option.isSome_some]

theorem allInter_next {x : Nat} {u : List Nat} {rest : List (List Nat)}
    (h : Adv m ((x :: u) :: rest) sets) (hf : Fronts m ((x :: u) :: rest)) : Adv (m + 1) (u :: rest) sets := by
  obtain ⟨t, ht⟩ := hf _ List.mem_cons_self
  injection ht with hx _
  subst hx
  exact h.trans (.cons (Cut.tail x u) (Adv.refl _ rest)) (Nat.le_succ x)

theorem allInterFuel_mem (fuel : Nat) (sets : List (List Nat)) (m : Nat) (hm : m ∈ allInterFuel fuel sets) :
    Common m sets := by
  fun_induction allInterFuel fuel sets with
  | case1 => cases hm
  | case2 => cases hm
  | case3 fuel sets m' x s rest hf ih =>
    rcases List.mem_cons.mp hm with rfl | hm
    · exact firstInterSets_common hf
    · obtain ⟨hadv, hfr⟩ := firstInterSets_sound hf
      exact (allInter_next hadv hfr).common_of (ih hm)
  | case4 fuel sets m' r hf =>
    rw [List.mem_singleton.mp hm]
    exact firstInterSets_common hf

theorem allInterFuel_spec (fuel : Nat) (sets : List (List Nat)) (hne : sets ≠ []) (hi : AllInc sets)
    (hf : totalLen sets < fuel) :
    (∀ c, Common c sets → c ∈ allInterFuel fuel sets) ∧ Inc (allInterFuel fuel sets) := by
  fun_induction allInterFuel fuel sets with
  | case1 => exact absurd hf (Nat.not_lt_zero _)
  | case2 fuel sets hfs =>
    refine ⟨fun c hc => ?_, List.Pairwise.nil⟩
    obtain ⟨m, r, e, _⟩ := firstInterSets_complete hne hi hc
    rw [hfs] at e; cases e
  | case3 fuel sets m x u rest hfs ih =>
    obtain ⟨hadv, hfr⟩ := firstInterSets_sound hfs
    have hnext := allInter_next hadv hfr
    have hlen : totalLen (u :: rest) < fuel := by
      have := hadv.totalLen_le
      simp only [totalLen_cons, List.length_cons] at this ⊢; omega
    obtain ⟨ih1, ih2⟩ := ih (List.cons_ne_nil _ _) (hnext.allInc hi) hlen
    refine ⟨fun c hc => ?_, List.pairwise_cons.mpr ⟨fun c hc => ?_, ih2⟩⟩
    · -- `m` is the least common value; a larger one is still common after the advance
      obtain ⟨m', r', e', hle⟩ := firstInterSets_complete hne hi hc
      rw [hfs] at e'; injection e' with e'; injection e' with e1 _; subst e1
      rcases Nat.eq_or_lt_of_le hle with rfl | hlt
      · exact List.mem_cons_self
      · exact List.mem_cons_of_mem _ (ih1 c (hnext.common hc hlt))
    · -- a later result lies in the tail of the first range, which is increasing
      obtain ⟨t, ht⟩ := hfr _ List.mem_cons_self
      injection ht with hx _; subst hx
      exact (hadv.allInc hi _ List.mem_cons_self).tail_gt (allInterFuel_mem fuel _ c hc u List.mem_cons_self)
  | case4 fuel sets m r hfs hr =>
    -- the ranges returned are as many as `sets`, the first is headed by `m`
    obtain ⟨hadv, hfr⟩ := firstInterSets_sound hfs
    cases hadv with
    | nil => exact absurd rfl hne
    | cons _ _ => obtain ⟨t, rfl⟩ := hfr _ List.mem_cons_self; exact (hr _ _ _ rfl).elim
theorem allInter_spec {sets : List (List Nat)} (hne : sets ≠ []) (hi : AllInc sets) :
    (∀ c, c ∈ allInter sets ↔ Common c sets) ∧ Inc (allInter sets) := by
  obtain ⟨h1, h2⟩ := allInterFuel_spec (totalLen sets + 1) sets hne hi (Nat.lt_succ_self _)
  exact ⟨fun c => ⟨fun hc => allInterFuel_mem _ _ c hc, h1 c⟩, h2⟩

end KV.Filter
