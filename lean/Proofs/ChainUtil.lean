import Model.Chain
/-! Generic facts shared by the queue, pool and chain proofs: pointwise update `upd` of a function on `Nat`, the atomic
FIFO operations, sums over an initial segment of `Nat` (`sumTo`), least elements, `List.set`.  Core Lean only. -/
namespace KV

variable {α : Type} {l : List α} {i : Nat} {x : α}

theorem set_cases (hx : l[i]? = some x) {y : α} {j : Nat} {z : α} (h : (l.set i y)[j]? = some z) :
    (j = i ∧ z = y) ∨ (j ≠ i ∧ l[j]? = some z) := by
  rw [List.getElem?_set] at h
  by_cases e : i = j
  · subst e
    have : i < l.length := (List.getElem?_eq_some_iff.mp hx).1
    simp [this] at h
    exact Or.inl ⟨rfl, h.symm⟩
  · simp [e] at h
    exact Or.inr ⟨fun e' => e e'.symm, h⟩

theorem set_self (hx : l[i]? = some x) (y : α) : (l.set i y)[i]? = some y :=
  List.getElem?_set_self (List.getElem?_eq_some_iff.mp hx).1

theorem set_same (hx : l[i]? = some x) : l.set i x = l := by
  obtain ⟨hlt, rfl⟩ := List.getElem?_eq_some_iff.mp hx
  exact List.set_getElem_self hlt

theorem none_of_not_exists {α : Type} {f : Nat → Option α} (hn : ¬ ∃ t, f t ≠ none) (t : Nat) : f t = none :=
  Classical.byContradiction fun e => hn ⟨t, e⟩

theorem countP_set' (p : α → Bool) (h : l[i]? = some x) (y : α) :
    (l.set i y).countP p + (if p x then 1 else 0) = l.countP p + (if p y then 1 else 0) := by
  induction l generalizing i with
  | nil => simp at h
  | cons a l ih =>
    cases i with
    | zero =>
      simp at h; subst h
      simp only [List.set_cons_zero, List.countP_cons]
      omega
    | succ i =>
      simp at h
      have := ih h
      simp only [List.set_cons_succ, List.countP_cons]
      omega

theorem replicate_sub_succ {α : Type} (x : α) {k b : Nat} (hk : k + 1 ≤ b) :
    List.replicate (b - k) x = List.replicate (b - (k + 1)) x ++ [x] := by
  rw [show b - k = (b - (k + 1)) + 1 by omega, List.replicate_succ']

theorem ite_ne_none {α : Type} {p : Prop} [Decidable p] {x : α} (h : (if p then some x else none) ≠ none) : p :=
  Decidable.by_contra fun e => h (if_neg e)

theorem exists_least {P : Nat → Prop} {n : Nat} (h : ∃ i, i ≤ n ∧ P i) :
    ∃ i, i ≤ n ∧ P i ∧ ∀ j, j < i → ¬ P j := by
  obtain ⟨i, hi, hp⟩ := h
  induction i using Nat.strongRecOn with
  | _ i ih =>
    by_cases hex : ∃ j, j < i ∧ P j
    · obtain ⟨j, hj, hpj⟩ := hex
      exact ih j hj (by omega) hpj
    · exact ⟨i, hi, hp, fun j hj hpj => hex ⟨j, hj, hpj⟩⟩

end KV

namespace KV.Chain

def Item.val? : Item → Option Nat
  | .val v => some v
  | .poison => none


variable {i k : Nat}

theorem upd_same {α : Type} (f : Nat → α) (i : Nat) (v : α) : upd f i v i = v := by simp [upd]

theorem upd_ne {α : Type} (f : Nat → α) {i j : Nat} (v : α) (h : j ≠ i) : upd f i v j = f j := by simp [upd, h]

theorem forall_upd {α : Type} {R : Nat → α → Prop} {f : Nat → α} {i : Nat} {v : α} :
    (∀ j, R j (upd f i v j)) ↔ R i v ∧ ∀ j, j ≠ i → R j (f j) := by
  refine ⟨fun h => ⟨upd_same f i v ▸ h i, fun j e => upd_ne f v e ▸ h j⟩, fun h j => ?_⟩
  by_cases e : j = i
  · rw [e, upd_same]; exact h.1
  · rw [upd_ne _ _ e]; exact h.2 j e

theorem upd_self {α : Type} (f : Nat → α) (i : Nat) : upd f i (f i) = f := by
  funext j; by_cases e : j = i <;> simp [upd, e]

theorem upd_proj {α β : Type} (p : α → β) (f : Nat → α) {v : α} (h : p v = p (f i)) (j : Nat) :
    p (upd f i v j) = p (f j) := by
  by_cases e : j = i
  · rw [e, upd_same, h]
  · rw [upd_ne f v e]

theorem upd_comp {α β : Type} (g : α → β) (f : Nat → α) (i : Nat) (v : α) :
    (fun j => g (upd f i v j)) = upd (fun j => g (f j)) i (g v) := by
  funext j
  by_cases e : j = i
  · rw [e, upd_same, upd_same]
  · rw [upd_ne f v e, upd_ne _ _ e]

theorem fifoPush_some {α : Type} {cap : Nat} {buf buf' : List α} {x : α} (h : fifoPush cap buf x = some buf') :
    buf.length < cap ∧ buf' = buf ++ [x] := by
  unfold fifoPush at h
  by_cases e : buf.length < cap
  · rw [if_pos e] at h; cases h; exact ⟨e, rfl⟩
  · rw [if_neg e] at h; cases h

theorem fifoPop_some {α : Type} {buf rest : List α} {x : α} (h : fifoPop buf = some (x, rest)) :
    buf = x :: rest := by
  cases buf with
  | nil => cases h
  | cons a l => cases h; rfl

def sumTo (f : Nat → Nat) : Nat → Nat
  | 0 => 0
  | k + 1 => sumTo f k + f k

theorem sumTo_congr {f g : Nat → Nat} (h : ∀ i, i < k → f i = g i) : sumTo f k = sumTo g k := by
  induction k with
  | zero => rfl
  | succ k ih =>
    simp only [sumTo]
    rw [ih (fun i hi => h i (by omega)), h k (by omega)]

theorem sumTo_eq_zero {f : Nat → Nat} (h : ∀ i, i < k → f i = 0) : sumTo f k = 0 := by
  induction k with
  | zero => rfl
  | succ k ih => simp only [sumTo]; rw [ih (fun i hi => h i (by omega)), h k (by omega)]

theorem sumTo_add (f g : Nat → Nat) (k : Nat) : sumTo (fun i => f i + g i) k = sumTo f k + sumTo g k := by
  induction k with
  | zero => rfl
  | succ k ih => simp only [sumTo, ih]; omega

theorem sumTo_shift (f : Nat → Nat) (k : Nat) : sumTo f (k + 1) = f 0 + sumTo (fun i => f (i + 1)) k := by
  induction k with
  | zero => simp [sumTo]
  | succ k ih => rw [sumTo, ih]; simp only [sumTo]; omega

theorem le_sumTo (f : Nat → Nat) {i k : Nat} (h : i < k) : f i ≤ sumTo f k := by
  induction k with
  | zero => omega
  | succ k ih =>
    simp only [sumTo]
    by_cases e : i = k
    · subst e; omega
    · have := ih (by omega); omega

theorem exists_pos_of_sumTo_pos {f : Nat → Nat} (h : 0 < sumTo f k) : ∃ i, i < k ∧ 0 < f i := by
  induction k with
  | zero => simp [sumTo] at h
  | succ k ih =>
    simp only [sumTo] at h
    by_cases e : 0 < f k
    · exact ⟨k, by omega, e⟩
    · obtain ⟨i, hi, hp⟩ := ih (by omega)
      exact ⟨i, by omega, hp⟩

theorem sumTo_upd (f : Nat → Nat) {i k : Nat} (v : Nat) (h : i < k) :
    sumTo (upd f i v) k + f i = sumTo f k + v := by
  induction k with
  | zero => omega
  | succ k ih =>
    simp only [sumTo]
    by_cases e : i = k
    · subst e
      rw [upd_same, sumTo_congr (g := f) (fun j hj => upd_ne f v (by omega))]
      omega
    · rw [upd_ne f v (Ne.symm e)]
      have := ih (by omega)
      omega

theorem sumTo_change (f f' : Nat → Nat) {t n : Nat} (ht : t < n) (hfr : ∀ t', t' ≠ t → f' t' = f t') :
    sumTo f' n + f t = sumTo f n + f' t := by
  have : f' = upd f t (f' t) := by
    funext j; by_cases e : j = t
    · rw [e, upd_same]
    · rw [upd_ne f _ e, hfr j e]
  rw [this, upd_same]
  exact sumTo_upd f (f' t) ht

/-- two summands at once; the ring needs one queue and one hand only (`le_sumTo` twice, in `RInv.room`) -/
theorem le_sumTo_two (f : Nat → Nat) {i j k : Nat} (hi : i < k) (hj : j < k) (hne : i ≠ j) :
    f i + f j ≤ sumTo f k := by
  have h1 := sumTo_upd f 0 hi
  have h2 := le_sumTo (upd f i 0) hj
  rw [upd_ne f 0 (Ne.symm hne)] at h2
  omega

theorem map_range_upd {α β : Type} (f : α → β) (g : Nat → α) (w i : Nat) (x : α) (hi : i < w) :
    (List.range w).map (fun j => f (upd g (i + 1) x (j + 1)))
      = ((List.range w).map fun j => f (g (j + 1))).set i (f x) := by
  apply List.ext_getElem?
  intro j
  simp only [List.getElem?_map, List.getElem?_set, List.length_map, List.length_range]
  by_cases hj : j < w
  · by_cases e : i = j
    · subst e; simp [hj, upd_same]
    · have e' : ¬ j = i := fun h => e h.symm
      simp [hj, e, e', upd_ne]
  · have : i ≠ j := by omega
    simp [hj, this]

theorem map_range_upd0 {α β : Type} (f : α → β) (g : Nat → α) (w : Nat) (x : α) :
    (List.range w).map (fun j => f (upd g 0 x (j + 1))) = (List.range w).map fun j => f (g (j + 1)) := by
  apply List.map_congr_left
  intro j _
  simp [upd_ne]

end KV.Chain
