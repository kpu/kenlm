import Proofs.ScoreSpec
/-! Post-condition of `ScoreExceptBackoff`/`ResumeScore` over the abstract table (loop invariant,
induction on the remaining context). -/
namespace KV.Score
open KV.Arpa KV.Table KV.State

/-- `L - 1` is the last position below `B` at which `f` holds (`L = 0`: there is none).  This is how `ResumeScore`
and `GetState` keep `next_use` resp. `length`, with `f j` = "the entry matched with `j` context words extends right":
`AccPost`, `AccInv` below and `GetPost`, `GetInv` (Proofs/ScoreCanonical) do not hold a `LastMarked`: each spells the three
clauses out as its last three fields (`olen_le` resp. `len_le`, `unmarked`, `marked`), and the proofs rebuild it with `LastMarked.mk`. -/
structure LastMarked (f : Nat → Bool) (B L : Nat) : Prop where
  le : L ≤ B
  unmarked : ∀ j, L ≤ j → j < B → f j = false
  marked : 0 < L → f (L - 1) = true

theorem LastMarked.zero (f : Nat → Bool) : LastMarked f 0 0 :=
  ⟨Nat.le_refl 0, fun j _ h => absurd h (Nat.not_lt_zero j), fun h => absurd h (Nat.lt_irrefl 0)⟩

theorem LastMarked.succ {f : Nat → Bool} {B L : Nat} (h : LastMarked f B L) :
    LastMarked f (B + 1) (if f B then B + 1 else L) := by
  by_cases hf : f B = true
  · rw [if_pos hf]
    exact ⟨Nat.le_refl _, fun j h1 h2 => absurd h2 (Nat.not_lt.mpr h1), fun _ => hf⟩
  · rw [if_neg hf]
    refine ⟨Nat.le_succ_of_le h.le, fun j h1 h2 => ?_, h.marked⟩
    rcases Nat.lt_succ_iff_lt_or_eq.mp h2 with h2 | rfl
    · exact h.unmarked j h1 h2
    · exact Bool.eq_false_iff.mpr hf

theorem LastMarked.congr {f g : Nat → Bool} {B L : Nat} (hfg : ∀ j, j < B → f j = g j) (h : LastMarked f B L) :
    LastMarked g B L :=
  ⟨h.le, fun j h1 h2 => hfg j h2 ▸ h.unmarked j h1 h2,
   fun hL => hfg (L - 1) (Nat.lt_of_lt_of_le (Nat.sub_lt hL Nat.one_pos) h.le) ▸ h.marked hL⟩

theorem LastMarked.le_of {f : Nat → Bool} {B L₁ L₂ : Nat} (h₁ : LastMarked f B L₁) (h₂ : LastMarked f B L₂) :
    L₁ ≤ L₂ := by
  apply Nat.le_of_not_lt
  intro h
  have hpos : 0 < L₁ := Nat.lt_of_le_of_lt (Nat.zero_le _) h
  have hm := h₁.marked hpos
  rw [h₂.unmarked (L₁ - 1) (Nat.le_sub_one_of_lt h) (Nat.lt_of_lt_of_le (Nat.sub_lt hpos Nat.one_pos) h₁.le)] at hm
  cases hm

theorem LastMarked.unique {f : Nat → Bool} {B L₁ L₂ : Nat} (h₁ : LastMarked f B L₁) (h₂ : LastMarked f B L₂) :
    L₁ = L₂ := Nat.le_antisymm (h₁.le_of h₂) (h₂.le_of h₁)

/-- what `ScoreExceptBackoff` returns, stated on the loop state: `c0` context words were matched.
`indep` collects the three places where `ResumeScore` sets `independent_left`: the highest order was reached
(`c0 = order - 1`), a lookup failed before the supplied context was used up (`c0 < |ctx|`), or the last entry found says so
itself.  `olen_le`/`unmarked`/`marked` are about `next_use`, which becomes `out_state.length`. -/
structure AccPost (T : Table) (ctx : List Word) (w : Word) (acc : Acc (List Word)) (c0 : Nat) : Prop where
  c0_le : c0 ≤ ctx.length
  c0_lt : c0 ≤ T.order - 1
  found : ∃ t, T.lookup (w :: ctx.take c0) = some t ∧ acc.ret.prob = t.prob
  len : acc.ret.ngramLength = c0 + 1
  stop : c0 < ctx.length → c0 < T.order - 1 → T.lookup (w :: ctx.take (c0+1)) = none
  indep : acc.ret.independentLeft = (decide (c0 = T.order - 1) || decide (c0 < ctx.length) || !T.xl (w :: ctx.take c0))
  bo : acc.backoffOut = (List.range (min (c0+1) (T.order-1))).map (fun j => T.bo (w :: ctx.take j))
  olen_le : acc.nextUse ≤ min (c0+1) (T.order - 1)
  unmarked : ∀ j, acc.nextUse ≤ j → j < min (c0+1) (T.order-1) → T.xr (w :: ctx.take j) = false
  marked : 0 < acc.nextUse → T.xr (w :: ctx.take (acc.nextUse - 1)) = true

/-- loop invariant at the head of `ResumeScore` after `i` context words; `i_lt` is the loop's bound on `order_minus_2`
(at `i = order - 2` the next lookup is `LookupLongest` and ends the loop) -/
structure AccInv (T : Table) (ctx : List Word) (w : Word) (i : Nat) (node : List Word) (acc : Acc (List Word)) : Prop where
  node_eq : node = w :: ctx.take i
  i_le : i ≤ ctx.length
  i_lt : i ≤ T.order - 2
  len : acc.ret.ngramLength = i + 1
  found : ∃ t, T.lookup (w :: ctx.take i) = some t ∧ acc.ret.prob = t.prob ∧ acc.ret.independentLeft = !t.extendsLeft
  bo : acc.backoffOut = (List.range (i+1)).map (fun j => T.bo (w :: ctx.take j))
  olen_le : acc.nextUse ≤ i + 1
  unmarked : ∀ j, acc.nextUse ≤ j → j < i + 1 → T.xr (w :: ctx.take j) = false
  marked : 0 < acc.nextUse → T.xr (w :: ctx.take (acc.nextUse - 1)) = true

theorem lookupMiddle_table (T : Table) (om2 : Nat) (x : Word) (node : List Word) :
    (tableSearch T).lookupMiddle om2 x node = ((T.lookup (node ++ [x])).map toFound, node ++ [x]) := rfl
theorem lookupLongest_table (T : Table) (x : Word) (node : List Word) :
    (tableSearch T).lookupLongest x node = (T.lookup (node ++ [x])).map (·.prob) := rfl

theorem lookupUnigram_table {T : Table} {w : Word} {u : TEntry} (hu : T.lookup [w] = some u) :
    (tableSearch T).lookupUnigram w = (toFound u, [w]) := by simp only [tableSearch, hu]

theorem lookupUnigram_backoff (T : Table) (x : Word) : ((tableSearch T).lookupUnigram x).1.backoff = T.bo [x] := by
  show (match T.lookup [x] with | some t => toFound t | none => _).backoff = T.bo [x]
  unfold Table.bo
  cases T.lookup [x] <;> rfl

variable {T : Table} {ctx : List Word} {w : Word} {i : Nat} {node : List Word} {acc : Acc (List Word)}

/-- every way the loop ends without a further match (context exhausted, the matched entry does not extend left,
the next lookup fails) gives the post-condition with the `i` words matched so far -/
theorem AccInv.stop (ok : TableOK T) (inv : AccInv T ctx w i node acc)
    (hstop : i < ctx.length → T.lookup (w :: ctx.take (i+1)) = none)
    (b : Bool) (hb : b = (decide (i < ctx.length) || acc.ret.independentLeft)) :
    AccPost T ctx w { acc with ret := { acc.ret with independentLeft := b } } i := by
  obtain ⟨t, ht, hp, hind⟩ := inv.found
  have h1 : i + 1 ≤ T.order - 1 := by have := ok.order_ge; have := inv.i_lt; omega
  have hmin : min (i+1) (T.order - 1) = i + 1 := Nat.min_eq_left h1
  refine ⟨inv.i_le, Nat.le_of_succ_le h1, ⟨t, ht, hp⟩, inv.len, fun h _ => hstop h, ?_, ?_, ?_, ?_, inv.marked⟩
  · show b = (decide (i = T.order - 1) || decide (i < ctx.length) || !T.xl (w :: ctx.take i))
    rw [hb, hind, Table.xl_of_lookup ht, decide_eq_false (Nat.ne_of_lt h1), Bool.false_or]
  · rw [hmin]; exact inv.bo
  · rw [hmin]; exact inv.olen_le
  · rw [hmin]; exact inv.unmarked

/-- a match at the highest order ends the loop with `i+1` words matched -/
theorem AccInv.longest (inv : AccInv T ctx w i node acc) (hi : i < ctx.length) (hlong : i + 2 = T.order)
    {t : TEntry} (hl : T.lookup (w :: ctx.take (i+1)) = some t) :
    AccPost T ctx w
      { acc with ret := { acc.ret with independentLeft := true, prob := t.prob, rest := t.prob, ngramLength := T.order } }
      (i + 1) := by
  have h1 : T.order - 1 = i + 1 := by rw [← hlong]; rfl
  have hmin : min (i+1+1) (T.order - 1) = i + 1 := by rw [h1]; exact Nat.min_eq_right (Nat.le_succ _)
  refine ⟨hi, Nat.le_of_eq h1.symm, ⟨t, hl, rfl⟩, hlong.symm, fun _ h => absurd h (h1 ▸ Nat.lt_irrefl _), ?_, ?_, ?_, ?_,
    inv.marked⟩
  · show true = (decide (i + 1 = T.order - 1) || decide (i + 1 < ctx.length) || !T.xl (w :: ctx.take (i+1)))
    rw [decide_eq_true h1.symm]; rfl
  · rw [hmin]; exact inv.bo
  · rw [hmin]; exact inv.olen_le
  · rw [hmin]; exact inv.unmarked

/-- a match below the highest order re-establishes the invariant with one more word -/
theorem AccInv.next (inv : AccInv T ctx w i node acc) (hi : i < ctx.length) (hlt : i + 1 ≤ T.order - 2)
    {t : TEntry} (hl : T.lookup (w :: ctx.take (i+1)) = some t) {node' : List Word} (hnode : node' = w :: ctx.take (i+1)) :
    AccInv T ctx w (i+1) node'
      { ret := { prob := t.prob, rest := t.prob, ngramLength := i + 2, independentLeft := !t.extendsLeft, extendLeft := node' },
        backoffOut := acc.backoffOut ++ [t.backoff],
        nextUse := if t.extendsRight then i + 2 else acc.nextUse } := by
  have lm := (LastMarked.mk inv.olen_le inv.unmarked inv.marked).succ
  simp only [Table.xr_of_lookup hl] at lm
  refine ⟨hnode, hi, hlt, rfl, ⟨t, hl, rfl, rfl⟩, ?_, lm.le, lm.unmarked, lm.marked⟩
  show acc.backoffOut ++ [t.backoff] = _
  rw [inv.bo, List.range_succ (n := i+1), List.map_append, ← Table.bo_of_lookup hl]; rfl

/-- `ResumeScore` from the head of the loop after `i` words (`l` = the words still to come): induction over `l`, one case
per exit of the loop — context used up, the entry found does not extend left, the next lookup fails (`AccInv.stop` each
time), a match at the highest order (`AccInv.longest`) — and `AccInv.next` for a match below it -/
theorem resume_post (ok : TableOK T) :
    ∀ (l : List Word) (i : Nat) (node : List Word) (acc : Acc (List Word)), ctx.drop i = l →
      AccInv T ctx w i node acc →
      ∃ c0, AccPost T ctx w (resumeScore (tableSearch T) l i node acc) c0 := by
  intro l
  induction l with
  | nil =>
    intro i node acc hd inv
    have hi : ¬ i < ctx.length := Nat.not_lt.mpr (List.drop_eq_nil_iff.mp hd)
    exact ⟨i, inv.stop ok (fun h => absurd h hi) _ (by rw [decide_eq_false hi, Bool.false_or])⟩
  | cons x rest ih =>
    intro i node acc hd inv
    obtain ⟨htake, hdrop, hi⟩ := take_succ_of_drop hd
    have hnode : node ++ [x] = w :: ctx.take (i+1) := by rw [inv.node_eq, htake]; rfl
    rw [resumeScore, lookupLongest_table, lookupMiddle_table, hnode]
    cases hil : acc.ret.independentLeft with
    | true =>
      obtain ⟨t, ht, _, hind⟩ := inv.found
      have hnone := ok.xl_sound _ x t ht (by rw [hil] at hind; simpa using hind.symm)
      rw [if_pos rfl]
      exact ⟨i, inv.stop ok (fun _ => by rw [← hnode, inv.node_eq]; exact hnone) _ (by rw [hil, Bool.or_true])⟩
    | false =>
      rw [if_neg Bool.false_ne_true]
      have hb : true = (decide (i < ctx.length) || acc.ret.independentLeft) := by rw [decide_eq_true hi]; rfl
      cases hl : T.lookup (w :: ctx.take (i+1)) with
      | none =>
        simp only [Option.map_none, ite_self]
        exact ⟨i, inv.stop ok (fun _ => hl) true hb⟩
      | some t =>
        have h2 := ok.order_ge
        have hilt := inv.i_lt
        by_cases hlong : i = (tableSearch T).order - 2
        · have hlong' : i + 2 = T.order := by rw [hlong]; exact Nat.sub_add_cancel h2
          rw [if_pos (beq_iff_eq.mpr hlong)]
          exact ⟨i + 1, inv.longest hi hlong' hl⟩
        · have hlt : i + 1 ≤ T.order - 2 := Nat.succ_le_of_lt (Nat.lt_of_le_of_ne hilt hlong)
          rw [if_neg (by simpa using hlong)]
          exact ih (i+1) _ _ hdrop (inv.next hi hlt hl rfl)

/-- `ScoreExceptBackoff` over a table, for a word that has a unigram entry: the post-condition of the loop, and the
returned pair in terms of the final loop state -/
theorem scoreExceptBackoff_post (ok : TableOK T) (ctx : List Word) (w : Word) {u : TEntry} (hu : T.lookup [w] = some u) :
    ∃ c0 acc, AccPost T ctx w acc c0 ∧
      scoreExceptBackoff (tableSearch T) ctx w =
        (acc.ret, { length := acc.nextUse, words := w :: ctx.take (acc.nextUse - 1), backoff := acc.backoffOut }) := by
  have lm := (LastMarked.zero (fun j => T.xr (w :: ctx.take j))).succ
  simp only [List.take_zero, Table.xr_of_lookup hu] at lm
  obtain ⟨c0, post⟩ := resume_post ok ctx 0 [w]
    { ret := { prob := u.prob, rest := u.prob, ngramLength := 1, independentLeft := !u.extendsLeft, extendLeft := [w] },
      backoffOut := [u.backoff], nextUse := if u.extendsRight then 1 else 0 } rfl
    ⟨rfl, Nat.zero_le _, Nat.zero_le _, rfl, ⟨u, hu, rfl, rfl⟩, by rw [← Table.bo_of_lookup hu]; rfl,
     lm.le, lm.unmarked, lm.marked⟩
  exact ⟨c0, _, post, by rw [scoreExceptBackoff, lookupUnigram_table hu]; rfl⟩

end KV.Score
