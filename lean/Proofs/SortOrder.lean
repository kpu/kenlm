import Model.Sort
/-! C16: strict weak orders given as `Bool` comparisons (`StrictWeak`), "may come before" as the model's Boolean `le`
and as the proposition `Le` the statements use, and the lexicographic comparison `lexLt` (the library's order on `List Nat`). -/
namespace KV.Sort

theorem StrictWeak.asymm {α : Type} {lt : α → α → Bool} (h : StrictWeak lt) (a b : α) :
    lt a b = true → lt b a = false := by
  intro hab
  cases hba : lt b a with
  | false => rfl
  | true =>
    have := h.trans a b a hab hba
    rw [h.irrefl] at this
    cases this

theorem StrictWeak.le_trans {α : Type} {lt : α → α → Bool} (h : StrictWeak lt) (a b c : α) :
    le lt a b = true → le lt b c = true → le lt a c = true := by
  unfold le
  intro hab hbc
  simp only [Bool.not_eq_true'] at *
  cases hca : lt c a with
  | false => rfl
  | true =>
    cases h1 : lt a b with
    | true =>
      have := h.trans c a b hca h1
      rw [hbc] at this; cases this
    | false =>
      cases h2 : lt b c with
      | true =>
        have := h.trans b c a h2 hca
        rw [hab] at this; cases this
      | false =>
        have := (h.incompTrans a b c h1 hab h2 hbc).2
        rw [hca] at this; cases this

theorem StrictWeak.le_total {α : Type} {lt : α → α → Bool} (h : StrictWeak lt) (a b : α) :
    (le lt a b || le lt b a) = true := by
  unfold le
  cases hab : lt a b with
  | false => simp
  | true => simp [h.asymm a b hab]

/-- `a` may come before `b`: the model's `le` as a proposition, in the form the statements of C16 spell out -/
abbrev Le {α : Type} (lt : α → α → Bool) (a b : α) : Prop := lt b a = false

@[simp] theorem le_iff {α : Type} {lt : α → α → Bool} {a b : α} : le lt a b = true ↔ Le lt a b := by simp [le]

theorem Le.trans {α : Type} {lt : α → α → Bool} (h : StrictWeak lt) {a b c : α} (h1 : Le lt a b) (h2 : Le lt b c) :
    Le lt a c :=
  le_iff.mp (h.le_trans a b c (le_iff.mpr h1) (le_iff.mpr h2))

theorem Le.refl {α : Type} {lt : α → α → Bool} (h : StrictWeak lt) (a : α) : Le lt a a := h.irrefl a

-- nothing in the development uses this lemma
theorem StrictWeak.le_refl {α : Type} {lt : α → α → Bool} (h : StrictWeak lt) (a : α) :
    le lt a a = true := le_iff.mpr (Le.refl h a)

theorem lt_of_lt_of_Le {α : Type} {lt : α → α → Bool} (h : StrictWeak lt) {a b c : α} (h1 : lt a b = true)
    (h2 : Le lt b c) : lt a c = true := by
  cases hac : lt a c with
  | true => rfl
  | false =>
    have : Le lt b a := Le.trans h h2 hac
    rw [Le, h1] at this; cases this

theorem StrictWeak.comap {α β : Type} {lt : β → β → Bool} (h : StrictWeak lt) (f : α → β) :
    StrictWeak (fun a b => lt (f a) (f b)) :=
  ⟨fun _ => h.irrefl _, fun _ _ _ => h.trans _ _ _, fun _ _ _ => h.incompTrans _ _ _⟩

theorem StrictWeak.ofTotal {α : Type} {lt : α → α → Bool}
    (irrefl : ∀ a, lt a a = false)
    (trans : ∀ a b c, lt a b = true → lt b c = true → lt a c = true)
    (tri : ∀ a b, lt a b = false → lt b a = false → a = b) : StrictWeak lt :=
  ⟨irrefl, trans, fun a b c h1 h2 h3 h4 => by
    have := tri a b h1 h2; subst this; exact ⟨h3, h4⟩⟩

theorem lexLt_iff : ∀ (a b : List Nat), lexLt a b = true ↔ a < b
  | [], [] => by simp [lexLt]
  | [], _ :: _ => by simp [lexLt]
  | _ :: _, [] => by simp [lexLt]
  | x :: xs, y :: ys => by
    by_cases h : x = y
    · subst h; simp [lexLt, lexLt_iff xs ys]
    · simp [lexLt, h, List.cons_lt_cons_iff]

theorem lexLt_irrefl (a : List Nat) : lexLt a a = false :=
  Bool.eq_false_iff.mpr fun h => List.lt_irrefl a ((lexLt_iff a a).mp h)

theorem lexLt_trans (a b c : List Nat) (h1 : lexLt a b = true) (h2 : lexLt b c = true) : lexLt a c = true :=
  (lexLt_iff a c).mpr (List.lt_trans ((lexLt_iff a b).mp h1) ((lexLt_iff b c).mp h2))

theorem lexLt_tri (a b : List Nat) (h1 : lexLt a b = false) (h2 : lexLt b a = false) : a = b :=
  List.le_antisymm (fun h => Bool.eq_false_iff.mp h2 ((lexLt_iff b a).mpr h)) (fun h => Bool.eq_false_iff.mp h1 ((lexLt_iff a b).mpr h))
theorem lexLt_strictWeak : StrictWeak lexLt :=
  StrictWeak.ofTotal lexLt_irrefl lexLt_trans lexLt_tri

end KV.Sort
