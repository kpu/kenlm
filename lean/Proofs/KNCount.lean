import Model.KNCount
import Proofs.KNCorpusRows
/-!
The `Writer` model (`Model/KNCount.lean`) against the block-free tables `countFull` / `countFull1`.
Core Lean only.

The blocks depend on the corpus only through the list of n-gram occurrences `KV.KN.occurrences N corpus`,
written one by one by `writeB` (`corpusCount_eq_fold`).  Seen from the records, `writeB` raises a count of
`g` by one or appends `(g, 1)`; the block boundary is invisible (`slots_writeB`: totals, key set, positive
counts).  Seen from the blocks it has three branches (`writeB_cases`: distinct n-grams per block, block
sizes).  `combineSorted (mergeSort gramLe recs)` is determined by the key set and the per-gram totals of
`recs` (`combine_sort_ext`, from the facts about `combineSorted` in `Proofs/KNCorpusRows.lean`), hence the same for
every block capacity.
-/
namespace KV.KN.Count
open KV.KN

@[simp] theorem total_nil (g : Gram) : total g [] = 0 := rfl

@[simp] theorem total_cons (g : Gram) (e : Rec) (l : List Rec) :
    total g (e :: l) = (if e.1 = g then e.2 else 0) + total g l := by
  simp [total]

@[simp] theorem total_append (g : Gram) (l₁ l₂ : List Rec) : total g (l₁ ++ l₂) = total g l₁ + total g l₂ := by
  simp [total, List.sum_append]

theorem total_perm {g : Gram} {l₁ l₂ : List Rec} (h : l₁.Perm l₂) : total g l₁ = total g l₂ :=
  (h.map _).sum_nat

-- nothing in the development uses this
theorem total_flatten (g : Gram) (L : List (List Rec)) : total g L.flatten = (L.map (total g)).sum := by
  induction L with
  | nil => rfl
  | cons a L ih => simp [ih]

theorem total_eq_zero_of_not_mem {g : Gram} {l : List Rec} (h : g ∉ l.map (·.1)) : total g l = 0 := by
  induction l with
  | nil => rfl
  | cons e l ih =>
    simp only [List.map_cons, List.mem_cons, not_or] at h
    have h1 : ¬ e.1 = g := fun h' => h.1 h'.symm
    simp [h1, ih h.2]

-- nothing in the development uses this
theorem le_total_of_mem {e : Rec} {l : List Rec} (h : e ∈ l) : e.2 ≤ total e.1 l := by
  induction l with
  | nil => cases h
  | cons a l ih =>
    rcases List.mem_cons.1 h with rfl | h
    · simp
    · have := ih h
      simp only [total_cons]; omega

theorem incr_cases (g : Gram) (l : List Rec) :
    (g ∉ l.map (·.1) ∧ incr g l = none) ∨
    ∃ l₁ c l₂, l = l₁ ++ (g, c) :: l₂ ∧ incr g l = some (l₁ ++ (g, c + 1) :: l₂) := by
  induction l with
  | nil => exact .inl ⟨List.not_mem_nil, rfl⟩
  | cons e t ih =>
    obtain ⟨h, c⟩ := e
    unfold incr
    by_cases hg : h = g
    · subst hg; exact .inr ⟨[], c, t, rfl, if_pos rfl⟩
    · rw [if_neg hg]
      rcases ih with ⟨hn, e⟩ | ⟨l₁, c', l₂, rfl, e⟩ <;> rw [e]
      · exact .inl ⟨fun hm => (List.mem_cons.1 hm).elim (fun h' => hg h'.symm) hn, rfl⟩
      · exact .inr ⟨(h, c) :: l₁, c', l₂, rfl, rfl⟩

/-- the part of the state the output depends on -/
structure BlockList where
  done : List (List Rec)
  pre : List Rec
  cur : List Rec

def blocksOf (st : St) : BlockList := ⟨st.done, st.pre, st.cur⟩

def writeB (cap : Nat) (b : BlockList) (g : Gram) : BlockList :=
  match incr g b.cur with
  | some cur' => { b with cur := cur' }
  | none =>
    if b.pre.length + (b.cur ++ [(g, 1)]).length = cap then ⟨(b.pre ++ (b.cur ++ [(g, 1)])) :: b.done, [], []⟩
    else { b with cur := b.cur ++ [(g, 1)] }

def finishB (b : BlockList) : List (List Rec) := ((b.pre ++ b.cur) :: b.done).reverse

/-- the n-grams completed by appending `ws` to a slot holding the context `ctx` -/
def grams (N : Nat) : List Word → List Word → List Gram
  | _, [] => []
  | ctx, w :: ws => (w :: ctx) :: grams N (carry N (w :: ctx)) ws

theorem blocksOf_append (N cap : Nat) (st : St) (w : Word) :
    blocksOf (append N cap st w) = writeB cap (blocksOf st) (w :: st.ctx) ∧
    (append N cap st w).ctx = carry N (w :: st.ctx) := by
  unfold append writeB blocksOf
  dsimp only
  cases incr (w :: st.ctx) st.cur with
  | some c => exact ⟨rfl, rfl⟩
  | none =>
    dsimp only
    by_cases hc : st.pre.length + (st.cur ++ [(w :: st.ctx, 1)]).length = cap
    · rw [if_pos hc, if_pos hc]; exact ⟨rfl, rfl⟩
    · rw [if_neg hc, if_neg hc]; exact ⟨rfl, rfl⟩

theorem blocksOf_foldl_append (N cap : Nat) (ws : List Word) (st : St) :
    blocksOf (ws.foldl (append N cap) st) = (grams N st.ctx ws).foldl (writeB cap) (blocksOf st) := by
  induction ws generalizing st with
  | nil => rfl
  | cons w ws ih =>
    simp only [List.foldl_cons, grams]
    rw [ih, (blocksOf_append N cap st w).1, (blocksOf_append N cap st w).2]

theorem windows_short {n : Nat} {l : List Word} (h : l.length < n) : windows n l = [] := by
  cases l with
  | nil => rfl
  | cons a t => simp only [windows]; rw [if_neg]; omega

theorem windows_long {n : Nat} {l : List Word} (h : n ≤ l.length) (hn : 1 ≤ n) :
    windows n l = (l.take n).reverse :: windows n l.tail := by
  cases l with
  | nil => simp at h; omega
  | cons a t => simp only [windows]; rw [if_pos h]; rfl

theorem grams_eq_windows {N : Nat} (hN : 1 ≤ N) (ws ctx : List Word) (hc : ctx.length = N - 1) :
    grams N ctx ws = windows N (ctx.reverse ++ ws) := by
  induction ws generalizing ctx with
  | nil =>
    rw [grams, windows_short]
    rw [List.append_nil, List.length_reverse, hc]
    exact Nat.sub_lt hN Nat.one_pos
  | cons w ws ih =>
    have hq : (w :: ctx).reverse.length = N := by
      rw [List.length_reverse, List.length_cons, hc]; exact Nat.sub_add_cancel hN
    have hne : (w :: ctx).reverse ≠ [] := fun h => by rw [h] at hq; exact absurd hq.symm (Nat.ne_of_gt hN)
    have e1 : ctx.reverse ++ w :: ws = (w :: ctx).reverse ++ ws := by
      rw [List.reverse_cons, List.append_assoc]; rfl
    have e3 : (carry N (w :: ctx)).reverse = (w :: ctx).reverse.tail := by
      rw [List.tail_reverse, List.dropLast_eq_take, List.length_cons, hc, Nat.add_sub_cancel]; rfl
    rw [grams, e1, windows_long (by rw [List.length_append, hq]; exact Nat.le_add_right ..) hN,
      List.take_left' hq, List.reverse_reverse, List.tail_append_of_ne_nil hne, ← e3, ih]
    rw [carry, List.length_take, List.length_cons, hc]
    exact Nat.min_eq_left (Nat.le_succ _)

theorem blocksOf_runLine {N : Nat} (hN : 1 ≤ N) (cap : Nat) (st : St) (line : List Word) :
    blocksOf (runLine N cap st line) = (windows N (paddedN N line)).foldl (writeB cap) (blocksOf st) := by
  have : runLine N cap st line = (line ++ [eos]).foldl (append N cap) (startSentence N st) := by
    simp [runLine, List.foldl_append]
  rw [this, blocksOf_foldl_append, grams_eq_windows hN]
  · simp [startSentence, paddedN, blocksOf]
  · simp [startSentence]

theorem blocksOf_foldl_runLine {N : Nat} (hN : 1 ≤ N) (cap : Nat) (corpus : List (List Word)) (st : St) :
    blocksOf (corpus.foldl (runLine N cap) st) = (occurrences N corpus).foldl (writeB cap) (blocksOf st) := by
  induction corpus generalizing st with
  | nil => rfl
  | cons s corpus ih =>
    simp only [List.foldl_cons, occurrences, List.flatMap_cons, List.foldl_append]
    rw [ih, blocksOf_runLine hN]
    rfl

theorem corpusCount_eq_fold {N : Nat} (hN : 1 ≤ N) (cap : Nat) (corpus : List (List Word)) :
    corpusCount N cap corpus = finishB ((occurrences N corpus).foldl (writeB cap) (blocksOf (init N cap))) := by
  rw [← blocksOf_foldl_runLine hN]
  rfl

section Writer
variable (cap : Nat) (b : BlockList) (g : Gram)

theorem writeB_cases :
    (∃ l₁ c l₂, b.cur = l₁ ++ (g, c) :: l₂ ∧ writeB cap b g = { b with cur := l₁ ++ (g, c + 1) :: l₂ }) ∨
    (g ∉ b.cur.map (·.1) ∧ b.pre.length + b.cur.length + 1 = cap ∧
      writeB cap b g = ⟨(b.pre ++ (b.cur ++ [(g, 1)])) :: b.done, [], []⟩) ∨
    (g ∉ b.cur.map (·.1) ∧ b.pre.length + b.cur.length + 1 ≠ cap ∧
      writeB cap b g = { b with cur := b.cur ++ [(g, 1)] }) := by
  unfold writeB
  rcases incr_cases g b.cur with ⟨hn, e⟩ | ⟨l₁, c, l₂, h, e⟩
  · have hl : b.pre.length + (b.cur ++ [(g, 1)]).length = b.pre.length + b.cur.length + 1 := by
      rw [List.length_append, Nat.add_assoc]; rfl
    rw [e]
    dsimp only
    rw [hl]
    split
    · next hc => exact .inr (.inl ⟨hn, hc, rfl⟩)
    · next hc => exact .inr (.inr ⟨hn, hc, rfl⟩)
  · rw [e]
    exact .inl ⟨l₁, c, l₂, h, rfl⟩

def slots (b : BlockList) : List Rec := b.done.reverse.flatten ++ (b.pre ++ b.cur)

theorem flatten_finishB (b : BlockList) : (finishB b).flatten = slots b := by
  simp [finishB, slots]

theorem mem_finishB {b : BlockList} {d : List Rec} : d ∈ finishB b ↔ d = b.pre ++ b.cur ∨ d ∈ b.done := by
  simp [finishB, or_comm]

/-- on the records, `writeB` either increments a count of `g` in place or appends `(g, 1)`: the block
boundary is not visible -/
theorem slots_writeB :
    (∃ A c B, slots b = A ++ (g, c) :: B ∧ slots (writeB cap b g) = A ++ (g, c + 1) :: B) ∨
    slots (writeB cap b g) = slots b ++ [(g, 1)] := by
  rcases writeB_cases cap b g with ⟨l₁, n, l₂, h1, e⟩ | ⟨_, _, e⟩ | ⟨_, _, e⟩
  · exact .inl ⟨b.done.reverse.flatten ++ (b.pre ++ l₁), n, l₂, by simp [slots, h1], by simp [e, slots]⟩
  · exact .inr (by simp [e, slots])
  · exact .inr (by simp [e, slots])

theorem total_writeB (k : Gram) :
    total k (slots (writeB cap b g)) = total k (slots b) + (if g = k then 1 else 0) := by
  rcases slots_writeB cap b g with ⟨A, c, B, h1, h2⟩ | h
  · rw [h1, h2]; simp only [total_append, total_cons]
    split
    · rw [Nat.add_right_comm c 1]; rfl
    · rfl
  · rw [h]; simp

theorem total_foldl (gs : List Gram) (k : Gram) :
    total k (slots (gs.foldl (writeB cap) b)) = total k (slots b) + gs.count k := by
  induction gs generalizing b with
  | nil => simp
  | cons g gs ih =>
    rw [List.foldl_cons, ih, total_writeB]
    by_cases h : g = k
    · subst h; rw [if_pos rfl, List.count_cons_self, Nat.add_right_comm]; rfl
    · rw [if_neg h, List.count_cons_of_ne h]; rfl

theorem keys_writeB (k : Gram) :
    k ∈ (slots (writeB cap b g)).map (·.1) ↔ k ∈ (slots b).map (·.1) ∨ k = g := by
  rcases slots_writeB cap b g with ⟨A, c, B, h1, h2⟩ | h
  · rw [h1, h2]
    simp only [List.map_append, List.map_cons, List.mem_append, List.mem_cons]
    exact ⟨Or.inl, fun h => h.elim id fun hk => .inr (.inl hk)⟩
  · rw [h]; simp

theorem keys_foldl (gs : List Gram) (k : Gram) :
    k ∈ (slots (gs.foldl (writeB cap) b)).map (·.1) ↔ k ∈ (slots b).map (·.1) ∨ k ∈ gs := by
  induction gs generalizing b with
  | nil => simp
  | cons g gs ih => rw [List.foldl_cons, ih, keys_writeB, List.mem_cons, or_assoc]

theorem pos_writeB (hp : ∀ e ∈ slots b, 0 < e.2) :
    ∀ e ∈ slots (writeB cap b g), 0 < e.2 := by
  rcases slots_writeB cap b g with ⟨A, c, B, h1, h2⟩ | h
  · rw [h1] at hp; rw [h2]
    intro e he
    rcases List.mem_append.1 he with he | he
    · exact hp e (List.mem_append_left _ he)
    · rcases List.mem_cons.1 he with rfl | he
      · exact Nat.succ_pos _
      · exact hp e (List.mem_append_right _ (List.mem_cons_of_mem _ he))
  · rw [h]
    intro e he
    rcases List.mem_append.1 he with he | he
    · exact hp e he
    · rw [List.mem_singleton.1 he]; exact Nat.one_pos

/-- no n-gram twice in a block; the `AddUnigramWord` slots hold n-grams of `K` only (`nodupB_writeB` asks of a written
n-gram that it is not in `K`: the constructor's slots are not in the dedupe table) -/
def NodupB (K : List Gram) (b : BlockList) : Prop :=
  ((b.pre ++ b.cur).map (·.1)).Nodup ∧ (∀ d ∈ b.done, (d.map (·.1)).Nodup) ∧ ∀ k ∈ b.pre.map (·.1), k ∈ K

theorem nodupB_writeB (K : List Gram) (hb : NodupB K b) (hg : g ∉ K) :
    NodupB K (writeB cap b g) := by
  obtain ⟨h1, h2, h3⟩ := hb
  have hnew : g ∉ b.cur.map (·.1) → ((b.pre ++ (b.cur ++ [(g, 1)])).map fun e : Rec => e.1).Nodup := by
    intro h
    rw [← List.append_assoc, List.map_append, List.nodup_append]
    refine ⟨h1, by simp, ?_⟩
    intro a ha c hc hac
    simp only [List.map_cons, List.map_nil, List.mem_singleton] at hc
    subst hc; subst hac
    rcases List.mem_append.1 (List.map_append ▸ ha) with ha | ha
    · exact hg (h3 _ ha)
    · exact h ha
  rcases writeB_cases cap b g with ⟨l₁, c, l₂, h, e⟩ | ⟨h, _, e⟩ | ⟨h, _, e⟩ <;> rw [e]
  · rw [h] at h1
    exact ⟨by simpa using h1, h2, h3⟩
  · refine ⟨List.nodup_nil, ?_, fun k hk => by cases hk⟩
    intro d hd
    rcases List.mem_cons.1 hd with rfl | hd
    · exact hnew h
    · exact h2 d hd
  · exact ⟨hnew h, h2, h3⟩

def Sized (cap : Nat) (b : BlockList) : Prop := b.pre.length + b.cur.length < cap ∧ ∀ d ∈ b.done, d.length = cap

theorem sized_writeB (hb : Sized cap b) : Sized cap (writeB cap b g) := by
  obtain ⟨h1, h2⟩ := hb
  rcases writeB_cases cap b g with ⟨l₁, c, l₂, h, e⟩ | ⟨_, hc, e⟩ | ⟨_, hc, e⟩ <;> rw [e]
  · rw [h] at h1
    exact ⟨by simpa using h1, h2⟩
  · refine ⟨hc ▸ Nat.succ_pos _, ?_⟩
    intro d hd
    rcases List.mem_cons.1 hd with rfl | hd
    · rw [List.length_append, List.length_append]; exact hc
    · exact h2 d hd
  · refine ⟨?_, h2⟩
    show b.pre.length + (b.cur ++ [(g, 1)]).length < cap
    rw [List.length_append]
    exact Nat.lt_of_le_of_ne h1 hc

end Writer

theorem blocksOf_init_of_ne_one {N : Nat} (h : N ≠ 1) (cap : Nat) : blocksOf (init N cap) = ⟨[], [], []⟩ := by
  unfold init; rw [if_neg h]; rfl

theorem blocksOf_init_one (cap : Nat) :
    (cap = 1 ∧ blocksOf (init 1 cap) = ⟨[[([bos], 0)], [([unk], 0)]], [], []⟩) ∨
    (cap = 2 ∧ blocksOf (init 1 cap) = ⟨[[([unk], 0), ([bos], 0)]], [], []⟩) ∨
    (cap ≠ 1 ∧ cap ≠ 2 ∧ blocksOf (init 1 cap) = ⟨[], [([unk], 0), ([bos], 0)], []⟩) := by
  by_cases h1 : cap = 1
  · subst h1; exact .inl ⟨rfl, rfl⟩
  · by_cases h2 : cap = 2
    · subst h2; exact .inr (.inl ⟨rfl, rfl⟩)
    · have e1 : ¬ 1 = cap := fun h => h1 h.symm
      have e2 : ¬ 2 = cap := fun h => h2 h.symm
      exact .inr (.inr ⟨h1, h2, by simp [init, addUnigramWord, blocksOf, e1, e2]⟩)

/-- the n-grams whose slots the constructor writes by `AddUnigramWord`: `<unk>`, `<s>` at order 1, none otherwise -/
def ctorGrams (N : Nat) : List Gram := if N = 1 then [[unk], [bos]] else []

theorem ctorGrams_one : ctorGrams 1 = [[unk], [bos]] := rfl

theorem ctorGrams_of_ne_one {N : Nat} (h : N ≠ 1) : ctorGrams N = [] := if_neg h

theorem slots_init (N cap : Nat) : slots (blocksOf (init N cap)) = (ctorGrams N).map (·, 0) := by
  by_cases h : N = 1
  · subst h; rcases blocksOf_init_one cap with ⟨_, e⟩ | ⟨_, e⟩ | ⟨_, _, e⟩ <;> rw [e, ctorGrams_one] <;> rfl
  · rw [blocksOf_init_of_ne_one h, ctorGrams_of_ne_one h]; rfl

theorem nodupB_init (N cap : Nat) : NodupB (ctorGrams N) (blocksOf (init N cap)) := by
  by_cases h : N = 1
  · subst h
    rcases blocksOf_init_one cap with ⟨_, e⟩ | ⟨_, e⟩ | ⟨_, _, e⟩ <;> rw [e, ctorGrams_one] <;> unfold NodupB <;> decide
  · rw [blocksOf_init_of_ne_one h, ctorGrams_of_ne_one h]; simp [NodupB]

theorem sized_init (N : Nat) {cap : Nat} (hc : 1 ≤ cap) : Sized cap (blocksOf (init N cap)) := by
  by_cases h : N = 1
  · subst h
    rcases blocksOf_init_one cap with ⟨rfl, e⟩ | ⟨rfl, e⟩ | ⟨h1, h2, e⟩ <;> rw [e]
    · unfold Sized; decide
    · unfold Sized; decide
    · exact ⟨by show 2 + 0 < cap; omega, by simp⟩
  · rw [blocksOf_init_of_ne_one h]; exact ⟨hc, by simp⟩

theorem total_eq_sumP (g : Gram) (l : List Rec) : total g l = Norm.sumP (fun k => decide (k = g)) l := by
  induction l with
  | nil => rfl
  | cons e l ih => rw [total_cons, Norm.sumP_cons, ih]; simp only [decide_eq_true_eq]

theorem nodup_eq_map_total (l : List Rec) (h : (l.map (·.1)).Nodup) :
    l = (l.map (·.1)).map fun k => (k, total k l) := by
  induction l with
  | nil => rfl
  | cons e t ih =>
    rw [List.map_cons, List.nodup_cons] at h
    have e0 : total e.1 t = 0 := total_eq_zero_of_not_mem h.1
    simp only [List.map_cons, total_cons, if_true, e0, Nat.add_zero]
    congr 1
    conv => lhs; rw [ih h.2]
    apply List.map_congr_left
    intro k hk
    have : ¬ e.1 = k := fun hek => h.1 (hek ▸ hk)
    simp [this]

theorem strict_ext {a b : List Rec} (ha : a.Pairwise (fun x y => x.1 < y.1)) (hb : b.Pairwise (fun x y => x.1 < y.1))
    (hk : ∀ k, k ∈ a.map (·.1) ↔ k ∈ b.map (·.1)) (ht : ∀ k, total k a = total k b) : a = b := by
  have pa : (a.map (·.1)).Pairwise (· < ·) := List.pairwise_map.2 ha
  have pb : (b.map (·.1)).Pairwise (· < ·) := List.pairwise_map.2 hb
  have nd {l : List Gram} (h : l.Pairwise (· < ·)) : l.Nodup := h.imp (fun h e => by subst e; exact List.lt_irrefl _ h)
  rw [nodup_eq_map_total a (nd pa), nodup_eq_map_total b (nd pb), strict_sorted_ext (fun _ _ => List.lt_asymm) pa pb hk]
  exact List.map_congr_left fun k _ => by rw [ht k]

theorem combine_sort_spec (l : List Rec) :
    (combineSorted (l.mergeSort gramLe)).Pairwise (fun a b => a.1 < b.1) ∧
    (∀ k, k ∈ (combineSorted (l.mergeSort gramLe)).map (·.1) ↔ k ∈ l.map (·.1)) ∧
    (∀ k, total k (combineSorted (l.mergeSort gramLe)) = total k l) := by
  refine ⟨Norm.cs_sorted _ (Norm.gramLe_sorted l), fun k => ?_, fun k => ?_⟩
  · rw [Norm.cs_keys]
    exact ((List.mergeSort_perm l gramLe).map _).mem_iff
  · rw [total_eq_sumP, Norm.cs_sum, ← total_eq_sumP]
    exact total_perm (List.mergeSort_perm l gramLe)

/-- **the sorted, combined table is determined by the key set and the per-n-gram totals of the
records** — in particular it does not depend on how the occurrences were split into blocks -/
theorem combine_sort_ext {r₁ r₂ : List Rec} (hk : ∀ k, k ∈ r₁.map (·.1) ↔ k ∈ r₂.map (·.1))
    (ht : ∀ k, total k r₁ = total k r₂) :
    combineSorted (r₁.mergeSort gramLe) = combineSorted (r₂.mergeSort gramLe) := by
  obtain ⟨s1, k1, t1⟩ := combine_sort_spec r₁
  obtain ⟨s2, k2, t2⟩ := combine_sort_spec r₂
  exact strict_ext s1 s2 (fun k => by rw [k1, k2, hk]) (fun k => by rw [t1, t2, ht])

theorem total_map_one (k : Gram) (gs : List Gram) : total k (gs.map fun g => (g, 1)) = gs.count k := by
  induction gs with
  | nil => rfl
  | cons g gs ih =>
    rw [List.map_cons, total_cons, ih]
    by_cases h : g = k
    · subst h; rw [if_pos rfl, List.count_cons_self, Nat.add_comm]
    · rw [if_neg h, List.count_cons_of_ne h, Nat.zero_add]

theorem keys_map_one (k : Gram) (gs : List Gram) : k ∈ (gs.map fun g => (g, 1)).map (·.1) ↔ k ∈ gs := by
  simp

theorem total_corpusCount {N : Nat} (hN : 1 ≤ N) (cap : Nat) (corpus : List (List Word)) (g : Gram) :
    total g (corpusCount N cap corpus).flatten = (occurrences N corpus).count g := by
  rw [corpusCount_eq_fold hN, flatten_finishB, total_foldl, slots_init]
  by_cases h : N = 1
  · subst h; rw [ctorGrams_one]; simp
  · rw [ctorGrams_of_ne_one h]; simp

theorem keys_corpusCount {N : Nat} (hN : 1 ≤ N) (cap : Nat) (corpus : List (List Word)) (g : Gram) :
    g ∈ (corpusCount N cap corpus).flatten.map (·.1) ↔
      g ∈ ctorGrams N ∨ g ∈ occurrences N corpus := by
  rw [corpusCount_eq_fold hN, flatten_finishB, keys_foldl, slots_init]
  simp

theorem mem_occurrences_one {g : Gram} {corpus : List (List Word)} (hc : ∀ s ∈ corpus, ∀ w ∈ s, 2 ≤ w)
    (h : g ∈ occurrences 1 corpus) : ∃ w, g = [w] ∧ 2 ≤ w := by
  obtain ⟨w, hg, hw⟩ := Norm.mem_occ_one.1 h
  exact ⟨w, hg, hw.elim (fun ⟨s, hs, hws⟩ => hc s hs w hws) fun h => h.1 ▸ Nat.le_refl 2⟩

theorem sortCombine_ge2 {N : Nat} (hN : 2 ≤ N) (cap : Nat) (corpus : List (List Word)) :
    combineSorted ((corpusCount N cap corpus).flatten.mergeSort gramLe) = countFull N corpus := by
  unfold countFull
  apply combine_sort_ext
  · intro k
    rw [keys_corpusCount (Nat.le_of_succ_le hN), ctorGrams_of_ne_one (Nat.ne_of_gt hN), keys_map_one]
    simp
  · intro k
    rw [total_corpusCount (Nat.le_of_succ_le hN), total_map_one]

theorem sortCombine_one (cap : Nat) (corpus : List (List Word)) (hw : ∀ s ∈ corpus, ∀ w ∈ s, 2 ≤ w) :
    combineSorted ((corpusCount 1 cap corpus).flatten.mergeSort gramLe) = countFull1 corpus := by
  obtain ⟨s1, k1, t1⟩ := combine_sort_spec (corpusCount 1 cap corpus).flatten
  obtain ⟨s2, k2, t2⟩ := combine_sort_spec ((occurrences 1 corpus).map fun g => (g, 1))
  -- `[unk] < [bos] <` every occurrence, so the constructor's two slots sort in front of `countFull 1 corpus`: `countFull1`
  -- is strictly sorted, and `strict_ext` reduces the claim to keys and totals
  have hgt : ∀ e ∈ countFull 1 corpus, [bos] < e.1 := by
    intro e he
    have : e.1 ∈ occurrences 1 corpus := by
      rw [← keys_map_one, ← k2]; exact List.mem_map_of_mem he
    obtain ⟨w, hg, h2⟩ := mem_occurrences_one hw this
    exact hg ▸ List.Lex.rel (show bos < w from h2)
  apply strict_ext s1
  · unfold countFull1
    refine List.pairwise_cons.2 ⟨?_, List.pairwise_cons.2 ⟨hgt, s2⟩⟩
    intro e he
    rcases List.mem_cons.1 he with rfl | he
    · decide
    · exact List.lt_trans (by decide) (hgt e he)
  · intro k
    rw [k1, keys_corpusCount (Nat.le_refl _), ctorGrams_one]
    unfold countFull1
    simp only [List.map_cons, List.mem_cons, List.not_mem_nil, or_false]
    have := k2 k
    rw [keys_map_one] at this
    unfold countFull
    rw [this, or_assoc]
  · intro k
    rw [t1, total_corpusCount (Nat.le_refl _)]
    unfold countFull1
    simp only [total_cons]
    have := t2 k
    rw [total_map_one] at this
    unfold countFull
    rw [this]
    simp only [ite_self, Nat.zero_add]

/-- order ≥ 2: every count that leaves CorpusCount is positive — there are no `AddUnigramWord` slots, and `writeB` only raises a
count or writes 1 -/
theorem corpusCount_pos {N : Nat} (hN : 2 ≤ N) (cap : Nat) (corpus : List (List Word)) :
    ∀ e ∈ (corpusCount N cap corpus).flatten, 0 < e.2 := by
  rw [corpusCount_eq_fold (Nat.le_of_succ_le hN), flatten_finishB]
  refine List.foldlRecOn (motive := fun b => ∀ e ∈ slots b, 0 < e.2) _ _ ?_ fun b hb g _ => pos_writeB cap b g hb
  rw [slots_init, ctorGrams_of_ne_one (Nat.ne_of_gt hN)]
  exact fun e he => nomatch he

theorem corpusCount_sized {N cap : Nat} (hc : 1 ≤ cap) (corpus : List (List Word)) :
    Sized cap ((occurrences N corpus).foldl (writeB cap) (blocksOf (init N cap))) :=
  List.foldlRecOn (motive := Sized cap) _ _ (sized_init N hc) fun b hb g _ => sized_writeB cap b g hb

/-- every block that leaves CorpusCount is duplicate-free (order 1: for a corpus without the ids of
`<unk>`, `<s>`, which `RunWithVocab` skips) -/
theorem blocks_nodup {N : Nat} (hN : 1 ≤ N) (cap : Nat) (corpus : List (List Word))
    (hw : N = 1 → ∀ s ∈ corpus, ∀ w ∈ s, 2 ≤ w) : ∀ d ∈ corpusCount N cap corpus, (d.map (·.1)).Nodup := by
  have hK : ∀ g ∈ occurrences N corpus, g ∉ ctorGrams N := by
    intro g hg
    by_cases h : N = 1
    · subst h
      obtain ⟨w, rfl, h2w⟩ := mem_occurrences_one (hw rfl) hg
      rw [ctorGrams_one]
      intro hgK
      simp only [List.mem_cons, List.cons.injEq, and_true, List.not_mem_nil, or_false, unk, bos] at hgK
      rcases hgK with h | h <;> (subst h; exact absurd h2w (by decide))
    · rw [ctorGrams_of_ne_one h]; exact List.not_mem_nil
  rw [corpusCount_eq_fold hN]
  obtain ⟨h1, h2, _⟩ := List.foldlRecOn (motive := NodupB (ctorGrams N)) (occurrences N corpus) (writeB cap) (nodupB_init N cap)
    fun b hb g hg => nodupB_writeB cap b g _ hb (hK g hg)
  intro d hd
  rcases mem_finishB.1 hd with rfl | hd
  · exact h1
  · exact h2 d hd

-- instance search finds both without these lines; nothing in the development depends on them
instance : Std.IsLinearOrder (List Nat) := inferInstance
instance : Std.LawfulOrderLT (List Nat) := inferInstance

end KV.KN.Count
