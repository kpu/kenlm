import Model.Chain
/-! `util::stream::Stream`: the records yielded = concatenation of the valid records of the blocks received, for
every pattern of empty blocks; every read is inside `ValidSize`.  Core Lean only. -/
namespace KV.Chain

def onBlock (b : List Nat) (k : Nat) (rest : List (List Nat)) (passed : List (Option (List Nat))) (p : Bool) : Stream :=
  { link := { cur := some b, rest := rest, passed := passed, poisoned := p }, pos := k, endp := b.length, null := false }

theorem startBlock_nonempty (b : List Nat) (hb : b ≠ []) (rest passed p) :
    startBlock { cur := some b, rest := rest, passed := passed, poisoned := p } = onBlock b 0 rest passed p := by
  cases b with
  | nil => exact absurd rfl hb
  | cons x xs => simp [startBlock, skipEmpty, onBlock]

theorem startBlock_empty_cons (b : List Nat) (r : List (List Nat)) (passed p) :
    startBlock { cur := some [], rest := b :: r, passed := passed, poisoned := p }
      = startBlock { cur := some b, rest := r, passed := passed ++ [some []], poisoned := p } := rfl

theorem startBlock_empty_nil (passed p) :
    startBlock { cur := some [], rest := [], passed := passed, poisoned := p }
      = { link := { cur := none, rest := [], passed := passed ++ [some [], none], poisoned := true },
          pos := 0, endp := 0, null := true } := rfl

/-- one iteration inside a block: the record at `k` is read in bounds; `++s` stays in the block or, after its last
record, does `++block_it_` and `StartBlock` -/
theorem collect_onBlock (b : List Nat) (rest passed p) {k : Nat} (hk : k < b.length) (f : Nat) :
    Stream.collect (f + 1) (onBlock b k rest passed p)
      = (some b[k] :: (Stream.collect f (if k + 1 = b.length
            then startBlock (SLink.inc { cur := some b, rest := rest, passed := passed, poisoned := p })
            else onBlock b (k + 1) rest passed p)).1,
         (Stream.collect f (if k + 1 = b.length
            then startBlock (SLink.inc { cur := some b, rest := rest, passed := passed, poisoned := p })
            else onBlock b (k + 1) rest passed p)).2) := by
  have hget : (onBlock b k rest passed p).get = some b[k] := by
    simp only [Stream.get, onBlock, List.getElem?_eq_getElem hk]
  have hinc : (onBlock b k rest passed p).incWith startBlock = if k + 1 = b.length
      then startBlock (SLink.inc { cur := some b, rest := rest, passed := passed, poisoned := p })
      else onBlock b (k + 1) rest passed p := rfl
  rw [← hinc, ← hget]
  rfl

/-- recursion on `d`, the records left in the block (`k + d = b.length`, additive so that no subtraction is met) -/
theorem collect_block (b : List Nat) (rest passed p) :
    ∀ d k f, k + d = b.length → 0 < d → d ≤ f →
      Stream.collect f (onBlock b k rest passed p)
        = ((b.drop k).map some ++ (Stream.collect (f - d)
              (startBlock (SLink.inc { cur := some b, rest := rest, passed := passed, poisoned := p }))).1,
           (Stream.collect (f - d)
              (startBlock (SLink.inc { cur := some b, rest := rest, passed := passed, poisoned := p }))).2)
  | 0, _, _, _, h, _ => absurd h (Nat.lt_irrefl 0)
  | _, _, 0, _, h1, h2 => absurd (Nat.lt_of_lt_of_le h1 h2) (Nat.lt_irrefl 0)
  | d + 1, k, f + 1, hk, _, hf => by
    have hkl : k < b.length := by omega
    rw [collect_onBlock b rest passed p hkl f, List.drop_eq_getElem_cons hkl, Nat.add_sub_add_right]
    by_cases hd : d = 0
    · subst hd
      rw [if_pos (by omega), List.drop_eq_nil_of_le (by omega)]
      rfl
    · rw [if_neg (by omega), collect_block b rest passed p d (k + 1) f (by omega) (by omega) (by omega)]
      rfl

def endStream (passed : List (Option (List Nat))) : Stream :=
  { link := { cur := none, rest := [], passed := passed, poisoned := true }, pos := 0, endp := 0, null := true }

theorem collect_null {s : Stream} (h : s.null = true) (f : Nat) : Stream.collect f s = ([], s) := by
  cases f with
  | zero => rfl
  | succ f => simp only [Stream.collect, Stream.collectWith, h, if_true]

theorem collect_from (rest : List (List Nat)) :
    ∀ (b0 : List Nat) (passed : List (Option (List Nat))) (p : Bool) (f : Nat),
      (b0 :: rest).flatten.length < f →
      Stream.collect f (startBlock { cur := some b0, rest := rest, passed := passed, poisoned := p })
        = (((b0 :: rest).flatten).map some, endStream (passed ++ (b0 :: rest).map some ++ [none])) := by
  induction rest with
  | nil =>
    intro b0 passed p f hf
    by_cases hb : b0 = []
    · subst hb
      rw [startBlock_empty_nil]
      exact (collect_null rfl f).trans (by simp [endStream])
    · rw [startBlock_nonempty b0 hb]
      simp only [List.flatten_cons, List.flatten_nil, List.append_nil] at hf
      rw [collect_block b0 [] passed p b0.length 0 f (Nat.zero_add _) (List.length_pos_iff.mpr hb) (Nat.le_of_lt hf)]
      have hend : startBlock (SLink.inc { cur := some b0, rest := [], passed := passed, poisoned := p })
          = endStream (passed ++ [some b0, none]) := rfl
      rw [hend, collect_null rfl]
      simp
  | cons b1 r ih =>
    intro b0 passed p f hf
    by_cases hb : b0 = []
    · subst hb
      rw [startBlock_empty_cons, ih b1 (passed ++ [some []]) p f (by simpa using hf)]
      simp
    · rw [startBlock_nonempty b0 hb]
      have hf' : b0.length + (b1 :: r).flatten.length < f := by
        simpa [List.flatten_cons, List.length_append] using hf
      rw [collect_block b0 (b1 :: r) passed p b0.length 0 f (Nat.zero_add _) (List.length_pos_iff.mpr hb) (by omega)]
      have hinc : SLink.inc { cur := some b0, rest := b1 :: r, passed := passed, poisoned := p }
          = { cur := some b1, rest := r, passed := passed ++ [some b0], poisoned := p } := rfl
      rw [hinc, ih b1 (passed ++ [some b0]) p (f - b0.length) (by omega)]
      simp

end KV.Chain
