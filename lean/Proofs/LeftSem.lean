import Proofs.LeftResume
import Proofs.ScoreMain
/-! Semantic layer for C08: the hypotheses bundle `Hyp` (well-formed model, table representing it, complete
extends-right marks, the property's premise), facts about `live`, and the agreement of the rest-cost search
(`restSearch`) with the plain table search on everything but `rest`. -/
namespace KV.Left
open KV.Arpa KV.Table KV.State KV.Score

structure Hyp (a : Arpa) (T : Table) : Prop where
  wf : WellFormed a
  tf : TableFor a T
  /-- the extends-right marks are complete: an entry (real or blank) that is the context of another table
  entry is marked.  This is what the unrepaired trie builder violates (pre-observation G). -/
  marks : ∀ g y, g ≠ [] → T.lookup (y :: g) ≠ none → T.xr g = true
  /-- the property's premise: only n-grams that are contexts of longer n-grams carry a non-zero back-off -/
  premise : ∀ g e, a.gram g = some e → e.backoff ≠ 0 → ∃ y, a.gram (y :: g) ≠ none

variable {a : Arpa} {T : Table}

theorem Hyp.ok (H : Hyp a T) : TableOK T := H.tf.toTableOK

theorem Hyp.real_in (H : Hyp a T) {g : List Word} (h : a.gram g ≠ none) : T.lookup g ≠ none := by
  obtain ⟨e, he⟩ := Option.ne_none_iff_exists'.mp h
  obtain ⟨t, ht, _⟩ := H.tf.real g e he
  simp [ht]

theorem real_tail (wf : WellFormed a) : ∀ (l g : List Word), g ≠ [] → a.gram (l ++ g) ≠ none → a.gram g ≠ none := by
  intro l
  induction l with
  | nil => intro g _ h; simpa using h
  | cons x l ih =>
    intro g hg h
    have : a.gram (l ++ g) ≠ none := wf.ctx_present x (l ++ g) (by simp [hg]) (by simpa using h)
    exact ih g hg this

theorem live_real {g : List Word} (h : live a g) : a.gram g ≠ none := by
  obtain ⟨e, he, _⟩ := h; simp [he]

theorem xl_lookup {g : Ptr} (h : T.xl g = true) : ∃ t, T.lookup g = some t ∧ t.extendsLeft = true := by
  unfold Table.xl at h
  cases hl : T.lookup g with
  | none => simp [hl] at h
  | some t => exact ⟨t, rfl, by simpa [hl] using h⟩

theorem live_length_lt (wf : WellFormed a) {g : List Word} (h : live a g) : g.length < a.order := by
  obtain ⟨e, he, hor⟩ := h
  apply Nat.lt_of_le_of_ne (wf.len_le g (by rw [he]; exact Option.some_ne_none e))
  intro hlen
  rcases hor with hb | ⟨x, hx⟩
  · exact hb (wf.top_bo g e he hlen)
  · have := wf.len_le _ hx
    rw [List.length_cons, hlen] at this
    exact Nat.not_succ_le_self _ this

theorem live_tail (wf : WellFormed a) {y : Word} {g : List Word} (hg : g ≠ []) (h : live a (y :: g)) : live a g := by
  have hr := live_real h
  have := wf.ctx_present y g hg hr
  obtain ⟨e, he⟩ := Option.ne_none_iff_exists'.mp this
  exact ⟨e, he, Or.inr ⟨y, hr⟩⟩

theorem dead_cons (wf : WellFormed a) : ∀ (l g : List Word), g ≠ [] → ¬ live a g → ¬ live a (l ++ g) := by
  intro l
  induction l with
  | nil => intro g _ h; simpa using h
  | cons x l ih =>
    intro g hg h hl
    exact ih g hg h (live_tail wf (by simp [hg]) hl)

theorem Hyp.xr_of_live (H : Hyp a T) {g : List Word} (h : live a g) : T.xr g = true := by
  obtain ⟨e, he, hor⟩ := h
  obtain ⟨t, ht, _⟩ := H.tf.real g e he
  have := H.tf.xr_live g t ht ⟨e, he, hor⟩
  simp [Table.xr, ht, this]

theorem boW_zero_of_dead {g : List Word} (h : ¬ live a g) : a.boW g = 0 := by
  unfold Arpa.boW
  cases hg : a.gram g with
  | none => rfl
  | some e =>
    apply Classical.byContradiction; intro hb
    exact h ⟨e, hg, Or.inl hb⟩

theorem Hyp.live_ctx (H : Hyp a T) {g : List Word} (h : live a g) : ∃ y, a.gram (y :: g) ≠ none := by
  obtain ⟨e, he, hor⟩ := h
  rcases hor with hb | hx
  · exact H.premise g e he hb
  · exact hx

theorem Hyp.lookup_prefix (H : Hyp a T) : ∀ (c g : List Word), g ≠ [] → T.lookup (g ++ c) ≠ none → T.lookup g ≠ none := by
  intro c g hg h
  apply Classical.byContradiction; intro hn
  have hn' : T.lookup g = none := by simpa using hn
  exact h (lookup_none_extend H.ok c g hg hn')

theorem Hyp.none_of_not_xr (H : Hyp a T) {g : List Word} (hg : g ≠ []) (hx : T.xr g = false) (y : Word) :
    T.lookup (y :: g) = none := by
  apply Classical.byContradiction; intro hc
  have := H.marks g y hg hc
  rw [hx] at this; cases this

/-- an entry without the extends-right mark: nothing that continues it (`g ++ c`) is live (uses premise + marks) -/
theorem Hyp.dead_of_not_xr (H : Hyp a T) {g : List Word} (hg : g ≠ []) (hx : T.xr g = false) (c : List Word) :
    ¬ live a (g ++ c) := by
  intro hl
  obtain ⟨y, hy⟩ := H.live_ctx hl
  have h1 : T.lookup ((y :: g) ++ c) ≠ none := H.real_in (by simpa using hy)
  have h2 := H.lookup_prefix c (y :: g) (by simp) h1
  have := H.marks g y hg h2
  rw [hx] at this; cases this

theorem Hyp.not_real_of_no_ext (H : Hyp a T) {g : List Word} (hg : g ≠ []) (hx : ∀ x, T.lookup (g ++ [x]) = none)
    (l c : List Word) (hc : c ≠ []) : a.gram (l ++ (g ++ c)) = none := by
  apply Classical.byContradiction; intro hr
  have h1 := real_tail H.wf l (g ++ c) (by simp [hg]) hr
  have h2 := H.real_in h1
  cases c with
  | nil => exact hc rfl
  | cons x c' =>
    have : g ++ x :: c' = (g ++ [x]) ++ c' := by simp
    rw [this] at h2
    exact H.lookup_prefix c' (g ++ [x]) (by simp) h2 (hx x)

theorem Hyp.dead_of_no_ext (H : Hyp a T) {g : List Word} (hg : g ≠ []) (hx : ∀ x, T.lookup (g ++ [x]) = none)
    (l c : List Word) (hc : c ≠ []) : ¬ live a (l ++ (g ++ c)) := by
  intro hl
  have := live_real hl
  exact this (H.not_real_of_no_ext hg hx l c hc)

theorem restSearch_rel (T : Table) (R : Ptr → Rat) :
    SimRel Eq (fun _ _ => True) (fun _ => True) (restSearch T R) (tableSearch T) (fun _ n₁ n₂ => n₁ = n₂) := by
  refine ⟨rfl, fun w _ => ⟨?_, rfl⟩, fun om2 w n₁ n₂ _ _ hR => ?_, fun w n₁ n₂ _ hR => ?_⟩
  · show FoundRel _ _ ((foundOf T R [w]).getD notFound) (match T.lookup [w] with | some t => toFound t | none => _)
    unfold foundOf
    cases T.lookup [w] with
    | none => exact ⟨rfl, trivial, rfl, rfl, rfl⟩
    | some t => exact ⟨rfl, trivial, rfl, rfl, rfl⟩
  · subst hR
    refine ⟨?_, fun _ => rfl⟩
    show Option.Rel _ (foundOf T R (n₁ ++ [w])) ((T.lookup (n₁ ++ [w])).map toFound)
    unfold foundOf
    cases T.lookup (n₁ ++ [w]) with
    | none => exact .none
    | some t => exact .some ⟨rfl, trivial, rfl, rfl, rfl⟩
  · subst hR
    exact rel_of_eq (fun _ => ⟨rfl, trivial⟩) rfl

theorem beginSentenceState_rest (T : Table) (R : Ptr → Rat) (bos : Word) :
    beginSentenceState (restSearch T R) bos = beginSentenceState (tableSearch T) bos := by
  unfold beginSentenceState
  rw [((restSearch_rel T R).uni bos trivial).1.backoff]

theorem stateFor_begin (wf : WellFormed a) (tf : TableFor a T) (bos : Word) :
    StateFor a [bos] (beginSentenceState (tableSearch T) bos) := by
  have hN := wf.order_ge
  refine ⟨Nat.le_refl _, by show 1 ≤ a.order - 1; omega, rfl, ?_, fun k h1 h2 => by
    simp [beginSentenceState] at h1; simp at h2; omega⟩
  show [((tableSearch T).lookupUnigram bos).1.backoff] = [a.boW [bos]]
  rw [lookupUnigram_backoff, tf.bo_eq]

theorem fullScore_sim (T : Table) (R : Ptr → Rat) (s : State) (w : Word) :
    (fullScore (restSearch T R) s w).1.prob = (fullScore (tableSearch T) s w).1.prob ∧
    (fullScore (restSearch T R) s w).2 = (fullScore (tableSearch T) s w).2 := by
  have k := finalAcc_rel (QL := Eq) eq_snoc rfl (restSearch_rel T R) (s.words.take s.length) w trivial (fun _ _ => trivial)
  simp only [fullScore_eq]
  exact ⟨by rw [k.prob, k.ngramLength], by rw [k.backoffOut, k.nextUse]⟩

/-- a search that was offered the whole history `add` after the n-gram `g`, matched `c0` words of it and reports independence
of further left context: no table entry extends `g add` to the left -/
theorem no_ext_of_indep (ok : TableOK T) {g add : List Word} {c0 : Nat} (hg : g ≠ []) (hc0 : c0 ≤ add.length)
    (hstop : c0 < add.length → g.length + c0 < T.order → T.lookup (g ++ add.take (c0+1)) = none)
    (hfound : T.lookup (g ++ add.take c0) ≠ none)
    (hind : (decide (g.length + c0 = T.order) || decide (c0 < add.length) || !T.xl (g ++ add.take c0)) = true) (x : Word) :
    T.lookup (g ++ add ++ [x]) = none := by
  apply Classical.byContradiction; intro hne
  have hle := ok.len_le _ hne
  simp only [List.length_append, List.length_cons, List.length_nil] at hle
  by_cases hlt : c0 < add.length
  · -- the search stopped inside `add`: nothing longer is in the table
    have e : g ++ add ++ [x] = (g ++ add.take (c0+1)) ++ (add.drop (c0+1) ++ [x]) := by
      simp only [List.append_assoc]
      rw [← List.append_assoc (add.take (c0+1)), List.take_append_drop]
    rw [e] at hne
    exact hne (lookup_none_extend ok _ _ (by simp [hg]) (hstop hlt (by omega)))
  · -- all of `add` matched, but the entry is not marked as extending left
    have hall : add.take c0 = add := List.take_of_length_le (by omega)
    rw [hall] at hind hfound
    simp only [Bool.or_eq_true, decide_eq_true_eq, Bool.not_eq_true'] at hind
    rcases hind with (h1 | h1) | h1
    · omega
    · omega
    · obtain ⟨t, ht⟩ := Option.ne_none_iff_exists'.mp hfound
      have hxl : t.extendsLeft = false := by unfold Table.xl at h1; rw [ht] at h1; exact h1
      exact hne (ok.xl_sound _ x t ht hxl)

theorem ExtPost.no_ext (ok : TableOK T) {R : Ptr → Rat} {g add : List Word} {acc0 acc : Acc Ptr} {c0 : Nat}
    (post : ExtPost T R g add acc0 acc c0) (hg : g ≠ []) (hind : acc.ret.independentLeft = true) (x : Word) :
    T.lookup (g ++ add ++ [x]) = none := by
  obtain ⟨t, ht, _⟩ := post.found
  exact no_ext_of_indep ok hg post.c0_le post.stop (by rw [ht]; exact Option.some_ne_none t) (post.indep ▸ hind) x

end KV.Left
