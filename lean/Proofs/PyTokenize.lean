import Model.PyTokenize
import Proofs.Basics
/-! The equations of `splitSpec`; `TokenIter` and `query`'s reader compute it (`bytes.split()` does too: `pySplit_spec` in
Properties/C14); what its tokens are; the scoring folds. Core only. -/
namespace KV.PyTokenize

section spec
variable (p : Nat → Bool)

theorem find_eq (s : Bytes) :
    find p s = (s.takeWhile (fun c => !p c), match s.dropWhile (fun c => !p c) with | [] => none | _ :: r => some r) := by
  induction s with
  | nil => rfl
  | cons b bs ih =>
    rw [find, ih]
    by_cases h : p b <;> simp [h]

/-- `pieces` never returns `[]`, so its `match` is a head and a tail -/
theorem pieces_cons (b : Nat) (bs : Bytes) :
    pieces p (b :: bs) =
      if p b then [] :: pieces p bs else (b :: (pieces p bs).headD []) :: (pieces p bs).tail := by
  rw [pieces]
  split
  · rfl
  · cases pieces p bs <;> rfl

theorem pieces_find (s : Bytes) :
    pieces p s = (find p s).1 :: (match (find p s).2 with | none => [] | some r => pieces p r) := by
  induction s with
  | nil => rfl
  | cons b bs ih =>
    rw [pieces_cons, find]
    split
    · rfl
    · rw [ih]; rfl

def specOpt : Option Bytes → List Bytes
  | none => []
  | some s => splitSpec p s

theorem splitSpec_find (s : Bytes) :
    splitSpec p s = (if (find p s).1.isEmpty then [] else [(find p s).1]) ++ specOpt p (find p s).2 := by
  unfold splitSpec
  rw [pieces_find p s]
  cases h2 : (find p s).2 <;> by_cases h1 : (find p s).1.isEmpty <;> simp [List.filter, h1, specOpt, splitSpec]

theorem splitSpec_nil : splitSpec p [] = [] := rfl

theorem splitSpec_cons_delim (b : Nat) (bs : Bytes) (h : p b = true) :
    splitSpec p (b :: bs) = splitSpec p bs := by
  simp [splitSpec, pieces, h]

theorem splitSpec_cons_word (b : Nat) (bs : Bytes) (h : p b = false) :
    splitSpec p (b :: bs) =
      (b :: bs.takeWhile (fun c => !p c)) :: splitSpec p (bs.dropWhile (fun c => !p c)) := by
  rw [splitSpec_find, find_eq]
  simp only [List.takeWhile_cons, List.dropWhile_cons, h, Bool.not_false, if_true]
  cases hd : bs.dropWhile (fun c => !p c) with
  | nil => rfl
  | cons d r =>
    have hpd : p d = true := by simpa using dropWhile_head hd
    simp [specOpt, splitSpec_cons_delim p d r hpd]

theorem splitSpec_dropWhile (s : Bytes) : splitSpec p (s.dropWhile p) = splitSpec p s := by
  induction s with
  | nil => rfl
  | cons b bs ih =>
    by_cases h : p b
    · rw [List.dropWhile_cons_of_pos h, ih, splitSpec_cons_delim p b bs h]
    · rw [List.dropWhile_cons_of_neg h]

theorem splitSpec_congr (q : Nat → Bool) (h : ∀ b, p b = q b) (s : Bytes) : splitSpec p s = splitSpec q s := by
  rw [funext h]

theorem collect_eq (a : Option Bytes) :
    collect p a = match (advance p a).current with
      | none => []
      | some tok => tok :: collect p (advance p a).after := by
  rw [collect]
  split <;> simp_all

theorem advance_spec (a : Option Bytes) :
    specOpt p a = match (advance p a).current with
      | none => []
      | some tok => tok :: specOpt p (advance p a).after := by
  induction a using advance.induct p with
  | case1 => rw [advance]; rfl
  | case2 a hemp ih =>
    rw [advance, if_pos hemp, ← ih]
    show splitSpec p a = _
    rw [splitSpec_find, if_pos hemp, List.nil_append]
  | case3 a hemp =>
    rw [advance, if_neg hemp]
    show splitSpec p a = _
    rw [splitSpec_find, if_neg hemp]
    rfl

theorem collect_spec (a : Option Bytes) : collect p a = specOpt p a := by
  induction a using collect.induct p with
  | case1 a h => rw [collect_eq, advance_spec p a, h]
  | case2 a tok h ih => rw [collect_eq, advance_spec p a, h, ih]

theorem pySplit_eq (s : Bytes) :
    pySplit s = match s.dropWhile pySpace with
      | [] => []
      | b :: bs => (b :: bs.takeWhile (fun c => !pySpace c)) :: pySplit (bs.dropWhile (fun c => !pySpace c)) := by
  rw [pySplit]
  split <;> simp_all

theorem queryWords_eq (s : Bytes) :
    queryWords p s = match readWordSameLine p s with
      | none => []
      | some (w, r) => w :: queryWords p r := by
  rw [queryWords]
  split <;> simp_all

theorem readWord_spec (s : Bytes) (h10 : 10 ∉ s) :
    match readWordSameLine p s with
    | none => splitSpec p s = []
    | some (w, r) => splitSpec p s = w :: splitSpec p r ∧ 10 ∉ r := by
  induction s with
  | nil => rfl
  | cons b bs ih =>
    have hb : (b == 10) = false := by
      simpa using fun e : b = 10 => h10 (e ▸ List.mem_cons_self ..)
    have hbs : 10 ∉ bs := fun hm => h10 (List.mem_cons_of_mem _ hm)
    rw [readWordSameLine]
    by_cases hp : p b
    · rw [if_pos hp, hb, splitSpec_cons_delim p b bs hp]
      exact ih hbs
    · have hp : p b = false := by simpa using hp
      simp only [hp, Bool.false_eq_true, if_false, List.takeWhile_cons, List.dropWhile_cons, Bool.not_false, if_true]
      exact ⟨splitSpec_cons_word p b bs hp, fun hm => hbs ((List.dropWhile_suffix _).subset hm)⟩

theorem queryWords_spec (s : Bytes) (h : 10 ∉ s) : queryWords p s = splitSpec p s := by
  induction s using queryWords.induct p with
  | case1 s hr =>
    have := readWord_spec p s h
    rw [hr] at this
    rw [queryWords_eq, hr, this]
  | case2 s w r hr ih =>
    have := readWord_spec p s h
    rw [hr] at this
    rw [queryWords_eq, hr, this.1, ← ih this.2]

theorem pieces_flatten (s : Bytes) : (pieces p s).flatten = s.filter (fun c => !p c) := by
  induction s with
  | nil => rfl
  | cons b bs ih =>
    rw [pieces_cons]
    by_cases h : p b
    · simp [h, ih]
    · rw [if_neg h, List.filter_cons_of_pos (by simpa using h), ← ih]
      cases pieces p bs <;> rfl

theorem splitSpec_flatten (s : Bytes) : (splitSpec p s).flatten = s.filter (fun c => !p c) := by
  rw [splitSpec, List.flatten_filter_not_isEmpty, pieces_flatten]

theorem pieces_no_delim (s : Bytes) : ∀ t ∈ pieces p s, ∀ b ∈ t, p b = false := by
  induction s with
  | nil => simp [pieces]
  | cons c cs ih =>
    rw [pieces_cons]
    split
    · rw [List.forall_mem_cons]
      exact ⟨fun _ hb => (nomatch hb), ih⟩
    · next hc =>
      rw [pieces_find p cs] at ih ⊢
      simp only [List.headD_cons, List.tail_cons, List.forall_mem_cons] at ih ⊢
      exact ⟨⟨by simpa using hc, ih.1⟩, ih.2⟩

theorem splitSpec_token (s : Bytes) (t : Bytes) (ht : t ∈ splitSpec p s) :
    t ≠ [] ∧ (∀ b ∈ t, p b = false) ∧ (∀ b ∈ t, b ∈ s) := by
  have hmem : t ∈ pieces p s ∧ t.isEmpty = false := by
    simpa [splitSpec, List.mem_filter] using ht
  refine ⟨?_, pieces_no_delim p s t hmem.1, ?_⟩
  · intro h; subst h; simp at hmem
  · intro b hb
    have : b ∈ (splitSpec p s).flatten := List.mem_flatten.mpr ⟨t, ht, hb⟩
    rw [splitSpec_flatten] at this
    exact (List.mem_filter.mp this).1

theorem splitSpec_token_append (t r : Bytes) (hne : t ≠ []) (ht : ∀ b ∈ t, p b = false)
    (hr : ∀ d, r.head? = some d → p d = true) : splitSpec p (t ++ r) = t :: splitSpec p r := by
  cases t with
  | nil => exact absurd rfl hne
  | cons b t' =>
    have ht' : ∀ c ∈ t', (!p c) = true := fun c hc => by simp [ht c (List.mem_cons_of_mem _ hc)]
    rw [List.cons_append, splitSpec_cons_word p b _ (ht b (List.mem_cons_self ..)),
      List.takeWhile_append_of_pos ht', List.dropWhile_append_of_pos ht']
    cases r with
    | nil => simp
    | cons d r' =>
      have hd := hr d rfl
      simp [hd, splitSpec_cons_delim p d r' hd]

theorem splitSpec_join (d : Nat) (hd : p d = true) (ts : List Bytes)
    (h : ∀ t ∈ ts, t ≠ [] ∧ ∀ b ∈ t, p b = false) : splitSpec p (joinWith d ts) = ts := by
  induction ts with
  | nil => rfl
  | cons t rest ih =>
    have ht := h t (List.mem_cons_self ..)
    cases rest with
    | nil => simpa [joinWith, splitSpec_nil] using splitSpec_token_append p t [] ht.1 ht.2 (by simp)
    | cons u rest' =>
      rw [joinWith, splitSpec_token_append p t _ ht.1 ht.2 (by intro x h; cases h; exact hd),
        splitSpec_cons_delim p d _ hd, ih (fun x hx => h x (List.mem_cons_of_mem _ hx))]

end spec

theorem truncNul_of_not_mem (s : Bytes) (h : 0 ∉ s) : truncNul s = s := by
  have := List.takeWhile_append_of_pos (p := (· != 0)) (l₁ := s) (l₂ := [])
    (fun a ha => by simpa using fun e : a = 0 => h (e ▸ ha))
  simpa [truncNul] using this

theorem zero_not_mem_truncNul (s : Bytes) : 0 ∉ truncNul s := by
  induction s with
  | nil => exact List.not_mem_nil
  | cons b bs ih =>
    rw [truncNul, List.takeWhile_cons]
    split
    · next hb =>
      intro hm
      rcases List.mem_cons.mp hm with rfl | hm
      · exact absurd hb (by decide)
      · exact ih hm
    · exact List.not_mem_nil

theorem truncNul_idem (s : Bytes) : truncNul (truncNul s) = truncNul s :=
  truncNul_of_not_mem _ (zero_not_mem_truncNul s)

namespace LM
variable {σ α : Type} (M : LM σ α)

theorem foldScore_eq_foldFull (hc : M.Coherent) (st : σ) (acc : α) (ids : List Nat) :
    M.foldScore st acc ids =
      (((M.foldFull st ids).1.map (·.1.prob)).foldl M.add acc, (M.foldFull st ids).2) := by
  induction ids generalizing st acc with
  | nil => rfl
  | cons w ws ih =>
    simp only [foldScore, foldFull, List.map_cons, List.foldl_cons]
    rw [hc st w]
    exact ih _ _

theorem statefulFull_eq (st : σ) (ws : List Bytes) :
    M.statefulFull st ws = M.foldFull st (ws.map M.indexC) := by
  induction ws generalizing st with
  | nil => rfl
  | cons w ws ih =>
    simp only [statefulFull, pyBaseFullScore, foldFull, List.map_cons]
    rw [ih]

theorem statefulScores_eq (hc : M.Coherent) (st : σ) (ws : List Bytes) :
    M.statefulScores st ws =
      ((M.foldFull st (ws.map M.indexC)).1.map (·.1.prob), (M.foldFull st (ws.map M.indexC)).2) := by
  induction ws generalizing st with
  | nil => rfl
  | cons w ws ih =>
    simp only [statefulScores, pyBaseScore, foldFull, List.map_cons]
    rw [hc st (M.indexC w)]
    simp only
    rw [ih]

theorem foldFull_length (st : σ) (ids : List Nat) : (M.foldFull st ids).1.length = ids.length := by
  induction ids generalizing st with
  | nil => rfl
  | cons w ws ih => simp [foldFull, ih]

theorem foldFull_flags (st : σ) (ids : List Nat) : (M.foldFull st ids).1.map (·.2) = ids.map (· == 0) := by
  induction ids generalizing st with
  | nil => rfl
  | cons w ws ih => simp [foldFull, ih]

end LM

section facade
variable {σ α : Type} (T : Typed σ α) (L : Layout σ)

theorem facade_fullScore (st : σ) (w : Nat) :
    (facade T L).toLM.fullScore (L.enc st) w = ((T.toLM.fullScore st w).1, L.enc (T.toLM.fullScore st w).2) := by
  simp only [Virtual.toLM, Typed.toLM, facade, L.dec_enc]

theorem facade_score (st : σ) (w : Nat) :
    (facade T L).toLM.score (L.enc st) w = ((T.toLM.score st w).1, L.enc (T.toLM.score st w).2) := by
  simp only [Virtual.toLM, Typed.toLM, facade, L.dec_enc]

theorem memcpyState_enc (st : σ) : memcpyState (facade T L) (L.enc st) = L.enc st :=
  List.take_of_length_le (Nat.le_of_eq (L.enc_len st))

end facade
end KV.PyTokenize
