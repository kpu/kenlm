import Proofs.KNSpecRecords
import Model.KNTable
/-!
The count table `countFull N corpus` row by row (core Lean only): it is strictly suffix-sorted
with positive counts, its n-grams are the order-`N` occurrences and its counts their numbers
(`countFull_sorted`, `mem_countFull_keys`, `sumP_countFull`); every row is a window of a padded
sentence (`row_occ`), hence has `N` words, a newest word that is neither `<s>` nor `<unk>`, and
`<s>` only as a run at the old end (`rowOK_countFull`).

The length-`n` suffixes of the order-`N` occurrences are the order-`n` occurrences
(`occurrences_take`), so true counts (`trueCount_occurrences`) and keys are statements about the
windows of one order; an n-gram occurs at most as often as its context (`sentence_tailDom`).
-/
namespace KV.KN.Norm

open KV.KN KV.KN.Spec

/-- generic in `P`, so that `Spec.trueCount` is the case `P = (·.take k.length == k)` -/
def sumP (P : Gram → Bool) (l : List (Gram × Nat)) : Nat :=
  ((l.filter fun e => P e.1).map (·.2)).sum

theorem sumP_cons (P : Gram → Bool) (g : Gram) (c : Nat) (l : List (Gram × Nat)) :
    sumP P ((g, c) :: l) = (if P g then c else 0) + sumP P l := by
  unfold sumP
  by_cases h : P g = true <;> simp [h]

/-- one step of `combineSorted`: a row joins the first row of the combined rest when their
n-grams agree -/
def csStep (g : Gram) (c : Nat) : List (Gram × Nat) → List (Gram × Nat)
  | (h, d) :: r => if g = h then (h, c + d) :: r else (g, c) :: (h, d) :: r
  | [] => [(g, c)]

theorem csStep_cons (g : Gram) (c : Nat) (h : Gram) (d : Nat) (r : List (Gram × Nat)) :
    csStep g c ((h, d) :: r) = if g = h then (h, c + d) :: r else (g, c) :: (h, d) :: r := rfl

theorem combineSorted_cons (g : Gram) (c : Nat) (t : List (Gram × Nat)) :
    combineSorted ((g, c) :: t) = csStep g c (combineSorted t) := by
  rw [combineSorted]
  cases combineSorted t with
  | nil => rfl
  | cons a r => obtain ⟨h, d⟩ := a; rfl

theorem csStep_sum (P : Gram → Bool) (g : Gram) (c : Nat) : ∀ L : List (Gram × Nat),
    sumP P (csStep g c L) = (if P g then c else 0) + sumP P L
  | [] => sumP_cons P g c []
  | (h, d) :: r => by
    rw [csStep_cons]
    split
    · rename_i hg
      rw [sumP_cons, sumP_cons, hg]
      split <;> omega
    · rw [sumP_cons]

theorem csStep_keys (g : Gram) (c : Nat) (k : Gram) : ∀ L : List (Gram × Nat),
    k ∈ (csStep g c L).map (·.1) ↔ k = g ∨ k ∈ L.map (·.1)
  | [] => by simp only [csStep, List.map_cons, List.map_nil, List.mem_singleton, List.not_mem_nil,
      or_false]
  | (h, d) :: r => by
    rw [csStep_cons]
    split
    · rename_i hg
      simp only [List.map_cons, List.mem_cons, hg, or_self_left]
    · simp only [List.map_cons, List.mem_cons]

theorem csStep_pos {g : Gram} {c : Nat} (hc : 1 ≤ c) : ∀ L : List (Gram × Nat),
    (∀ e ∈ L, 1 ≤ e.2) → ∀ e ∈ csStep g c L, 1 ≤ e.2
  | [], _, e, he => by rw [List.mem_singleton.mp he]; exact hc
  | (h, d) :: r, hL, e, he => by
    rw [csStep_cons] at he
    split at he
    · rcases List.mem_cons.mp he with rfl | he
      · exact Nat.le_add_right_of_le hc
      · exact hL e (List.mem_cons_of_mem _ he)
    · rcases List.mem_cons.mp he with rfl | he
      · exact hc
      · exact hL e he

theorem csStep_sorted {g : Gram} {c : Nat} : ∀ L : List (Gram × Nat), (∀ e ∈ L, g ≤ e.1) →
    L.Pairwise (fun a b => a.1 < b.1) → (csStep g c L).Pairwise (fun a b => a.1 < b.1)
  | [], _, _ => List.pairwise_singleton _ _
  | (h, d) :: r, hle, hL => by
    rw [List.pairwise_cons] at hL
    rw [csStep_cons]
    split
    · exact List.pairwise_cons.mpr hL
    · rename_i hne
      have hlt : g < h := (List.le_iff_lt_or_eq.mp (hle (h, d) List.mem_cons_self)).resolve_right hne
      exact List.pairwise_cons.mpr ⟨fun e he => (List.mem_cons.mp he).elim (fun h' => h' ▸ hlt)
        (fun h' => List.lt_trans hlt (hL.1 e h')), List.pairwise_cons.mpr hL⟩

theorem cs_sum (P : Gram → Bool) : ∀ l : List (Gram × Nat), sumP P (combineSorted l) = sumP P l
  | [] => rfl
  | (g, c) :: t => by rw [combineSorted_cons, csStep_sum, cs_sum P t, sumP_cons]

theorem cs_keys : ∀ (l : List (Gram × Nat)) (g : Gram),
    g ∈ (combineSorted l).map (·.1) ↔ g ∈ l.map (·.1)
  | [], g => Iff.rfl
  | (g', c) :: t, g => by
    rw [combineSorted_cons, csStep_keys, cs_keys t g, List.map_cons, List.mem_cons]

theorem cs_pos : ∀ l : List (Gram × Nat), (∀ e ∈ l, 1 ≤ e.2) → ∀ e ∈ combineSorted l, 1 ≤ e.2
  | [], _ => fun _ he => nomatch he
  | (g, c) :: t, h => by
    rw [combineSorted_cons]
    exact csStep_pos (h (g, c) List.mem_cons_self) _
      (cs_pos t fun e he => h e (List.mem_cons_of_mem _ he))

theorem cs_sorted : ∀ l : List (Gram × Nat), l.Pairwise (fun a b => a.1 ≤ b.1) →
    (combineSorted l).Pairwise (fun a b => a.1 < b.1)
  | [], _ => List.Pairwise.nil
  | (g, c) :: t, h => by
    rw [List.pairwise_cons] at h
    rw [combineSorted_cons]
    refine csStep_sorted _ (fun e he => ?_) (cs_sorted t h.2)
    obtain ⟨e', he', h3⟩ := List.mem_map.mp ((cs_keys t e.1).mp (List.mem_map.mpr ⟨e, he, rfl⟩))
    exact h3 ▸ h.1 e' he'

theorem gramLe_sorted (l : List (Gram × Nat)) :
    (l.mergeSort gramLe).Pairwise fun a b => a.1 ≤ b.1 :=
  Interp.mergeSort_key_sorted Prod.fst l

theorem countFull_sorted (N : Nat) (corpus : List (List Word)) :
    (countFull N corpus).Pairwise fun a b => a.1 < b.1 :=
  cs_sorted _ (gramLe_sorted _)

theorem countFull_nodup (N : Nat) (corpus : List (List Word)) :
    ((countFull N corpus).map (·.1)).Nodup :=
  Interp.nodup_of_sorted_key Prod.fst (countFull_sorted N corpus)

theorem mem_countFull_keys (N : Nat) (corpus : List (List Word)) (g : Gram) :
    g ∈ (countFull N corpus).map (·.1) ↔ g ∈ occurrences N corpus := by
  unfold countFull
  rw [cs_keys, List.mem_map]
  constructor
  · rintro ⟨e, he, rfl⟩
    rw [List.mem_mergeSort] at he
    obtain ⟨g', hg', rfl⟩ := List.mem_map.mp he
    exact hg'
  · intro hg
    exact ⟨(g, 1), List.mem_mergeSort.mpr (List.mem_map.mpr ⟨g, hg, rfl⟩), rfl⟩

theorem countFull_pos (N : Nat) (corpus : List (List Word)) : ∀ e ∈ countFull N corpus, 1 ≤ e.2 := by
  apply cs_pos
  intro e he
  rw [List.mem_mergeSort] at he
  obtain ⟨g', _, rfl⟩ := List.mem_map.mp he
  exact Nat.le_refl 1

theorem sumP_ones (P : Gram → Bool) (l : List Gram) :
    sumP P (l.map fun g => (g, 1)) = l.countP P := by
  induction l with
  | nil => rfl
  | cons a t ih =>
    rw [List.map_cons, sumP_cons, ih, List.countP_cons]
    split <;> omega

theorem sumP_countFull (P : Gram → Bool) (N : Nat) (corpus : List (List Word)) :
    sumP P (countFull N corpus) = (occurrences N corpus).countP P := by
  unfold countFull
  rw [cs_sum, ← sumP_ones]
  unfold sumP
  exact (((List.mergeSort_perm _ _).filter _).map _).sum_nat

theorem windows_cons (n : Nat) (a : Word) (t : List Word) :
    windows n (a :: t) =
      if n ≤ (a :: t).length then ((a :: t).take n).reverse :: windows n t else [] := by
  rw [windows]

theorem mem_windows {n : Nat} {l : List Word} {g : Gram} (h : g ∈ windows n l) :
    ∃ i, i + n ≤ l.length ∧ g = ((l.drop i).take n).reverse := by
  induction l with
  | nil => simp [windows] at h
  | cons a t ih =>
    rw [windows_cons] at h
    split at h
    · rename_i hn
      rcases List.mem_cons.mp h with rfl | h
      · exact ⟨0, by simpa using hn, rfl⟩
      · obtain ⟨i, hi, hg⟩ := ih h
        exact ⟨i + 1, by simp only [List.length_cons]; omega, by rw [List.drop_succ_cons]; exact hg⟩
    · cases h

theorem windows_eq_range {n : Nat} (hn : 1 ≤ n) (l : List Word) :
    windows n l = (List.range (l.length + 1 - n)).map fun i => ((l.drop i).take n).reverse := by
  induction l with
  | nil =>
    have : ([] : List Word).length + 1 - n = 0 := Nat.sub_eq_zero_of_le hn
    rw [this]; rfl
  | cons a t ih =>
    rw [windows_cons]
    split
    · rename_i h
      have : (a :: t).length + 1 - n = (t.length + 1 - n) + 1 := Nat.succ_sub h
      rw [this, List.range_succ_eq_map, List.map_cons, List.map_map, ih]
      rfl
    · rename_i h
      have : (a :: t).length + 1 - n = 0 := Nat.sub_eq_zero_of_le (Nat.lt_of_not_le h)
      rw [this]; rfl

theorem window_mem {n : Nat} (hn : 1 ≤ n) {l : List Word} (i : Nat) (hi : i + n ≤ l.length) :
    ((l.drop i).take n).reverse ∈ windows n l := by
  rw [windows_eq_range hn]
  exact List.mem_map.mpr ⟨i, List.mem_range.mpr (Nat.lt_sub_of_add_lt (Nat.lt_succ_of_le hi)), rfl⟩

theorem win_length {N : Nat} {P : List Word} {i : Nat} (hi : i + N ≤ P.length) :
    ((P.drop i).take N).length = N := by
  rw [List.length_take, List.length_drop,
    Nat.min_eq_left (Nat.le_sub_of_add_le (Nat.add_comm i N ▸ hi))]

theorem win_take {n d : Nat} {P : List Word} {i : Nat} (hi : i + (n + d) ≤ P.length) :
    (((P.drop i).take (n + d)).reverse).take n = ((P.drop (i + d)).take n).reverse := by
  rw [List.take_reverse, win_length hi, Nat.add_sub_cancel_left, List.drop_take, List.drop_drop,
    Nat.add_sub_cancel]

theorem map_take_windows {n : Nat} (h1 : 1 ≤ n) (d : Nat) (l : List Word) :
    (windows (n + d) l).map (·.take n) = windows n (l.drop d) := by
  rw [windows_eq_range (Nat.le_add_right_of_le h1), windows_eq_range h1, List.map_map]
  have hr : (l.drop d).length + 1 - n = l.length + 1 - (n + d) := by
    rw [List.length_drop]; omega
  rw [hr]
  apply List.map_congr_left
  intro i hi
  have hi' : i + (n + d) ≤ l.length := by have := List.mem_range.mp hi; omega
  show (((l.drop i).take (n + d)).reverse).take n = _
  rw [win_take hi', List.drop_drop, Nat.add_comm d i]

/-- without its newest word an `(n+1)`-window is the `n`-window at the same place, so every
`(n+1)`-gram occurrence is an occurrence of its context -/
theorem count_windows_tail {n : Nat} (h1 : 1 ≤ n) (k : Gram) (Q : List Word) :
    (windows (n + 1) Q).count k ≤ (windows n Q).count k.tail := by
  refine Nat.le_trans List.count_le_count_map (List.Sublist.count_le _ ?_)
  rw [windows_eq_range (Nat.le_add_left 1 n), windows_eq_range h1, List.map_map]
  have htail : ∀ i ∈ List.range (Q.length + 1 - (n + 1)),
      (List.tail ∘ fun i => ((Q.drop i).take (n + 1)).reverse) i = ((Q.drop i).take n).reverse := by
    intro i hi
    have hl : ((Q.drop i).take (n + 1)).length = n + 1 :=
      win_length (by have := List.mem_range.mp hi; omega)
    show ((Q.drop i).take (n + 1)).reverse.tail = _
    rw [List.tail_reverse, List.dropLast_eq_take, hl, List.take_take, Nat.add_sub_cancel,
      Nat.min_eq_left (Nat.le_succ n)]
  rw [List.map_congr_left htail]
  exact (List.range_sublist.mpr (Nat.sub_le_sub_left (Nat.le_succ n) _)).map _

theorem paddedN_length (N : Nat) (s : List Word) : (paddedN N s).length = N - 1 + s.length + 1 := by
  rw [paddedN, List.length_append, List.length_append, List.length_replicate]
  rfl

theorem drop_paddedN {n : Nat} (h1 : 1 ≤ n) (d : Nat) (s : List Word) :
    (paddedN (n + d) s).drop d = paddedN n s := by
  unfold paddedN
  rw [List.append_assoc, List.append_assoc,
    List.drop_append_of_le_length (by rw [List.length_replicate]; omega), List.drop_replicate,
    Nat.sub_right_comm, Nat.add_sub_cancel]

theorem occurrences_take {N n : Nat} (h1 : 1 ≤ n) (hn : n ≤ N) (corpus : List (List Word)) :
    (occurrences N corpus).map (·.take n) = occurrences n corpus := by
  obtain ⟨d, rfl⟩ : ∃ d, N = n + d := ⟨N - n, (Nat.add_sub_cancel' hn).symm⟩
  unfold occurrences
  rw [List.map_flatMap]
  congr 1
  funext s
  rw [map_take_windows h1, drop_paddedN h1]

theorem trueCount_occurrences {N : Nat} (corpus : List (List Word)) {k : Gram} (h1 : 1 ≤ k.length)
    (hn : k.length ≤ N) :
    trueCount (countFull N corpus) k = (occurrences k.length corpus).count k := by
  rw [← occurrences_take h1 hn, List.count_eq_countP, List.countP_map]
  exact sumP_countFull (fun g => g.take k.length == k) N corpus

/-! Positions in a padded sentence: below `N - 1` stands `<s>` (`pad_get_lo`), from `N - 1` on a word
of the sentence or the final `</s>` (`pad_get_hi`, `pad_get_mid`).  `hs : ∀ w ∈ s, 3 ≤ w` says that
`s` consists of ordinary words (ids 0, 1, 2 are `<unk>`, `<s>`, `</s>`). -/

theorem pad_get_lo {N : Nat} {s : List Word} {m : Nat} (hm : m < N - 1) :
    (paddedN N s)[m]? = some bos := by
  unfold paddedN
  rw [List.append_assoc, List.getElem?_append_left (by simpa using hm), List.getElem?_replicate,
    if_pos hm]

theorem pad_get_hi {N : Nat} {s : List Word} {m : Nat} {x : Word} (hm : N - 1 ≤ m)
    (hx : (paddedN N s)[m]? = some x) : x ∈ s ∨ x = eos := by
  unfold paddedN at hx
  rw [List.append_assoc, List.getElem?_append_right (by simpa using hm)] at hx
  have := List.mem_of_getElem? hx
  simpa using this

theorem pad_get_mid {N : Nat} {s : List Word} {m : Nat} {x : Word} (hm : N - 1 ≤ m)
    (hm' : m + 1 < (paddedN N s).length) (hx : (paddedN N s)[m]? = some x) : x ∈ s := by
  rw [paddedN_length] at hm'
  unfold paddedN at hx
  rw [List.append_assoc, List.getElem?_append_right (by simpa using hm),
    List.getElem?_append_left (by simp only [List.length_replicate]; omega)] at hx
  exact List.mem_of_getElem? hx

/-- the word at position `j` of a window (reversed: `j = 0` is the newest) is the word `N - 1 - j`
places after the window's start -/
theorem win_get {N : Nat} {P : List Word} {i j : Nat} (hi : i + N ≤ P.length) (hj : j < N) :
    (((P.drop i).take N).reverse)[j]? = P[i + (N - 1 - j)]? := by
  have hl := win_length hi
  rw [List.getElem?_reverse (by rw [hl]; exact hj), hl, List.getElem?_take,
    if_pos (Nat.lt_of_le_of_lt (Nat.sub_le _ j) (Nat.sub_lt (Nat.zero_lt_of_lt hj) Nat.one_pos)),
    List.getElem?_drop]

theorem not_special_of_mem {s : List Word} (hs : ∀ w ∈ s, 3 ≤ w) {x : Word} (hx : x ∈ s ∨ x = eos) :
    x ≠ bos ∧ x ≠ unk := by
  rcases hx with h | rfl
  · have := hs x h
    exact ⟨fun e => absurd (e ▸ this) (by decide), fun e => absurd (e ▸ this) (by decide)⟩
  · exact ⟨by decide, by decide⟩

section
variable {N : Nat} {s : List Word} (hs : ∀ w ∈ s, 3 ≤ w) {i : Nat}
  (hi : i + N ≤ (paddedN N s).length)
include hs hi

omit hs in
theorem win_len : (((paddedN N s).drop i).take N).reverse.length = N := by
  rw [List.length_reverse, win_length hi]

theorem win_head (hN : 1 ≤ N) :
    (((paddedN N s).drop i).take N).reverse.head? ≠ some bos ∧
    (((paddedN N s).drop i).take N).reverse.head? ≠ some unk := by
  rw [List.head?_eq_getElem?, win_get hi hN]
  have key : ∀ x, (paddedN N s)[i + (N - 1 - 0)]? = some x → x ≠ bos ∧ x ≠ unk :=
    fun x hx => not_special_of_mem hs (pad_get_hi (Nat.le_add_left (N - 1) i) hx)
  exact ⟨fun h => (key _ h).1 rfl, fun h => (key _ h).2 rfl⟩

theorem win_second (hN : 2 ≤ N) :
    (((paddedN N s).drop i).take N).reverse[1]? ≠ some unk ∧
    (((paddedN N s).drop i).take N).reverse[1]? ≠ some eos := by
  rw [win_get hi hN]
  by_cases h0 : i = 0
  · subst h0
    rw [pad_get_lo (by omega)]
    exact ⟨by decide, by decide⟩
  · have key : ∀ x, (paddedN N s)[i + (N - 1 - 1)]? = some x → 3 ≤ x :=
      fun x hx => hs x (pad_get_mid (by omega) (by omega) hx)
    exact ⟨fun h => absurd (key _ h) (by decide), fun h => absurd (key _ h) (by decide)⟩

theorem win_bosRun : BosRun N (((paddedN N s).drop i).take N).reverse := by
  intro a b hab hb h
  rw [win_get hi (Nat.lt_of_le_of_lt hab hb)] at h
  rw [win_get hi hb]
  have hlo : i + (N - 1 - a) < N - 1 := Nat.lt_of_not_le fun hge =>
    (not_special_of_mem hs (pad_get_hi hge h)).1 rfl
  exact pad_get_lo (by omega)

end

/-- per sentence: an n-gram of order `n + 1` (valid, context not the bare `<s>`) occurs at most as
often as its context: the only window without a predecessor is the first, which is not valid -/
theorem sentence_tailDom {n : Nat} (h1 : 1 ≤ n) (s : List Word) (k : Gram) (hk : k.length = n + 1)
    (hval : bos ∉ k.take n) (hne : k.tail ≠ [bos]) :
    (windows (n + 1) (paddedN (n + 1) s)).count k ≤ (windows n (paddedN n s)).count k.tail := by
  have hp : paddedN (n + 1) s = bos :: paddedN n s := by
    obtain ⟨m, rfl⟩ : ∃ m, n = m + 1 := ⟨n - 1, (Nat.sub_add_cancel h1).symm⟩
    rfl
  have hlen : n + 1 ≤ (paddedN (n + 1) s).length := by
    rw [paddedN_length]; exact Nat.succ_le_succ (Nat.le_add_right n s.length)
  have h0 : ((paddedN (n + 1) s).take (n + 1)).reverse ≠ k := by
    intro hk'
    have hget : k[1]? = some bos := by
      have := win_get (N := n + 1) (P := paddedN (n + 1) s) (i := 0) (j := 1)
        (by rw [Nat.zero_add]; exact hlen) (Nat.succ_lt_succ h1)
      rw [List.drop_zero, hk'] at this
      rw [this, pad_get_lo (by omega)]
    by_cases hn2 : 2 ≤ n
    · apply hval
      apply List.mem_of_getElem? (i := 1)
      rw [List.getElem?_take, if_pos (show 1 < n from hn2)]; exact hget
    · have hn1 : n = 1 := Nat.le_antisymm (Nat.le_of_lt_succ (Nat.lt_of_not_le hn2)) h1
      subst hn1
      apply hne
      match k, hk, hget with
      | [_, b], _, hget => simpa using hget
  rw [hp] at hlen h0 ⊢
  rw [windows_cons, if_pos hlen, List.count_cons, beq_false_of_ne h0, if_neg Bool.false_ne_true,
    Nat.add_zero]
  exact count_windows_tail h1 k _

theorem row_occ {N : Nat} {corpus : List (List Word)} {e : Gram × Nat} (he : e ∈ countFull N corpus) :
    ∃ s ∈ corpus, ∃ i, i + N ≤ (paddedN N s).length ∧
      e.1 = (((paddedN N s).drop i).take N).reverse := by
  have hocc := (mem_countFull_keys N corpus e.1).mp (List.mem_map.mpr ⟨e, he, rfl⟩)
  obtain ⟨s, hs, hg⟩ := List.mem_flatMap.mp hocc
  exact ⟨s, hs, mem_windows hg⟩

theorem rowOK_countFull {N : Nat} (hN : 1 ≤ N) {corpus : List (List Word)}
    (hw : ∀ s ∈ corpus, ∀ w ∈ s, 3 ≤ w) {e : Gram × Nat} (he : e ∈ countFull N corpus) :
    Adjust.RowOK N e.1 := by
  obtain ⟨s, hs, i, hi, hg⟩ := row_occ he
  rw [hg]
  exact ⟨win_len hi, win_head (hw s hs) hi hN, win_bosRun (hw s hs) hi⟩

theorem countFull_nonempty {N : Nat} (hN : 1 ≤ N) {corpus : List (List Word)} (hne : corpus ≠ []) :
    countFull N corpus ≠ [] := by
  obtain ⟨s, hs⟩ := List.exists_mem_of_ne_nil corpus hne
  -- the first window of a sentence is a row
  have hocc : (((paddedN N s).drop 0).take N).reverse ∈ occurrences N corpus :=
    List.mem_flatMap.mpr ⟨s, hs, window_mem hN 0 (by rw [paddedN_length]; omega)⟩
  intro h0
  have := (mem_countFull_keys N corpus _).mpr hocc
  rw [h0] at this
  cases this

theorem mem_windows_one {l : List Word} {g : Gram} : g ∈ windows 1 l ↔ ∃ w ∈ l, g = [w] := by
  induction l with
  | nil => simp [windows]
  | cons a t ih =>
    rw [windows_cons, if_pos (by simp), List.mem_cons, ih]
    simp

theorem mem_occ_one {corpus : List (List Word)} {g : Gram} :
    g ∈ occurrences 1 corpus ↔ ∃ w, g = [w] ∧ ((∃ s ∈ corpus, w ∈ s) ∨ (w = eos ∧ corpus ≠ [])) := by
  unfold occurrences
  rw [List.mem_flatMap]
  have hp : ∀ s : List Word, paddedN 1 s = s ++ [eos] := by intro s; simp [paddedN]
  constructor
  · rintro ⟨s, hs, hg⟩
    rw [hp, mem_windows_one] at hg
    obtain ⟨w, hw, rfl⟩ := hg
    refine ⟨w, rfl, ?_⟩
    rcases List.mem_append.mp hw with h | h
    · exact Or.inl ⟨s, hs, h⟩
    · exact Or.inr ⟨by simpa using h, by intro h0; rw [h0] at hs; cases hs⟩
  · rintro ⟨w, rfl, h⟩
    rcases h with ⟨s, hs, hw⟩ | ⟨rfl, hne⟩
    · exact ⟨s, hs, by rw [hp, mem_windows_one]; exact ⟨w, by simp [hw], rfl⟩⟩
    · obtain ⟨s, hs⟩ := List.exists_mem_of_ne_nil corpus hne
      exact ⟨s, hs, by rw [hp, mem_windows_one]; exact ⟨eos, by simp, rfl⟩⟩

end KV.KN.Norm
