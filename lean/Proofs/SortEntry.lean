import Proofs.SortRecords
/-! C16: the queue entries of `MergeQueue` below the `(current, rest)` view of the merge: buffered entries refine it,
byte-level entries refine buffered entries, and an entry over the byte slice of a run delivers exactly the records of
that slice (`decodeRun_eq`).  (File-level entries, `FileEntry`, stand beside this chain: Properties/C16 `fileEntry_refines`.) -/
namespace KV.Sort
open List

variable {α : Type}

theorem bufEntry_read {cap : Nat} (hcap : 0 < cap) (run : List α) :
    match BufEntry.read cap run with
    | none => run = []
    | some e => e.buf ≠ [] ∧ e.view = run := by
  cases run with
  | nil => simp [BufEntry.read]
  | cons x xs =>
    obtain ⟨c, rfl⟩ : ∃ c, cap = c + 1 := ⟨cap - 1, by omega⟩
    simp [BufEntry.read, BufEntry.view]

theorem bufEntry_step {cap : Nat} (hcap : 0 < cap) (e : BufEntry α) (x : α) (rest : List α)
    (hne : e.buf ≠ []) (hv : e.view = x :: rest) :
    match e.increment cap with
    | none => rest = []
    | some e' => e'.buf ≠ [] ∧ e'.view = rest := by
  obtain ⟨buf, file⟩ := e
  cases buf with
  | nil => exact absurd rfl hne
  | cons b bs =>
    simp only [BufEntry.view, cons_append, cons.injEq] at hv
    cases bs with
    | nil =>
      simp only [BufEntry.increment, drop_succ_cons, drop_zero]
      simp only [nil_append] at hv
      have := bufEntry_read hcap file
      rw [hv.2] at this ⊢
      exact this
    | cons b2 bs2 =>
      simp only [BufEntry.increment, drop_succ_cons, drop_zero]
      exact ⟨by simp, by simpa [BufEntry.view] using hv.2⟩

/-- whole records in the buffer and on disk, buffer not empty; `E ∣ e.buf.length` is what keeps `Increment`'s equality
test `current_ != buffer_end_` from being stepped over (Model/SortBytes.lean, `ByteEntry.increment`) -/
def ByteEntry.wf (E : Nat) (e : ByteEntry) : Prop := E ∣ e.buf.length ∧ E ∣ e.file.length ∧ e.buf ≠ []

theorem byteEntry_read {E cap : Nat} (hcap : Mult E cap) (file : Buf) (hf : E ∣ file.length) :
    (ByteEntry.read cap file).map (ByteEntry.abs E) = BufEntry.read (cap / E) (recordsOf E file) ∧
    ∀ e, ByteEntry.read cap file = some e → e.wf E := by
  have hE := hcap.pos_base
  have hc := hcap.pos
  obtain ⟨c, rfl⟩ := hcap.dvd
  rw [Nat.mul_div_cancel_left c hE]
  have hcm : E * c = c * E := Nat.mul_comm E c
  cases file with
  | nil => simp [ByteEntry.read, BufEntry.read, recordsOf, chunk]
  | cons x xs =>
    have hne : recordsOf E (x :: xs) ≠ [] := fun h => by
      have := (recordsOf_eq_nil (x :: xs) hf).mp h; cases this
    refine ⟨?_, ?_⟩
    · simp only [ByteEntry.read, Option.map_some, ByteEntry.abs]
      cases hr : recordsOf E (x :: xs) with
      | nil => exact absurd hr hne
      | cons r rs =>
        simp only [BufEntry.read, Option.some.injEq, BufEntry.mk.injEq]
        rw [← hr, hcm]
        exact recordsOf_take_drop hE _ hf c
    · intro e he
      simp only [ByteEntry.read, Option.some.injEq] at he
      subst he
      obtain ⟨a, ha⟩ := hf
      refine ⟨?_, ?_, ?_⟩
      · simp only [length_take]
        rw [ha]
        rcases Nat.le_total c a with h | h
        · rw [Nat.min_eq_left (Nat.mul_le_mul_left E h)]; exact ⟨c, rfl⟩
        · rw [Nat.min_eq_right (Nat.mul_le_mul_left E h)]; exact ⟨a, rfl⟩
      · simp only [length_drop]
        rw [ha, ← Nat.mul_sub]; exact ⟨a - c, rfl⟩
      · intro h
        have h' : (x :: xs).take (E * c) = [] := h
        have : ((x :: xs).take (E * c)).length = 0 := by rw [h']; rfl
        simp only [length_take, length_cons] at this
        omega

theorem byteEntry_increment {E cap : Nat} (hcap : Mult E cap) (e : ByteEntry) (hw : e.wf E) :
    ∃ r, e.increment E cap = .ok r ∧ r.map (ByteEntry.abs E) = (ByteEntry.abs E e).increment (cap / E) ∧
      ∀ e', r = some e' → e'.wf E := by
  obtain ⟨hbd, hfile, hne⟩ := hw
  have hge : E ≤ e.buf.length := Nat.le_of_dvd (length_pos_iff.mpr hne) hbd
  have hd1 : recordsOf E (e.buf.drop E) = (recordsOf E e.buf).drop 1 := by
    simpa using (recordsOf_take_drop hcap.pos_base e.buf hbd 1).2
  unfold ByteEntry.increment
  rw [if_neg (Nat.not_lt.mpr hge)]
  by_cases h1 : e.buf.length = E
  · obtain ⟨hr1, hr2⟩ := byteEntry_read hcap e.file hfile
    have : (recordsOf E e.buf).drop 1 = [] := by
      rw [← hd1, drop_eq_nil_of_le (Nat.le_of_eq h1)]; exact (recordsOf_eq_nil [] (Nat.dvd_zero E)).mpr rfl
    rw [if_pos h1]
    refine ⟨_, rfl, ?_, hr2⟩
    rw [hr1]
    simp only [BufEntry.increment, ByteEntry.abs, this]
  · have hdd : E ∣ (e.buf.drop E).length := by rw [length_drop]; exact Nat.dvd_sub hbd (Nat.dvd_refl E)
    have hdne : e.buf.drop E ≠ [] := fun h => by
      have := congrArg length h
      rw [length_drop, length_nil] at this
      exact h1 (Nat.le_antisymm (Nat.le_of_sub_eq_zero this) hge)
    rw [if_neg h1]
    refine ⟨_, rfl, ?_, fun e' he' => by cases he'; exact ⟨hdd, hfile, hdne⟩⟩
    simp only [Option.map_some, ByteEntry.abs, BufEntry.increment, ← hd1]
    cases hdr : recordsOf E (e.buf.drop E) with
    | nil => exact absurd ((recordsOf_eq_nil _ hdd).mp hdr) hdne
    | cons b bs => rfl

theorem ByteEntry.view_abs {E : Nat} (hE : 0 < E) {e : ByteEntry} (hw : e.wf E) :
    (e.abs E).buf ≠ [] ∧ ∃ rest, (e.abs E).view = e.current E :: rest := by
  have hge : E ≤ e.buf.length := Nat.le_of_dvd (length_pos_iff.mpr hw.2.2) hw.1
  refine ⟨fun h => hw.2.2 ((recordsOf_eq_nil e.buf hw.1).mp h), recordsOf E (e.buf.drop E) ++ recordsOf E e.file, ?_⟩
  simp only [ByteEntry.abs, BufEntry.view, recordsOf_cons hE e.buf hge, cons_append]
  rfl

/-- a well-formed entry delivers exactly its record-level view: each `Increment` moves the view from
`x :: rest` to `rest` (`byteEntry_increment` into `bufEntry_step`) -/
theorem drainEntry_eq {E cap : Nat} (hcap : Mult E cap) :
    ∀ (f : Nat) (e : ByteEntry), e.wf E → (e.abs E).view.length ≤ f →
      drainEntry E cap f (some e) = some (e.abs E).view := by
  intro f
  induction f with
  | zero =>
    intro e hw hf
    obtain ⟨_, rest, hv⟩ := ByteEntry.view_abs hcap.pos_base hw
    rw [hv] at hf; cases hf
  | succ f ih =>
    intro e hw hf
    obtain ⟨hne, rest, hv⟩ := ByteEntry.view_abs hcap.pos_base hw
    obtain ⟨r, hr, habs, hwf'⟩ := byteEntry_increment hcap e hw
    have hstep := bufEntry_step hcap.div_pos (e.abs E) _ rest hne hv
    rw [← habs] at hstep
    rw [hv] at hf ⊢
    simp only [drainEntry, hr]
    cases r with
    | none => rw [show rest = [] from hstep]; cases f <;> rfl
    | some e' =>
      obtain ⟨_, hv'⟩ : _ ∧ (e'.abs E).view = rest := hstep
      rw [ih e' (hwf' e' rfl) (by rw [hv']; exact Nat.le_of_succ_le_succ hf), hv']; rfl

theorem decodeRun_eq {E cap : Nat} (hcap : Mult E cap) (bytes : Buf)
    (hb : E ∣ bytes.length) : decodeRun E cap bytes = some (recordsOf E bytes) := by
  obtain ⟨habs, hwf⟩ := byteEntry_read hcap bytes hb
  have hrd := bufEntry_read hcap.div_pos (recordsOf E bytes)
  rw [← habs] at hrd
  unfold decodeRun
  cases hr : ByteEntry.read cap bytes with
  | none => rw [hr] at hrd; rw [show recordsOf E bytes = [] from hrd]; rfl
  | some e =>
    rw [hr] at hrd
    obtain ⟨_, hv⟩ : _ ∧ (e.abs E).view = recordsOf E bytes := hrd
    rw [drainEntry_eq hcap _ e (hwf e hr) (by rw [hv, recordsOf_length]; omega), hv]

end KV.Sort
