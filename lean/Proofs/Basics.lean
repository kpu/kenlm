/-! General facts about lists, numbers, bits and `if`, about no model, that core does not state in this form.  Core imports only, so
that every proof module can import it; a fact that core states itself is cited from core, not repeated here. -/
namespace KV

theorem take_take_of_le {α} {l : List α} {j n : Nat} (h : j ≤ n) : (l.take n).take j = l.take j := by
  rw [List.take_take, Nat.min_eq_left h]

theorem take_succ_of_drop {α} {l : List α} {i : Nat} {x : α} {rest : List α} (h : l.drop i = x :: rest) :
    l.take (i+1) = l.take i ++ [x] ∧ l.drop (i+1) = rest ∧ i < l.length := by
  have hi : i < l.length := by
    rcases Nat.lt_or_ge i l.length with h' | h'
    · exact h'
    · rw [List.drop_eq_nil_of_le h'] at h; cases h
  rw [List.drop_eq_getElem_cons hi] at h
  injection h with hx hr
  exact ⟨by rw [List.take_succ_eq_append_getElem hi, hx], hr, hi⟩

theorem dropWhile_head {α} {p : α → Bool} {l : List α} {c : α} {t : List α} (h : l.dropWhile p = c :: t) : p c = false := by
  have := List.head?_dropWhile_not p l
  rwa [h] at this

theorem prefix_of_snoc {α} {P : List α → Prop} (step : ∀ g x, g ≠ [] → P (g ++ [x]) → P g) :
    ∀ (ys g : List α), g ≠ [] → P (g ++ ys) → P g := by
  intro ys
  induction ys with
  | nil => intro g _ h; rwa [List.append_nil] at h
  | cons y ys ih =>
    intro g hg h
    rw [List.append_cons] at h
    exact step g y hg (ih (g ++ [y]) (List.append_ne_nil_of_right_ne_nil _ (List.cons_ne_nil _ _)) h)

theorem take_lt (a : List Nat) {n : Nat} (h : n < a.length) : a.take n < a :=
  Std.lt_of_le_of_ne (List.take_prefix n a).le fun e => by
    have := congrArg List.length e
    rw [List.length_take_of_le (Nat.le_of_lt h)] at this
    exact Nat.ne_of_lt h this

theorem take_sandwich : ∀ (m : Nat) (a b c : List Nat), ¬ b < a → ¬ c < b →
    a.take m = c.take m → b.take m = a.take m
  | 0, _, _, _, _, _, _ => by simp
  | m + 1, [], b, c, _, hbc, h => by
    cases c with
    | nil =>
      cases b with
      | nil => rfl
      | cons y b' => exact absurd (List.nil_lt_cons y b') hbc
    | cons z c' => simp at h
  | m + 1, x :: a', b, c, hab, hbc, h => by
    cases c with
    | nil => simp at h
    | cons z c' =>
      cases b with
      | nil => exact absurd (List.nil_lt_cons x a') hab
      | cons y b' =>
        simp only [List.take_succ_cons, List.cons.injEq] at h
        obtain ⟨rfl, h⟩ := h
        rw [List.cons_lt_cons_iff] at hab hbc
        have hxy : x = y := by omega
        subst hxy
        have := take_sandwich m a' b' c' (fun hh => hab (Or.inr ⟨rfl, hh⟩))
          (fun hh => hbc (Or.inr ⟨rfl, hh⟩)) h
        simp [List.take_succ_cons, this]

theorem testBit_of_lt_two_pow {v len j : Nat} (hv : v < 2^len) (hj : len ≤ j) : v.testBit j = false :=
  Nat.testBit_lt_two_pow (Nat.lt_of_lt_of_le hv (Nat.pow_le_pow_right (Nat.succ_pos 1) hj))

theorem nodup_map_inj {α β} {f : α → β} : ∀ {l : List α}, (l.map f).Nodup → ∀ x ∈ l, ∀ y ∈ l, f x = f y → x = y
  | [], _, _, hx, _, _, _ => nomatch hx
  | a :: l, h, x, hx, y, hy, he => by
    have ⟨ha, hl⟩ := List.nodup_cons.mp h
    rcases List.mem_cons.mp hx with rfl | hx' <;> rcases List.mem_cons.mp hy with rfl | hy'
    · rfl
    · exact (ha (List.mem_map.mpr ⟨y, hy', he.symm⟩)).elim
    · exact (ha (List.mem_map.mpr ⟨x, hx', he⟩)).elim
    · exact nodup_map_inj hl x hx' y hy' he

/-- two lists sorted by an asymmetric relation that have the same members are equal -/
theorem strict_sorted_ext {α} {r : α → α → Prop} (hr : ∀ a b, r a b → ¬ r b a) {l₁ l₂ : List α}
    (h1 : l₁.Pairwise r) (h2 : l₂.Pairwise r) (h : ∀ x, x ∈ l₁ ↔ x ∈ l₂) : l₁ = l₂ :=
  have nd {l : List α} (hl : l.Pairwise r) : l.Nodup := hl.imp (S := (· ≠ ·)) fun hab e => hr _ _ hab (e ▸ hab)
  ((List.perm_ext_iff_of_nodup (nd h1) (nd h2)).mpr h).eq_of_pairwise (fun a b _ _ hab hba => absurd hba (hr a b hab)) h1 h2

/-- two sorted arrangements of a list with distinct keys are equal, when the order is antisymmetric up to the key -/
theorem sorted_perm_ext {α κ} {le : α → α → Prop} (key : α → κ) {l l₁ l₂ : List α}
    (hanti : ∀ a ∈ l, ∀ b ∈ l, le a b → le b a → key a = key b) (hnd : (l.map key).Nodup)
    (p1 : l₁.Perm l) (p2 : l₂.Perm l) (s1 : l₁.Pairwise le) (s2 : l₂.Pairwise le) : l₁ = l₂ :=
  (p1.trans p2.symm).eq_of_pairwise (fun a b ha hb hab hba =>
    nodup_map_inj hnd a (p1.subset ha) b (p2.subset hb) (hanti _ (p1.subset ha) _ (p2.subset hb) hab hba)) s1 s2

theorem lookup_some_mem {κ β} [BEq κ] [LawfulBEq κ] (l : List (κ × β)) (k : κ) (v : β) :
    l.lookup k = some v → (k, v) ∈ l := by
  intro h
  obtain ⟨l₁, l₂, rfl, _⟩ := List.lookup_eq_some_iff.mp h
  exact List.mem_append_right _ List.mem_cons_self

theorem lookup_ne_none {κ β} [BEq κ] [LawfulBEq κ] (l : List (κ × β)) (g : κ) : l.lookup g ≠ none ↔ ∃ p ∈ l, p.1 = g := by
  simp only [ne_eq, List.lookup_eq_none_iff, bne_iff_ne, Classical.not_forall, Classical.not_not, exists_prop]
  exact ⟨fun ⟨p, hp, e⟩ => ⟨p, hp, e.symm⟩, fun ⟨p, hp, e⟩ => ⟨p, hp, e.symm⟩⟩

theorem mem_lookup_ne_none {κ β} [BEq κ] [LawfulBEq κ] (l : List (κ × β)) (k : κ) (v : β) (h : (k, v) ∈ l) : l.lookup k ≠ none :=
  (lookup_ne_none l k).mpr ⟨_, h, rfl⟩

theorem lookup_of_nodup_keys {κ β} [BEq κ] [LawfulBEq κ] : ∀ {l : List (κ × β)}, (l.map (·.1)).Nodup →
    ∀ {k : κ} {v : β}, (k, v) ∈ l → l.lookup k = some v
  | [], _, _, _, h => nomatch h
  | (k', v') :: l, hnd, k, v, h => by
    have ⟨hk, hl⟩ := List.nodup_cons.mp hnd
    rw [List.lookup_cons]
    rcases List.mem_cons.mp h with h1 | hm
    · cases h1; rw [beq_self_eq_true]
    · have hne : (k == k') = false := beq_false_of_ne fun he => hk (he ▸ List.mem_map.mpr ⟨(k, v), hm, rfl⟩)
      rw [hne]
      exact lookup_of_nodup_keys hl hm

theorem drop_append_of_length_le {α} {a l : List α} {n : Nat} (h : a.length ≤ n) :
    (a ++ l).drop n = l.drop (n - a.length) := by
  rw [List.drop_append, List.drop_of_length_le h, List.nil_append]

/-- a map over `s+1, s+2, …` that reads `n - 1` is the map over `s, s+1, …` (in Model/Binary.lean the loops of `SetupMemory` run over
`n = 2, 3, …` and use `n - 1`, those of `Size` over `n = 1, 2, …`) -/
theorem map_pred_range' (f : Nat → Nat → Nat) (k : Nat) :
    ∀ s, (List.range' (s+1) k).map (fun n => f (n - 1) n) = (List.range' s k).map (fun n => f n (n+1)) := by
  induction k with
  | zero => intro s; simp
  | succ k ih => intro s; simp [List.range'_succ, ih]

theorem takeWhile_dropWhile_nil {α} (p : α → Bool) (l : List α) : (l.dropWhile p).takeWhile p = [] := by
  induction l with
  | nil => rfl
  | cons x l ih => by_cases h : p x = true <;> simp [h, ih]

theorem takeWhile_none {α} (p : α → Bool) (l : List α) (h : ∀ x ∈ l, p x = false) : l.takeWhile p = [] := by
  cases l with
  | nil => rfl
  | cons x l => simp [h x (by simp)]

theorem takeWhile_drop_length {α} (p : α → Bool) (l : List α) (b : Nat) (hb : b ≤ (l.takeWhile p).length) :
    ((l.drop b).takeWhile p).length = (l.takeWhile p).length - b := by
  have hd : l.drop b = (l.takeWhile p).drop b ++ l.dropWhile p := by
    conv => lhs; rw [← List.takeWhile_append_dropWhile (p := p) (l := l)]
    exact List.drop_append_of_le_length hb
  rw [hd, List.takeWhile_append_of_pos fun x hx => List.all_eq_true.mp List.all_takeWhile x (List.mem_of_mem_drop hx),
    takeWhile_dropWhile_nil, List.append_nil, List.length_drop]

theorem takeWhile_append_stop {α} {p : α → Bool} (l : List α) {x : α} (m : List α) (hx : p x = false) :
    (l ++ x :: m).takeWhile p = l.takeWhile p := by
  rw [List.takeWhile_append, List.takeWhile_cons_of_neg (Bool.not_eq_true _ ▸ hx), List.append_nil]
  split
  · next h => exact ((List.takeWhile_prefix p).eq_of_length h).symm
  · rfl

theorem dropWhile_append_stop {α} {p : α → Bool} (l : List α) {x : α} (m : List α) (hx : p x = false) :
    (l ++ x :: m).dropWhile p = l.dropWhile p ++ x :: m := by
  rw [List.dropWhile_append, List.dropWhile_cons_of_neg (Bool.not_eq_true _ ▸ hx)]
  split
  · next h => rw [List.isEmpty_iff.mp h]; rfl
  · rfl

theorem takeWhile_append_of_head {α} (p : α → Bool) (A B : List α) (hA : ∀ a ∈ A, p a = true)
    (hB : ∀ r, B.head? = some r → p r = false) :
    (A ++ B).takeWhile p = A ∧ (A ++ B).dropWhile p = B := by
  rw [List.takeWhile_append_of_pos hA, List.dropWhile_append_of_pos hA]
  cases B with
  | nil => simp
  | cons b B' => simp [hB b rfl]

theorem shr_mono (bits : Nat) {v w : Nat} (h : v ≤ w) : v >>> bits ≤ w >>> bits := by
  simp only [Nat.shiftRight_eq_div_pow]; exact Nat.div_le_div_right h

theorem shift_or (bits v : Nat) : ((v >>> bits) <<< bits) ||| (v % 2^bits) = v := by
  rw [← Nat.shiftLeft_add_eq_or_of_lt (Nat.mod_lt _ (Nat.two_pow_pos bits))]
  rw [Nat.shiftLeft_eq, Nat.shiftRight_eq_div_pow, Nat.mul_comm]
  exact Nat.div_add_mod v (2^bits)

theorem getD_of_getElem? {α} {l : List α} {i : Nat} {a : α} (d : α) (h : l[i]? = some a) : l.getD i d = a := by
  rw [List.getD_eq_getElem?_getD, h, Option.getD_some]

theorem getD_append_add {α} (l r : List α) (k : Nat) (d : α) : (l ++ r).getD (l.length + k) d = r.getD k d := by
  simp only [List.getD_eq_getElem?_getD, List.getElem?_append_right (Nat.le_add_right _ k), Nat.add_sub_cancel_left]

theorem takeWhile_length_of_prefix {α} (p : α → Bool) :
    ∀ (l : List α) (j : Nat) (hj : j < l.length), (∀ i (hi : i < j), p (l[i]'(by omega)) = true) → p (l[j]) = false →
      (l.takeWhile p).length = j := by
  intro l j hj hall hstop
  rw [List.takeWhile_eq_take_findIdx_not, List.length_take,
    (List.findIdx_eq hj).mpr ⟨by rw [hstop]; rfl, fun i hi => by rw [hall i hi]; rfl⟩, Nat.min_eq_left (Nat.le_of_lt hj)]

theorem first_occurrence {α} [BEq α] [LawfulBEq α] (l : List α) (v : α) (hv : v ∈ l) :
    ∃ h0, ∃ (hh : h0 < l.length), l[h0] = v ∧ ∀ h (hlt : h < h0), l[h]'(by omega) ≠ v :=
  have hh := List.findIdx_lt_length_of_exists (p := (· == v)) ⟨v, hv, beq_self_eq_true v⟩
  ⟨_, hh, eq_of_beq (List.findIdx_getElem (w := hh)), fun _ hlt => ne_of_beq_false (List.not_of_lt_findIdx hlt)⟩

theorem take_of_split {α} {m r s : List α} {a : Nat} (h : m ++ r = s) (hl : m.length = a) : m = s.take a := by
  subst h; subst hl; simp

theorem drop_covers {α} {src : List α} {amount : Nat} (hl : amount ≤ src.length) (r : Nat) :
    amount - r ≤ (src.drop r).length :=
  List.length_drop ▸ Nat.sub_le_sub_right hl r

/-- one guard of a chain of early exits: if the chain's value is not the exit's, the guard was passed -/
theorem of_ite_eq {α : Type} {c : Prop} [Decidable c] {a b v : α} (h : (if c then a else b) = v) (ha : a ≠ v) :
    ¬ c ∧ b = v := by
  by_cases hc : c
  · rw [if_pos hc] at h; exact absurd h ha
  · rw [if_neg hc] at h; exact ⟨hc, h⟩

end KV
