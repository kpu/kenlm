import Proofs.PCQueueRefine
import Proofs.PCQueueEintr
/-! A failed element copy inside `Produce` / `Consume` is a stutter step of the queue: the invariant, the ghost
histories and the abstract FIFO are unchanged.  Core Lean only. -/
namespace KV.PCQueue

variable {dP dC : Nat} {s : State} {tid : Nat} {th : Thread}

theorem core_scratch (h : Core s) (hroom : s.writes.length - s.reads.length < s.cap) (g : Nat) :
    Core { s with ring := upd s.ring s.produceAt g } := by
  refine ⟨h.cap_pos, h.acct, h.occ, h.pat, h.cat, fun i hi1 hi2 => ?_, h.fifo, h.pm, h.cm,
          fun t th hth => (h.thr t th hth).frame rfl rfl⟩
  have hi1 : s.reads.length ≤ i := hi1
  have hi2 : i < s.writes.length := hi2
  have hne := h.slot_free hroom i hi1 hi2
  show (s.writes[i]?).map (·.2) = some (upd s.ring s.produceAt g (i % s.cap))
  simp only [upd, hne, if_false]
  exact h.ringv i hi1 hi2

theorem core_fail_prod (h : Core s)
    (hth : s.threads[tid]? = some th) (hr : th.role = .prod) (hp : th.pc = .body) (g : Nat) :
    Core { s.setT tid { th with pc := .wait } with
                empty := s.empty + 1
                pmutex := none
                ring := upd s.ring s.produceAt g } := by
  have ok := h.thr tid th hth
  have h1 := core_scratch h (room_of_producer h hth hr hp).2 g
  exact core_control h1 hth (by simp [tokens, State.setT, hr, hp]) (by simp [tokens, State.setT, hr, hp])
    (h1.pm.release hth ⟨hr, Or.inl hp⟩ (by simp [holdsP])) (h1.cm.frame hth (by simp [holdsC, hr]))
    ⟨fun _ _ => ok.p_nonempty hr (Or.inr (Or.inr hp)), nofun, ok.p_orig, by simp [hr], nofun, by simp [hr]⟩

theorem core_fail_cons (h : Core s)
    (hth : s.threads[tid]? = some th) (hr : th.role = .cons) (hp : th.pc = .body) :
    Core { s.setT tid { th with pc := .wait } with
                used := s.used + 1
                cmutex := none } := by
  have ok := h.thr tid th hth
  exact core_control h hth (by simp [tokens, State.setT, hr, hp]; omega) (by simp [tokens, hr, hp])
    (h.pm.frame hth (by simp [holdsP, hr])) (h.cm.release hth ⟨hr, Or.inl hp⟩ (by simp [holdsC]))
    ⟨by simp [hr], nofun, by simp [hr], fun _ _ => ok.c_pos hr (Or.inr (Or.inr hp)), nofun, ok.c_got⟩

theorem fail_stutter {s s' : State} {t g : Nat} (h : Inv dP dC s) (hf : fail s t g = some s') :
    Inv dP dC s' ∧ s'.writes = s.writes ∧ s'.reads = s.reads ∧ s'.produceAt = s.produceAt
      ∧ s'.consumeAt = s.consumeAt ∧ absBuf s' = absBuf s ∧ s'.cap = s.cap := by
  unfold fail at hf
  cases hth : s.threads[t]? with
  | none => simp [hth] at hf
  | some th =>
    simp only [hth] at hf
    -- the thread goes back to `wait` with the same items and quota: `balance` is untouched
    have hb : sumBy remP (s.threads.set t { th with pc := .wait }) + s.writes.length + dC
        = sumBy remC (s.threads.set t { th with pc := .wait }) + s.reads.length + dP := by
      have := sumBy_set (f := remP) hth { th with pc := .wait }
      have := sumBy_set (f := remC) hth { th with pc := .wait }
      have := h.balance
      simp only [remP, remC] at *
      omega
    obtain ⟨role, pc, items, orig, quota, got⟩ := th
    cases role <;> cases pc <;> simp only at hf <;> try (cases hf)
    · exact ⟨(core_fail_prod h.core hth rfl rfl g).inv hb, rfl, rfl, rfl, rfl, absBuf_frame rfl rfl, rfl⟩
    · exact ⟨(core_fail_cons h.core hth rfl rfl).inv hb, rfl, rfl, rfl, rfl, absBuf_frame rfl rfl, rfl⟩

theorem inv_reachF {s0 s : State} (h0 : Inv dP dC s0) (hr : ReachF s0 s) : Inv dP dC s := by
  induction hr with
  | init => exact h0
  | step _ hs ih => exact inv_step ih hs
  | intr _ hi ih => rw [interrupt_eq hi]; exact ih
  | fail _ hf ih => exact (fail_stutter ih hf).1

end KV.PCQueue
