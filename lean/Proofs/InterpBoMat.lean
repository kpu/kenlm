import Proofs.InterpList
/-!
`BackoffManager`'s per-model bookkeeping: while `SameContext(c)` runs, `Get(m, level)` returns the
back-off of component `m` for the suffix of `c` of length `level + 1` (0 if the component does not
have it below its top order), `Exit` restores the matrix, and the charging loop of `SameContext`
computes `LM.charge`.
-/
namespace KV.Interp
variable {W : Type} [DecidableEq W]

def BoMat.WF (M : BoMat) (N K : Nat) : Prop := M.maxOrder = K ∧ M.backing.length = N * K

theorem idx_inj {K i i' l l' : Nat} (hl : l < K) (hl' : l' < K) (h : i * K + l = i' * K + l') :
    i = i' ∧ l = l' := by
  have hK : 0 < K := by omega
  have h1 : (i * K + l) / K = i := by
    rw [Nat.mul_comm, Nat.mul_add_div hK, Nat.div_eq_of_lt hl, Nat.add_zero]
  have h2 : (i' * K + l') / K = i' := by
    rw [Nat.mul_comm, Nat.mul_add_div hK, Nat.div_eq_of_lt hl', Nat.add_zero]
  have hi : i = i' := by rw [← h1, ← h2, h]
  subst hi
  exact ⟨rfl, by omega⟩

theorem idx_lt {N K i l : Nat} (hi : i < N) (hl : l < K) : i * K + l < N * K := by
  have : (i + 1) * K ≤ N * K := Nat.mul_le_mul_right K hi
  rw [Nat.add_mul, Nat.one_mul] at this
  omega

theorem BoMat.wf_set {M : BoMat} {N K : Nat} (h : M.WF N K) (i l : Nat) (v : Rat) : (M.set i l v).WF N K :=
  ⟨h.1, by rw [← h.2]; exact List.length_set⟩

theorem BoMat.get_set {M : BoMat} {N K : Nat} (h : M.WF N K) {i i' l l' : Nat} (hi : i < N) (hl : l < K)
    (hl' : l' < K) (v : Rat) :
    (M.set i l v).get i' l' = if i = i' ∧ l = l' then v else M.get i' l' := by
  unfold BoMat.set BoMat.get
  simp only [h.1]
  rw [List.getD_eq_getElem?_getD, List.getD_eq_getElem?_getD, List.getElem?_set]
  by_cases heq : i * K + l = i' * K + l'
  · have hlt : i * K + l < M.backing.length := by rw [h.2]; exact idx_lt hi hl
    rw [if_pos heq, if_pos hlt, if_pos (idx_inj hl hl' heq)]
    rfl
  · rw [if_neg heq, if_neg (fun ⟨a, b⟩ => heq (by rw [a, b]))]

theorem wf_zero (N K : Nat) : (BoMat.zero N K).WF N K := ⟨rfl, List.length_replicate⟩

theorem get_zero (N K i l : Nat) : (BoMat.zero N K).get i l = 0 := by
  unfold BoMat.zero BoMat.get
  rw [List.getD_eq_getElem?_getD, List.getElem?_replicate]
  split <;> rfl

/-- a pass over the components in which component `i` writes `u p` (if there is one) into its cell
of level `lvl`: that level then holds `u`, the other levels are untouched -/
theorem get_foldl_set {α : Type} (u : α → Option Rat) {lvl N K : Nat} (hlvl : lvl < K)
    {M : BoMat} (hM : M.WF N K) (l : List α) (hl : l.length ≤ N) :
    (l.zipIdx.foldl (fun M pi => (u pi.1).elim M (M.set pi.2 lvl)) M).WF N K ∧
    ∀ i l', l' < K → (l.zipIdx.foldl (fun M pi => (u pi.1).elim M (M.set pi.2 lvl)) M).get i l' =
      if l' = lvl then (l[i]?.bind u).getD (M.get i l') else M.get i l' := by
  induction l using List.reverseRecOn with
  | nil => exact ⟨hM, fun i l' _ => by rw [List.getElem?_nil]; exact (ite_self _).symm⟩
  | append_singleton l p ih =>
    rw [List.length_append, List.length_singleton] at hl
    have hlN : l.length < N := hl
    obtain ⟨ihW, ihG⟩ := ih (Nat.le_of_succ_le hl)
    rw [List.zipIdx_append, List.foldl_append, Nat.zero_add, List.zipIdx_cons, List.zipIdx_nil,
      List.foldl_cons, List.foldl_nil]
    cases hu : u p with
    | none =>
      refine ⟨ihW, fun i l' hl' => ?_⟩
      rw [Option.elim_none, ihG i l' hl']
      by_cases hi : i = l.length
      · subst hi
        rw [List.getElem?_eq_none (Nat.le_refl _), List.getElem?_concat_length, Option.bind_some, hu]
        rfl
      · rw [getElem?_concat_of_ne l p hi]
    | some v =>
      refine ⟨BoMat.wf_set ihW _ _ _, fun i l' hl' => ?_⟩
      rw [Option.elim_some, BoMat.get_set ihW hlN hlvl hl', ihG i l' hl']
      by_cases hi : i = l.length
      · subst hi
        by_cases hlev : l' = lvl
        · rw [if_pos ⟨rfl, hlev.symm⟩, if_pos hlev, List.getElem?_concat_length, Option.bind_some, hu]
          rfl
        · rw [if_neg (fun h => hlev h.2.symm), if_neg hlev, if_neg hlev]
      · rw [getElem?_concat_of_ne l p hi, if_neg (fun h => hi h.1.symm)]

/-- what `Enter(c)` copies for component `p`: its back-off for `c`, if it has `c` below its top order -/
def entered (c : List W) (p : Rat × LM W) : Option Rat :=
  if c.length < p.2.order then (p.2.findGram c).map (·.bo) else none

theorem boOf_eq_entered (c : List W) (p : Rat × LM W) : p.2.boOf c = (entered c p).getD 0 := by
  unfold LM.boOf entered
  split
  · cases p.2.findGram c <;> rfl
  · rfl

theorem enterMat_eq (cs : Comps W) (M : BoMat) (c : List W) :
    enterMat cs M c = cs.zipIdx.foldl (fun M pi => (entered c pi.1).elim M (M.set pi.2 (c.length - 1))) M := by
  unfold enterMat entered
  congr 1
  funext M pi
  split
  · cases pi.1.2.findGram c <;> rfl
  · rfl

theorem exitMat_eq (cs : Comps W) (M : BoMat) (c : List W) :
    exitMat cs M c = cs.zipIdx.foldl
      (fun M pi => ((entered c pi.1).map (fun _ => (0 : Rat))).elim M (M.set pi.2 (c.length - 1))) M := by
  unfold exitMat entered
  congr 1
  funext M pi
  split
  · cases pi.1.2.findGram c <;> rfl
  · rfl

theorem get_enterMat (cs : Comps W) {M : BoMat} {K : Nat} (c : List W) (hM : M.WF cs.length K)
    (hc1 : 0 < c.length) (hcK : c.length ≤ K) :
    (enterMat cs M c).WF cs.length K ∧
    ∀ i l, l < K → (enterMat cs M c).get i l =
      if l = c.length - 1 then (cs[i]?.bind (entered c)).getD (M.get i l) else M.get i l := by
  rw [enterMat_eq]
  exact get_foldl_set (entered c) (by omega) hM cs (Nat.le_refl _)

theorem get_exit_enter (cs : Comps W) {M : BoMat} {K : Nat} (c : List W) (hM : M.WF cs.length K)
    (hc1 : 0 < c.length) (hcK : c.length ≤ K) (hclean : ∀ i, M.get i (c.length - 1) = 0)
    (i l : Nat) (hl : l < K) :
    (exitMat cs (enterMat cs M c) c).get i l = M.get i l := by
  obtain ⟨hW, hG⟩ := get_enterMat cs c hM hc1 hcK
  rw [exitMat_eq, (get_foldl_set (fun p => (entered c p).map (fun _ => (0 : Rat))) (by omega) hW cs
    (Nat.le_refl _)).2 i l hl, hG i l hl]
  by_cases hlev : l = c.length - 1
  · rw [if_pos hlev, if_pos hlev, hlev, hclean i]
    cases h : cs[i]? with
    | none => rfl
    | some p => cases h' : entered c p <;> simp [h']
  · rw [if_neg hlev, if_neg hlev]

theorem wf_pathMat (cs : Comps W) (K : Nat) : ∀ c : List W, c.length ≤ K → (pathMat cs K c).WF cs.length K
  | [], _ => wf_zero _ _
  | y :: c, hK =>
    (get_enterMat cs (y :: c) (wf_pathMat cs K c (Nat.le_of_succ_le hK)) (Nat.succ_pos _) hK).1

section Path
variable (cs : Comps W) {K : Nat}

theorem get_pathMat_cons_of_ne (y : W) (c : List W) (hK : (y :: c).length ≤ K)
    (i : Nat) {l : Nat} (hl : l < K) (hne : l ≠ c.length) :
    (pathMat cs K (y :: c)).get i l = (pathMat cs K c).get i l := by
  rw [pathMat, (get_enterMat cs (y :: c) (wf_pathMat cs K c (Nat.le_of_succ_le hK)) (Nat.succ_pos _) hK).2 i l hl,
    List.length_cons, Nat.add_sub_cancel, if_neg hne]

theorem get_pathMat_of_le (i : Nat) {l : Nat} (hl : l < K) :
    ∀ c : List W, c.length ≤ K → c.length ≤ l → (pathMat cs K c).get i l = 0
  | [], _, _ => get_zero _ _ _ _
  | y :: c, hK, hle => by
    have hlt : c.length < l := hle
    rw [get_pathMat_cons_of_ne cs y c hK i hl (Nat.ne_of_gt hlt),
      get_pathMat_of_le i hl c (Nat.le_of_succ_le hK) (Nat.le_of_lt hlt)]

theorem get_pathMat_cons_top (y : W) (c : List W) (hK : (y :: c).length ≤ K)
    (i : Nat) (hi : i < cs.length) :
    (pathMat cs K (y :: c)).get i c.length = (cs[i]).2.boOf (y :: c) := by
  have hcK : c.length ≤ K := Nat.le_of_succ_le hK
  rw [pathMat, (get_enterMat cs (y :: c) (wf_pathMat cs K c hcK) (Nat.succ_pos _) hK).2 i c.length hK,
    List.length_cons, Nat.add_sub_cancel, if_pos rfl, get_pathMat_of_le cs i hK c hcK (Nat.le_refl _),
    List.getElem?_eq_getElem hi, boOf_eq_entered]
  rfl

end Path

/-- the suffix of `c` of length `j` (level `j - 1` of the matrix belongs to it) -/
def sufOf (c : List W) (j : Nat) : List W := c.drop (c.length - j)

omit [DecidableEq W] in
theorem sufOf_cons_of_le (y : W) (c : List W) {j : Nat} (hj : j ≤ c.length) :
    sufOf (y :: c) j = sufOf c j := by
  unfold sufOf
  rw [List.length_cons, Nat.succ_sub hj, List.drop_succ_cons]

omit [DecidableEq W] in
theorem sufOf_full (c : List W) : sufOf c c.length = c := by
  unfold sufOf
  rw [Nat.sub_self, List.drop_zero]

theorem get_pathMat (cs : Comps W) (K : Nat) (i l : Nat) (hi : i < cs.length) (hl : l < K) :
    ∀ c : List W, c.length ≤ K →
      (pathMat cs K c).get i l = if l < c.length then (cs[i]).2.boOf (sufOf c (l + 1)) else 0
  | [], hK => by rw [List.length_nil, if_neg (Nat.not_lt_zero _)]; exact get_zero _ _ _ _
  | y :: c, hK => by
    rcases Nat.lt_trichotomy l c.length with h | h | h
    · rw [get_pathMat_cons_of_ne cs y c hK i hl (Nat.ne_of_lt h),
        get_pathMat cs K i l hi hl c (Nat.le_of_succ_le hK), if_pos h, List.length_cons,
        if_pos (Nat.lt_succ_of_lt h), sufOf_cons_of_le y c h]
    · subst h
      rw [get_pathMat_cons_top cs y c hK i hi, List.length_cons, if_pos (Nat.lt_succ_self _)]
      exact congrArg _ (sufOf_full (y :: c)).symm
    · rw [get_pathMat_of_le cs i hl (y :: c) hK h, if_neg (show ¬ l < (y :: c).length from Nat.not_lt.2 h)]

theorem chargeLoop_snd (M : BoMat) (m from_ k : Nat) :
    (chargeLoop M m from_ k).2 = ((List.range' from_ (k - from_)).map (fun bt => M.get m bt)).sum := by
  dsimp only [chargeLoop]
  by_cases h : from_ < k
  · obtain ⟨n, rfl⟩ := Nat.exists_eq_add_of_lt h
    rw [if_pos h, Nat.add_sub_cancel, Nat.add_sub_cancel_left, Nat.add_assoc, Nat.add_sub_cancel_left,
      List.range'_concat, List.map_append, List.sum_append, Nat.one_mul]
    simp only [List.map_cons, List.map_nil, List.sum_cons, List.sum_nil, add_zero]
  · rw [if_neg h, Nat.sub_eq_zero_of_le (Nat.le_of_not_lt h),
      Nat.sub_eq_zero_of_le (Nat.le_trans (Nat.sub_le _ _) (Nat.le_of_not_lt h))]

section Charge
variable (cs : Comps W) {K : Nat}

theorem sum_get_pathMat_cons (y : W) (c : List W) (hK : (y :: c).length ≤ K)
    (i from_ : Nat) :
    ((List.range' from_ (c.length - from_)).map (fun bt => (pathMat cs K (y :: c)).get i bt)).sum =
      ((List.range' from_ (c.length - from_)).map (fun bt => (pathMat cs K c).get i bt)).sum := by
  congr 1
  apply List.map_congr_left
  intro bt hbt
  have hlt : bt < c.length := by have := List.mem_range'_1.1 hbt; omega
  exact get_pathMat_cons_of_ne cs y c hK i (Nat.lt_trans hlt hK) (Nat.ne_of_lt hlt)

theorem sum_get_pathMat (i : Nat) (hi : i < cs.length) (from_ : Nat) :
    ∀ c : List W, c.length ≤ K →
      ((List.range' from_ (c.length - from_)).map (fun bt => (pathMat cs K c).get i bt)).sum =
        (cs[i]).2.charge c from_
  | [], _ => by simp [LM.charge]
  | y :: c, hK => by
    rw [LM.charge]
    by_cases h : from_ < (y :: c).length
    · have hle : from_ ≤ c.length := Nat.le_of_lt_succ h
      rw [if_pos h, List.length_cons, Nat.succ_sub hle, List.range'_concat, List.map_append, List.sum_append,
        sum_get_pathMat_cons cs y c hK, sum_get_pathMat i hi from_ c (Nat.le_of_succ_le hK),
        Nat.one_mul, Nat.add_sub_cancel' hle]
      simp only [List.map_cons, List.map_nil, List.sum_cons, List.sum_nil, add_zero]
      rw [get_pathMat_cons_top cs y c hK i hi, add_comm]
    · rw [if_neg h, Nat.sub_eq_zero_of_le (Nat.le_of_not_lt h)]
      rfl

end Charge

theorem chargeLoop_pathMat (cs : Comps W) (K : Nat) (c : List W) (hK : c.length ≤ K) (i : Nat)
    (hi : i < cs.length) (from_ : Nat) :
    (chargeLoop (pathMat cs K c) i from_ c.length).2 = (cs[i]).2.charge c from_ ∧
    (chargeLoop (pathMat cs K c) i from_ c.length).1 = (cs[i]).2.charge c.tail from_ := by
  refine ⟨by rw [chargeLoop_snd, sum_get_pathMat cs i hi from_ c hK], ?_⟩
  show ((List.range' from_ (c.length - 1 - from_)).map (fun bt => (pathMat cs K c).get i bt)).sum = _
  cases c with
  | nil => rw [List.length_nil, Nat.zero_sub]; rfl
  | cons y c =>
    rw [List.length_cons, Nat.add_sub_cancel, sum_get_pathMat_cons cs y c hK,
      sum_get_pathMat cs i hi from_ c (Nat.le_of_succ_le hK), List.tail_cons]

end KV.Interp
