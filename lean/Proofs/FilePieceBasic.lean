import Model.FilePiece
import Proofs.Basics
/-! What the FilePiece proofs need of lists (the model's scans `idxOf` — the library's `findIdx?` — and `lastIdx1`,
`takeWhile` / `dropWhile`) and of the read-size oracle `chunk` (core only). -/
namespace KV.FilePiece

theorem min_min_le (a b c : Nat) : min a (min b c) ≤ b ∧ min a (min b c) ≤ c :=
  ⟨Nat.le_trans (Nat.min_le_right ..) (Nat.min_le_left ..), Nat.le_trans (Nat.min_le_right ..) (Nat.min_le_right ..)⟩

theorem count_shift (n m k : Nat) {c : Nat} (h : c ≤ m) : n + k - (m + k - c) = n - (m - c) := by
  rw [Nat.sub_add_comm h, Nat.add_sub_add_right]

theorem chunk_le (orc : Nat → Nat) (i req avail : Nat) :
    chunk orc i req avail ≤ req ∧ chunk orc i req avail ≤ avail := by
  unfold chunk
  split
  · exact ⟨Nat.zero_le _, Nat.zero_le _⟩
  · rename_i h
    have hr : 1 ≤ req := Nat.pos_of_ne_zero fun e => h (Or.inr e)
    have ha : 1 ≤ avail := Nat.pos_of_ne_zero fun e => h (Or.inl e)
    exact ⟨Nat.max_le.mpr ⟨hr, (min_min_le ..).1⟩, Nat.max_le.mpr ⟨ha, (min_min_le ..).2⟩⟩

theorem chunk_eq_zero_iff (orc : Nat → Nat) (i req avail : Nat) :
    chunk orc i req avail = 0 ↔ (avail = 0 ∨ req = 0) := by
  unfold chunk
  split
  · simp_all
  · rename_i h
    constructor
    · intro hc; omega
    · intro hc; exact absurd hc h

/-- (nothing in the development uses this equation of `chunk`) -/
theorem chunk_zero (orc : Nat → Nat) (i req : Nat) : chunk orc i req 0 = 0 := by simp [chunk]

section
variable {α : Type} {p : α → Bool} {l : List α}

theorem take_of_take_eq {m : List α} {n j : Nat} (h : l.take n = m.take n) (hj : j ≤ n) :
    l.take j = m.take j := by
  rw [← take_take_of_le hj, h, take_take_of_le hj]

theorem getD_of_take_eq {m : List α} {d : α} {n j : Nat} (h : l.take n = m.take n) (hj : j < n) :
    l.getD j d = m.getD j d := by
  have := congrArg (fun x => x[j]?) h
  simp only [List.getElem?_take, hj, ↓reduceIte] at this
  simp [List.getD_eq_getElem?_getD, this]

theorem take_succ_of_getD {k : Nat} {d x : α} (hk : k < l.length) (hx : l.getD k d = x) :
    l.take (k + 1) = l.take k ++ [x] := by
  rw [List.take_add_one]
  have : l[k]? = some x := by
    rw [List.getD_eq_getElem?_getD] at hx
    rw [List.getElem?_eq_getElem hk] at hx ⊢
    simpa using hx
  rw [this]; rfl

/-- the contract of a `Read`, from the number `k` of bytes it hands out -/
theorem read_contract {l out rest : List α} {k amount : Nat} (ho : out = l.take k) (hr : rest = l.drop k)
    (hk : k ≤ amount) (hz : k = 0 → l = []) :
    out ++ rest = l ∧ out.length ≤ amount ∧ (out = [] ↔ l = []) := by
  subst ho hr
  refine ⟨List.take_append_drop k l, Nat.le_trans (List.length_take_le k l) hk, fun h => ?_,
    fun h => by rw [h, List.take_nil]⟩
  rcases List.take_eq_nil_iff.mp h with h | h
  · exact hz h
  · exact h

theorem mem_drop_of_le {a b : Nat} (h : a ≤ b) {x : α} (hx : x ∈ l.drop b) : x ∈ l.drop a := by
  have : l.drop b = (l.drop a).drop (b - a) := by
    rw [List.drop_drop]; congr 1; omega
  rw [this] at hx
  exact List.mem_of_mem_drop hx

theorem mem_takeWhile {b : α} (h : b ∈ l.takeWhile p) : p b = true :=
  List.all_eq_true.mp List.all_takeWhile b h

theorem drop_takeWhile_length (p : α → Bool) (l : List α) :
    l.drop (l.takeWhile p).length = l.dropWhile p := by
  induction l with
  | nil => rfl
  | cons a l ih =>
    by_cases h : p a
    · simp [List.takeWhile, List.dropWhile, h, ih]
    · simp [List.takeWhile, List.dropWhile, h]

end

variable {p : Byte → Bool} {l : List Byte}

theorem idxOf_eq_findIdx? (p : Byte → Bool) (l : List Byte) : idxOf p l = l.findIdx? p := by
  induction l with
  | nil => rfl
  | cons a l ih => rw [idxOf, ih, List.findIdx?_cons]

theorem idxOf_none_iff : idxOf p l = none ↔ ∀ b ∈ l, p b = false := by
  rw [idxOf_eq_findIdx?]; exact List.findIdx?_eq_none_iff

theorem idxOf_some_lt {i : Nat} (h : idxOf p l = some i) : i < l.length := by
  rw [idxOf_eq_findIdx?] at h; exact (List.findIdx?_eq_some_iff_findIdx_eq.mp h).1

theorem idxOf_take_some {k i : Nat} (h : idxOf p (l.take k) = some i) : idxOf p l = some i := by
  rw [idxOf_eq_findIdx?, List.findIdx?_take] at h
  rw [idxOf_eq_findIdx?]
  cases hf : l.findIdx? p with
  | none => rw [hf] at h; cases h
  | some j => rw [hf] at h; simp [Option.guard] at h; rw [← h.2]

theorem idxOf_append_of_none {m : List Byte} (h : idxOf p l = none) :
    idxOf p (l ++ m) = (idxOf p m).map (· + l.length) := by
  rw [idxOf_eq_findIdx?] at h
  rw [idxOf_eq_findIdx?, idxOf_eq_findIdx?, List.findIdx?_append, h]; rfl

theorem idxOf_take_none (n : Nat) (h : idxOf p l = none) : idxOf p (l.take n) = none := by
  rw [idxOf_none_iff] at h ⊢
  intro b hb; exact h b (List.mem_of_mem_take hb)

/-- `idxFrom` agrees with `idxOf` when the skipped prefix has no hit; `skip` may exceed the length (a window
that shrank below the resume offset, after a fall back) -/
theorem idxFrom_eq_idxOf {skip : Nat} (h : idxOf p (l.take skip) = none) : idxFrom p l skip = idxOf p l := by
  by_cases hs : skip ≤ l.length
  · unfold idxFrom
    conv => rhs; rw [← List.take_append_drop skip l]
    rw [idxOf_append_of_none h]
    simp [List.length_take, Nat.min_eq_left hs]
  · have h1 : l.take skip = l := List.take_of_length_le (by omega)
    have h2 : l.drop skip = [] := List.drop_of_length_le (by omega)
    rw [h1] at h
    simp [idxFrom, h2, idxOf, h]

theorem idxOf_some_spec {i : Nat} (h : idxOf p l = some i) :
    idxOf p (l.take i) = none ∧ p (l.getD i 0) = true := by
  rw [idxOf_eq_findIdx?] at h
  obtain ⟨hi, hp, hlt⟩ := List.findIdx?_eq_some_iff_getElem.mp h
  refine ⟨idxOf_none_iff.mpr fun b hb => ?_, by rw [List.getD_eq_getElem?_getD, List.getElem?_eq_getElem hi]; exact hp⟩
  obtain ⟨j, hj, rfl⟩ := List.mem_iff_getElem.mp hb
  rw [List.length_take] at hj
  rw [List.getElem_take]
  exact Bool.eq_false_iff.mpr (hlt j (Nat.lt_of_lt_of_le hj (Nat.min_le_left ..)))

theorem idxOf_some_takeWhile {i : Nat} (h : idxOf p l = some i) :
    l.takeWhile (fun b => !p b) = l.take i := by
  rw [idxOf_eq_findIdx?] at h
  rw [List.takeWhile_eq_take_findIdx_not]
  simp only [Bool.not_not]
  rw [(List.findIdx?_eq_some_iff_findIdx_eq.mp h).2]

theorem idxOf_none_takeWhile (h : idxOf p l = none) : l.takeWhile (fun b => !p b) = l := by
  rw [List.takeWhile_eq_take_findIdx_not]
  simp only [Bool.not_not]
  rw [List.findIdx_eq_length.mpr (idxOf_none_iff.mp h), List.take_length]

theorem lastIdx1_spec (p : Byte → Bool) (l : List Byte) :
    match lastIdx1 p l with
    | 0 => ∀ b ∈ l, p b = false
    | n + 1 => n < l.length ∧ p (l.getD n 0) = true ∧ ∀ b ∈ l.drop (n + 1), p b = false := by
  induction l with
  | nil => simp [lastIdx1]
  | cons a l ih =>
    simp only [lastIdx1]
    cases h : lastIdx1 p l with
    | zero =>
      rw [h] at ih
      by_cases ha : p a
      · simpa [ha] using ih
      · simpa [ha] using ih
    | succ n =>
      rw [h] at ih
      simpa [List.getD_eq_getElem?_getD] using ih

theorem lastIdx1_zero (h : lastIdx1 p l = 0) : ∀ b ∈ l, p b = false := by
  have := lastIdx1_spec p l
  rwa [h] at this

theorem lastIdx1_pos {n : Nat} (h : lastIdx1 p l = n + 1) :
    n < l.length ∧ p (l.getD n 0) = true ∧ ∀ b ∈ l.drop (n + 1), p b = false := by
  have := lastIdx1_spec p l
  rwa [h] at this

end KV.FilePiece
