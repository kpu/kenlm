import Proofs.ProbingBuildPhases
/-! The key-indexed view of the builder state.  (Suffixes of names: `P` = stated for an arbitrary payload function, `G` = the
general invariant of the `NoRestBuild` run, blanks included, with the payloads `wantW`; `T` in the REST_MAX files = `rest = true`.)
  One order's table as a list of keys with payloads (`OrdP`), the whole state as key
lists per order and a payload function on keys, unigrams being the keys of length 1 (`StP`), references as the keys they denote
(`Den`), and the primitive operations (`St.get`, `St.modify`, `findOrInsert`, `find`, the insertion of a line) as operations on the
payload function.  The general invariant `InvG` is this view with the payloads `wantAll`: a base payload with two marks (`markW`,
`wantAll_eq`). -/
namespace KV.ProbingBuild
open KV.Arpa KV.Table KV.Score KV.ProbingLM

/-- the payload of a key of order ≥ 2 before the longer keys mark it: the line's own, or for a blank `blankW` as `AdjustLower` leaves it
(probability the backed-off score, back-off +0.0 without extension bit: kNoExtensionBackoff); `wantW` puts the two marks on it, `expU` on
a unigram slot -/
def baseW (a : Arpa) (k : Key) : W :=
  match a.gram k with
  | some e => lineW e
  | none => { mag := (score a k.tail (k.headD 0)).abs, neg := true, backoff := 0, xr := false, rest := 0 }

def wantW (a : Arpa) (S : List Key) (k : Key) : W :=
  { (baseW a k) with neg := (baseW a k).neg && !endsInK S k, xr := (baseW a k).xr || startsWithK S k }

theorem baseW_neg (a : Arpa) (k : Key) : (baseW a k).neg = true := by
  unfold baseW; cases a.gram k <;> rfl

theorem baseW_xr (a : Arpa) (k : Key) (h : (baseW a k).backoff ≠ 0) : (baseW a k).xr = true := by
  unfold baseW at h ⊢
  cases hg : a.gram k with
  | none => simp [hg] at h
  | some e => simp only [hg, lineW] at h ⊢; simpa using h

def expU (S : List Key) (w : Word) (u : W) : W := { u with neg := u.neg && !endsInK S [w], xr := u.xr || startsWithK S [w] }

def updW (want : Key → W) (k : Key) (w : W) : Key → W := fun k' => if k' = k then w else want k'

theorem updW_of_length_ne {want : Key → W} {k k' : Key} (w : W) (h : k'.length ≠ k.length) : updW want k w k' = want k' :=
  if_neg (fun he => h (congrArg List.length he))

/-- the table `o` of one order holds exactly the keys `Ks`, in insertion order: the key at position `j` hashes to payload index `j`,
and that payload is `want Ks[j]` -/
structure OrdP (combine : Nat → Word → Nat) (Ks : List Key) (cap : Nat) (o : Ord) (M : Nat → Option Nat) (want : Key → W) : Prop where
  inv : OrdInv o M
  ent : o.t.entries = Ks.length
  cap : o.t.N = cap
  plen : o.pay.length = Ks.length
  key : ∀ j (hj : j < Ks.length), M (hashOf combine Ks[j]) = some j
  pay : ∀ j (hj : j < Ks.length), o.pay.getD j default = want Ks[j]
  only : ∀ h i, M h = some i → ∃ (hj : i < Ks.length), h = hashOf combine Ks[i]

section
variable {combine : Nat → Word → Nat} {Ks : List Key} {cap : Nat} {o : Ord} {M : Nat → Option Nat} {want : Key → W}

theorem OrdP.idx_unique
    (h : OrdP combine Ks cap o M want) (j j' : Nat) (hj : j < Ks.length) (hj' : j' < Ks.length) (he : Ks[j] = Ks[j']) : j = j' := by
  have h1 := h.key j hj
  have h2 := h.key j' hj'
  rw [he, h2] at h1
  injection h1 with h1
  exact h1.symm

theorem ordP_congr {want' : Key → W} (h : OrdP combine Ks cap o M want) (hw : ∀ k ∈ Ks, want k = want' k) : OrdP combine Ks cap o M want' :=
  ⟨h.inv, h.ent, h.cap, h.plen, h.key, fun j hj => by rw [h.pay j hj]; exact hw _ (List.getElem_mem hj), h.only⟩

theorem ordP_modify (h : OrdP combine Ks cap o M want) (i : Nat) (hi : i < Ks.length) (f : W → W) :
    OrdP combine Ks cap (withPay o (o.pay.set i (f (o.pay.getD i default)))) M (updW want Ks[i] (f (want Ks[i]))) := by
  refine ⟨ordInv_setPay h.inv _ _, h.ent, h.cap, by simp [withPay, h.plen], h.key, ?_, h.only⟩
  intro j hj
  show (o.pay.set i (f (o.pay.getD i default))).getD j default = _
  rw [getD_set]
  have hil : i < o.pay.length := by rw [h.plen]; exact hi
  by_cases hji : j = i
  · subst hji
    rw [if_pos ⟨rfl, hil⟩, h.pay j hj]
    simp [updW]
  · have hne : Ks[j] ≠ Ks[i] := fun he => hji (h.idx_unique j i hj hi he)
    rw [if_neg (fun hc => hji hc.1), h.pay j hj]
    simp [updW, hne]

theorem OrdP.find_mem (h : OrdP combine Ks cap o M want) (k : Key) (hk : k ∈ Ks) :
    ∃ j, ∃ (hj : j < Ks.length), Ks[j] = k ∧ M (hashOf combine k) = some j := by
  obtain ⟨j, hj, he⟩ := List.mem_iff_getElem.mp hk
  exact ⟨j, hj, he, by rw [← he]; exact h.key j hj⟩

theorem OrdP.find_fresh (h : OrdP combine Ks cap o M want) (g : Key) (hfresh : ∀ k ∈ Ks, hashOf combine k ≠ hashOf combine g) :
    M (hashOf combine g) = none :=
  none_of_fresh Ks g (hashOf combine) h.only hfresh

theorem OrdP.lookup (h : OrdP combine Ks cap o M want) (k : Key) (hk : k ∈ Ks) :
    ∃ j, M (hashOf combine k) = some j ∧ o.pay.getD j default = want k := by
  obtain ⟨j, hj, he, hM⟩ := h.find_mem k hk
  exact ⟨j, hM, by rw [h.pay j hj, he]⟩

theorem ordP_append (h : OrdP combine Ks cap o M want) (g : Key) (w : W) (hnew : g ∉ Ks)
    (hfresh : ∀ k ∈ Ks, hashOf combine k ≠ hashOf combine g)
    (o' : Ord) (oi' : OrdInv o' (KV.Probing.upd M (hashOf combine g) o.pay.length))
    (hpay' : o'.pay = o.pay ++ [w]) (hN' : o'.t.N = o.t.N) (hent' : o'.t.entries = o.t.entries + 1) :
    OrdP combine (Ks ++ [g]) cap o' (KV.Probing.upd M (hashOf combine g) o.pay.length) (updW want g w) := by
  refine ⟨oi', by rw [hent', h.ent]; simp, by rw [hN', h.cap], by rw [hpay']; simp [h.plen],
    upd_key_append Ks g (hashOf combine) h.plen h.key hfresh, ?_, upd_only_append Ks g (hashOf combine) h.plen h.only⟩
  rw [hpay']
  refine pay_append Ks g o.pay h.plen w (fun k v => v = updW want g w k) (fun j hj => ?_) (by simp [updW])
  have hne : Ks[j] ≠ g := fun he => hnew (by rw [← he]; exact List.getElem_mem hj)
  rw [h.pay j hj]
  simp [updW, hne]

end

/-- `OrdP` for the keys of order `m` among `S`, with the payloads `wantW a S` -/
structure OrdG (combine : Nat → Word → Nat) (a : Arpa) (S : List Key) (m cap : Nat) (o : Ord) (M : Nat → Option Nat) : Prop where
  inv : OrdInv o M
  ent : o.t.entries = (keysOf S m).length
  cap : o.t.N = cap
  plen : o.pay.length = (keysOf S m).length
  key : ∀ j (hj : j < (keysOf S m).length), M (hashOf combine (keysOf S m)[j]) = some j
  pay : ∀ j (hj : j < (keysOf S m).length), o.pay.getD j default = wantW a S (keysOf S m)[j]
  only : ∀ k i, M k = some i → ∃ (hj : i < (keysOf S m).length), k = hashOf combine (keysOf S m)[i]

theorem ordG_empty (combine : Nat → Word → Nat) (a : Arpa) (m cap : Nat) (hc : 0 < cap) :
    OrdG combine a [] m cap (emptyOrd cap) (fun _ => none) :=
  ⟨emptyOrd_inv cap hc, rfl, rfl, rfl, fun j hj => by simp [keysOf] at hj, fun j hj => by simp [keysOf] at hj,
   fun _ _ h => by cases h⟩

theorem ordP_of_G {combine : Nat → Word → Nat} {a : Arpa} {S : List Key} {m cap : Nat} {o : Ord} {M : Nat → Option Nat}
    (h : OrdG combine a S m cap o M) : OrdP combine (keysOf S m) cap o M (wantW a S) :=
  ⟨h.inv, h.ent, h.cap, h.plen, h.key, h.pay, h.only⟩

theorem ordG_of_P {combine : Nat → Word → Nat} {a : Arpa} {S : List Key} {m cap : Nat} {o : Ord} {M : Nat → Option Nat}
    (h : OrdP combine (keysOf S m) cap o M (wantW a S)) : OrdG combine a S m cap o M :=
  ⟨h.inv, h.ent, h.cap, h.plen, h.key, h.pay, h.only⟩

/-- the unigram array holds what `Read1Grams` left (`u0`) with the marks of the stored bigrams -/
structure UniG (u0 : List W) (S : List Key) (uni : List W) : Prop where
  len : uni.length = u0.length
  val : ∀ w, uni.getD w default = expU S w (u0.getD w default)

/-- the general invariant of the `NoRestBuild` run: every order's table holds the stored keys of that order (n-grams read so far and
blanks) with the payloads `wantW a S`, the unigram array the marks the stored bigrams put on it -/
structure InvG (combine : Nat → Word → Nat) (a : Arpa) (u0 : List W) (N : Nat) (caps : Nat → Nat) (S : List Key) (s : St) : Prop where
  midlen : s.mid.length = N - 2
  uni : UniG u0 S s.uni
  tabs : ∀ m, 2 ≤ m → m ≤ N → ∃ M, OrdG combine a S m (caps m) (tbl N s m) M

/-- the state `s` seen by key: the table of order `m` holds the keys `Ks m` (`OrdP`), the unigram array has `U` slots, and the
payload of every stored key `k` and of every unigram `[w]` is `want k` -/
structure StP (combine : Nat → Word → Nat) (N : Nat) (caps : Nat → Nat) (U : Nat) (s : St) (Ks : Nat → List Key) (want : Key → W) : Prop where
  midlen : s.mid.length = N - 2
  tabs : ∀ m, 2 ≤ m → m ≤ N → ∃ M, OrdP combine (Ks m) (caps m) (tbl N s m) M want
  klen : ∀ m, ∀ k ∈ Ks m, k.length = m
  ulen : s.uni.length = U
  uni : ∀ w, s.uni.getD w default = want [w]

/-- the key a payload reference denotes; a reference never points into the table of the highest order (`om2 + 2 < N`): `between`
holds lower-order entries only -/
def Den (N U : Nat) (Ks : Nat → List Key) : Ref → Key → Prop
  | .uni w, k => k = [w] ∧ w < U
  | .mid om2 i, k => om2 + 2 < N ∧ ∃ hi : i < (Ks (om2 + 2)).length, (Ks (om2 + 2))[i] = k

section
variable {combine : Nat → Word → Nat} {N : Nat} {caps : Nat → Nat} {U : Nat} {s : St} {Ks : Nat → List Key} {want : Key → W}

theorem StP.tab_updW (h : StP combine N caps U s Ks want) (m : Nat) (hm2 : 2 ≤ m) (hmN : m ≤ N) (k : Key) (hk : k.length ≠ m)
    (w : W) : ∃ M, OrdP combine (Ks m) (caps m) (tbl N s m) M (updW want k w) := by
  obtain ⟨M, hP⟩ := h.tabs m hm2 hmN
  refine ⟨M, ordP_congr hP fun k' hk' => ?_⟩
  have hne : k' ≠ k := fun he => hk (by rw [← he]; exact h.klen m k' hk')
  simp [updW, hne]

theorem stP_get (h : StP combine N caps U s Ks want) (r : Ref) (k : Key) (hd : Den N U Ks r k) : s.get r = want k := by
  cases r with
  | uni w => obtain ⟨hk, _⟩ := hd; subst hk; exact h.uni w
  | mid om2 i =>
    obtain ⟨hlt, hi, hk⟩ := hd
    obtain ⟨M, hP⟩ := h.tabs (om2 + 2) (by omega) (by omega)
    have := hP.pay i hi
    rw [tbl_mid N s (om2 + 2) (by omega)] at this
    simp only [Nat.add_sub_cancel] at this
    rw [← hk]; exact this

theorem stP_modify (h : StP combine N caps U s Ks want) (r : Ref) (k : Key) (hd : Den N U Ks r k) (f : W → W) :
    StP combine N caps U (s.modify r f) Ks (updW want k (f (want k))) := by
  cases r with
  | uni w =>
    obtain ⟨hk, hw⟩ := hd; subst hk
    refine ⟨h.midlen, ?_, h.klen, ?_, ?_⟩
    · exact fun m hm2 hmN => h.tab_updW m hm2 hmN [w] (by simp; omega) _
    · show (s.uni.set w _).length = U
      simp [h.ulen]
    · intro w'
      show (s.uni.set w (f (s.uni.getD w default))).getD w' default = _
      rw [getD_set, h.uni w]
      by_cases hww : w' = w
      · subst hww; rw [if_pos ⟨rfl, by rw [h.ulen]; exact hw⟩]; simp [updW]
      · rw [if_neg (fun hc => hww hc.1), h.uni w']
        have : [w'] ≠ [w] := by simpa using hww
        simp [updW, this]
  | mid om2 i =>
    obtain ⟨hlt, hi, hk⟩ := hd
    have hml : om2 < s.mid.length := by rw [h.midlen]; omega
    have hs : s.modify (.mid om2 i) f = setMid s om2 (withPay (s.mid.getD om2 default)
        ((s.mid.getD om2 default).pay.set i (f ((s.mid.getD om2 default).pay.getD i default)))) := rfl
    rw [hs]
    have hlk := h.klen (om2 + 2) k (by rw [← hk]; exact List.getElem_mem hi)
    refine ⟨by simp [setMid, h.midlen], ?_, h.klen, h.ulen, ?_⟩
    · intro m hm2 hmN
      obtain ⟨M, hP⟩ := h.tabs m hm2 hmN
      rw [tbl_setMid N s om2 _ m hml]
      by_cases hc : m ≠ N ∧ m - 2 = om2
      · rw [if_pos hc]
        have hm : m = om2 + 2 := by omega
        subst hm
        have hP' := ordP_modify hP i hi f
        rw [tbl_mid N s (om2 + 2) hc.1] at hP'
        simp only [Nat.add_sub_cancel] at hP'
        rw [hk] at hP'
        exact ⟨M, hP'⟩
      · rw [if_neg hc]
        exact h.tab_updW m hm2 hmN k (by omega) _
    · intro w
      show s.uni.getD w default = _
      rw [h.uni w]
      have hne : [w] ≠ k := by intro he; rw [← he] at hlk; simp at hlk
      simp [updW, hne]

theorem stP_findOrInsert_new (h : StP combine N caps U s Ks want) (j : Nat) (hj2 : 2 ≤ j) (hjN : j < N) (k : Key) (hkl : k.length = j) (w : W)
    (hnew : k ∉ Ks j) (hfresh : ∀ k' ∈ Ks j, hashOf combine k' ≠ hashOf combine k) (hcap : (Ks j).length + 1 < caps j) :
    ∃ o', (s.mid.getD (j - 2) default).findOrInsert (hashOf combine k) w = .ok (false, (Ks j).length, o') ∧
      StP combine N caps U (setMid s (j - 2) o') (fun m => if m = j then Ks j ++ [k] else Ks m) (updW want k w) := by
  obtain ⟨M, hP⟩ := h.tabs j hj2 (by omega)
  rw [tbl_mid N s j (by omega)] at hP
  obtain ⟨o', hfoi, oi', hpay', hN', hent'⟩ := ord_findOrInsert_new hP.inv (hashOf combine k) w (hP.find_fresh k hfresh)
    (by rw [hP.ent, hP.cap]; exact hcap)
  rw [hP.plen] at hfoi
  have hml : j - 2 < s.mid.length := by rw [h.midlen]; omega
  refine ⟨o', hfoi, by simp [setMid, h.midlen], ?_, ?_, h.ulen, ?_⟩
  · intro m hm2 hmN
    rw [tbl_setMid N s (j - 2) _ m hml]
    by_cases hc : m ≠ N ∧ m - 2 = j - 2
    · rw [if_pos hc]
      have hm : m = j := by omega
      subst hm
      simp only [if_true]
      exact ⟨_, ordP_append hP k w hnew hfresh o' oi' hpay' hN' hent'⟩
    · rw [if_neg hc]
      have hm : m ≠ j := by omega
      simp only [hm, if_false]
      exact h.tab_updW m hm2 hmN k (by omega) _
  · intro m k' hk'
    by_cases hm : m = j
    · subst hm
      simp only [if_true, List.mem_append, List.mem_singleton] at hk'
      rcases hk' with hk' | hk'
      · exact h.klen m k' hk'
      · rw [hk']; exact hkl
    · simp only [hm, if_false] at hk'
      exact h.klen m k' hk'
  · intro w'
    show s.uni.getD w' default = _
    rw [h.uni w']
    have hne : [w'] ≠ k := by intro he; rw [← he] at hkl; simp at hkl; omega
    simp [updW, hne]

theorem stP_lookup (h : StP combine N caps U s Ks want) (j : Nat) (hj2 : 2 ≤ j) (hjN : j < N) (k : Key) (hk : k ∈ Ks j) :
    ∃ i, Den N U Ks (.mid (j - 2) i) k ∧
      (∀ w, (s.mid.getD (j - 2) default).findOrInsert (hashOf combine k) w = .ok (true, i, s.mid.getD (j - 2) default)) ∧
      (s.mid.getD (j - 2) default).find (hashOf combine k) = .ok (some i) := by
  obtain ⟨M, hP⟩ := h.tabs j hj2 (by omega)
  rw [tbl_mid N s j (by omega)] at hP
  obtain ⟨i, hi, hki, hM⟩ := hP.find_mem k hk
  have hj : j - 2 + 2 = j := by omega
  refine ⟨i, ⟨by omega, ?_⟩, fun w => ord_findOrInsert_found hP.inv _ w i hM, by rw [ord_find hP.inv, hM]⟩
  rw [hj]; exact ⟨hi, hki⟩

end

/-- the payload before any mark: for a unigram what `Read1Grams` left, for a longer key `baseW` -/
def baseAll (a : Arpa) (u0 : List W) (k : Key) : W :=
  if k.length = 1 then u0.getD (k.headD 0) default else baseW a k

def wantAll (a : Arpa) (u0 : List W) (S : List Key) (k : Key) : W :=
  if k.length = 1 then expU S (k.headD 0) (u0.getD (k.headD 0) default) else wantW a S k

theorem wantAll_uni (a : Arpa) (u0 : List W) (S : List Key) (w : Word) : wantAll a u0 S [w] = expU S w (u0.getD w default) := rfl

theorem wantAll_key (a : Arpa) (u0 : List W) (S : List Key) {k : Key} (h : 2 ≤ k.length) : wantAll a u0 S k = wantW a S k :=
  if_neg (Nat.ne_of_gt h)

theorem wantAll_eq (a : Arpa) (u0 : List W) (S : List Key) (k : Key) :
    wantAll a u0 S k = markW (baseAll a u0 k) (endsInK S k) (startsWithK S k) := by
  unfold wantAll baseAll
  split
  · rename_i h
    match k, h with
    | [w], _ => rfl
  · rfl

theorem baseAll_xr (a : Arpa) (u0 : List W) (hu : UniOK u0) (k : Key) : XrOK (baseAll a u0 k) := by
  intro h
  unfold baseAll at h ⊢
  split
  · rw [if_pos ‹_›] at h; exact hu _ h
  · rw [if_neg ‹_›] at h; exact baseW_xr a k h

theorem baseAll_real (a : Arpa) (u0 : List W) (g : Key) (e : Entry) (hg : 2 ≤ g.length) (hr : a.gram g = some e) :
    baseAll a u0 g = lineW e := by
  simp only [baseAll, if_neg (show ¬ g.length = 1 by omega), baseW, hr]

theorem xrOK_wantAll (a : Arpa) (u0 : List W) (hu : UniOK u0) (S : List Key) (k : Key) : XrOK (wantAll a u0 S k) := by
  rw [wantAll_eq]; exact xrOK_markW _ _ _ (baseAll_xr a u0 hu k)

theorem wantAll_top (a : Arpa) (u0 : List W) (S : List Key) (g : Key) (h : ∀ k ∈ S, k.length ≤ g.length) :
    wantAll a u0 S g = baseAll a u0 g := by
  rw [wantAll_eq, endsInK_false_len S g h, startsWithK_false_len S g h, markW_ff]

theorem wantAll_neg_false (a : Arpa) (u0 : List W) (S : List Key) (k : Key) (h : endsInK S k = true) :
    (wantAll a u0 S k).neg = false := by
  rw [wantAll_eq, h]
  exact Bool.and_false _

theorem wantAll_take_neg (a : Arpa) (u0 : List W) (S : List Key) (p : Key) (j : Nat) (hj : j + 1 ≤ p.length)
    (h : p.take (j + 1) ∈ S) : (wantAll a u0 S (p.take j)).neg = false := by
  have hl : ∀ i, i ≤ j + 1 → (p.take i).length = i := fun i hi => by rw [List.length_take]; omega
  apply wantAll_neg_false
  rw [endsInK_true_iff]
  exact ⟨p.take (j + 1), h, by rw [hl _ (Nat.le_refl _), hl _ (Nat.le_succ j)],
    by rw [hl _ (Nat.le_succ j), KV.take_take_of_le (Nat.le_succ j)]⟩

section
variable {combine : Nat → Word → Nat} {N : Nat} {caps : Nat → Nat} {U : Nat} {s : St} {Ks : Nat → List Key} {want : Key → W}

theorem stP_of_invG {a : Arpa} {u0 : List W} {S : List Key} (inv : InvG combine a u0 N caps S s) :
    StP combine N caps u0.length s (keysOf S) (wantAll a u0 S) := by
  refine ⟨inv.midlen, fun m hm2 hmN => ?_, fun m k hk => keysOf_len S m k hk, inv.uni.len, fun w => ?_⟩
  · obtain ⟨M, hG⟩ := inv.tabs m hm2 hmN
    exact ⟨M, ordP_congr (ordP_of_G hG) fun k hk => (wantAll_key a u0 S (keysOf_len S m k hk ▸ hm2)).symm⟩
  · rw [inv.uni.val w, wantAll_uni]

theorem invG_of_stP {a : Arpa} {u0 : List W} {S : List Key}
    (h : StP combine N caps u0.length s (keysOf S) (wantAll a u0 S)) : InvG combine a u0 N caps S s := by
  refine ⟨h.midlen, ⟨h.ulen, fun w => by rw [h.uni w, wantAll_uni]⟩, fun m hm2 hmN => ?_⟩
  obtain ⟨M, hP⟩ := h.tabs m hm2 hmN
  exact ⟨M, ordG_of_P (ordP_congr hP fun k hk => wantAll_key a u0 S (keysOf_len S m k hk ▸ hm2))⟩

theorem stP_congr_on {want' : Key → W} (h : StP combine N caps U s Ks want) (hk : ∀ m, ∀ k ∈ Ks m, want k = want' k)
    (hu : ∀ w, want [w] = want' [w]) : StP combine N caps U s Ks want' := by
  refine ⟨h.midlen, ?_, h.klen, h.ulen, fun w => by rw [h.uni w, hu w]⟩
  intro m h2 hN
  obtain ⟨M, hP⟩ := h.tabs m h2 hN
  exact ⟨M, ordP_congr hP (hk m)⟩

theorem stP_insert {S : List Key} (h : StP combine N caps U s (keysOf S) want) (p : Key) (e : Entry) (h2 : 2 ≤ p.length)
    (hN : p.length ≤ N) (hfresh : ∀ k ∈ keysOf S p.length, hashOf combine k ≠ hashOf combine p)
    (hcap : (keysOf S p.length).length + 1 < caps p.length) :
    ∃ s1, insPhase combine N s p e = .ok s1 ∧ StP combine N caps U s1 (keysOf (S ++ [p])) (updW want p (lineW e)) := by
  obtain ⟨M, hP⟩ := h.tabs p.length h2 hN
  obtain ⟨o', hins, oi', hpay', hN', hent'⟩ := ord_insert hP.inv (hashOf combine p) (lineW e) (hP.find_fresh p hfresh)
    (by rw [hP.ent, hP.cap]; exact hcap)
  obtain ⟨s1, hph, hu1, hml1, ht1, hto⟩ := insPhase_ok combine N s p e o' h2 hN h.midlen hins
  refine ⟨s1, hph, hml1, fun m hm2 hmN => ?_, fun m k hk => keysOf_len _ m k hk, by rw [hu1]; exact h.ulen, fun w => ?_⟩
  · by_cases hm : m = p.length
    · subst hm
      rw [ht1, keysOf_append_same S p _ rfl]
      exact ⟨_, ordP_append hP p (lineW e) (fun hin => hfresh p hin rfl) hfresh o' oi' hpay' hN' hent'⟩
    · rw [hto m hm hm2, keysOf_append_other S p m fun he => hm he.symm]
      exact h.tab_updW m hm2 hmN p (fun he => hm he.symm) _
  · rw [hu1, h.uni w]
    have hne : [w] ≠ p := fun he => by rw [← he] at h2; simp at h2
    simp [updW, hne]

end

end KV.ProbingBuild
