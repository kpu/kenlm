import Proofs.FilePieceBasic
/-! What `ReadNumber` assumes of the number grammar (`GrammarOK`), and that the grammars of the model meet it:
`strtol` / `strtoul` with kenlm's error test, and double-conversion with kenlm's NaN test on the characters
consumed. -/
namespace KV.FilePiece

/-- What the theorems assume about the number grammar (strtol, strtoul, double-conversion behind kenlm's
`ParseNumber`), for tokens satisfying `Good`: it never consumes more than it was given, its result depends only
on the bytes before the first space, and the empty string is an error.
`Good` is there for grammars that are a function of the token on some tokens only: `C18.op_transparent_on` and
`C18.transcript_fn_on` hold for every operation resp. script whose number reads meet good tokens.  `gFloatOld` (the NaN
test on the whole string) is the grammar this is meant for, with `floatGood` (every token but `NaN` / `nan`) as its `Good`;
that instance is not proved and nothing uses `floatGood`: everything proved about the model's grammars takes
`Good := True` (`GrammarOK`). -/
structure GrammarOKOn (Good : List Byte → Prop) (P : Grammar) : Prop where
  count_le : ∀ s v c, P s = some (v, c) → c ≤ s.length
  prefix_det : ∀ tok sp junk, tok ≠ [] → (∀ b ∈ tok, isSpace b = false) → isSpace sp = true → Good tok →
    P (tok ++ sp :: junk) = P tok
  empty : P [] = none

abbrev GrammarOK (P : Grammar) : Prop := GrammarOKOn (fun _ => True) P

def tokenAt (rest : List Byte) : List Byte := (rest.dropWhile isSpace).takeWhile (fun b => !isSpace b)

theorem tokenAt_eq (rest : List Byte) : tokenAt rest = firstToken (rest.dropWhile isSpace) := rfl

theorem tokenAt_ne_nil {rest : List Byte} (h : rest.dropWhile isSpace ≠ []) : tokenAt rest ≠ [] := by
  unfold tokenAt
  cases hd : rest.dropWhile isSpace with
  | nil => exact absurd hd h
  | cons c t => rw [List.takeWhile_cons_of_pos (by rw [dropWhile_head hd]; rfl)]; exact List.cons_ne_nil _ _

theorem GrammarOKOn.parse_firstToken {Good : List Byte → Prop} {P : Grammar} (hP : GrammarOKOn Good P)
    (s : List Byte) (hne : firstToken s ≠ []) (hg : Good (firstToken s)) : P s = P (firstToken s) := by
  unfold firstToken at *
  have hs : s.takeWhile (fun b => !isSpace b) ++ s.dropWhile (fun b => !isSpace b) = s :=
    List.takeWhile_append_dropWhile
  cases hd : s.dropWhile (fun b => !isSpace b) with
  | nil => rw [hd, List.append_nil] at hs; rw [hs]
  | cons sp junk =>
    have hsp : isSpace sp = true := by simpa using dropWhile_head hd
    rw [hd] at hs
    conv => lhs; rw [← hs]
    exact hP.prefix_det _ sp junk hne (fun b hb => by simpa using mem_takeWhile hb) hsp hg

/-- `b` is none of the characters the number grammars look for: `0`, a digit, `.`, `e`/`E`, `+`, `-`, a letter of
`inf` or of `NaN` -/
structure NotNumberChar (b : Byte) : Prop where
  zero : (b == 48) = false
  digit : isDigit b = false
  point : b ≠ 46
  exp : (b == 101 || b == 69) = false
  plus : b ≠ 43
  minus : b ≠ 45
  inf : b ∉ [105, 110, 102]
  nan : b ∉ [78, 97, 78]

theorem space_notNumberChar {b : Byte} (h : isSpace b = true) : NotNumberChar b := by
  simp only [isSpace, Bool.or_eq_true, beq_iff_eq] at h
  rcases h with ((((h | h) | h) | h) | h) | h <;> subst h <;> constructor <;> decide

theorem splitSign_of_ne {a : Byte} (h1 : a ≠ 43) (h2 : a ≠ 45) (l : List Byte) :
    splitSign (a :: l) = (false, false, a :: l) := by
  unfold splitSign
  split
  · rename_i heq; exact absurd (List.cons.inj heq).1 h1
  · rename_i heq; exact absurd (List.cons.inj heq).1 h2
  · rfl

theorem splitSign_subset (s : List Byte) : ∀ b ∈ (splitSign s).2.2, b ∈ s := by
  cases s with
  | nil => exact fun _ h => h
  | cons a l =>
    by_cases h1 : a = 43
    · subst h1; exact fun _ h => List.mem_cons_of_mem _ h
    · by_cases h2 : a = 45
      · subst h2; exact fun _ h => List.mem_cons_of_mem _ h
      · rw [splitSign_of_ne h1 h2]; exact fun _ h => h

theorem splitSign_length (s : List Byte) :
    (splitSign s).2.2.length + (if (splitSign s).1 then 1 else 0) = s.length := by
  unfold splitSign
  split <;> simp

theorem splitSign_cons_append (a : Byte) (t : List Byte) (m : List Byte) :
    splitSign (a :: t ++ m) = ((splitSign (a :: t)).1, (splitSign (a :: t)).2.1, (splitSign (a :: t)).2.2 ++ m) := by
  by_cases h1 : a = 43
  · subst h1; rfl
  · by_cases h2 : a = 45
    · subst h2; rfl
    · rw [List.cons_append, splitSign_of_ne h1 h2, splitSign_of_ne h1 h2]; rfl

/-- `strtol` and `strtoul` scan alike (spaces, sign, digits) and differ in what they make of the sign, the
magnitude and the number of characters scanned: the model's `gLong` and `gULong`, each written out in full, unfold to
`gInt body` for their `body` (that is how `gLong_ok`, `gULong_ok` are instances of `gInt_ok`) -/
def gInt (body : Bool → Nat → Nat → Option (Int × Nat)) (s : List Byte) : Option (Int × Nat) :=
  let s0 := s.dropWhile isSpace
  let ds := (splitSign s0).2.2.takeWhile isDigit
  if ds.isEmpty then none else
  body (splitSign s0).2.1 (digitsVal ds) ((s.length - s0.length) + (if (splitSign s0).1 then 1 else 0) + ds.length)

theorem gInt_ok (body : Bool → Nat → Nat → Option (Int × Nat))
    (hbody : ∀ neg m cnt v c, body neg m cnt = some (v, c) → c = cnt) : GrammarOK (gInt body) where
  count_le := by
    intro s v c h
    unfold gInt at h
    dsimp only at h
    split at h
    · cases h
    · -- the spaces skipped, the sign and the digits are disjoint parts of `s`
      rw [hbody _ _ _ _ _ h]
      have h1 := splitSign_length (s.dropWhile isSpace)
      have h2 := (List.takeWhile_sublist isDigit (l := (splitSign (s.dropWhile isSpace)).2.2)).length_le
      have h3 := (List.dropWhile_sublist isSpace (l := s)).length_le
      omega
  prefix_det := by
    intro tok sp junk hne hns hs _
    cases tok with
    | nil => exact absurd rfl hne
    | cons a t =>
      have ha : ¬ isSpace a = true := Bool.eq_false_iff.mp (hns a (List.mem_cons_self ..))
      unfold gInt
      dsimp only
      rw [List.cons_append, List.dropWhile_cons_of_neg ha, List.dropWhile_cons_of_neg ha, ← List.cons_append,
        splitSign_cons_append]
      dsimp only
      rw [takeWhile_append_stop _ _ (space_notNumberChar hs).digit, Nat.sub_self, Nat.sub_self]
  empty := rfl

theorem gLong_ok : GrammarOK gLong :=
  gInt_ok (fun neg m cnt => if neg then (if m ≤ 2^63 then some (-(m : Int), cnt) else none)
      else (if m < 2^63 then some ((m : Int), cnt) else none))
    (by intro neg m cnt v c h; split at h <;> split at h <;> cases h <;> rfl)

theorem gULong_ok : GrammarOK gULong :=
  gInt_ok (fun neg m cnt => if m ≥ 2^64 then none
      else some (((if neg then (2^64 - m) % 2^64 else m : Nat) : Int), cnt))
    (by intro neg m cnt v c h; split at h <;> cases h <;> rfl)

theorem splitSign_append_space (x : List Byte) {sp : Byte} (j : List Byte) (h : isSpace sp = true) :
    splitSign (x ++ sp :: j) = ((splitSign x).1, (splitSign x).2.1, (splitSign x).2.2 ++ sp :: j) := by
  cases x with
  | nil => rw [List.nil_append, splitSign_of_ne (space_notNumberChar h).plus (space_notNumberChar h).minus]; rfl
  | cons a t => exact splitSign_cons_append a t (sp :: j)

theorem convFrac_of_ne {a : Byte} (h : a ≠ 46) (l : List Byte) : convFrac (a :: l) = ([], a :: l) := by
  unfold convFrac
  split
  · rename_i heq; exact absurd (List.cons.inj heq).1 h
  · rfl

theorem convFrac_append (x : List Byte) {sp : Byte} (j : List Byte) (h : isSpace sp = true) :
    convFrac (x ++ sp :: j) = ((convFrac x).1, (convFrac x).2 ++ sp :: j) := by
  have hsp := space_notNumberChar h
  cases x with
  | nil => rw [List.nil_append, convFrac_of_ne hsp.point]; rfl
  | cons a r =>
    by_cases ha : a = 46
    · subst ha
      simp only [List.cons_append, convFrac, takeWhile_append_stop r j hsp.digit, dropWhile_append_stop r j hsp.digit]
    · rw [List.cons_append, convFrac_of_ne ha, convFrac_of_ne ha]; rfl

theorem convExp_append (x : List Byte) {sp : Byte} (j : List Byte) (h : isSpace sp = true) :
    convExp (x ++ sp :: j) = ((convExp x).1, (convExp x).2 ++ sp :: j) := by
  have hsp := space_notNumberChar h
  cases x with
  | nil => simp [convExp, hsp.exp]
  | cons e r =>
    simp only [List.cons_append, convExp]
    by_cases hee : (e == 101 || e == 69) = true
    · simp only [hee, ↓reduceIte, splitSign_append_space r j h, takeWhile_append_stop _ j hsp.digit,
        dropWhile_append_stop _ j hsp.digit]
      split <;> rfl
    · simp only [hee, Bool.false_eq_true, ↓reduceIte]; rfl

theorem convNum_append (neg : Bool) (n : Nat) (x : List Byte) {sp : Byte} (j : List Byte) (h : isSpace sp = true) :
    convNum neg (n + (j.length + 1)) (x ++ sp :: j) = convNum neg n x := by
  have hsp := space_notNumberChar h
  have t1 : (x ++ sp :: j).takeWhile (· == 48) = x.takeWhile (· == 48) := takeWhile_append_stop x j hsp.zero
  have d1 : (x ++ sp :: j).dropWhile (· == 48) = x.dropWhile (· == 48) ++ sp :: j := dropWhile_append_stop x j hsp.zero
  unfold convNum
  simp only [t1, d1]
  rw [takeWhile_append_stop _ j hsp.digit, dropWhile_append_stop _ j hsp.digit, convFrac_append _ j h]
  simp only [convExp_append _ j h, List.length_append, List.length_cons]
  rw [Nat.add_sub_add_right]

theorem startsWith_append_stop (x pat : List Byte) {sp : Byte} (j : List Byte) (hsp : sp ∉ pat) :
    startsWith (x ++ sp :: j) pat = startsWith x pat := by
  unfold startsWith
  induction pat generalizing x with
  | nil => rfl
  | cons q qs ih =>
    cases x with
    | nil => simp [List.ne_of_not_mem_cons hsp]
    | cons a x' => simp [ih x' (List.not_mem_of_not_mem_cons hsp)]

theorem conv_append (a : Byte) (t : List Byte) {sp : Byte} (j : List Byte) (hns : ∀ b ∈ a :: t, isSpace b = false)
    (h : isSpace sp = true) :
    conv (a :: t ++ sp :: j) = conv (a :: t) := by
  have hlen : (a :: t ++ sp :: j).length = (a :: t).length + (j.length + 1) := by
    simp only [List.length_append, List.length_cons]
  have hsl := splitSign_length (a :: t)
  unfold conv
  rw [splitSign_append_space (a :: t) j h]
  simp only [List.cons_append, List.isEmpty_cons, Bool.false_eq_true, ↓reduceIte]
  have hmem : ∀ b ∈ (splitSign (a :: t)).2.2, isSpace b = false := fun b hb => hns b (splitSign_subset _ b hb)
  generalize hc1 : (splitSign (a :: t)).2.2 = c1 at hmem hsl
  cases c1 with
  | nil =>
    -- the token is just a sign: junk; with the window behind it: a space after the sign, junk as well
    have hs : (splitSign (a :: t)).1 = true := by
      cases hh : (splitSign (a :: t)).1 with
      | true => rfl
      | false => rw [hh] at hsl; simp at hsl
    simp [hs, h]
  | cons c r =>
    have hc : isSpace c = false := hmem c (List.mem_cons_self ..)
    simp only [List.cons_append, hc, Bool.and_false, Bool.false_eq_true, ↓reduceIte]
    have e1 := startsWith_append_stop (c :: r) _ j (space_notNumberChar h).inf
    have e2 := startsWith_append_stop (c :: r) _ j (space_notNumberChar h).nan
    have hnum := convNum_append (splitSign (a :: t)).2.1 (a :: t).length (c :: r) j h
    simp only [List.cons_append] at e1 e2 hnum
    rw [e1, e2]
    -- where a count occurs a symbol of three bytes was matched, so the lengths subtract alike
    have hcnt : ∀ {pat : List Byte}, startsWith (c :: r) pat = true → pat.length = 3 →
        (a :: (t ++ sp :: j)).length - ((c :: (r ++ sp :: j)).length - 3) = (a :: t).length - ((c :: r).length - 3) := by
      intro pat hs hp
      have h3 : 3 ≤ (c :: r).length :=
        calc 3 = ((c :: r).take pat.length).length := by rw [eq_of_beq hs, hp]
          _ ≤ (c :: r).length := List.length_take_le' ..
      rw [show (a :: (t ++ sp :: j)).length = _ from hlen,
        show (c :: (r ++ sp :: j)).length = (c :: r).length + (j.length + 1) from
          List.length_append (as := c :: r) (bs := sp :: j)]
      exact count_shift _ _ _ h3
    refine ite_congr rfl (fun _ => ite_congr rfl (fun hs => congrArg _ (hcnt hs rfl)) fun _ => rfl) fun _ =>
      ite_congr rfl (fun _ => ite_congr rfl (fun hs => congrArg _ (hcnt hs rfl)) fun _ => rfl) fun _ => ?_
    rw [show (a :: (t ++ sp :: j)).length = (a :: t).length + (j.length + 1) from hlen, hnum]

def floatGood (tok : List Byte) : Prop := tok ≠ [78, 97, 78] ∧ tok ≠ [110, 97, 110]

def Conv.count : Conv → Nat
  | .junk => 0
  | .nan cnt => cnt
  | .inf _ cnt => cnt
  | .val _ _ _ cnt => cnt

theorem Conv.count_ite_le {c : Prop} [Decidable c] {a b : Conv} {n : Nat} (ha : a.count ≤ n) (hb : b.count ≤ n) :
    (if c then a else b).count ≤ n := by
  split <;> assumption

theorem convNum_count_le (neg : Bool) (n : Nat) (c1 : List Byte) : (convNum neg n c1).count ≤ n :=
  Conv.count_ite_le (Nat.zero_le _) (Nat.sub_le _ _)

theorem conv_count_le (s : List Byte) : (conv s).count ≤ s.length := by
  unfold conv
  refine Conv.count_ite_le (Nat.zero_le _) ?_
  split
  · exact Nat.zero_le _
  · exact Conv.count_ite_le (Nat.zero_le _)
      (Conv.count_ite_le (Conv.count_ite_le (Nat.sub_le _ _) (Nat.zero_le _))
        (Conv.count_ite_le (Conv.count_ite_le (Nat.sub_le _ _) (Nat.zero_le _)) (convNum_count_le _ _ _)))

theorem gFloat_ok (dbl : Bool) : GrammarOK (gFloat dbl) where
  count_le := by
    intro s v c h
    have hc := conv_count_le s
    unfold gFloat at h
    cases hcv : conv s with
    | junk => rw [hcv] at h; cases h
    | nan cnt =>
      rw [hcv] at h hc
      dsimp only at h
      split at h
      · cases h; exact hc
      · cases h
    | inf ng cnt => rw [hcv] at h hc; cases h; exact hc
    | val ng m e cnt => rw [hcv] at h hc; cases h; exact hc
  prefix_det := by
    intro tok sp junk hne hns hs _
    cases tok with
    | nil => exact absurd rfl hne
    | cons a t =>
      have hcnt := conv_count_le (a :: t)
      unfold gFloat
      rw [conv_append a t junk hns hs]
      cases hc : conv (a :: t) with
      | nan cnt =>
        rw [hc] at hcnt
        dsimp only
        rw [List.take_append_of_le_length (show cnt ≤ _ from hcnt)]
      | _ => rfl
  empty := by cases dbl <;> decide

end KV.FilePiece
