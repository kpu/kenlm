import Proofs.FilePieceShift
import Proofs.FilePieceNum
/-! Every reading operation of the window model returns what the whole-string spec returns; so do whole
transcripts from a freshly constructed `FilePiece`. -/
namespace KV.FilePiece

variable {env : Env} {st : St}

theorem rest_of_offset_eq {st st' : St} (h : st'.offset = st.offset) :
    st'.rest env = st.rest env := by rw [St.rest_def, St.rest_def, h]

theorem rest_advance (env : Env) (st : St) (n : Nat) :
    ({ st with pos := st.pos + n } : St).rest env = (st.rest env).drop n := by
  simp only [St.rest_def, offset_advance, List.drop_drop]

/-- `length + 2` while in mmap mode, at most `length` bytes beyond the window, 1 until the end has been seen: the
`2 * length + 3` that `fuelFor` exceeds by one (and with it the number of bytes left, `rest_length_lt`) -/
theorem mu_le (env : Env) (st : St) : mu env st ≤ 2 * env.bytes.length + 3 := by
  have h1 : (if st.mode = .mmap then env.bytes.length + 2 else 0) ≤ env.bytes.length + 2 := by
    split
    · exact Nat.le_refl _
    · exact Nat.zero_le _
  have h2 : (if st.atEnd then 0 else 1) ≤ 1 := by split <;> decide
  have h3 := Nat.sub_le env.bytes.length (st.mappedOffset + st.win.length)
  unfold mu
  omega

theorem rest_length_lt {f : Nat} (hf : 2 * env.bytes.length + 3 < f) : (st.rest env).length < f := by
  rw [st.rest_length]; omega

theorem mu_lt_of_fuel {f : Nat} (hf : 2 * env.bytes.length + 3 < f) : mu env st < f :=
  Nat.lt_of_le_of_lt (mu_le env st) hf

/-- one turn of a loop that waits for `Shift` with `f + 1` units of fuel left: the window moves, the remaining input is
the same, and `f` units are enough from there -/
theorem shift_step (hfix : ShiftFixed env) (h : Inv env st) (he : st.atEnd = false) {f : Nat} (hmu : mu env st < f + 1) :
    ∃ st', shift env st = .ok st' ∧ ShiftPost env st st' ∧ mu env st' < f ∧ st'.rest env = st.rest env := by
  obtain ⟨st', hsh, hp⟩ := shift_post hfix h he
  exact ⟨st', hsh, hp, Nat.lt_of_lt_of_le hp.mu_lt (Nat.le_of_lt_succ hmu), rest_of_offset_eq hp.offset_eq⟩

theorem Inv.visible_prefix {env : Env} {st : St} (h : Inv env st) :
    ∃ m, st.rest env = st.visible ++ m := by
  refine ⟨(st.rest env).drop (st.win.length - st.pos), ?_⟩
  rw [h.visible_eq, List.take_append_drop]

theorem Inv.visible_take (h : Inv env st) {n : Nat} (hn : n ≤ st.visible.length) :
    st.visible.take n = (st.rest env).take n := by
  rw [st.visible_length] at hn
  rw [h.visible_eq, List.take_take, Nat.min_eq_left hn]

/-- `out` is what the spec value `sp` prescribes for an operation run from `st`: the result `sp.1`, `Offset()` advanced
by the `sp.2` bytes consumed, the invariant kept.  (The statements of Properties/C18 spell the three clauses out.) -/
structure OpPost (env : Env) (st : St) (out : Res × St) (sp : Res × Nat) : Prop where
  res : out.1 = sp.1
  offset : out.2.offset = st.offset + sp.2
  inv : Inv env out.2

theorem OpPost.and {st : St} {out : Res × St} {sp : Res × Nat} (h : OpPost env st out sp) :
    out.1 = sp.1 ∧ out.2.offset = st.offset + sp.2 ∧ Inv env out.2 :=
  ⟨h.res, h.offset, h.inv⟩

theorem OpPost.same_offset {st st' : St} {out : Res × St} {sp : Res × Nat} (ho : st'.offset = st.offset)
    (h : OpPost env st' out sp) : OpPost env st out sp :=
  ⟨h.res, h.offset.trans (by rw [ho]), h.inv⟩

theorem OpPost.seq {st st1 : St} {out : Res × St} {sp : Res × Nat} {n : Nat} (h1 : st1.offset = st.offset + n)
    (h : OpPost env st1 out sp) : OpPost env st out (sp.1, n + sp.2) :=
  ⟨h.res, h.offset.trans (by rw [h1, Nat.add_assoc]), h.inv⟩

theorem Inv.shows_byte {st st' : St} (hi : Inv env st') (ho : st'.offset = st.offset) {c : Byte} {t : List Byte}
    (hv : st'.visible = c :: t) :
    ∃ r, st.rest env = c :: r ∧ Inv env { st' with pos := st'.pos + 1 } ∧
      ({ st' with pos := st'.pos + 1 } : St).offset = st.offset + 1 ∧
      ({ st' with pos := st'.pos + 1 } : St).rest env = r := by
  obtain ⟨m, hm⟩ := hi.visible_prefix
  rw [hv, rest_of_offset_eq ho] at hm
  exact ⟨t ++ m, hm, hi.advance 1 (by rw [hv]; exact Nat.le_add_left 1 _), by rw [offset_advance, ho],
    by rw [rest_advance, rest_of_offset_eq ho, hm]; rfl⟩

theorem Inv.shows_end {st st' : St} (hi : Inv env st') (ho : st'.offset = st.offset) (he : st'.atEnd = true)
    (hv : st'.visible = []) : st.rest env = [] := by
  rw [← rest_of_offset_eq ho, ← hi.visible_atEnd he]; exact hv

/-- The `if (position_ == position_end_) { Shift(); … }` idiom, by what is left of the input.  If there is a next
byte `c`, it is found, in a window `st'` at the same `Offset()` that shows it, and consuming it leaves the rest; at
the end of the input that is what `front` reports, one way or the other. -/
theorem front_cases (hfix : ShiftFixed env) (h : Inv env st) :
    (∃ c r st', st.rest env = c :: r ∧ front env st = .byte c st' ∧ Inv env st' ∧ st'.offset = st.offset ∧
      Inv env { st' with pos := st'.pos + 1 } ∧ ({ st' with pos := st'.pos + 1 } : St).offset = st.offset + 1 ∧
      ({ st' with pos := st'.pos + 1 } : St).rest env = r) ∨
    (st.rest env = [] ∧ ∃ st', (front env st = .endSeen st' ∨ front env st = .eofExc st') ∧
      Inv env st' ∧ st'.offset = st.offset) := by
  unfold front
  cases hv : st.visible with
  | cons c t =>
    obtain ⟨r, hr, hnext⟩ := h.shows_byte rfl hv
    exact Or.inl ⟨c, r, st, hr, rfl, h, rfl, hnext⟩
  | nil =>
    dsimp only
    cases he : st.atEnd with
    | true =>
      rw [shift_atEnd he]
      exact Or.inr ⟨h.shows_end rfl he hv, st, Or.inr rfl, h, rfl⟩
    | false =>
      obtain ⟨st', hs, hp⟩ := shift_post hfix h he
      rw [hs]
      dsimp only
      cases hv' : st'.visible with
      | nil =>
        have hae := hp.nonempty_or_end.resolve_left fun hc => hc hv'
        exact Or.inr ⟨hp.inv.shows_end hp.offset_eq hae hv', st', Or.inl rfl, hp.inv, hp.offset_eq⟩
      | cons c t =>
        obtain ⟨r, hr, hnext⟩ := hp.inv.shows_byte hp.offset_eq hv'
        exact Or.inl ⟨c, r, st', hr, rfl, hp.inv, hp.offset_eq, hnext⟩

theorem peek_spec (hfix : ShiftFixed env) (hfixI : env.cfg.fixI = true)
    (G : NumKind → Grammar) (h : Inv env st) :
    OpPost env st (peek env st) (specOp G .peek (st.rest env)) := by
  unfold peek
  rw [if_pos hfixI]
  rcases front_cases hfix h with ⟨c, r, st', hr, hfr, hi, ho, _⟩ | ⟨hr, st', hfr, hi, ho⟩
  · rw [hfr, hr]; exact ⟨rfl, ho, hi⟩
  · rw [hr]; rcases hfr with hfr | hfr <;> rw [hfr] <;> exact ⟨rfl, ho, hi⟩

theorem get_spec (hfix : ShiftFixed env) (hfixI : env.cfg.fixI = true)
    (G : NumKind → Grammar) (h : Inv env st) :
    OpPost env st (get env st) (specOp G .get (st.rest env)) := by
  unfold get peek
  rw [if_pos hfixI]
  rcases front_cases hfix h with ⟨c, r, st', hr, hfr, _, _, hi, ho, _⟩ | ⟨hr, st', hfr, hi, ho⟩
  · rw [hfr, hr]; exact ⟨rfl, ho, hi⟩
  · rw [hr]; rcases hfr with hfr | hfr <;> rw [hfr] <;> exact ⟨rfl, ho, hi⟩

theorem rest_after_skip {st st1 : St} {d : Byte → Bool}
    (h : st1.offset = st.offset + ((st.rest env).takeWhile d).length) :
    st1.rest env = (st.rest env).dropWhile d := by
  simp only [St.rest_def, h, ← List.drop_drop]
  exact drop_takeWhile_length d _

theorem skipSpaces_spec (hfix : ShiftFixed env) (d : Byte → Bool) :
    ∀ (f : Nat) (st : St), Inv env st → (st.rest env).length < f →
      ∃ r st1, skipSpaces env d f st = (r, st1) ∧
        (r = Res.skipped ∨ (r = Res.eof ∧ (st.rest env).dropWhile d = [])) ∧
        st1.offset = st.offset + ((st.rest env).takeWhile d).length ∧ Inv env st1 := by
  intro f
  induction f with
  | zero => intro st _ hl; exact absurd hl (Nat.not_lt_zero _)
  | succ f ih =>
    intro st h hl
    simp only [skipSpaces]
    rcases front_cases hfix h with ⟨c, r, st', hr, hfr, hi, ho, hi', ho', hr'⟩ | ⟨hr, st', hfr, hi, ho⟩
    · rw [hr] at hl ⊢
      rw [hfr]
      dsimp only
      by_cases hd : d c
      · obtain ⟨r', st1, hrec, a, b, e⟩ := ih _ hi' (by rw [hr']; exact Nat.lt_of_succ_lt_succ hl)
        rw [hr'] at a b
        rw [if_pos hd, hrec, List.dropWhile_cons_of_pos hd, List.takeWhile_cons_of_pos hd]
        exact ⟨r', st1, rfl, a, by rw [b, ho', List.length_cons, Nat.add_assoc, Nat.add_comm 1], e⟩
      · rw [if_neg hd, List.takeWhile_cons_of_neg hd]
        exact ⟨_, _, rfl, Or.inl rfl, ho, hi⟩
    · rw [hr]
      rcases hfr with hfr | hfr <;> rw [hfr]
      · exact ⟨_, _, rfl, Or.inl rfl, ho, hi⟩
      · exact ⟨_, _, rfl, Or.inr ⟨rfl, rfl⟩, ho, hi⟩

/-- bytes already scanned without a hit stay scanned after a Shift (the new window shows the same bytes at the
same offsets, possibly fewer of them after a fall back from mmap to read) -/
theorem no_hit_after_shift {st st' : St} (h : Inv env st) (hp : ShiftPost env st st')
    {p : Byte → Bool} (hn : idxOf p st.visible = none) : idxOf p (st'.visible.take st.visible.length) = none := by
  rw [visible_common h hp.inv hp.offset_eq]
  exact idxOf_take_none _ hn

theorem scan_hit (h : Inv env st) {p : Byte → Bool} {skip i : Nat}
    (hn : idxOf p (st.visible.take skip) = none)
    (hi : idxFrom p st.visible skip = some i) :
    idxOf p (st.rest env) = some i ∧ i < st.visible.length ∧ st.visible.take (i + 1) = (st.rest env).take (i + 1) := by
  rw [idxFrom_eq_idxOf hn] at hi
  have hlt := idxOf_some_lt hi
  have hv := h.visible_eq
  refine ⟨?_, hlt, ?_⟩
  · rw [hv] at hi; exact idxOf_take_some hi
  · exact h.visible_take hlt

theorem scan_miss {st : St} {p : Byte → Bool} {skip : Nat}
    (hn : idxOf p (st.visible.take skip) = none)
    (hi : idxFrom p st.visible skip = none) : idxOf p st.visible = none := by
  rw [idxFrom_eq_idxOf hn] at hi; exact hi

def FindPost (env : Env) (rest : List Byte) (off : Nat) (p : Byte → Bool) : Except Err (Nat × St) → Prop
  | .error e => e = .eof ∧ rest = []
  | .ok (n, st') => Inv env st' ∧ st'.offset = off ∧ n ≤ st'.visible.length ∧ rest ≠ [] ∧
      st'.visible.take n = rest.takeWhile (fun b => !p b) ∧ n = (rest.takeWhile (fun b => !p b)).length

theorem findDelimiterOrEOF_spec (hfix : ShiftFixed env) (p : Byte → Bool) :
    ∀ (f : Nat) (skip : Nat) (st : St), Inv env st → mu env st < f →
      idxOf p (st.visible.take skip) = none →
      FindPost env (st.rest env) st.offset p (findDelimiterOrEOF env p f skip st) := by
  intro f
  induction f with
  | zero => intro skip st _ hm; omega
  | succ f ih =>
    intro skip st h hmu hn
    simp only [findDelimiterOrEOF]
    cases hi : idxFrom p st.visible skip with
    | some i =>
      obtain ⟨a, b, c⟩ := scan_hit h hn hi
      have hw := idxOf_some_takeWhile a
      refine ⟨h, rfl, Nat.le_of_lt b, ?_, ?_, ?_⟩
      · intro hc; rw [hc] at a; exact absurd a (by simp [idxOf])
      · rw [hw]; exact take_of_take_eq c (Nat.le_succ i)
      · rw [hw, List.length_take_of_le (Nat.le_of_lt (idxOf_some_lt a))]
    | none =>
      have hnone := scan_miss hn hi
      dsimp only
      cases he : st.atEnd with
      | true =>
        have hv := h.visible_atEnd he
        simp only [↓reduceIte]
        cases hvis : st.visible with
        | nil => exact ⟨rfl, by rw [← hv]; exact hvis⟩
        | cons c t =>
          dsimp only
          rw [← hvis, ← hv]
          have hw := idxOf_none_takeWhile hnone
          exact ⟨h, rfl, Nat.le_refl _, by rw [hvis]; exact List.cons_ne_nil _ _, by rw [hw, List.take_length],
            by rw [hw]⟩
      | false =>
        simp only [Bool.false_eq_true, ↓reduceIte]
        obtain ⟨st', hsh, hp, hmu', hr⟩ := shift_step hfix h he hmu
        rw [hsh, ← hr, ← hp.offset_eq]
        exact ih st.visible.length st' hp.inv hmu' (no_hit_after_shift h hp hnone)

theorem specOp_readLine (G : NumKind → Grammar) (d : Byte) (s : Bool) (rest : List Byte) :
    specOp G (.readLine d s) rest =
      if rest = [] then (Res.eof, 0)
      else match idxOf (· == d) rest with
        | none => (Res.bytes rest, rest.length)
        | some i => (Res.bytes (rest.take (i - (if s && decide (i > 0) && (rest.getD (i - 1) 0 == 13) then 1 else 0))), i + 1) := by
  cases rest with
  | nil => rfl
  | cons a r => rw [if_neg (by simp)]; rfl

/-- `ReadLine` runs the scan loop of `FindDelimiterOrEOF`, but this is not a corollary of `findDelimiterOrEOF_spec`: at the
end of the input `findDelimiterOrEOF` returns no state (`.error .eof`), while the result, `Offset()` and invariant claimed
here are those of the window `readLine` ended in; so the three cases (hit, end of the window at the end of the input,
Shift) are walked again, with the same lemmas. -/
theorem readLine_spec (hfix : ShiftFixed env) (G : NumKind → Grammar) (d : Byte) (s : Bool) :
    ∀ (f : Nat) (skip : Nat) (st : St), Inv env st → mu env st < f →
      idxOf (· == d) (st.visible.take skip) = none →
      OpPost env st (readLine env d s f skip st) (specOp G (.readLine d s) (st.rest env)) := by
  intro f
  induction f with
  | zero => intro skip st _ hm; omega
  | succ f ih =>
    intro skip st h hmu hn
    rw [specOp_readLine]
    simp only [readLine]
    cases hi : idxFrom (· == d) st.visible skip with
    | some i =>
      obtain ⟨a, b, c⟩ := scan_hit h hn hi
      have hne : st.rest env ≠ [] := by intro hc; rw [hc] at a; simp [idxOf] at a
      rw [if_neg hne, a]
      dsimp only
      have hg : st.visible.getD (i - 1) 0 = (st.rest env).getD (i - 1) 0 := getD_of_take_eq c (by omega)
      rw [hg]
      exact ⟨congrArg _ (take_of_take_eq c (by omega)), offset_advance st (i + 1), h.advance (i + 1) b⟩
    | none =>
      have hnone := scan_miss hn hi
      dsimp only
      cases he : st.atEnd with
      | true =>
        have hv := h.visible_atEnd he
        simp only [↓reduceIte]
        cases hvis : st.visible with
        | nil =>
          have : st.rest env = [] := by rw [← hv]; exact hvis
          rw [if_pos this]
          exact ⟨rfl, rfl, h⟩
        | cons c t =>
          have hne : st.rest env ≠ [] := by rw [← hv, hvis]; simp
          rw [if_neg hne, ← hv, hnone]
          dsimp only [consume]
          rw [← hvis]
          exact ⟨by simp, offset_advance st _, h.advance _ (Nat.le_refl _)⟩
      | false =>
        simp only [Bool.false_eq_true, ↓reduceIte]
        obtain ⟨st', hsh, hp, hmu', hr⟩ := shift_step hfix h he hmu
        rw [hsh]
        dsimp only
        have := ih st.visible.length st' hp.inv hmu' (no_hit_after_shift h hp hnone)
        rw [specOp_readLine, hr] at this
        exact this.same_offset hp.offset_eq

/-- the second phase of `ReadDelimited` and `ReadWordSameLine` on the input that is left after the skipping loop:
the word up to the next delimiter or the end -/
def specWord (d : Byte → Bool) (rest : List Byte) : Res × Nat :=
  if rest = [] then (.eof, 0)
  else (.bytes (rest.takeWhile (fun b => !d b)), (rest.takeWhile (fun b => !d b)).length)

theorem specWord_bytes {d : Byte → Bool} {rest w : List Byte} (h : (specWord d rest).1 = .bytes w) :
    rest ≠ [] ∧ w = rest.takeWhile (fun b => !d b) ∧ (specWord d rest).2 = w.length := by
  unfold specWord at h ⊢
  split at h
  · cases h
  · next hne => rw [if_neg hne]; cases h; exact ⟨hne, rfl, rfl⟩

theorem find_consume (hfix : ShiftFixed env) (d : Byte → Bool) (f : Nat) (st1 : St)
    (h1 : Inv env st1) (hmu : mu env st1 < f) :
    let out : Res × St := match findDelimiterOrEOF env d f 0 st1 with
      | .error .eof => (Res.eof, st1)
      | .error .fuel => (Res.fuel, st1)
      | .ok (n, st2) => let (b, st3) := consume st2 n; (Res.bytes b, st3)
    OpPost env st1 out (specWord d (st1.rest env)) := by
  have hf := findDelimiterOrEOF_spec hfix d f 0 st1 h1 hmu rfl
  unfold specWord
  cases hres : findDelimiterOrEOF env d f 0 st1 with
  | error e =>
    rw [hres] at hf
    obtain ⟨rfl, hr⟩ := hf
    rw [if_pos hr]
    exact ⟨rfl, rfl, h1⟩
  | ok r =>
    obtain ⟨n, st2⟩ := r
    rw [hres] at hf
    obtain ⟨a, b, c, g, e, hn⟩ := hf
    rw [if_neg g]
    exact ⟨congrArg _ e, by rw [← hn, ← b]; exact offset_advance st2 n, a.advance n c⟩

theorem specOp_readDelimited (G : NumKind → Grammar) (d : Byte → Bool) (rest : List Byte) :
    specOp G (.readDelimited d) rest =
      ((specWord d (rest.dropWhile d)).1, (rest.takeWhile d).length + (specWord d (rest.dropWhile d)).2) := by
  simp only [specOp, drop_takeWhile_length, specWord]
  cases rest.dropWhile d with
  | nil => rfl
  | cons a r => rw [if_neg (List.cons_ne_nil _ _)]

theorem readDelimited_spec (hfix : ShiftFixed env) (G : NumKind → Grammar) (d : Byte → Bool)
    (f : Nat) (st : St) (h : Inv env st) (hf : 2 * env.bytes.length + 3 < f) :
    OpPost env st (readDelimited env d f st) (specOp G (.readDelimited d) (st.rest env)) := by
  obtain ⟨r, st1, hout, h1, h2, h3⟩ := skipSpaces_spec hfix d f st h (rest_length_lt hf)
  rw [specOp_readDelimited, ← rest_after_skip h2]
  unfold readDelimited
  rw [hout]
  rcases h1 with rfl | ⟨rfl, h1'⟩
  · exact (find_consume hfix d f st1 h3 (mu_lt_of_fuel hf)).seq h2
  · rw [rest_after_skip h2, h1']
    exact ⟨rfl, h2, h3⟩

def sameLineSpace (d : Byte → Bool) (b : Byte) : Bool := d b && b != 10

theorem specOp_readWordSameLine (G : NumKind → Grammar) (d : Byte → Bool) (rest : List Byte) :
    specOp G (.readWordSameLine d) rest =
      match rest.dropWhile (sameLineSpace d) with
      | [] => (Res.noWord, (rest.takeWhile (sameLineSpace d)).length)
      | c :: r => if d c then (Res.noWord, (rest.takeWhile (sameLineSpace d)).length)
                  else ((specWord d (c :: r)).1, (rest.takeWhile (sameLineSpace d)).length + (specWord d (c :: r)).2) := by
  simp only [specOp, specWord, if_neg (List.cons_ne_nil _ _)]
  show (match rest.drop (rest.takeWhile (sameLineSpace d)).length with
        | [] => _ | c :: r => _) = _
  rw [drop_takeWhile_length]
  rfl

theorem wordSkip_spec (hfix : ShiftFixed env) (d : Byte → Bool) :
    ∀ (f : Nat) (st : St), Inv env st → (st.rest env).length < f →
      ∃ r st1, wordSkip env d f st = (r, st1) ∧
        st1.offset = st.offset + ((st.rest env).takeWhile (sameLineSpace d)).length ∧ Inv env st1 ∧
        (match (st.rest env).dropWhile (sameLineSpace d) with
         | [] => r = Res.noWord
         | c :: _ => if d c then r = Res.noWord else r = Res.skipped) := by
  intro f
  induction f with
  | zero => intro st _ hl; exact absurd hl (Nat.not_lt_zero _)
  | succ f ih =>
    intro st h hl
    simp only [wordSkip]
    rcases front_cases hfix h with ⟨c, r, st', hr, hfr, hi, ho, hi', ho', hr'⟩ | ⟨hr, st', hfr, hi, ho⟩
    · rw [hr] at hl ⊢
      rw [hfr]
      dsimp only
      by_cases hs : sameLineSpace d c
      · obtain ⟨hd, hnl⟩ : d c = true ∧ (c == 10) = false := by simpa [sameLineSpace] using hs
        obtain ⟨r', st1, hrec, a, b, e⟩ := ih _ hi' (by rw [hr']; exact Nat.lt_of_succ_lt_succ hl)
        rw [hr'] at a e
        rw [hd, hnl, hrec, List.dropWhile_cons_of_pos hs, List.takeWhile_cons_of_pos hs]
        exact ⟨r', st1, rfl, by rw [a, ho', List.length_cons, Nat.add_assoc, Nat.add_comm 1], b, e⟩
      · rw [List.dropWhile_cons_of_neg hs, List.takeWhile_cons_of_neg hs]
        by_cases hd : d c
        · have hnl : (c == 10) = true := by simpa [sameLineSpace, hd] using hs
          simp only [hd, hnl, Bool.not_true, Bool.false_eq_true, ↓reduceIte]
          exact ⟨_, _, rfl, ho, hi, rfl⟩
        · simp only [hd, Bool.not_false, Bool.false_eq_true, ↓reduceIte]
          exact ⟨_, _, rfl, ho, hi, rfl⟩
    · rw [hr]
      rcases hfr with hfr | hfr <;> rw [hfr] <;> exact ⟨_, _, rfl, ho, hi, rfl⟩

theorem readWordSameLine_spec (hfix : ShiftFixed env) (G : NumKind → Grammar) (d : Byte → Bool)
    (f : Nat) (st : St) (h : Inv env st) (hf : 2 * env.bytes.length + 3 < f) :
    OpPost env st (readWordSameLine env d f st) (specOp G (.readWordSameLine d) (st.rest env)) := by
  obtain ⟨r, st1, hout, h1, h2, h4⟩ := wordSkip_spec hfix d f st h (rest_length_lt hf)
  have h3 := rest_after_skip h1
  rw [specOp_readWordSameLine]
  unfold readWordSameLine
  rw [hout]
  cases hdw : (st.rest env).dropWhile (sameLineSpace d) with
  | nil =>
    rw [hdw] at h4
    subst h4
    exact ⟨rfl, h1, h2⟩
  | cons c t =>
    rw [hdw] at h4
    dsimp only at h4 ⊢
    by_cases hd : d c
    · rw [if_pos hd] at h4 ⊢
      subst h4
      exact ⟨rfl, h1, h2⟩
    · rw [if_neg hd] at h4 ⊢
      subst h4
      have hw := find_consume hfix d f st1 h2 (mu_lt_of_fuel hf)
      rw [h3, hdw] at hw
      exact hw.seq h1

/-! ### ReadNumber: "wait until a space follows the number inside the window, or hallucinate the
terminator at EOF" -/

/-- the second phase of `specOp (.readNumber _)` (`specOp_readNumber`): what `ParseNumber` makes of the token `tok`, and the bytes consumed -/
def specParse (P : Grammar) (tok : List Byte) : Res × Nat :=
  match P tok with
  | none => (.parseErr tok, 0)
  | some (v, cnt) => (.num v, cnt)

theorem specParse_none {P : Grammar} {tok : List Byte} (h : P tok = none) : specParse P tok = (.parseErr tok, 0) := by
  rw [specParse, h]

theorem applyParse_spec {Good : List Byte → Prop} {P : Grammar} (hP : GrammarOKOn Good P)
    (h : Inv env st) {str tok : List Byte} (hparse : P str = P tok) (hft : firstToken str = tok)
    (hlen : tok.length ≤ st.visible.length) :
    OpPost env st (applyParse P str st) (specParse P tok) := by
  unfold applyParse specParse
  rw [hparse, hft]
  cases hp : P tok with
  | none => exact ⟨rfl, rfl, h⟩
  | some r =>
    obtain ⟨v, cnt⟩ := r
    exact ⟨rfl, offset_advance st cnt, h.advance cnt (Nat.le_trans (hP.count_le _ _ _ hp) hlen)⟩

theorem numLoop_spec (hfix : ShiftFixed env) (P : Grammar) (Good : List Byte → Prop)
    (hP : GrammarOKOn Good P) :
    ∀ (f : Nat) (st : St), Inv env st → mu env st < f →
      (st.rest env ≠ [] → firstToken (st.rest env) ≠ [] ∧ Good (firstToken (st.rest env))) →
      OpPost env st (numLoop env P f st) (specParse P (firstToken (st.rest env))) := by
  intro f
  induction f with
  | zero => intro st _ hm; exact absurd hm (Nat.not_lt_zero _)
  | succ f ih =>
    intro st h hmu hgood
    simp only [numLoop]
    by_cases hls : st.ls1 ≤ st.pos
    · rw [if_pos hls]
      cases he : st.atEnd with
      | true =>
        -- no space in the window, which reaches the end of the input: the token is all that is left
        simp only [↓reduceIte]
        have htok : firstToken st.visible = st.visible :=
          idxOf_none_takeWhile (idxOf_none_iff.mpr (h.ls.no_space hls))
        rw [← h.visible_atEnd he, htok]
        exact applyParse_spec hP h rfl htok (Nat.le_refl _)
      | false =>
        simp only [Bool.false_eq_true, ↓reduceIte]
        obtain ⟨st', hsh, hp, hmu', hr⟩ := shift_step hfix h he hmu
        rw [hsh, ← hr]
        exact (ih st' hp.inv hmu' (by rw [hr]; exact hgood)).same_offset hp.offset_eq
    · -- the string handed to ParseNumber ends before a space of the input, so its first token is the input's
      rw [if_neg hls]
      obtain ⟨v₁, sp, v₂, hv, hsp, hlen⟩ := h.ls.last_space hls
      obtain ⟨m, hm⟩ := h.visible_prefix
      have hv' : st.visible = v₁ ++ sp :: v₂ := hv
      rw [hv', List.append_assoc] at hm
      have htok : firstToken (st.rest env) = firstToken v₁ := by
        rw [hm]; exact takeWhile_append_stop v₁ _ (by rw [hsp]; rfl)
      obtain ⟨hne, hg⟩ := hgood (by rw [hm]; exact List.append_ne_nil_of_right_ne_nil _ (List.cons_ne_nil _ _))
      rw [htok] at hne hg ⊢
      rw [← hlen, hv', List.take_left]
      exact applyParse_spec hP h (hP.parse_firstToken _ hne hg) rfl
        (Nat.le_trans (List.takeWhile_sublist _).length_le (by rw [hv', List.length_append]; exact Nat.le_add_right ..))

theorem specOp_readNumber (G : NumKind → Grammar) (k : NumKind) (rest : List Byte) :
    specOp G (.readNumber k) rest =
      if rest.dropWhile isSpace = [] then (Res.eof, (rest.takeWhile isSpace).length)
      else ((specParse (G k) (tokenAt rest)).1, (rest.takeWhile isSpace).length + (specParse (G k) (tokenAt rest)).2) := by
  simp only [specOp, drop_takeWhile_length, specParse, tokenAt]
  cases rest.dropWhile isSpace with
  | nil => rfl
  | cons a r =>
    rw [if_neg (List.cons_ne_nil _ _)]
    dsimp only
    cases G k ((a :: r).takeWhile fun b => !isSpace b) with
    | none => rfl
    | some p => rfl

theorem canon_specParse (k : NumKind) (P : Grammar) {tok : List Byte} (h : tok ≠ []) :
    canon (.readNumber k) (specParse P tok).1 = (specParse P tok).1 := by
  unfold specParse
  split
  · cases tok with
    | nil => exact absurd rfl h
    | cons => rfl
  · rfl

theorem readNumber_spec (hfix : ShiftFixed env) (G : NumKind → Grammar) (k : NumKind)
    (Good : List Byte → Prop) (hP : GrammarOKOn Good (G k)) (f : Nat) (st : St) (h : Inv env st)
    (hf : 2 * env.bytes.length + 3 < f) (hgood : tokenAt (st.rest env) ≠ [] → Good (tokenAt (st.rest env))) :
    OpPost env st (canon (.readNumber k) (readNumber env (G k) f st).1, (readNumber env (G k) f st).2)
      (specOp G (.readNumber k) (st.rest env)) := by
  obtain ⟨r, st1, hout, h1, h2, h3⟩ := skipSpaces_spec hfix isSpace f st h (rest_length_lt hf)
  have hr1 := rest_after_skip h2
  rw [specOp_readNumber]
  unfold readNumber
  rw [hout]
  rcases h1 with rfl | ⟨rfl, h1'⟩
  · have htok : firstToken (st1.rest env) = tokenAt (st.rest env) := by rw [hr1, tokenAt_eq]
    have hn := numLoop_spec hfix (G k) Good hP f st1 h3 (mu_lt_of_fuel hf) fun hc =>
      htok ▸ ⟨tokenAt_ne_nil (hr1 ▸ hc), hgood (tokenAt_ne_nil (hr1 ▸ hc))⟩
    rw [htok] at hn
    dsimp only
    by_cases hc : (st.rest env).dropWhile isSpace = []
    · -- the input ends after the spaces: `ParseNumber` fails on the empty string, which `canon` reads as EOF
      have hemp : tokenAt (st.rest env) = [] := by unfold tokenAt; rw [hc]; rfl
      rw [hemp, specParse_none hP.empty] at hn
      rw [if_pos hc]
      exact ⟨congrArg (canon _) hn.res, hn.offset.trans (by rw [h2]; rfl), hn.inv⟩
    · rw [if_neg hc]
      exact ⟨(congrArg (canon _) hn.res).trans (canon_specParse k _ (tokenAt_ne_nil hc)), (hn.seq h2).offset, hn.inv⟩
  · rw [if_pos h1']
    exact ⟨rfl, h2, h3⟩

theorem initMapSize_big (page mb : Nat) (hp : 0 < page) : page < initMapSize page mb := by
  unfold initMapSize
  have h2 : page * 2 ≤ page * max (mb / page + 1) 2 := Nat.mul_le_mul_left page (Nat.le_max_right _ 2)
  omega

theorem inv_st0_mmap (env : Env) (mb : Nat) (hp : 0 < env.cfg.page) : Inv env (st0 env.cfg.page mb .mmap) := by
  refine { page_pos := hp, pos_le := by simp [st0], in_range := by simp [st0], win_eq := by simp [st0],
           atEnd_end := by simp [st0], map_big := initMapSize_big _ _ hp, read_off := by simp [st0],
           mmap_al := ?_, ls := ?_ }
  · intro _
    exact ⟨by simp [st0], by simp [st0], by simp [st0]⟩
  · left; exact ⟨by simp [st0], by simp [st0]⟩

theorem inv_lazy (env : Env) (mb : Nat) (hp : 0 < env.cfg.page) (hdr : Nat) :
    Inv env (transitionToRead (st0 env.cfg.page mb .read) 0 hdr) := by
  refine { page_pos := hp, pos_le := by simp [st0, transitionToRead], in_range := by simp [st0, transitionToRead],
           win_eq := by simp [st0, transitionToRead], atEnd_end := by simp [st0, transitionToRead],
           map_big := initMapSize_big _ _ hp, read_off := by simp [st0, transitionToRead],
           mmap_al := by simp [st0, transitionToRead], ls := ?_ }
  left; exact ⟨by simp [st0, transitionToRead], by simp [st0, transitionToRead]⟩

theorem init_spec (env : Env) (mb : Nat) (b : Backend) (hp : 0 < env.cfg.page) (hH : ShiftFixed env) :
    Inv env (init env mb b) ∧ (init env mb b).offset = 0 := by
  cases b with
  | file =>
    have h0 := inv_st0_mmap env mb hp
    obtain ⟨st', hs, hpost⟩ := shift_post hH h0 (by simp [st0])
    simp only [init, hs]
    exact ⟨hpost.inv, by rw [hpost.offset_eq]; simp [st0, St.offset]⟩
  | pipe =>
    have h0 := inv_lazy env mb hp kMagicSize
    obtain ⟨st', hs, hpost⟩ := shift_post hH h0 (by simp [st0, transitionToRead])
    simp only [init, hs]
    exact ⟨hpost.inv, by rw [hpost.offset_eq]; simp [st0, St.offset, transitionToRead]⟩
  | lazy =>
    exact ⟨inv_lazy env mb hp 0, by simp [init, st0, St.offset, transitionToRead]⟩

/-- `Good k tok`: the tokens on which the grammar of kind `k` is known to be a function of the token alone.
An operation is admissible at `rest` if it is not a number read, or the token it will look at is good. -/
def OpGood (Good : NumKind → List Byte → Prop) (op : Op) (rest : List Byte) : Prop :=
  ∀ k, op = .readNumber k → tokenAt rest ≠ [] → Good k (tokenAt rest)

theorem runOp_spec (env : Env) (G : NumKind → Grammar) (Good : NumKind → List Byte → Prop)
    (hG : ∀ k, GrammarOKOn (Good k) (G k))
    (hH : ShiftFixed env) (hI : env.cfg.fixI = true) (op : Op) (st : St) (h : Inv env st)
    (hgood : OpGood Good op (env.bytes.drop st.offset)) :
    OpPost env st (canon op (runOp env G op st).1, (runOp env G op st).2) (specOp G op (env.bytes.drop st.offset)) := by
  have hf : 2 * env.bytes.length + 3 < fuelFor env := Nat.lt_succ_self _
  rw [← St.rest_def] at hgood ⊢
  cases op with
  | peek => exact peek_spec hH hI G h
  | get => exact get_spec hH hI G h
  | skipSpaces d =>
    obtain ⟨r, st1, ho, a, b, c⟩ := skipSpaces_spec hH d (fuelFor env) st h (rest_length_lt hf)
    show OpPost env st (canon (.skipSpaces d) (skipSpaces env d (fuelFor env) st).1,
      (skipSpaces env d (fuelFor env) st).2) (Res.skipped, _)
    rw [ho]
    refine ⟨?_, b, c⟩
    rcases a with a | ⟨a, _⟩ <;> rw [a] <;> rfl
  | readLine d s => exact readLine_spec hH G d s (fuelFor env) 0 st h (mu_lt_of_fuel hf) rfl
  | readLineOrEOF d s => exact readLine_spec hH G d s (fuelFor env) 0 st h (mu_lt_of_fuel hf) rfl
  | readDelimited d => exact readDelimited_spec hH G d (fuelFor env) st h hf
  | readWordSameLine d => exact readWordSameLine_spec hH G d (fuelFor env) st h hf
  | readNumber k => exact readNumber_spec hH G k (Good k) (hG k) (fuelFor env) st h hf (hgood k rfl)

def GoodScript (Good : NumKind → List Byte → Prop) (G : NumKind → Grammar) (bytes : List Byte) :
    List Op → Nat → Prop
  | [], _ => True
  | op :: ops, off =>
    OpGood Good op (bytes.drop off) ∧ GoodScript Good G bytes ops (off + (specOp G op (bytes.drop off)).2)

theorem transcript_spec (env : Env) (G : NumKind → Grammar) (Good : NumKind → List Byte → Prop)
    (hG : ∀ k, GrammarOKOn (Good k) (G k))
    (hH : ShiftFixed env) (hI : env.cfg.fixI = true) :
    ∀ (ops : List Op) (st : St), Inv env st → GoodScript Good G env.bytes ops st.offset →
      transcript env G ops st = specTranscript G env.bytes ops st.offset := by
  intro ops
  induction ops with
  | nil => intro st _ _; rfl
  | cons op ops ih =>
    intro st h hgs
    obtain ⟨hg1, hg2⟩ := hgs
    obtain ⟨a, b, c⟩ := runOp_spec env G Good hG hH hI op st h hg1
    dsimp only at a b c
    simp only [transcript, specTranscript]
    rw [ih _ c (by rw [b]; exact hg2), a, b]

theorem transcript_init (env : Env) (G : NumKind → Grammar) (Good : NumKind → List Byte → Prop)
    (hG : ∀ k, GrammarOKOn (Good k) (G k)) (hp : 0 < env.cfg.page) (hH : ShiftFixed env) (hI : env.cfg.fixI = true)
    (mb : Nat) (b : Backend) (ops : List Op) (hgs : GoodScript Good G env.bytes ops 0) :
    transcript env G ops (init env mb b) = specTranscript G env.bytes ops 0 := by
  obtain ⟨i, o⟩ := init_spec env mb b hp hH
  rw [← o] at hgs ⊢
  exact transcript_spec env G Good hG hH hI ops _ i hgs

theorem goodScript_of_all (G : NumKind → Grammar) (bytes : List Byte) :
    ∀ (ops : List Op) (off : Nat), GoodScript (fun _ _ => True) G bytes ops off := by
  intro ops
  induction ops with
  | nil => intro _; trivial
  | cons op ops ih => intro off; exact ⟨fun _ _ _ => trivial, ih _⟩

end KV.FilePiece
