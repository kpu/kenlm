import Proofs.FilePieceBasic
/-! The window invariant and the effect of `Shift` (both backends). -/
namespace KV.FilePiece

/-- The clause of `Inv` on `last_space_` (index + 1): what `ReadNumber` needs to know about it relative to
`position_`.  `Shift` establishes it (`LS.compute`), moving `position_` forward keeps it (`LS.mono`). -/
def LS (win : List Byte) (pos ls1 : Nat) : Prop :=
  (ls1 ≤ pos ∧ ∀ b ∈ win.drop pos, isSpace b = false) ∨
  (pos < ls1 ∧ ls1 ≤ win.length ∧ isSpace (win.getD (ls1 - 1) 0) = true ∧ ∀ b ∈ win.drop ls1, isSpace b = false)

theorem LS.compute (win : List Byte) (pos : Nat) (hp : pos ≤ win.length) : LS win pos (computeLs1 win pos) := by
  unfold computeLs1
  cases h : lastIdx1 isSpace (win.drop pos) with
  | zero => left; exact ⟨Nat.le_refl _, lastIdx1_zero h⟩
  | succ n =>
    obtain ⟨h1, h2, h3⟩ := lastIdx1_pos h
    rw [List.length_drop] at h1
    refine Or.inr ⟨by omega, by omega, ?_, ?_⟩
    · rw [List.getD_eq_getElem?_getD, List.getElem?_drop] at h2
      rw [List.getD_eq_getElem?_getD]
      have : pos + (n + 1) - 1 = pos + n := by omega
      rw [this]; exact h2
    · rw [List.drop_drop] at h3
      exact h3

theorem LS.mono {win : List Byte} {pos pos' ls1 : Nat} (h : LS win pos ls1) (hp : pos ≤ pos') :
    LS win pos' ls1 := by
  rcases h with ⟨h1, h2⟩ | ⟨h1, h2, h3, h4⟩
  · left
    exact ⟨by omega, fun b hb => h2 b (mem_drop_of_le hp hb)⟩
  · by_cases hc : pos' < ls1
    · right; exact ⟨hc, h2, h3, h4⟩
    · left
      exact ⟨by omega, fun b hb => h4 b (mem_drop_of_le (by omega) hb)⟩

theorem LS.no_space {win : List Byte} {pos ls1 : Nat} (h : LS win pos ls1) (hls : ls1 ≤ pos) :
    ∀ b ∈ win.drop pos, isSpace b = false :=
  h.elim (·.2) fun a => absurd hls (Nat.not_le_of_lt a.1)

theorem LS.last_space {win : List Byte} {pos ls1 : Nat} (h : LS win pos ls1) (hls : ¬ ls1 ≤ pos) :
    ∃ v₁ sp v₂, win.drop pos = v₁ ++ sp :: v₂ ∧ isSpace sp = true ∧ v₁.length = ls1 - 1 - pos := by
  rcases h with ⟨a, _⟩ | ⟨h1, h2, h3, _⟩
  · exact absurd a hls
  · obtain ⟨j, hj⟩ : ∃ j, ls1 = pos + j + 1 := ⟨ls1 - 1 - pos, by omega⟩
    subst hj
    have hjl : j < (win.drop pos).length := by rw [List.length_drop]; omega
    refine ⟨(win.drop pos).take j, (win.drop pos)[j], (win.drop pos).drop (j + 1), ?_, ?_, ?_⟩
    · rw [← List.drop_eq_getElem_cons hjl, List.take_append_drop]
    · rw [List.getElem_drop]
      rw [List.getD_eq_getElem?_getD, Nat.add_sub_cancel, List.getElem?_eq_getElem (by omega)] at h3
      exact h3
    · rw [List.length_take, Nat.min_eq_left (Nat.le_of_lt hjl)]; omega

variable {env : Env} {st : St}

/-- The window invariant (`Shift` keeps it under `ShiftFixed`: `shift_post`).  `mmap_al` is what `MMapShift` relies on: a mapping starts on a page
boundary; once there is one (`started`) and it is not the final one, it is exactly `mapSize` long and ends strictly inside
the file, so the next request either repeats (`position_` still at the page remainder: the size doubles) or moves the
window start forward by whole pages, and either way the new window ends beyond the old one (`mmapShift_post`); before the
first `Shift` nothing is mapped, which the empty window at offset 0 stands for. -/
structure Inv (env : Env) (st : St) : Prop where
  page_pos : 0 < env.cfg.page
  pos_le : st.pos ≤ st.win.length
  in_range : st.mappedOffset + st.win.length ≤ env.bytes.length
  win_eq : st.win = (env.bytes.drop st.mappedOffset).take st.win.length
  atEnd_end : st.atEnd = true → st.mappedOffset + st.win.length = env.bytes.length
  map_big : env.cfg.page < st.mapSize
  read_off : st.mode = .read → st.readOff = st.mappedOffset + st.win.length ∧ st.win.length ≤ st.mapSize
  mmap_al : st.mode = .mmap → env.cfg.page ∣ st.mappedOffset ∧
      (st.started = true → st.atEnd = false →
        st.win.length = st.mapSize ∧ st.mappedOffset + st.win.length < env.bytes.length) ∧
      (st.started = false → st.win = [] ∧ st.pos = 0 ∧ st.mappedOffset = 0)
  ls : LS st.win st.pos st.ls1

def St.rest (env : Env) (st : St) : List Byte := env.bytes.drop st.offset

theorem St.rest_def (env : Env) (st : St) : st.rest env = env.bytes.drop st.offset := rfl

/-- termination measure of every loop that calls `Shift`: bytes of the input beyond the window, +1 until the
end has been seen, + (length + 2) while still in mmap mode (the fall back to read() happens at most once and
may throw the window away) -/
def mu (env : Env) (st : St) : Nat :=
  (if st.mode = .mmap then env.bytes.length + 2 else 0) +
  (env.bytes.length - (st.mappedOffset + st.win.length)) + (if st.atEnd then 0 else 1)

theorem take_drop_window (l : List Byte) (mo len pos : Nat) :
    ((l.drop mo).take len).drop pos = (l.drop (pos + mo)).take (len - pos) := by
  rw [List.drop_take, List.drop_drop]
  congr 2; omega

theorem Inv.visible_eq (h : Inv env st) :
    st.visible = (st.rest env).take (st.win.length - st.pos) := by
  unfold St.visible St.rest St.offset
  conv => lhs; rw [h.win_eq]
  exact take_drop_window _ _ _ _

theorem St.rest_length (env : Env) (st : St) : (st.rest env).length = env.bytes.length - st.offset :=
  List.length_drop

theorem St.visible_length (st : St) : st.visible.length = st.win.length - st.pos := List.length_drop

theorem Inv.visible_atEnd (h : Inv env st) (he : st.atEnd = true) :
    st.visible = st.rest env := by
  rw [h.visible_eq]
  apply List.take_of_length_le
  have := h.atEnd_end he
  have := h.pos_le
  rw [st.rest_length]; unfold St.offset; omega

theorem Inv.advance {env : Env} {st : St} (h : Inv env st) (n : Nat) (hn : n ≤ st.visible.length) :
    Inv env { st with pos := st.pos + n } := by
  have hv := st.visible_length
  have hp := h.pos_le
  exact { h with
    pos_le := by show st.pos + n ≤ st.win.length; omega
    mmap_al := by
      intro hm
      obtain ⟨a, b, c⟩ := h.mmap_al hm
      refine ⟨a, b, ?_⟩
      intro hs
      obtain ⟨c1, c2, c3⟩ := c hs
      refine ⟨c1, ?_, c3⟩
      show st.pos + n = 0
      have : st.win.length = 0 := by simp [c1]
      omega
    ls := h.ls.mono (by show st.pos ≤ st.pos + n; omega) }

theorem offset_advance (st : St) (n : Nat) : ({ st with pos := st.pos + n } : St).offset = st.offset + n := by
  simp [St.offset]; omega

structure ShiftPost (env : Env) (st st' : St) : Prop where
  inv : Inv env st'
  offset_eq : st'.offset = st.offset
  mu_lt : mu env st' < mu env st
  nonempty_or_end : st'.visible ≠ [] ∨ st'.atEnd = true

theorem ShiftPost.mono {st₀ st st' : St} (hp : ShiftPost env st st') (ho : st.offset = st₀.offset)
    (hmu : mu env st ≤ mu env st₀) : ShiftPost env st₀ st' :=
  ⟨hp.inv, hp.offset_eq.trans ho, Nat.lt_of_lt_of_le hp.mu_lt hmu, hp.nonempty_or_end⟩

theorem visible_common {st st' : St} (h : Inv env st) (h' : Inv env st') (ho : st'.offset = st.offset) :
    st'.visible.take st.visible.length = st.visible.take st'.visible.length := by
  have e : st'.rest env = st.rest env := by simp only [St.rest, ho]
  rw [st.visible_length, st'.visible_length, h.visible_eq, h'.visible_eq, e, List.take_take, List.take_take,
    Nat.min_comm]

/-! ### ReadShift

`ReadShift` first rearranges the buffer without reading (an exhausted buffer is restarted at its beginning;
a full one is doubled, or compacted by the memmove), then appends what one `Read` delivers.  The model's `readShift`
is one block of `let`s; `readRewind`, `readMakeRoom`, `readFill` below are its three stages as functions of their own
(`readShift_eq`, by `rfl`), so that each stage has its own preservation lemma over `ReadWin`. -/

/-- "Start at the beginning of the buffer if there's nothing useful in it." -/
def readRewind (st : St) : St :=
  if st.pos = st.win.length then
    { st with mappedOffset := st.mappedOffset + st.win.length, win := [], pos := 0 } else st

/-- a full buffer is doubled if `position_` is at its beginning, else compacted (`fixH`: whether the memmove adds the
discarded prefix to `mapped_offset_`; the lemmas are about `readMakeRoom true`) -/
def readMakeRoom (fixH : Bool) (st : St) : St :=
  if st.win.length = st.mapSize then
    if st.pos = 0 then { st with mapSize := 2 * st.mapSize }
    else { st with win := st.win.drop st.pos, pos := 0,
                   mappedOffset := if fixH then st.mappedOffset + st.pos else st.mappedOffset }
  else st

def readAppend (env : Env) (st : St) (n : Nat) : St :=
  { st with win := st.win ++ (env.bytes.drop st.readOff).take n,
            readOff := st.readOff + n, hdrLeft := st.hdrLeft - n,
            atEnd := st.atEnd || n == 0 }

/-- `UncompressedWithHeader::Read` hands out at most the rest of the header; afterwards the OS decides -/
def readFill (env : Env) (st : St) : St :=
  readAppend env st (chunk (fun _ => if st.hdrLeft > 0 then st.hdrLeft else env.orc st.readOff) st.readOff
    (st.mapSize - st.win.length) (env.bytes.length - st.readOff))

theorem readShift_eq (env : Env) (st : St) :
    readShift env st = readFill env (readMakeRoom env.cfg.fixH (readRewind st)) := rfl

/-- What `ReadShift` relies on and maintains: `Inv` for a window in read mode, without the clause on
`last_space_`, which `Shift` recomputes afterwards. -/
structure ReadWin (env : Env) (st : St) : Prop where
  mode : st.mode = .read
  pos_le : st.pos ≤ st.win.length
  in_range : st.mappedOffset + st.win.length ≤ env.bytes.length
  win_eq : st.win = (env.bytes.drop st.mappedOffset).take st.win.length
  atEnd_end : st.atEnd = true → st.mappedOffset + st.win.length = env.bytes.length
  map_big : env.cfg.page < st.mapSize
  read_off : st.readOff = st.mappedOffset + st.win.length
  len_le : st.win.length ≤ st.mapSize

theorem Inv.readWin (h : Inv env st) (hm : st.mode = .read) : ReadWin env st :=
  ⟨hm, h.pos_le, h.in_range, h.win_eq, h.atEnd_end, h.map_big, (h.read_off hm).1, (h.read_off hm).2⟩

theorem ReadWin.inv (hp : 0 < env.cfg.page) (h : ReadWin env st) :
    Inv env { st with ls1 := computeLs1 st.win st.pos } where
  page_pos := hp
  pos_le := h.pos_le
  in_range := h.in_range
  win_eq := h.win_eq
  atEnd_end := h.atEnd_end
  map_big := h.map_big
  read_off := fun _ => ⟨h.read_off, h.len_le⟩
  mmap_al := fun hm => absurd (h.mode.symm.trans hm) (by decide)
  ls := LS.compute _ _ h.pos_le

theorem ReadWin.mu_eq (h : ReadWin env st) :
    mu env st = (env.bytes.length - st.readOff) + (if st.atEnd then 0 else 1) := by
  unfold mu
  rw [if_neg (by rw [h.mode]; decide), h.read_off, Nat.zero_add]

theorem readRewind_spec (h : ReadWin env st) :
    ReadWin env (readRewind st) ∧ (readRewind st).offset = st.offset ∧
    (readRewind st).readOff = st.readOff ∧ (readRewind st).atEnd = st.atEnd := by
  unfold readRewind
  split
  · rename_i hc
    refine ⟨⟨h.mode, Nat.le_refl _, h.in_range, List.take_zero.symm, h.atEnd_end, h.map_big, h.read_off,
      Nat.zero_le _⟩, ?_, rfl, rfl⟩
    show 0 + (st.mappedOffset + st.win.length) = st.pos + st.mappedOffset
    omega
  · exact ⟨h, rfl, rfl, rfl⟩

theorem readMakeRoom_spec (h : ReadWin env st) :
    ReadWin env (readMakeRoom true st) ∧ (readMakeRoom true st).offset = st.offset ∧
    (readMakeRoom true st).readOff = st.readOff ∧ (readMakeRoom true st).atEnd = st.atEnd ∧
    (readMakeRoom true st).win.length < (readMakeRoom true st).mapSize := by
  have hpos := h.pos_le
  have hir := h.in_range
  have hmb := h.map_big
  have hle := h.len_le
  unfold readMakeRoom
  split
  · rename_i hfull
    split
    · have h2 : st.mapSize ≤ 2 * st.mapSize := Nat.le_mul_of_pos_left _ (by decide)
      refine ⟨{ h with map_big := Nat.lt_of_lt_of_le hmb h2, len_le := Nat.le_trans hle h2 }, rfl, rfl, rfl, ?_⟩
      show st.win.length < 2 * st.mapSize; omega
    · -- the memmove: the window now starts at `position_` and ends where it ended
      have hlen : (st.win.drop st.pos).length = st.win.length - st.pos := List.length_drop
      have hend : st.mappedOffset + st.pos + (st.win.drop st.pos).length = st.mappedOffset + st.win.length := by
        omega
      refine ⟨⟨h.mode, Nat.zero_le _, ?_, ?_, ?_, hmb, ?_, ?_⟩, ?_, rfl, rfl, ?_⟩
      · show st.mappedOffset + st.pos + (st.win.drop st.pos).length ≤ _
        rw [hend]; exact hir
      · show st.win.drop st.pos = (env.bytes.drop (st.mappedOffset + st.pos)).take (st.win.drop st.pos).length
        conv => lhs; rw [h.win_eq]
        rw [take_drop_window, hlen, Nat.add_comm]
      · intro he
        show st.mappedOffset + st.pos + (st.win.drop st.pos).length = _
        rw [hend]; exact h.atEnd_end he
      · show st.readOff = st.mappedOffset + st.pos + (st.win.drop st.pos).length
        rw [hend]; exact h.read_off
      · show (st.win.drop st.pos).length ≤ st.mapSize
        rw [hlen]; exact Nat.le_trans (Nat.sub_le _ _) hle
      · show 0 + (st.mappedOffset + st.pos) = st.pos + st.mappedOffset
        rw [Nat.zero_add, Nat.add_comm]
      · show (st.win.drop st.pos).length < st.mapSize
        omega
  · rename_i hfull; exact ⟨h, rfl, rfl, rfl, Nat.lt_of_le_of_ne hle hfull⟩

theorem readAppend_post (hp : 0 < env.cfg.page) (h : ReadWin env st) (he : st.atEnd = false)
    {n : Nat} (hroom : st.win.length + n ≤ st.mapSize) (havail : st.readOff + n ≤ env.bytes.length)
    (hzero : n = 0 → env.bytes.length ≤ st.readOff) :
    ShiftPost env st { readAppend env st n with
      ls1 := computeLs1 (readAppend env st n).win (readAppend env st n).pos } := by
  have hpos := h.pos_le
  have hro := h.read_off
  have hlen : (st.win ++ (env.bytes.drop st.readOff).take n).length = st.win.length + n := by
    rw [List.length_append, List.length_take, List.length_drop, Nat.min_eq_left (Nat.le_sub_of_add_le' havail)]
  have hw : ReadWin env (readAppend env st n) := by
    refine ⟨h.mode, ?_, ?_, ?_, ?_, h.map_big, ?_, ?_⟩
    · show st.pos ≤ (st.win ++ _).length; rw [hlen]; exact Nat.le_trans hpos (Nat.le_add_right _ _)
    · show st.mappedOffset + (st.win ++ _).length ≤ _; rw [hlen, ← Nat.add_assoc, ← hro]; exact havail
    · show st.win ++ _ = (env.bytes.drop st.mappedOffset).take (st.win ++ _).length
      rw [hlen]
      conv => lhs; rw [h.win_eq, hro, ← List.drop_drop]
      exact (List.take_add ..).symm
    · intro ha
      have hn : n = 0 := by
        have : (st.atEnd || n == 0) = true := ha
        simpa [he] using this
      have := hzero hn
      show st.mappedOffset + (st.win ++ _).length = _; omega
    · show st.readOff + n = st.mappedOffset + (st.win ++ _).length; rw [hlen, hro, Nat.add_assoc]
    · show (st.win ++ _).length ≤ st.mapSize; rw [hlen]; exact hroom
  refine ⟨hw.inv hp, rfl, ?_, ?_⟩
  · show mu env (readAppend env st n) < mu env st
    rw [hw.mu_eq, h.mu_eq]
    show env.bytes.length - (st.readOff + n) + (if (st.atEnd || n == 0) = true then 0 else 1) < _
    rw [he]
    by_cases hz : n = 0
    · subst hz; simp
    · simp [hz]; omega
  · by_cases hz : n = 0
    · right; show (st.atEnd || n == 0) = true; simp [hz]
    · left
      show (st.win ++ (env.bytes.drop st.readOff).take n).drop st.pos ≠ []
      apply List.ne_nil_of_length_pos
      rw [List.length_drop, hlen]
      exact Nat.sub_pos_of_lt (Nat.lt_of_le_of_lt hpos (Nat.lt_add_of_pos_right (Nat.pos_of_ne_zero hz)))

theorem readFill_post (hp : 0 < env.cfg.page) (h : ReadWin env st) (he : st.atEnd = false)
    (hl : st.win.length < st.mapSize) :
    ShiftPost env st { readFill env st with ls1 := computeLs1 (readFill env st).win (readFill env st).pos } := by
  have hro : st.readOff ≤ env.bytes.length := h.read_off ▸ h.in_range
  refine readAppend_post hp h he (Nat.add_le_of_le_sub' h.len_le (chunk_le ..).1)
    (Nat.add_le_of_le_sub' hro (chunk_le ..).2) (fun hz => ?_)
  rcases (chunk_eq_zero_iff ..).mp hz with hz | hz <;> omega

theorem readShift_post (hfix : env.cfg.fixH = true) (hp : 0 < env.cfg.page)
    (h : ReadWin env st) (he : st.atEnd = false) :
    ShiftPost env st { readShift env st with ls1 := computeLs1 (readShift env st).win (readShift env st).pos } := by
  obtain ⟨h1, o1, r1, e1⟩ := readRewind_spec h
  obtain ⟨h2, o2, r2, e2, l2⟩ := readMakeRoom_spec h1
  rw [readShift_eq, hfix]
  exact (readFill_post hp h2 (by rw [e2, e1, he]) l2).mono (o2.trans o1)
    (by rw [h2.mu_eq, h.mu_eq, r2, r1, e2, e1]; exact Nat.le_refl _)

def ShiftFixed (env : Env) : Prop := env.cfg.fixH = true ∧ env.cfg.fixF = true

/-- the state after a successful `mmap` of `L` bytes at file offset `mo`, `position_` being `g` bytes in: what the two
successful branches of the model's `mmapShift` build (`mmapShift_eq`), so that one lemma (`mapped_post`) serves both -/
def mapped (env : Env) (st : St) (M mo L g : Nat) (e : Bool) : St :=
  { st with mapSize := M, mappedOffset := mo, win := (env.bytes.drop mo).take L,
            pos := g, atEnd := e, started := true }

theorem mmapShift_eq (env : Env) (st : St) (g M' : Nat) (hg : g = st.offset % env.cfg.page)
    (hM : M' = if st.pos = g ∧ st.started then 2 * st.mapSize else st.mapSize) :
    mmapShift env st =
      if env.bytes.length - (st.offset - g) = 0 ∨ env.mmapFail (st.offset - g) = true then
        readShift env (transitionToRead
          { st with mapSize := M', atEnd := false,
                    mappedOffset := (if env.cfg.fixF then st.offset else st.mappedOffset) } st.offset)
      else if M' ≥ env.bytes.length - (st.offset - g) then
        mapped env st M' (st.offset - g) (env.bytes.length - (st.offset - g)) g true
      else mapped env st M' (st.offset - g) M' g false := by
  subst hg hM; rfl

theorem mapped_post (h : Inv env st) (hm : st.mode = .mmap) (he : st.atEnd = false)
    {M mo L g : Nat} {e : Bool} (hdvd : env.cfg.page ∣ mo) (hoff : g + mo = st.offset) (hgL : g < L)
    (hir : mo + L ≤ env.bytes.length) (hM : env.cfg.page < M)
    (hend : e = true → mo + L = env.bytes.length)
    (hmid : e = false → L = M ∧ mo + L < env.bytes.length ∧ st.mappedOffset + st.win.length < mo + L) :
    ShiftPost env st { mapped env st M mo L g e with
      ls1 := computeLs1 (mapped env st M mo L g e).win (mapped env st M mo L g e).pos } := by
  have hlen : ((env.bytes.drop mo).take L).length = L := by
    rw [List.length_take, List.length_drop, Nat.min_eq_left (Nat.le_sub_of_add_le' hir)]
  refine ⟨?_, hoff, ?_, Or.inl ?_⟩
  · refine { page_pos := h.page_pos, pos_le := ?_, in_range := ?_, win_eq := ?_, atEnd_end := ?_, map_big := hM,
             read_off := ?_, mmap_al := ?_, ls := LS.compute _ _ ?_ }
    · show g ≤ ((env.bytes.drop mo).take L).length; rw [hlen]; exact Nat.le_of_lt hgL
    · show mo + ((env.bytes.drop mo).take L).length ≤ _; rw [hlen]; exact hir
    · show _ = (env.bytes.drop mo).take ((env.bytes.drop mo).take L).length; rw [hlen]; rfl
    · intro ha; show mo + ((env.bytes.drop mo).take L).length = _; rw [hlen]; exact hend ha
    · intro hc; exact absurd (hm.symm.trans hc) (by decide)
    · intro _
      refine ⟨hdvd, fun _ ha => ?_, fun hc => absurd (show true = false from hc) (by decide)⟩
      show ((env.bytes.drop mo).take L).length = M ∧ mo + ((env.bytes.drop mo).take L).length < _
      rw [hlen]; exact ⟨(hmid ha).1, (hmid ha).2.1⟩
    · show g ≤ ((env.bytes.drop mo).take L).length; rw [hlen]; exact Nat.le_of_lt hgL
  · show (if st.mode = .mmap then _ else 0) + (env.bytes.length - (mo + ((env.bytes.drop mo).take L).length)) +
        (if e = true then 0 else 1) <
      (if st.mode = .mmap then _ else 0) + (env.bytes.length - (st.mappedOffset + st.win.length)) +
        (if st.atEnd = true then 0 else 1)
    rw [hlen, he, hm]
    cases e with
    | true => have := hend rfl; simp only [↓reduceIte, Bool.false_eq_true]; omega
    | false => have := hmid rfl; simp only [↓reduceIte, Bool.false_eq_true]; omega
  · show ((env.bytes.drop mo).take L).drop g ≠ []
    apply List.ne_nil_of_length_pos
    rw [List.length_drop, hlen]; exact Nat.sub_pos_of_lt hgL

/-- Plan: name the page remainder `g`, the new map size `M'` and the new window start `mo = Offset() − g` as variables
(with `g ≤ position_`, `page ∣ mo`, `g + mo = Offset()`, `mapSize ≤ M'`), so that the arithmetic below is about five
naturals and not about `%` and truncated subtraction; then the three branches of `mmapShift_eq`: the fall back to read()
is `readShift_post` on a fresh empty buffer, the two mapped windows are `mapped_post`. -/
theorem mmapShift_post (hfix : ShiftFixed env) (h : Inv env st)
    (hm : st.mode = .mmap) (he : st.atEnd = false) :
    ShiftPost env st { mmapShift env st with ls1 := computeLs1 (mmapShift env st).win (mmapShift env st).pos } := by
  obtain ⟨hfixH, hfixF⟩ := hfix
  obtain ⟨hdvd, hst, hns⟩ := h.mmap_al hm
  have hpp := h.page_pos
  have hmb := h.map_big
  have hpos := h.pos_le
  have hir := h.in_range
  have hg_lt : st.offset % env.cfg.page < env.cfg.page := Nat.mod_lt _ hpp
  have hg_le_pos : st.offset % env.cfg.page ≤ st.pos := by
    obtain ⟨q, hq⟩ := hdvd
    have : st.offset % env.cfg.page = st.pos % env.cfg.page := by
      unfold St.offset; rw [hq, Nat.add_mul_mod_self_left]
    rw [this]; exact Nat.mod_le _ _
  have hmo_dvd : env.cfg.page ∣ st.offset - st.offset % env.cfg.page := Nat.dvd_sub_mod _
  have hoff : st.offset = st.pos + st.mappedOffset := rfl
  generalize hg : st.offset % env.cfg.page = g at hg_lt hg_le_pos hmo_dvd
  generalize hM : (if st.pos = g ∧ st.started then 2 * st.mapSize else st.mapSize) = M'
  have hMge : st.mapSize ≤ M' := by
    subst hM; split
    · exact Nat.le_mul_of_pos_left _ (by decide)
    · exact Nat.le_refl _
  rw [mmapShift_eq env st g M' hg.symm hM.symm]
  clear hg hdvd -- so that `omega` below sees the five naturals only, not `%`
  generalize hD : st.offset = D at *
  have hgD : g ≤ D := hoff ▸ Nat.le_trans hg_le_pos (Nat.le_add_right _ _)
  generalize hmo : D - g = mo at *
  replace hmo : g + mo = D := by rw [← hmo]; exact Nat.add_sub_cancel' hgD
  have hMp : env.cfg.page < M' := Nat.lt_of_lt_of_le hmb hMge
  by_cases hA : env.bytes.length - mo = 0 ∨ env.mmapFail mo = true
  · -- fall back to read(): the window is thrown away, the reader continues at `desired_begin`
    rw [if_pos hA, hfixF, if_pos rfl]
    have hDle : D ≤ env.bytes.length := by omega
    have hX : ReadWin env (transitionToRead { st with mapSize := M', atEnd := false, mappedOffset := D } D) :=
      ⟨rfl, Nat.le_refl _, hDle, List.take_zero.symm, fun hc => absurd (show false = true from hc) (by decide),
       hMp, rfl, Nat.zero_le _⟩
    refine (readShift_post hfixH hpp hX rfl).mono ((Nat.zero_add D).trans hD.symm) ?_
    rw [hX.mu_eq]
    show env.bytes.length - D + 1 ≤ (if st.mode = .mmap then env.bytes.length + 2 else 0) + _ + _
    rw [hm, if_pos rfl]; omega
  · rw [if_neg hA]
    have hmolt : mo < env.bytes.length := Nat.lt_of_sub_pos (Nat.pos_of_ne_zero fun hc => hA (Or.inl hc))
    obtain ⟨hDlt, hgrow⟩ : D < env.bytes.length ∧ st.mappedOffset + st.win.length < mo + M' := by
      cases hs : st.started with
      | false =>
        obtain ⟨hw, hp0, hmo0⟩ := hns hs
        rw [hoff, hp0, hmo0, hw]
        exact ⟨Nat.lt_of_le_of_lt (Nat.zero_le _) hmolt,
          Nat.lt_of_lt_of_le (Nat.lt_trans hpp hMp) (Nat.le_add_left ..)⟩
      | true =>
        obtain ⟨hl, hlt⟩ := hst hs he
        have hM2 : st.pos ≠ g ∨ M' = 2 * st.mapSize := by
          by_cases hc : st.pos = g
          · right; rw [← hM, if_pos ⟨hc, hs⟩]
          · left; exact hc
        constructor <;> omega
    have hoff' : g + mo = st.offset := hmo.trans hD.symm
    have hfull := Nat.add_sub_cancel' (Nat.le_of_lt hmolt)
    by_cases hB : M' ≥ env.bytes.length - mo
    · rw [if_pos hB]
      exact mapped_post h hm he hmo_dvd hoff' (Nat.lt_sub_of_add_lt (by rw [hmo]; exact hDlt))
        (Nat.le_of_eq hfull) hMp (fun _ => hfull) (fun hc => absurd hc (by decide))
    · rw [if_neg hB]
      have hlt : mo + M' < env.bytes.length := Nat.add_lt_of_lt_sub' (Nat.lt_of_not_ge hB)
      exact mapped_post h hm he hmo_dvd hoff' (Nat.lt_trans hg_lt hMp) (Nat.le_of_lt hlt) hMp
        (fun hc => absurd hc (by decide)) (fun _ => ⟨rfl, hlt, hgrow⟩)

theorem shift_post (hfix : ShiftFixed env) (h : Inv env st) (he : st.atEnd = false) :
    ∃ st', shift env st = .ok st' ∧ ShiftPost env st st' := by
  unfold shift
  simp only [he, Bool.false_eq_true, ↓reduceIte]
  cases hm : st.mode with
  | mmap => exact ⟨_, rfl, mmapShift_post hfix h hm he⟩
  | read => exact ⟨_, rfl, readShift_post hfix.1 h.page_pos (h.readWin hm) he⟩

theorem shift_atEnd (he : st.atEnd = true) : shift env st = .error .eof := by
  simp [shift, he]

end KV.FilePiece
