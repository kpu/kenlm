import Model.PCQueue
/-! `WaitSemaphore` is transparent to EINTR; interrupts are stutter steps of the PCQueue model. Core Lean only. -/
namespace KV.PCQueue

theorem waitSemaphore_eintr_prefix (k c : Nat) (os : List WaitOutcome) :
    waitSemaphore c (List.replicate k .eintr ++ os) = waitSemaphore c os := by
  induction k with
  | zero => rfl
  | succ k ih => rw [List.replicate_succ, List.cons_append]; simp only [waitSemaphore]; exact ih

theorem waitSemaphore_returns (k c : Nat) (hc : 0 < c) (os : List WaitOutcome) :
    waitSemaphore c (List.replicate k .eintr ++ .taken :: os) = some (c - 1, os) := by
  rw [waitSemaphore_eintr_prefix]
  have : c ≠ 0 := by omega
  simp [waitSemaphore, osWait, this]

theorem waitSemaphore_waiting (k c : Nat) : waitSemaphore c (List.replicate k .eintr) = none := by
  have := waitSemaphore_eintr_prefix k c []
  rw [List.append_nil] at this
  rw [this]; rfl

theorem waitSemaphore_some {c c' : Nat} {l rest : List WaitOutcome} (h : waitSemaphore c l = some (c', rest)) :
    ∃ k, l = List.replicate k .eintr ++ .taken :: rest ∧ 0 < c ∧ c' = c - 1 := by
  induction l with
  | nil => simp [waitSemaphore] at h
  | cons o os ih =>
    cases o with
    | taken =>
      simp only [waitSemaphore, osWait] at h
      by_cases e : c = 0
      · simp [e] at h
      · simp [e] at h
        exact ⟨0, by simp [h.2], by omega, h.1.symm⟩
    | eintr =>
      simp only [waitSemaphore] at h
      obtain ⟨k, hk, h1, h2⟩ := ih h
      exact ⟨k + 1, by rw [List.replicate_succ, List.cons_append, hk], h1, h2⟩

theorem interrupt_eq {s s' : State} {t : Nat} (h : interrupt s t = some s') : s' = s := by
  unfold interrupt at h
  cases hth : s.threads[t]? with
  | none => simp [hth] at h
  | some th =>
    simp only [hth] at h
    by_cases e : th.pc = .wait
    · simp [e] at h; exact h.symm
    · simp [e] at h

theorem reachI_reach {s0 s : State} (h : ReachI s0 s) : Reach s0 s := by
  induction h with
  | init => exact .init
  | step _ hs ih => exact .step ih hs
  | intr _ hi ih => rw [interrupt_eq hi]; exact ih

theorem reach_reachI {s0 s : State} (h : Reach s0 s) : ReachI s0 s := by
  induction h with
  | init => exact .init
  | step _ hs ih => exact .step ih hs

end KV.PCQueue
