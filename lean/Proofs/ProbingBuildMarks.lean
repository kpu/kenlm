import Proofs.ProbingBuildLists
/-! The two marks a payload receives from the keys of the next order: the sign bit of `prob` is cleared when a longer key ends
in it (`clr`, "extends left"), the extension bit is set when a longer key has it as context (`setExtension`).  `markW w c x` is `w`
with both marks under the conditions `c`, `x`; `SetExtension` is the second mark as soon as a non-zero back-off has its extension
bit already (`XrOK`, `setExtension_eq`).  `er`/`upTo` compare payloads up to the field `rest`. -/
namespace KV.ProbingBuild

def clr (w : W) : W := { w with neg := false }

def markW (w : W) (c x : Bool) : W := { w with neg := w.neg && !c, xr := w.xr || x }

/-- a non-zero back-off has its extension bit: then `SetExtension` only sets that bit -/
def XrOK (w : W) : Prop := w.backoff ≠ 0 → w.xr = true

/-- init-consistency of the unigram array: `XrOK` of every slot -/
def UniOK (u0 : List W) : Prop := ∀ w, (u0.getD w default).backoff ≠ 0 → (u0.getD w default).xr = true

theorem setExtension_of_xr (w : W) (h : XrOK w) : setExtension w = { w with xr := true } := by
  unfold setExtension
  by_cases hb : w.backoff = 0
  · rw [if_pos hb]
  · rw [if_neg hb]; have := h hb; cases w; simp only at this; subst this; rfl

theorem mark_ite (w : W) (pA pC : Prop) [Decidable pA] [Decidable pC] (hx : pC → XrOK w) :
    (if pC then setExtension (if pA then clr w else w) else if pA then clr w else w) = markW w (decide pA) (decide pC) := by
  unfold markW
  by_cases hA : pA <;> by_cases hC : pC
  · simp only [hA, hC, if_true, setExtension_of_xr (clr w) (hx hC)]; simp [clr]
  · simp only [hA, hC, if_true, if_false]; simp [clr]
  · simp only [hA, hC, if_true, if_false, setExtension_of_xr w (hx hC)]; simp
  · simp only [hA, hC, if_false]; simp

theorem markW_ff (w : W) : markW w false false = w := by cases w; simp [markW]

theorem markW_markW (w : W) (c x c' x' : Bool) : markW (markW w c x) c' x' = markW w (c || c') (x || x') := by
  simp only [markW, Bool.not_or, Bool.and_assoc, Bool.or_assoc]

theorem clr_eq (w : W) : clr w = markW w true false := by cases w; simp [clr, markW]

theorem setExtension_eq (w : W) (h : XrOK w) : setExtension w = markW w false true :=
  mark_ite w False True fun _ => h

theorem xrOK_markW (w : W) (c x : Bool) (h : XrOK w) : XrOK (markW w c x) := by
  intro hb
  have := h hb
  simp only [markW] at this ⊢; simp [this]

theorem setExtension_rest (w : W) : (setExtension w).rest = w.rest := by
  unfold setExtension; split <;> rfl

theorem setExtension_backoff (w : W) : (setExtension w).backoff = w.backoff := by
  unfold setExtension; split <;> rfl

theorem W.ext' (x y : W) (h1 : x.mag = y.mag) (h2 : x.neg = y.neg) (h3 : x.backoff = y.backoff) (h4 : x.xr = y.xr)
    (h5 : x.rest = y.rest) : x = y := by
  cases x; cases y; simp_all

def er (w : W) : W := { w with rest := 0 }

theorem er_fields (w w' : W) (h : er w = er w') : w.mag = w'.mag ∧ w.neg = w'.neg ∧ w.backoff = w'.backoff ∧ w.xr = w'.xr := by
  cases w; cases w'; simp [er] at h; exact h

theorem er_of_fields (w w' : W) (h1 : w.mag = w'.mag) (h2 : w.neg = w'.neg) (h3 : w.backoff = w'.backoff) (h4 : w.xr = w'.xr) :
    er w = er w' := by
  cases w; cases w'; simp_all [er]

theorem W.ext_er (x y : W) (h : er x = er y) (hr : x.rest = y.rest) : x = y :=
  have ⟨h1, h2, h3, h4⟩ := er_fields x y h
  W.ext' x y h1 h2 h3 h4 hr

theorem er_setExtension (w w' : W) (h : er w = er w') : er (setExtension w) = er (setExtension w') := by
  obtain ⟨h1, h2, h3, _⟩ := er_fields w w' h
  unfold setExtension
  rw [h3]
  split
  · exact er_of_fields _ _ h1 h2 rfl rfl
  · exact h

theorem er_clr (w w' : W) (h : er w = er w') : er (clr w) = er (clr w') := by
  obtain ⟨h1, _, h3, h4⟩ := er_fields w w' h
  exact er_of_fields _ _ h1 rfl h3 h4

theorem er_markW (w w' : W) (c x : Bool) (h : er w = er w') : er (markW w c x) = er (markW w' c x) := by
  obtain ⟨h1, h2, h3, h4⟩ := er_fields w w' h
  exact er_of_fields _ _ h1 (by simp only [markW, h2]) h3 (by simp only [markW, h4])

/-- what the key-level statements compare: under `MaxRestBuild` all fields but `rest` (which has statements of its own), under
`NoRestBuild` the payload itself -/
def upTo (rest : Bool) (w : W) : W := if rest then er w else w

theorem markExtends_rest (w : W) (lr : Rat) : (markExtends true w lr).1 = { w with neg := false, rest := max w.rest lr } := by
  unfold markExtends
  simp only [if_true]
  by_cases h : w.rest ≥ lr
  · rw [if_pos h, rat_max_eq_left h]
  · rw [if_neg h, rat_max_comm, rat_max_eq_left (Rat.le_of_lt (Rat.not_le.mp h))]

theorem markExtends_rest_changed (w : W) (lr : Rat) : (markExtends true w lr).2 = !decide (w.rest ≥ lr) := by
  unfold markExtends
  simp only [if_true]
  by_cases h : w.rest ≥ lr <;> simp [h]

theorem upTo_markExtends (rest : Bool) (w : W) (lr : Rat) : upTo rest (markExtends rest w lr).1 = upTo rest (clr w) := by
  cases rest
  · rfl
  · show er (markExtends true w lr).1 = er (clr w)
    unfold markExtends
    simp only [if_true]
    split <;> rfl

theorem upTo_setRest (rest : Bool) (w : W) : upTo rest (setRest rest w) = upTo rest w := by
  cases rest <;> rfl

theorem upTo_clr {rest : Bool} {w w' : W} (h : upTo rest w = upTo rest w') : upTo rest (clr w) = upTo rest (clr w') := by
  cases rest
  · exact congrArg clr h
  · exact er_clr w w' h

theorem upTo_setExtension {rest : Bool} {w w' : W} (h : upTo rest w = upTo rest w') :
    upTo rest (setExtension w) = upTo rest (setExtension w') := by
  cases rest
  · exact congrArg setExtension h
  · exact er_setExtension w w' h

theorem upTo_markW {rest : Bool} {w w' : W} (c x : Bool) (h : upTo rest w = upTo rest w') :
    upTo rest (markW w c x) = upTo rest (markW w' c x) := by
  cases rest
  · exact congrArg (markW · c x) h
  · exact er_markW w w' c x h

end KV.ProbingBuild
