import Proofs.KNC07Stages
import Proofs.ChainContent
/-!
A stage of lmplz as the worker of a C17 chain.

Run as the worker of a chain (`liftStage`: blocks of records travel as opaque numbers under a `BlockCode`), a per-block state
transformer hands on exactly `runBlocks step init blocks`, for every number of chain blocks and every schedule
(`stage_on_chain`, from `KV.Chain.RInv.pipeline_out`); a chain source's blocks reach position 1 unchanged (`source_delivers`).
`SingleChainsDeliver` states, for the four single chains of step 3, that the concatenation of what the worker hands on is the
stage function of `Model/KN.lean` on the concatenated input.  `seenAt` reads C17's own chain (`Chain.init`, the stateless
workers `xformT`) the same way, for `KV.C07.chain_stream_deterministic`.
-/
namespace KV.C07
open KV.KN KV.KN.Blocks KV.KN.ChainStages KV.KN.Interp KV.Chain

section lift
variable {σ β γ : Type}

/-- stage 1 of the chain runs `step` on decoded blocks (state kept by the worker's loop); further
workers, if any, pass the blocks on unchanged -/
def liftStage (cβ : BlockCode β) (cγ : BlockCode γ) (step : Stage σ β γ) (init : σ) : Transducers σ where
  init := fun _ => init
  step := fun i s v => if i = 1 then ((step s (cβ.dec v)).1, cγ.enc (step s (cβ.dec v)).2) else (s, v)

theorem liftStage_run (cβ : BlockCode β) (cγ : BlockCode γ) (step : Stage σ β γ) (init : σ)
    (blocks : List (List β)) (s : σ) :
    (liftStage cβ cγ step init).run 1 s (blocks.map cβ.enc) = (runBlocks step s blocks).map cγ.enc := by
  induction blocks generalizing s with
  | nil => rfl
  | cons b bs ih =>
    have := ih (step s b).1
    simp only [liftStage] at this
    simp only [List.map_cons, Transducers.run, runBlocks, liftStage, if_true, cβ.dec_enc]
    rw [this]

theorem decode_stream (cβ : BlockCode β) (bs : List (List β)) :
    (valsOf ((bs.map cβ.enc).map Item.val ++ [Item.poison])).map cβ.dec = bs := by
  rw [valsOf_map_val, List.map_map, show cβ.dec ∘ cβ.enc = id from funext cβ.dec_enc, List.map_id]

theorem stage_on_chain (cβ : BlockCode β) (cγ : BlockCode γ) (step : Stage σ β γ) (init : σ)
    (blocks : List (List β)) {b m : Nat} {c : Chain} (hb : 0 < b) (hm : 2 ≤ m)
    (hr : Chain.Reach (Chain.initT b m (blocks.map cβ.enc) (liftStage cβ cγ step init).toStageFn.tr) c)
    (hfin : c.main = .finished) :
    (valsOf (c.st 1).out).map cγ.dec = runBlocks step init blocks
    ∧ (c.st 1).out = ((runBlocks step init blocks).map cγ.enc).map Item.val ++ [Item.poison]
    ∧ (c.st 2).inp = (c.st 1).out := by
  obtain ⟨hout, hin⟩ := (@rinv_reach (liftStage cβ cγ step init).toStageFn b m _ c hb (by omega) hr).pipeline_out (liftStage cβ cγ step init) hfin 1 (by omega)
  have hp : (liftStage cβ cγ step init).pipeline (blocks.map cβ.enc) 1 = (runBlocks step init blocks).map cγ.enc := by
    show (liftStage cβ cγ step init).run 1 init (blocks.map cβ.enc) = _
    exact liftStage_run cβ cγ step init blocks init
  rw [hp] at hout
  exact ⟨by rw [hout, decode_stream], hout, hin⟩

end lift

theorem source_delivers {τ β : Type} (T : Transducers τ) (cβ : BlockCode β) (blocks : List (List β))
    {b m : Nat} {c : Chain} (hb : 0 < b) (hm : 1 ≤ m)
    (hr : Chain.Reach (Chain.initT b m (blocks.map cβ.enc) T.toStageFn.tr) c) (hfin : c.main = .finished) :
    (valsOf (c.st 1).inp).map cβ.dec = blocks := by
  obtain ⟨hout, hinp⟩ := (@rinv_reach T.toStageFn b m _ c hb hm hr).pipeline_out T hfin 0 (by omega)
  rw [hinp, hout]
  exact decode_stream cβ blocks

/-- **What is proved about the single chains of the pipeline**, for every coding of the record blocks,
every number `b ≥ 1` of chain blocks, every chain length `m ≥ 2`, every block partition `blocks`
produced upstream and EVERY schedule: once `Chain::Wait` has returned, the concatenation of the blocks the
worker handed on is the stage function of `Model/KN.lean` applied to the concatenation of the blocks it
received: `OnlyGamma` on the gamma chain of an order, `CollapseStream` on the order-`N` chain (a permutation; the consumer is
a sort), `MergeRight` over `PruneNGramStream` on an order's primary chain (the sums stream of the adder chain in the initial
state), for order ≥ 2 and for order 1. -/
def SingleChainsDeliver : Prop :=
  (∀ (cG : BlockCode Gam) (cO : BlockCode (Gram × Rat)) (pruning : Bool) (blocks : List (List Gam))
      (b m : Nat) (c : Chain), 0 < b → 2 ≤ m →
      Chain.Reach (Chain.initT b m (blocks.map cG.enc) (liftStage cG cO (onlyGammaBlock pruning) ()).toStageFn.tr) c →
      c.main = .finished →
      ((valsOf (c.st 1).out).map cO.dec).flatten = blocks.flatten.map (onlyGamma pruning))
  ∧ (∀ (cR : BlockCode (Gram × Nat)) (blocks : List (List (Gram × Nat))) (b m : Nat) (c : Chain), 0 < b → 2 ≤ m →
      Chain.Reach (Chain.initT b m (blocks.map cR.enc) (liftStage cR cR (collapseStage bosAt1) ()).toStageFn.tr) c →
      c.main = .finished →
      (((valsOf (c.st 1).out).map cR.dec).flatten).Perm (blocks.flatten.filter fun e => !bosAt1 e))
  ∧ (∀ (cE : BlockCode Emit) (cU : BlockCode Uninterp) (d : Disc) (es : List Emit) (blocks : List (List Emit)),
      blocks.flatten = es → ∀ (b m : Nat) (c : Chain), 0 < b → 2 ≤ m →
      Chain.Reach (Chain.initT b m (blocks.map cE.enc)
        (liftStage cE cU (mrBlock d) ⟨(ctxRuns es).map (addRight d), none⟩).toStageFn.tr) c →
      c.main = .finished →
      ((valsOf (c.st 1).out).map cU.dec).flatten = ((ctxRuns es).flatMap (mergeRight d)).filter (·.keep))
  ∧ (∀ (cE : BlockCode Emit) (cU : BlockCode Uninterp) (iu : Bool) (d : Disc) (es : List Emit) (blocks : List (List Emit)),
      es ≠ [] → (∀ e ∈ es, e.gram.tail = []) → blocks.flatten = es → ∀ (b m : Nat) (c : Chain), 0 < b → 2 ≤ m →
      Chain.Reach (Chain.initT b m (blocks.map cE.enc)
        (liftStage cE cU (mrUnigramBlock iu d) (addRight d es)).toStageFn.tr) c →
      c.main = .finished →
      ((valsOf (c.st 1).out).map cU.dec).flatten = ((ctxRuns es).flatMap (mergeRightUnigram iu d)).filter (·.keep))

/-- content of a block when it reaches stage `k+1`: the source's value passed through the workers
`1 … k` (`xform j` is what worker thread `j` does to a block in C17's model) -/
def seenAt : Nat → Nat → Nat
  | 0, v => v
  | k + 1, v => xform (k + 2) (seenAt k v)

theorem xformT_pipeline (data : List Nat) (k : Nat) : xformT.pipeline data k = data.map (seenAt k) := by
  induction k with
  | zero => exact (List.map_id' data).symm
  | succ k ih =>
    rw [Transducers.pipeline, ih]
    exact List.rec rfl (fun v _ ih' => congrArg (xform (k + 2) (seenAt k v) :: ·) ih') data

end KV.C07
