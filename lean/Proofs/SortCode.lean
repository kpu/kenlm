import Proofs.SortExt
/-! C16: the code's own merge plan (`codeSort`) is one of the plans `extSort` quantifies over: whatever a stage of the
arity logic returns as `.ok` is what the plan-level stage returns for some plan (`…_refines`).  `firstCount`, `LazyCond`,
`readingMem` and `mergeRet` name the pieces of `codeGroups`, `codeMergeLoop` and `codeMerge` that the statements speak
of. -/
namespace KV.Sort
open List

variable {α : Type} {lt : α → α → Bool} {comb : α → α → Option α} {pick : Pick α} {cfg : Cfg} {lazyMem : Nat}

/-- the model's `dataSize cfg runs` is `(szs cfg.entrySize runs).sum` by definition -/
abbrev szs (E : Nat) (runs : List (List α)) : List Nat := runs.map (fun r => r.length * E)

/-- how many runs `MergingReader::Run` pushes into its first queue -/
def firstCount (E B M : Nat) (runs : List (List α)) : Nat :=
  groupCount (perBuffer E B M runs.length) M 0 (szs E runs)

theorem codeGroups_nil (E B M : Nat) (a : Bool) (fuel : Nat) :
    codeGroups E B M a fuel ([] : List (List α)) = .ok [] := by
  cases fuel <;> rfl

theorem codeGroups_cons_eq_ok {E B M : Nat} {a : Bool} {fuel : Nat} {r : List α} {rs : List (List α)}
    {gs : List (List (List α))} :
    codeGroups E B M a (fuel + 1) (r :: rs) = .ok gs ↔
      ∃ gs', codeGroups E B M a fuel ((r :: rs).drop (firstCount E B M (r :: rs))) = .ok gs' ∧
        gs = (r :: rs).take (firstCount E B M (r :: rs)) :: gs' ∧
        perBuffer E B M (r :: rs).length ≠ 0 ∧ firstCount E B M (r :: rs) ≠ 0 ∧
        (firstCount E B M (r :: rs) < 2 ∨ a = true → (r :: rs).length ≤ firstCount E B M (r :: rs)) := by
  simp only [codeGroups, ← firstCount.eq_1 E B M (r :: rs)]
  generalize firstCount E B M (r :: rs) = c
  constructor
  · intro h
    by_cases h1 : perBuffer E B M (r :: rs).length = 0
    · rw [if_pos h1] at h; cases h
    by_cases h2 : c = 0
    · rw [if_neg h1, if_pos h2] at h; cases h
    by_cases h3 : c < 2 ∧ c < (r :: rs).length
    · rw [if_neg h1, if_neg h2, if_pos h3] at h; cases h
    by_cases h4 : a = true ∧ c < (r :: rs).length
    · rw [if_neg h1, if_neg h2, if_neg h3, if_pos h4] at h; cases h
    rw [if_neg h1, if_neg h2, if_neg h3, if_neg h4] at h
    cases hrec : codeGroups E B M a fuel (drop c (r :: rs)) with
    | error e => rw [hrec] at h; cases h
    | ok gs' =>
      rw [hrec] at h; cases h
      refine ⟨gs', rfl, rfl, h1, h2, ?_⟩
      rintro (h | h)
      · omega
      · exact Nat.le_of_not_lt fun h' => h4 ⟨h, h'⟩
  · rintro ⟨gs', hrec, rfl, h1, h2, h5⟩
    rw [if_neg h1, if_neg h2, if_neg (fun h => by have := h5 (Or.inl h.1); omega),
      if_neg (fun h => by have := h5 (Or.inr h.1); omega), hrec]

theorem codeGroups_induct {E B M : Nat} {a : Bool} (P : List (List α) → List (List (List α)) → Prop)
    (nil : P [] [])
    (cons : ∀ r rs c gs', c ≠ 0 → (c < 2 ∨ a = true → (r :: rs).length ≤ c) → P ((r :: rs).drop c) gs' →
      P (r :: rs) ((r :: rs).take c :: gs')) :
    ∀ (fuel : Nat) (runs : List (List α)) (gs), codeGroups E B M a fuel runs = .ok gs → P runs gs
  | _, [], gs, h => by rw [codeGroups_nil] at h; cases h; exact nil
  | 0, _ :: _, _, h => by cases h
  | fuel + 1, r :: rs, gs, h => by
    obtain ⟨gs', hrec, rfl, _, h2, h5⟩ := codeGroups_cons_eq_ok.mp h
    exact cons r rs _ gs' h2 h5 (codeGroups_induct P nil cons fuel _ gs' hrec)

theorem codeGroups_split {E B M : Nat} {a : Bool} {fuel : Nat} {runs : List (List α)} {gs : List (List (List α))}
    (h : codeGroups E B M a fuel runs = .ok gs) :
    splitGroups (gs.map List.length) runs = gs := by
  refine codeGroups_induct (fun runs gs => splitGroups (gs.map List.length) runs = gs) (by simp [splitGroups]) ?_
    fuel runs gs h
  intro r rs c gs' hc _ ih
  obtain ⟨c, rfl⟩ : ∃ c', c = c' + 1 := ⟨c - 1, by omega⟩
  rw [map_cons, splitGroups_take_drop, ih]

theorem codeGroups_length_lt {E B M : Nat} {a : Bool} {fuel : Nat} {runs : List (List α)} {gs}
    (h : codeGroups E B M a fuel runs = .ok gs) :
    gs.length ≤ runs.length ∧ (2 ≤ runs.length → gs.length < runs.length) := by
  refine codeGroups_induct (fun runs gs => gs.length ≤ runs.length ∧ (2 ≤ runs.length → gs.length < runs.length))
    (by simp) ?_ fuel runs gs h
  intro r rs c gs' hc h5 ih
  simp only [length_cons, length_drop] at ih h5 ⊢
  omega

theorem codeGroups_one {E B M : Nat} {fuel : Nat} {r : List α} {rs : List (List α)} {gs : List (List (List α))}
    (h : codeGroups E B M true fuel (r :: rs) = .ok gs) : gs = [r :: rs] := by
  refine (codeGroups_induct (a := true) (fun runs gs => (runs = [] → gs = []) ∧ (runs ≠ [] → gs = [runs]))
    ⟨fun _ => rfl, fun h => absurd rfl h⟩ ?_ fuel _ gs h).2 (cons_ne_nil _ _)
  intro r rs c gs' _ h5 ih
  have hc := h5 (Or.inr rfl)
  exact ⟨fun h => absurd h (cons_ne_nil _ _),
    fun _ => by rw [take_of_length_le hc, ih.1 (drop_of_length_le hc)]⟩

theorem codePass_two (lt : α → α → Bool) (comb) (pick) (cfg : Cfg) (reading : Nat) (r1 r2 : List α) (rs) :
    codePass lt comb pick cfg reading (r1 :: r2 :: rs) =
      (codeGroups cfg.entrySize cfg.bufferSize reading false (r1 :: r2 :: rs).length (r1 :: r2 :: rs)).map
        (fun gs => nonempties (gs.map (mergeGroup lt comb pick))) := by
  simp only [codePass, storeRunsLogged_merge, storeRuns_eq]
  cases codeGroups cfg.entrySize cfg.bufferSize reading false (r1 :: r2 :: rs).length (r1 :: r2 :: rs) <;> rfl

theorem codePass_refines {reading : Nat} {runs runs' : List (List α)}
    (h : codePass lt comb pick cfg reading runs = .ok runs') (h2 : 2 ≤ runs.length) :
    ∃ sizes, runs' = passOut lt comb pick sizes runs := by
  match runs, h2 with
  | r1 :: r2 :: rs, _ =>
    rw [codePass_two] at h
    cases hgs : codeGroups cfg.entrySize cfg.bufferSize reading false (r1 :: r2 :: rs).length (r1 :: r2 :: rs) with
    | error e => rw [hgs] at h; cases h
    | ok gs =>
      rw [hgs] at h; cases h
      exact ⟨gs.map List.length, by rw [passOut, if_neg (by simp), codeGroups_split hgs]⟩

/-- the exit test of the `while` loop of `Sort::Merge`: few enough runs for the lazy merge, or
everything fits into the lazy memory -/
def LazyCond (cfg : Cfg) (lazyMem : Nat) (runs : List (List α)) : Prop :=
  runs.length ≤ max 1 (lazyMem / cfg.bufferSize) ∨ dataSize cfg runs ≤ lazyMem

/-- the memory `Sort::Merge` gives to the readers of a pass (`reading` in `codeMergeLoop`) -/
def readingMem (cfg : Cfg) (runs : List (List α)) : Nat :=
  if dataSize cfg runs < cfg.totalMemory - 2 * cfg.bufferSize then dataSize cfg runs
  else cfg.totalMemory - 2 * cfg.bufferSize

theorem LazyCond.of_length_le_one {runs : List (List α)} (h : runs.length ≤ 1) :
    LazyCond cfg lazyMem runs :=
  Or.inl (Nat.le_trans h (Nat.le_max_left _ _))

theorem two_le_of_not_lazyCond {runs : List (List α)} (h : ¬ LazyCond cfg lazyMem runs) : 2 ≤ runs.length :=
  Nat.lt_of_not_le fun h1 => h (.of_length_le_one h1)

theorem codeMergeLoop_done {runs : List (List α)} (h : LazyCond cfg lazyMem runs) {fuel n : Nat} :
    codeMergeLoop lt comb pick cfg lazyMem fuel runs n = .ok (runs, n) := by
  unfold codeMergeLoop
  exact if_pos h

theorem codeMergeLoop_zero {runs : List (List α)} (h : ¬ LazyCond cfg lazyMem runs) {n : Nat} :
    codeMergeLoop lt comb pick cfg lazyMem 0 runs n = .error .fuel := by
  unfold codeMergeLoop
  exact if_neg h

theorem codeMergeLoop_step {runs : List (List α)} (h : ¬ LazyCond cfg lazyMem runs) {fuel n : Nat} :
    codeMergeLoop lt comb pick cfg lazyMem (fuel + 1) runs n =
      match codePass lt comb pick cfg (readingMem cfg runs) runs with
      | .error e => .error e
      | .ok runs' => codeMergeLoop lt comb pick cfg lazyMem fuel runs' (n + 1) := by
  rw [codeMergeLoop]
  exact if_neg h

theorem codeMergeLoop_refines :
    ∀ (fuel : Nat) (runs : List (List α)) (n : Nat) {runs' : List (List α)} {n' : Nat},
      codeMergeLoop lt comb pick cfg lazyMem fuel runs n = .ok (runs', n') →
      ∃ plan : List (List Nat), n' = n + plan.length ∧ runs' = passesOut lt comb pick plan runs ∧
        LazyCond cfg lazyMem runs' := by
  intro fuel
  induction fuel with
  | zero =>
    intro runs n runs' n' h
    by_cases hc : LazyCond cfg lazyMem runs
    · rw [codeMergeLoop_done hc] at h; cases h
      exact ⟨[], rfl, rfl, hc⟩
    · rw [codeMergeLoop_zero hc] at h; cases h
  | succ fuel ih =>
    intro runs n runs' n' h
    by_cases hc : LazyCond cfg lazyMem runs
    · rw [codeMergeLoop_done hc] at h; cases h
      exact ⟨[], rfl, rfl, hc⟩
    · rw [codeMergeLoop_step hc] at h
      cases hp : codePass lt comb pick cfg (readingMem cfg runs) runs with
      | error e => rw [hp] at h; cases h
      | ok r1 =>
        rw [hp] at h
        obtain ⟨sizes, hs⟩ := codePass_refines hp (two_le_of_not_lazyCond hc)
        obtain ⟨plan, hn, hpl, hpost⟩ := ih r1 (n + 1) h
        exact ⟨sizes :: plan, by rw [hn, length_cons]; omega, by rw [hpl, hs]; rfl, hpost⟩

/-- the value `Sort::Merge` returns when the lazy-merge condition holds for `runs` -/
def mergeRet (cfg : Cfg) (runs : List (List α)) : Nat :=
  if runs.length ≤ 1 then 0 else min (dataSize cfg runs) (runs.length * cfg.bufferSize)

theorem codeMerge_eq (lt : α → α → Bool) (comb) (pick) (cfg : Cfg) (lazyMem : Nat) (runs : List (List α)) :
    codeMerge lt comb pick cfg lazyMem runs =
      match (if runs.length ≤ 1 then .ok (runs, 0) else codeMergeLoop lt comb pick cfg lazyMem runs.length runs 0) with
      | .error e => .error e
      | .ok (runs', n) => .ok ⟨runs', n, mergeRet cfg runs'⟩ := by
  unfold codeMerge mergeRet
  split
  · rename_i h; simp only [if_pos h]
  · cases codeMergeLoop lt comb pick cfg lazyMem runs.length runs 0 with
    | error e => rfl
    | ok p => obtain ⟨runs', n⟩ := p; simp only; split <;> rfl

theorem codeMerge_refines {runs : List (List α)}
    {m : MergeResult α} (h : codeMerge lt comb pick cfg lazyMem runs = .ok m) :
    ∃ plan : List (List Nat), plan.length = m.passes ∧ m.runs = passesOut lt comb pick plan runs ∧
      LazyCond cfg lazyMem m.runs ∧ m.ret = mergeRet cfg m.runs := by
  rw [codeMerge_eq] at h
  split at h
  · cases h
  · rename_i runs' n hl
    cases h
    by_cases h1 : runs.length ≤ 1
    · rw [if_pos h1] at hl; cases hl
      exact ⟨[], rfl, rfl, LazyCond.of_length_le_one h1, rfl⟩
    · rw [if_neg h1] at hl
      obtain ⟨plan, hn, hpl, hpost⟩ := codeMergeLoop_refines _ _ _ hl
      exact ⟨plan, by show plan.length = n; omega, hpl, hpost, rfl⟩

theorem codeFinal_refines {runs : List (List α)} {out : List α} (h : codeFinal lt comb pick cfg lazyMem runs = .ok out) : out = finalMerge lt comb pick runs := by
  match runs with
  | [] => cases h; rfl
  | [r] => cases h; rfl
  | r1 :: r2 :: rs =>
    simp only [codeFinal] at h
    split at h
    · cases h
    · rename_i gs hgs
      cases codeGroups_one hgs
      cases h
      simp only [finalMerge, map_cons, map_nil, flatten_cons, flatten_nil, append_nil]

theorem codeSort_eq_ok {blocks : List (List α)}
    {out : List α} {p ret : Nat} :
    codeSort lt comb pick cfg lazyMem blocks = .ok (out, p, ret) ↔
      ∃ m, codeMerge lt comb pick cfg lazyMem (initialRuns lt blocks) = .ok m ∧
        codeFinal lt comb pick cfg lazyMem m.runs = .ok out ∧ m.passes = p ∧ m.ret = ret := by
  unfold codeSort
  rw [afterBlockSorter_eq]
  simp only
  cases codeMerge lt comb pick cfg lazyMem (initialRuns lt blocks) with
  | error e => simp
  | ok m =>
    simp only [Except.ok.injEq, exists_eq_left']
    cases codeFinal lt comb pick cfg lazyMem m.runs with
    | error e => simp
    | ok o => simp

theorem codeMergeLoopT_eq (lt : α → α → Bool) (comb) (pick) (cfg : Cfg) (lazyMem : Nat) :
    ∀ (fuel : Nat) (runs : List (List α)) (n : Nat) (hist : List (List Nat)),
      (codeMergeLoopT lt comb pick cfg lazyMem fuel runs n hist).map (fun x => (x.1, x.2.1)) =
        codeMergeLoop lt comb pick cfg lazyMem fuel runs n := by
  intro fuel
  induction fuel with
  | zero =>
    intro runs n hist
    unfold codeMergeLoopT codeMergeLoop
    simp only
    split <;> rfl
  | succ fuel ih =>
    intro runs n hist
    unfold codeMergeLoopT codeMergeLoop
    simp only
    split
    · rfl
    · split
      · rfl
      · exact ih _ _ _

end KV.Sort
