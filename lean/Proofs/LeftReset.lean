import Proofs.LeftCases

/-!
# A reused `RuleScore` is a fresh one (C08, API histories)

`Reset` re-initialises `prob_`, `left_done_` and the two lengths but not `out_->left.full`.  No operation reads
`left.full` of the running object and `Finish` overwrites it, so the stale flag is carried along unchanged and
unobserved: every operation commutes with `setFull` (`NonTerminal` only under a final overwriting, see
`nonTerminal_setFull`), and a derivation scored on a reset object finishes with exactly the result of a fresh object.
-/

namespace KV.Left
open KV.Arpa KV.Table KV.State KV.Score

/-- overwrite the (unread) `out_->left.full` of a running object -/
def setFull (b : Bool) (rs : RS) : RS := { rs with out := { rs.out with left := { rs.out.left with full := b } } }

theorem reset_eq_setFull (b : Bool) (rs : RS) : reset b rs = setFull b RS.init := rfl

theorem setFull_setFull (b c : Bool) (rs : RS) : setFull b (setFull c rs) = setFull b rs := rfl

theorem beginSentence_setFull (T : Table) (R : Ptr → Rat) (bos : Word) (b : Bool) (rs : RS) :
    beginSentence T R bos (setFull b rs) = setFull b (beginSentence T R bos rs) := rfl

theorem terminal_setFull (T : Table) (R : Ptr → Rat) (b : Bool) (rs : RS) (w : Word) :
    terminal T R (setFull b rs) w = setFull b (terminal T R rs w) := by
  by_cases h1 : rs.leftDone = true
  · rw [terminal_of_done R (setFull b rs) w h1, terminal_of_done R rs w h1]; rfl
  · have h1 : rs.leftDone = false := by simpa using h1
    by_cases h2 : (fullScore (restSearch T R) rs.out.right w).1.independentLeft = true
    · rw [terminal_indep R (setFull b rs) w h1 h2, terminal_indep R rs w h1 h2]; rfl
    · have h2 : (fullScore (restSearch T R) rs.out.right w).1.independentLeft = false := by simpa using h2
      rw [terminal_push R (setFull b rs) w h1 h2, terminal_push R rs w h1 h2]; rfl

/-- Not a commutation like its siblings: with nothing scored yet `NonTerminal` copies the incoming left state, flag
included, so the two sides agree only once the flag is overwritten (as `Finish` does). -/
theorem nonTerminal_setFull (T : Table) (R : Ptr → Rat) (b c : Bool) (rs : RS) (inC : Chart) (p : Rat) :
    setFull c (nonTerminal T R (setFull b rs) inC p) = setFull c (nonTerminal T R rs inC p) := by
  rcases nonTerminal_cases (T := T) R rs inC p with ⟨h1, h2, e⟩ | ⟨h1, h2, e⟩ | ⟨h1, h3, e⟩ | ⟨h1, h3, e⟩ <;> rw [e]
  · rw [nonTerminal_nil_full R _ inC p h1 h2]; rfl
  · rw [nonTerminal_nil_open R _ inC p h1 h2]; rfl
  · rw [nonTerminal_fresh R (setFull b rs) inC p h1 h3]
    show setFull c (if rs.leftDone = true then _ else if (rs.out.left.length != 0) = true then _ else _) = _
    split
    · rfl
    · split <;> rfl
  · -- the loop reads the object only through `loopStart`, which does not see the flag
    rw [nonTerminal_loop R (setFull b rs) inC p h1 h3]
    show setFull c (joinOut inC (setFull b rs) (loopFrom T R 0 rs.out.right.words rs.out.right.length inC.left.pointers
      (loopStart rs p) (!rs.leftDone))) = _
    generalize loopFrom T R 0 rs.out.right.words rs.out.right.length inC.left.pointers (loopStart rs p) (!rs.leftDone) = v
    rw [show joinOut inC (setFull b rs) v = setFull b (joinOut inC rs v) from joinOut_full inC rs v b]
    rfl

def EqF (rs rs' : RS) : Prop := setFull false rs = setFull false rs'

/-- an operation that does not see the flag once it is overwritten (`hb`) preserves `EqF`: `rs` is
`setFull rs.out.left.full (setFull false rs)` by `rfl`, so both results are computed from `setFull false rs` -/
theorem EqF.of_b {op : RS → RS} (hb : ∀ b rs, setFull false (op (setFull b rs)) = setFull false (op rs))
    {rs rs' : RS} (h : EqF rs rs') : EqF (op rs) (op rs') :=
  calc setFull false (op rs) = setFull false (op (setFull rs.out.left.full (setFull false rs))) := rfl
    _ = setFull false (op (setFull false rs)) := hb _ _
    _ = setFull false (op (setFull false rs')) := by rw [show setFull false rs = setFull false rs' from h]
    _ = setFull false (op (setFull rs'.out.left.full (setFull false rs'))) := (hb _ _).symm
    _ = setFull false (op rs') := rfl

theorem applyItem_eqF (T : Table) (R : Ptr → Rat) (i : Item) {rs rs' : RS} (h : EqF rs rs') :
    EqF (applyItem T R rs i) (applyItem T R rs' i) := by
  cases i with
  | term w =>
    simp only [applyItem]
    exact EqF.of_b (op := fun x => terminal T R x w) (fun b x => by simp only [terminal_setFull]; rfl) h
  | nt r =>
    simp only [applyItem]
    exact EqF.of_b (op := fun x => nonTerminal T R x _ _) (fun b x => nonTerminal_setFull T R b false x _ _) h

theorem applyRule_eqF (T : Table) (R : Ptr → Rat) : ∀ (r : Rule) {rs rs' : RS}, EqF rs rs' →
    EqF (applyRule T R rs r) (applyRule T R rs' r)
  | .nil, _, _, h => by simpa [applyRule] using h
  | .cons i r, _, _, h => by
    simp only [applyRule]
    exact applyRule_eqF T R r (applyItem_eqF T R i h)

theorem finish_eqF (order : Nat) {rs rs' : RS} (h : EqF rs rs') : finish order rs = finish order rs' := by
  have e1 : finish order rs = finish order (setFull false rs) := rfl
  have e2 : finish order rs' = finish order (setFull false rs') := rfl
  rw [e1, e2, show setFull false rs = setFull false rs' from h]

theorem reset_eqF (stale : Bool) (rs : RS) : EqF (reset stale rs) RS.init := rfl

theorem beginSentence_eqF (T : Table) (R : Ptr → Rat) (bos : Word) {rs rs' : RS} (h : EqF rs rs') :
    EqF (beginSentence T R bos rs) (beginSentence T R bos rs') := by
  have h' : setFull false rs = setFull false rs' := h
  show setFull false (beginSentence T R bos rs) = setFull false (beginSentence T R bos rs')
  rw [← beginSentence_setFull, ← beginSentence_setFull, h']

end KV.Left
