import Model.SortBytes
/-! C16 byte level: `swap(SizedProxy, SizedProxy)` exchanges exactly two records; any sequence of
record swaps / moves at byte level simulates the same sequence on abstract records.
(Of Model/SortBytes.lean this file covers the swap and `SortOp` fragment; records ↔ bytes, the temp file, the queue entries and
the passes are in SortRecords, SortFile, SortEntry, SortPassBytes.) -/
namespace KV.Sort
open List

theorem swapByte_length (buf : Buf) (a b : Nat) : (swapByte buf a b).length = buf.length := by
  unfold swapByte
  split <;> simp

theorem swapByte_get (buf : Buf) (a b : Nat) (ha : a < buf.length) (hb : b < buf.length) (p : Nat) :
    (swapByte buf a b)[p]? = if p = b then buf[a]? else if p = a then buf[b]? else buf[p]? := by
  unfold swapByte
  simp only [getElem?_eq_getElem ha, getElem?_eq_getElem hb]
  rw [getElem?_set, getElem?_set]
  simp only [length_set]
  by_cases h1 : p = b
  · subst h1; simp [hb]
  · have h1' : ¬ b = p := fun h => h1 h.symm
    rw [if_neg h1', if_neg h1]
    by_cases h2 : p = a
    · subst h2; simp [ha]
    · have h2' : ¬ a = p := fun h => h2 h.symm
      rw [if_neg h2', if_neg h2]

theorem swapRanges_length : ∀ (n : Nat) (buf : Buf) (a b : Nat), (swapRanges n buf a b).length = buf.length
  | 0, _, _, _ => rfl
  | n + 1, buf, a, b => by
    simp only [swapRanges]
    rw [swapRanges_length n, swapByte_length]

/-- the index arithmetic of one step of `swap_ranges` for the byte `d` places behind the head of the
range at `a`: it comes from `d` places behind the head of the range at `b`, which is neither head -/
theorem swapStep {a b n d : Nat} (hd : a + (n + 1) ≤ b ∨ b + (n + 1) ≤ a) (h : d < n) :
    (a ≤ a + 1 + d ∧ a + 1 + d < a + (n + 1)) ∧ a + 1 + d - (a + 1) + (b + 1) = b + 1 + d ∧
      a + 1 + d - a + b = b + 1 + d ∧ b + 1 + d ≠ b ∧ b + 1 + d ≠ a ∧ ¬ (b ≤ a + 1 + d ∧ a + 1 + d < b + (n + 1)) := by
  omega

theorem swapStep_head {a b n : Nat} (hd : a + (n + 1) ≤ b ∨ b + (n + 1) ≤ a) : ¬ (a ≤ b ∧ b < a + (n + 1)) := by
  omega

theorem not_range_succ {a n p : Nat} (c : ¬ (a + 1 ≤ p ∧ p < a + 1 + n)) (h : p ≠ a) : ¬ (a ≤ p ∧ p < a + (n + 1)) := by
  omega

theorem swapRanges_get : ∀ (n : Nat) (buf : Buf) (a b : Nat), (a + n ≤ b ∨ b + n ≤ a) →
    a + n ≤ buf.length → b + n ≤ buf.length → ∀ p,
    (swapRanges n buf a b)[p]? =
      if a ≤ p ∧ p < a + n then buf[p - a + b]?
      else if b ≤ p ∧ p < b + n then buf[p - b + a]? else buf[p]?
  | 0, buf, a, b, _, _, _, p => by
    rw [if_neg (fun h => Nat.not_lt.mpr h.1 h.2), if_neg (fun h => Nat.not_lt.mpr h.1 h.2)]
    rfl
  | n + 1, buf, a, b, hd, ha, hb, p => by
    have ha' : a + 1 + n ≤ buf.length := Nat.add_right_comm a 1 n ▸ ha
    have hb' : b + 1 + n ≤ buf.length := Nat.add_right_comm b 1 n ▸ hb
    have hd' : a + 1 + n ≤ b + 1 ∨ b + 1 + n ≤ a + 1 :=
      hd.imp (fun h => Nat.add_right_comm a 1 n ▸ Nat.le_succ_of_le h) (fun h => Nat.add_right_comm b 1 n ▸ Nat.le_succ_of_le h)
    rw [swapRanges, swapRanges_get n (swapByte buf a b) (a + 1) (b + 1) hd'
      (by rwa [swapByte_length]) (by rwa [swapByte_length]) p]
    have g := swapByte_get buf a b (Nat.lt_of_lt_of_le (Nat.lt_add_of_pos_right (Nat.succ_pos n)) ha)
      (Nat.lt_of_lt_of_le (Nat.lt_add_of_pos_right (Nat.succ_pos n)) hb)
    -- cases: `p` in the range behind `a` (c1), in the range behind `b` (c2), `p = b` (c3), `p = a` (c4), elsewhere
    by_cases c1 : a + 1 ≤ p ∧ p < a + 1 + n
    · obtain ⟨d, rfl⟩ := Nat.exists_eq_add_of_le c1.1
      obtain ⟨h1, e1, e2, h2, h3, _⟩ := swapStep hd (Nat.lt_of_add_lt_add_left c1.2)
      rw [if_pos c1, if_pos h1, g, e1, e2, if_neg h2, if_neg h3]
    · rw [if_neg c1]
      by_cases c2 : b + 1 ≤ p ∧ p < b + 1 + n
      · obtain ⟨d, rfl⟩ := Nat.exists_eq_add_of_le c2.1
        obtain ⟨h1, e1, e2, h2, h3, h0⟩ := swapStep hd.symm (Nat.lt_of_add_lt_add_left c2.2)
        rw [if_pos c2, if_neg h0, if_pos h1, g, e1, e2, if_neg h3, if_neg h2]
      · rw [if_neg c2, g]
        by_cases c3 : p = b
        · subst c3
          rw [if_pos rfl, if_neg (swapStep_head hd), if_pos ⟨Nat.le_refl _, Nat.lt_add_of_pos_right (Nat.succ_pos _)⟩,
            Nat.sub_self, Nat.zero_add]
        · rw [if_neg c3]
          by_cases c4 : p = a
          · subst c4
            rw [if_pos rfl, if_pos ⟨Nat.le_refl _, Nat.lt_add_of_pos_right (Nat.succ_pos _)⟩, Nat.sub_self, Nat.zero_add]
          · rw [if_neg c4, if_neg (not_range_succ c1 c4), if_neg (not_range_succ c2 c3)]

theorem rec_bounds {s i n : Nat} (hi : i < n) : i * s + s ≤ n * s := by
  have : (i + 1) * s ≤ n * s := Nat.mul_le_mul_right s hi
  rwa [Nat.succ_mul] at this

theorem rec_apart {s i j : Nat} (h : i ≠ j) : i * s + s ≤ j * s ∨ j * s + s ≤ i * s :=
  (Nat.lt_or_gt_of_ne h).imp rec_bounds rec_bounds

theorem recAt_get (s : Nat) (buf : Buf) (i q : Nat) :
    (recAt s buf i)[q]? = if q < s then buf[i * s + q]? else none := by
  unfold recAt
  rw [getElem?_take]
  split
  · rw [getElem?_drop]
  · rfl

theorem swapByte_self (buf : Buf) (a : Nat) : swapByte buf a a = buf := by
  unfold swapByte
  cases h : buf[a]? with
  | none => rfl
  | some x =>
    obtain ⟨hlt, rfl⟩ := List.getElem?_eq_some_iff.mp h
    simp only [set_getElem_self]

theorem sizedSwap_self {s : Nat} (buf : Buf) (i : Nat) : sizedSwap s buf i i = buf := by
  unfold sizedSwap
  generalize i * s = a
  induction s generalizing buf a with
  | zero => rfl
  | succ n ih => rw [swapRanges, swapByte_self, ih]

theorem sizedSwap_length (s : Nat) (buf : Buf) (i j : Nat) : (sizedSwap s buf i j).length = buf.length :=
  swapRanges_length _ _ _ _

theorem recAt_ext {s : Nat} {b b' : Buf} {k k' : Nat} (h : ∀ q, q < s → b[k * s + q]? = b'[k' * s + q]?) :
    recAt s b k = recAt s b' k' := by
  apply ext_getElem?
  intro q
  rw [recAt_get, recAt_get]
  split
  · exact h q ‹_›
  · rfl

section
variable {s n : Nat} {buf : Buf} (hl : buf.length = n * s) {i : Nat} (hi : i < n)
include hl hi

theorem recAt_length : (recAt s buf i).length = s := by
  rw [recAt, length_take, length_drop, hl]
  exact Nat.min_eq_left (Nat.le_sub_of_add_le' (rec_bounds hi))

theorem sizedSwap_get {j : Nat} (hj : j < n)
    (hij : i ≠ j) (p : Nat) :
    (sizedSwap s buf i j)[p]? =
      if i * s ≤ p ∧ p < i * s + s then buf[p - i * s + j * s]?
      else if j * s ≤ p ∧ p < j * s + s then buf[p - j * s + i * s]? else buf[p]? := by
  unfold sizedSwap
  have bi := rec_bounds (s := s) hi
  have bj := rec_bounds (s := s) hj
  exact swapRanges_get s buf (i * s) (j * s) (rec_apart hij) (by omega) (by omega) p

theorem recAt_sizedSwap {j : Nat} (hj : j < n) (k : Nat) :
    recAt s (sizedSwap s buf i j) k = if k = i then recAt s buf j else if k = j then recAt s buf i else recAt s buf k := by
  by_cases hij : i = j
  · subst hij
    rw [sizedSwap_self]
    split <;> simp [*]
  have g := sizedSwap_get hl hi hj hij
  have dij := rec_apart (s := s) hij
  clear hl hi hj
  by_cases c1 : k = i
  · subst c1
    rw [if_pos rfl]
    refine recAt_ext fun q hq => ?_
    rw [g, if_pos ⟨Nat.le_add_right _ _, Nat.add_lt_add_left hq _⟩, Nat.add_sub_cancel_left, Nat.add_comm]
  have dki := rec_apart (s := s) c1
  rw [if_neg c1]
  by_cases c2 : k = j
  · subst c2
    rw [if_pos rfl]
    refine recAt_ext fun q hq => ?_
    rw [g, if_neg (by omega), if_pos ⟨Nat.le_add_right _ _, Nat.add_lt_add_left hq _⟩, Nat.add_sub_cancel_left,
      Nat.add_comm]
  have dkj := rec_apart (s := s) c2
  rw [if_neg c2]
  refine recAt_ext fun q hq => ?_
  rw [g, if_neg (by omega), if_neg (by omega)]

theorem writeRec_length {v : List Nat} (hv : v.length = s) : (writeRec s buf i v).length = buf.length := by
  have bi : i * s + s ≤ buf.length := hl ▸ rec_bounds hi
  simp only [writeRec, length_append, length_take, length_drop, hv]
  rw [Nat.min_eq_left (Nat.le_trans (Nat.le_add_right _ _) bi), Nat.add_sub_cancel' bi]

theorem recAt_writeRec {v : List Nat} (hv : v.length = s) (k : Nat) :
    recAt s (writeRec s buf i v) k = if k = i then v else recAt s buf k := by
  have bi : i * s + s ≤ buf.length := hl ▸ rec_bounds hi
  have htl : (buf.take (i * s)).length = i * s := by
    rw [length_take, Nat.min_eq_left (Nat.le_trans (Nat.le_add_right _ _) bi)]
  unfold recAt writeRec
  rcases Nat.lt_trichotomy k i with h | rfl | h
  · -- record `k` lies inside the untouched prefix
    have hk : s ≤ i * s - k * s := Nat.le_sub_of_add_le' (rec_bounds h)
    rw [if_neg (Nat.ne_of_lt h), append_assoc,
      drop_append_of_le_length (by rw [htl]; exact Nat.le_trans (Nat.le_add_right _ _) (rec_bounds h)),
      take_append_of_le_length (by rw [length_drop, htl]; exact hk), drop_take, take_take, Nat.min_eq_left hk]
  · rw [if_pos rfl, append_assoc, drop_left' htl, take_left' hv]
  · -- record `k` lies inside the untouched suffix
    have := rec_bounds (s := s) h
    have hpre : (buf.take (i * s) ++ v).length = i * s + s := by rw [length_append, htl, hv]
    rw [if_neg (Nat.ne_of_gt h), ← Nat.add_sub_cancel' this, ← hpre, drop_length_add_append, drop_drop, hpre,
      Nat.add_sub_cancel' this]

end

theorem sizedSwap_range (s : Nat) :
    sizedSwap s (List.range (2 * s)) 0 1 = List.range' s s ++ List.range s := by
  apply ext_getElem?
  intro p
  rw [sizedSwap_get (n := 2) length_range Nat.zero_lt_two Nat.one_lt_two Nat.zero_ne_one]
  simp only [Nat.zero_mul, Nat.one_mul, Nat.zero_add, Nat.zero_le, true_and, Nat.sub_zero, Nat.add_zero,
    Nat.two_mul]
  by_cases h1 : p < s
  · rw [if_pos h1, getElem?_append_left (by rw [length_range']; exact h1),
      getElem?_range (Nat.add_lt_add_right h1 s), getElem?_range' h1, Nat.one_mul, Nat.add_comm]
  · rw [if_neg h1]
    have h1 := Nat.le_of_not_lt h1
    by_cases h2 : s ≤ p ∧ p < s + s
    · have h3 : p - s < s := Nat.sub_lt_left_of_lt_add h1 h2.2
      rw [if_pos h2, getElem?_append_right (by rw [length_range']; exact h1), length_range',
        getElem?_range (Nat.lt_of_lt_of_le h3 (Nat.le_add_right s s)), getElem?_range h3]
    · have h3 : s + s ≤ p := Nat.le_of_not_lt fun h => h2 ⟨h1, h⟩
      rw [if_neg h2, getElem?_eq_none (by rw [length_range]; exact h3),
        getElem?_eq_none (by rw [length_append, length_range', length_range]; exact h3)]

/-- the byte state `b` holds, record by record, what the abstract state `a` holds, the temporaries are the same, and
every temporary has `s` bytes -/
structure SimInv (s n : Nat) (b : Buf × List (List Nat)) (a : (Nat → List Nat) × List (List Nat)) : Prop where
  len : b.1.length = n * s
  recs : ∀ k, k < n → recAt s b.1 k = a.1 k
  temps : b.2 = a.2
  tlen : ∀ t ∈ b.2, t.length = s

theorem sim_step {s n : Nat} {b : Buf × List (List Nat)} {a : (Nat → List Nat) × List (List Nat)}
    (h : SimInv s n b a) (op : SortOp) (hv : opValid n b.2.length op = true) :
    SimInv s n (stepBytes s b op) (stepRecs a op) := by
  obtain ⟨hl, hr, ht, htl⟩ := h
  cases op with
  | swap i j =>
    simp only [opValid, Bool.and_eq_true, decide_eq_true_eq] at hv
    refine ⟨by simp only [stepBytes, sizedSwap_length, hl], ?_, ht, htl⟩
    intro k hk
    simp only [stepBytes, stepRecs]
    rw [recAt_sizedSwap hl hv.1 hv.2 k, hr i hv.1, hr j hv.2, hr k hk]
  | assign i j =>
    simp only [opValid, Bool.and_eq_true, decide_eq_true_eq] at hv
    have hlen := recAt_length hl hv.2
    refine ⟨by simp only [stepBytes]; rw [writeRec_length hl hv.1 hlen, hl], ?_, ht, htl⟩
    intro k hk
    simp only [stepBytes, stepRecs]
    rw [recAt_writeRec hl hv.1 hlen k, hr j hv.2, hr k hk]
  | save i =>
    simp only [opValid, decide_eq_true_eq] at hv
    refine ⟨hl, hr, by simp only [stepBytes, stepRecs, ht, hr i hv], ?_⟩
    intro t htm
    simp only [stepBytes, mem_append, mem_singleton] at htm
    rcases htm with htm | rfl
    · exact htl t htm
    · exact recAt_length hl hv
  | restore i t =>
    simp only [opValid, Bool.and_eq_true, decide_eq_true_eq] at hv
    have hmem : b.2.getD t [] ∈ b.2 := by
      rw [getD_eq_getElem?_getD, getElem?_eq_getElem hv.2]
      exact getElem_mem hv.2
    have hlen := htl _ hmem
    refine ⟨by simp only [stepBytes]; rw [writeRec_length hl hv.1 hlen, hl], ?_, ht, htl⟩
    intro k hk
    simp only [stepBytes, stepRecs]
    rw [recAt_writeRec hl hv.1 hlen k, hr k hk, ht]

theorem stepBytes_temps_length (s : Nat) (b : Buf × List (List Nat)) (op : SortOp) :
    (stepBytes s b op).2.length = (match op with | .save _ => b.2.length + 1 | _ => b.2.length) := by
  cases op <;> simp [stepBytes]

theorem sim_foldl {s n : Nat} : ∀ (ops : List SortOp) (b : Buf × List (List Nat))
    (a : (Nat → List Nat) × List (List Nat)), SimInv s n b a → opsValid n b.2.length ops = true →
    SimInv s n (ops.foldl (stepBytes s) b) (ops.foldl stepRecs a)
  | [], _, _, h, _ => h
  | op :: ops, b, a, h, hv => by
    simp only [opsValid, Bool.and_eq_true] at hv
    simp only [foldl_cons]
    apply sim_foldl ops _ _ (sim_step h op hv.1)
    rw [stepBytes_temps_length]
    exact hv.2

theorem execBytes_sim {s n : Nat} (ops : List SortOp) (buf : Buf) (hl : buf.length = n * s)
    (hv : opsValid n 0 ops = true) :
    (execBytes s ops buf).1.length = n * s ∧
      ∀ k, k < n → recAt s (execBytes s ops buf).1 k = (execRecs ops (recAt s buf)).1 k := by
  have h0 : SimInv s n (buf, []) (recAt s buf, []) := ⟨hl, fun _ _ => rfl, rfl, by simp⟩
  have := sim_foldl ops (buf, []) (recAt s buf, []) h0 hv
  exact ⟨this.len, this.recs⟩

end KV.Sort
