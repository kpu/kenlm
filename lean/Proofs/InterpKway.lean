import Proofs.InterpSorted
import Proofs.InterpStream
/-!
Pass 1 with the component streams kept apart (`NGramHandler::active_`, the `minimum` loop of
`HandleSuffix`): on the component streams of a union whose merged streams have the grouped shape,
the k-way recursion `handleK` consumes every component stream and writes exactly the records
`p1Rec` — each n-gram once, with the contributions of exactly the models that have it, at their
own model numbers.
-/
namespace KV.Interp
variable (cs : Comps Nat)

theorem strOf_cons (m : LM Nat) (r : Rec Nat) (M : List (Rec Nat)) :
    strOf m (r :: M) =
      match m.findGram r.1 with
      | some e => (r.1, e.prob) :: strOf m M
      | none => strOf m M := by
  unfold strOf
  rw [List.filterMap_cons]
  cases m.findGram r.1 <;> rfl

theorem head_strOf {m : LM Nat} {M : List (Rec Nat)} {x : List Nat × Rat} {t : List (List Nat × Rat)}
    (h : strOf m M = x :: t) : ∃ r ∈ M, r.1 = x.1 := by
  have hx : x ∈ strOf m M := h ▸ List.mem_cons_self
  unfold strOf at hx
  obtain ⟨r, hr, hx⟩ := List.mem_filterMap.1 hx
  cases hf : m.findGram r.1 with
  | none => rw [hf] at hx; cases hx
  | some e =>
    rw [hf] at hx
    exact ⟨r, hr, by rw [← Option.some.inj hx]⟩

theorem filterMap_actsOf {β : Type} (f : Act → Option β) (hf : ∀ i, f ⟨i, []⟩ = none) (M : List (Rec Nat)) :
    (actsOf cs M).filterMap f = cs.zipIdx.filterMap (fun pi => f ⟨pi.2, strOf pi.1.2 M⟩) := by
  unfold actsOf
  rw [List.filterMap_filterMap]
  apply List.filterMap_congr
  intro pi _
  by_cases h : strOf pi.1.2 M = []
  · rw [if_pos h, h, hf]; rfl
  · rw [if_neg h]; rfl

/-- the per-component element of `actsOf`; no statement uses it -/
def actOf (M : List (Rec Nat)) (pi : (Rat × LM Nat) × Nat) : Option Act :=
  if strOf pi.1.2 M = [] then none else some ⟨pi.2, strOf pi.1.2 M⟩

/-- models that have `gram`, with their model number and probability -/
def contribFrom (l : Comps Nat) (n : Nat) (gram : List Nat) : List (Nat × Rat) :=
  (l.zipIdx n).filterMap (fun pi => (pi.1.2.findGram gram).map (fun e => (pi.2, e.prob)))

theorem advance_actsOf (gram : List Nat) (w : Nat) (M' : List (Rec Nat))
    (hne : ∀ r ∈ M', r.1 ≠ gram) :
    advance (actsOf cs ((gram, w) :: M')) gram = (contribFrom cs 0 gram, actsOf cs M') := by
  unfold advance contribFrom
  rw [filterMap_actsOf cs _ (fun _ => rfl), filterMap_actsOf cs _ (fun _ => rfl), actsOf]
  -- a component without `gram` keeps its stream, whose head is a later n-gram
  refine Prod.ext ?_ ?_ <;>
  · apply List.filterMap_congr
    intro pi _
    rw [strOf_cons]
    cases hf : pi.1.2.findGram gram with
    | some e => simp
    | none =>
      cases hs : strOf pi.1.2 M' with
      | nil => simp
      | cons x t =>
        obtain ⟨r, hr, hrx⟩ := head_strOf hs
        obtain ⟨g', p'⟩ := x
        have : g' ≠ gram := fun h => hne r hr (hrx.trans h)
        simp [this]

theorem mergeG_cons (m : LM Nat) (y : Nat) (t : List Nat) :
    m.mergeG (y :: t) = match m.findGram (y :: t) with
      | some e => (e.prob, t.length)
      | none => m.mergeG t := by
  conv_lhs => rw [LM.mergeG]
  cases m.findGram (y :: t) <;> rfl

theorem getElem_mergeFb (g : List Nat) (j : Nat) (hj : j < cs.length) (h : j < (mergeFb cs g).length) :
    (mergeFb cs g)[j] = (cs[j].1 * (cs[j].2.mergeG g).1, (cs[j].2.mergeG g).2) := by
  simp [mergeFb]

theorem lookup_contribFrom (gram : List Nat) (l : Comps Nat) (i : Nat) :
    (contribFrom l 0 gram).lookup i = l[i]?.bind (fun p => (p.2.findGram gram).map (fun e => e.prob)) := by
  unfold contribFrom
  rw [← lookup_filterMap_zipIdx]
  congr 2
  funext pi
  cases pi.1.2.findGram gram <;> rfl

theorem applyContrib_mergeFb (y : Nat) (g : List Nat) :
    applyContrib (cs.map (·.1)) (mergeFb cs g) (contribFrom cs 0 (y :: g)) g.length = mergeFb cs (y :: g) := by
  unfold applyContrib
  apply List.ext_getElem
  · simp [mergeFb]
  · intro j h1 h2
    have hj : j < cs.length := by simpa [mergeFb] using h2
    rw [List.getElem_map, List.getElem_zipIdx]
    simp only [Nat.zero_add]
    rw [lookup_contribFrom, List.getElem?_eq_getElem hj, Option.bind_some]
    rw [getElem_mergeFb cs (y :: g) j hj, mergeG_cons]
    cases hf : (cs[j]).2.findGram (y :: g) with
    | some e => simp [List.getD_eq_getElem?_getD, hj]
    | none => simp [getElem_mergeFb cs g j hj]

theorem mem_candFirst {M : List (Rec Nat)} {g : List Nat} {z : Nat}
    (h : z ∈ candFirst (actsOf cs M) g) : ∃ r ∈ M, r.1 = z :: g := by
  unfold candFirst at h
  rw [filterMap_actsOf cs _ (fun _ => rfl), List.mem_filterMap] at h
  obtain ⟨pi, _, hz⟩ := h
  cases hst : strOf pi.1.2 M with
  | nil => rw [hst] at hz; cases hz
  | cons x t =>
    obtain ⟨r, hr, hrx⟩ := head_strOf hst
    rw [hst] at hz
    obtain ⟨_ | ⟨y', t'⟩, px⟩ := x
    · cases hz
    · exact ⟨r, hr, hrx.trans (leftExt_eq_some.1 hz)⟩

/-- some component has the n-gram `g` (`hasGram_iff`: `g ∈ unionN cs`, said through the look-up the streams are built with) -/
def HasGram (g : List Nat) : Prop := ∃ p ∈ cs, (p.2.findGram g).isSome = true

theorem minFirst_actsOf (y w : Nat) (g : List Nat) (M' : List (Rec Nat))
    (hhas : HasGram cs (y :: g))
    (hge : ∀ r ∈ M', ∀ z, r.1 = z :: g → y ≤ z) :
    minFirst (actsOf cs ((y :: g, w) :: M')) g = some y := by
  have hmem : y ∈ candFirst (actsOf cs ((y :: g, w) :: M')) g := by
    obtain ⟨p, hp, hsome⟩ := hhas
    obtain ⟨i, hi, hpi⟩ := List.getElem_of_mem hp
    unfold candFirst
    rw [filterMap_actsOf cs _ (fun _ => rfl), List.mem_filterMap]
    refine ⟨(p, i), List.mem_zipIdx_iff_getElem?.2 (by simp [hi, hpi]), ?_⟩
    simp only
    rw [strOf_cons]
    cases hf : p.2.findGram (y :: g) with
    | none => rw [hf] at hsome; exact Bool.noConfusion hsome
    | some e => simp
  have hall : ∀ z ∈ candFirst (actsOf cs ((y :: g, w) :: M')) g, y ≤ z := by
    intro z hz
    obtain ⟨r, hr, hrz⟩ := mem_candFirst cs hz
    rcases List.mem_cons.1 hr with h | h
    · rw [h] at hrz
      simp at hrz
      omega
    · exact hge r h z hrz
  unfold minFirst
  cases hc : candFirst (actsOf cs ((y :: g, w) :: M')) g with
  | nil => rw [hc] at hmem; simp at hmem
  | cons c l =>
    rw [hc] at hmem hall
    simp only
    exact List.min?_cons'.symm.trans (List.min?_eq_some_iff.2 ⟨hmem, hall⟩)

theorem minFirst_none (g : List Nat) (M : List (Rec Nat)) (h : ∀ r ∈ M, ¬ g <:+ r.1) :
    minFirst (actsOf cs M) g = none := by
  unfold minFirst
  cases hc : candFirst (actsOf cs M) g with
  | nil => rfl
  | cons z l =>
    have hz : z ∈ candFirst (actsOf cs M) g := by rw [hc]; exact List.mem_cons_self
    obtain ⟨r, hr, hrz⟩ := mem_candFirst cs hz
    exact absurd (hrz ▸ List.suffix_cons z g) (h r hr)

theorem handleK_nil (lam : List Rat) (n : Nat) (g : List Nat) (fb : Fallback) :
    handleK lam n [] g fb = ([], []) := by
  cases n <;> simp [handleK]

theorem handleK_step (n y : Nat) (g : List Nat) (M' : List (Rec Nat)) (lower : List (List Act))
    (hhas : HasGram cs (y :: g))
    (hge : ∀ r ∈ M', ∀ z, r.1 = z :: g → y ≤ z) (hne : ∀ r ∈ M', r.1 ≠ y :: g)
    {r1 r2 : List (List Act) × List (P1Rec Nat)}
    (h1 : handleK (cs.map (·.1)) n lower (y :: g) (mergeFb cs (y :: g)) = r1)
    (h2 : handleK (cs.map (·.1)) n (actsOf cs M' :: r1.1) g (mergeFb cs g) = r2) :
    handleK (cs.map (·.1)) (n + 1) (actsOf cs ((y :: g, 0) :: M') :: lower) g (mergeFb cs g) =
      (r2.1, p1Rec cs (y :: g) :: r1.2 ++ r2.2) := by
  rw [handleK, minFirst_actsOf cs y 0 g M' hhas hge]
  simp only [advance_actsOf cs (y :: g) 0 M' hne, applyContrib_mergeFb, h1, h2]
  rfl

theorem handleK_stop (n : Nat) (g : List Nat) (M : List (Rec Nat)) (lower : List (List Act)) (fb : Fallback)
    (h : ∀ r ∈ M, ¬ g <:+ r.1) :
    handleK (cs.map (·.1)) n (actsOf cs M :: lower) g fb = (actsOf cs M :: lower, []) := by
  cases n with
  | zero => rfl
  | succ n => rw [handleK, minFirst_none cs g M h]

theorem actsOf_nil : actsOf cs [] = [] := by
  unfold actsOf strOf
  simp

/-- the k-way recursion on component views walks the grouped streams like the merged one (`Walks`): it needs no extra fuel per
node, the first words that follow a node must not be smaller (the `minimum` loop would pick them), a node must be an n-gram of
some component (or no stream shows it), and the fallback handed down is the one of the suffix -/
theorem walks_handleK (cs : Comps Nat) :
    Walks (handleK (cs.map (·.1))) (actsOf cs) (mergeStep cs) (mergeEmit cs) X1 0 (· ≤ ·) (HasGram cs)
      (fun g z => z = mergeFb cs g) where
  k_le := Nat.zero_le 1
  nil f g z := handleK_nil _ f g z
  stop f M lower g z h := handleK_stop cs f g M lower z h
  inh y g z hz := by rw [hz, mergeStep_mergeFb]
  node n y g z M' lower r1 r2 hz hN hfr h1 h2 := by
    subst hz
    rw [mergeStep_mergeFb] at h1
    rw [mergeEmit_eq]
    exact handleK_step cs n y g M' lower hN (fun r hr => (hfr r hr).2)
      (fun r hr heq => (hfr r hr).1 (heq ▸ List.suffix_refl _)) h1 h2


section Tree
variable (Y : List Nat → List Nat) (hlt : ∀ c, (Y c).Pairwise (· < ·)) (hG : ∀ c, ∀ y ∈ Y c, HasGram cs (y :: c))
include hlt hG

theorem goodW_of_lt : ∀ (d : Nat) (c : List Nat), GoodW Y (· ≤ ·) (HasGram cs) d c
  | 0, _ => trivial
  | d + 1, c => ⟨(hlt c).imp (fun h => ⟨Nat.ne_of_lt h, Nat.le_of_lt h⟩),
      fun y hy => ⟨hG c y hy, goodW_of_lt d (y :: c)⟩⟩

theorem handleK_top (D fuel : Nat) (hfuel : needE Y D (Y []) [] ≤ fuel) :
    handleK (cs.map (·.1)) fuel ((levelsE X1 Y D (Y []) []).map (actsOf cs)) [] (mergeFb cs []) =
      (List.replicate (D + 1) [], (Y []).flatMap (fun y => specP1 cs Y D [y])) := by
  have h := walk_top Y (walks_handleK cs) D fuel _ rfl hfuel
    (goodW_of_lt cs Y hlt hG (D + 1) [])
  rw [List.map_replicate, actsOf_nil] at h
  exact h.trans (congrArg _ (List.flatMap_congr (fun y _ => specSameG_merge cs X1 Y D y [])))

end Tree

theorem hasGram_iff {g : List Nat} : HasGram cs g ↔ g ∈ unionN cs := by
  rw [mem_unionN]
  exact exists_congr (fun p => and_congr_right (fun _ => findGram_isSome_iff p.2 g))

theorem strOf_p1Stream (p : Rat × LM Nat) (hp : p ∈ cs) (k : Nat) :
    strOf p.2 (p1Stream cs k) = compStream p.2 k := by
  unfold strOf p1Stream compStream
  rw [List.filterMap_map]
  set f : List Nat → Option (List Nat × Rat) := fun g => (p.2.findGram g).map (fun e => (g, e.prob)) with hf
  have hfun : ((fun r : Rec Nat => (p.2.findGram r.1).map (fun e => (r.1, e.prob))) ∘ fun g => (g, 0)) = f := rfl
  rw [hfun, ← filterMap_filter_isSome f (probStream3 cs k)]
  congr 1
  apply sufSorted_eq_of_mem
  · exact (sufSorted_probStream3 cs k).sublist List.filter_sublist
  · exact sufSorted_mergeSort _ (nodup_dedup _)
  · intro g
    rw [List.mem_filter, mem_probStream3, List.mem_mergeSort, mem_dedup, List.mem_filter, List.mem_map]
    have hsome : (f g).isSome = true ↔ ∃ e ∈ p.2.entries, e.gram = g := by
      rw [hf]; simp only [Option.isSome_map]; exact findGram_isSome_iff p.2 g
    rw [hsome]
    constructor
    · rintro ⟨⟨_, hlen⟩, e, he, hg⟩
      exact ⟨⟨e, he, hg⟩, by simpa using hlen⟩
    · rintro ⟨⟨e, he, hg⟩, hlen⟩
      exact ⟨⟨mem_unionN.2 ⟨p, hp, e, he, hg⟩, by simpa using hlen⟩, e, he, hg⟩

theorem initActs_eq (k : Nat) : initActs cs k = actsOf cs (p1Stream cs k) := by
  unfold initActs actsOf
  apply List.filterMap_congr
  intro pi hpi
  have hp : pi.1 ∈ cs := List.mem_of_getElem? (List.mem_zipIdx_iff_getElem?.1 hpi)
  rw [strOf_p1Stream cs pi.1 hp k]

theorem initActs_streams (h : UnionSuffixClosed cs) (D : Nat) :
    (List.range (D + 1)).map (fun j => initActs cs (j + 1)) =
      (levelsE X1 (sortedYg cs) D (sortedYg cs []) []).map (actsOf cs) := by
  rw [levelsE_eq_p1Streams cs h D, List.map_map]
  exact List.map_congr_left (fun j _ => initActs_eq cs (j + 1))

end KV.Interp
