import Proofs.LeftNT
import Proofs.LeftTerminal
import Proofs.LeftBuild
/-! From the two `Frag` lemmas to whole derivations: induction over arbitrary n-ary derivation trees, with and
without `BeginSentence`; with exact extends-left marks the description of a word sequence is unique (`frag_unique`), which
is what the whole − parts statements of C08 rest on (`whole_minus_parts`). -/
namespace KV.Left
open KV.Arpa KV.Table KV.State KV.Score

variable {a : Arpa} {T : Table}

/-- every word of the derivation is in the vocabulary (`Index` maps everything else to `<unk>`, which is) -/
def ValidWords (a : Arpa) (ws : List Word) : Prop := ∀ w ∈ ws, a.gram [w] ≠ none

theorem terminal_done (H : Hyp a T) (R : Ptr → Rat) {h0 ws : List Word} {p0 : Rat} {l0 : LeftSt} {rs : RS}
    (B : FragB a h0 ws p0 l0 rs) (w : Word) (hw : a.gram [w] ≠ none) :
    FragB a h0 (ws ++ [w]) p0 l0 (terminal T R rs w) := by
  obtain ⟨hp, hst', hnorm⟩ := fullScore_step H R B.right_for hw
  rw [terminal_of_done R rs w B.done]
  refine ⟨B.done, B.left_eq, by simpa using hst', hnorm, ?_⟩
  show rs.prob + (fullScore (restSearch T R) rs.out.right w).1.prob = _
  rw [hp, B.prob_eq, specSeq_append]
  simp only [specSeq]; rw [Rat.add_zero, Rat.add_assoc]

theorem ValidWords.append_left {ws1 ws2 : List Word} (h : ValidWords a (ws1 ++ ws2)) : ValidWords a ws1 :=
  fun w hw => h w (List.mem_append_left _ hw)

theorem ValidWords.append_right {ws1 ws2 : List Word} (h : ValidWords a (ws1 ++ ws2)) : ValidWords a ws2 :=
  fun w hw => h w (List.mem_append_right _ hw)

/-- an invariant of the running object (with the words scored so far) that `Terminal` and `NonTerminal`, given the
finished fragment of any word sequence, preserve -/
structure Preserved (a : Arpa) (T : Table) (R : Ptr → Rat) (Inv : List Word → RS → Prop) : Prop where
  term : ∀ {ws : List Word} {rs : RS} (w : Word), Inv ws rs → a.gram [w] ≠ none → Inv (ws ++ [w]) (terminal T R rs w)
  nt : ∀ {ws : List Word} {rs : RS} {ws2 : List Word} {L2 : Nat} {c : Chart} {p2 : Rat}, Inv ws rs →
    FragC a T R ws2 L2 c p2 → Inv (ws ++ ws2) (nonTerminal T R rs c p2)

theorem frag_preserved (H : Hyp a T) (R : Ptr → Rat) : Preserved a T R fun ws rs => ∃ L, Frag a T R ws L rs :=
  ⟨fun w ⟨_, F⟩ hw => terminal_frag_aux H R F w hw, fun ⟨_, F⟩ G => nonTerminal_frag_aux H R F G⟩

mutual

/-- **induction over derivation trees**: a preserved invariant holds after applying any item; the argument of a
non-terminal is the same statement, for the fragment invariant, on the subtree -/
theorem applyItem_inv (H : Hyp a T) (R : Ptr → Rat) {Inv : List Word → RS → Prop} (P : Preserved a T R Inv) :
    ∀ (i : Item) {ws : List Word} {rs : RS}, Inv ws rs → ValidWords a i.yield → Inv (ws ++ i.yield) (applyItem T R rs i)
  | .term w, ws, rs, h, hv => by
    simp only [applyItem, Item.yield]
    exact P.term w h (hv w (by simp [Item.yield]))
  | .nt r, ws, rs, h, hv => by
    simp only [applyItem, Item.yield]
    obtain ⟨L2, F2⟩ := applyRule_inv H R (frag_preserved H R) r ⟨0, init_frag R⟩ (by simpa [Item.yield] using hv)
    have G := finish_frag H R F2
    simp only [List.nil_append] at G
    exact P.nt h G

theorem applyRule_inv (H : Hyp a T) (R : Ptr → Rat) {Inv : List Word → RS → Prop} (P : Preserved a T R Inv) :
    ∀ (r : Rule) {ws : List Word} {rs : RS}, Inv ws rs → ValidWords a r.yield → Inv (ws ++ r.yield) (applyRule T R rs r)
  | .nil, ws, rs, h, _ => by
    simp only [applyRule, Rule.yield, List.append_nil]; exact h
  | .cons i r, ws, rs, h, hv => by
    simp only [applyRule, Rule.yield]
    have h1 := applyItem_inv H R P i h (ValidWords.append_left (by simpa [Rule.yield] using hv))
    have h2 := applyRule_inv H R P r h1 (ValidWords.append_right (by simpa [Rule.yield] using hv))
    rwa [List.append_assoc] at h2
end

theorem applyItem_frag (H : Hyp a T) (R : Ptr → Rat) :
    ∀ (i : Item) {ws : List Word} {L : Nat} {rs : RS}, Frag a T R ws L rs → ValidWords a i.yield →
      ∃ L', Frag a T R (ws ++ i.yield) L' (applyItem T R rs i) :=
  fun i _ L _ F hv => applyItem_inv H R (frag_preserved H R) i ⟨L, F⟩ hv

theorem applyRule_frag (H : Hyp a T) (R : Ptr → Rat) (r : Rule) {ws : List Word} {L : Nat} {rs : RS} (F : Frag a T R ws L rs)
    (hv : ValidWords a r.yield) : ∃ L', Frag a T R (ws ++ r.yield) L' (applyRule T R rs r) :=
  applyRule_inv H R (frag_preserved H R) r ⟨L, F⟩ hv

theorem fragB_preserved (H : Hyp a T) (R : Ptr → Rat) (h0 : List Word) (p0 : Rat) (l0 : LeftSt) :
    Preserved a T R fun ws rs => FragB a h0 ws p0 l0 rs := by
  refine ⟨fun w B hw => terminal_done H R B w hw, fun B G => ?_⟩
  have B' := nonTerminal_done H R G B.done B.right_for B.right_norm
  refine ⟨B'.done, B'.left_eq.trans B.left_eq, by simpa using B'.right_for, B'.right_norm, ?_⟩
  rw [B'.prob_eq, B.prob_eq, specSeq_append]; exact Rat.add_assoc _ _ _

theorem begin_fragB (H : Hyp a T) (R : Ptr → Rat) (bos : Word) :
    FragB a [bos] [] 0 {} (beginSentence T R bos RS.init) := by
  refine ⟨rfl, rfl, ?_, ⟨rfl, rfl⟩, by simp [beginSentence, RS.init, specSeq]; exact (Rat.add_zero 0).symm⟩
  show StateFor a [bos] (beginSentenceState (restSearch T R) bos)
  rw [beginSentenceState_rest]
  exact stateFor_begin H.wf H.tf bos

theorem restSum_noRest (H : Hyp a T) (ws : List Word) :
    ∀ L, L ≤ ws.length → L ≤ a.order - 1 → (∀ i, i < L → T.xl (pre ws i) = true) →
      restSum (noRest T) ws L = specSeq a [] (ws.take L) := by
  intro L
  induction L with
  | zero => intro _ _ _; simp [restSum, specSeq]
  | succ L ih =>
    intro h1 h2 hx
    obtain ⟨t, ht, _⟩ := xl_lookup (hx L (by omega))
    have hp := pre_prob H ws L (by omega) (by omega) ht
    simp only [restSum]
    rw [ih (by omega) (by omega) (fun i hi => hx i (by omega)), List.take_succ_eq_append_getElem (by omega), specSeq_append]
    simp only [specSeq, noRest, ht, hp, gm1, List.append_nil]
    grind

/-- with exact extends-left marks the canonical description of a word sequence is unique: in particular every
derivation of the same yield returns the same score (also with rest costs) -/
theorem frag_unique (R : Ptr → Rat) (hx : XLSound T) {ws : List Word} {L L' : Nat} {c c' : Chart} {p p' : Rat}
    (G : FragC a T R ws L c p) (G' : FragC a T R ws L' c' p') : L = L' ∧ p = p' := by
  have key : ∀ {L L' : Nat} {c c' : Chart} {p p' : Rat}, FragC a T R ws L c p → FragC a T R ws L' c' p' → ¬ L < L' := by
    intro L L' c c' p p' G G' hlt
    have hL' := G'.L_le
    by_cases hf : c.left.full = true
    · rcases G.closed hf with ⟨h1, h2⟩ | ⟨h1, _⟩ | ⟨h1, _⟩
      · obtain ⟨x, hx'⟩ := hx _ (G'.ptr_xl L hlt)
        exact hx' (h2 x)
      · omega
      · omega
    · have := (G.open_ (by simpa using hf)).1
      omega
  have hLL : L = L' := by
    have h1 := key G G'
    have h2 := key G' G
    omega
  subst hLL
  exact ⟨rfl, by rw [G.prob_eq, G'.prob_eq]⟩

theorem ruleScore_frag (H : Hyp a T) (R : Ptr → Rat) (r : Rule) (hv : ValidWords a r.yield) :
    ∃ L, FragC a T R r.yield L (ruleScore T R none r).1 (ruleScore T R none r).2 := by
  obtain ⟨L, F⟩ := applyRule_frag H R r (init_frag R) hv
  rw [List.nil_append] at F
  exact ⟨L, finish_frag H R F⟩

theorem ruleScore_unique (H : Hyp a T) (R : Ptr → Rat) (hx : XLSound T) {r : Rule} {ws : List Word} (hy : r.yield = ws)
    (hv : ValidWords a ws) {L' : Nat} {c' : Chart} {p' : Rat} (G' : FragC a T R ws L' c' p') : (ruleScore T R none r).2 = p' := by
  subst hy
  obtain ⟨L, G⟩ := ruleScore_frag H R r hv
  exact (frag_unique R hx G G').2

/-- **whole − parts**: an operation that turns the descriptions of two parts into a description of their concatenation
whose score is the parts' scores plus `adj`, has `adj` = score of any derivation of the whole − scores of the parts -/
theorem whole_minus_parts (H : Hyp a T) (R : Ptr → Rat) (hx : XLSound T) {r₁ r₂ r : Rule} (hy : r.yield = r₁.yield ++ r₂.yield)
    (hv : ValidWords a r.yield) {adj : Rat}
    (op : ∀ {L₁ L₂ : Nat}, FragC a T R r₁.yield L₁ (ruleScore T R none r₁).1 (ruleScore T R none r₁).2 →
      FragC a T R r₂.yield L₂ (ruleScore T R none r₂).1 (ruleScore T R none r₂).2 →
      ∃ L' c', FragC a T R (r₁.yield ++ r₂.yield) L' c' ((ruleScore T R none r₁).2 + (ruleScore T R none r₂).2 + adj)) :
    adj = (ruleScore T R none r).2 - (ruleScore T R none r₁).2 - (ruleScore T R none r₂).2 := by
  rw [hy] at hv
  obtain ⟨_, G₁⟩ := ruleScore_frag H R r₁ (ValidWords.append_left hv)
  obtain ⟨_, G₂⟩ := ruleScore_frag H R r₂ (ValidWords.append_right hv)
  obtain ⟨_, _, G'⟩ := op G₁ G₂
  rw [ruleScore_unique H R hx hy hv G']
  grind

end KV.Left
