import Model.Interp
/-!
The context tree behind the grouped streams (C13).  A tree is given by `Y : List W → List W`, the words
that extend a context to the left, and `X`, the words of a context's own records.  `levels` / `levelsE`
(the streams of a subtree, one per order) are given in closed form: stream `j` is level `j` of the tree
(`lev`), and a record is in level `j` below `c` iff its context is reached from `c` by `j` left extensions
(`Below`).  For the tree of a set of word lists closed under dropping first words (`SufTree`), `Below` is
"extends `c` by `j` words and is in the set" (`SufTree.below_iff`).  Before that: `zipWith (· ++ ·)` lemmas and `AllRecs`
(every record of every stream satisfies `P`); after it: `Good` (the tree condition of the stream refinement), membership in the
visiting order `ctxPre`, and two small notions of the layers above, `leftExt` and `X1`.  Imports the model only.
-/
namespace KV.Interp

section Zip
variable {α : Type}

theorem zipWith_append_assoc : ∀ (A B R : List (List α)),
    List.zipWith (· ++ ·) (List.zipWith (· ++ ·) A B) R =
      List.zipWith (· ++ ·) A (List.zipWith (· ++ ·) B R)
  | [], _, _ => rfl
  | _ :: _, [], _ => rfl
  | _ :: _, _ :: _, [] => rfl
  | a :: A, b :: B, r :: R => by
    rw [List.zipWith_cons_cons, List.zipWith_cons_cons, List.zipWith_cons_cons, List.zipWith_cons_cons,
      List.append_assoc, zipWith_append_assoc A B R]

theorem zipWith_replicate_nil : ∀ (n : Nat) (R : List (List α)), R.length ≤ n →
    List.zipWith (· ++ ·) (List.replicate n ([] : List α)) R = R
  | _, [], _ => List.zipWith_nil_right
  | 0, _ :: _, h => absurd h (Nat.not_succ_le_zero _)
  | n + 1, r :: R, h => by
    rw [List.replicate_succ, List.zipWith_cons_cons, List.nil_append,
      zipWith_replicate_nil n R (Nat.le_of_succ_le_succ h)]

theorem zipWith_replicate_nil_right : ∀ (n : Nat) (A : List (List α)), A.length ≤ n →
    List.zipWith (· ++ ·) A (List.replicate n ([] : List α)) = A
  | _, [], _ => List.zipWith_nil_left
  | 0, _ :: _, h => absurd h (Nat.not_succ_le_zero _)
  | n + 1, a :: A, h => by
    rw [List.replicate_succ, List.zipWith_cons_cons, List.append_nil,
      zipWith_replicate_nil_right n A (Nat.le_of_succ_le_succ h)]

/-- every record of every stream satisfies `P`; how the recursions describe the streams that follow the
subtree they are consuming -/
def AllRecs (P : α → Prop) (ss : List (List α)) : Prop := ∀ l ∈ ss, ∀ r ∈ l, P r

theorem allRecs_zipWith (P : α → Prop) : ∀ (A B : List (List α)), AllRecs P A → AllRecs P B →
    AllRecs P (List.zipWith (· ++ ·) A B)
  | [], _, _, _ => fun _ hl => absurd hl List.not_mem_nil
  | _ :: _, [], _, _ => fun _ hl => absurd hl List.not_mem_nil
  | a :: A, b :: B, hA, hB => by
    intro l hl r hr
    rw [List.zipWith_cons_cons, List.mem_cons] at hl
    rcases hl with rfl | hl
    · rcases List.mem_append.1 hr with h | h
      · exact hA a List.mem_cons_self r h
      · exact hB b List.mem_cons_self r h
    · exact allRecs_zipWith P A B (fun l hl => hA l (List.mem_cons_of_mem _ hl))
        (fun l hl => hB l (List.mem_cons_of_mem _ hl)) l hl r hr

theorem allRecs_replicate_nil (P : α → Prop) (n : Nat) : AllRecs P (List.replicate n ([] : List α)) := by
  intro l hl r hr
  rw [(List.mem_replicate.1 hl).2] at hr
  simp at hr

theorem allRecs_mono {P Q : α → Prop} (h : ∀ r, P r → Q r) {ss : List (List α)} (hs : AllRecs P ss) :
    AllRecs Q ss := fun l hl r hr => h r (hs l hl r hr)

end Zip

section Tree
variable {W : Type} (X Y : List W → List W)

def own (c : List W) : List (Rec W) := (X c).map (fun x => (c, x))

theorem mem_own {c : List W} {r : Rec W} : r ∈ own X c ↔ r.1 = c ∧ r.2 ∈ X c := by
  unfold own
  rw [List.mem_map]
  exact ⟨fun ⟨x, hx, e⟩ => e ▸ ⟨rfl, hx⟩, fun ⟨h1, h2⟩ => ⟨r.2, h2, by rw [← h1]⟩⟩

theorem map_snd_own (c : List W) : (own X c).map (·.2) = X c := by
  unfold own
  rw [List.map_map]
  exact (List.map_congr_left (fun _ _ => rfl)).trans (List.map_id _)

theorem levels_zero (c : List W) : levels X Y 0 c = [own X c] := rfl

theorem levels_succ (d : Nat) (c : List W) :
    levels X Y (d + 1) c = own X c :: levelsE X Y d (Y c) c := rfl

theorem levelsE_nil (d : Nat) (c : List W) : levelsE X Y d [] c = List.replicate (d + 1) [] := rfl

theorem levelsE_cons (d : Nat) (y : W) (ys : List W) (c : List W) :
    levelsE X Y d (y :: ys) c =
      List.zipWith (· ++ ·) (levels X Y d (y :: c)) (levelsE X Y d ys c) := rfl

def lev : Nat → List W → List (Rec W)
  | 0, c => own X c
  | j + 1, c => (Y c).flatMap (fun y => lev j (y :: c))

theorem levelsE_eq_of (d : Nat)
    (hl : ∀ c, levels X Y d c = (List.range (d + 1)).map (fun j => lev X Y j c)) (c : List W) :
    ∀ ys : List W, levelsE X Y d ys c =
      (List.range (d + 1)).map (fun j => ys.flatMap (fun y => lev X Y j (y :: c)))
  | [] => by
    rw [levelsE_nil]
    simp only [List.flatMap_nil, List.map_const', List.length_range]
  | y :: ys => by
    rw [levelsE_cons, hl, levelsE_eq_of d hl c ys, List.zipWith_map, List.zipWith_self]
    simp only [List.flatMap_cons]

theorem levels_eq : ∀ (d : Nat) (c : List W),
    levels X Y d c = (List.range (d + 1)).map (fun j => lev X Y j c)
  | 0, _ => rfl
  | d + 1, c => by
    rw [levels_succ, levelsE_eq_of X Y d (levels_eq d) c]
    conv => rhs; rw [List.range_succ_eq_map, List.map_cons, List.map_map]
    rfl

theorem levelsE_eq (d : Nat) (ys : List W) (c : List W) : levelsE X Y d ys c =
    (List.range (d + 1)).map (fun j => ys.flatMap (fun y => lev X Y j (y :: c))) :=
  levelsE_eq_of X Y d (levels_eq X Y d) c ys

theorem levelsE_root (D : Nat) :
    levelsE X Y D (Y []) [] = (List.range (D + 1)).map (fun j => lev X Y (j + 1) []) :=
  levelsE_eq X Y D (Y []) []

theorem length_levels (d : Nat) (c : List W) : (levels X Y d c).length = d + 1 := by
  rw [levels_eq, List.length_map, List.length_range]

theorem length_levelsE (d : Nat) (ys : List W) (c : List W) : (levelsE X Y d ys c).length = d + 1 := by
  rw [levelsE_eq, List.length_map, List.length_range]

def Below : Nat → List W → List W → Prop
  | 0, c, c' => c' = c
  | j + 1, c, c' => ∃ y ∈ Y c, Below j (y :: c) c'

theorem mem_lev : ∀ (j : Nat) (c : List W) (r : Rec W),
    r ∈ lev X Y j c ↔ Below Y j c r.1 ∧ r.2 ∈ X r.1
  | 0, c, r => by
    rw [lev, Below, mem_own]
    exact ⟨fun ⟨h1, h2⟩ => ⟨h1, h1 ▸ h2⟩, fun ⟨h1, h2⟩ => ⟨h1, h1 ▸ h2⟩⟩
  | j + 1, c, r => by
    unfold lev Below
    rw [List.mem_flatMap]
    constructor
    · rintro ⟨y, hy, h⟩
      obtain ⟨hb, hx⟩ := (mem_lev j (y :: c) r).1 h
      exact ⟨⟨y, hy, hb⟩, hx⟩
    · rintro ⟨⟨y, hy, hb⟩, hx⟩; exact ⟨y, hy, (mem_lev j (y :: c) r).2 ⟨hb, hx⟩⟩

theorem below_form : ∀ (j : Nat) (c c' : List W), Below Y j c c' → ∃ p, p.length = j ∧ c' = p ++ c
  | 0, c, c', h => ⟨[], rfl, h⟩
  | j + 1, c, c', ⟨y, _, h⟩ => by
    obtain ⟨p, hp, hr⟩ := below_form j (y :: c) c' h
    exact ⟨p ++ [y], by simp [hp], by rw [hr]; simp⟩

theorem allRecs_levelsE (d : Nat) (c : List W) (ys : List W) :
    AllRecs (fun r : Rec W => ∃ y ∈ ys, (y :: c) <:+ r.1) (levelsE X Y d ys c) := by
  intro l hl r hr
  rw [levelsE_eq, List.mem_map] at hl
  obtain ⟨j, _, rfl⟩ := hl
  obtain ⟨y, hy, hr⟩ := List.mem_flatMap.1 hr
  obtain ⟨p, _, hp⟩ := below_form Y j (y :: c) r.1 ((mem_lev X Y j _ r).1 hr).1
  exact ⟨y, hy, hp ▸ List.suffix_append p (y :: c)⟩

theorem suffix_cons_inj {y y' : W} {c l : List W} (h1 : (y :: c) <:+ l) (h2 : (y' :: c) <:+ l) :
    y = y' := by
  have h12 : (y :: c) <:+ (y' :: c) := List.suffix_of_suffix_length_le h1 h2 (by simp)
  have := List.IsSuffix.eq_of_length h12 (by simp)
  exact (List.cons.inj this).1

/-- the tree below `c` is well formed `d` levels deep: distinct left extensions, each with at least
one record of its own -/
def Good : Nat → List W → Prop
  | 0, _ => True
  | d + 1, c => (Y c).Nodup ∧ ∀ y ∈ Y c, X (y :: c) ≠ [] ∧ Good d (y :: c)

theorem mem_ctxPre : ∀ (d : Nat) (c c' : List W),
    c' ∈ ctxPre Y d c ↔ ∃ j, j ≤ d ∧ Below Y j c c'
  | 0, c, c' => by
    rw [ctxPre, List.mem_singleton]
    constructor
    · exact fun h => ⟨0, Nat.le_refl _, h⟩
    · rintro ⟨j, hj, hb⟩
      rw [Nat.le_zero.1 hj] at hb
      exact hb
  | d + 1, c, c' => by
    rw [ctxPre, List.mem_cons, List.mem_flatMap]
    constructor
    · rintro (h | ⟨y, hy, hin⟩)
      · exact ⟨0, Nat.zero_le _, h⟩
      · obtain ⟨j, hj, hb⟩ := (mem_ctxPre d (y :: c) c').1 hin
        exact ⟨j + 1, Nat.succ_le_succ hj, y, hy, hb⟩
    · rintro ⟨j, hj, hb⟩
      cases j with
      | zero => exact Or.inl hb
      | succ j =>
        obtain ⟨y, hy, hb⟩ := hb
        exact Or.inr ⟨y, hy, (mem_ctxPre d (y :: c) c').2 ⟨j, Nat.le_of_succ_le_succ hj, hb⟩⟩

theorem ctxPre_form (d : Nat) (c c' : List W)
    (h : c' ∈ ctxPre Y d c) : ∃ p, p.length ≤ d ∧ c' = p ++ c := by
  obtain ⟨j, hj, hb⟩ := (mem_ctxPre Y d c c').1 h
  obtain ⟨p, hp, hc⟩ := below_form Y j c c' hb
  exact ⟨p, hp ▸ hj, hc⟩

end Tree

section SufTree

/-- `Y` is the tree of the set `Q` of word lists: `Y c` lists, in increasing order, the words `y` with
`Q (y :: c)`, and `Q` survives dropping first words.  The contexts that have an extension in a union
closed under dropping the first word form such a tree (pass 2 and 3), and so do its n-grams (pass 1). -/
structure SufTree (Q : List Nat → Prop) (Y : List Nat → List Nat) : Prop where
  lt : ∀ c, (Y c).Pairwise (· < ·)
  mem : ∀ c y, y ∈ Y c ↔ Q (y :: c)
  drop : ∀ p g, g ≠ [] → Q (p ++ g) → Q g

variable {Q : List Nat → Prop} {Y : List Nat → List Nat} (T : SufTree Q Y)
include T

theorem SufTree.below_iff : ∀ (j : Nat) (c c' : List Nat),
    Below Y j c c' ↔ ∃ p, p.length = j ∧ c' = p ++ c ∧ (p = [] ∨ Q c') := by
  intro j
  induction j with
  | zero =>
    intro c c'
    unfold Below
    constructor
    · exact fun h => ⟨[], rfl, h, Or.inl rfl⟩
    · rintro ⟨p, hp, hc, _⟩
      rw [hc, List.length_eq_zero_iff.1 hp]; rfl
  | succ j ih =>
    intro c c'
    unfold Below
    constructor
    · rintro ⟨y, hy, hb⟩
      obtain ⟨p, hp, hc, hor⟩ := (ih (y :: c) c').1 hb
      refine ⟨p ++ [y], by simp [hp], by rw [hc]; simp, Or.inr ?_⟩
      rcases hor with rfl | hq
      · rw [hc]; exact (T.mem c y).1 hy
      · exact hq
    · rintro ⟨p, hp, hc, hor⟩
      obtain ⟨p', y, rfl⟩ := (List.eq_nil_or_concat p).resolve_left (fun h0 => by rw [h0] at hp; cases hp)
      rw [List.concat_eq_append] at hp hc hor
      have hq : Q c' := hor.resolve_left (by simp)
      have hc' : c' = p' ++ (y :: c) := by rw [hc]; simp
      refine ⟨y, (T.mem c y).2 (T.drop p' (y :: c) (by simp) (hc' ▸ hq)),
        (ih (y :: c) c').2 ⟨p', by simpa using hp, hc', Or.inr hq⟩⟩

theorem SufTree.good (X : List Nat → List Nat) (hX : ∀ c, Q c → X c ≠ []) :
    ∀ (d : Nat) (c : List Nat), Good X Y d c
  | 0, _ => trivial
  | d + 1, c => ⟨(T.lt c).imp Nat.ne_of_lt,
      fun y hy => ⟨hX _ ((T.mem c y).1 hy), SufTree.good X hX d (y :: c)⟩⟩

end SufTree

/-- the word that extends `t` to `l`, if `l` is `t` with one word in front: the test by which `sortedY`, `sortedYg` and the
`minimum` loop of `HandleSuffix` pick left extensions -/
def leftExt (t : List Nat) : List Nat → Option Nat
  | y :: t' => if t' = t then some y else none
  | [] => none

theorem leftExt_eq_some {t l : List Nat} {y : Nat} : leftExt t l = some y ↔ l = y :: t := by
  cases l with
  | nil => exact ⟨nofun, nofun⟩
  | cons y' t' =>
    rw [leftExt]
    split
    · rename_i h; rw [Option.some.injEq, h, List.cons.injEq]; exact ⟨fun e => ⟨e, rfl⟩, fun e => e.1⟩
    · rename_i h; exact ⟨nofun, fun e => absurd (List.cons.inj e).2 h⟩

/-- the words of a tree with one record per node (pass 1: a record stands for its n-gram, the word is a dummy) -/
def X1 : List Nat → List Nat := fun _ => [0]

end KV.Interp
