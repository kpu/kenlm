import Proofs.ChainRing
/-! Deadlock freedom and the termination measure of the Chain ring. Core Lean only. -/
namespace KV.Chain

variable [StageFn] {b m : Nat} {data : List Nat} {c : Chain} {i : Nat}

/-- no `Produce` of a stage ever blocks: there are only `b` blocks (conservation) -/
theorem RInv.produce_room (h : RInv b m data c) (hi : i ≤ m) (hp : producing (c.st i)) :
    (c.q (c.outQ i)).length < c.b := by
  obtain ⟨x, hx⟩ := pend_of_producing hp
  have hoq : c.outQ i ≤ m := by rw [outQ_eq h.m_eq]; split <;> omega
  have := h.room hoq hi
  rw [hx, List.length_singleton] at this
  rw [h.b_eq]; omega

/-- When no thread can step, everything has finished.  No thread enabled means (`stageStep_ne_none_iff`,
`mainStep_ne_none_iff`): `Chain::Start` has filled queue 0 (it always finds room), and every unfinished stage waits on
an empty queue.  The least such stage cannot exist — its predecessor has finished and handed over its poison, and if it
is the source, conservation puts a block into some queue whose reader has finished.  So all stages have finished; then
the user thread is neither joining nor draining: the poison of the last stage is in queue 0. -/
theorem RInv.stuck_finished (h : RInv b m data c) (hmax : ∀ tid, c.step tid = none) :
    c.main = .finished ∧ ∀ i, i ≤ m → (c.st i).pc = .finished := by
  have hmain := h.mainok
  have nomain := fun e => mainStep_ne_none_iff.mpr e (hmax 0)
  have nostage : ∀ i, i ≤ m → ¬ _ := fun i hi e =>
    stageStep_ne_none_iff.mpr e (Chain.step_stage (h.m_eq ▸ hi) ▸ hmax (i + 1))
  have hns : ∀ k, c.main ≠ .fill k := by
    intro k hk
    cases k with
    | zero => exact nomain (.inl hk)
    | succ k =>
      have hroom := h.room (Nat.zero_le m) (Nat.zero_le m)
      rw [fillRem_fill hk] at hroom
      exact nomain (.inr (.inl ⟨k, hk, by rw [h.b_eq]; omega⟩))
  have hnp : ∀ i, i ≤ m → ¬ producing (c.st i) := fun i hi hp => nostage i hi (.inr (.inr ⟨hp, h.produce_room hi hp⟩))
  have hrest : ∀ i, i ≤ m → (c.st i).pc = .finished ∨ (consuming (c.st i) ∧ c.q i = []) := by
    intro i hi
    rcases pc_cases (c.st i) with e | e | e | e
    · exact absurd (.inl ⟨e, hns⟩) (nostage i hi)
    · exact Or.inr ⟨e, Classical.byContradiction fun hq => nostage i hi (.inr (.inl ⟨e, hq⟩))⟩
    · exact absurd e (hnp i hi)
    · exact Or.inl e
  have hall : ∀ i, i ≤ m → (c.st i).pc = .finished := by
    intro i0 hi0
    apply Classical.byContradiction
    intro hnf0
    obtain ⟨i, hi, hnf, hleast⟩ := exists_least (P := fun i => (c.st i).pc ≠ .finished) ⟨i0, hi0, hnf0⟩
    have hci : consuming (c.st i) ∧ c.q i = [] := (hrest i hi).resolve_left hnf
    have hnop : Item.poison ∉ (c.st i).inp := (h.sok i hi).no_poison hci.1.ne_incPoison hci.1.ne_dtor hnf
    cases i with
    | zero =>
      -- all blocks are in the queues, none at the source: some later stage holds one
      have hcons := h.conservation
      have hpz : sumTo (fun i => (pend (c.st i)).length) (m + 1) = 0 := sumTo_eq_zero fun j hj => by
        rw [pend_nil_of_not_producing (hnp j (by omega))]; rfl
      have hb := h.bpos
      rw [(hmain.of_unfinished hi hnf).1, fillRem_of_not_fill hns, hpz] at hcons
      obtain ⟨j, hj, hpos⟩ := exists_pos_of_sumTo_pos (f := fun j => (c.q j).length) (k := m + 1)
        (by simp only [List.length_nil] at hcons; omega)
      rcases hrest j (by omega) with hfj | ⟨_, hqe⟩
      · exact hnf (h.fin_le (by omega) hfj 0 (by omega))
      · rw [hqe] at hpos; exact Nat.lt_irrefl _ hpos
    | succ j =>
      have hfj : (c.st j).pc = .finished := Classical.byContradiction fun e => hleast j (by omega) e
      have hp := (h.sok j (by omega)).fin.mp hfj
      rw [h.q j (by omega), hci.2, List.append_nil] at hp
      exact hnop hp
  refine ⟨?_, hall⟩
  cases hmn : c.main with
  | fill k => exact absurd hmn (hns k)
  | join i => exact absurd (.inr (.inr (.inl ⟨i, hmn, hall (i - 1) (by have := (hmain.of_main hmn).le; omega)⟩))) nomain
  | drain k =>
    have hp : Item.poison ∈ (c.st m).out := (h.sok m (Nat.le_refl _)).fin.mp (hall m (Nat.le_refl _))
    have hmem : Item.poison ∈ (c.st 0).inp ++ c.drained ++ c.q 0 := by
      rw [← h.q0]; exact List.mem_append_right _ hp
    refine absurd (.inr (.inr (.inr ⟨k, hmn, fun hqq => ?_⟩))) nomain
    rw [hqq, List.append_nil] at hmem
    rcases List.mem_append.mp hmem with h1 | h1
    · exact absurd h1 ((h.sok 0 (by omega)).src rfl)
    · exact absurd h1 (hmain.of_main hmn).no_poison
  | aborted => exact absurd hmn hmain.not_aborted
  | finished => rfl

theorem chain_no_deadlock_inv (h : RInv b m data c)
    (hnd : c.main ≠ .finished ∨ ∃ i, i ≤ m ∧ (c.st i).pc ≠ .finished) : ∃ tid, c.step tid ≠ none := by
  apply Classical.byContradiction
  intro hno
  obtain ⟨hf, hall⟩ := h.stuck_finished (none_of_not_exists hno)
  rcases hnd with e | ⟨i, hi, e⟩
  · exact e hf
  · exact e (hall i hi)

/-! The measure: a stage is charged 2 for every item it may still receive (`data.length + 1` in all: one step to consume
it, one to produce its image), 1 for an item in its hand and 1 for not having started; the user thread is charged what
is left of fill (`k`), join (`m + 2 - i`) and drain (`b + 1 - k`: `RInv.drain_lt`), each phase above the next. -/

def rank (n : Nat) (s : Stage) : Nat :=
  2 * (n + 1 - s.inp.length) + (pend s).length + (if s.pc = .start then 1 else 0)

def mainRank (b m : Nat) : MPC → Nat
  | .fill k => k + (m + 2) + (b + 1)
  | .join i => (m + 2 - i) + (b + 1)
  | .drain k => b + 1 - k
  | _ => 0

def chainMeasure (b m : Nat) (data : List Nat) (c : Chain) : Nat :=
  mainRank b m c.main + sumTo (fun i => rank data.length (c.st i)) (m + 1)

theorem chain_measure_step (h : RInv b m data c) {tid : Nat} {c' : Chain} (hs : c.step tid = some c') :
    chainMeasure b m data c' < chainMeasure b m data c := by
  rcases Chain.step_cases hs with ⟨-, hs⟩ | ⟨i, -, hi', hs⟩
  · have key : ∀ (q' : Nat → List Item) (d' : List Item) (mn : MPC), mainRank b m mn < mainRank b m c.main →
        chainMeasure b m data { c with q := q', drained := d', main := mn } < chainMeasure b m data c :=
      fun q' d' mn hlt => Nat.add_lt_add_right hlt _
    rcases mainStep_cases hs with ⟨hmn, rfl⟩ | ⟨k, hmn, _, rfl⟩ | ⟨j, hmn, hf, rfl⟩ | ⟨k, x, rest, hmn, hq, rfl⟩
    · exact key c.q c.drained _ (by rw [hmn]; simp only [mainRank]; omega)
    · refine key _ c.drained _ ?_
      rw [hmn]; by_cases e : k = 0 <;> simp only [e, if_true, if_false, mainRank] <;> omega
    · have := (h.mainok.of_main hmn).le
      refine key c.q c.drained _ ?_
      rw [hmn, h.m_eq]; by_cases e : j = m + 1 <;> simp only [e, if_true, if_false, mainRank] <;> omega
    · have hkb := h.drain_lt hmn hq
      refine key _ _ _ ?_
      rw [hmn, h.b_eq]
      cases x with
      | poison => simp only [mainRank]; omega
      | val v => simp only [Nat.ne_of_lt hkb, if_false, mainRank]; omega
  · have hi : i ≤ m := h.m_eq ▸ hi'
    have key : ∀ (q' : Nat → List Item) (s' : Stage), rank data.length s' < rank data.length (c.st i) →
        chainMeasure b m data { c with q := q', st := upd c.st i s' } < chainMeasure b m data c := by
      intro q' s' hlt
      have := sumTo_change (fun j => rank data.length (c.st j)) (fun j => rank data.length (upd c.st i s' j))
        (show i < m + 1 by omega) (fun j hj => by simp only [upd_ne c.st s' hj])
      simp only [upd_same] at this
      unfold chainMeasure
      show mainRank b m c.main + sumTo (fun j => rank data.length (upd c.st i s' j)) (m + 1) < _
      omega
    rcases stageStep_cases hs with ⟨hpc, _, rfl⟩ | ⟨hc, x, rest, hq, rfl⟩ | ⟨hp, x, hx, _, rfl⟩
    · exact key _ _ (by simp [rank, pend, hpc])
    · obtain ⟨hinp, _, hpend, hprod, _⟩ := afterConsume_spec h.m_eq h.data_eq h.tr_eq i hc x
      have hl := h.consume_len hi hc hq
      apply key
      simp only [rank, hinp, hpend, hc.pend_nil, hc.ne_start, hprod.ne_start, if_false, List.length_append, List.length_singleton,
        List.length_nil]
      omega
    · obtain ⟨x', _, hinp, _, hpc⟩ := afterProduce_spec hp (h.sok i hi).hand
      have hpe : pend (afterProduce (c.st i)) = [] ∧ (afterProduce (c.st i)).pc ≠ .start := by
        rcases hpc with ⟨e, _⟩ | ⟨e, _⟩ <;> simp [pend, e]
      apply key
      simp only [rank, hinp, hx, hpe.1, hpe.2, hp.ne_start, if_false, List.length_singleton, List.length_nil]
      omega

end KV.Chain
