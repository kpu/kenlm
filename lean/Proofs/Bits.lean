import Model.Bits
import Proofs.Basics
/-!
The bit-packing model as arithmetic: inside its 64-bit (or 32-bit) window a read is
`(m >>> off) % 2^len` and a write is `m ||| v <<< off`.  Both windows are the same two facts
about a window width `W`.
-/
namespace KV.Bits

theorem off_split (off : Nat) : 8 * (off / 8) + off % 8 = off := by omega

theorem mod_shiftRight_mod (x W r len : Nat) (h : r + len ≤ W) :
    ((x % 2^W) >>> r) % 2^len = (x >>> r) % 2^len := by
  apply Nat.eq_of_testBit_eq
  intro j
  simp only [Nat.testBit_mod_two_pow, Nat.testBit_shiftRight]
  by_cases hj : j < len
  · have : r + j < W := by omega
    simp [hj, this]
  · simp [hj]

theorem window_read (m W off len : Nat) (h : off % 8 + len ≤ W) :
    (((m >>> (8 * (off / 8))) % 2^W) >>> (off % 8)) % 2^len = (m >>> off) % 2^len := by
  rw [mod_shiftRight_mod _ _ _ _ h, ← Nat.shiftRight_add, off_split]

theorem window_write (m W off len v : Nat) (hv : v < 2^len) (h : off % 8 + len ≤ W) :
    m ||| ((v <<< (off % 8)) % 2^W) <<< (8 * (off / 8)) = m ||| v <<< off := by
  have hlt : v <<< (off % 8) < 2^W := by
    rw [Nat.shiftLeft_eq]
    calc v * 2^(off % 8) < 2^len * 2^(off % 8) := Nat.mul_lt_mul_of_pos_right hv (Nat.two_pow_pos _)
      _ = 2^(len + off % 8) := (Nat.pow_add ..).symm
      _ ≤ 2^W := Nat.pow_le_pow_right (by omega) (by omega)
  rw [Nat.mod_eq_of_lt hlt, ← Nat.shiftLeft_add, Nat.add_comm, off_split]

theorem read_eq (m off len : Nat) (h : off % 8 + len ≤ 64) : readInt57 m off len = (m >>> off) % 2^len :=
  window_read m 64 off len h

theorem read_eq_57 (m off len : Nat) (h : len ≤ 57) : readInt57 m off len = (m >>> off) % 2^len :=
  read_eq m off len (by omega)

theorem read25_eq (m off len : Nat) (h : len ≤ 25) : readInt25 m off len = (m >>> off) % 2^len :=
  window_read m 32 off len (by omega)

theorem writeInt57_eq (m off len v : Nat) (hv : v < 2^len) (h : off % 8 + len ≤ 64) :
    writeInt57 m off len v = m ||| v <<< off :=
  window_write m 64 off len v hv h

theorem writeInt25_eq (m off len v : Nat) (hv : v < 2^len) (h : off % 8 + len ≤ 32) :
    writeInt25 m off len v = m ||| v <<< off :=
  window_write m 32 off len v hv h

theorem testBit_or_shiftLeft (m off len v i : Nat) (hv : v < 2^len) :
    (m ||| v <<< off).testBit i =
      (m.testBit i || (decide (off ≤ i) && decide (i < off + len) && v.testBit (i - off))) := by
  rw [Nat.testBit_or, Nat.testBit_shiftLeft]
  by_cases h : i < off + len
  · simp [h]
  · simp [h, KV.testBit_of_lt_two_pow hv (show len ≤ i - off by omega)]

theorem testBit_or_shiftLeft_outside (m off len v i : Nat) (hv : v < 2^len) (hi : i < off ∨ off + len ≤ i) :
    (m ||| v <<< off).testBit i = m.testBit i := by
  rw [testBit_or_shiftLeft m off len v i hv]
  rcases hi with hi | hi
  · simp [Nat.not_le_of_lt hi]
  · simp [Nat.not_lt_of_le hi]

theorem shiftRight_mod_eq_zero (m off len : Nat) (hz : ∀ j, j < len → m.testBit (off + j) = false) :
    (m >>> off) % 2^len = 0 := by
  apply Nat.eq_of_testBit_eq
  intro j
  rw [Nat.testBit_mod_two_pow, Nat.testBit_shiftRight, Nat.zero_testBit]
  by_cases hj : j < len
  · simp [hz j hj]
  · simp [hj]

theorem or_shiftLeft_field (m off len v : Nat) (hv : v < 2^len)
    (hz : ∀ j, j < len → m.testBit (off + j) = false) :
    ((m ||| v <<< off) >>> off) % 2^len = v := by
  rw [Nat.shiftRight_or_distrib, Nat.shiftLeft_shiftRight, Nat.or_mod_two_pow,
    shiftRight_mod_eq_zero m off len hz, Nat.zero_or, Nat.mod_eq_of_lt hv]

theorem mod_or_sign (x : Nat) : x % 2^32 ||| 2^31 = x % 2^31 ||| 2^31 := by
  apply Nat.eq_of_testBit_eq
  intro j
  simp only [Nat.testBit_or, Nat.testBit_mod_two_pow, Nat.testBit_two_pow]
  by_cases h : j < 31
  · have : j < 32 := by omega
    simp [h, this]
  · by_cases e : 31 = j
    · simp [e]
    · have : ¬ j < 32 := by omega
      simp [h, this]

theorem requiredBitsLoop_spec : ∀ fuel mx ret, 0 < mx → mx < 2^fuel →
    ∃ b, requiredBitsLoop fuel mx ret = ret + b ∧ 2^b ≤ mx ∧ mx < 2^(b + 1) := by
  intro fuel
  induction fuel with
  | zero => intro mx ret h0 h1; simp at h1; omega
  | succ n ih =>
    intro mx ret h0 h1
    unfold requiredBitsLoop
    by_cases hz : mx / 2 = 0
    · have : mx = 1 := by omega
      subst this
      exact ⟨0, rfl, Nat.le_refl _, by decide⟩
    · have two : 0 < 2 := by decide
      obtain ⟨b, e, lo, hi⟩ := ih (mx / 2) (ret + 1) (Nat.pos_of_ne_zero hz)
        ((Nat.div_lt_iff_lt_mul two).2 h1)
      refine ⟨b + 1, ?_, (Nat.le_div_iff_mul_le two).1 lo, (Nat.div_lt_iff_lt_mul two).1 hi⟩
      rw [if_neg hz, e, Nat.add_assoc, Nat.add_comm 1 b]

theorem requiredBits_fits (maxv v : Nat) (hm : maxv < 2^64) (hv : v ≤ maxv) : v < 2^(requiredBits maxv) := by
  unfold requiredBits
  by_cases h0 : maxv = 0
  · subst h0; simp at hv; subst hv; simp
  · obtain ⟨b, e, _, hi⟩ := requiredBitsLoop_spec 64 maxv 1 (by omega) hm
    rw [if_neg h0, e, Nat.add_comm]
    exact Nat.lt_of_le_of_lt hv hi

theorem requiredBits_minimal (maxv : Nat) (hm : maxv < 2^64) (h0 : maxv ≠ 0) : 2^(requiredBits maxv - 1) ≤ maxv := by
  unfold requiredBits
  obtain ⟨b, e, lo, _⟩ := requiredBitsLoop_spec 64 maxv 1 (by omega) hm
  rw [if_neg h0, e, Nat.add_sub_cancel_left]
  exact lo

theorem requiredBits_le_of_lt (x b : Nat) (hb : b ≤ 64) (h : x < 2^b) : requiredBits x ≤ b := by
  by_cases h0 : x = 0
  · subst h0; simp [requiredBits]
  · have hx : x < 2^64 := Nat.lt_of_lt_of_le h (Nat.pow_le_pow_right (by decide) hb)
    have hm := requiredBits_minimal x hx h0
    have : 2^(requiredBits x - 1) < 2^b := Nat.lt_of_le_of_lt hm h
    have := (Nat.pow_lt_pow_iff_right (a := 2) (by omega)).mp this
    omega

theorem or_sign (y : Nat) : (y % 2^32) ||| 2^31 = y % 2^31 + 2^31 := by
  rw [mod_or_sign, Nat.or_comm, Nat.add_comm]
  exact (Nat.shiftLeft_add_eq_or_of_lt (Nat.mod_lt y (Nat.two_pow_pos 31)) 1).symm

theorem readFloat32_eq (m off : Nat) : readFloat32 m off = (m >>> off) % 2^32 :=
  read_eq m off 32 (by omega)

theorem readFloat31_eq (m off : Nat) : readNonPositiveFloat31 m off = (m >>> off) % 2^31 + 2^31 := by
  have h : readNonPositiveFloat31 m off = readFloat32 m off ||| 2^31 := rfl
  rw [h, readFloat32_eq, or_sign]

end KV.Bits
