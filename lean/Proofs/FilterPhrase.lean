import Model.Filter
/-!
Phrase mode.  `Tiles phrases g`, the specification: `g` can be read off a concatenation of the phrases.  Its
executable form `tilesB` decides at least `Tiles` (`tilesB_of_Tiles`; the converse is not needed and not proved).
Whatever `tilesB` obliges sentence `s` to keep is accepted by the search graph that `BuildGraph` constructs from the
`Substrings` tables (`graphAccept`): neither the `break`s on absent keys nor the split into right-aligned /
whole-phrase / left-aligned arcs lose such an n-gram (`tilesB_graphAccept`).
-/
namespace KV.Filter

/-- `g` can be read off a concatenation of phrases: it is a contiguous part of one phrase, or a
non-empty end of a phrase, then whole phrases, then a non-empty beginning of a phrase -/
def Tiles (phrases : List (List Bytes)) (g : List Bytes) : Prop :=
  (∃ p ∈ phrases, ∃ a b, p = a ++ g ++ b) ∨
  (∃ (suf : List Bytes) (mid : List (List Bytes)) (pre : List Bytes),
     g = suf ++ (mid.flatten ++ pre) ∧ suf ≠ [] ∧ pre ≠ [] ∧ (∀ m ∈ mid, m ∈ phrases ∧ m ≠ []) ∧
     (∃ p ∈ phrases, ∃ a, p = a ++ suf) ∧ (∃ p ∈ phrases, ∃ b, p = pre ++ b))


/-- `isSubstr` decides `List.IsInfix` -/
theorem isSubstr_iff {g : List Bytes} : ∀ {p : List Bytes}, isSubstr g p = true ↔ g <:+: p
  | [] => by
    rw [isSubstr, List.isPrefixOf_iff_prefix]
    refine ⟨List.IsPrefix.isInfix, fun ⟨a, b, h⟩ => ?_⟩
    cases a with
    | nil => exact ⟨b, h⟩
    | cons y a => cases h
  | x :: p => by
    rw [isSubstr, Bool.or_eq_true, isSubstr_iff (p := p), List.isPrefixOf_iff_prefix]
    constructor
    · rintro (h | ⟨a, b, rfl⟩)
      · exact h.isInfix
      · exact ⟨x :: a, b, rfl⟩
    · rintro ⟨a, b, h⟩
      cases a with
      | nil => exact Or.inl ⟨b, h⟩
      | cons y a => injection h with _ h; exact Or.inr ⟨a, b, h⟩

-- nothing in the development uses this
theorem isSubstr_nil : ∀ p : List Bytes, isSubstr [] p = true :=
  fun _ => isSubstr_iff.mpr List.nil_infix

theorem isSubstr_take {k p : List Bytes} (m : Nat) (h : isSubstr k p = true) : isSubstr (k.take m) p = true :=
  isSubstr_iff.mpr ((List.take_prefix m k).isInfix.trans (isSubstr_iff.mp h))

variable {sents : List (List (List Bytes))} {phrases : List (List Bytes)} {s : Nat} {p k r g : List Bytes}

/-- only a sentence of the file has phrases -/
theorem sentence_lt (h : p ∈ sents.getD s []) : s < sents.length := by
  rcases Nat.lt_or_ge s sents.length with hlt | hge
  · exact hlt
  · rw [List.getD_eq_getElem?_getD, List.getElem?_eq_none hge] at h; cases h

theorem sentence_lt_of_any {q : List Bytes → Bool} (h : (sents.getD s []).any q = true) : s < sents.length := by
  obtain ⟨_, hp, _⟩ := List.any_eq_true.mp h
  exact sentence_lt hp

theorem present_of_substr (hp : p ∈ sents.getD s []) (hk : isSubstr k p = true) : present sents k = true := by
  unfold present
  rw [List.any_eq_true]
  have hs := sentence_lt hp
  have hmem : sents.getD s [] ∈ sents := by
    simp only [List.getD_eq_getElem?_getD, List.getElem?_eq_getElem hs, Option.getD_some]
    exact List.getElem_mem hs
  exact ⟨_, hmem, List.any_eq_true.mpr ⟨p, hp, hk⟩⟩

theorem prefixesPresent_of_substr
    (hp : p ∈ sents.getD s []) (hk : isSubstr k p = true) : prefixesPresent sents k = true := by
  unfold prefixesPresent
  rw [List.all_eq_true]
  intro i _
  exact present_of_substr hp (isSubstr_take (i+1) hk)

theorem prefixesPresent_dropLast
    (hp : p ∈ sents.getD s []) (hk : isSubstr k p = true) : prefixesPresent sents k.dropLast = true := by
  rw [List.dropLast_eq_take]
  exact prefixesPresent_of_substr hp (isSubstr_take _ hk)

theorem mem_cuts_iff {g a b : List Bytes} : (a, b) ∈ cuts g ↔ a ≠ [] ∧ b ≠ [] ∧ a ++ b = g := by
  unfold cuts
  rw [List.mem_map]
  constructor
  · rintro ⟨i, hi, h⟩
    have hi' := List.mem_range.mp hi
    injection h with h1 h2
    subst h1 h2
    refine ⟨?_, ?_, List.take_append_drop _ _⟩
    · exact List.ne_nil_of_length_pos (by
        rw [List.length_take]
        exact Nat.lt_min.mpr ⟨Nat.succ_pos i, Nat.lt_of_lt_of_le (Nat.zero_lt_of_lt hi') (Nat.sub_le _ _)⟩)
    · exact List.ne_nil_of_length_pos (by rw [List.length_drop]; exact Nat.sub_pos_of_lt (Nat.add_lt_of_lt_sub hi'))
  · rintro ⟨ha, hb, rfl⟩
    have hal := List.length_pos_iff.mpr ha
    have hbl := List.length_pos_iff.mpr hb
    refine ⟨a.length - 1, List.mem_range.mpr ?_, ?_⟩
    · rw [List.length_append]; exact Nat.sub_lt_sub_right hal (Nat.lt_add_of_pos_right hbl)
    rw [Nat.sub_add_cancel hal, List.take_left, List.drop_left]

theorem isPrefixOfAny_iff :
    isPrefixOfAny phrases r = true ↔ ∃ p ∈ phrases, r <+: p := by
  simp only [isPrefixOfAny, List.any_eq_true, List.isPrefixOf_iff_prefix]

theorem isSuffixOfAny_iff :
    isSuffixOfAny phrases r = true ↔ ∃ p ∈ phrases, r <:+ p := by
  simp only [isSuffixOfAny, List.any_eq_true, List.isSuffixOf_iff_suffix]

theorem tilesRest_succ {fuel : Nat} :
    tilesRest phrases (fuel+1) r = true ↔
      (r ≠ [] ∧ isPrefixOfAny phrases r = true) ∨
      ∃ p ∈ phrases, p ≠ [] ∧ p <+: r ∧ tilesRest phrases fuel (r.drop p.length) = true := by
  simp only [tilesRest, Bool.or_eq_true, Bool.and_eq_true, decide_eq_true_eq, List.any_eq_true,
    List.isPrefixOf_iff_prefix, and_assoc]

theorem graphRest_succ {fuel : Nat} :
    graphRest sents phrases (fuel+1) r = true ↔
      (r ≠ [] ∧ prefixesPresent sents r.dropLast = true ∧ isPrefixOfAny phrases r = true) ∨
      ∃ y z, (y, z) ∈ cuts r ∧ prefixesPresent sents y = true ∧ phrases.contains y = true ∧
        graphRest sents phrases fuel z = true := by
  simp only [graphRest, Bool.or_eq_true, Bool.and_eq_true, decide_eq_true_eq, List.any_eq_true, Prod.exists, and_assoc]

theorem tilesB_iff :
    tilesB phrases g = true ↔
      (∃ p ∈ phrases, isSubstr g p = true) ∨
      ∃ x y, (x, y) ∈ cuts g ∧ isSuffixOfAny phrases x = true ∧ tilesRest phrases (y.length + 1) y = true := by
  simp only [tilesB, Bool.or_eq_true, Bool.and_eq_true, List.any_eq_true, Prod.exists]

theorem graphAccept_iff :
    graphAccept sents s g = true ↔
      (prefixesPresent sents g.dropLast = true ∧ ∃ p ∈ sents.getD s [], isSubstr g p = true) ∨
      ∃ x y, (x, y) ∈ cuts g ∧ prefixesPresent sents x = true ∧ isSuffixOfAny (sents.getD s []) x = true ∧
        graphRest sents (sents.getD s []) (y.length + 1) y = true := by
  simp only [graphAccept, Bool.or_eq_true, Bool.and_eq_true, List.any_eq_true, Prod.exists, and_assoc]

theorem tilesRest_nil (phrases : List (List Bytes)) : ∀ fuel, tilesRest phrases fuel [] = false
  | 0 => rfl
  | fuel+1 => by
    rw [Bool.eq_false_iff, ne_eq, tilesRest_succ]
    rintro (⟨h, _⟩ | ⟨p, _, hne, ⟨t, ht⟩, _⟩)
    · exact h rfl
    · exact hne (List.append_eq_nil_iff.mp ht).1

theorem tilesRest_graphRest :
    ∀ (fuel : Nat) (r : List Bytes), tilesRest (sents.getD s []) fuel r = true →
      graphRest sents (sents.getD s []) fuel r = true
  | 0, _, h => nomatch h
  | fuel+1, r, h => by
    rw [graphRest_succ]
    rcases tilesRest_succ.mp h with ⟨hne, hpre⟩ | ⟨p, hp, hpne, ⟨t, rfl⟩, hrest⟩
    · obtain ⟨p, hp, hrp⟩ := isPrefixOfAny_iff.mp hpre
      exact Or.inl ⟨hne, prefixesPresent_dropLast hp (isSubstr_iff.mpr hrp.isInfix), hpre⟩
    · rw [List.drop_left] at hrest
      have htne : t ≠ [] := fun ht => by rw [ht, tilesRest_nil] at hrest; cases hrest
      exact Or.inr ⟨p, t, mem_cuts_iff.mpr ⟨hpne, htne, rfl⟩, prefixesPresent_of_substr hp (isSubstr_iff.mpr List.infix_rfl),
        List.contains_iff_mem.mpr hp, tilesRest_graphRest fuel t hrest⟩

theorem tilesB_graphAccept (sents : List (List (List Bytes))) (s : Nat) (g : List Bytes)
    (h : tilesB (sents.getD s []) g = true) : graphAccept sents s g = true := by
  rw [graphAccept_iff]
  rcases tilesB_iff.mp h with ⟨p, hp, hk⟩ | ⟨x, y, hc, hsuf, hrest⟩
  · exact Or.inl ⟨prefixesPresent_dropLast hp hk, p, hp, hk⟩
  · obtain ⟨p, hp, hxp⟩ := isSuffixOfAny_iff.mp hsuf
    exact Or.inr ⟨x, y, hc, prefixesPresent_of_substr hp (isSubstr_iff.mpr hxp.isInfix), hsuf, tilesRest_graphRest _ _ hrest⟩

theorem tilesRest_of_mid (phrases : List (List Bytes)) (pre : List Bytes) (hpre : pre ≠ [])
    (hp : isPrefixOfAny phrases pre = true) :
    ∀ (mid : List (List Bytes)), (∀ m ∈ mid, m ∈ phrases ∧ m ≠ []) →
      ∀ fuel, (mid.flatten ++ pre).length < fuel → tilesRest phrases fuel (mid.flatten ++ pre) = true
  | _, _, 0, hf => absurd hf (Nat.not_lt_zero _)
  | [], _, fuel+1, _ => by
    rw [List.flatten_nil, List.nil_append, tilesRest_succ]
    exact Or.inl ⟨hpre, hp⟩
  | m :: ms, hm, fuel+1, hf => by
    obtain ⟨hmp, hmne⟩ := hm m List.mem_cons_self
    rw [List.flatten_cons, List.append_assoc, tilesRest_succ]
    refine Or.inr ⟨m, hmp, hmne, ⟨_, rfl⟩, ?_⟩
    rw [List.drop_left]
    refine tilesRest_of_mid phrases pre hpre hp ms (fun x hx => hm x (List.mem_cons_of_mem _ hx)) fuel ?_
    have := List.length_pos_iff.mpr hmne
    rw [List.flatten_cons, List.append_assoc, List.length_append] at hf
    omega

theorem tilesB_of_Tiles (phrases : List (List Bytes)) (g : List Bytes) (h : Tiles phrases g) : tilesB phrases g = true := by
  rw [tilesB_iff]
  -- `Tiles` spells infix, suffix and prefix out with `∃ … = … ++ …`
  rcases h with ⟨p, hp, a, b, rfl⟩ | ⟨suf, mid, pre, rfl, hsuf, hpre, hmid, ⟨p, hp, a, rfl⟩, q, hq, b, rfl⟩
  · exact Or.inl ⟨_, hp, isSubstr_iff.mpr ⟨a, b, rfl⟩⟩
  · exact Or.inr ⟨suf, mid.flatten ++ pre, mem_cuts_iff.mpr ⟨hsuf, by simp [hpre], rfl⟩,
      isSuffixOfAny_iff.mpr ⟨_, hp, a, rfl⟩,
      tilesRest_of_mid phrases pre hpre (isPrefixOfAny_iff.mpr ⟨_, hq, b, rfl⟩) mid hmid _ (Nat.lt_succ_self _)⟩

end KV.Filter
