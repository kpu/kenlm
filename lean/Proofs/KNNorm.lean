import Model.KNSpec
import Model.KNQuery
import Proofs.KNSpecRecords
import Mathlib.Tactic.Ring
import Mathlib.Algebra.Field.Rat
import Mathlib.Algebra.Order.Field.Rat
import Mathlib.Algebra.BigOperators.Group.List.Basic
import Mathlib.Data.List.Nodup
/-!
Normalisation of the estimated Kneser-Ney model (property C06), exact `Rat`, unbounded.

The argument is made once for an abstract "KN system" (`System`: vocabulary, kept extensions per
context, `u`, `γ`, interpolated `p`, back-off `bo`): by induction on the context length its ARPA
back-off query sums to one over the vocabulary in every context.  `Spec.Ctx` with `Query.score`
is then shown to be such a system under the record hypotheses `TableOK`; the field of `System.OK`
that takes work is the per-context identity `Σ_{kept} u + γ = 1` (`ctx_mass_identity`; the pruned
mass is inside `γ`).

Nothing is assumed about probabilities: apart from `uniformOK` (discharged by `uniformOK_of`),
`TableOK` speaks about the records only (lengths, no duplicates, closure of the kept n-grams,
positive counts of order ≥ 2, specials).  `normalised_mass` is `normalised` through `Query.mass`;
only the examples use it.
-/
namespace KV.KN.Norm

open KV.KN

theorem sum_map_mul_left {α : Type} (l : List α) (c : Rat) (f : α → Rat) :
    (l.map fun x => c * f x).sum = c * (l.map f).sum := by
  induction l with
  | nil => simp
  | cons a t ih => simp only [List.map_cons, List.sum_cons, ih]; ring

theorem sum_map_div {α : Type} (l : List α) (c : Rat) (f : α → Rat) :
    (l.map fun x => f x / c).sum = (l.map f).sum / c := by
  induction l with
  | nil => simp
  | cons a t ih => simp only [List.map_cons, List.sum_cons, ih]; ring

theorem sum_map_ite_filter {α : Type} (l : List α) (p : α → Bool) (f : α → Rat) :
    (l.map fun x => if p x then f x else 0).sum = ((l.filter p).map f).sum := by
  induction l with
  | nil => simp
  | cons a t ih =>
    by_cases h : p a <;> simp [h, ih]

theorem sum_map_congr {α : Type} (l : List α) (f g : α → Rat) (h : ∀ x ∈ l, f x = g x) :
    (l.map f).sum = (l.map g).sum := by
  rw [List.map_congr_left h]

theorem sum_map_const {α : Type} (l : List α) (c : Rat) :
    (l.map fun _ => c).sum = (l.length : Rat) * c := by
  induction l with
  | nil => simp
  | cons a t ih => simp only [List.map_cons, List.sum_cons, ih, List.length_cons]; push_cast; ring

theorem cast_sum_map {α : Type} (l : List α) (f : α → Nat) :
    (((l.map f).sum : Nat) : Rat) = (l.map fun x => (f x : Rat)).sum := by
  induction l with
  | nil => simp
  | cons a t ih => simp only [List.map_cons, List.sum_cons, Nat.cast_add, ih]

theorem sum_map_nonneg {α : Type} (l : List α) (f : α → Rat) (hf : ∀ x ∈ l, 0 ≤ f x) :
    0 ≤ (l.map f).sum := by
  induction l with
  | nil => simp
  | cons b t ih =>
    rw [List.map_cons, List.sum_cons]
    exact add_nonneg (hf b (List.mem_cons_self ..)) (ih (fun x hx => hf x (List.mem_cons_of_mem _ hx)))

theorem mem_le_sum_rat {α : Type} (l : List α) (f : α → Rat) (hf : ∀ x ∈ l, 0 ≤ f x) (a : α)
    (ha : a ∈ l) : f a ≤ (l.map f).sum := by
  induction l with
  | nil => cases ha
  | cons b t ih =>
    rw [List.map_cons, List.sum_cons]
    have hb := hf b (List.mem_cons_self ..)
    have ht : 0 ≤ (t.map f).sum :=
      sum_map_nonneg t f (fun x hx => hf x (List.mem_cons_of_mem _ hx))
    rcases List.mem_cons.mp ha with rfl | h1
    · exact le_add_of_nonneg_right ht
    · exact le_trans (ih (fun x hx => hf x (List.mem_cons_of_mem _ hx)) h1) (le_add_of_nonneg_left hb)

/-- The data of an interpolated, pruned back-off model, context by context.  Contexts are
reversed word lists; `ctx.dropLast` is the back-off context. -/
structure System where
  V : List Word
  /-- `inE ctx w`: the n-gram `w :: ctx` is in the model (a kept extension of `ctx`) -/
  inE : Gram → Word → Bool
  u : Gram → Word → Rat
  /-- interpolation weight of the context (contains the discounted *and* the pruned mass) -/
  γ : Gram → Rat
  p : Gram → Word → Rat
  /-- the back-off weight the query charges for leaving `ctx` (1 when `ctx` is not in the model) -/
  bo : Gram → Rat

/-- the ARPA back-off query of a system -/
def System.pBO (S : System) (ctx : Gram) (w : Word) : Rat :=
  if S.inE ctx w then S.p ctx w
  else if ctx = [] then 0
  else S.bo ctx * S.pBO ctx.dropLast w
termination_by ctx.length
decreasing_by
  cases ctx with
  | nil => contradiction
  | cons a t => simp [List.length_dropLast]

structure System.OK (S : System) : Prop where
  uni_mem : ∀ w ∈ S.V, S.inE [] w = true
  /-- the unigram distribution is normalised (covers both `--interpolate_unigrams` settings) -/
  uni_sum : (S.V.map (S.p [])).sum = 1
  mass : ∀ ctx, ctx ≠ [] → (∃ w ∈ S.V, S.inE ctx w = true) →
    ((S.V.filter (S.inE ctx)).map (S.u ctx)).sum + S.γ ctx = 1
  interp : ∀ ctx w, ctx ≠ [] → w ∈ S.V → S.inE ctx w = true →
    S.p ctx w = S.u ctx w + S.γ ctx * S.p ctx.dropLast w
  closure : ∀ ctx w, ctx ≠ [] → w ∈ S.V → S.inE ctx w = true → S.inE ctx.dropLast w = true
  bo_ctx : ∀ ctx, ctx ≠ [] → (∃ w ∈ S.V, S.inE ctx w = true) → S.bo ctx = S.γ ctx
  bo_one : ∀ ctx, ctx ≠ [] → (∀ w ∈ S.V, S.inE ctx w = false) → S.bo ctx = 1

theorem System.pBO_in (S : System) (ctx : Gram) (w : Word) (h : S.inE ctx w = true) :
    S.pBO ctx w = S.p ctx w := by
  rw [System.pBO]; simp [h]

theorem System.pBO_out (S : System) (ctx : Gram) (w : Word) (hc : ctx ≠ []) (h : S.inE ctx w = false) :
    S.pBO ctx w = S.bo ctx * S.pBO ctx.dropLast w := by
  rw [System.pBO]; simp [h, hc]

theorem System.pBO_ext (S : System) (h : S.OK) {ctx : Gram} (hc : ctx ≠ [])
    (hA : ∃ w ∈ S.V, S.inE ctx w = true) {w : Word} (hw : w ∈ S.V) :
    S.pBO ctx w = (if S.inE ctx w then S.u ctx w else 0) + S.γ ctx * S.pBO ctx.dropLast w := by
  by_cases hin : S.inE ctx w = true
  · rw [S.pBO_in ctx w hin, S.pBO_in ctx.dropLast w (h.closure ctx w hc hw hin),
      h.interp ctx w hc hw hin, if_pos hin]
  · have hin' : S.inE ctx w = false := by simpa using hin
    rw [S.pBO_out ctx w hc hin', h.bo_ctx ctx hc hA, if_neg hin, zero_add]

theorem System.pBO_free (S : System) (h : S.OK) {ctx : Gram} (hc : ctx ≠ [])
    (hA : ¬ ∃ w ∈ S.V, S.inE ctx w = true) {w : Word} (hw : w ∈ S.V) :
    S.pBO ctx w = S.pBO ctx.dropLast w := by
  have hall : ∀ w ∈ S.V, S.inE ctx w = false := fun w hw => by
    by_cases hin : S.inE ctx w = true
    · exact absurd ⟨w, hw, hin⟩ hA
    · simpa using hin
  rw [S.pBO_out ctx w hc (hall w hw), h.bo_one ctx hc hall, one_mul]

/-- Normalisation, abstract form: in a KN system the back-off query distributes mass one
over the vocabulary in every context (of any length, kept or not). -/
theorem normalised_abstract (S : System) (h : S.OK) (ctx : Gram) :
    (S.V.map (S.pBO ctx)).sum = 1 := by
  induction ctx using dropLast_induction with
  | nil =>
    rw [sum_map_congr _ _ (S.p []) (fun w hw => S.pBO_in [] w (h.uni_mem w hw))]
    exact h.uni_sum
  | step ctx hc ih' =>
    by_cases hA : ∃ w ∈ S.V, S.inE ctx w = true
    · rw [sum_map_congr _ _ _ fun w hw => S.pBO_ext h hc hA hw, List.sum_map_add, sum_map_mul_left, ih',
        sum_map_ite_filter, mul_one]
      exact h.mass ctx hc hA
    · rw [sum_map_congr _ _ _ fun w hw => S.pBO_free h hc hA hw]
      exact ih'

theorem mass_list (d : Disc) (G : List Emit) :
    ((G.filter fun e => !e.marked).map fun e => d.apply e.count).sum
      + (G.map fun e => if e.marked then (e.count : Rat) else d.get e.count).sum
      = (G.map fun e => (e.count : Rat)).sum := by
  rw [← sum_map_ite_filter, ← List.sum_map_add]
  apply sum_map_congr
  intro e _
  cases e.marked
  · exact sub_add_cancel _ _
  · exact zero_add _

theorem mem_group {es : List Emit} {ctx : Gram} {e : Emit} :
    e ∈ Spec.group es ctx ↔ e ∈ es ∧ e.gram.tail = ctx := by
  simp [Spec.group, List.mem_filter]

theorem group_isEmpty_eq_false {es : List Emit} {g : Gram} :
    (Spec.group es g).isEmpty = false ↔ ∃ e ∈ es, e.gram.tail = g := by
  rw [← Bool.not_eq_true, List.isEmpty_iff]
  constructor
  · intro h
    obtain ⟨e, he⟩ := List.exists_mem_of_ne_nil _ h
    exact ⟨e, mem_group.mp he⟩
  · rintro ⟨e, he, ht⟩ h
    have : e ∈ Spec.group es g := mem_group.mpr ⟨he, ht⟩
    rw [h] at this; cases this

theorem den_cast (es : List Emit) (ctx : Gram) :
    (Spec.den es ctx : Rat) = ((Spec.group es ctx).map fun e => (e.count : Rat)).sum := by
  unfold Spec.den; rw [cast_sum_map]

/-- Per-context mass identity: for one order's records `es` and a context with a non-zero
denominator, the discounted probabilities of the unpruned extensions plus the interpolation
weight are one.  (No assumption on the counts; the pruned records' whole counts are in `γ`.) -/
theorem ctx_mass_identity (d : Disc) (es : List Emit) (ctx : Gram) (hden : Spec.den es ctx ≠ 0) :
    (((Spec.group es ctx).filter fun e => !e.marked).map (Spec.uProb d es)).sum
      + Spec.gamma d es ctx = 1 := by
  have hD : (Spec.den es ctx : Rat) ≠ 0 := by exact_mod_cast hden
  have h1 : (((Spec.group es ctx).filter fun e => !e.marked).map (Spec.uProb d es)).sum
      = (((Spec.group es ctx).filter fun e => !e.marked).map fun e => d.apply e.count).sum
          / (Spec.den es ctx : Rat) := by
    rw [← sum_map_div]
    apply sum_map_congr
    intro e he
    have : e.gram.tail = ctx := (mem_group.mp (List.mem_filter.mp he).1).2
    simp [Spec.uProb, this]
  rw [h1, Spec.gamma, ← add_div, mass_list, ← den_cast]
  exact div_self hD

/-- the entry `Spec.estimateFrom` writes for a kept record -/
def mkEntry (c : Spec.Ctx) (e : Emit) : Entry := ⟨e.gram, c.prob e.gram, c.backoff e.gram⟩

/-- the per-order entry lists `Spec.estimateFrom` writes (`Model.orders`) -/
def ordersOf (c : Spec.Ctx) : List (List Entry) :=
  c.es.map fun l => ((l.filter keptBy).map (mkEntry c)).mergeSort Spec.specLe

def keptIn (c : Spec.Ctx) (g : Gram) : Bool :=
  (c.esAt g.length).any fun e => keptBy e && e.gram == g

theorem keptIn_iff {c : Spec.Ctx} {g : Gram} :
    keptIn c g = true ↔ ∃ e ∈ c.esAt g.length, keptBy e = true ∧ e.gram = g := by
  simp only [keptIn, List.any_eq_true, Bool.and_eq_true, beq_iff_eq]

theorem esAt_getElem? {c : Spec.Ctx} {i : Nat} {l : List Emit} (h : c.es[i]? = some l) :
    c.esAt (i + 1) = l := by
  rw [Spec.Ctx.esAt, List.getD_eq_getElem?_getD, Nat.add_sub_cancel, h]; rfl

theorem esAt_getElem {c : Spec.Ctx} {i : Nat} (h : i < c.es.length) : c.esAt (i + 1) = c.es[i] :=
  esAt_getElem? (List.getElem?_eq_getElem h)

theorem dAt_getElem {c : Spec.Ctx} {i : Nat} (h : i < c.ds.length) : c.dAt (i + 1) = c.ds[i] := by
  rw [Spec.Ctx.dAt, List.getD_eq_getElem?_getD, Nat.add_sub_cancel, List.getElem?_eq_getElem h]; rfl

theorem esAt_of_length_le {c : Spec.Ctx} {i : Nat} (h : c.es.length ≤ i) : c.esAt (i + 1) = [] := by
  rw [Spec.Ctx.esAt, List.getD_eq_getElem?_getD, Nat.add_sub_cancel, List.getElem?_eq_none h]; rfl

theorem orders_getD (c : Spec.Ctx) (n : Nat) :
    (ordersOf c).getD (n - 1) [] =
      (((c.esAt n).filter keptBy).map (mkEntry c)).mergeSort Spec.specLe := by
  unfold ordersOf Spec.Ctx.esAt
  simp only [List.getD_eq_getElem?_getD, List.getElem?_map]
  cases c.es[n - 1]? <;> simp

theorem lookup_eq (c : Spec.Ctx) (g : Gram) (hg : g ≠ []) :
    Query.lookup (ordersOf c) g =
      if keptIn c g then some ⟨g, c.prob g, c.backoff g⟩ else none := by
  have hmem : g ∈ ((((c.esAt g.length).filter keptBy).map (mkEntry c)).mergeSort Spec.specLe).map (·.gram)
      ↔ keptIn c g = true := by
    rw [keptIn_iff, List.mem_map]
    constructor
    · rintro ⟨x, hx, rfl⟩
      obtain ⟨e, he, rfl⟩ := List.mem_map.mp (List.mem_mergeSort.mp hx)
      exact ⟨e, (List.mem_filter.mp he).1, (List.mem_filter.mp he).2, rfl⟩
    · rintro ⟨e, he, hk, rfl⟩
      exact ⟨mkEntry c e, List.mem_mergeSort.mpr (List.mem_map.mpr ⟨e, List.mem_filter.mpr ⟨he, hk⟩, rfl⟩), rfl⟩
  cases g with
  | nil => contradiction
  | cons a t =>
    rw [Query.lookup, orders_getD]
    refine (find?_key_eq Entry.gram _ (a :: t) ⟨a :: t, c.prob (a :: t), c.backoff (a :: t)⟩
      fun x hx hxg => ?_).trans (if_congr hmem rfl rfl)
    obtain ⟨e, _, rfl⟩ := List.mem_map.mp (List.mem_mergeSort.mp hx)
    rw [← hxg]; rfl

theorem lookup_isSome_iff (c : Spec.Ctx) {g : Gram} (hne : g ≠ []) :
    (Query.lookup (ordersOf c) g).isSome = true ↔ keptIn c g = true := by
  rw [lookup_eq c g hne]; cases keptIn c g <;> simp

/-- `Spec.Ctx` as a system.  `V` is read off the *written* order-1 entries (`Query.vocabNoBos
(ordersOf c)`), not off the records: hence `V_perm`, `mem_V`. -/
def sysOf (c : Spec.Ctx) : System where
  V := Query.vocabNoBos (ordersOf c)
  inE ctx w := keptIn c (w :: ctx)
  u ctx w := (c.uGamma (w :: ctx)).1
  γ ctx := Spec.gamma (c.dAt (ctx.length + 1)) (c.esAt (ctx.length + 1)) ctx
  p ctx w := c.prob (w :: ctx)
  bo ctx := Query.boOf (ordersOf c) ctx

theorem score_eq (c : Spec.Ctx) (ctx : Gram) (w : Word) :
    Query.score (ordersOf c) ctx w = (sysOf c).pBO ctx w := by
  induction ctx using dropLast_induction with
  | nil =>
    rw [Query.score, System.pBO, lookup_eq c _ (List.cons_ne_nil _ _)]
    by_cases hk : keptIn c [w] = true <;> simp [sysOf, hk]
  | step ctx hc ih =>
    rw [Query.score, System.pBO, lookup_eq c _ (List.cons_ne_nil _ _), ih]
    by_cases hk : keptIn c (w :: ctx) = true <;> simp [sysOf, hk, hc]

/-- the kept order-1 records other than `<s>` (they carry the vocabulary of a query position) -/
def keptUni (c : Spec.Ctx) : List Emit :=
  (c.esAt 1).filter fun e => keptBy e && e.gram != [bos]

/-- The record hypotheses: what normalisation needs from the records per order of a `Spec.Ctx`
(all of it is about the *records*, none about probabilities, and none about a count table:
`tableOK_of_wf` in `Proofs/KNTable.lean` derives them from the table hypotheses `WF`, i.e.
`Spec.TableWF` or `Spec.TableWF1`). -/
structure TableOK (c : Spec.Ctx) : Prop where
  esLen : c.es.length ≤ c.cfg.order
  len1 : ∀ e ∈ c.esAt 1, e.gram.length = 1
  nodup : ∀ n, ((c.esAt n).map (·.gram)).Nodup
  /-- the order-1 records have a positive total count -/
  den1 : Spec.den (c.esAt 1) [] ≠ 0
  hasUnk : ∃ e ∈ c.esAt 1, e.gram = [unk]
  unkBosCount : ∀ e ∈ c.esAt 1, e.gram = [unk] ∨ e.gram = [bos] → e.count = 0
  specialsUnmarked : ∀ e ∈ c.esAt 1, e.gram.all isSpecial = true → e.marked = false
  /-- the uniform distribution is over the vocabulary without `<s>` (only used when unigrams are
  interpolated) -/
  uniformOK : c.cfg.interpUni = true → c.uniform * ((keptUni c).length : Rat) = 1
  countPos : ∀ n, 1 ≤ n → ∀ e ∈ c.esAt (n + 1), 1 ≤ e.count
  closure : ∀ n, 1 ≤ n → ∀ e ∈ c.esAt (n + 1), keptBy e = true →
    (∃ e' ∈ c.esAt n, keptBy e' = true ∧ e'.gram = e.gram.dropLast) ∧
    (∃ e' ∈ c.esAt n, keptBy e' = true ∧ e'.gram = e.gram.tail)
  /-- a kept n-gram of order ≥ 2 does not predict `<s>`, and its context is neither `<unk>`- nor
  `</s>`-headed (no special symbols inside the corpus) -/
  headOK : ∀ n, 1 ≤ n → ∀ e ∈ c.esAt (n + 1), keptBy e = true →
    e.gram.head? ≠ some bos ∧ wantsBackoff e.gram.tail = true

/-- The record hypotheses in full: `TableOK` (what normalisation needs), and what the bounds, the
header counts and stage 3 need besides. -/
structure RecordsOK (c : Spec.Ctx) : Prop extends TableOK c where
  len : ∀ n, 1 ≤ n → ∀ r ∈ c.esAt n, r.gram.length = n
  pos1 : ∀ e ∈ c.esAt 1, 1 ≤ e.count ∨ (e.gram.length = 1 ∧ e.gram.all isSpecial = true)

theorem RecordsOK.kept_eq_unmarked {c : Spec.Ctx} (h : RecordsOK c) {n : Nat} (hn : 1 ≤ n) {e : Emit}
    (he : e ∈ c.esAt n) : keptBy e = !e.marked := by
  have hl := h.len n hn e he
  refine keptBy_eq_not_marked (fun h1 => h.specialsUnmarked e ((hl.symm.trans h1) ▸ he)) fun _ => ?_
  by_cases hn1 : n = 1
  · subst hn1; exact h.pos1 e he
  · obtain ⟨k, rfl⟩ : ∃ k, n = k + 1 := ⟨n - 1, (Nat.sub_add_cancel hn).symm⟩
    exact Or.inl (h.countPos k (Nat.lt_of_le_of_ne (Nat.zero_le k) fun h0 => hn1 (h0 ▸ rfl)) e he)

theorem find_of_nodup (es : List Emit) (h : (es.map (·.gram)).Nodup) (e : Emit) (he : e ∈ es) :
    es.find? (fun x => x.gram == e.gram) = some e := by
  rw [← List.head?_filter, filter_key_nodup (·.gram) es h e he]; rfl

theorem sum_ite_key (es : List Emit) (h : (es.map (·.gram)).Nodup) (e₀ : Emit) (he : e₀ ∈ es)
    (x : Rat) : (es.map fun e => if e.gram = e₀.gram then x else 0).sum = x := by
  have := sum_map_ite_filter es (fun e => e.gram == e₀.gram) fun _ => x
  simp only [beq_iff_eq] at this
  rw [this, filter_key_nodup (·.gram) es h e₀ he]
  exact add_zero x

theorem sum_filter_mem {V W : List Word} (hV : V.Nodup) (hW : W.Nodup) (q : Word → Bool)
    (hmem : ∀ w, (w ∈ V ∧ q w = true) ↔ w ∈ W) (f : Word → Rat) :
    ((V.filter q).map f).sum = (W.map f).sum := by
  refine (List.Perm.map f ?_).sum_eq
  rw [List.perm_ext_iff_of_nodup (hV.filter q) hW]
  intro w
  rw [List.mem_filter]
  exact hmem w

theorem apply_zero (d : Disc) : d.apply 0 = 0 := by simp [Disc.apply, Disc.get]

theorem mem_keptUni {c : Spec.Ctx} {e : Emit} :
    e ∈ keptUni c ↔ e ∈ c.esAt 1 ∧ keptBy e = true ∧ e.gram ≠ [bos] := by
  simp [keptUni, List.mem_filter]

theorem prob_step (c : Spec.Ctx) (g : Gram) (hg : g ≠ []) :
    c.prob g = (c.uGamma g).1 + (c.uGamma g).2 * c.prob g.dropLast := by
  cases g with
  | nil => exact absurd rfl hg
  | cons w t => rw [Spec.Ctx.prob]

theorem prob_nil (c : Spec.Ctx) : c.prob [] = c.uniform := by rw [Spec.Ctx.prob]

theorem prob_uni (c : Spec.Ctx) (w : Word) :
    c.prob [w] = (c.uGamma [w]).1 + (c.uGamma [w]).2 * c.uniform := by
  rw [prob_step c [w] (List.cons_ne_nil _ _), List.dropLast_singleton, prob_nil]

/-! `uGamma` at order 1, case by case (`uGamma_cons` is the equation above order 1). -/

theorem uGamma_bos (c : Spec.Ctx) : c.uGamma [bos] = (1, 0) := by
  simp [Spec.Ctx.uGamma]

theorem uGamma_unk (c : Spec.Ctx) : c.uGamma [unk] =
    if c.cfg.interpUni then (0, Spec.gamma (c.dAt 1) (c.esAt 1) [])
    else (Spec.gamma (c.dAt 1) (c.esAt 1) [], 0) := by
  simp [Spec.Ctx.uGamma, show unk ≠ bos by decide]

theorem uGamma_word (c : Spec.Ctx) (hnd : ((c.esAt 1).map (·.gram)).Nodup) {e : Emit}
    (he : e ∈ c.esAt 1) {w : Word} (hw : e.gram = [w]) (hb : w ≠ bos) (hu : w ≠ unk) :
    c.uGamma [w] = ((c.dAt 1).apply e.count / (Spec.den (c.esAt 1) [] : Rat),
      if c.cfg.interpUni then Spec.gamma (c.dAt 1) (c.esAt 1) [] else 0) := by
  have hf := find_of_nodup _ hnd e he
  rw [hw] at hf
  simp [Spec.Ctx.uGamma, hf, hb, hu]

/-- the share of the unigram interpolation weight `γ([])` that record `e` receives: `γ·uniform` for
every vocabulary word when unigrams are interpolated, all of `γ` on `<unk>` when they are not.
`uni_point` says `p(w) = u(w) + uniExtra`, record by record; summed over the records this is
`Σ u + γ = 1` (`uni_sum`). -/
def uniExtra (c : Spec.Ctx) (e : Emit) : Rat :=
  if c.cfg.interpUni then
    (if (keptBy e && e.gram != [bos]) = true then
      Spec.gamma (c.dAt 1) (c.esAt 1) [] * c.uniform else 0)
  else (if e.gram = [unk] then Spec.gamma (c.dAt 1) (c.esAt 1) [] else 0)

/-- the word a record predicts (the newest word of its n-gram); used through `gram_uni` (a unigram
record is `[wordOf e]`) and `gram_of_tail` (a record of context `ctx` is `wordOf e :: ctx`) -/
def wordOf (e : Emit) : Word := e.gram.headD unk

section
variable {c : Spec.Ctx} (h : TableOK c)
include h

theorem gram_uni {e : Emit} (he : e ∈ c.esAt 1) : e.gram = [wordOf e] := by
  have := h.len1 e he
  unfold wordOf
  cases hg : e.gram with
  | nil => rw [hg] at this; simp at this
  | cons a t =>
    rw [hg] at this
    cases t with
    | nil => rfl
    | cons b t' => simp at this

theorem V_perm : (sysOf c).V.Perm ((keptUni c).map wordOf) := by
  have h0 : (ordersOf c).headD [] = (ordersOf c).getD (1 - 1) [] := by
    cases ordersOf c <;> rfl
  simp only [sysOf, Query.vocabNoBos, Query.vocabOf, h0, orders_getD]
  refine (((List.mergeSort_perm _ _).map _).filter _).trans ?_
  rw [List.map_map, List.filter_map, List.filter_filter]
  apply List.Perm.of_eq
  congr 1
  apply List.filter_congr
  intro e he
  obtain ⟨w, hw⟩ : ∃ w, e.gram = [w] := ⟨_, gram_uni h he⟩
  simp only [Function.comp, mkEntry, hw]
  simp [Bool.and_comm, bne_singleton]

theorem V_nodup : (sysOf c).V.Nodup := by
  rw [(V_perm h).nodup_iff]
  have hes : (c.esAt 1).Nodup := List.Nodup.of_map _ (h.nodup 1)
  refine List.Nodup.map_on ?_ (hes.filter _)
  intro x hx y hy hxy
  have hx1 := (mem_keptUni.mp hx).1
  have hy1 := (mem_keptUni.mp hy).1
  apply List.inj_on_of_nodup_map (h.nodup 1) hx1 hy1
  show x.gram = y.gram
  rw [gram_uni h hx1, gram_uni h hy1, hxy]

theorem mem_V {w : Word} :
    w ∈ (sysOf c).V ↔ w ≠ bos ∧ keptIn c [w] = true := by
  rw [(V_perm h).mem_iff, List.mem_map, keptIn_iff]
  constructor
  · rintro ⟨e, he, rfl⟩
    obtain ⟨h1, h2, h3⟩ := mem_keptUni.mp he
    have hg := gram_uni h h1
    refine ⟨?_, e, h1, h2, hg⟩
    intro hb; apply h3; rw [hg, hb]
  · rintro ⟨hb, e, h1, h2, h3⟩
    have h1' : e ∈ c.esAt 1 := h1
    have hg := gram_uni h h1'
    have hw : wordOf e = w := by rw [hg] at h3; simpa using h3
    refine ⟨e, mem_keptUni.mpr ⟨h1', h2, ?_⟩, hw⟩
    rw [h3]; intro h4; apply hb; simpa using h4

theorem group_nil_uni : Spec.group (c.esAt 1) [] = c.esAt 1 := by
  unfold Spec.group
  rw [List.filter_eq_self]
  intro e he
  rw [gram_uni h he]; rfl

theorem uni_point (e : Emit) (he : e ∈ c.esAt 1) :
    (if (keptBy e && e.gram != [bos]) = true then c.prob e.gram else 0) =
      (if (!e.marked) = true then Spec.uProb (c.dAt 1) (c.esAt 1) e else 0) + uniExtra c e := by
  obtain ⟨w, hw⟩ : ∃ w, e.gram = [w] := ⟨_, gram_uni h he⟩
  have hsp := h.specialsUnmarked e he
  have hu : Spec.uProb (c.dAt 1) (c.esAt 1) e = (c.dAt 1).apply e.count / (Spec.den (c.esAt 1) [] : Rat) := by
    rw [Spec.uProb, hw]; rfl
  rw [hu, uniExtra, hw, prob_uni, bne_singleton]
  by_cases hb : w = bos
  · -- `<s>`: not in the sum; count 0
    subst hb
    have h0 := h.unkBosCount e he (Or.inr hw)
    have hm := hsp (by rw [hw]; rfl)
    rw [uGamma_bos]
    simp [h0, hm, apply_zero, show bos ≠ unk by decide]
  · by_cases hk : w = unk
    · -- `<unk>`: kept, count 0, gets the interpolation weight one way or the other
      subst hk
      have h0 := h.unkBosCount e he (Or.inl hw)
      have hm := hsp (by rw [hw]; rfl)
      have hkept : keptBy e = true := by simp [keptBy, hw, isSpecial]
      rw [uGamma_unk]
      cases c.cfg.interpUni <;> simp [hkept, h0, hm, apply_zero, show unk ≠ bos by decide]
    · have hbne : (w != bos) = true := by simpa using hb
      rw [uGamma_word c (h.nodup 1) he hw hb hk]
      cases hkept : keptBy e
      · rcases marked_or_zero_of_not_kept hkept with hm | h0
        · cases c.cfg.interpUni <;> simp [hk, hm]
        · cases c.cfg.interpUni <;> simp [hk, h0, apply_zero]
      · have hm := unmarked_of_kept hkept fun _ => hsp
        cases c.cfg.interpUni <;> simp [hb, hk, hm]

theorem uni_sum :
    ((sysOf c).V.map fun w => c.prob [w]).sum = 1 := by
  rw [((V_perm h).map _).sum_eq, List.map_map]
  have h1 : ((keptUni c).map ((fun w => c.prob [w]) ∘ wordOf)).sum
      = ((keptUni c).map fun e => c.prob e.gram).sum := by
    apply sum_map_congr
    intro e he
    have := gram_uni h (mem_keptUni.mp he).1
    simp only [Function.comp]; rw [← this]
  rw [h1, keptUni, ← sum_map_ite_filter, sum_map_congr _ _ _ (uni_point h), List.sum_map_add,
    sum_map_ite_filter]
  have hmass := ctx_mass_identity (c.dAt 1) (c.esAt 1) [] h.den1
  rw [group_nil_uni h] at hmass
  have hx : ((c.esAt 1).map (uniExtra c)).sum = Spec.gamma (c.dAt 1) (c.esAt 1) [] := by
    cases hi : c.cfg.interpUni with
    | true =>
      have hu := h.uniformOK hi
      have : uniExtra c = fun e => if (keptBy e && e.gram != [bos]) = true then
          Spec.gamma (c.dAt 1) (c.esAt 1) [] * c.uniform else 0 := by
        funext e; simp [uniExtra, hi]
      rw [this, sum_map_ite_filter, sum_map_const]
      show ((keptUni c).length : Rat) * (Spec.gamma (c.dAt 1) (c.esAt 1) [] * c.uniform) = _
      rw [mul_left_comm, mul_comm _ c.uniform, hu, mul_one]
    | false =>
      obtain ⟨e₀, he₀, hg₀⟩ := h.hasUnk
      have : uniExtra c = fun e => if e.gram = e₀.gram then
          Spec.gamma (c.dAt 1) (c.esAt 1) [] else 0 := by
        funext e; simp [uniExtra, hi, hg₀]
      rw [this, sum_ite_key _ (h.nodup 1) e₀ he₀]
  rw [hx]
  exact hmass

end

theorem gram_of_tail {e : Emit} {ctx : Gram} (hc : ctx ≠ []) (ht : e.gram.tail = ctx) :
    e.gram = wordOf e :: ctx := by
  unfold wordOf
  cases hg : e.gram with
  | nil => rw [hg] at ht; exact absurd ht.symm hc
  | cons a t => rw [hg] at ht; simp at ht; simp [ht]

theorem uGamma_of_mem (c : Spec.Ctx) {n : Nat} (hn : n ≠ 1)
    (hnd : ((c.esAt n).map (·.gram)).Nodup) {e : Emit} (he : e ∈ c.esAt n) (hl : e.gram.length = n) :
    c.uGamma e.gram = (Spec.uProb (c.dAt n) (c.esAt n) e,
      Spec.gamma (c.dAt n) (c.esAt n) e.gram.tail) := by
  have hf := find_of_nodup _ hnd e he
  have h1 : (n == 1) = false := by simpa using hn
  unfold Spec.Ctx.uGamma
  simp only [hl, hf, h1, Bool.false_eq_true, if_false, Option.map_some, Option.getD_some,
    Spec.uProb]

theorem uGamma_cons (c : Spec.Ctx) (w : Word) {ctx : Gram} (hc : ctx ≠ []) :
    c.uGamma (w :: ctx) =
      ((c.dAt (ctx.length + 1)).apply
          ((((c.esAt (ctx.length + 1)).find? (·.gram == w :: ctx)).map (·.count)).getD 0)
        / (Spec.den (c.esAt (ctx.length + 1)) ctx : Rat),
       Spec.gamma (c.dAt (ctx.length + 1)) (c.esAt (ctx.length + 1)) ctx) := by
  have h1 : (ctx.length + 1 == 1) = false := beq_false_of_ne (by have := List.length_pos_iff.mpr hc; omega)
  simp only [Spec.Ctx.uGamma, List.length_cons, h1, Bool.false_eq_true, if_false, List.tail_cons]

theorem hi_interp (c : Spec.Ctx) (w : Word) (ctx : Gram) (hc : ctx ≠ []) :
    c.prob (w :: ctx) = (c.uGamma (w :: ctx)).1 +
      Spec.gamma (c.dAt (ctx.length + 1)) (c.esAt (ctx.length + 1)) ctx * c.prob (w :: ctx.dropLast) := by
  rw [prob_step c _ (List.cons_ne_nil _ _), List.dropLast_cons_of_ne_nil hc, uGamma_cons c w hc]

theorem den_pos_of_mem {es : List Emit} {ctx : Gram} {e : Emit} (he : e ∈ Spec.group es ctx)
    (hc : 1 ≤ e.count) : Spec.den es ctx ≠ 0 := by
  have := mem_le_sum (Spec.group es ctx) (·.count) e he
  unfold Spec.den; omega

section
variable {c : Spec.Ctx} (h : TableOK c)
include h

theorem keptIn_dropLast (w : Word) (ctx : Gram) (hc : ctx ≠ [])
    (hk : keptIn c (w :: ctx) = true) : keptIn c (w :: ctx.dropLast) = true := by
  obtain ⟨e, he, hke, hg⟩ := keptIn_iff.mp hk
  have hn := List.length_pos_iff.mpr hc
  obtain ⟨e', he', hke', hg'⟩ := (h.closure ctx.length hn e he hke).1
  rw [hg, List.dropLast_cons_of_ne_nil hc] at hg'
  rw [keptIn_iff, List.length_cons]
  have : ctx.dropLast.length + 1 = ctx.length := by rw [List.length_dropLast]; omega
  rw [this]
  exact ⟨e', he', hke', hg'⟩

theorem keptIn_tail (w : Word) (ctx : Gram) (hc : ctx ≠ [])
    (hk : keptIn c (w :: ctx) = true) : keptIn c ctx = true := by
  obtain ⟨e, he, hke, hg⟩ := keptIn_iff.mp hk
  have hn := List.length_pos_iff.mpr hc
  obtain ⟨e', he', hke', hg'⟩ := (h.closure ctx.length hn e he hke).2
  rw [hg, List.tail_cons] at hg'
  exact keptIn_iff.mpr ⟨e', he', hke', hg'⟩

theorem keptIn_uni_of (w : Word) (ctx : Gram) :
    keptIn c (w :: ctx) = true → keptIn c [w] = true := by
  induction ctx using dropLast_induction with
  | nil => exact id
  | step ctx hc ih => exact fun hk => ih (keptIn_dropLast h w ctx hc hk)

theorem head_in_V (w : Word) (ctx : Gram) (hc : ctx ≠ [])
    (hk : keptIn c (w :: ctx) = true) : w ∈ (sysOf c).V := by
  rw [mem_V h]
  refine ⟨?_, keptIn_uni_of h w ctx hk⟩
  obtain ⟨e, he, hke, hg⟩ := keptIn_iff.mp hk
  have := (h.headOK ctx.length (List.length_pos_iff.mpr hc) e he hke).1
  rw [hg] at this
  intro hb; apply this; simp [hb]

/-- Plan: re-index the sum over the kept extension *words* of `ctx` to a sum over the kept
*records* of its group (`sum_filter_mem`), replace kept by unmarked (an unmarked record that is
not kept has count 0 and contributes nothing), apply `ctx_mass_identity`. -/
theorem hi_mass (ctx : Gram) (hc : ctx ≠ [])
    (hA : ∃ w ∈ (sysOf c).V, keptIn c (w :: ctx) = true) :
    (((sysOf c).V.filter fun w => keptIn c (w :: ctx)).map fun w => (c.uGamma (w :: ctx)).1).sum
      + Spec.gamma (c.dAt (ctx.length + 1)) (c.esAt (ctx.length + 1)) ctx = 1 := by
  have hn := List.length_pos_iff.mpr hc
  generalize hes : c.esAt (ctx.length + 1) = es at *
  generalize hd' : c.dAt (ctx.length + 1) = d at *
  have hnd : (es.map (·.gram)).Nodup := hes ▸ h.nodup (ctx.length + 1)
  have hKmem : ∀ e, e ∈ (Spec.group es ctx).filter keptBy ↔
      e ∈ es ∧ e.gram = wordOf e :: ctx ∧ keptBy e = true := by
    intro e
    rw [List.mem_filter, mem_group]
    constructor
    · rintro ⟨⟨h1, h2⟩, h3⟩; exact ⟨h1, gram_of_tail hc h2, h3⟩
    · rintro ⟨h1, h2, h3⟩; exact ⟨⟨h1, by rw [h2]; rfl⟩, h3⟩
  -- the kept extension words of `ctx` are the heads of the kept records of its group
  have hW : (((Spec.group es ctx).filter keptBy).map wordOf).Nodup := by
    have hes' : es.Nodup := List.Nodup.of_map _ hnd
    refine List.Nodup.map_on ?_ ((hes'.filter _).filter _)
    intro x hx y hy hxy
    obtain ⟨hx1, hx2, _⟩ := (hKmem x).mp hx
    obtain ⟨hy1, hy2, _⟩ := (hKmem y).mp hy
    apply List.inj_on_of_nodup_map hnd hx1 hy1
    show x.gram = y.gram
    rw [hx2, hy2, hxy]
  have hmem : ∀ w, (w ∈ (sysOf c).V ∧ keptIn c (w :: ctx) = true) ↔
      w ∈ ((Spec.group es ctx).filter keptBy).map wordOf := by
    intro w
    rw [List.mem_map]
    constructor
    · rintro ⟨_, hk⟩
      obtain ⟨e, he, hke, hg⟩ := keptIn_iff.mp hk
      rw [List.length_cons, hes] at he
      have hw : wordOf e = w :=
        (List.cons.inj ((gram_of_tail hc (by rw [hg]; rfl)).symm.trans hg)).1
      exact ⟨e, (hKmem e).mpr ⟨he, by rw [hw]; exact hg, hke⟩, hw⟩
    · rintro ⟨e, he, rfl⟩
      obtain ⟨h1, h2, h3⟩ := (hKmem e).mp he
      have hk : keptIn c (wordOf e :: ctx) = true :=
        keptIn_iff.mpr ⟨e, hes ▸ h1, h3, h2⟩
      exact ⟨head_in_V h _ ctx hc hk, hk⟩
  rw [sum_filter_mem (V_nodup h) hW _ hmem, List.map_map]
  -- `u` is `uProb` of the record
  have h2 : (((Spec.group es ctx).filter keptBy).map ((fun w => (c.uGamma (w :: ctx)).1) ∘ wordOf)).sum
      = (((Spec.group es ctx).filter keptBy).map (Spec.uProb d es)).sum := by
    apply sum_map_congr
    intro e he
    obtain ⟨h1, h2, _⟩ := (hKmem e).mp he
    have hl : e.gram.length = ctx.length + 1 := by rw [h2]; simp
    have := uGamma_of_mem c (by omega) (h.nodup _) (hes ▸ h1) hl
    rw [hes, hd'] at this
    simp only [Function.comp]
    rw [← h2, this]
  -- unmarked records that are not kept have count 0 and contribute nothing
  have h3 : (((Spec.group es ctx).filter keptBy).map (Spec.uProb d es)).sum
      = (((Spec.group es ctx).filter fun e => !e.marked).map (Spec.uProb d es)).sum := by
    rw [← sum_map_ite_filter, ← sum_map_ite_filter]
    apply sum_map_congr
    intro e he
    have hl : e.gram.length = ctx.length + 1 := by
      rw [gram_of_tail hc (mem_group.mp he).2]; simp
    cases hk : keptBy e
    · rcases marked_or_zero_of_not_kept hk with hm | h0
      · rw [hm]; rfl
      · rw [Spec.uProb, h0, apply_zero, zero_div, ite_self, ite_self]
    · rw [unmarked_of_kept hk fun h1 => by omega]; rfl
  rw [h2, h3]
  -- the mass identity of the group; a kept record has a positive count, so the
  -- denominator is not zero
  apply ctx_mass_identity
  obtain ⟨w, _, hk⟩ := hA
  obtain ⟨e, he, hke, hg⟩ := keptIn_iff.mp hk
  have hl : e.gram.length = ctx.length + 1 := by rw [hg]; simp
  rw [List.length_cons, hes] at he
  have heG : e ∈ Spec.group es ctx := mem_group.mpr ⟨he, by rw [hg]; rfl⟩
  exact den_pos_of_mem heG (kept_hi (hl ▸ Nat.succ_le_succ hn) hke).2

theorem lt_order_of_mem {n : Nat} {e : Emit}
    (he : e ∈ c.esAt (n + 1)) : n < c.cfg.order := by
  have : n < c.es.length := by
    by_contra hlt
    rw [esAt_of_length_le (Nat.le_of_not_lt hlt)] at he
    cases he
  have := h.esLen
  omega

theorem hi_bo_ctx (ctx : Gram) (hc : ctx ≠ [])
    (hA : ∃ w ∈ (sysOf c).V, keptIn c (w :: ctx) = true) :
    Query.boOf (ordersOf c) ctx =
      Spec.gamma (c.dAt (ctx.length + 1)) (c.esAt (ctx.length + 1)) ctx := by
  obtain ⟨w, _, hk⟩ := hA
  obtain ⟨e, he, hke, hg⟩ := keptIn_iff.mp hk
  have hn := List.length_pos_iff.mpr hc
  have hlt := lt_order_of_mem h he
  have hwb : wantsBackoff ctx = true := by
    have := (h.headOK ctx.length hn e he hke).2
    rwa [hg] at this
  have hne : (Spec.group (c.esAt (ctx.length + 1)) ctx).isEmpty = false :=
    group_isEmpty_eq_false.mpr ⟨e, he, by rw [hg]; rfl⟩
  unfold Query.boOf
  rw [lookup_eq c ctx hc, if_pos (keptIn_tail h w ctx hc hk)]
  simp only [Spec.Ctx.backoff, hlt, hwb, hne, decide_true, Bool.not_false, Bool.and_self, if_true]

theorem hi_bo_one (ctx : Gram) (hc : ctx ≠ [])
    (hall : ∀ w ∈ (sysOf c).V, keptIn c (w :: ctx) = false) :
    Query.boOf (ordersOf c) ctx = 1 := by
  have hn := List.length_pos_iff.mpr hc
  unfold Query.boOf
  rw [lookup_eq c ctx hc]
  by_cases hk : keptIn c ctx = true
  · rw [if_pos hk]
    simp only [Spec.Ctx.backoff]
    split
    · rename_i hcond
      simp only [Bool.and_eq_true, Bool.not_eq_true', decide_eq_true_eq] at hcond
      obtain ⟨⟨_, _⟩, hne⟩ := hcond
      generalize hes : c.esAt (ctx.length + 1) = es at *
      generalize c.dAt (ctx.length + 1) = d
      -- every record of the group is marked with a positive count
      have hrec : ∀ e ∈ Spec.group es ctx, e.marked = true ∧ 1 ≤ e.count := by
        intro e he
        obtain ⟨he1, he2⟩ := mem_group.mp he
        have hg := gram_of_tail hc he2
        have hcnt := h.countPos ctx.length hn e (hes ▸ he1)
        -- not kept, else its head would be a kept extension of `ctx`
        have hk' : keptBy e = false := by
          cases hk' : keptBy e with
          | false => rfl
          | true =>
            have hkin := keptIn_iff.mpr ⟨e, hes ▸ he1, hk', hg⟩
            exact absurd hkin (by rw [hall _ (head_in_V h _ ctx hc hkin)]; decide)
        exact ⟨(marked_or_zero_of_not_kept hk').resolve_right (by omega), hcnt⟩
      obtain ⟨e₀, he₀⟩ : ∃ e₀, e₀ ∈ Spec.group es ctx :=
        (group_isEmpty_eq_false.mp hne).imp fun e he => mem_group.mpr he
      have hden : (Spec.den es ctx : Rat) ≠ 0 := by
        exact_mod_cast den_pos_of_mem he₀ (hrec e₀ he₀).2
      unfold Spec.gamma
      rw [sum_map_congr (Spec.group es ctx) _ (fun e => (e.count : Rat))
        (fun e he => by simp [(hrec e he).1]), ← den_cast]
      exact div_self hden
    · rfl
  · rw [if_neg hk]

theorem sysOf_OK : (sysOf c).OK where
  uni_mem _ hw := ((mem_V h).mp hw).2
  uni_sum := uni_sum h
  mass ctx hc hA := hi_mass h ctx hc hA
  interp ctx w hc _ _ := hi_interp c w ctx hc
  closure ctx w hc _ hk := keptIn_dropLast h w ctx hc hk
  bo_ctx ctx hc hA := hi_bo_ctx h ctx hc hA
  bo_one ctx hc hall := hi_bo_one h ctx hc hall

end

/-- Normalisation: over the entry lists `ordersOf c` of a context `c` whose records satisfy
`TableOK`, the ARPA back-off query distributes mass one over the vocabulary without `<s>` — for
every context (any length, any words, kept or not). -/
theorem normalised {c : Spec.Ctx} (h : TableOK c) (ctx : Gram) :
    ((Query.vocabNoBos (ordersOf c)).map (Query.score (ordersOf c) ctx)).sum = 1 := by
  have := normalised_abstract (sysOf c) (sysOf_OK h) ctx
  rw [← this]
  apply sum_map_congr
  intro w _
  exact score_eq c ctx w

theorem normalised_mass {c : Spec.Ctx} (h : TableOK c) (ctx : Gram) :
    Query.mass (ordersOf c) ctx = 1 := normalised h ctx

/-- vocabulary `<unk> </s> a`, one bigram context `a` with the single kept extension `a </s>` -/
def exSys : System where
  V := [0, 2, 3]
  inE ctx w := ctx == [] || (ctx == [3] && w == 2)
  u _ _ := 1/2
  γ _ := 1/2
  p ctx w := if ctx == [] then (if w == 0 then 1/6 else if w == 2 then 1/2 else 1/3) else 3/4
  bo ctx := if ctx == [3] then 1/2 else 1

theorem exSys_ctx {ctx : Gram} (hc : ctx ≠ []) (hA : ∃ w ∈ exSys.V, exSys.inE ctx w = true) :
    ctx = [3] := by
  obtain ⟨w, _, hin⟩ := hA
  simp only [exSys, Bool.or_eq_true, Bool.and_eq_true, beq_iff_eq] at hin
  rcases hin with h | h
  · exact absurd h hc
  · exact h.1

theorem exSys_ok : exSys.OK where
  uni_mem := by decide
  uni_sum := by decide +kernel
  mass ctx hc hA := by
    obtain rfl := exSys_ctx hc hA
    decide +kernel
  interp ctx w hc hw hin := by
    obtain rfl := exSys_ctx hc ⟨w, hw, hin⟩
    have : w = 2 := by simpa [exSys] using hin
    subst this
    decide +kernel
  closure ctx w hc hw hin := by
    obtain rfl := exSys_ctx hc ⟨w, hw, hin⟩
    rfl
  bo_ctx ctx hc hA := by
    obtain rfl := exSys_ctx hc hA
    rfl
  bo_one ctx hc hall := by
    have : ctx ≠ [3] := by
      intro h; subst h
      exact absurd (hall 2 (by decide)) (by decide)
    simp [exSys, this]

example (ctx : Gram) : (exSys.V.map (exSys.pBO ctx)).sum = 1 := normalised_abstract exSys exSys_ok ctx

/-- corpus `a b` / `a`, order 2 (`a = 3`, `b = 4`), bigram `b </s>` and `a </s>` pruned -/
def exCtx : Spec.Ctx :=
  { cfg := { order := 2, thr := fun _ => 0, excl := fun _ => false },
    es := [[⟨[0], 0, false⟩, ⟨[1], 0, false⟩, ⟨[2], 2, false⟩, ⟨[3], 1, false⟩, ⟨[4], 1, false⟩],
           [⟨[3, 1], 2, false⟩, ⟨[4, 3], 1, false⟩, ⟨[2, 4], 1, true⟩, ⟨[2, 3], 1, true⟩]],
    ds := [⟨1/2, 1, 3/2⟩, ⟨1/2, 1, 3/2⟩],
    uniform := 1/4 }

theorem exCtx_esAt_above (n : Nat) : exCtx.esAt (n + 3) = [] := rfl

theorem exCtx_ok : TableOK exCtx where
  esLen := by decide
  len1 := by decide
  nodup n := by
    match n with
    | 0 => decide
    | 1 => decide
    | 2 => decide
    | n + 3 => rw [exCtx_esAt_above]; exact List.nodup_nil
  den1 := by decide
  hasUnk := by decide
  unkBosCount := by decide
  specialsUnmarked := by decide
  uniformOK := fun _ => by decide +kernel
  countPos n hn := by
    match n, hn with
    | 1, _ => decide
    | n + 2, _ => rw [exCtx_esAt_above]; exact fun _ h => nomatch h
  closure n hn := by
    match n, hn with
    | 1, _ => decide
    | n + 2, _ => rw [exCtx_esAt_above]; exact fun _ h => nomatch h
  headOK n hn := by
    match n, hn with
    | 1, _ => decide
    | n + 2, _ => rw [exCtx_esAt_above]; exact fun _ h => nomatch h

example : (sysOf exCtx).OK := sysOf_OK exCtx_ok

example : Query.mass (ordersOf exCtx) [3] = 1 := normalised_mass exCtx_ok [3]

example : Query.mass (ordersOf exCtx) [4, 3, 7] = 1 := normalised_mass exCtx_ok _

end KV.KN.Norm
