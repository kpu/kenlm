import Model.Left
/-! The branches of `RuleScore::Terminal`, `NonTerminal` and the private `ExtendLeft`, and the left state `Finish` writes, as
equations, so that the proofs about them need not unfold the definitions; and `NonTerminal`'s two pointer loops
(`left.hh:118-125`) as one call of `ExtendLoop` (`lm/partial.hh`), so that one analysis of that loop serves `NonTerminal`,
`Subsume` and the `Reveal*` calls. -/
namespace KV.Left
open KV.Arpa KV.Table KV.State KV.Score

variable {T : Table}

theorem finish_left (order : Nat) (rs : RS) :
    (finish order rs).1.left = { rs.out.left with full := rs.leftDone || rs.out.left.length == order - 1 } := rfl

theorem finish_full (order : Nat) (rs : RS) :
    (finish order rs).1.left.full = (rs.leftDone || rs.out.left.length == order - 1) := rfl

/-! the three ways `Terminal` goes (`fs` is its `FullScore` call) -/

theorem terminal_of_done (R : Ptr → Rat) (rs : RS) (w : Word) (hd : rs.leftDone = true) :
    terminal T R rs w =
      { rs with out := { rs.out with right := normS (fullScore (restSearch T R) rs.out.right w).2 },
                prob := rs.prob + (fullScore (restSearch T R) rs.out.right w).1.prob } := by
  unfold terminal; simp [hd]

theorem terminal_indep (R : Ptr → Rat) (rs : RS) (w : Word) (hd : rs.leftDone = false)
    (hi : (fullScore (restSearch T R) rs.out.right w).1.independentLeft = true) :
    terminal T R rs w =
      { out := { rs.out with right := normS (fullScore (restSearch T R) rs.out.right w).2 },
        prob := rs.prob + (fullScore (restSearch T R) rs.out.right w).1.prob, leftDone := true } := by
  unfold terminal; simp [hd, hi]

theorem terminal_push (R : Ptr → Rat) (rs : RS) (w : Word) (hd : rs.leftDone = false)
    (hi : (fullScore (restSearch T R) rs.out.right w).1.independentLeft = false) :
    terminal T R rs w =
      { out := { left := { rs.out.left with
                           pointers := rs.out.left.pointers ++ [(fullScore (restSearch T R) rs.out.right w).1.extendLeft] },
                 right := normS (fullScore (restSearch T R) rs.out.right w).2 },
        prob := rs.prob + (fullScore (restSearch T R) rs.out.right w).1.rest,
        leftDone := (fullScore (restSearch T R) rs.out.right w).2.length != rs.out.right.length + 1 } := by
  unfold terminal; simp [hd, hi]

/-- the private `RuleScore::ExtendLeft` after `ProcessRet` (`left.hh:177-187`): `rs1 = processRet rs ret`,
`len0 = out_->right.length` -/
def afterRet (T : Table) (R : Ptr → Rat) (inC : Chart) (len0 extLen : Nat) (rs1 : RS) (ret : ExtRet) : StepOut :=
  if ret.nextUse != len0 then
    if ret.nextUse == 0 then
      { rs := { rs1 with leftDone := true, out := { rs1.out with right := inC.right },
                         prob := rs1.prob + unRest T R (inC.left.pointers.drop extLen) (extLen + 1) },
        nextUse := 0, back := ret.backoffOut, exit := true }
    else { rs := { rs1 with leftDone := true }, nextUse := ret.nextUse, back := ret.backoffOut, exit := false }
  else { rs := rs1, nextUse := ret.nextUse, back := ret.backoffOut, exit := false }

theorem rsExtendLeft_eq (R : Ptr → Rat) (rs : RS) (inC : Chart) (nextUse extLen : Nat) (backIn : List Rat) :
    rsExtendLeft T R rs inC nextUse extLen backIn =
      afterRet T R inC rs.out.right.length extLen
        (processRet rs (extendLeft T R (rs.out.right.words.take nextUse) backIn (inC.left.pointers.getD (extLen - 1) []) extLen))
        (extendLeft T R (rs.out.right.words.take nextUse) backIn (inC.left.pointers.getD (extLen - 1) []) extLen) := by
  unfold rsExtendLeft afterRet
  rfl

theorem extendAll_exit (R : Ptr → Rat) (c : Chart) (fuel e : Nat) (st : StepOut) (h : st.exit = true) :
    extendAll T R c fuel e st = st := by
  cases fuel with
  | zero => rfl
  | succ f => simp [extendAll, h]

theorem extendAll_succ (R : Ptr → Rat) (c : Chart) (fuel e : Nat) (st : StepOut) (h : st.exit = false) :
    extendAll T R c (fuel+1) e st = extendAll T R c fuel (e+1) (rsExtendLeft T R st.rs c st.nextUse e st.back) := by
  simp [extendAll, h]

/-- `joinOut` below on a `StepOut`, as the model spells it: `nonTerminal_extendAll` states `NonTerminal` with it, `ntTail_stepOf` turns it into
`joinOut` for `nonTerminal_loop`; no other file mentions it -/
def ntTail (c : Chart) (st : StepOut) : RS :=
  if st.exit then st.rs else
  let rs := st.rs
  if c.left.full then
    { rs with prob := rs.prob + (st.back.take st.nextUse).sum, leftDone := true, out := { rs.out with right := c.right } }
  else if c.right.length < c.left.length then
    { rs with out := { rs.out with right := c.right } }
  else
    { rs with out := { rs.out with right :=
        { length := c.right.length + st.nextUse,
          words := c.right.words.take c.right.length ++ rs.out.right.words.take st.nextUse,
          backoff := c.right.backoff.take c.right.length ++ st.back.take st.nextUse } } }

theorem nonTerminal_nil_full (R : Ptr → Rat) (rs : RS) (c : Chart) (p : Rat) (h1 : c.left.length = 0) (h2 : c.left.full = true) :
    nonTerminal T R rs c p =
      { rs with prob := rs.prob + p + (rs.out.right.backoff.take rs.out.right.length).sum, leftDone := true,
                out := { rs.out with right := c.right } } := by
  simp [nonTerminal, h1, h2]

theorem nonTerminal_nil_open (R : Ptr → Rat) (rs : RS) (c : Chart) (p : Rat) (h1 : c.left.length = 0) (h2 : c.left.full = false) :
    nonTerminal T R rs c p = { rs with prob := rs.prob + p } := by
  simp [nonTerminal, h1, h2]

/-- nothing in the right state: the incoming pointers are final (`left.hh:99-111`) -/
theorem nonTerminal_fresh (R : Ptr → Rat) (rs : RS) (c : Chart) (p : Rat)
    (h1 : c.left.length ≠ 0) (h2 : rs.out.right.length = 0) :
    nonTerminal T R rs c p =
      if rs.leftDone then { rs with out := { rs.out with right := c.right }, prob := rs.prob + p + unRest T R c.left.pointers 1 }
      else if rs.out.left.length != 0 then { rs with out := { rs.out with right := c.right }, prob := rs.prob + p, leftDone := true }
      else { out := { left := c.left, right := c.right }, leftDone := c.left.full, prob := rs.prob + p } := by
  unfold nonTerminal
  simp only [beq_eq_false_iff_ne.mpr h1, h2, beq_self_eq_true, Bool.false_eq_true, if_false, if_true]

theorem nonTerminal_extendAll (R : Ptr → Rat) (rs : RS) (c : Chart) (p : Rat)
    (h1 : c.left.length ≠ 0) (h2 : rs.out.right.length ≠ 0) :
    nonTerminal T R rs c p = ntTail c (extendAll T R c c.left.length 1
      { rs := { rs with prob := rs.prob + p }, nextUse := rs.out.right.length,
        back := rs.out.right.backoff.take rs.out.right.length, exit := false }) := by
  unfold nonTerminal ntTail
  simp only [beq_eq_false_iff_ne.mpr h1, beq_eq_false_iff_ne.mpr h2, Bool.false_eq_true, if_false]

/-- the running object of `NonTerminal`'s pointer loop, read off an `ExtendLoop` state: `prob_` is the accumulated
adjustment, `left_done_` is `make_full`, the left pointers are the written ones -/
def withLoop (rs : RS) (v : ExtendReturn) : RS :=
  { rs with prob := v.adjust, leftDone := v.makeFull, out := { rs.out with left := { rs.out.left with pointers := v.written } } }

theorem withLoop_right (rs : RS) (v : ExtendReturn) : (withLoop rs v).out.right = rs.out.right := rfl

/-- the state of `NonTerminal`'s loop for an `ExtendLoop` state `v`: stopped through the early exit (`next_use == 0`) or running.
`unRest` ignores its last argument (`first_length` only documents the call in the model), hence the `0`. -/
def stepOf (T : Table) (R : Ptr → Rat) (c : Chart) (rs : RS) (v : ExtendReturn) (rest : List Ptr) : StepOut :=
  if v.nextUse == 0 then
    { rs := { withLoop rs v with leftDone := true, out := { (withLoop rs v).out with right := c.right },
                                 prob := v.adjust + unRest T R rest 0 },
      nextUse := 0, back := v.backIn, exit := true }
  else { rs := withLoop rs v, nextUse := v.nextUse, back := v.backIn, exit := false }

theorem stepOf_run (R : Ptr → Rat) (c : Chart) (rs : RS) (v : ExtendReturn) (rest : List Ptr) (h : v.nextUse ≠ 0) :
    stepOf T R c rs v rest = { rs := withLoop rs v, nextUse := v.nextUse, back := v.backIn, exit := false } := by
  simp [stepOf, h]

theorem afterRet_done (R : Ptr → Rat) (c : Chart) (rs : RS) (v : ExtendReturn) (e : Nat) (ret : ExtRet)
    (hm : v.makeFull = true) (hn : rs.out.right.length ≠ 0) :
    afterRet T R c rs.out.right.length e (withLoop rs v) ret =
      stepOf T R c rs { v with backIn := ret.backoffOut, nextUse := ret.nextUse } (c.left.pointers.drop e) := by
  unfold afterRet stepOf
  by_cases hz : ret.nextUse = 0
  · simp [hz, Ne.symm hn, withLoop, unRest]
  · by_cases hne : ret.nextUse = rs.out.right.length
    · simp [hne, hn, withLoop]
    · simp [hz, hne, withLoop, hm]

theorem getD_of_drop {α} {ps : List α} {i : Nat} {p d : α} {l : List α} (h : l.drop i = p :: ps) :
    l.getD i d = p ∧ l.drop (i+1) = ps :=
  ⟨by rw [List.getD_eq_getElem?_getD, ← List.head?_drop, h]; rfl, by rw [← List.drop_drop, h]; rfl⟩

/-- **`NonTerminal`'s pointer loop with a complete left state is the use loop of `ExtendLoop`** followed by its `UnRest` -/
theorem extendAll_use (R : Ptr → Rat) (c : Chart) (rs : RS) (hn : rs.out.right.length ≠ 0) :
    ∀ (ps : List Ptr) (i : Nat) (v : ExtendReturn), c.left.pointers.drop i = ps → v.makeFull = true →
      extendAll T R c ps.length (i+1) (stepOf T R c rs v ps) =
        stepOf T R c rs (extendLoopUse T R 0 rs.out.right.words ps i v).1 (extendLoopUse T R 0 rs.out.right.words ps i v).2.1 := by
  intro ps
  induction ps with
  | nil => intro i v _ _; rfl
  | cons p ps ih =>
    intro i v hps hm
    obtain ⟨hp, hps'⟩ := getD_of_drop (d := []) hps
    unfold extendLoopUse
    by_cases hz : v.nextUse = 0
    · have hx : (stepOf T R c rs v (p :: ps)).exit = true := by simp [stepOf, hz]
      rw [extendAll_exit R c _ _ _ hx]
      simp [hz]
    · rw [stepOf_run R c rs v _ hz, List.length_cons, extendAll_succ R c _ _ _ rfl, rsExtendLeft_eq]
      simp only [hz, beq_iff_eq, if_false, Nat.add_sub_cancel, hp, Nat.add_zero, withLoop_right]
      generalize extendLeft T R (rs.out.right.words.take v.nextUse) v.backIn p (i+1) = ret
      have hpr : processRet (withLoop rs v) ret = withLoop rs { v with adjust := v.adjust + ret.prob } := by
        simp [processRet, withLoop, hm]
      rw [hpr, afterRet_done R c rs _ _ ret (show ({ v with adjust := v.adjust + ret.prob } : ExtendReturn).makeFull = true from hm) hn, hps']
      exact ih (i+1) _ hps' hm

theorem afterRet_open (R : Ptr → Rat) (c : Chart) (rs : RS) (v : ExtendReturn) (e : Nat) (ret : ExtRet)
    (hn : rs.out.right.length ≠ 0) :
    afterRet T R c rs.out.right.length e (withLoop rs v) ret =
      if ret.nextUse = rs.out.right.length then
        { rs := withLoop rs v, nextUse := ret.nextUse, back := ret.backoffOut, exit := false }
      else stepOf T R c rs { v with backIn := ret.backoffOut, nextUse := ret.nextUse, makeFull := true } (c.left.pointers.drop e) := by
  unfold afterRet stepOf
  by_cases hz : ret.nextUse = 0
  · simp [hz, Ne.symm hn, withLoop, unRest]
  · by_cases hne : ret.nextUse = rs.out.right.length
    · simp [hne]
    · simp [hz, hne, withLoop]

/-- **`NonTerminal`'s pointer loop with an open left state is the write loop of `ExtendLoop`**, followed by the use loop -/
theorem extendAll_write (R : Ptr → Rat) (c : Chart) (rs : RS) (hn : rs.out.right.length ≠ 0) :
    ∀ (ps : List Ptr) (i : Nat) (v : ExtendReturn), c.left.pointers.drop i = ps → v.makeFull = false →
      v.nextUse = rs.out.right.length →
      extendAll T R c ps.length (i+1) (stepOf T R c rs v ps) =
        (let r1 := extendLoopWrite T R 0 rs.out.right.words rs.out.right.length ps i v
         let r2 := extendLoopUse T R 0 rs.out.right.words r1.2.1 r1.2.2 r1.1
         stepOf T R c rs r2.1 r2.2.1) := by
  intro ps
  induction ps with
  | nil => intro i v _ _ _; rfl
  | cons p ps ih =>
    intro i v hps hm hnu
    obtain ⟨hp, hps'⟩ := getD_of_drop (d := []) hps
    have hz : v.nextUse ≠ 0 := by rw [hnu]; exact hn
    rw [stepOf_run R c rs v _ hz, List.length_cons, extendAll_succ R c _ _ _ rfl, rsExtendLeft_eq]
    unfold extendLoopWrite
    simp only [Nat.add_sub_cancel, hp, Nat.add_zero, withLoop_right]
    generalize extendLeft T R (rs.out.right.words.take v.nextUse) v.backIn p (i+1) = ret
    by_cases hind : ret.independentLeft = true
    · have hpr : processRet (withLoop rs v) ret = withLoop rs { v with adjust := v.adjust + ret.prob, makeFull := true } := by
        simp [processRet, withLoop, hm, hind]
      rw [hpr, afterRet_done R c rs _ _ ret rfl hn, hps']
      simp only [hind, if_true]
      exact extendAll_use R c rs hn ps (i+1) _ hps' rfl
    · have hpr : processRet (withLoop rs v) ret =
          withLoop rs { v with adjust := v.adjust + ret.rest, written := v.written ++ [ret.extendLeft] } := by
        simp [processRet, withLoop, hm, hind]
      rw [hpr, afterRet_open R c rs _ _ ret hn, hps']
      simp only [hind, Bool.false_eq_true, if_false]
      by_cases hne : ret.nextUse = rs.out.right.length
      · simp only [hne, bne_self_eq_false, Bool.false_eq_true, if_false, if_true]
        have := ih (i+1) { v with backIn := ret.backoffOut, nextUse := ret.nextUse, adjust := v.adjust + ret.rest,
                                  written := v.written ++ [ret.extendLeft] } hps' hm hne
        rw [hne] at this
        exact (congrArg _ (stepOf_run R c rs _ ps (show _ ≠ 0 from hn)).symm).trans this
      · simp only [hne, if_false, bne_iff_ne, ne_eq, not_false_eq_true, if_true]
        exact extendAll_use R c rs hn ps (i+1) _ hps' rfl

/-- the three stages of `ExtendLoop` from an arbitrary loop state `v`.  `addLen` is separate from `add`
because `NonTerminal` passes the untruncated `right.words` with `right.length`. -/
def loopFrom (T : Table) (R : Ptr → Rat) (seen : Nat) (add : List Word) (addLen : Nat) (ps : List Ptr)
    (v : ExtendReturn) (write : Bool) : ExtendReturn :=
  let r1 := if write then extendLoopWrite T R seen add addLen ps 0 v else (v, ps, 0)
  let r2 := extendLoopUse T R seen add r1.2.1 r1.2.2 r1.1
  { r2.1 with adjust := r2.1.adjust + unRest T R r2.2.1 (r2.2.2 + seen + 1) }

theorem extendLoop_eq (R : Ptr → Rat) (seen : Nat) (add : List Word) (bs : List Rat) (ps : List Ptr) (write : Bool) :
    extendLoop T R seen add bs ps write =
      loopFrom T R seen add add.length ps { nextUse := add.length, backIn := bs.take add.length } write := by
  unfold extendLoop loopFrom
  cases write <;> rfl

theorem extendLoopUse_rest (R : Ptr → Rat) (seen : Nat) (add : List Word) :
    ∀ (ps : List Ptr) (i : Nat) (v : ExtendReturn),
      (extendLoopUse T R seen add ps i v).2.1 = [] ∨ (extendLoopUse T R seen add ps i v).1.nextUse = 0 := by
  intro ps
  induction ps with
  | nil => intro i v; exact Or.inl rfl
  | cons p ps ih =>
    intro i v
    unfold extendLoopUse
    by_cases hz : v.nextUse = 0
    · simp [hz]
    · simp only [hz, beq_iff_eq, if_false]; exact ih _ _

/-- the right state `NonTerminal` / `Subsume` / `RevealBefore` assemble when the left state is not full: `r` extended by the part of
the added context that can still matter -/
def mergedState (r : State) (add : List Word) (v : ExtendReturn) : State :=
  { length := r.length + v.nextUse,
    words := r.words.take r.length ++ add.take v.nextUse,
    backoff := r.backoff.take r.length ++ v.backIn.take v.nextUse }

theorem mergedState_congr (r : State) {add add' : List Word} {v : ExtendReturn}
    (h : add.take v.nextUse = add'.take v.nextUse) : mergedState r add v = mergedState r add' v := by
  unfold mergedState; rw [h]

/-- the code of `NonTerminal` after its pointer loop (`left.hh:127-148`), on the final loop state -/
def joinOut (c : Chart) (rs : RS) (v : ExtendReturn) : RS :=
  let rs := withLoop rs v
  if v.nextUse == 0 then { rs with leftDone := true, out := { rs.out with right := c.right } }
  else if c.left.full then
    { rs with prob := rs.prob + (v.backIn.take v.nextUse).sum, leftDone := true, out := { rs.out with right := c.right } }
  else if c.right.length < c.left.length then { rs with out := { rs.out with right := c.right } }
  else { rs with out := { rs.out with right := mergedState c.right rs.out.right.words v } }

theorem extendLoopUse_makeFull (T : Table) (R : Ptr → Rat) (seen : Nat) (add : List Word) :
    ∀ (ps : List Ptr) (i : Nat) (v : ExtendReturn), (extendLoopUse T R seen add ps i v).1.makeFull = v.makeFull := by
  intro ps
  induction ps with
  | nil => intro i v; rfl
  | cons p ps ih =>
    intro i v
    unfold extendLoopUse
    split
    · rfl
    · exact ih _ _

theorem extendLoopUse_written (T : Table) (R : Ptr → Rat) (seen : Nat) (add : List Word) :
    ∀ (ps : List Ptr) (i : Nat) (v : ExtendReturn), (extendLoopUse T R seen add ps i v).1.written = v.written := by
  intro ps
  induction ps with
  | nil => intro i v; rfl
  | cons p ps ih =>
    intro i v
    unfold extendLoopUse
    split
    · rfl
    · exact ih _ _

theorem extendLoopWrite_open (T : Table) (R : Ptr → Rat) (seen : Nat) (add : List Word) (n : Nat) :
    ∀ (ps : List Ptr) (i : Nat) (v : ExtendReturn), v.nextUse = n →
      (extendLoopWrite T R seen add n ps i v).1.makeFull = false →
      v.makeFull = false ∧ (extendLoopWrite T R seen add n ps i v).2.1 = [] ∧
        (extendLoopWrite T R seen add n ps i v).1.nextUse = n ∧
        (extendLoopWrite T R seen add n ps i v).1.written.length = v.written.length + ps.length := by
  intro ps
  induction ps with
  | nil => intro i v hn h; exact ⟨h, rfl, hn, rfl⟩
  | cons p ps ih =>
    intro i v hn
    unfold extendLoopWrite
    generalize extendLeft T R (add.take v.nextUse) v.backIn p (i + seen + 1) = ret
    dsimp only
    split
    · intro h; cases h
    · split
      · intro h; cases h
      · rename_i hne
        intro h
        obtain ⟨h0, h1, h2, h3⟩ := ih (i+1) _ (by simpa using hne) h
        refine ⟨h0, h1, h2, ?_⟩
        rw [h3, List.length_append, List.length_singleton, List.length_cons, Nat.add_assoc, Nat.add_comm 1]

theorem joinOut_cases (c : Chart) (rs : RS) (v : ExtendReturn) :
    (v.nextUse = 0 ∧ joinOut c rs v =
      { withLoop rs v with leftDone := true, out := { (withLoop rs v).out with right := c.right } }) ∨
    (v.nextUse ≠ 0 ∧ c.left.full = true ∧ joinOut c rs v =
      { withLoop rs v with prob := v.adjust + (v.backIn.take v.nextUse).sum, leftDone := true,
                           out := { (withLoop rs v).out with right := c.right } }) ∨
    (v.nextUse ≠ 0 ∧ c.left.full = false ∧ c.right.length < c.left.length ∧ joinOut c rs v =
      { withLoop rs v with out := { (withLoop rs v).out with right := c.right } }) ∨
    (v.nextUse ≠ 0 ∧ c.left.full = false ∧ ¬ c.right.length < c.left.length ∧ joinOut c rs v =
      { withLoop rs v with out := { (withLoop rs v).out with right := mergedState c.right rs.out.right.words v } }) := by
  unfold joinOut
  dsimp only
  by_cases hz : v.nextUse = 0
  · rw [if_pos (beq_iff_eq.mpr hz)]; exact Or.inl ⟨hz, rfl⟩
  · rw [if_neg (hz ∘ beq_iff_eq.mp)]
    cases hf : c.left.full with
    | true => rw [if_pos rfl]; exact Or.inr (Or.inl ⟨hz, rfl, rfl⟩)
    | false =>
      rw [if_neg Bool.false_ne_true]
      by_cases hlt : c.right.length < c.left.length
      · rw [if_pos hlt]; exact Or.inr (Or.inr (Or.inl ⟨hz, rfl, hlt, rfl⟩))
      · rw [if_neg hlt]; exact Or.inr (Or.inr (Or.inr ⟨hz, rfl, hlt, rfl⟩))

theorem joinOut_left (c : Chart) (rs : RS) (v : ExtendReturn) :
    (joinOut c rs v).out.left = { rs.out.left with pointers := v.written } := by
  rcases joinOut_cases c rs v with ⟨_, e⟩ | ⟨_, _, e⟩ | ⟨_, _, _, e⟩ | ⟨_, _, _, e⟩ <;> rw [e] <;> rfl

theorem joinOut_done (c : Chart) (rs : RS) (v : ExtendReturn) :
    (joinOut c rs v).leftDone = (v.nextUse == 0 || c.left.full || v.makeFull) := by
  have hz : ∀ {x : Nat}, x ≠ 0 → (x == 0) = false := fun h => beq_eq_false_iff_ne.mpr h
  rcases joinOut_cases c rs v with ⟨h, e⟩ | ⟨h, hf, e⟩ | ⟨h, hf, _, e⟩ | ⟨h, hf, _, e⟩ <;> rw [e]
  · rw [h]; rfl
  · rw [hf, Bool.or_true]; rfl
  · rw [hz h, hf]; rfl
  · rw [hz h, hf]; rfl

/-- `joinOut` does not read the flag of the running object's left state: it is carried through -/
theorem joinOut_full (c : Chart) (rs : RS) (v : ExtendReturn) (b : Bool) :
    joinOut c { rs with out := { rs.out with left := { rs.out.left with full := b } } } v =
      { joinOut c rs v with out := { (joinOut c rs v).out with left := { (joinOut c rs v).out.left with full := b } } } := by
  unfold joinOut
  dsimp only
  split
  · rfl
  · split
    · rfl
    · split <;> rfl

theorem ntTail_stepOf (R : Ptr → Rat) (c : Chart) (rs : RS) (v : ExtendReturn) (rest : List Ptr) (k : Nat)
    (h : rest = [] ∨ v.nextUse = 0) :
    ntTail c (stepOf T R c rs v rest) = joinOut c rs { v with adjust := v.adjust + unRest T R rest k } := by
  unfold ntTail stepOf joinOut
  by_cases hz : v.nextUse = 0
  · simp [hz, withLoop, unRest]
  · have : rest = [] := h.resolve_right hz
    subst this
    simp [hz, withLoop, unRest, Rat.add_zero, mergedState]

/-- the `ExtendLoop` state `NonTerminal`'s loop starts from, read off the running object (`withLoop` writes it back) -/
def loopStart (rs : RS) (p : Rat) : ExtendReturn :=
  { adjust := rs.prob + p, makeFull := rs.leftDone, nextUse := rs.out.right.length, written := rs.out.left.pointers,
    backIn := rs.out.right.backoff.take rs.out.right.length }

/-- **`NonTerminal`'s two pointer loops are `ExtendLoop`** on the pointers of the incoming fragment with the running
object's right state as the context to add, started with the running score as accumulator; writing = `!left_done_` -/
theorem nonTerminal_loop (R : Ptr → Rat) (rs : RS) (c : Chart) (p : Rat)
    (h1 : c.left.length ≠ 0) (hn : rs.out.right.length ≠ 0) :
    nonTerminal T R rs c p = joinOut c rs (loopFrom T R 0 rs.out.right.words rs.out.right.length c.left.pointers
      (loopStart rs p) (!rs.leftDone)) := by
  rw [nonTerminal_extendAll R rs c p h1 hn]
  have h0 := stepOf_run (T := T) R c rs (loopStart rs p) c.left.pointers hn
  show ntTail c (extendAll T R c c.left.pointers.length (0+1)
    { rs := withLoop rs (loopStart rs p), nextUse := (loopStart rs p).nextUse, back := (loopStart rs p).backIn, exit := false }) = _
  rw [← h0]
  unfold loopFrom
  by_cases hd : rs.leftDone = true
  · rw [extendAll_use R c rs hn c.left.pointers 0 (loopStart rs p) rfl hd]
    simp only [hd, Bool.not_true, Bool.false_eq_true, if_false]
    exact ntTail_stepOf R c rs _ _ _ (extendLoopUse_rest R 0 _ _ _ _)
  · have hd' : rs.leftDone = false := by simpa using hd
    rw [extendAll_write R c rs hn c.left.pointers 0 (loopStart rs p) rfl hd' rfl]
    simp only [hd', Bool.not_false, if_true]
    exact ntTail_stepOf R c rs _ _ _ (extendLoopUse_rest R 0 _ _ _ _)

theorem nonTerminal_cases (R : Ptr → Rat) (rs : RS) (c : Chart) (p : Rat) :
    (c.left.length = 0 ∧ c.left.full = true ∧ nonTerminal T R rs c p =
      { rs with prob := rs.prob + p + (rs.out.right.backoff.take rs.out.right.length).sum, leftDone := true,
                out := { rs.out with right := c.right } }) ∨
    (c.left.length = 0 ∧ c.left.full = false ∧ nonTerminal T R rs c p = { rs with prob := rs.prob + p }) ∨
    (c.left.length ≠ 0 ∧ rs.out.right.length = 0 ∧ nonTerminal T R rs c p =
      if rs.leftDone then { rs with out := { rs.out with right := c.right }, prob := rs.prob + p + unRest T R c.left.pointers 1 }
      else if rs.out.left.length != 0 then { rs with out := { rs.out with right := c.right }, prob := rs.prob + p, leftDone := true }
      else { out := { left := c.left, right := c.right }, leftDone := c.left.full, prob := rs.prob + p }) ∨
    (c.left.length ≠ 0 ∧ rs.out.right.length ≠ 0 ∧ nonTerminal T R rs c p = joinOut c rs
      (loopFrom T R 0 rs.out.right.words rs.out.right.length c.left.pointers (loopStart rs p) (!rs.leftDone))) := by
  by_cases h1 : c.left.length = 0
  · cases h2 : c.left.full with
    | true => exact Or.inl ⟨h1, rfl, nonTerminal_nil_full R rs c p h1 h2⟩
    | false => exact Or.inr (Or.inl ⟨h1, rfl, nonTerminal_nil_open R rs c p h1 h2⟩)
  · by_cases h3 : rs.out.right.length = 0
    · exact Or.inr (Or.inr (Or.inl ⟨h1, h3, nonTerminal_fresh R rs c p h1 h3⟩))
    · exact Or.inr (Or.inr (Or.inr ⟨h1, h3, nonTerminal_loop R rs c p h1 h3⟩))

end KV.Left
