import Proofs.SortOrder
/-! C16: the k-way priority-queue merge and the combiner fold. -/
namespace KV.Sort
open List

variable {α : Type} {lt : α → α → Bool} {comb : α → α → Option α}

theorem qflat_cons (e : QEntry α) (q) : qflat (e :: q) = e.1 :: e.2 ++ qflat q := by simp [qflat]

theorem qsize_eq_length (q : List (QEntry α)) : qsize q = (qflat q).length := by
  induction q with
  | nil => rfl
  | cons e q ih => simp [qsize, qflat] at ih ⊢; omega

theorem qflat_perm {q q' : List (QEntry α)} (h : q ~ q') : qflat q ~ qflat q' := by
  unfold qflat
  exact Perm.flatMap_right _ h

theorem qflat_requeue (m : QEntry α) (rest) : qflat (m :: rest) = m.1 :: qflat (requeue m rest) := by
  obtain ⟨x, tl⟩ := m
  cases tl <;> simp [requeue, qflat]

theorem mem_qflat {q : List (QEntry α)} {z : α} : z ∈ qflat q ↔ ∃ f ∈ q, z = f.1 ∨ z ∈ f.2 := by
  simp [qflat]

def MinHead (lt : α → α → Bool) (m : QEntry α) (q : List (QEntry α)) : Prop := ∀ f ∈ q, Le lt m.1 f.1

theorem popMin_spec (h : StrictWeak lt) : ∀ (e : QEntry α) (q : List (QEntry α)),
    ((popMin lt e q).1 :: (popMin lt e q).2) ~ (e :: q) ∧ MinHead lt (popMin lt e q).1 (e :: q)
  | e, [] => by
    simp [popMin, MinHead, Le, h.irrefl]
  | e, f :: fs => by
    have ih := popMin_spec h f fs
    unfold popMin
    by_cases hlt : lt (popMin lt f fs).1.1 e.1 = true
    · simp only [hlt, ↓reduceIte]
      refine ⟨?_, ?_⟩
      · exact (Perm.swap _ _ _).trans (Perm.cons _ ih.1)
      · intro g hg
        simp only [mem_cons] at hg
        rcases hg with rfl | hg
        · exact h.asymm _ _ hlt
        · exact ih.2 g (by simpa using hg)
    · simp only [hlt]
      refine ⟨Perm.refl _, ?_⟩
      intro g hg
      simp only [mem_cons] at hg
      rcases hg with rfl | hg
      · exact h.irrefl _
      · have h1 : Le lt e.1 (popMin lt f fs).1.1 := by simpa using hlt
        exact Le.trans h h1 (ih.2 g (by simpa using hg))

theorem popAt_perm : ∀ (q : List (QEntry α)) (i : Nat) (r), popAt q i = some r → (r.1 :: r.2) ~ q
  | [], _, r, h => by simp [popAt] at h
  | e :: q, 0, r, h => by
    simp only [popAt, Option.some.injEq] at h; subst h; exact Perm.refl _
  | e :: q, i + 1, r, h => by
    simp only [popAt, Option.map_eq_some_iff] at h
    obtain ⟨r', hr', rfl⟩ := h
    exact (Perm.swap _ _ _).trans (Perm.cons _ (popAt_perm q i r' hr'))

theorem pop_spec (h : StrictWeak lt) (pick) (e : QEntry α) (q : List (QEntry α)) :
    ((pop lt pick e q).1 :: (pop lt pick e q).2) ~ (e :: q) ∧ MinHead lt (pop lt pick e q).1 (e :: q) := by
  unfold pop
  cases hp : popAt (e :: q) (pick (e :: q)) with
  | none => exact popMin_spec h e q
  | some r =>
    simp only
    by_cases hall : (e :: q).all (fun f => !lt f.1 r.1.1) = true
    · rw [if_pos hall]
      refine ⟨popAt_perm _ _ _ hp, ?_⟩
      intro f hf
      have := List.all_eq_true.mp hall f hf
      simpa using this
    · rw [if_neg hall]
      exact popMin_spec h e q

def AllSorted (lt : α → α → Bool) (runs : List (List α)) : Prop := ∀ r ∈ runs, Pairwise (Le lt) r

def QSorted (lt : α → α → Bool) (q : List (QEntry α)) : Prop := ∀ e ∈ q, Pairwise (Le lt) (e.1 :: e.2)

theorem QSorted.perm {q q' : List (QEntry α)} (hq : QSorted lt q) (h : q' ~ q) : QSorted lt q' :=
  fun e he => hq e (h.subset he)

theorem QSorted.requeue {m : QEntry α} {rest} (hq : QSorted lt (m :: rest)) :
    QSorted lt (requeue m rest) := by
  obtain ⟨x, tl⟩ := m
  cases tl with
  | nil => exact fun e he => hq e (by simp [KV.Sort.requeue] at he; simp [he])
  | cons y ys =>
    intro e he
    simp only [KV.Sort.requeue, mem_cons] at he
    rcases he with rfl | he
    · exact (pairwise_cons.mp (hq (x, y :: ys) (by simp))).2
    · exact hq e (by simp [he])

theorem minHead_le_all (h : StrictWeak lt) {m : QEntry α} {q : List (QEntry α)}
    (hm : MinHead lt m q) (hq : QSorted lt q) : ∀ z ∈ qflat q, Le lt m.1 z := by
  intro z hz
  obtain ⟨f, hf, hz⟩ := mem_qflat.mp hz
  rcases hz with rfl | hz
  · exact hm f hf
  · exact Le.trans h (hm f hf) ((pairwise_cons.mp (hq f hf)).1 z hz)

/-- the popped sequence is a permutation of the queue's records, and sorted if every run is: each pop
takes a minimal head, which is below everything else in sorted runs -/
theorem kmergeAux_spec (h : StrictWeak lt) (pick) :
    ∀ (n : Nat) (q : List (QEntry α)), qsize q ≤ n →
      kmergeAux lt pick n q ~ qflat q ∧ (QSorted lt q → Pairwise (Le lt) (kmergeAux lt pick n q)) := by
  intro n
  induction n with
  | zero =>
    intro q hq
    cases q with
    | nil => exact ⟨by simp [kmergeAux, qflat], fun _ => by simp [kmergeAux]⟩
    | cons e q => simp [qsize] at hq
  | succ n ih =>
    intro q hq
    cases q with
    | nil => exact ⟨by simp [kmergeAux, qflat], fun _ => by simp [kmergeAux]⟩
    | cons e q =>
      obtain ⟨hp, hm⟩ := pop_spec h (pick n) e q
      have hfl := qflat_perm hp
      rw [qflat_requeue] at hfl
      have hlen : qsize (requeue (pop lt (pick n) e q).1 (pop lt (pick n) e q).2) ≤ n := by
        rw [qsize_eq_length] at hq ⊢
        have := hfl.length_eq
        simp only [length_cons] at this
        omega
      obtain ⟨ihp, ihs⟩ := ih _ hlen
      simp only [kmergeAux]
      refine ⟨(Perm.cons _ ihp).trans hfl, fun hs => pairwise_cons.mpr ⟨fun z hz => ?_, ihs (hs.perm hp).requeue⟩⟩
      exact minHead_le_all h hm hs z (hfl.subset (mem_cons_of_mem _ (ihp.subset hz)))

theorem qflat_toQueue : ∀ (runs : List (List α)), qflat (toQueue runs) = runs.flatten
  | [] => rfl
  | r :: rs => by
    have ih := qflat_toQueue rs
    cases r with
    | nil => simpa [toQueue] using ih
    | cons x xs =>
      simp only [toQueue, filterMap_cons, flatten_cons] at ih ⊢
      rw [qflat_cons, ih]

theorem QSorted_toQueue : ∀ (runs : List (List α)),
    AllSorted lt runs → QSorted lt (toQueue runs)
  | [], _ => by simp [toQueue, QSorted]
  | r :: rs, hr => by
    have ih := QSorted_toQueue rs (fun r' hr' => hr r' (by simp [hr']))
    cases r with
    | nil => simpa [toQueue] using ih
    | cons x xs =>
      intro e he
      simp only [toQueue, filterMap_cons, mem_cons] at he
      rcases he with rfl | he
      · exact hr _ (by simp)
      · exact ih e he

theorem kmerge_perm (h : StrictWeak lt) (pick) (runs : List (List α)) :
    kmerge lt pick (toQueue runs) ~ runs.flatten := by
  rw [← qflat_toQueue]
  exact (kmergeAux_spec h (pick _) _ _ (Nat.le_refl _)).1

theorem kmerge_sorted (h : StrictWeak lt) (pick) (runs : List (List α))
    (hr : AllSorted lt runs) : Pairwise (Le lt) (kmerge lt pick (toQueue runs)) :=
  (kmergeAux_spec h (pick _) _ _ (Nat.le_refl _)).2 (QSorted_toQueue runs hr)

/-- what a combiner must respect for the output to stay sorted: the combined record compares
equal to the record it replaces (`CombineCounts` keeps the words) -/
def CombKeeps (lt : α → α → Bool) (comb : α → α → Option α) : Prop :=
  ∀ a b c, comb a b = some c → lt a c = false ∧ lt c a = false

def CombComplete (lt : α → α → Bool) (comb : α → α → Option α) : Prop :=
  ∀ a b, lt a b = false → lt b a = false → (comb a b).isSome = true

theorem combineAdj_never : ∀ (l : List α), combineAdj neverCombine l = l := by
  intro l
  cases l with
  | nil => rfl
  | cons x xs =>
    simp only [combineAdj]
    induction xs generalizing x with
    | nil => rfl
    | cons y ys ih => simp [combineGo, neverCombine, ih]

theorem combineGo_mem (h : StrictWeak lt) (hc : CombKeeps lt comb) :
    ∀ (ys : List α) (cur : α) (z : α), z ∈ combineGo comb cur ys → ∃ x ∈ cur :: ys, Le lt x z ∧ Le lt z x := by
  intro ys
  induction ys with
  | nil =>
    intro cur z hz
    cases mem_singleton.mp hz
    exact ⟨cur, mem_cons_self .., Le.refl h cur, Le.refl h cur⟩
  | cons y ys ih =>
    intro cur z hz
    simp only [combineGo] at hz
    cases hcy : comb cur y with
    | some c =>
      rw [hcy] at hz
      obtain ⟨x, hx, h1, h2⟩ := ih c z hz
      rcases mem_cons.mp hx with rfl | hx
      · obtain ⟨k1, k2⟩ := hc cur y x hcy
        exact ⟨cur, mem_cons_self .., Le.trans h k2 h1, Le.trans h h2 k1⟩
      · exact ⟨x, mem_cons_of_mem _ (mem_cons_of_mem _ hx), h1, h2⟩
    | none =>
      rw [hcy] at hz
      rcases mem_cons.mp hz with rfl | hz
      · exact ⟨z, mem_cons_self .., Le.refl h z, Le.refl h z⟩
      · obtain ⟨x, hx, h12⟩ := ih y z hz
        exact ⟨x, mem_cons_of_mem _ hx, h12⟩

/-- `R` holds from a record to everything behind a neighbour it was not combined with: what makes the output
of the fold pairwise `R` (`≤` always, `<` for a complete combiner) -/
def Separated (lt : α → α → Bool) (comb : α → α → Option α) (R : α → α → Prop) : Prop :=
  ∀ cur y z, comb cur y = none → Le lt cur y → Le lt y z → R cur z

theorem combineGo_pairwise (h : StrictWeak lt) (hc : CombKeeps lt comb)
    (R : α → α → Prop) (hR : Separated lt comb R) :
    ∀ (ys : List α) (cur : α), Pairwise (Le lt) (cur :: ys) → Pairwise R (combineGo comb cur ys) := by
  intro ys
  induction ys with
  | nil => intro cur _; simp [combineGo]
  | cons y ys ih =>
    intro cur hs
    obtain ⟨hcur, hys⟩ := pairwise_cons.mp hs
    simp only [combineGo]
    cases hcy : comb cur y with
    | some c =>
      refine ih c (pairwise_cons.mpr ⟨fun z hz => ?_, (pairwise_cons.mp hys).2⟩)
      exact Le.trans h ((hc cur y c hcy).1 : Le lt c cur) (hcur z (mem_cons_of_mem _ hz))
    | none =>
      refine pairwise_cons.mpr ⟨fun z hz => ?_, ih y hys⟩
      obtain ⟨x, hx, h1, _⟩ := combineGo_mem h hc ys y z hz
      have hyx : Le lt y x := by
        rcases mem_cons.mp hx with rfl | hx
        · exact Le.refl h _
        · exact (pairwise_cons.mp hys).1 x hx
      exact hR cur y z hcy (hcur y (mem_cons_self ..)) (Le.trans h hyx h1)

theorem combineAdj_pairwise (h : StrictWeak lt) (hc : CombKeeps lt comb) {R : α → α → Prop}
    (hR : Separated lt comb R) (l : List α) (hs : Pairwise (Le lt) l) : Pairwise R (combineAdj comb l) := by
  cases l with
  | nil => simp [combineAdj]
  | cons x xs => exact combineGo_pairwise h hc R hR xs x hs

theorem separated_le (h : StrictWeak lt) (comb : α → α → Option α) : Separated lt comb (Le lt) :=
  fun _ _ _ _ h1 h2 => Le.trans h h1 h2

theorem separated_lt (h : StrictWeak lt) (hk : CombComplete lt comb) :
    Separated lt comb (fun a b => lt a b = true) := by
  intro cur y z hcy h1 h2
  refine lt_of_lt_of_Le h ?_ h2
  cases hlt : lt cur y with
  | true => rfl
  | false =>
    have := hk cur y hlt h1
    rw [hcy] at this; cases this

/-- What a merge may do to the records it reads: rearrange them, replace two of them by what the combiner
makes of them, do such steps one after the other, and on consecutive pieces separately.  Every relation
between input and output the property speaks of (permutation, equal totals, same keys) follows from it. -/
inductive Combined (comb : α → α → Option α) : List α → List α → Prop
  | perm {l l' : List α} : l' ~ l → Combined comb l l'
  | comb {a b c : α} : comb a b = some c → Combined comb [a, b] [c]
  | trans {l₁ l₂ l₃ : List α} : Combined comb l₁ l₂ → Combined comb l₂ l₃ → Combined comb l₁ l₃
  | append {a a' b b' : List α} : Combined comb a a' → Combined comb b b' → Combined comb (a ++ b) (a' ++ b')

theorem Combined.refl (comb : α → α → Option α) (l : List α) : Combined comb l l := .perm (Perm.refl l)

theorem Combined.perm_of_never {l l' : List α} (h : Combined neverCombine l l') : l' ~ l := by
  induction h with
  | perm h => exact h
  | comb h => cases h
  | trans _ _ ih1 ih2 => exact ih2.trans ih1
  | append _ _ ih1 ih2 => exact ih1.append ih2

theorem Combined.sum {l l' : List α} (h : Combined comb l l') (w : α → Nat)
    (hw : ∀ a b c, comb a b = some c → w c = w a + w b) : (l'.map w).sum = (l.map w).sum := by
  induction h with
  | perm h => exact (h.map w).sum_nat
  | comb h => simp [hw _ _ _ h]
  | trans _ _ ih1 ih2 => exact ih2.trans ih1
  | append _ _ ih1 ih2 => simp only [map_append, sum_append, ih1, ih2]

theorem Combined.forall {P : α → Prop} (hP : ∀ a b c, comb a b = some c → P a → P c) {l l' : List α}
    (h : Combined comb l l') : (∀ x ∈ l, P x) → ∀ x ∈ l', P x := by
  induction h with
  | perm h => exact fun hl x hx => hl x (h.subset hx)
  | @comb a b c h => exact fun hl x hx => mem_singleton.mp hx ▸ hP a b c h (hl a (mem_cons_self ..))
  | trans _ _ ih1 ih2 => exact fun hl => ih2 (ih1 hl)
  | append _ _ ih1 ih2 =>
    exact fun hl x hx => (mem_append.mp hx).elim (ih1 (fun y hy => hl y (mem_append_left _ hy)) x)
      (ih2 (fun y hy => hl y (mem_append_right _ hy)) x)

theorem Combined.flatten_map {β : Type} {f g : β → List α} : ∀ (xs : List β),
    (∀ x ∈ xs, Combined comb (f x) (g x)) → Combined comb (xs.map f).flatten (xs.map g).flatten
  | [], _ => .refl comb []
  | x :: xs, hf =>
    (hf x (mem_cons_self ..)).append (Combined.flatten_map xs fun y hy => hf y (mem_cons_of_mem _ hy))

theorem combineGo_combined (comb : α → α → Option α) :
    ∀ (ys : List α) (cur : α), Combined comb (cur :: ys) (combineGo comb cur ys)
  | [], cur => .refl comb [cur]
  | y :: ys, cur => by
    simp only [combineGo]
    cases hcy : comb cur y with
    | some c => exact ((Combined.comb hcy).append (.refl comb ys)).trans (combineGo_combined comb ys c)
    | none => exact (Combined.refl comb [cur]).append (combineGo_combined comb ys y)

theorem combineAdj_combined (comb : α → α → Option α) : ∀ (l : List α), Combined comb l (combineAdj comb l)
  | [] => .refl comb []
  | x :: xs => combineGo_combined comb xs x

theorem combineWritten_eq (comb : α → α → Option α) : ∀ (ys : List α) (cur : α),
    combineWritten comb cur ys = (combineGo comb cur ys).length := by
  intro ys
  induction ys with
  | nil => intro cur; rfl
  | cons y ys ih =>
    intro cur
    simp only [combineWritten, combineGo]
    cases comb cur y with
    | some c => exact ih c
    | none => simp only [length_cons, ih y]; omega

theorem mergeWritten_eq (lt : α → α → Bool) (comb) (pick) (runs : List (List α)) :
    mergeWritten lt comb pick runs = (mergeGroup lt comb pick runs).length := by
  unfold mergeWritten mergeGroup
  cases kmerge lt pick (toQueue runs) with
  | nil => rfl
  | cons x xs => exact combineWritten_eq comb xs x

theorem map_mergeWritten (lt : α → α → Bool) (comb) (pick) (gs : List (List (List α))) :
    gs.map (mergeWritten lt comb pick) = (gs.map (mergeGroup lt comb pick)).map List.length := by
  rw [List.map_map]
  exact List.map_congr_left (fun g _ => mergeWritten_eq lt comb pick g)

theorem storeRunsLogged_merge (lt : α → α → Bool) (comb) (pick) (gs : List (List (List α))) :
    storeRunsLogged (gs.map (mergeWritten lt comb pick)) (gs.map (mergeGroup lt comb pick)) =
      storeRuns (gs.map (mergeGroup lt comb pick)) := by
  rw [map_mergeWritten]; rfl

end KV.Sort
