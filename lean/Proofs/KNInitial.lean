import Proofs.KNNorm
/-!
Stage 3 of `lmplz` (`InitialProbabilities`, `Model/KN.lean` §4) against the set-based
specification: `AddRight`/`MergeRight` over the runs of `ctxRuns` give every record the `u`, `γ`
of its context group.

`ctxRuns` splits any list into non-empty runs of constant context (`RunsOK`); on a
context-sorted list every run is the whole group of its context (`ctxRuns_eq_filter`,
`runs_perm_group`), so the gammas handed to stage 4 are one per context, in strictly increasing
order, with the values of the specification (`initialOrder_gams`), and the surviving records are
the kept records with `Spec.Ctx.uGamma`, in suffix order (`stage3Of_fst`).

`addRight_eq` is used by an `example` only, `ctxRuns_ne_nil` and `ctxRuns_const` by the C07 proofs
(`Proofs/KNC07Stages.lean`); the proofs here use `addRight_den`, `addRight_gamma` and `ctxRuns_ok`.
-/
namespace KV.KN.Interp

open KV.KN KV.KN.Norm

theorem get_zero (d : Disc) : d.get 0 = 0 := rfl

theorem addRight_term (d : Disc) (e : Emit) :
    (if e.cutoff > 0 then d.get e.cutoff else 0) + ((e.count - e.cutoff : Nat) : Rat)
      = if e.marked then (e.count : Rat) else d.get e.count := by
  unfold Emit.cutoff
  by_cases hm : e.marked = true
  · simp [hm]
  · have hm' : e.marked = false := by simpa using hm
    simp only [hm', Bool.false_eq_true, if_false, Nat.sub_self, Nat.cast_zero, add_zero]
    by_cases hc : e.count > 0
    · simp [hc]
    · have : e.count = 0 := by omega
      simp [this, get_zero]

theorem addRight_num (d : Disc) (run : List Emit) :
    (run.map fun e => if e.cutoff > 0 then d.get e.cutoff else 0).sum
        + (((run.map fun e => e.count - e.cutoff).sum : Nat) : Rat)
      = (run.map fun e => if e.marked then (e.count : Rat) else d.get e.count).sum := by
  rw [cast_sum_map, ← List.sum_map_add]
  exact sum_map_congr _ _ _ fun e _ => addRight_term d e

theorem addRight_den (d : Disc) (es run : List Emit) (ctx : Gram)
    (hp : run.Perm (Spec.group es ctx)) : (addRight d run).den = Spec.den es ctx := by
  simp only [addRight, Spec.den]
  exact (hp.map _).sum_eq

theorem addRight_gamma (d : Disc) (es run : List Emit) (ctx : Gram)
    (hp : run.Perm (Spec.group es ctx)) : (addRight d run).gamma = Spec.gamma d es ctx := by
  have hden := addRight_den d es run ctx hp
  simp only [addRight] at hden
  simp only [addRight, Spec.gamma]
  rw [addRight_num, hden, (hp.map _).sum_eq]

theorem addRight_ctx (d : Disc) (run : List Emit) (ctx : Gram) (hne : run ≠ [])
    (hc : ∀ e ∈ run, e.gram.tail = ctx) : (addRight d run).ctx = ctx := by
  cases run with
  | nil => exact absurd rfl hne
  | cons a t => simp [addRight, hc a (List.mem_cons_self)]

theorem addRight_eq (d : Disc) (es run : List Emit) (ctx : Gram) (hne : run ≠ [])
    (hc : ∀ e ∈ run, e.gram.tail = ctx) (hp : run.Perm (Spec.group es ctx)) :
    (addRight d run).den = Spec.den es ctx ∧ (addRight d run).gamma = Spec.gamma d es ctx ∧
      (addRight d run).ctx = ctx :=
  ⟨addRight_den d es run ctx hp, addRight_gamma d es run ctx hp, addRight_ctx d run ctx hne hc⟩

/-- the record `MergeRight` should produce for `e` (order ≥ 2) -/
def specUninterp (d : Disc) (es : List Emit) (e : Emit) : Uninterp :=
  ⟨e.gram, Spec.uProb d es e, Spec.gamma d es e.gram.tail, keptBy e⟩

theorem mergeRight_eq (d : Disc) (es run : List Emit) (ctx : Gram)
    (hc : ∀ e ∈ run, e.gram.tail = ctx) (hp : run.Perm (Spec.group es ctx)) :
    mergeRight d run = run.map (specUninterp d es) := by
  unfold mergeRight
  apply List.map_congr_left
  intro e he
  simp only [specUninterp, Spec.uProb, hc e he, addRight_den d es run ctx hp,
    addRight_gamma d es run ctx hp]

/-- the record the unigram branch of `MergeRight` produces, in terms of the spec values.  Like the
code it reads the raw count word, mark bit included (`Emit.rawCount`); for an unmarked record that
is the count. -/
def specUninterp1 (interpUni : Bool) (d : Disc) (es : List Emit) (e : Emit) : Uninterp :=
  let gm := Spec.gamma d es []
  if e.gram = [unk] then ⟨e.gram, if interpUni then 0 else gm, if interpUni then gm else 0, keptBy e⟩
  else if e.gram = [bos] then ⟨e.gram, 1, 0, keptBy e⟩
  else ⟨e.gram, d.apply e.rawCount / (Spec.den es [] : Rat), if interpUni then gm else 0, keptBy e⟩

theorem specUninterp1_keep (interpUni : Bool) (d : Disc) (es : List Emit) (e : Emit) :
    (specUninterp1 interpUni d es e).keep = keptBy e := by
  simp only [specUninterp1, apply_ite Uninterp.keep, ite_self]

theorem rawCount_unmarked {e : Emit} (h : e.marked = false) : e.rawCount = e.count := by
  simp [Emit.rawCount, h]

theorem mergeRightUnigram_eq (interpUni : Bool) (d : Disc) (es run : List Emit)
    (hp : run.Perm (Spec.group es [])) :
    mergeRightUnigram interpUni d run = run.map (specUninterp1 interpUni d es) := by
  unfold mergeRightUnigram specUninterp1
  simp only [addRight_den d es run [] hp, addRight_gamma d es run [] hp]


/-- the context of a run: what `addRight` puts into the `ctx` field of its `Gam` -/
def runCtx (r : List Emit) : Gram := (r.head?.map (·.gram.tail)).getD []

/-- what `ctxRuns` guarantees without any assumption on the input -/
structure RunsOK (l : List Emit) (rs : List (List Emit)) : Prop where
  flat : rs.flatten = l
  ne : ∀ r ∈ rs, r ≠ []
  const : ∀ r ∈ rs, ∀ e ∈ r, e.gram.tail = runCtx r

theorem ctxRuns_cons_ne (a : Emit) (t : List Emit) : ∃ f r rs, ctxRuns (a :: t) = (f :: r) :: rs := by
  rw [ctxRuns]
  split
  · split <;> exact ⟨_, _, _, rfl⟩
  · exact ⟨_, _, _, rfl⟩

theorem ctxRuns_cons_cases (e : Emit) (t : List Emit) :
    (t = [] ∧ ctxRuns (e :: t) = [[e]]) ∨
    (∃ f r rs, ctxRuns t = (f :: r) :: rs ∧ e.gram.tail = f.gram.tail ∧
        ctxRuns (e :: t) = (e :: f :: r) :: rs) ∨
    (∃ f r rs, ctxRuns t = (f :: r) :: rs ∧ e.gram.tail ≠ f.gram.tail ∧
        ctxRuns (e :: t) = [e] :: (f :: r) :: rs) := by
  cases t with
  | nil => exact .inl ⟨rfl, rfl⟩
  | cons a t' =>
    obtain ⟨f, r, rs, hrt⟩ := ctxRuns_cons_ne a t'
    by_cases hef : e.gram.tail = f.gram.tail
    · exact .inr (.inl ⟨f, r, rs, hrt, hef, by rw [ctxRuns, hrt]; exact if_pos hef⟩)
    · exact .inr (.inr ⟨f, r, rs, hrt, hef, by rw [ctxRuns, hrt]; exact if_neg hef⟩)

theorem ctxRuns_ok (l : List Emit) : RunsOK l (ctxRuns l) := by
  induction l with
  | nil => exact ⟨rfl, nofun, nofun⟩
  | cons e t ih =>
    rcases ctxRuns_cons_cases e t with ⟨rfl, h⟩ | ⟨f, r, rs, hrt, hef, h⟩ | ⟨f, r, rs, hrt, hef, h⟩
    · rw [h]
      exact ⟨rfl, fun r hr => by cases List.mem_singleton.mp hr; exact List.cons_ne_nil _ _,
        fun r hr x hx => by cases List.mem_singleton.mp hr; cases List.mem_singleton.mp hx; rfl⟩
    · rw [h]; rw [hrt] at ih
      refine ⟨by rw [← ih.flat]; rfl,
        List.forall_mem_cons.mpr ⟨List.cons_ne_nil _ _, fun x hx => ih.ne x (List.mem_cons_of_mem _ hx)⟩,
        List.forall_mem_cons.mpr ⟨?_, fun x hx => ih.const x (List.mem_cons_of_mem _ hx)⟩⟩
      exact List.forall_mem_cons.mpr
        ⟨rfl, fun y hy => (ih.const _ List.mem_cons_self y hy).trans hef.symm⟩
    · rw [h]; rw [hrt] at ih
      exact ⟨by rw [← ih.flat]; rfl, List.forall_mem_cons.mpr ⟨List.cons_ne_nil _ _, ih.ne⟩,
        List.forall_mem_cons.mpr ⟨fun y hy => by cases List.mem_singleton.mp hy; rfl, ih.const⟩⟩

theorem ctxRuns_flatten (l : List Emit) : (ctxRuns l).flatten = l := (ctxRuns_ok l).flat

theorem ctxRuns_ne_nil (l : List Emit) : ∀ r ∈ ctxRuns l, r ≠ [] := (ctxRuns_ok l).ne

theorem ctxRuns_const (l : List Emit) : ∀ r ∈ ctxRuns l, ∀ e ∈ r, e.gram.tail = runCtx r :=
  (ctxRuns_ok l).const

theorem ctxRuns_sorted (l : List Emit) (hs : l.Pairwise fun a b => a.gram.tail ≤ b.gram.tail) :
    (ctxRuns l).Pairwise fun r s => runCtx r < runCtx s := by
  induction l with
  | nil => simp [ctxRuns]
  | cons e t ih =>
    rw [List.pairwise_cons] at hs
    have iht := ih hs.2
    rcases ctxRuns_cons_cases e t with ⟨_, h⟩ | ⟨f, r, rs, hrt, hef, h⟩ | ⟨f, r, rs, hrt, hef, h⟩
    · rw [h]; exact List.pairwise_singleton _ _
    · -- the first run grows, its context stays
      rw [h]; rw [hrt] at iht
      rw [List.pairwise_cons] at iht ⊢
      exact ⟨fun s hs' => (show runCtx (e :: f :: r) = runCtx (f :: r) from hef) ▸ iht.1 s hs', iht.2⟩
    · -- a new first run, with a smaller context than the old first run
      rw [h]; rw [hrt] at iht
      have hft : f ∈ t := by
        rw [← (ctxRuns_ok t).flat, hrt]; exact List.mem_append_left _ List.mem_cons_self
      have hlt : runCtx [e] < runCtx (f :: r) := Std.lt_of_le_of_ne (hs.1 f hft) hef
      refine List.pairwise_cons.mpr ⟨fun s hs' => ?_, iht⟩
      rcases List.mem_cons.mp hs' with rfl | h1
      · exact hlt
      · exact List.lt_trans hlt ((List.pairwise_cons.mp iht).1 s h1)

theorem ctxRuns_eq_filter (l : List Emit) (hs : l.Pairwise fun a b => a.gram.tail ≤ b.gram.tail) :
    ∀ r ∈ ctxRuns l, r = l.filter fun e => e.gram.tail == runCtx r := by
  intro r hr
  have ok := ctxRuns_ok l
  have hd : (ctxRuns l).Pairwise fun r s => runCtx r ≠ runCtx s :=
    (ctxRuns_sorted l hs).imp fun h => Std.ne_of_lt h
  have := filter_flatten_block (fun e : Emit => e.gram.tail) runCtx (ctxRuns l) ok.const hd r hr
  rw [ok.flat] at this
  exact this.symm


theorem ctxLe_total (a b : Emit) : (ctxLe a b || ctxLe b a) = true := by
  unfold ctxLe
  simp only [Bool.or_eq_true, decide_eq_true_eq, Bool.and_eq_true, beq_iff_eq]
  rcases Std.lt_trichotomy a.gram.tail b.gram.tail with h | h | h
  · exact Or.inl (Or.inl h)
  · rcases Nat.le_total (a.gram.headD 0) (b.gram.headD 0) with h2 | h2
    · exact Or.inl (Or.inr ⟨h, h2⟩)
    · exact Or.inr (Or.inr ⟨h.symm, h2⟩)
  · exact Or.inr (Or.inl h)

theorem ctxLe_tail {a b : Emit} (h : ctxLe a b = true) : a.gram.tail ≤ b.gram.tail := by
  unfold ctxLe at h
  simp only [Bool.or_eq_true, decide_eq_true_eq, Bool.and_eq_true, beq_iff_eq] at h
  rcases h with h | h
  · exact List.le_of_lt h
  · exact h.1 ▸ List.le_refl _

theorem ctxLe_trans (a b c : Emit) (h1 : ctxLe a b = true) (h2 : ctxLe b c = true) :
    ctxLe a c = true := by
  unfold ctxLe at *
  simp only [Bool.or_eq_true, decide_eq_true_eq, Bool.and_eq_true, beq_iff_eq] at *
  rcases h1 with h1 | h1 <;> rcases h2 with h2 | h2
  · exact Or.inl (List.lt_trans h1 h2)
  · exact Or.inl (h2.1 ▸ h1)
  · exact Or.inl (h1.1 ▸ h2)
  · exact Or.inr ⟨h1.1.trans h2.1, Nat.le_trans h1.2 h2.2⟩

theorem mergeSort_ctxLe_sorted (es : List Emit) :
    (es.mergeSort ctxLe).Pairwise fun a b => a.gram.tail ≤ b.gram.tail :=
  (List.pairwise_mergeSort ctxLe_trans ctxLe_total es).imp ctxLe_tail

theorem runs_perm_group (es : List Emit) :
    ∀ r ∈ ctxRuns (es.mergeSort ctxLe),
      r ≠ [] ∧ (∀ e ∈ r, e.gram.tail = runCtx r) ∧ r.Perm (Spec.group es (runCtx r)) := by
  intro r hr
  have ok := ctxRuns_ok (es.mergeSort ctxLe)
  refine ⟨ok.ne r hr, ok.const r hr, ?_⟩
  have h := ctxRuns_eq_filter _ (mergeSort_ctxLe_sorted es) r hr
  unfold Spec.group
  rw [h]
  have hp := (List.mergeSort_perm es ctxLe).filter (fun e => e.gram.tail == runCtx r)
  convert hp using 2
  rw [← h]

theorem mem_runCtx_iff (l : List Emit) (c : Gram) :
    c ∈ (ctxRuns l).map runCtx ↔ ∃ e ∈ l, e.gram.tail = c := by
  have ok := ctxRuns_ok l
  constructor
  · intro h
    rcases List.mem_map.mp h with ⟨r, hr, hc⟩
    rcases hr0 : r with _ | ⟨a, t⟩
    · exact absurd hr0 (ok.ne r hr)
    · refine ⟨a, ?_, ?_⟩
      · rw [← ok.flat]; exact List.mem_flatten.mpr ⟨r, hr, by rw [hr0]; exact List.mem_cons_self⟩
      · rw [← hc, hr0]; rfl
  · rintro ⟨e, he, hc⟩
    rw [← ok.flat] at he
    rcases List.mem_flatten.mp he with ⟨r, hr, her⟩
    exact List.mem_map.mpr ⟨r, hr, by rw [← hc, ok.const r hr e her]⟩

theorem initialOrder_gams (interpUni : Bool) (n : Nat) (d : Disc) (es : List Emit) :
    let gams := (initialOrder interpUni n d es).2
    (gams.map (·.ctx)).Pairwise (· < ·) ∧
    (∀ c, c ∈ gams.map (·.ctx) ↔ ∃ e ∈ es, e.gram.tail = c) ∧
    ∀ g ∈ gams, g.den = Spec.den es g.ctx ∧ g.gamma = Spec.gamma d es g.ctx := by
  simp only [initialOrder]
  have hmap : ((ctxRuns (es.mergeSort ctxLe)).map (addRight d)).map (·.ctx)
      = (ctxRuns (es.mergeSort ctxLe)).map runCtx := by
    rw [List.map_map]; rfl
  refine ⟨?_, ?_, ?_⟩
  · rw [hmap, List.pairwise_map]
    exact ctxRuns_sorted _ (mergeSort_ctxLe_sorted es)
  · intro c
    rw [hmap, mem_runCtx_iff]
    constructor
    · rintro ⟨e, he, hc⟩; exact ⟨e, (List.mergeSort_perm es ctxLe).mem_iff.mp he, hc⟩
    · rintro ⟨e, he, hc⟩; exact ⟨e, (List.mergeSort_perm es ctxLe).mem_iff.mpr he, hc⟩
  · intro g hg
    rcases List.mem_map.mp hg with ⟨r, hr, rfl⟩
    obtain ⟨_, _, hp⟩ := runs_perm_group es r hr
    exact ⟨addRight_den d es r _ hp, addRight_gamma d es r _ hp⟩

theorem initialOrder_fst_of (es : List Emit) (F : List Emit → List Uninterp) (f : Emit → Uninterp)
    (hkeep : ∀ e, (f e).keep = keptBy e)
    (hF : ∀ r ∈ ctxRuns (es.mergeSort ctxLe), F r = r.map f) :
    (((ctxRuns (es.mergeSort ctxLe)).flatMap F).filter (·.keep)).mergeSort uninterpLe
      = (((es.mergeSort ctxLe).filter keptBy).map f).mergeSort uninterpLe := by
  rw [List.flatMap_def, List.map_congr_left hF, ← List.map_flatten, ctxRuns_flatten, List.filter_map]
  congr 2
  exact List.filter_congr fun e _ => hkeep e

theorem initialOrder_us (interpUni : Bool) (n : Nat) (d : Disc) (es : List Emit) (hn : n ≠ 1) :
    (initialOrder interpUni n d es).1
      = (((es.mergeSort ctxLe).filter keptBy).map (specUninterp d es)).mergeSort uninterpLe := by
  have hn' : (n == 1) = false := by simpa using hn
  simp only [initialOrder, hn', Bool.false_eq_true, if_false]
  refine initialOrder_fst_of es _ _ (fun _ => rfl) fun r hr => ?_
  obtain ⟨_, hc, hp⟩ := runs_perm_group es r hr
  exact mergeRight_eq d es r _ hc hp

theorem initialOrder_us1 (interpUni : Bool) (d : Disc) (es : List Emit)
    (hctx : ∀ e ∈ es, e.gram.tail = []) :
    (initialOrder interpUni 1 d es).1
      = (((es.mergeSort ctxLe).filter keptBy).map (specUninterp1 interpUni d es)).mergeSort uninterpLe := by
  simp only [initialOrder, BEq.rfl, if_true]
  refine initialOrder_fst_of es _ _ (specUninterp1_keep interpUni d es) fun r hr => ?_
  obtain ⟨hne, _, hp⟩ := runs_perm_group es r hr
  obtain ⟨a, ha⟩ := List.exists_mem_of_ne_nil r hne
  have hr0 : runCtx r = [] := by
    rw [← hctx a ((mem_group.mp (hp.mem_iff.mp ha)).1)]
    exact ((ctxRuns_ok _).const r hr a ha).symm
  rw [hr0] at hp
  exact mergeRightUnigram_eq interpUni d es r hp

def stage3Of (c : Spec.Ctx) (k : Nat) : List Uninterp × List Gam :=
  initialOrder c.cfg.interpUni k (c.dAt k) (c.esAt k)

/-- the record stage 3 hands to stage 4 for `e`, in the terms of `Spec.Ctx` -/
def uninterpOf (c : Spec.Ctx) (e : Emit) : Uninterp :=
  ⟨e.gram, (c.uGamma e.gram).1, (c.uGamma e.gram).2, keptBy e⟩

theorem specUninterp_uninterpOf (c : Spec.Ctx) {n : Nat} (hn : n ≠ 1)
    (hnd : ((c.esAt n).map (·.gram)).Nodup) {e : Emit} (he : e ∈ c.esAt n) (hl : e.gram.length = n) :
    specUninterp (c.dAt n) (c.esAt n) e = uninterpOf c e := by
  unfold uninterpOf
  rw [uGamma_of_mem c hn hnd he hl]
  rfl

/-- at order 1 the raw count `MergeRight` reads is the count as soon as the record is unmarked,
which is only needed of the ordinary words -/
theorem specUninterp1_uninterpOf (c : Spec.Ctx) (hnd : ((c.esAt 1).map (·.gram)).Nodup) {e : Emit}
    (he : e ∈ c.esAt 1) (hl : e.gram.length = 1)
    (hm : e.gram ≠ [unk] → e.gram ≠ [bos] → e.marked = false) :
    specUninterp1 c.cfg.interpUni (c.dAt 1) (c.esAt 1) e = uninterpOf c e := by
  obtain ⟨w, hw⟩ := List.length_eq_one_iff.mp hl
  unfold uninterpOf specUninterp1
  rw [hw]
  by_cases hb : w = bos
  · subst hb
    simp [uGamma_bos, show bos ≠ unk by decide]
  · by_cases hu : w = unk
    · subst hu
      rw [uGamma_unk]
      cases c.cfg.interpUni <;> simp
    · have := hm (by simpa [hw] using hu) (by simpa [hw] using hb)
      rw [uGamma_word c hnd he hw hb hu]
      simp [hb, hu, rawCount_unmarked this]

theorem stage3Of_fst (c : Spec.Ctx) (n : Nat)
    (hlen : ∀ e ∈ c.esAt n, e.gram.length = n)
    (hnd : ((c.esAt n).map (·.gram)).Nodup)
    (hm : n = 1 → ∀ e ∈ c.esAt 1, keptBy e = true → e.gram ≠ [unk] → e.gram ≠ [bos] → e.marked = false) :
    (stage3Of c n).1
      = ((((c.esAt n).mergeSort ctxLe).filter keptBy).map (uninterpOf c)).mergeSort uninterpLe := by
  have hmem : ∀ e ∈ ((c.esAt n).mergeSort ctxLe).filter keptBy, e ∈ c.esAt n ∧ keptBy e = true :=
    fun e he => ⟨(List.mergeSort_perm _ ctxLe).mem_iff.mp (List.mem_filter.mp he).1,
      (List.mem_filter.mp he).2⟩
  unfold stage3Of
  by_cases hn : n = 1
  · subst hn
    rw [initialOrder_us1 _ _ _ fun e he =>
      List.eq_nil_of_length_eq_zero (by rw [List.length_tail, hlen e he])]
    congr 1
    exact List.map_congr_left fun e he =>
      specUninterp1_uninterpOf c hnd (hmem e he).1 (hlen e (hmem e he).1) (hm rfl e (hmem e he).1 (hmem e he).2)
  · rw [initialOrder_us _ _ _ _ hn]
    congr 1
    exact List.map_congr_left fun e he =>
      specUninterp_uninterpOf c hn hnd (hmem e he).1 (hlen e (hmem e he).1)


theorem mem_sorted_kept {β : Type} (es : List Emit) (f : Emit → β) (le : β → β → Bool) (x : β)
    (h : x ∈ (((es.mergeSort ctxLe).filter keptBy).map f).mergeSort le) :
    ∃ e ∈ es, keptBy e = true ∧ x = f e := by
  have h1 := (List.mergeSort_perm _ le).mem_iff.mp h
  rcases List.mem_map.mp h1 with ⟨e, he, hx⟩
  have he' := List.mem_filter.mp he
  exact ⟨e, (List.mergeSort_perm es ctxLe).mem_iff.mp he'.1, he'.2, hx.symm⟩

def exD : Disc := ⟨1/2, 1, 3/2⟩

def exEs : List Emit := [⟨[7, 5], 2, false⟩, ⟨[9, 6], 4, false⟩, ⟨[8, 5], 1, true⟩, ⟨[3, 5], 3, false⟩]

def exRun : List Emit := [⟨[3, 5], 3, false⟩, ⟨[7, 5], 2, false⟩, ⟨[8, 5], 1, true⟩]

example : exRun ≠ [] ∧ (∀ e ∈ exRun, e.gram.tail = [5]) ∧ exRun.Perm (Spec.group exEs [5]) := by
  decide

example : (addRight exD exRun).den = 6 := by decide

example : (addRight exD exRun).den = Spec.den exEs [5] ∧
    (addRight exD exRun).gamma = Spec.gamma exD exEs [5] ∧ (addRight exD exRun).ctx = [5] :=
  addRight_eq exD exEs exRun [5] (by decide) (by decide) (by decide)

example : mergeRight exD exRun = exRun.map (specUninterp exD exEs) :=
  mergeRight_eq exD exEs exRun [5] (by decide) (by decide)

example : ctxRuns (exRun ++ [⟨[9, 6], 4, false⟩]) = [exRun, [⟨[9, 6], 4, false⟩]] := by decide

example : (exRun ++ [(⟨[9, 6], 4, false⟩ : Emit)]).Pairwise
    (fun a b : Emit => a.gram.tail ≤ b.gram.tail) := by decide


def exUni : List Emit := [⟨[0], 0, false⟩, ⟨[1], 0, false⟩, ⟨[2], 3, false⟩, ⟨[5], 2, false⟩]

example : mergeRightUnigram true exD exUni = exUni.map (specUninterp1 true exD exUni) :=
  mergeRightUnigram_eq true exD exUni exUni (by decide)


end KV.KN.Interp
