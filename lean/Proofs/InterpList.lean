import Model.Interp
import Mathlib.Algebra.BigOperators.Ring.List
import Mathlib.Algebra.Field.Basic
import Mathlib.Tactic.Ring
import Mathlib.Data.List.Induction
/-!
List lemmas used by the interpolation proofs (C13): look-up in an indexed list, equality of lists through an injective map,
`filterMap` after a filter, membership in a `zip`, strict sortedness of `mergeSort` on a duplicate-free list of numbers,
`dedup`, and sums of a function over a list in a commutative ring (splitting off one element, splitting along a sublist).
-/
namespace KV.Interp

theorem getElem?_concat_of_ne {α : Type} (l : List α) (a : α) {i : Nat} (h : i ≠ l.length) :
    (l ++ [a])[i]? = l[i]? := by
  rcases Nat.lt_or_gt_of_ne h with h | h
  · exact List.getElem?_append_left h
  · rw [List.getElem?_eq_none (by rw [List.length_append, List.length_singleton]; omega),
      List.getElem?_eq_none (by omega)]

theorem lookup_filterMap_zipIdx {α β : Type} (f : α → Option β) (l : List α) (i : Nat) :
    (l.zipIdx.filterMap (fun pi => (f pi.1).map (fun b => (pi.2, b)))).lookup i = l[i]?.bind f := by
  induction l using List.reverseRecOn with
  | nil => rfl
  | append_singleton l a ih =>
    rw [List.zipIdx_append, List.filterMap_append, List.lookup_append, ih, Nat.zero_add]
    by_cases hi : i = l.length
    · subst hi
      rw [List.getElem?_eq_none (Nat.le_refl _), List.getElem?_concat_length]
      cases hf : f a <;> simp [hf]
    · have hb : (i == l.length) = false := beq_false_of_ne hi
      rw [getElem?_concat_of_ne l a hi]
      cases hf : f a <;> simp [List.lookup_cons, hf, hb]

theorem eq_of_map_eq_map {α β : Type} (k : α → β) : ∀ (l₁ l₂ : List α),
    (∀ a ∈ l₁, ∀ b ∈ l₂, k a = k b → a = b) → l₁.map k = l₂.map k → l₁ = l₂
  | [], [], _, _ => rfl
  | [], _ :: _, _, h => nomatch h
  | _ :: _, [], _, h => nomatch h
  | a :: l₁, b :: l₂, hk, h => by
    rw [List.map_cons, List.map_cons, List.cons.injEq] at h
    rw [hk a List.mem_cons_self b List.mem_cons_self h.1,
      eq_of_map_eq_map k l₁ l₂ (fun a ha b hb => hk a (List.mem_cons_of_mem _ ha) b (List.mem_cons_of_mem _ hb)) h.2]

theorem filterMap_filter_isSome {α β : Type} (f : α → Option β) (l : List α) :
    (l.filter (fun a => (f a).isSome)).filterMap f = l.filterMap f := by
  rw [List.filterMap_filter]
  exact List.filterMap_congr (fun a _ => by cases f a <;> rfl)

theorem exists_mem_zip_of_mem_right {α β : Type} : ∀ (l₁ : List α) (l₂ : List β) (b : β),
    l₁.length = l₂.length → b ∈ l₂ → ∃ a, (a, b) ∈ l₁.zip l₂
  | _, [], _, _, h => by simp at h
  | [], _ :: _, _, hl, _ => by simp at hl
  | a :: as, x :: xs, b, hl, h => by
    rcases List.mem_cons.1 h with rfl | h
    · exact ⟨a, by simp⟩
    · obtain ⟨a', ha'⟩ := exists_mem_zip_of_mem_right as xs b (by simpa using hl) h
      exact ⟨a', by simp [ha']⟩

theorem pairwise_lt_mergeSort (l : List Nat) (hnd : l.Nodup) :
    (l.mergeSort (fun a b => decide (a ≤ b))).Pairwise (· < ·) := by
  have hs : (l.mergeSort (fun a b => decide (a ≤ b))).Pairwise (fun a b => decide (a ≤ b) = true) :=
    List.pairwise_mergeSort (le := fun a b : Nat => decide (a ≤ b))
      (fun a b c h1 h2 => decide_eq_true (Nat.le_trans (of_decide_eq_true h1) (of_decide_eq_true h2)))
      (fun a b => by
        simp only [Bool.or_eq_true, decide_eq_true_eq]
        exact Nat.le_total a b) l
  have hnd' : (l.mergeSort (fun a b => decide (a ≤ b))).Nodup := (List.mergeSort_perm l _).nodup_iff.2 hnd
  exact (hs.and (List.nodup_iff_pairwise_ne.1 hnd')).imp
    (fun ⟨h1, h2⟩ => Nat.lt_of_le_of_ne (of_decide_eq_true h1) h2)

section Lists
variable {α : Type} [DecidableEq α]

theorem mem_dedup {a : α} : ∀ {l : List α}, a ∈ dedup l ↔ a ∈ l
  | [] => by simp [dedup]
  | x :: xs => by
    unfold dedup
    by_cases h : x ∈ xs
    · simp only [h, if_true, List.mem_cons]
      rw [mem_dedup (l := xs)]
      constructor
      · intro h'; exact Or.inr h'
      · rintro (rfl | h')
        · exact h
        · exact h'
    · simp only [h, if_false, List.mem_cons]
      rw [mem_dedup (l := xs)]

theorem nodup_dedup : ∀ (l : List α), (dedup l).Nodup
  | [] => by simp [dedup]
  | x :: xs => by
    unfold dedup
    by_cases h : x ∈ xs
    · simp only [h, if_true]; exact nodup_dedup xs
    · simp only [h, if_false]
      exact List.nodup_cons.2 ⟨fun h' => h (mem_dedup.1 h'), nodup_dedup xs⟩

end Lists

section Sums
variable {α : Type} [DecidableEq α] {F : Type} [CommRing F]

theorem sum_filter_ne (f : α → F) (b : α) :
    ∀ (V : List α), V.Nodup → b ∈ V →
      (V.map f).sum = f b + ((V.filter (fun w => decide (w ≠ b))).map f).sum
  | [], _, hb => by simp at hb
  | v :: vs, hV, hb => by
    have hnd := List.nodup_cons.1 hV
    by_cases hvb : v = b
    · subst hvb
      have : vs.filter (fun w => decide (w ≠ v)) = vs := by
        apply List.filter_eq_self.2
        intro a ha
        have : a ≠ v := fun h => hnd.1 (h ▸ ha)
        simpa using this
      have hfc : (v :: vs).filter (fun w => decide (w ≠ v)) = vs := by
        rw [List.filter_cons_of_neg (by simp), this]
      rw [hfc]
      simp
    · have hb' : b ∈ vs := by
        rcases List.mem_cons.1 hb with h | h
        · exact absurd h.symm hvb
        · exact h
      have ih := sum_filter_ne f b vs hnd.2 hb'
      simp only [List.map_cons, List.sum_cons, ih, List.filter_cons, ne_eq, hvb, not_false_eq_true,
        decide_true, if_true]
      ring

omit [DecidableEq α] in
theorem sum_map_filter_of_zero (f : α → F) (p : α → Bool) : ∀ V : List α,
    (∀ w ∈ V, p w = false → f w = 0) → (V.map f).sum = ((V.filter p).map f).sum
  | [], _ => rfl
  | v :: vs, h => by
    have ih := sum_map_filter_of_zero f p vs (fun w hw => h w (List.mem_cons_of_mem _ hw))
    cases hp : p v with
    | true =>
      rw [List.filter_cons_of_pos hp, List.map_cons, List.map_cons, List.sum_cons, List.sum_cons, ih]
    | false =>
      rw [List.filter_cons_of_neg (by rw [hp]; exact Bool.false_ne_true), List.map_cons, List.sum_cons,
        h v List.mem_cons_self hp, zero_add, ih]

theorem sum_split (g h : α → F) (V X : List α) (hV : V.Nodup) (hX : X.Nodup)
    (hsub : ∀ x ∈ X, x ∈ V) (hout : ∀ w ∈ V, w ∉ X → g w = h w) :
    (V.map g).sum = (V.map h).sum + (X.map (fun x => g x - h x)).sum := by
  have hperm : (V.filter (fun w => decide (w ∈ X))).Perm X := by
    apply (List.perm_ext_iff_of_nodup (hV.filter _) hX).2
    intro a
    rw [List.mem_filter, decide_eq_true_eq]
    exact ⟨fun h => h.2, fun h => ⟨hsub a h, h⟩⟩
  rw [List.map_congr_left (g := fun w => h w + (g w - h w)) (fun w _ => (add_sub_cancel (h w) (g w)).symm),
    List.sum_map_add, ← (hperm.map (fun x => g x - h x)).sum_eq]
  congr 1
  exact sum_map_filter_of_zero _ _ V
    (fun w hw hp => by rw [hout w hw (of_decide_eq_false hp), sub_self])

theorem sum_map_div_sum {β F : Type} [Field F] (a : β → F) (l : List β) (h : (l.map a).sum ≠ 0) :
    (l.map (fun w => a w / (l.map a).sum)).sum = 1 := by
  simp only [div_eq_mul_inv]
  rw [List.sum_map_mul_right]
  exact mul_inv_cancel₀ h

end Sums

end KV.Interp
