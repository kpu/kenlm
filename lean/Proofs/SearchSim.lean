import Model.Score
import Proofs.TrieLists
/-! Relations between searches.  `ResumeScore` is parametric in the values it copies: if every lookup the generic algorithm
performs returns, in two `Search` structures, records with the same marks and related values (`Q` for probability and
back-off, `Qr` for the rest cost), the two runs end in related loop states (`resume_rel`).  With equality this is refinement
(`fullScore_eq_of_rel`; `probing_refines` goes through `Sim` and `fullScore_sim`, `trie_refines` through `trie_sim`); with the
trivial relations it says that matched length, left-independence and the out-state's words depend on the marks only
(`StructEq`, what quantisation preserves). -/
namespace KV.Score
open KV.Arpa KV.Table KV.State

/-- two searches whose lookups at related nodes return equal records; `R d n₁ n₂`: the two nodes denote the same `d`-word
(reversed) n-gram prefix.  The middle orders are asked below the order only, the longest at depth `order - 1` -/
structure Sim {ν₁ ν₂ : Type} (S₁ : Search ν₁) (S₂ : Search ν₂) (R : Nat → ν₁ → ν₂ → Prop) : Prop where
  order : S₁.order = S₂.order
  uni : ∀ w, (S₁.lookupUnigram w).1 = (S₂.lookupUnigram w).1 ∧ R 1 (S₁.lookupUnigram w).2 (S₂.lookupUnigram w).2
  mid : ∀ om2 w n₁ n₂, om2 + 2 < S₁.order → R (om2 + 1) n₁ n₂ →
    (S₁.lookupMiddle om2 w n₁).1 = (S₂.lookupMiddle om2 w n₂).1 ∧
    ((S₁.lookupMiddle om2 w n₁).1 ≠ none → R (om2 + 2) (S₁.lookupMiddle om2 w n₁).2 (S₂.lookupMiddle om2 w n₂).2)
  long : ∀ w n₁ n₂, R (S₁.order - 1) n₁ n₂ → S₁.lookupLongest w n₁ = S₂.lookupLongest w n₂

/-- two lookup results with the same marks, `Q`-related probabilities and back-offs and `Qr`-related rest costs -/
structure FoundRel (Q Qr : Rat → Rat → Prop) (f g : Found) : Prop where
  prob : Q f.prob g.prob
  rest : Qr f.rest g.rest
  backoff : Q f.backoff g.backoff
  extendsRight : f.extendsRight = g.extendsRight
  independentLeft : f.independentLeft = g.independentLeft

/-- On words of `V` (`new_word < Bound()` is a precondition of the trie code) the lookups of the two searches return
`Q`-related results at `R`-related nodes.  `mid` is asked only where the loop calls `LookupMiddle` (`om2 ≠ order - 2`),
`long` at the depth where it calls `LookupLongest` (`resumeScore` tests `om2 == order - 2`, whatever the order: hence
`order - 2 + 1`, not `order - 1`); a bound on the depth, where an instance needs one, goes into `R` (`SimRel.of_eq`). -/
structure SimRel (Q Qr : Rat → Rat → Prop) (V : Word → Prop) {ν₁ ν₂ : Type} (S₁ : Search ν₁) (S₂ : Search ν₂)
    (R : Nat → ν₁ → ν₂ → Prop) : Prop where
  order : S₁.order = S₂.order
  uni : ∀ w, V w → FoundRel Q Qr (S₁.lookupUnigram w).1 (S₂.lookupUnigram w).1 ∧ R 1 (S₁.lookupUnigram w).2 (S₂.lookupUnigram w).2
  mid : ∀ om2 w n₁ n₂, V w → om2 ≠ S₁.order - 2 → R (om2 + 1) n₁ n₂ →
    Option.Rel (FoundRel Q Qr) (S₁.lookupMiddle om2 w n₁).1 (S₂.lookupMiddle om2 w n₂).1 ∧
    ((S₁.lookupMiddle om2 w n₁).1 ≠ none → R (om2 + 2) (S₁.lookupMiddle om2 w n₁).2 (S₂.lookupMiddle om2 w n₂).2)
  long : ∀ w n₁ n₂, V w → R (S₁.order - 2 + 1) n₁ n₂ →
    Option.Rel (fun p₁ p₂ => Q p₁ p₂ ∧ Qr p₁ p₂) (S₁.lookupLongest w n₁) (S₂.lookupLongest w n₂)

/-- what is observable in the loop state (the `extend_left` pointer is structure-specific): values `Q`-related, the back-offs
written `QL`-related, the rest equal -/
structure AccRel (Q Qr : Rat → Rat → Prop) (QL : List Rat → List Rat → Prop) {ν₁ ν₂ : Type} (a₁ : Acc ν₁) (a₂ : Acc ν₂) : Prop where
  prob : Q a₁.ret.prob a₂.ret.prob
  rest : Qr a₁.ret.rest a₂.ret.rest
  ngramLength : a₁.ret.ngramLength = a₂.ret.ngramLength
  independentLeft : a₁.ret.independentLeft = a₂.ret.independentLeft
  backoffOut : QL a₁.backoffOut a₂.backoffOut
  nextUse : a₁.nextUse = a₂.nextUse

section
variable {Q Qr : Rat → Rat → Prop} {QL : List Rat → List Rat → Prop}
  (snoc : ∀ l₁ l₂ b₁ b₂, QL l₁ l₂ → Q b₁ b₂ → QL (l₁ ++ [b₁]) (l₂ ++ [b₂]))
  {V : Word → Prop} {ν₁ ν₂ : Type} {S₁ : Search ν₁} {S₂ : Search ν₂} {R : Nat → ν₁ → ν₂ → Prop}
include snoc

theorem resume_rel (sim : SimRel Q Qr V S₁ S₂ R) :
    ∀ (hist : List Word) (om2 : Nat) (n₁ : ν₁) (n₂ : ν₂) (a₁ : Acc ν₁) (a₂ : Acc ν₂), (∀ x ∈ hist, V x) →
      R (om2 + 1) n₁ n₂ → AccRel Q Qr QL a₁ a₂ →
      AccRel Q Qr QL (resumeScore S₁ hist om2 n₁ a₁) (resumeScore S₂ hist om2 n₂ a₂) := by
  intro hist
  induction hist with
  | nil => intro om2 n₁ n₂ a₁ a₂ _ _ h; exact h
  | cons x rest ih =>
    intro om2 n₁ n₂ a₁ a₂ hV hR h
    have hx : V x := hV x List.mem_cons_self
    unfold resumeScore
    rw [← h.independentLeft, ← sim.order]
    by_cases hil : a₁.ret.independentLeft = true
    · rw [if_pos hil, if_pos hil]; exact h
    · rw [if_neg hil, if_neg hil]
      by_cases hlong : om2 = S₁.order - 2
      · rw [if_pos (beq_iff_eq.mpr hlong), if_pos (beq_iff_eq.mpr hlong)]
        have := sim.long x n₁ n₂ hx (hlong ▸ hR)
        generalize S₁.lookupLongest x n₁ = o₁ at this
        generalize S₂.lookupLongest x n₂ = o₂ at this
        cases this with
        | none => exact { h with independentLeft := rfl }
        | some hq => exact { h with prob := hq.1, rest := hq.2, ngramLength := rfl, independentLeft := rfl }
      · rw [if_neg (hlong ∘ beq_iff_eq.mp), if_neg (hlong ∘ beq_iff_eq.mp)]
        obtain ⟨hm, hRn⟩ := sim.mid om2 x n₁ n₂ hx hlong hR
        generalize S₁.lookupMiddle om2 x n₁ = r₁ at hm hRn
        generalize S₂.lookupMiddle om2 x n₂ = r₂ at hm hRn
        obtain ⟨f₁, m₁⟩ := r₁
        obtain ⟨f₂, m₂⟩ := r₂
        cases hm with
        | none => exact { h with independentLeft := rfl }
        | some hf =>
          exact ih (om2 + 1) m₁ m₂ _ _ (fun y hy => hV y (List.mem_cons_of_mem _ hy)) (hRn (Option.some_ne_none _))
            { prob := hf.prob, rest := hf.rest, ngramLength := rfl, independentLeft := hf.independentLeft,
              backoffOut := snoc _ _ _ _ h.backoffOut hf.backoff, nextUse := by rw [hf.extendsRight, h.nextUse] }

end

/-- the loop state `ScoreExceptBackoff` ends in -/
def finalAcc {ν : Type} (S : Search ν) (ctx : List Word) (w : Word) : Acc ν :=
  resumeScore S ctx 0 (S.lookupUnigram w).2
    { ret := { prob := (S.lookupUnigram w).1.prob, rest := (S.lookupUnigram w).1.rest, ngramLength := 1,
               independentLeft := (S.lookupUnigram w).1.independentLeft, extendLeft := (S.lookupUnigram w).2 },
      backoffOut := [(S.lookupUnigram w).1.backoff], nextUse := if (S.lookupUnigram w).1.extendsRight then 1 else 0 }

theorem fullScore_eq {ν : Type} (S : Search ν) (s : State) (w : Word) :
    fullScore S s w =
      ({ (finalAcc S (s.words.take s.length) w).ret with
          prob := (finalAcc S (s.words.take s.length) w).ret.prob +
            ((s.backoff.take s.length).drop ((finalAcc S (s.words.take s.length) w).ret.ngramLength - 1)).sum },
       { length := (finalAcc S (s.words.take s.length) w).nextUse,
         words := w :: (s.words.take s.length).take ((finalAcc S (s.words.take s.length) w).nextUse - 1),
         backoff := (finalAcc S (s.words.take s.length) w).backoffOut }) := rfl

theorem finalAcc_rel {Q Qr : Rat → Rat → Prop} {QL : List Rat → List Rat → Prop}
    (snoc : ∀ l₁ l₂ b₁ b₂, QL l₁ l₂ → Q b₁ b₂ → QL (l₁ ++ [b₁]) (l₂ ++ [b₂])) (nil : QL [] [])
    {V : Word → Prop} {ν₁ ν₂ : Type} {S₁ : Search ν₁} {S₂ : Search ν₂} {R : Nat → ν₁ → ν₂ → Prop} (sim : SimRel Q Qr V S₁ S₂ R)
    (ctx : List Word) (w : Word) (hw : V w) (hc : ∀ x ∈ ctx, V x) : AccRel Q Qr QL (finalAcc S₁ ctx w) (finalAcc S₂ ctx w) := by
  obtain ⟨hf, hR⟩ := sim.uni w hw
  exact resume_rel snoc sim ctx 0 _ _ _ _ hc hR
    { prob := hf.prob, rest := hf.rest, ngramLength := rfl, independentLeft := hf.independentLeft,
      backoffOut := snoc [] [] _ _ nil hf.backoff, nextUse := by rw [hf.extendsRight] }

theorem FoundRel.of_eq {f g : Found} (h : f = g) : FoundRel Eq Eq f g := h ▸ ⟨rfl, rfl, rfl, rfl, rfl⟩

/-- from the guarded form that `Sim` states and the proof of `trie_sim` supplies: equal records on words of `V`, the middle orders asked below
the order only, the longest at depth `order - 1`.  The bound goes into the node relation. -/
theorem SimRel.of_eq {V : Word → Prop} {ν₁ ν₂ : Type} {S₁ : Search ν₁} {S₂ : Search ν₂} {R : Nat → ν₁ → ν₂ → Prop}
    (order : S₁.order = S₂.order) (hN : 2 ≤ S₁.order)
    (uni : ∀ w, V w → (S₁.lookupUnigram w).1 = (S₂.lookupUnigram w).1 ∧ R 1 (S₁.lookupUnigram w).2 (S₂.lookupUnigram w).2)
    (mid : ∀ om2 w n₁ n₂, V w → om2 + 2 < S₁.order → R (om2 + 1) n₁ n₂ →
      (S₁.lookupMiddle om2 w n₁).1 = (S₂.lookupMiddle om2 w n₂).1 ∧
      ((S₁.lookupMiddle om2 w n₁).1 ≠ none → R (om2 + 2) (S₁.lookupMiddle om2 w n₁).2 (S₂.lookupMiddle om2 w n₂).2))
    (long : ∀ w n₁ n₂, V w → R (S₁.order - 1) n₁ n₂ → S₁.lookupLongest w n₁ = S₂.lookupLongest w n₂) :
    SimRel Eq Eq V S₁ S₂ (fun d n₁ n₂ => d + 1 ≤ S₁.order ∧ R d n₁ n₂) := by
  refine ⟨order, fun w hw => ⟨.of_eq (uni w hw).1, hN, (uni w hw).2⟩, fun om2 w n₁ n₂ hw ho hR => ?_, fun w n₁ n₂ hw hR => ?_⟩
  · have hlt : om2 + 2 < S₁.order := Nat.lt_of_le_of_ne hR.1 (by omega)
    obtain ⟨he, hn⟩ := mid om2 w n₁ n₂ hw hlt hR.2
    exact ⟨rel_of_eq (fun _ => .of_eq rfl) he, fun h => ⟨hlt, hn h⟩⟩
  · exact rel_of_eq (fun _ => ⟨rfl, rfl⟩) (long w n₁ n₂ hw (by rw [← Nat.sub_add_cancel hN]; exact hR.2))

theorem Sim.rel {ν₁ ν₂ : Type} {S₁ : Search ν₁} {S₂ : Search ν₂} {R : Nat → ν₁ → ν₂ → Prop} (sim : Sim S₁ S₂ R)
    (hN : 2 ≤ S₁.order) : SimRel Eq Eq (fun _ => True) S₁ S₂ (fun d n₁ n₂ => d + 1 ≤ S₁.order ∧ R d n₁ n₂) :=
  .of_eq sim.order hN (fun w _ => sim.uni w) (fun om2 w n₁ n₂ _ => sim.mid om2 w n₁ n₂) (fun w n₁ n₂ _ => sim.long w n₁ n₂)

theorem eq_snoc (l₁ l₂ : List Rat) (b₁ b₂ : Rat) (hl : l₁ = l₂) (hb : b₁ = b₂) : l₁ ++ [b₁] = l₂ ++ [b₂] := by rw [hl, hb]

theorem length_snoc {Q : Rat → Rat → Prop} (l₁ l₂ : List Rat) (b₁ b₂ : Rat) (h : l₁.length = l₂.length) (_ : Q b₁ b₂) :
    (l₁ ++ [b₁]).length = (l₂ ++ [b₂]).length := by
  rw [List.length_append, List.length_append, h]; rfl

theorem fullScore_eq_of_rel {V : Word → Prop} {ν₁ ν₂ : Type} {S₁ : Search ν₁} {S₂ : Search ν₂} {R : Nat → ν₁ → ν₂ → Prop}
    (sim : SimRel Eq Eq V S₁ S₂ R) (s : State) (w : Word) (hw : V w) (hs : ∀ x ∈ s.words.take s.length, V x) :
    (fullScore S₁ s w).1.prob = (fullScore S₂ s w).1.prob ∧
    (fullScore S₁ s w).1.ngramLength = (fullScore S₂ s w).1.ngramLength ∧
    (fullScore S₁ s w).1.independentLeft = (fullScore S₂ s w).1.independentLeft ∧
    (fullScore S₁ s w).1.rest = (fullScore S₂ s w).1.rest ∧
    (fullScore S₁ s w).2 = (fullScore S₂ s w).2 := by
  have k := finalAcc_rel eq_snoc rfl sim _ w hw hs
  simp only [fullScore_eq]
  exact ⟨by rw [k.prob, k.ngramLength], k.ngramLength, k.independentLeft, k.rest, by rw [k.backoffOut, k.nextUse]⟩

theorem fullScore_sim {ν₁ ν₂ : Type} (S₁ : Search ν₁) (S₂ : Search ν₂) (R : Nat → ν₁ → ν₂ → Prop) (sim : Sim S₁ S₂ R)
    (hN : 2 ≤ S₁.order) (s : State) (w : Word) :
    (fullScore S₁ s w).1.prob = (fullScore S₂ s w).1.prob ∧
    (fullScore S₁ s w).1.ngramLength = (fullScore S₂ s w).1.ngramLength ∧
    (fullScore S₁ s w).1.independentLeft = (fullScore S₂ s w).1.independentLeft ∧
    (fullScore S₁ s w).1.rest = (fullScore S₂ s w).1.rest ∧
    (fullScore S₁ s w).2 = (fullScore S₂ s w).2 :=
  fullScore_eq_of_rel (sim.rel hN) s w trivial (fun _ _ => trivial)

/-- two tables of the same order whose lookups agree key by key: both miss, or both hit with `R`-related entries -/
structure TableRel (R : TEntry → TEntry → Prop) (T₁ T₂ : Table) : Prop where
  order : T₁.order = T₂.order
  rel : ∀ g, Option.Rel R (T₁.lookup g) (T₂.lookup g)

theorem tableRel_iff {R : TEntry → TEntry → Prop} {T₁ T₂ : Table} :
    TableRel R T₁ T₂ ↔ T₁.order = T₂.order ∧ ∀ g, Option.Rel R (T₁.lookup g) (T₂.lookup g) :=
  ⟨fun h => ⟨h.order, h.rel⟩, fun h => ⟨h.1, h.2⟩⟩

section
variable {R : TEntry → TEntry → Prop} {T₁ T₂ : Table} (h : TableRel R T₁ T₂) (g : List Word)
include h

theorem TableRel.ne_none : T₂.lookup g ≠ none → T₁.lookup g ≠ none := rel_ne_none (h.rel g)

theorem TableRel.some (t₁ : TEntry) (h1 : T₁.lookup g = some t₁) : ∃ t₂, T₂.lookup g = some t₂ ∧ R t₁ t₂ :=
  rel_some (h1 ▸ h.rel g)

end

theorem TableRel.search {Q Qr : Rat → Rat → Prop} {T₁ T₂ : Table} (h0 : Q 0 0) (hr : Qr 0 0)
    (h : TableRel (fun t₁ t₂ => FoundRel Q Qr (toFound t₁) (toFound t₂)) T₁ T₂) :
    SimRel Q Qr (fun _ => True) (tableSearch T₁) (tableSearch T₂) (fun _ n₁ n₂ => n₁ = n₂) := by
  refine ⟨h.order, fun w _ => ⟨?_, rfl⟩, ?_, ?_⟩
  · have k := h.rel [w]
    show FoundRel Q Qr (match T₁.lookup [w] with | Option.some t => toFound t | Option.none => _)
      (match T₂.lookup [w] with | Option.some t => toFound t | Option.none => _)
    generalize T₁.lookup [w] = o₁ at k
    generalize T₂.lookup [w] = o₂ at k
    cases k with
    | none => exact { prob := h0, rest := hr, backoff := h0, extendsRight := rfl, independentLeft := rfl }
    | some k => exact k
  · rintro om2 w n _ _ _ rfl
    exact ⟨rel_map (h.rel _) fun _ _ k => k, fun _ => rfl⟩
  · rintro w n _ _ rfl
    exact rel_map (h.rel _) fun _ _ k => ⟨k.prob, k.rest⟩

theorem TableRel.mono {R R' : TEntry → TEntry → Prop} {T₁ T₂ : Table} (h : TableRel R T₁ T₂) (hR : ∀ t₁ t₂, R t₁ t₂ → R' t₁ t₂) :
    TableRel R' T₁ T₂ :=
  ⟨h.order, fun g => rel_imp (h.rel g) hR⟩

end KV.Score

namespace KV.C03Trie
open KV.Table KV.Score

/-- two tables with the same keys and the same extension marks (what quantisation preserves: values change to bin centres,
the reserved back-off codes keep "extends right", child ranges keep "extends left") -/
def StructEq (T₁ T₂ : Table) : Prop :=
  T₁.order = T₂.order ∧ ∀ g, match T₁.lookup g, T₂.lookup g with
    | some t₁, some t₂ => t₁.extendsLeft = t₂.extendsLeft ∧ t₁.extendsRight = t₂.extendsRight
    | none, none => True
    | _, _ => False

theorem structEq_iff {T₁ T₂ : Table} : StructEq T₁ T₂ ↔
    TableRel (fun t₁ t₂ => t₁.extendsLeft = t₂.extendsLeft ∧ t₁.extendsRight = t₂.extendsRight) T₁ T₂ := by
  refine (and_congr_right fun _ => forall_congr' fun g => ?_).trans tableRel_iff.symm
  cases T₁.lookup g <;> cases T₂.lookup g <;> simp

theorem StructEq.rel {T₁ T₂ : Table} (h : StructEq T₁ T₂) :
    SimRel (fun _ _ => True) (fun _ _ => True) (fun _ => True) (tableSearch T₁) (tableSearch T₂) (fun _ n₁ n₂ => n₁ = n₂) :=
  ((structEq_iff.1 h).mono fun _ _ k =>
    { prob := trivial, rest := trivial, backoff := trivial, extendsRight := k.2, independentLeft := congrArg (!·) k.1 }).search
    trivial trivial

end KV.C03Trie
