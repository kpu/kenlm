import Proofs.KNCorpusGrams
import Proofs.KNWritten
/-!
The clauses of C05/C06 about the model estimated from a corpus, each the table-level clause
(`Proofs/KNWritten.lean`, `Proofs/KNProb.lean`) with `estimate_corpus`, for every order ≥ 1: what is
written (`written_set_corpus`; in words instead of windows at order 1, `written_set_corpus1`), the
header counts, closure, the special unigrams.  `written_set_corpus_nopruning`,
`header_counts_corpus_get`, `prob_le_one_corpus1` (which states `0 ≤ p ≤ 1 ∧ 0 ≤ bo`) are stated for
their own sake; nothing uses them.
-/
namespace KV.KN.Norm

open KV.KN KV.KN.Spec

/-- What is written, on the corpus (last clause of C05), for every order ≥ 1: an n-gram has an
entry in the estimated model iff it is `<unk>`, `<s>` or an n-gram of the `<s>`/`</s>`-delimited
sentences (other than the bare `<s>`), of order at most `N`, and is not pruned — where pruned means:
not a special unigram, and true count at or below the threshold of its order or an excluded word
(`pruned_eq_false_iff`; the true count is `trueCount_padded1`). -/
theorem written_set_corpus (cfg : Cfg) (pv : Bool) (fallback : Option Disc)
    (corpus : List (List Word)) (m : Model) (hm : Spec.estimate cfg pv fallback corpus = .ok m)
    (h1 : 1 ≤ cfg.order) (hne : corpus ≠ []) (hw : ∀ s ∈ corpus, ∀ w ∈ s, 3 ≤ w)
    (hthr : ∀ i, i < cfg.order - 1 → cfg.thr i ≤ cfg.thr (i + 1)) (g : Gram) :
    (Query.lookup m.orders g).isSome = true ↔
      1 ≤ g.length ∧ g.length ≤ cfg.order ∧
      ((g.length = 1 ∧ (g = [unk] ∨ g = [bos])) ∨
        ((∃ s ∈ corpus, g ∈ windows g.length (padded1 s)) ∧ g ≠ [bos])) ∧
      Spec.pruned cfg (countFull cfg.order corpus) g = false := by
  obtain ⟨hW, hm⟩ := estimate_corpus hm h1 hne hw hthr
  obtain ⟨discs, _, ho⟩ := estimateFrom_orders cfg fallback _ m hm
  rw [ho, written_iff hW discs g]
  exact and_congr_right fun h1 => and_congr_right fun hn =>
    and_congr_left' (ngram_set_ents cfg corpus hw g.length h1 hn g)

theorem written_set_corpus_nopruning (cfg : Cfg) (pv : Bool) (fallback : Option Disc)
    (corpus : List (List Word)) (m : Model) (hm : Spec.estimate cfg pv fallback corpus = .ok m)
    (h2 : 2 ≤ cfg.order) (hne : corpus ≠ []) (hw : ∀ s ∈ corpus, ∀ w ∈ s, 3 ≤ w)
    (hthr0 : ∀ i, cfg.thr i = 0) (hex : ∀ w, cfg.excl w = false) (g : Gram) :
    (Query.lookup m.orders g).isSome = true ↔
      1 ≤ g.length ∧ g.length ≤ cfg.order ∧
      ((g.length = 1 ∧ (g = [unk] ∨ g = [bos])) ∨
        ((∃ s ∈ corpus, g ∈ windows g.length (padded1 s)) ∧ g ≠ [bos])) := by
  obtain ⟨hW, hm⟩ := estimate_corpus hm (Nat.le_of_succ_le h2) hne hw fun i _ => by rw [hthr0, hthr0]
  obtain ⟨discs, _, ho⟩ := estimateFrom_orders cfg fallback _ m hm
  rw [ho, written_iff_nopruning hW hthr0 hex discs g]
  exact and_congr_right fun h1 => and_congr_right fun hn =>
    ngram_set_ents cfg corpus hw g.length h1 hn g

theorem header_counts_corpus (cfg : Cfg) (pv : Bool) (fallback : Option Disc)
    (corpus : List (List Word)) (m : Model) (hm : Spec.estimate cfg pv fallback corpus = .ok m)
    (h1 : 1 ≤ cfg.order) (hne : corpus ≠ []) (hw : ∀ s ∈ corpus, ∀ w ∈ s, 3 ≤ w)
    (hthr : ∀ i, i < cfg.order - 1 → cfg.thr i ≤ cfg.thr (i + 1)) :
    m.header = m.orders.map List.length :=
  have ⟨hW, hm⟩ := estimate_corpus hm h1 hne hw hthr
  header_counts_table cfg fallback _ m hm hW

theorem header_counts_corpus_get (cfg : Cfg) (pv : Bool) (fallback : Option Disc)
    (corpus : List (List Word)) (m : Model) (hm : Spec.estimate cfg pv fallback corpus = .ok m)
    (h2 : 2 ≤ cfg.order) (hne : corpus ≠ []) (hw : ∀ s ∈ corpus, ∀ w ∈ s, 3 ≤ w)
    (hthr : ∀ i, i < cfg.order - 1 → cfg.thr i ≤ cfg.thr (i + 1)) (i : Nat) :
    m.header[i]? = (m.orders[i]?).map List.length := by
  rw [header_counts_corpus cfg pv fallback corpus m hm (Nat.le_of_succ_le h2) hne hw hthr,
    List.getElem?_map]

theorem closed_corpus (cfg : Cfg) (pv : Bool) (fallback : Option Disc) (corpus : List (List Word))
    (m : Model) (hm : Spec.estimate cfg pv fallback corpus = .ok m) (h2 : 2 ≤ cfg.order)
    (hne : corpus ≠ []) (hw : ∀ s ∈ corpus, ∀ w ∈ s, 3 ≤ w)
    (hthr : ∀ i, i < cfg.order - 1 → cfg.thr i ≤ cfg.thr (i + 1)) (g : Gram) (hg : 2 ≤ g.length)
    (hin : (Query.lookup m.orders g).isSome = true) :
    (Query.lookup m.orders g.tail).isSome = true ∧ (Query.lookup m.orders g.dropLast).isSome = true := by
  obtain ⟨hW, hm⟩ := estimate_corpus hm (Nat.le_of_succ_le h2) hne hw hthr
  obtain ⟨discs, _, ho⟩ := estimateFrom_orders cfg fallback _ m hm
  rw [ho] at hin ⊢
  exact closed_tableOK (tableOK_of_wf hW discs) g hg hin

theorem eos_window {s : List Word} : [eos] ∈ windows 1 (padded1 s) := by
  have := window_mem (n := 1) (Nat.le_refl 1) (l := padded1 s) (s.length + 1)
    (by rw [padded1_length])
  have hd : (padded1 s).drop (s.length + 1) = [eos] := by
    unfold padded1
    exact List.drop_left' (by simp)
  rw [hd] at this
  simpa using this

theorem specials_corpus (cfg : Cfg) (pv : Bool) (fallback : Option Disc) (corpus : List (List Word))
    (m : Model) (hm : Spec.estimate cfg pv fallback corpus = .ok m) (h1 : 1 ≤ cfg.order)
    (hne : corpus ≠ []) (hw : ∀ s ∈ corpus, ∀ w ∈ s, 3 ≤ w)
    (hthr : ∀ i, i < cfg.order - 1 → cfg.thr i ≤ cfg.thr (i + 1)) :
    (Query.lookup m.orders [unk]).isSome = true ∧ (Query.lookup m.orders [bos]).isSome = true ∧
      (Query.lookup m.orders [eos]).isSome = true := by
  have hW := fun g => written_set_corpus cfg pv fallback corpus m hm h1 hne hw hthr g
  obtain ⟨s, hs⟩ := List.exists_mem_of_ne_nil corpus hne
  refine ⟨(hW [unk]).mpr ?_, (hW [bos]).mpr ?_, (hW [eos]).mpr ?_⟩
  · exact ⟨Nat.le_refl 1, h1, Or.inl ⟨rfl, Or.inl rfl⟩, pruned_special rfl⟩
  · exact ⟨Nat.le_refl 1, h1, Or.inl ⟨rfl, Or.inr rfl⟩, pruned_special rfl⟩
  · exact ⟨Nat.le_refl 1, h1, Or.inr ⟨⟨s, hs, eos_window⟩, by decide⟩, pruned_special rfl⟩

theorem written_set_corpus1 (cfg : Cfg) (pv : Bool) (fallback : Option Disc) (corpus : List (List Word))
    (m : Model) (hm : Spec.estimate cfg pv fallback corpus = .ok m) (h1 : cfg.order = 1)
    (hne : corpus ≠ []) (hw : ∀ s ∈ corpus, ∀ w ∈ s, 3 ≤ w) (g : Gram) :
    (Query.lookup m.orders g).isSome = true ↔
      g = [unk] ∨ g = [bos] ∨
        ∃ w, g = [w] ∧ ((∃ s ∈ corpus, w ∈ s) ∨ w = eos) ∧
          (w = eos ∨ (cfg.thr 0 < (occurrences 1 corpus).count [w] ∧ cfg.excl w = false)) := by
  rw [written_set_corpus cfg pv fallback corpus m hm (Nat.le_of_eq h1.symm) hne hw
    (thr_mono_of_order1 h1) g, h1]
  -- a unigram that is a word of the corpus is not special, so "not pruned" is about its count
  have hword : ∀ w, (∃ s ∈ corpus, w ∈ s) → (pruned cfg (countFull 1 corpus) [w] = false ↔
      cfg.thr 0 < (occurrences 1 corpus).count [w] ∧ cfg.excl w = false) := by
    rintro w ⟨s, hs, hws⟩
    have h3 := hw s hs w hws
    rw [pruned_eq_false_iff, trueCount_occurrences corpus (k := [w]) (Nat.le_refl 1) (Nat.le_refl 1)]
    simp only [List.cons.injEq, and_true, List.mem_singleton, forall_eq]
    refine or_iff_right ?_
    rintro (h | h | h) <;> exact absurd (h ▸ h3) (by decide)
  constructor
  · rintro ⟨hl1, hl2, hmem, hp⟩
    obtain ⟨w, rfl⟩ := List.length_eq_one_iff.mp (Nat.le_antisymm hl2 hl1)
    rcases hmem with ⟨_, h⟩ | ⟨⟨s, hs, hwin⟩, hb⟩
    · exact h.elim Or.inl fun h => Or.inr (Or.inl h)
    · obtain ⟨w', hw', e⟩ := mem_windows_one.mp hwin
      cases e
      have hmem : w ∈ s ∨ w = eos := by
        rcases List.mem_cons.mp hw' with rfl | h
        · exact absurd rfl hb
        · simpa using h
      refine Or.inr (Or.inr ⟨w, rfl, hmem.imp_left fun h => ⟨s, hs, h⟩, ?_⟩)
      exact hmem.symm.imp_right fun h => (hword w ⟨s, hs, h⟩).mp hp
  · rintro (rfl | rfl | ⟨w, rfl, hmem, hk⟩)
    · exact ⟨Nat.le_refl 1, Nat.le_refl 1, Or.inl ⟨rfl, Or.inl rfl⟩, pruned_special rfl⟩
    · exact ⟨Nat.le_refl 1, Nat.le_refl 1, Or.inl ⟨rfl, Or.inr rfl⟩, pruned_special rfl⟩
    · refine ⟨Nat.le_refl 1, Nat.le_refl 1, Or.inr ?_, ?_⟩
      · rcases hmem with ⟨s, hs, hws⟩ | rfl
        · refine ⟨⟨s, hs, mem_windows_one.mpr ⟨w, ?_, rfl⟩⟩, fun h => ?_⟩
          · exact List.mem_cons_of_mem _ (List.mem_append_left _ hws)
          · cases h; exact absurd (hw s hs _ hws) (by decide)
        · obtain ⟨s, hs⟩ := List.exists_mem_of_ne_nil corpus hne
          exact ⟨⟨s, hs, eos_window⟩, by decide⟩
      · rcases hk with rfl | hk
        · exact pruned_special rfl
        · rcases hmem with h | rfl
          · exact (hword w h).mpr hk
          · exact pruned_special rfl

theorem prob_le_one_corpus1 (cfg : Cfg) (pv : Bool) (fallback : Option Disc) (corpus : List (List Word))
    (m : Model) (hm : Spec.estimate cfg pv fallback corpus = .ok m) (h1 : cfg.order = 1)
    (hne : corpus ≠ []) (hw : ∀ s ∈ corpus, ∀ w ∈ s, 3 ≤ w)
    (hfb : ∀ f, fallback = some f → DiscOK f) :
    ∀ l ∈ m.orders, ∀ e ∈ l, 0 ≤ e.p ∧ e.p ≤ 1 ∧ 0 ≤ e.bo :=
  have ⟨hW, hm⟩ := estimate_corpus hm (Nat.le_of_eq h1.symm) hne hw (thr_mono_of_order1 h1)
  entry_bounds_table cfg fallback _ m hm hfb hW

end KV.KN.Norm
