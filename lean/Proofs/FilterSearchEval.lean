import Proofs.FilterSearchLB
/-!
The `Evaluate` loops of `phrase::Union` / `phrase::Multiple` on top of `KV.Filter.lowerBound_spec`:
union answers "is some sentence accepted at the last vertex", multiple enumerates exactly the
accepted sentences, increasing.
-/
namespace KV.Filter

variable {arcs : List PArc}

theorem acc_le_max {v s : Nat} (h : PAcc arcs v s) : s ≤ maxSent arcs := by
  obtain ⟨a, ha, _, hv⟩ := acc_iff_valid.mp h
  exact le_maxElem (List.mem_map.mpr ⟨a, ha, rfl⟩) hv.1

/-- Fuel: `lower` only grows, through values that `vertexLB` returned (`≤ maxSent arcs`) or their successors, one call
of `vertexLB` each; one more call finds nothing above `maxSent arcs + 1`.  Hence `maxSent arcs + 2`. -/
theorem multiEval_spec (hw : WFG arcs) (last fuel lower : Nat) (σ : PState) (L : Nat) (hg : Good arcs σ L)
    (hl : L ≤ lower) (hf : maxSent arcs + 2 ≤ fuel + lower) :
      (∀ s, s ∈ multiEval false arcs last fuel lower σ ↔ lower ≤ s ∧ PAcc arcs last s) ∧
      Inc (multiEval false arcs last fuel lower σ) := by
  have hlb := lowerBound_spec hw (last + 1) last (Nat.lt_succ_self _)
  fun_induction multiEval false arcs last fuel lower σ generalizing L with
  | case1 lower σ =>
    exact ⟨fun s => ⟨nofun, fun ⟨h1, h2⟩ => by have := acc_le_max h2; omega⟩, List.Pairwise.nil⟩
  | case2 f lower σ σ' hr =>
    obtain ⟨-, -, hres⟩ := hlb σ L lower hg hl
    rw [hr] at hres
    exact ⟨fun s => ⟨nofun, fun ⟨h1, h2⟩ => absurd h2 (hres s h1)⟩, List.Pairwise.nil⟩
  | case3 f σ c σ' hr ih =>
    -- `lower` is accepted; go on above it
    obtain ⟨hg', -, hres⟩ := hlb σ L c hg hl
    rw [hr] at hg' hres
    have hacc := hres.2.1 rfl
    have hmax := acc_le_max hacc
    obtain ⟨i1, i2⟩ := ih c hg' (Nat.le_succ c) (by omega)
    refine ⟨fun s => ?_, List.pairwise_cons.mpr ⟨fun x hx => ((i1 x).mp hx).1, i2⟩⟩
    rw [List.mem_cons, i1 s]
    constructor
    · rintro (rfl | ⟨h1, h2⟩)
      · exact ⟨Nat.le_refl _, hacc⟩
      · exact ⟨Nat.le_of_succ_le h1, h2⟩
    · rintro ⟨h1, h2⟩
      rcases Nat.eq_or_lt_of_le h1 with rfl | h
      · exact Or.inl rfl
      · exact Or.inr ⟨h, h2⟩
  | case4 f lower σ c σ' hr hc ih =>
    -- nothing in `[lower, c)` is accepted; go on from `c`
    obtain ⟨hg', -, hres⟩ := hlb σ L lower hg hl
    rw [hr] at hg' hres
    obtain ⟨hge, -, hno, hb⟩ := hres
    have hcm : c ≤ maxSent arcs := hb.resolve_left hc
    obtain ⟨i1, i2⟩ := ih lower hg' hge (by omega)
    refine ⟨fun s => ?_, i2⟩
    rw [i1 s]
    exact ⟨fun ⟨h1, h2⟩ => ⟨Nat.le_trans hge h1, h2⟩, fun ⟨h1, h2⟩ => ⟨Nat.not_lt.mp fun h => hno s h1 h h2, h2⟩⟩
theorem unionEval_eq (mutant : Bool) (arcs : List PArc) (last fuel lower : Nat) (σ : PState) :
    unionEval mutant arcs last fuel lower σ = !(multiEval mutant arcs last fuel lower σ).isEmpty := by
  fun_induction multiEval mutant arcs last fuel lower σ with
  | case1 => rfl
  | case2 f lower σ σ' hr => rw [unionEval, hr]; rfl
  | case3 f σ c σ' hr ih => rw [unionEval, hr]; exact if_pos rfl
  | case4 f lower σ c σ' hr hc ih => rw [unionEval, hr]; exact (if_neg hc).trans ih

theorem multiEval_correct (hw : WFG arcs) (last : Nat) :
    (∀ s, s ∈ multiEval false arcs last (maxSent arcs + 2) 0 (initState arcs) ↔ PAcc arcs last s) ∧
    Inc (multiEval false arcs last (maxSent arcs + 2) 0 (initState arcs)) := by
  obtain ⟨h1, h2⟩ := multiEval_spec hw last (maxSent arcs + 2) 0 (initState arcs) 0 good_init (Nat.le_refl _) (Nat.le_refl _)
  exact ⟨fun s => (h1 s).trans (and_iff_right (Nat.zero_le s)), h2⟩

theorem unionEval_correct (hw : WFG arcs) (last : Nat) :
    unionEval false arcs last (maxSent arcs + 2) 0 (initState arcs) = true ↔ ∃ s, PAcc arcs last s := by
  rw [unionEval_eq, Bool.not_eq_true', List.isEmpty_eq_false_iff_exists_mem]
  exact exists_congr (multiEval_correct hw last).1

end KV.Filter
