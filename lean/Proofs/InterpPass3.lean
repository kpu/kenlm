import Proofs.InterpSorted
/-!
The back-off stream of pass 2 (`BackoffManager` skip records + `SameContext` records) and the zip
of pass 3: per order, the back-off records come out in `SuffixOrder` and cover exactly the union
n-grams that `hasBackoffRecord` (`backoffStream_eq`); so `ReunifyBackoff` pairs every probability
with *its* back-off iff no n-gram is `stuck`, and otherwise the streams differ in length (the throw
of finding K): `C13.pass3_zip`.
-/
namespace KV.Interp

theorem enterQ_of_gt (c : List Nat) : ∀ Q : List (List Nat), (∀ g ∈ Q, sufLt c g = true) →
    enterQ Q c = ([], Q)
  | [], _ => rfl
  | q :: Q, h => by
    have hq := h q List.mem_cons_self
    have hlt := sufLt_asymm hq
    unfold enterQ
    rw [List.takeWhile_cons_of_neg (p := fun g => sufLt g c) hlt,
      List.dropWhile_cons_of_neg (p := fun g => sufLt g c) hlt,
      List.dropWhile_cons_of_neg (p := fun g => g == c) (by rw [beq_iff_eq]; exact (sufLt_ne hq).symm)]

theorem enterQ_eq_filter (c : List Nat) : ∀ Q : List (List Nat), SufSorted Q →
    enterQ Q c = (Q.filter (fun g => sufLt g c), Q.filter (fun g => sufLt c g))
  | [], _ => rfl
  | q :: Q, hQ => by
    obtain ⟨hq, hQ'⟩ := List.pairwise_cons.1 hQ
    have hnil : ∀ {L : List (List Nat)}, (∀ g ∈ L, sufLt c g = true) →
        L.filter (fun g => sufLt g c) = [] := fun h =>
      List.filter_eq_nil_iff.2 (fun g hg => sufLt_asymm (h g hg))
    rcases sufLt_tri q c with h | rfl | h
    · have ih := enterQ_eq_filter c Q hQ'
      unfold enterQ at ih ⊢
      rw [List.takeWhile_cons_of_pos (p := fun g => sufLt g c) h,
        List.dropWhile_cons_of_pos (p := fun g => sufLt g c) h,
        List.filter_cons_of_pos (p := fun g => sufLt g c) h,
        List.filter_cons_of_neg (p := fun g => sufLt c g) (sufLt_asymm h),
        (Prod.mk.inj ih).1, (Prod.mk.inj ih).2]
    · have hirr := sufLt_irrefl q
      have hd : Q.dropWhile (fun g => g == q) = Q := by
        cases Q with
        | nil => rfl
        | cons g Q' =>
          exact List.dropWhile_cons_of_neg (p := fun g => g == q)
            (by rw [beq_iff_eq]; exact (sufLt_ne (hq g List.mem_cons_self)).symm)
      unfold enterQ
      rw [List.takeWhile_cons_of_neg (p := fun g => sufLt g q) hirr,
        List.dropWhile_cons_of_neg (p := fun g => sufLt g q) hirr,
        List.dropWhile_cons_of_pos (p := fun g => g == q) (beq_self_eq_true q),
        List.filter_cons_of_neg (p := fun g => sufLt g q) hirr,
        List.filter_cons_of_neg (p := fun g => sufLt q g) hirr, hnil hq, List.filter_eq_self.2 hq, hd]
    · have hall : ∀ g ∈ q :: Q, sufLt c g = true := fun g hg =>
        (List.mem_cons.1 hg).elim (fun e => e ▸ h) (fun hg => sufLt_trans h (hq g hg))
      rw [enterQ_of_gt c _ hall, hnil hall, List.filter_eq_self.2 hall]

/-- `Enter(c)` for the sorted contexts `C` in turn merges them into the sorted queue `Q`: what comes out is the sorted union -/
theorem backoffRecs_spec : ∀ (C Q : List (List Nat)), SufSorted Q → SufSorted C →
    SufSorted (backoffRecs Q C) ∧ ∀ g, g ∈ backoffRecs Q C ↔ g ∈ Q ∨ g ∈ C := by
  intro C
  induction C with
  | nil => exact fun Q hQ _ => ⟨hQ, fun g => by rw [backoffRecs, List.mem_nil_iff, or_false]⟩
  | cons c C ih =>
    intro Q hQ hC
    have hC' := List.pairwise_cons.1 hC
    rw [backoffRecs, enterQ_eq_filter c Q hQ]
    obtain ⟨ihS, ihM⟩ := ih (Q.filter (fun g => sufLt c g)) (hQ.filter _) hC'.2
    have hgt : ∀ g ∈ backoffRecs (Q.filter (fun g => sufLt c g)) C, sufLt c g = true := fun g hg =>
      ((ihM g).1 hg).elim (fun h => (List.mem_filter.1 h).2) (hC'.1 g)
    constructor
    · exact List.pairwise_append.2 ⟨hQ.filter _, List.pairwise_cons.2 ⟨hgt, ihS⟩, fun a ha b hb =>
        (List.mem_cons.1 hb).elim (fun e => e ▸ (List.mem_filter.1 ha).2)
          (fun hb => sufLt_trans (List.mem_filter.1 ha).2 (hgt b hb))⟩
    · intro g
      rw [List.mem_append, List.mem_cons, ihM, List.mem_filter, List.mem_filter, List.mem_cons]
      constructor
      · rintro (h | h | h | h)
        · exact Or.inl h.1
        · exact Or.inr (Or.inl h)
        · exact Or.inl h.1
        · exact Or.inr (Or.inr h)
      · rintro (h | h | h)
        · rcases sufLt_tri g c with hl | he | hr
          · exact Or.inl ⟨h, hl⟩
          · exact Or.inr (Or.inl he)
          · exact Or.inr (Or.inr (Or.inl ⟨h, hr⟩))
        · exact Or.inr (Or.inl h)
        · exact Or.inr (Or.inr (Or.inr h))

section Pre
variable (cs : Comps Nat)

theorem sufSorted_ctxPre : ∀ (d : Nat) (c : List Nat), SufSorted (ctxPre (sortedY cs) d c)
  | 0, c => by simp [ctxPre, SufSorted]
  | d + 1, c => by
    rw [ctxPre]
    unfold SufSorted
    rw [List.pairwise_cons]
    constructor
    · intro c' hc'
      rw [List.mem_flatMap] at hc'
      obtain ⟨y, _, h⟩ := hc'
      obtain ⟨p, _, rfl⟩ := ctxPre_form _ d (y :: c) c' h
      exact sufLt_extend p y c
    · rw [List.pairwise_flatMap]
      refine ⟨fun y _ => sufSorted_ctxPre d (y :: c), ?_⟩
      apply (pairwise_sortedY cs c).imp
      intro y1 y2 hlt a ha b hb
      obtain ⟨p1, _, rfl⟩ := ctxPre_form _ d (y1 :: c) a ha
      obtain ⟨p2, _, rfl⟩ := ctxPre_form _ d (y2 :: c) b hb
      exact sufLt_siblings p1 p2 hlt c

/-- the contexts `SameContext` is run for, in visiting order: the whole tree without its root -/
def visited (D : Nat) : List (List Nat) := (ctxPre (sortedY cs) (D + 1) []).tail

theorem sufSorted_visited (D : Nat) : SufSorted (visited cs D) :=
  (List.pairwise_cons.1 (sufSorted_ctxPre cs (D + 1) [])).2

theorem mem_visited (h : UnionSuffixClosed cs) (D : Nat) (c : List Nat) :
    c ∈ visited cs D ↔ c ≠ [] ∧ c.length ≤ D + 1 ∧ explicit cs c ≠ [] := by
  have hroot : c ∈ ctxPre (sortedY cs) (D + 1) [] ↔ c = [] ∨ c ∈ visited cs D := List.mem_cons
  have hne : c ∈ visited cs D → c ≠ [] := by
    rintro hc rfl
    exact sufLt_irrefl [] ((List.pairwise_cons.1 (sufSorted_ctxPre cs (D + 1) [])).1 [] hc)
  have hall : c ∈ ctxPre (sortedY cs) (D + 1) [] ↔ c.length ≤ D + 1 ∧ (c = [] ∨ explicit cs c ≠ []) := by
    rw [mem_ctxPre]
    constructor
    · rintro ⟨j, hj, hb⟩
      obtain ⟨p, hp, rfl, hor⟩ := ((sufTree_sortedY cs h).below_iff j [] c).1 hb
      rw [List.append_nil] at hor ⊢
      exact ⟨hp ▸ hj, hor⟩
    · rintro ⟨hl, hor⟩
      exact ⟨c.length, hl, ((sufTree_sortedY cs h).below_iff _ [] c).2 ⟨c, rfl, (List.append_nil c).symm, hor⟩⟩
  constructor
  · intro hc
    obtain ⟨hl, hor⟩ := hall.1 (hroot.2 (Or.inr hc))
    exact ⟨hne hc, hl, hor.resolve_left (hne hc)⟩
  · rintro ⟨h0, hl, hx⟩
    exact (hroot.1 (hall.2 ⟨hl, Or.inr hx⟩)).resolve_left h0

end Pre

section Zip3
variable (cs : Comps Nat)

theorem mem_queueGrams {g : List Nat} :
    g ∈ queueGrams cs ↔ ∃ p ∈ cs, g.length < p.2.order ∧ ∃ e ∈ p.2.entries, e.gram = g := by
  unfold queueGrams
  rw [List.mem_mergeSort, mem_dedup, List.mem_flatMap]
  constructor
  · rintro ⟨p, hp, h⟩
    rw [List.mem_map] at h
    obtain ⟨e, he, rfl⟩ := h
    rw [List.mem_filter] at he
    exact ⟨p, hp, by simpa using he.2, e, he.1, rfl⟩
  · rintro ⟨p, hp, hl, e, he, rfl⟩
    exact ⟨p, hp, List.mem_map.2 ⟨e, List.mem_filter.2 ⟨he, by simpa using hl⟩, rfl⟩⟩

theorem sufSorted_queueGrams : SufSorted (queueGrams cs) := by
  unfold queueGrams
  exact sufSorted_mergeSort _ (nodup_dedup _)

/-- **the back-off stream of every order** is the `SuffixOrder`-sorted list of the union n-grams
of that order that get a back-off record: the queued n-grams and the visited contexts are exactly the
two ways of getting one, and (prefix closure) both are union n-grams -/
theorem backoffStream_eq (hsc : UnionSuffixClosed cs) (hpc : PrefixClosedD cs) (k : Nat)
    (hk1 : 1 ≤ k) (hk2 : k < maxOrder cs) :
    backoffStream cs k = (probStream3 cs k).filter (hasBackoffRecord cs) := by
  have hspec := backoffRecs_spec (visited cs (maxOrder cs - 2)) (queueGrams cs)
    (sufSorted_queueGrams cs) (sufSorted_visited cs _)
  have hdef : backoffStream cs k =
      (backoffRecs (queueGrams cs) (visited cs (maxOrder cs - 2))).filter (fun g => g.length == k) := rfl
  rw [hdef]
  apply sufSorted_eq_of_mem (hspec.1.sublist List.filter_sublist)
    ((sufSorted_probStream3 cs k).sublist List.filter_sublist)
  intro g
  rw [List.mem_filter, List.mem_filter, mem_probStream3, hasBackoffRecord_iff, ← mem_queueGrams,
    hspec.2 g, mem_visited cs hsc, beq_iff_eq]
  constructor
  · rintro ⟨hq | ⟨hne, _, hx⟩, hlen⟩
    · obtain ⟨p, hp, _, he⟩ := (mem_queueGrams cs).1 hq
      exact ⟨⟨mem_unionN.2 ⟨p, hp, he⟩, hlen⟩, Or.inr hq⟩
    · exact ⟨⟨mem_unionN_of_explicit hpc hne hx, hlen⟩, Or.inl hx⟩
  · rintro ⟨⟨_, hlen⟩, hx | hq⟩
    · exact ⟨Or.inr ⟨fun h0 => by rw [h0, List.length_nil] at hlen; omega, by omega, hx⟩, hlen⟩
    · exact ⟨Or.inl hq, hlen⟩

end Zip3

end KV.Interp
