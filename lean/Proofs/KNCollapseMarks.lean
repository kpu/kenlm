import Proofs.KNBlocks
/-!
# `CollapseStream` with its marking code (lm/builder/adjust_counts.cc:126-199)

`Model/KNBlocks.lean` models the compaction of `CollapseStream` without the pruning marks.  `cstartM` / `cstepM` are `cstart` /
`cstep` of that file with the three marking blocks of the real iterator added (`StartBlock`: the first slot; `operator++`: the
slot that just received `*copy_from_` — `remark` —, then the new current slot); they stand here, beside the proofs, as the
second model the theorems compare.  `rel mk st` is the state of the marking iterator that corresponds to the state `st` of
the mark-free one (the slots up to `current_` marked); `cstepM_rel` is the step simulation, and `collapseBlockM_eq_map`
concludes that the block that flows downstream is `map mk` of the mark-free model's block, provided the `<s>` test does not
look at the mark (`p (mk a) = p a`; `Mark()` sets the top bit of the count, `begin()[1] == kBOS` reads a word id).
-/
namespace KV.KN.Blocks

section Marks
variable {α : Type}

def markPrefix (mk : α → α) (k : Nat) (l : List α) : List α := (l.take k).map mk ++ l.drop k

/-- `StartBlock` with the marking code: slot 0 is marked on arrival -/
def cstartM (p : α → Bool) (mk : α → α) (block : List α) : CState α :=
  { slots := markPrefix mk 1 block, cur := 0, copyEnd := down p (markPrefix mk 1 block) 0 block.length, seen := [] }

/-- `operator++` with the marking code: `remark = true` is the real code (the copied-in record is marked again),
`remark = false` the variant without the first marking block; then the new current slot is marked on arrival -/
def cstepM (p : α → Bool) (mk : α → α) (remark : Bool) (st : CState α) : CState α :=
  match st.slots[st.cur]? with
  | none => st
  | some a =>
    if p a && decide (st.cur + 1 < st.copyEnd) then
      match st.slots[st.copyEnd - 1]? with
      | some b =>
        let sl := st.slots.set st.cur (if remark then mk b else b)
        { slots := sl.modify (st.cur + 1) mk, cur := st.cur + 1, copyEnd := down p sl st.cur (st.copyEnd - 1),
          seen := a :: st.seen }
      | none => { st with slots := st.slots.modify (st.cur + 1) mk, cur := st.cur + 1, seen := a :: st.seen }
    else { st with slots := st.slots.modify (st.cur + 1) mk, cur := st.cur + 1, seen := a :: st.seen }

def cstepsM (p : α → Bool) (mk : α → α) (remark : Bool) : Nat → CState α → CState α
  | 0, st => st
  | k + 1, st => cstepsM p mk remark k (cstepM p mk remark st)

def collapseBlockM (p : α → Bool) (mk : α → α) (remark : Bool) (block : List α) : List α × List α :=
  let st := cstepsM p mk remark block.length (cstartM p mk block)
  (st.seen.reverse, st.slots.take st.copyEnd)

def collapseStreamM (p : α → Bool) (mk : α → α) (remark : Bool) (blocks : List (List α)) : List α :=
  blocks.flatMap fun b => (collapseBlockM p mk remark b).2

end Marks


section MarksProof
variable {α : Type}

theorem markPrefix_getElem? (mk : α → α) (k : Nat) (l : List α) (i : Nat) :
    (markPrefix mk k l)[i]? = if i < k then l[i]?.map mk else l[i]? := by
  induction k generalizing l i with
  | zero => rfl
  | succ k ih =>
    cases l with
    | nil => simp [markPrefix]
    | cons a l =>
      cases i with
      | zero => simp [markPrefix]
      | succ i =>
        rw [show markPrefix mk (k + 1) (a :: l) = mk a :: markPrefix mk k l from rfl, List.getElem?_cons_succ,
          List.getElem?_cons_succ, ih]
        simp only [Nat.add_lt_add_iff_right]

theorem markPrefix_length (mk : α → α) (k : Nat) (l : List α) : (markPrefix mk k l).length = l.length := by
  unfold markPrefix
  rw [List.length_append, List.length_map, ← List.length_append, List.take_append_drop]

theorem down_markPrefix (p : α → Bool) (mk : α → α) (hp : ∀ a, p (mk a) = p a) (k : Nat) (l : List α) (cur : Nat) :
    ∀ e, down p (markPrefix mk k l) cur e = down p l cur e := by
  intro e
  induction e with
  | zero => rfl
  | succ e ih =>
    simp only [down]
    split
    · rfl
    · rw [markPrefix_getElem?]
      cases l[e]? <;> by_cases h : e < k <;> simp [h, hp, ih]

theorem markPrefix_set (mk : α → α) (c : Nat) (l : List α) (b : α) :
    (markPrefix mk (c + 1) l).set c (mk b) = markPrefix mk (c + 1) (l.set c b) := by
  apply List.ext_getElem?
  intro i
  rw [List.getElem?_set, markPrefix_getElem?, markPrefix_getElem?, List.getElem?_set, markPrefix_length]
  by_cases h : c = i
  · subst h
    by_cases hl : c < l.length <;> simp [hl]
  · simp [h]

theorem markPrefix_modify (mk : α → α) (c : Nat) (l : List α) :
    (markPrefix mk (c + 1) l).modify (c + 1) mk = markPrefix mk (c + 2) l := by
  apply List.ext_getElem?
  intro i
  rw [List.getElem?_modify, markPrefix_getElem?, markPrefix_getElem?]
  rcases Nat.lt_trichotomy i (c + 1) with h | rfl | h
  · simp [h, Nat.ne_of_gt h, Nat.lt_succ_of_lt h]
  · simp
  · simp [Nat.lt_asymm h, Nat.ne_of_lt h, Nat.not_lt.2 (Nat.succ_le_of_lt h)]

def rel (mk : α → α) (st : CState α) : CState α :=
  { slots := markPrefix mk (st.cur + 1) st.slots, cur := st.cur, copyEnd := st.copyEnd, seen := st.seen.map mk }

theorem cstepM_rel (p : α → Bool) (mk : α → α) (hp : ∀ a, p (mk a) = p a) (st : CState α) :
    cstepM p mk true (rel mk st) = rel mk (cstep p st) := by
  unfold cstepM cstep
  have h0 : (rel mk st).slots[(rel mk st).cur]? = st.slots[st.cur]?.map mk := by
    simp [rel, markPrefix_getElem?]
  rw [h0]
  cases ha : st.slots[st.cur]? with
  | none => simp
  | some a =>
    simp only [Option.map_some, hp]
    by_cases hc : (p a && decide (st.cur + 1 < st.copyEnd)) = true
    · have hc' : (p a && decide ((rel mk st).cur + 1 < (rel mk st).copyEnd)) = true := hc
      rw [if_pos hc, if_pos hc']
      have hlt : st.cur + 1 < st.copyEnd := by
        simp only [Bool.and_eq_true, decide_eq_true_eq] at hc; exact hc.2
      have h1 : (rel mk st).slots[(rel mk st).copyEnd - 1]? = st.slots[st.copyEnd - 1]? := by
        simp only [rel, markPrefix_getElem?]
        rw [if_neg (by omega)]
      rw [h1]
      cases hb : st.slots[st.copyEnd - 1]? with
      | none => simp [rel, markPrefix_modify]
      | some b =>
        simp only [rel, if_true, markPrefix_set, markPrefix_modify, down_markPrefix p mk hp, List.map_cons]
    · rw [if_neg hc, if_neg (show ¬ (p a && decide ((rel mk st).cur + 1 < (rel mk st).copyEnd)) = true from hc)]
      simp [rel, markPrefix_modify]

theorem cstepsM_rel (p : α → Bool) (mk : α → α) (hp : ∀ a, p (mk a) = p a) :
    ∀ k (st : CState α), cstepsM p mk true k (rel mk st) = rel mk (csteps p k st) := by
  intro k
  induction k with
  | zero => intro st; rfl
  | succ k ih => intro st; simp only [cstepsM, csteps]; rw [cstepM_rel p mk hp, ih]

theorem cstartM_rel (p : α → Bool) (mk : α → α) (hp : ∀ a, p (mk a) = p a) (block : List α) :
    cstartM p mk block = rel mk (cstart p block) := by
  simp [cstartM, rel, cstart, down_markPrefix p mk hp]

theorem collapseBlockM_eq_map (p : α → Bool) (mk : α → α) (hp : ∀ a, p (mk a) = p a) (block : List α) :
    (collapseBlockM p mk true block).2 = ((collapseBlock p block).2).map mk := by
  unfold collapseBlockM collapseBlock
  simp only
  rw [cstartM_rel p mk hp, cstepsM_rel p mk hp]
  obtain ⟨O, G, h, _⟩ := collapse_run p block
  -- at the end `current_` stands behind the last slot: every slot is marked
  rw [h]
  simp only [rel, cst, List.append_nil]
  unfold markPrefix
  rw [List.take_of_length_le (Nat.le_succ _), List.drop_eq_nil_of_le (Nat.le_succ _), List.append_nil, List.map_take]

end MarksProof


end KV.KN.Blocks
