import Proofs.TrieLevels
import Proofs.TrieRepresents
/-! The trie of a bit table, whatever the record layout (plain, ArrayBhiksha offsets, quantised values): if every record of the
level arrays reads back as "word of the key, these two value bit patterns, the running child counts" (`Reads`), the memory
represents the table of those values (`ftV`; `ftOf` is the table of the bits as stored).  The layouts (Proofs/TrieOfTableG.lean,
all four at once) only have to prove `Reads`. -/
namespace KV.TrieLM
open KV.Bits KV.Score KV.Search

/-- the table entry of key `g` when the pointers return the bits `pv g` / `bv g` -/
def entryV (fval : Nat → Rat) (bt : BT) (order : Nat) (pv bv : List Nat → Nat) (g : List Nat) : KV.Table.TEntry :=
  { prob := fval (pv g), backoff := if g.length = order then 0 else fval (bv g),
    extendsLeft := if g.length = order then false else !(childrenOf bt g).isEmpty,
    extendsRight := if g.length = order then false else bv g != noExtensionBits, blank := false }

/-- the keys of the bit table with the entries `entryV` gives them, as a finite table -/
def ftV (fval : Nat → Rat) (bt : BT) (order : Nat) (pv bv : List Nat → Nat) : FT :=
  bt.map fun p => (p.1, entryV fval bt order pv bv p.1)

/-- `ftV` as the `Table` of that order: what a memory whose value pointers return `pv`/`bv` represents -/
abbrev tableV (fval : Nat → Rat) (bt : BT) (order : Nat) (pv bv : List Nat → Nat) : KV.Table.Table :=
  tableOf (ftV fval bt order pv bv) order

theorem lookup_tableV (fval : Nat → Rat) (bt : BT) (order : Nat) (pv bv : List Nat → Nat) (g : List Nat) :
    (tableV fval bt order pv bv).lookup g = (bt.lookup g).map (fun _ => entryV fval bt order pv bv g) :=
  lookup_map (fun k _ => entryV fval bt order pv bv k) bt g

/-- the entry of `ftOf` (the table of the plain layout) for key `g` with the stored bits `v` -/
def entryOf (fval : Nat → Rat) (bt : BT) (order : Nat) (g : List Nat) (v : Nat × Nat) : KV.Table.TEntry :=
  { prob := fval (if g.length = 1 then v.1 else v.1 % 2^31 + 2^31), backoff := if g.length = order then 0 else fval v.2,
    extendsLeft := if g.length = order then false else !(childrenOf bt g).isEmpty,
    extendsRight := if g.length = order then false else v.2 != noExtensionBits, blank := false }

theorem lookup_ftOf (fval : Nat → Rat) (bt : BT) (order : Nat) (g : List Nat) :
    (tableOf (ftOf fval bt order) order).lookup g = (bt.lookup g).map (entryOf fval bt order g) :=
  lookup_map (entryOf fval bt order) bt g

theorem table_ext (T1 T2 : KV.Table.Table) (ho : T1.order = T2.order) (hl : ∀ g, T1.lookup g = T2.lookup g) : T1 = T2 := by
  cases T1; cases T2
  simp only [KV.Table.Table.mk.injEq] at *
  exact ⟨ho, funext hl⟩

theorem ftV_rel {R : KV.Table.TEntry → KV.Table.TEntry → Prop} (fval fval' : Nat → Rat) (bt : BT) (order : Nat)
    (pv bv pv' bv' : List Nat → Nat)
    (h : ∀ g v, (g, v) ∈ bt → valuesOf bt g = v → R (entryV fval bt order pv bv g) (entryV fval' bt order pv' bv' g)) (g : List Nat) :
    Option.Rel R ((tableV fval bt order pv bv).lookup g) ((tableV fval' bt order pv' bv').lookup g) := by
  rw [lookup_tableV, lookup_tableV]
  cases hl : bt.lookup g with
  | none => exact .none
  | some v => exact .some (h g v (lookup_some_mem _ _ _ hl) (valuesOf_of_lookup hl))

theorem tableV_ne_none (fval : Nat → Rat) (bt : BT) (order : Nat) (pv bv : List Nat → Nat) (g : List Nat) :
    (tableV fval bt order pv bv).lookup g ≠ none ↔ IsKey bt g := by
  rw [lookup_tableV, ← lookup_ne_none_iff]
  cases bt.lookup g <;> simp

theorem tableV_key (fval : Nat → Rat) (bt : BT) (order : Nat) (pv bv : List Nat → Nat) (g : List Nat) (h : IsKey bt g) :
    (tableV fval bt order pv bv).lookup g = some (entryV fval bt order pv bv g) := by
  rw [lookup_tableV]
  have := (lookup_ne_none_iff bt g).mpr h
  cases hl : bt.lookup g with
  | none => exact absurd hl this
  | some v => simp

theorem toFound_entryV (fval : Nat → Rat) (bt : BT) (order : Nat) (pv bv : List Nat → Nat) (g : List Nat) (r : Rec) (s : Nat)
    (hlen : g.length ≠ order) (hp : r.probBits = pv g) (hb : r.backoffBits = bv g)
    (hr : r.range = (s, s + (childrenOf bt g).length)) :
    toFound fval r = Score.toFound (entryV fval bt order pv bv g) := by
  unfold toFound Score.toFound entryV
  simp only [hlen, if_false, hp, hb, hr]
  congr 1
  cases hc : childrenOf bt g with
  | nil => simp
  | cons x xs => simp

/-- what `reads_represents` asks of a memory: record `i` of the array of order `k` reads back as the last word of key `i` of level `k`,
the value bits `pv`/`bv` of that key and the running child counts before and after it (`pv`, `bv`: what the value pointers return) -/
structure Reads (M : Trie) (bt : BT) (bound order : Nat) (pv bv : List Nat → Nat) : Prop where
  order_eq : M.order = order
  bound_eq : M.bound = bound
  midVocab : ∀ om2, om2 + 2 < order → (M.middle om2).maxVocab = bound
  longVocab : M.longest.maxVocab = bound
  uni : ∀ w, w < bound → unigramRec M w =
    { probBits := pv [w], backoffBits := bv [w],
      range := (startOf bt (level bt bound 1) w, startOf bt (level bt bound 1) (w + 1)) }
  mid : ∀ om2 i, om2 + 2 < order → i < (level bt bound (om2 + 2)).length →
    midKey M om2 i = ((level bt bound (om2 + 2)).getD i []).getLast?.getD 0 ∧
    middleRec M om2 i =
      { probBits := pv ((level bt bound (om2 + 2)).getD i []), backoffBits := bv ((level bt bound (om2 + 2)).getD i []),
        range := (startOf bt (level bt bound (om2 + 2)) i, startOf bt (level bt bound (om2 + 2)) (i + 1)) }
  long : ∀ i, i < (level bt bound order).length →
    longKey M i = ((level bt bound order).getD i []).getLast?.getD 0 ∧
    longestProbBits M i = pv ((level bt bound order).getD i [])

theorem sortedIn_of_children (key : Nat → Nat) (S : Nat) (c : List Nat) (hc : c.Pairwise (· ≤ ·))
    (hkey : ∀ t (ht : t < c.length), key (S + t) = c[t]) :
    SortedIn (fun pos => key (pos - 1)) S (S + c.length + 1) := by
  intro i j hi hij hj
  obtain ⟨u, rfl⟩ := Nat.exists_eq_add_of_lt hi
  obtain ⟨v, rfl⟩ := Nat.exists_eq_add_of_lt (Nat.lt_of_lt_of_le hi hij)
  show key (S + u + 1 - 1) ≤ key (S + v + 1 - 1)
  rw [Nat.add_sub_cancel, Nat.add_sub_cancel, hkey u (by omega), hkey v (by omega)]
  rcases Nat.eq_or_lt_of_le (show u ≤ v by omega) with rfl | h
  · exact Nat.le_refl _
  · exact List.pairwise_iff_getElem.mp hc u v _ _ h

theorem child_range (fval : Nat → Rat) (bt : BT) (bound order : Nat) (pv bv : List Nat → Nat) (ok : BTOK bt bound order)
    (g : List Nat) (hg : IsKey bt g) (k : Nat) (hk : g.length + 1 = k) (key : Nat → Nat)
    (hkey : ∀ i, i < (level bt bound k).length → key i = ((level bt bound k).getD i []).getLast?.getD 0) :
    ChildArray (tableV fval bt order pv bv) g (rngOf bt bound g) key fun i t =>
      i < (level bt bound k).length ∧ (level bt bound k).getD i [] = g ++ [key i] ∧ t = entryV fval bt order pv bv (g ++ [key i]) := by
  subst hk
  have hlen : 1 ≤ g.length := by obtain ⟨p, hp, e⟩ := hg; rw [← e]; exact (ok.len p hp).1
  obtain ⟨j, hj, hjg⟩ := List.getElem_of_mem ((mem_level bt bound order ok g.length hlen g).mpr ⟨hg, rfl⟩)
  obtain ⟨hr, hs⟩ := level_range bt bound order ok g.length j hlen hj
  rw [← List.getElem_eq_getD (h := hj), hjg] at hr hs
  rw [hs] at hr
  have child : ∀ t (ht : t < (childrenOf bt g).length),
      (level bt bound (g.length + 1))[startOf bt (level bt bound g.length) j + t]? = some (g ++ [(childrenOf bt g)[t]]) ∧
      key (startOf bt (level bt bound g.length) j + t) = (childrenOf bt g)[t] := by
    intro t ht
    have h := nextLevel_getElem bt (level bt bound g.length) j t hj (by rw [hjg]; exact ht)
    simp only [hjg] at h
    rw [← level_succ bt bound g.length hlen] at h
    refine ⟨h, ?_⟩
    rw [hkey _ (List.getElem?_eq_some_iff.mp h).1, getD_of_getElem? [] h]
    simp
  rw [hr]
  refine ⟨sortedIn_of_children key _ _ (sorted_sortNat _) (fun t ht => (child t ht).2), ?_, ?_⟩
  · intro i h1 h2
    obtain ⟨t, rfl⟩ := Nat.exists_eq_add_of_le h1
    have ht : t < (childrenOf bt g).length := by simp only at h2; omega
    obtain ⟨he, hw⟩ := child t ht
    rw [hw]
    exact ⟨_, tableV_key fval bt order pv bv _ ((mem_childrenOf bt g _).mp (List.getElem_mem ht)),
      (List.getElem?_eq_some_iff.mp he).1, getD_of_getElem? [] he, rfl⟩
  · intro w hw
    obtain ⟨t, ht, hte⟩ := List.getElem_of_mem ((mem_childrenOf bt g w).mpr ((tableV_ne_none fval bt order pv bv _).mp hw))
    exact ⟨_, Nat.le_add_right _ t, Nat.add_lt_add_left ht _, (child t ht).2.trans hte⟩

theorem reads_represents (fval : Nat → Rat) (M : Trie) (bt : BT) (bound order : Nat) (pv bv : List Nat → Nat)
    (ok : BTOK bt bound order) (rd : Reads M bt bound order pv bv) :
    Represents fval M (tableV fval bt order pv bv) (rngOf bt bound) := by
  have ho := ok.order2
  have hT := tableV_ne_none fval bt order pv bv
  have hTo : (tableV fval bt order pv bv).order = order := rfl
  refine .of_arrays rd.order_eq ?_ (fun om2 hom => by rw [rd.bound_eq, rd.midVocab om2 hom]; omega) (fun g om2 hg hl hom => ?_)
    (by rw [rd.bound_eq, rd.longVocab]; omega) (fun g hg _ hl => ?_)
  · intro w hw
    rw [rd.bound_eq] at hw
    obtain ⟨hr, hs⟩ := level_range bt bound order ok 1 w (Nat.le_refl 1) (by rw [level1_length]; exact hw)
    rw [show (level bt bound 1).getD w [] = [w] by simp [level_one, hw]] at hr hs
    refine ⟨_, tableV_key fval bt order pv bv [w] (ok.unigrams w hw), ?_, by rw [rd.uni w hw, hr]⟩
    rw [rd.uni w hw]
    exact toFound_entryV fval bt order pv bv [w] _ _ (by simp; omega) rfl rfl (by rw [hs])
  · refine (child_range fval bt bound order pv bv ok g ((hT g).mp hg) (om2 + 2) (by omega) (midKey M om2)
      (fun i hi => (rd.mid om2 i hom hi).1)).imp fun i t _ _ _ ⟨hi, hlv, ht⟩ => ?_
    obtain ⟨hr, hs⟩ := level_range bt bound order ok (om2 + 2) i (by omega) hi
    have hrec := (rd.mid om2 i hom hi).2
    rw [hlv] at hrec hr hs
    rw [hrec, ht]
    exact ⟨toFound_entryV fval bt order pv bv _ _ _ (by simp; omega) rfl rfl (by rw [hs]), hr.symm⟩
  · refine (child_range fval bt bound order pv bv ok g ((hT g).mp hg) order hl (longKey M)
      (fun i hi => (rd.long i hi).1)).imp fun i t _ _ _ ⟨hi, hlv, ht⟩ => ?_
    have hp := (rd.long i hi).2
    rw [hlv] at hp
    rw [hp, ht]; rfl

end KV.TrieLM
