import Proofs.FilterLists
import Proofs.FilterCtlStep
/-!
`Shutdown`, a safety invariant of the threaded filter that needs no other: how many poisons are in the two queues and
how many workers have exited, by reader state — the bookkeeping of the two `~ThreadPool`s.  It holds in every reachable
state of every variant of the code (`reach_shutdown`).
-/
namespace KV.FilterCtl
variable {α : Type}

/-- while the parser runs or waits: no poison anywhere, every worker and the output worker alive -/
structure AtWork (nf nd ex : Nat) (oe : Bool) : Prop where
  noPoisonW : nf = 0
  noPoisonO : nd = 0
  noneExited : ex = 0
  outAlive : oe = false

/-- `~ThreadPool` of `filter_`, `k` poisons still to send: the others are in the queue or have been taken -/
structure AtPoisonW (w k nf nd ex : Nat) (oe : Bool) : Prop where
  sent : nf + ex + k = w
  noPoisonO : nd = 0
  outAlive : oe = false

/-- `~ThreadPool` of `output_` before its poison is sent -/
structure AtPoisonO (w nf nd ex : Nat) (oe : Bool) : Prop where
  allExited : ex = w
  noPoisonW : nf = 0
  noPoisonO : nd = 0
  outAlive : oe = false

/-- joining the output worker: its poison is in the queue, or it has taken it and exited -/
structure AtJoinO (w nf nd ex : Nat) (oe : Bool) : Prop where
  allExited : ex = w
  noPoisonW : nf = 0
  out : (nd = 1 ∧ oe = false) ∨ (nd = 0 ∧ oe = true)

/-- poisons / exits by reader state: `nf`, `nd` poisons in the two queues, `ex` exited workers -/
def ShutdownClause (w : Nat) (rpc : RPc) (nf nd ex : Nat) (oe : Bool) : Prop :=
  match rpc with
  | .poisonW k => AtPoisonW w k nf nd ex oe
  | .poisonO => AtPoisonO w nf nd ex oe
  | .joinO => AtJoinO w nf nd ex oe
  | .done => True
  | _ => AtWork nf nd ex oe

structure Shutdown (cfg : Cfg α) (s : State α) : Prop where
  nworkers : s.workers.length = cfg.workers
  clause : ShutdownClause cfg.workers s.rpc (nones s.filterQ) (nones s.doneQ) (exitedCount s.workers) s.oExited

namespace ShutdownClause
variable {w k nf nd ex : Nat} {oe : Bool} {rpc : RPc}

theorem _root_.KV.FilterCtl.AtWork.finish (h : AtWork nf nd ex oe) : AtPoisonW w w nf nd ex oe :=
  ⟨by rw [h.noPoisonW, h.noneExited]; exact Nat.zero_add w, h.noPoisonO, h.outAlive⟩

theorem _root_.KV.FilterCtl.AtPoisonW.poisonW (h : AtPoisonW w (k + 1) nf nd ex oe) : AtPoisonW w k (nf + 1) nd ex oe :=
  ⟨by have := h.sent; omega, h.noPoisonO, h.outAlive⟩

theorem _root_.KV.FilterCtl.AtPoisonW.joinW (h : AtPoisonW w 0 nf nd ex oe) (he : ex = w) : AtPoisonO w nf nd ex oe :=
  ⟨he, by have := h.sent; omega, h.noPoisonO, h.outAlive⟩

theorem _root_.KV.FilterCtl.AtPoisonO.poisonO (h : AtPoisonO w nf nd ex oe) : AtJoinO w nf (nd + 1) ex oe :=
  ⟨h.allExited, h.noPoisonW, .inl ⟨by rw [h.noPoisonO], h.outAlive⟩⟩

/-- a poison in `filter_.in_` exists only while the reader is in `~ThreadPool` of `filter_` -/
theorem exit (h : ShutdownClause w rpc (nf + 1) nd ex oe) :
    ShutdownClause w rpc nf nd (ex + 1) oe := by
  cases rpc with
  | poisonW k => exact ⟨by have := h.sent; omega, h.noPoisonO, h.outAlive⟩
  | done => trivial
  | poisonO => exact absurd h.noPoisonW (Nat.succ_ne_zero _)
  | joinO => exact absurd h.noPoisonW (Nat.succ_ne_zero _)
  | _ => exact absurd h.noPoisonW (Nat.succ_ne_zero _)

/-- a poison in `output_.in_` exists only while the reader joins the output worker -/
theorem stop (h : ShutdownClause w rpc nf (nd + 1) ex false) :
    ShutdownClause w rpc nf nd ex true := by
  cases rpc with
  | joinO => exact ⟨h.allExited, h.noPoisonW, .inr ⟨by rcases h.out with ⟨h3, _⟩ | ⟨h3, _⟩ <;> omega, rfl⟩⟩
  | done => trivial
  | poisonW k => exact absurd h.noPoisonO (Nat.succ_ne_zero _)
  | poisonO => exact absurd h.noPoisonO (Nat.succ_ne_zero _)
  | _ => exact absurd h.noPoisonO (Nat.succ_ne_zero _)

end ShutdownClause

variable {cfg : Cfg α} {p : List (ROp α)} {s s' : State α}

theorem shutdown_newInput (h : Shutdown cfg s) : Shutdown cfg (newInput cfg s) := by
  obtain ⟨lr, n, e⟩ := newInput_eq cfg s
  rw [e]; exact ⟨h.nworkers, h.clause⟩

theorem shutdown_step {t : Tid} (h : Shutdown cfg s) (hst : Step cfg s t s') :
    Shutdown cfg s' := by
  have hcl := h.clause
  have hw := h.nworkers
  cases hst with
  | emit | add | getAll | write => exact ⟨hw, hcl⟩
  | resume hrpc => rw [hrpc] at hcl; exact shutdown_newInput ⟨hw, hcl⟩
  | getOne hrpc => rw [hrpc] at hcl; exact shutdown_newInput ⟨hw, hcl⟩
  | flushEmpty hrpc => rw [hrpc] at hcl; exact ⟨hw, hcl⟩
  | addLast hrpc | flushSend hrpc =>
    rw [hrpc] at hcl
    exact ⟨hw, by simp only [send, nones_append, nones_cons_some, nones_nil, Nat.add_zero]; exact hcl⟩
  | addNext hrpc =>
    rw [hrpc] at hcl
    exact shutdown_newInput ⟨hw, by simpa only [send, hrpc, nones_append, nones_cons_some, nones_nil, Nat.add_zero] using hcl⟩
  | finish hrpc => rw [hrpc] at hcl; exact ⟨hw, hcl.finish⟩
  | poisonW hrpc =>
    rw [hrpc] at hcl
    exact ⟨hw, by simp only [nones_append, nones_cons_none, nones_nil]; exact hcl.poisonW⟩
  | joinW hrpc hall =>
    rw [hrpc] at hcl
    exact ⟨hw, hcl.joinW (((all_exited_iff s.workers).mp hall).trans hw)⟩
  | poisonO hrpc =>
    rw [hrpc] at hcl
    exact ⟨hw, by simp only [nones_append, nones_cons_none, nones_nil]; exact hcl.poisonO⟩
  | joinO => exact ⟨hw, trivial⟩
  | @take i b q hi hq =>
    have h4 := (held_set_take b hi).2
    rw [hq, nones_cons_some] at hcl
    exact ⟨by simp [hw], by rw [h4]; exact hcl⟩
  | put hi =>
    have h5 := (held_set_put hi).2
    exact ⟨by simp [hw], by simpa only [h5, nones_append, nones_cons_some, nones_nil, Nat.add_zero] using hcl⟩
  | file _ _ hq =>
    rw [hq, nones_cons_some] at hcl
    exact ⟨hw, hcl⟩
  | exit hi hq =>
    rw [hq, nones_cons_none] at hcl
    exact ⟨by simp [hw], by rw [(held_set_exit hi).2]; exact hcl.exit⟩
  | stop hoe _ hq =>
    rw [hq, nones_cons_none, hoe] at hcl
    exact ⟨hw, hcl.stop⟩

theorem shutdown_init (cfg : Cfg α) (p : List (ROp α)) : Shutdown cfg (init cfg p) :=
  shutdown_newInput ⟨by simp, by simpa [ShutdownClause] using AtWork.mk rfl rfl rfl rfl⟩

theorem reach_shutdown (hr : Reach cfg p s) : Shutdown cfg s :=
  hr.invariant (shutdown_init cfg p) fun _ _ _ hl hst => shutdown_step hl hst

end KV.FilterCtl
