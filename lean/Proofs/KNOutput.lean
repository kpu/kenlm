import Model.KNOutput
/-!
`intermediate_eq`: the intermediate files hold the same values as the ARPA file — same metadata
counts, same orders, record by record the same n-gram and probability, and the same back-off
wherever the ARPA prints one; the ARPA is a function of the intermediate files
(`arpa_from_inter`).
-/
namespace KV.KN.Output

open KV.KN

theorem arpa_line (m : Model) (i j : Nat) (l : List Entry) (e : Entry) (hl : m.orders[i]? = some l)
    (he : l[j]? = some e) :
    (arpaOf m).sections[i]?.bind (·[j]?) =
      some (e.gram, e.p, if i + 1 < m.orders.length then some e.bo else none) := by
  simp only [arpaOf, List.getElem?_mapIdx, hl, Option.map_some, Option.bind_some, List.getElem?_map, he]

theorem inter_rec (m : Model) (i j : Nat) (l : List Entry) (e : Entry) (hl : m.orders[i]? = some l)
    (he : l[j]? = some e) :
    (interOf m).files[i]?.bind (·[j]?) = some (e.gram, e.p, e.bo) := by
  simp only [interOf, List.getElem?_map, hl, Option.map_some, Option.bind_some, he]

theorem arpa_from_inter (m : Model) : arpaOf m = arpaFromInter (interOf m) := by
  unfold arpaOf arpaFromInter interOf
  simp only [List.length_map, ArpaText.mk.injEq, true_and]
  apply List.ext_getElem?
  intro i
  simp only [List.getElem?_mapIdx, List.getElem?_map, Option.map_map]
  cases m.orders[i]? with
  | none => rfl
  | some l =>
    simp only [Option.map_some, Function.comp, List.map_map, Option.some.injEq, List.map_inj_left,
      implies_true]

/-- **intermediate_eq**: what `Output::SinkProbs` writes to the two sinks agrees -/
theorem intermediate_eq (m : Model) :
    (writeBoth m).1.counts = (writeBoth m).2.counts ∧
    (writeBoth m).1.sections.length = (writeBoth m).2.files.length ∧
    (∀ i : Nat, ((writeBoth m).1.sections[i]?.map List.length) = ((writeBoth m).2.files[i]?.map List.length)) ∧
    (∀ (i j : Nat) (line : ArpaLine), (writeBoth m).1.sections[i]?.bind (·[j]?) = some line →
      ∃ r : InterRec, (writeBoth m).2.files[i]?.bind (·[j]?) = some r ∧ line.1 = r.1 ∧ line.2.1 = r.2.1 ∧
        (∀ b, line.2.2 = some b → b = r.2.2) ∧
        (line.2.2.isSome = decide (i + 1 < (writeBoth m).2.files.length))) ∧
    (writeBoth m).1 = arpaFromInter (writeBoth m).2 := by
  refine ⟨rfl, by simp only [writeBoth, arpaOf, interOf, List.length_mapIdx, List.length_map], ?_, ?_,
    arpa_from_inter m⟩
  · intro i
    simp only [writeBoth, arpaOf, interOf, List.getElem?_mapIdx, List.getElem?_map, Option.map_map]
    cases m.orders[i]? with
    | none => rfl
    | some l => simp only [Option.map_some, Function.comp_apply, List.length_map]
  · intro i j line h
    cases hl : m.orders[i]? with
    | none =>
      simp only [writeBoth, arpaOf, List.getElem?_mapIdx, hl, Option.map_none, Option.bind_none,
        reduceCtorEq] at h
    | some l =>
      cases he : l[j]? with
      | none =>
        simp only [writeBoth, arpaOf, List.getElem?_mapIdx, hl, Option.map_some, Option.bind_some,
          List.getElem?_map, he, Option.map_none, reduceCtorEq] at h
      | some e =>
        have h1 := arpa_line m i j l e hl he
        have h2 := inter_rec m i j l e hl he
        simp only [writeBoth] at h ⊢
        rw [h1] at h
        have hline := (Option.some.inj h).symm
        subst hline
        refine ⟨_, h2, rfl, rfl, ?_, ?_⟩
        · intro b hb
          simp only at hb
          split at hb
          · exact (Option.some.inj hb).symm
          · cases hb
        · simp only [interOf, List.length_map]
          split <;> simp [*]

/-- a two-order toy model: `<unk> <s> </s> a`, one bigram `<s> a` -/
def toy : Model :=
  { stats := [], discs := [], header := [4, 1], uniform := 1 / 3,
    orders := [[⟨[0], 1/8, 1⟩, ⟨[1], 1, 1/2⟩, ⟨[2], 3/8, 1⟩, ⟨[3], 1/2, 3/4⟩], [⟨[3, 1], 5/8, 1⟩]] }

example : arpaOf toy =
    { counts := [4, 1],
      sections := [[([0], 1/8, some 1), ([1], 1, some (1/2)), ([2], 3/8, some 1), ([3], 1/2, some (3/4))],
                   [([3, 1], 5/8, none)]] } := rfl

example : interOf toy =
    { counts := [4, 1],
      files := [[([0], 1/8, 1), ([1], 1, 1/2), ([2], 3/8, 1), ([3], 1/2, 3/4)], [([3, 1], 5/8, 1)]] } := rfl

example : arpaFromInter (interOf toy) = arpaOf toy := rfl

end KV.KN.Output
