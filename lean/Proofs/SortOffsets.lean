import Proofs.SortLists
/-! C16: the `Offsets` run-length log reads back exactly the non-zero lengths appended; hence runs stored in the data file
and read back at the logged offsets come back without the empty ones (`nonempties`, `storeRuns_eq`). -/
namespace KV.Sort
open List

/-- the abstraction function of the log: the run lengths that a list of (length, repeat count) entries stands for -/
def expand (es : List (Nat × Nat)) : List Nat := es.flatMap (fun e => List.replicate e.2 e.1)

@[simp] theorem expand_nil : expand [] = [] := rfl
@[simp] theorem expand_cons (e : Nat × Nat) (es) : expand (e :: es) = List.replicate e.2 e.1 ++ expand es := by
  simp [expand]
@[simp] theorem expand_append (a b : List (Nat × Nat)) : expand (a ++ b) = expand a ++ expand b := by
  simp [expand]

theorem Offsets.append_cases (o : Offsets) (l : Nat) :
    (l = 0 ∧ o.append l = o) ∨
    (l ≠ 0 ∧ l = o.cur.1 ∧ o.append l = { o with cur := (l, o.cur.2 + 1), blockCount := o.blockCount + 1 }) ∨
    (l ≠ 0 ∧ l ≠ o.cur.1 ∧ o.append l = ⟨o.log ++ [o.cur], (l, 1), o.blockCount + 1⟩) := by
  unfold Offsets.append
  by_cases hl : l = 0
  · exact Or.inl ⟨hl, if_pos hl⟩
  · by_cases hc : l = o.cur.1
    · refine Or.inr (Or.inl ⟨hl, hc, ?_⟩)
      rw [if_neg hl, if_pos hc, ← hc]
    · exact Or.inr (Or.inr ⟨hl, hc, by rw [if_neg hl, if_neg hc]⟩)

/-- writer invariant: the entries written so far (the one being built included) start with the dummy
`(0,0)`, all later ones are non-degenerate, together they denote `ls`, and `block_count_` counts them -/
def WInv (o : Offsets) (ls : List Nat) : Prop :=
  ∃ tl, o.log ++ [o.cur] = (0, 0) :: tl ∧ (∀ e ∈ tl, e.1 ≠ 0 ∧ e.2 ≠ 0) ∧ expand tl = ls ∧
    o.blockCount = ls.length

theorem WInv_reset : WInv Offsets.reset [] := ⟨[], rfl, by simp, rfl, rfl⟩

theorem WInv_append {o : Offsets} {ls} (h : WInv o ls) (l : Nat) :
    WInv (o.append l) (ls ++ if l = 0 then [] else [l]) := by
  obtain ⟨tl, h1, h2, rfl, h4⟩ := h
  rcases o.append_cases l with ⟨rfl, ha⟩ | ⟨hl, hc, ha⟩ | ⟨hl, hc, ha⟩
  · rw [ha, if_pos rfl, append_nil]; exact ⟨tl, h1, h2, rfl, h4⟩
  · -- the current entry has a non-zero length, so it is not the dummy: it is the last of `tl`
    rw [ha, if_neg hl]
    cases hlog : o.log with
    | nil =>
      rw [hlog, nil_append, cons.injEq] at h1
      exact absurd (hc.trans (congrArg Prod.fst h1.1)) hl
    | cons x log' =>
      rw [hlog, cons_append, cons.injEq] at h1
      obtain ⟨rfl, rfl⟩ := h1
      refine ⟨log' ++ [(l, o.cur.2 + 1)], by simp, ?_, ?_, by simp [h4]; omega⟩
      · intro e he
        rcases mem_append.mp he with he | he
        · exact h2 e (mem_append_left _ he)
        · rw [mem_singleton.mp he]; exact ⟨hl, Nat.succ_ne_zero _⟩
      · simp [replicate_succ', hc]
  · rw [ha, if_neg hl]
    refine ⟨tl ++ [(l, 1)], by show (o.log ++ [o.cur]) ++ [(l, 1)] = _; rw [h1]; rfl, ?_, by simp, by simp [h4]⟩
    intro e he
    rcases mem_append.mp he with he | he
    · exact h2 e he
    · rw [mem_singleton.mp he]; exact ⟨hl, Nat.one_ne_zero⟩

theorem WInv_foldl (ls : List Nat) : ∀ {o : Offsets} {ls₀}, WInv o ls₀ →
    WInv (ls.foldl Offsets.append o) (ls₀ ++ ls.filter (· ≠ 0)) := by
  induction ls with
  | nil => intro o ls₀ h; simpa using h
  | cons l ls ih =>
    intro o ls₀ h
    have := ih (WInv_append h l)
    by_cases hl : l = 0 <;> simpa [hl, filter_cons] using this

/-- reader invariant: the entries still to be read are non-degenerate, `block_count_` is the number of
lengths they denote, and an exhausted `cur_` means nothing is left -/
def RInv (r : OffsetsReader) : Prop :=
  (∀ e ∈ r.rest, e.1 ≠ 0 ∧ e.2 ≠ 0) ∧ r.blockCount = r.cur.2 + (expand r.rest).length ∧
    (r.cur.2 = 0 → r.blockCount = 0)

theorem nextSize_of_RInv {r : OffsetsReader} (h : RInv r) (hb : r.blockCount ≠ 0) :
    ∃ r', r.nextSize = some (r.cur.1, r') ∧ RInv r' ∧ r'.blockCount + 1 = r.blockCount ∧
      r'.outputSum = r.outputSum + r.cur.1 ∧ expand (r.cur :: r.rest) = r.cur.1 :: expand (r'.cur :: r'.rest) := by
  obtain ⟨rest, ⟨c1, c2⟩, bc, os⟩ := r
  obtain ⟨h3, h4, h5⟩ := h
  simp only at h3 h4 h5 hb
  obtain ⟨c, rfl⟩ : ∃ c, c2 = c + 1 := ⟨c2 - 1, by have := mt h5 hb; omega⟩
  obtain ⟨n, rfl⟩ : ∃ n, bc = n + 1 := ⟨bc - 1, by omega⟩
  simp only [OffsetsReader.nextSize, Nat.add_one_ne_zero, or_self, ↓reduceIte, Nat.add_sub_cancel]
  by_cases hrun : c = 0 ∧ n ≠ 0
  · obtain ⟨rfl, hn⟩ := hrun
    cases rest with
    | nil => simp at h4; omega
    | cons e rest' =>
      have he := h3 e (by simp)
      rw [if_pos ⟨rfl, hn⟩]
      simp only [he, ne_eq, not_false_eq_true, and_self, ↓reduceIte]
      refine ⟨_, rfl, ⟨fun x hx => h3 x (mem_cons_of_mem _ hx), ?_, fun h => absurd h he.2⟩, rfl, rfl, by simp⟩
      rw [expand_cons, length_append, length_replicate, Nat.zero_add, Nat.add_comm 1] at h4
      exact Nat.succ.inj h4
  · rw [if_neg hrun]
    refine ⟨_, rfl, ⟨h3, ?_, fun hc => ?_⟩, rfl, rfl, by simp [replicate_succ]⟩
    · exact Nat.succ.inj (h4.trans (Nat.succ_add c _))
    · simp only at hc ⊢; subst hc; exact Decidable.byContradiction fun hn => hrun ⟨rfl, hn⟩

theorem RInv.expand_eq_nil {r : OffsetsReader} (h : RInv r) (hb : r.blockCount = 0) :
    expand (r.cur :: r.rest) = [] :=
  eq_nil_of_length_eq_zero (by rw [expand_cons, length_append, length_replicate, ← h.2.1, hb])

def offsetsFrom (o : Nat) : List Nat → List (Nat × Nat)
  | [] => []
  | s :: ss => (o, s) :: offsetsFrom (o + s) ss

theorem reads_of_RInv : ∀ (n : Nat) (r : OffsetsReader), RInv r → r.blockCount = n →
    r.take n = some (expand (r.cur :: r.rest)) ∧
      r.takeAt n = some (offsetsFrom r.outputSum (expand (r.cur :: r.rest)))
  | 0, r, h, hn => by
    rw [h.expand_eq_nil hn]; exact ⟨rfl, rfl⟩
  | n + 1, r, h, hn => by
    obtain ⟨r', hr, hinv, hb, hs, he⟩ := nextSize_of_RInv h (by omega)
    obtain ⟨ih1, ih2⟩ := reads_of_RInv n r' hinv (by omega)
    rw [OffsetsReader.take, OffsetsReader.takeAt, hr, he]
    simp only
    rw [ih1, ih2, hs]; exact ⟨rfl, rfl⟩

theorem offsetsEncode_spec (ls : List Nat) :
    ∃ r, offsetsEncode ls = some r ∧ RInv r ∧ r.outputSum = 0 ∧ expand (r.cur :: r.rest) = ls.filter (· ≠ 0) := by
  obtain ⟨tl, h1, h2, he, h4⟩ := WInv_foldl ls WInv_reset
  rw [nil_append] at he h4
  unfold offsetsEncode Offsets.finish
  rw [h1]
  simp only [drop_succ_cons, drop_zero]
  by_cases hb : (ls.foldl Offsets.append Offsets.reset).blockCount = 0
  · rw [if_pos hb]
    refine ⟨_, rfl, ⟨h2, ?_, fun _ => rfl⟩, rfl, by simp [he]⟩
    rw [he, ← h4, hb]
  · rw [if_neg hb]
    cases tl with
    | nil => rw [← he] at h4; exact absurd h4 hb
    | cons e rest =>
      have hnz := h2 e (mem_cons_self ..)
      simp only [hnz, ne_eq, not_false_eq_true, and_self, ↓reduceIte]
      refine ⟨_, rfl, ⟨fun x hx => h2 x (mem_cons_of_mem _ hx), ?_, fun h => absurd h hnz.2⟩, rfl, he⟩
      rw [h4, ← he, expand_cons, length_append, length_replicate]

theorem readAt_offsetsFrom {β : Type} (data : List β) : ∀ (lens : List Nat) (o : Nat),
    (offsetsFrom o lens).map (readAt data) = splitLens lens (data.drop o)
  | [], _ => rfl
  | s :: ss, o => by
    simp only [offsetsFrom, List.map_cons, splitLens, readAt, List.drop_drop]
    rw [readAt_offsetsFrom data ss (o + s)]

theorem storeRuns_eq {β : Type} (runs : List (List β)) : storeRuns runs = some (nonempties runs) := by
  obtain ⟨r, h1, hinv, h0, he⟩ := offsetsEncode_spec (runs.map List.length)
  unfold storeRuns storeRunsLogged
  rw [h1]
  simp only
  rw [(reads_of_RInv _ r hinv rfl).2, h0, he]
  simp only
  rw [readAt_offsetsFrom, drop_zero, map_length_nonempties, ← flatten_nonempties, splitLens_map_length]

end KV.Sort
