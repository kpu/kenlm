import Proofs.ScoreSpec
/-! `Table.build a unmarked`: its keys are the non-empty reversed prefixes of the n-grams (`build_lookup_ne_none`, `key_iff_prefix`),
a key extends left iff it has a child key, a key is a context iff it is the tail of a key — the facts the two builders (probing,
trie) prove their stored keys against; and it satisfies the interface `TableFor a` for every well-formed model and every set of
blanks that lose their extends-right mark (DESIGN §6-G). -/
namespace KV.Score
open KV.Arpa KV.Table KV.State

theorem any_entries_iff (a : Arpa) (P : List Word → Bool) :
    (a.entries.any fun p => P p.1) = true ↔ ∃ g, a.gram g ≠ none ∧ P g = true := by
  rw [List.any_eq_true]
  constructor
  · rintro ⟨⟨k, e⟩, hmem, h⟩
    exact ⟨k, mem_lookup_ne_none _ _ _ hmem, h⟩
  · rintro ⟨g, hg, h⟩
    obtain ⟨e, he⟩ := Option.ne_none_iff_exists'.mp hg
    exact ⟨(g, e), lookup_some_mem _ _ _ he, h⟩

theorem extendsLeft_iff (a : Arpa) (g : List Word) :
    extendsLeft a g = true ↔ ∃ p, a.gram p ≠ none ∧ g.length < p.length ∧ g <+: p := by
  rw [extendsLeft, any_entries_iff a fun p => decide (g.length < p.length) && g.isPrefixOf p]
  simp only [Bool.and_eq_true, decide_eq_true_eq, List.isPrefixOf_iff_prefix]

theorem hasLeftExtension_iff (a : Arpa) (g : List Word) :
    a.hasLeftExtension g = true ↔ ∃ p, a.gram p ≠ none ∧ p.length = g.length + 1 ∧ g <+: p := by
  rw [Arpa.hasLeftExtension, any_entries_iff a fun p => p.length == g.length + 1 && g.isPrefixOf p]
  simp only [Bool.and_eq_true, beq_iff_eq, List.isPrefixOf_iff_prefix]

theorem key_iff_prefix (a : Arpa) (g : List Word) :
    (a.gram g ≠ none ∨ extendsLeft a g = true) ↔ ∃ q, a.gram q ≠ none ∧ g <+: q := by
  rw [extendsLeft_iff]
  constructor
  · rintro (h | ⟨q, hq, _, hpre⟩)
    · exact ⟨g, h, List.prefix_refl g⟩
    · exact ⟨q, hq, hpre⟩
  · rintro ⟨q, hq, hpre⟩
    by_cases hr : a.gram g = none
    · exact .inr ⟨q, hq, Nat.lt_of_le_of_ne hpre.length_le fun e => hq (hpre.eq_of_length e ▸ hr), hpre⟩
    · exact .inl hr

theorem extendsLeft_iff_child (a : Arpa) (g : List Word) :
    extendsLeft a g = true ↔ ∃ w q, a.gram q ≠ none ∧ g ++ [w] <+: q := by
  rw [extendsLeft_iff]
  constructor
  · rintro ⟨p, hp, hl, ⟨ys, rfl⟩⟩
    cases ys with
    | nil => rw [List.append_nil] at hl; exact absurd hl (Nat.lt_irrefl _)
    | cons w ys => exact ⟨w, _, hp, ys, by simp⟩
  · rintro ⟨w, q, hq, hpre⟩
    have := hpre.length_le
    rw [List.length_append] at this
    exact ⟨q, hq, this, (List.prefix_append g [w]).trans hpre⟩

theorem isContext_iff (a : Arpa) (c : List Word) :
    isContext a c = true ↔ ∃ p, a.gram p ≠ none ∧ c.length < p.length ∧ c <+: p.tail := by
  rw [isContext, any_entries_iff a fun p => decide (c.length < p.length) && c.isPrefixOf p.tail]
  simp only [Bool.and_eq_true, decide_eq_true_eq, List.isPrefixOf_iff_prefix]

theorem isContext_iff_key (a : Arpa) (c : List Word) :
    isContext a c = true ↔ ∃ x q, a.gram q ≠ none ∧ x :: c <+: q := by
  rw [isContext_iff]
  constructor
  · rintro ⟨p, hp, hl, hpre⟩
    cases p with
    | nil => cases hl
    | cons x t => exact ⟨x, x :: t, hp, (List.prefix_cons_inj x).mpr hpre⟩
  · rintro ⟨x, q, hq, ⟨t, rfl⟩⟩
    exact ⟨_, hq, by simp only [List.cons_append, List.length_cons, List.length_append]; omega, t, rfl⟩

theorem isContext_of_real (a : Arpa) (g : List Word) (x : Word) (h : a.gram (x :: g) ≠ none) : isContext a g = true :=
  (isContext_iff_key a g).mpr ⟨x, x :: g, h, List.prefix_refl _⟩

theorem build_lookup_real {a : Arpa} (um : List Word → Bool) {w : Word} {ctx : List Word} {e : Entry}
    (hg : a.gram (w :: ctx) = some e) :
    (build a um).lookup (w :: ctx) =
      some { prob := e.prob, backoff := e.backoff, extendsLeft := extendsLeft a (w :: ctx),
             extendsRight := e.backoff != 0 || isContext a (w :: ctx) || (a.unkHallucinated && (w :: ctx) == [0]),
             blank := false } := by
  simp only [build, hg]

theorem build_lookup_blank {a : Arpa} (um : List Word → Bool) {w : Word} {ctx : List Word}
    (hg : a.gram (w :: ctx) = none) :
    (build a um).lookup (w :: ctx) =
      if extendsLeft a (w :: ctx) then
        some { prob := score a ctx w, backoff := 0, extendsLeft := true,
               extendsRight := isContext a (w :: ctx) && !um (w :: ctx), blank := true }
      else none := by
  simp only [build, hg]

theorem build_lookup_ne_none (a : Arpa) (um : List Word → Bool) (g : List Word) :
    (build a um).lookup g ≠ none ↔ g ≠ [] ∧ (a.gram g ≠ none ∨ extendsLeft a g = true) := by
  cases g with
  | nil => simp [build]
  | cons w ctx =>
    cases hg : a.gram (w :: ctx) with
    | some e => rw [build_lookup_real um hg]; simp
    | none => rw [build_lookup_blank um hg]; by_cases hx : extendsLeft a (w :: ctx) = true <;> simp [hx]

theorem build_tableFor (a : Arpa) (wf : WellFormed a) (um : List Word → Bool) : TableFor a (build a um) := by
  have key : ∀ g x, (build a um).lookup (g ++ [x]) ≠ none → extendsLeft a g = true := fun g x h =>
    (extendsLeft_iff_child a g).mpr ⟨x, (key_iff_prefix a _).mp ((build_lookup_ne_none a um _).mp h).2⟩
  refine { order_ge := wf.order_ge, prefix_closed := ?_, xl_sound := ?_, len_le := ?_, order_eq := rfl,
           real := ?_, blank := ?_, xr_live := ?_, nil_none := rfl }
  · intro g x hg h
    rw [build_lookup_ne_none]
    exact ⟨hg, Or.inr (key g x h)⟩
  · intro g x t ht hxl
    cases g with
    | nil => cases ht
    | cons w ctx =>
      apply Classical.byContradiction; intro hne
      have hx := key (w :: ctx) x hne
      cases hg : a.gram (w :: ctx) with
      | some e => rw [build_lookup_real um hg] at ht; cases ht; exact Bool.false_ne_true (hxl.symm.trans hx)
      | none => rw [build_lookup_blank um hg, if_pos hx] at ht; cases ht; cases hxl
  · intro g h
    obtain ⟨q, hq, hpre⟩ := (key_iff_prefix a g).mp ((build_lookup_ne_none a um g).mp h).2
    exact Nat.le_trans hpre.length_le (wf.len_le q hq)
  · intro g e hg
    cases g with
    | nil => exact absurd rfl (wf.len_pos [] (by rw [hg]; exact Option.some_ne_none e))
    | cons w ctx => exact ⟨_, build_lookup_real um hg, rfl, rfl⟩
  · intro w ctx t ht hg
    rw [build_lookup_blank um hg] at ht
    by_cases hx : extendsLeft a (w :: ctx) = true
    · rw [if_pos hx] at ht; cases ht; exact ⟨rfl, rfl⟩
    · rw [if_neg hx] at ht; cases ht
  · intro g t ht hlive
    obtain ⟨e, he, hor⟩ := hlive
    cases g with
    | nil => cases ht
    | cons w ctx =>
      rw [build_lookup_real um he] at ht
      cases ht
      rcases hor with hb | ⟨x, hx⟩
      · simp [hb]
      · simp [isContext_of_real a _ x hx]

end KV.Score
