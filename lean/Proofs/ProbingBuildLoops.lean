import Proofs.ProbingBuildView
/-! The loops of one line of the builder on the key-indexed view, for either build mode: `findLower`, `fillBlanks`, `markChain`,
`AdjustLower`, `MarkLower`, `activate` as sequences of updates of the payload function (`applyUpd`, `fillUpd`, `markUpd`,
`lowerMarked`), and what such a sequence leaves at one key (`fill_other`, `fill_ctx`, `fill_blank`, `mark_other`). -/
namespace KV.ProbingBuild
open KV.Arpa KV.Table KV.Score KV.ProbingLM

def applyUpd (want : Key → W) : List (Key × (W → W)) → Key → W
  | [] => want
  | u :: us => applyUpd (updW want u.1 (u.2 (want u.1))) us

theorem applyUpd_append (us vs : List (Key × (W → W))) : ∀ want, applyUpd want (us ++ vs) = applyUpd (applyUpd want us) vs := by
  induction us with
  | nil => intro want; rfl
  | cons u us ih => intro want; exact ih _

/-- `FindLower` on a chain: the keys of orders `b+1 .. f+1` are appended as blanks, the basis (order `b`) is found -/
theorem findLower_chain (combine : Nat → Word → Nat) (N : Nat) (caps : Nat → Nat) (U : Nat) (p : Key) (b : Nat) (hb : 1 ≤ b) :
    ∀ (f : Nat) (s : St) (Ks : Nat → List Key) (want : Key → W) (between : List Ref),
      StP combine N caps U s Ks want → f + 1 < N → b ≤ f + 1 → f + 1 ≤ p.length →
      (b = 1 ∨ p.take b ∈ Ks b) → (b = 1 → p.headD 0 < U) →
      (∀ j, b < j → j ≤ f + 1 → p.take j ∉ Ks j ∧ (∀ k' ∈ Ks j, hashOf combine k' ≠ hashOf combine (p.take j)) ∧
        (Ks j).length + 1 < caps j) →
      ∃ s' refs Ks' want', findLower combine p f s between = .ok (s', between ++ refs) ∧
        StP combine N caps U s' Ks' want' ∧
        (∀ m, Ks' m = if b < m ∧ m ≤ f + 1 then Ks m ++ [p.take m] else Ks m) ∧
        (∀ k, want' k = if SufIn p (b + 1) (f + 1) k then blankW else want k) ∧
        refs.length = f + 2 - b ∧ ∀ i (hi : i < refs.length), Den N U Ks' refs[i] (p.take (f + 1 - i)) := by
  intro f
  induction f with
  | zero =>
    intro s Ks want between h _ hbf hpl _ hU _
    have hb1 : b = 1 := Nat.le_antisymm hbf hb
    have hU0 := hU hb1
    subst hb1
    refine ⟨s, [.uni (p.headD 0)], Ks, want, rfl, h, ?_, ?_, rfl, ?_⟩
    · intro m; rw [if_neg fun c => Nat.lt_irrefl _ (Nat.lt_of_lt_of_le c.1 c.2)]
    · intro k; rw [if_neg fun c => Nat.lt_irrefl _ (Nat.lt_of_lt_of_le c.1 c.2.1)]
    · intro i hi
      have hi0 : i = 0 := Nat.lt_one_iff.mp hi
      subst hi0
      exact ⟨take_one_headD p hpl, hU0⟩
  | succ f ih =>
    intro s Ks want between h hfN hbf hpl hbasis hU hmiss
    have hml : f < s.mid.length := by rw [h.midlen]; exact Nat.lt_sub_of_add_lt hfN
    by_cases hbe : b = f + 2
    · -- the key of order `f+2` is stored: it is the basis
      subst hbe
      have hmem : p.take (f + 2) ∈ Ks (f + 2) :=
        hbasis.elim (fun h1 => absurd (Nat.succ.inj h1) (Nat.succ_ne_zero f)) id
      obtain ⟨i, hden, hfoi, _⟩ := stP_lookup h (f + 2) (Nat.le_add_left 2 f) hfN _ hmem
      have hfoi := hfoi blankW
      simp only [Nat.add_sub_cancel] at hfoi hden
      refine ⟨s, [.mid f i], Ks, want, ?_, h, ?_, ?_, by simp, ?_⟩
      · simp only [findLower, hfoi, bind, Except.bind, if_true]
        have := setMid_self s f hml
        unfold setMid at this
        rw [this]
      · intro m; rw [if_neg fun c => Nat.lt_irrefl _ (Nat.lt_of_lt_of_le c.1 c.2)]
      · intro k; rw [if_neg fun c => Nat.lt_irrefl _ (Nat.lt_of_lt_of_le c.1 c.2.1)]
      · intro i' hi'
        have hi0 : i' = 0 := by simpa using hi'
        subst hi0
        exact hden
    · have hb2 : b < f + 2 := Nat.lt_of_le_of_ne hbf hbe
      have hlk : (p.take (f + 2)).length = f + 2 := List.length_take_of_le hpl
      obtain ⟨hnew, hfresh, hcap⟩ := hmiss (f + 2) hb2 (Nat.le_refl _)
      obtain ⟨o', hfoi, h1⟩ := stP_findOrInsert_new h (f + 2) (Nat.le_add_left 2 f) hfN (p.take (f + 2)) hlk blankW hnew hfresh hcap
      simp only [Nat.add_sub_cancel] at hfoi h1
      obtain ⟨s', refs, Ks', want', hfl, h', hKs', hw', hrl, hden⟩ := ih (setMid s f o') _ _
        (between ++ [.mid f (Ks (f + 2)).length]) h1 (Nat.lt_of_succ_lt hfN) (Nat.le_of_lt_succ hb2) (Nat.le_of_succ_le hpl)
        (hbasis.imp_right fun hb1 => by rw [if_neg hbe]; exact hb1)
        hU
        (fun j hj1 hj2 => by rw [if_neg (Nat.ne_of_lt (Nat.lt_succ_of_le hj2))]; exact hmiss j hj1 (Nat.le_succ_of_le hj2))
      refine ⟨s', .mid f (Ks (f + 2)).length :: refs, Ks', want', ?_, h', ?_, ?_,
        by rw [List.length_cons, hrl]; exact (Nat.succ_sub (Nat.le_of_lt hb2)).symm, ?_⟩
      · simp only [findLower, hfoi, bind, Except.bind, Bool.false_eq_true, if_false]
        have := hfl
        simp only [setMid, List.append_assoc, List.singleton_append] at this
        exact this
      · clear hrl
        intro m
        rw [hKs' m]
        by_cases hm : m = f + 2
        · subst hm
          rw [if_neg (fun c => Nat.not_succ_le_self _ c.2), if_pos rfl, if_pos ⟨hb2, Nat.le_refl _⟩]
        · simp only [if_neg hm, interval_succ hm]
      · clear hrl
        intro k
        rw [hw' k]
        unfold updW
        by_cases hk : k = p.take (f + 2)
        · have hkl : k.length = f + 2 := hk ▸ hlk
          rw [if_neg (fun c => Nat.not_succ_le_self (f + 1) (Nat.le_trans (Nat.le_of_eq hkl.symm) c.2.1)), if_pos hk, if_pos ⟨hkl ▸ hb2, Nat.le_of_eq hkl, hkl ▸ hk⟩]
        · simp only [if_neg hk, sufIn_succ hk]
      · intro i hi
        cases i with
        | zero =>
          have hk2 := hKs' (f + 2)
          rw [if_neg (fun c => Nat.not_succ_le_self _ c.2), if_pos rfl] at hk2
          exact ⟨hfN, by rw [hk2]; simp, by simp [hk2]⟩
        | succ i =>
          have := hden i (Nat.lt_of_succ_lt_succ hi)
          rw [Nat.add_sub_add_right]
          exact this

/-- the updates of the blank-probability loop of `AdjustLower`, from order `β` with `c` blanks to fill: the context of order `β`
gets its extension bit, the blank of order `β + 1` the probability so far plus that context's back-off (and, under
`MaxRestBuild`, `rest` = that probability) -/
def fillUpd (rest : Bool) (want : Key → W) (p : Key) : Nat → Nat → Rat → List (Key × (W → W))
  | 0, _, _ => []
  | c+1, β, prob =>
    (((p.drop 1).take β, setExtension) : Key × (W → W)) ::
      ((p.take (β + 1), fun w => setRest rest (setProb w (prob + (setExtension (want ((p.drop 1).take β))).backoff))) : Key × (W → W)) ::
      fillUpd rest want p c (β + 1) (prob + (setExtension (want ((p.drop 1).take β))).backoff)

/-- `fillUpd false` and `fillUpd true` written out (`fillUpd_false`, `fillUpd_true`): `fillUsT` is the spelling of the statements in
Properties/C03ProbingBuild.lean, `fillUs` that of `chainWant` -/
def fillUs (want : Key → W) (p : Key) : Nat → Nat → Rat → List (Key × (W → W))
  | 0, _, _ => []
  | c+1, β, prob =>
    (((p.drop 1).take β, setExtension) : Key × (W → W)) ::
      ((p.take (β + 1), fun w => setProb w (prob + (setExtension (want ((p.drop 1).take β))).backoff)) : Key × (W → W)) ::
      fillUs want p c (β + 1) (prob + (setExtension (want ((p.drop 1).take β))).backoff)

def fillUsT (want : Key → W) (p : Key) : Nat → Nat → Rat → List (Key × (W → W))
  | 0, _, _ => []
  | c+1, β, prob =>
    (((p.drop 1).take β, setExtension) : Key × (W → W)) ::
      ((p.take (β + 1), fun w => setRest true (setProb w (prob + (setExtension (want ((p.drop 1).take β))).backoff))) : Key × (W → W)) ::
      fillUsT want p c (β + 1) (prob + (setExtension (want ((p.drop 1).take β))).backoff)

theorem fillUpd_false (want : Key → W) (p : Key) : ∀ (c β : Nat) (prob : Rat), fillUpd false want p c β prob = fillUs want p c β prob := by
  intro c
  induction c with
  | zero => intro _ _; rfl
  | succ c ih => intro β prob; unfold fillUpd fillUs; rw [ih]; rfl

theorem fillUpd_true (want : Key → W) (p : Key) : ∀ (c β : Nat) (prob : Rat), fillUpd true want p c β prob = fillUsT want p c β prob := by
  intro c
  induction c with
  | zero => intro _ _; rfl
  | succ c ih => intro β prob; unfold fillUpd fillUsT; rw [ih]

theorem fillUpd_congr (rest : Bool) (want want' : Key → W) (p : Key) : ∀ (c β : Nat) (prob : Rat),
    (∀ j, β ≤ j → j < β + c → want' ((p.drop 1).take j) = want ((p.drop 1).take j)) →
    fillUpd rest want' p c β prob = fillUpd rest want p c β prob := by
  intro c
  induction c with
  | zero => intro β prob _; rfl
  | succ c ih =>
    intro β prob h
    unfold fillUpd
    rw [h β (Nat.le_refl _) (Nat.lt_add_of_pos_right (Nat.succ_pos c)),
      ih (β + 1) _ fun j h1 h2 => h j (Nat.le_of_succ_le h1) (by rw [← Nat.succ_add_eq_add_succ]; exact h2)]

/-! What the fill updates from order `β` with `c` blanks (`β + c = J`) leave at one key `k`; `want` is the payload function the
loop reads the back-offs from, `want0` the one the updates are applied to, `b` the order the loop started from.  The updates touch the
contexts `(p.drop 1).take j`, `β ≤ j < J`, and the blanks `p.take j`, `β < j ≤ J`. -/

theorem fill_other (rest : Bool) (want : Key → W) (p k : Key) (J : Nat) : ∀ (c β : Nat) (prob : Rat) (want0 : Key → W), β + c = J →
    (∀ j, β ≤ j → j < J → k ≠ (p.drop 1).take j) → (∀ j, β < j → j ≤ J → k ≠ p.take j) →
    applyUpd want0 (fillUpd rest want p c β prob) k = want0 k := by
  intro c
  induction c with
  | zero => intro _ _ _ _ _ _; rfl
  | succ c ih =>
    intro β prob want0 hJ h1 h2
    have hβ : β < J := hJ ▸ Nat.lt_add_of_pos_right (Nat.succ_pos c)
    show applyUpd _ (fillUpd rest want p c (β + 1) _) k = _
    rw [ih (β + 1) _ _ (by rw [Nat.succ_add_eq_add_succ]; exact hJ) (fun j a => h1 j (Nat.le_of_succ_le a))
      (fun j a => h2 j (Nat.lt_of_succ_lt a))]
    simp only [updW, if_neg (h1 β (Nat.le_refl _) hβ), if_neg (h2 (β + 1) (Nat.lt_succ_self β) hβ)]

theorem fill_ctx (rest : Bool) (want : Key → W) (p k : Key) (J : Nat) (hJp : J ≤ p.length) (j : Nat) (hjJ : j < J) (hk : k = (p.drop 1).take j)
    (b : Nat) (hnb : ∀ j', b < j' → j' ≤ J → k ≠ p.take j') :
    ∀ (c β : Nat) (prob : Rat) (want0 : Key → W), β + c = J → b ≤ β → β ≤ j →
    applyUpd want0 (fillUpd rest want p c β prob) k = setExtension (want0 k) := by
  have hne : ∀ j', j' ≠ j → j' < J → k ≠ (p.drop 1).take j' := fun j' hj hl he => by
    have := congrArg List.length (hk.symm.trans he)
    rw [length_ctx_take p j (Nat.lt_of_lt_of_le hjJ hJp), length_ctx_take p j' (Nat.lt_of_lt_of_le hl hJp)] at this
    exact hj this.symm
  intro c
  induction c with
  | zero => intro β _ _ hJ _ h1; exact absurd (Nat.lt_of_lt_of_le hjJ (Nat.le_of_eq hJ.symm)) (Nat.not_lt_of_le h1)
  | succ c ih =>
    intro β prob want0 hJ hb h1
    have hβ : β < J := hJ ▸ Nat.lt_add_of_pos_right (Nat.succ_pos c)
    have hJ' : β + 1 + c = J := by rw [Nat.succ_add_eq_add_succ]; exact hJ
    have e2 := hnb (β + 1) (Nat.lt_succ_of_le hb) hβ
    show applyUpd _ (fillUpd rest want p c (β + 1) _) k = _
    rcases Nat.eq_or_lt_of_le h1 with hj | hj
    · subst hj
      rw [fill_other rest want p k J c (β + 1) _ _ hJ' (fun j' a => hne j' (Nat.ne_of_gt a))
        (fun j' a => hnb j' (Nat.lt_of_le_of_lt (Nat.le_succ_of_le hb) a))]
      simp only [updW, if_neg e2, ← hk, if_true]
    · rw [ih (β + 1) _ _ hJ' (Nat.le_succ_of_le hb) hj]
      simp only [updW, if_neg e2, if_neg (hne β (Nat.ne_of_lt hj) hβ)]

/-- the probability stored into the blank of order `β+i` -/
def vAt (want : Key → W) (p : Key) : Nat → Nat → Rat → Rat
  | 0, _, prob => prob
  | i+1, β, prob => vAt want p i (β + 1) (prob + (setExtension (want ((p.drop 1).take β))).backoff)

theorem fill_blank (rest : Bool) (want : Key → W) (p k : Key) (J : Nat) (hJp : J ≤ p.length) (b : Nat)
    (hnc : ∀ j, b ≤ j → j < J → k ≠ (p.drop 1).take j) :
    ∀ (c β : Nat) (prob : Rat) (want0 : Key → W) (i : Nat), β + c = J → b ≤ β → i < c → k = p.take (β + i + 1) →
    applyUpd want0 (fillUpd rest want p c β prob) k = setRest rest (setProb (want0 k) (vAt want p (i + 1) β prob)) := by
  intro c
  induction c with
  | zero => intro _ _ _ i _ _ hi; exact absurd hi (Nat.not_lt_zero i)
  | succ c ih =>
    intro β prob want0 i hJ hb hi hk
    have hβ : β < J := hJ ▸ Nat.lt_add_of_pos_right (Nat.succ_pos c)
    have hJ' : β + 1 + c = J := by rw [Nat.succ_add_eq_add_succ]; exact hJ
    have hiJ : β + i + 1 ≤ J := hJ ▸ Nat.add_lt_add_left hi β
    have hne : ∀ j, j ≠ β + i + 1 → j ≤ J → k ≠ p.take j := fun j hj hl he => by
      have := congrArg List.length (hk.symm.trans he)
      rw [List.length_take_of_le (Nat.le_trans hiJ hJp), List.length_take_of_le (Nat.le_trans hl hJp)] at this
      exact hj this.symm
    show applyUpd _ (fillUpd rest want p c (β + 1) _) k = _
    cases i with
    | zero =>
      rw [fill_other rest want p k J c (β + 1) _ _ hJ' (fun j a => hnc j (Nat.le_trans hb (Nat.le_of_succ_le a)))
        (fun j a => hne j (Nat.ne_of_gt a))]
      simp only [updW, if_neg (hnc β hb hβ), ← hk, if_true, vAt]
    | succ i =>
      rw [ih (β + 1) _ _ i hJ' (Nat.le_succ_of_le hb) (Nat.lt_of_succ_lt_succ hi) (by rw [hk, Nat.succ_add_eq_add_succ])]
      simp only [updW, if_neg (hnc β hb hβ), if_neg (hne (β + 1) (by omega) hβ), vAt]

/-- one round of the blank-probability loop: the context (at `rc`) gets its extension bit, the blank (at `ch`) the probability;
the later rounds read contexts that neither update touches -/
theorem stP_fill_step (rest : Bool) {combine : Nat → Word → Nat} {N : Nat} {caps : Nat → Nat} {U : Nat} {s : St} {Ks : Nat → List Key}
    {want : Key → W} (h : StP combine N caps U s Ks want) (p : Key) (β c : Nat) (prob : Rat) (rc ch : Ref)
    (hdc : Den N U Ks rc ((p.drop 1).take β)) (hd0 : Den N U Ks ch (p.take (β + 1)))
    (hfar : ∀ j, β < j → j < β + 1 + c → (p.drop 1).take j ≠ (p.drop 1).take β ∧ (p.drop 1).take j ≠ p.take (β + 1)) :
    ((s.modify rc setExtension).get rc).backoff = (setExtension (want ((p.drop 1).take β))).backoff ∧
    ∃ want2, StP combine N caps U ((s.modify rc setExtension).modify ch
        (fun w => setRest rest (setProb w (prob + (setExtension (want ((p.drop 1).take β))).backoff)))) Ks want2 ∧
      applyUpd want2 (fillUpd rest want2 p c (β + 1) (prob + (setExtension (want ((p.drop 1).take β))).backoff)) =
        applyUpd want (fillUpd rest want p (c + 1) β prob) := by
  have h1 := stP_modify h rc _ hdc setExtension
  refine ⟨by rw [stP_get h1 rc _ hdc]; simp [updW], _, stP_modify h1 ch _ hd0 _, ?_⟩
  rw [fillUpd_congr rest want _ p c (β + 1) _ fun j h1 h2 => by
    rw [updW, if_neg (hfar j h1 h2).2, updW, if_neg (hfar j h1 h2).1]]
  rfl

/-- the blank-probability loop from order `β` up to `J`; `b0` is the order the loop started from -/
theorem fillBlanks_chain (rest : Bool) (combine : Nat → Word → Nat) (N : Nat) (caps : Nat → Nat) (U : Nat) (p : Key) (Ks : Nat → List Key)
    (b0 J : Nat) (hb0 : 2 ≤ b0) (hJN : J < N)
    (hctx : ∀ j, b0 ≤ j → j < J → (p.drop 1).take j ∈ Ks j)
    (hne : ∀ j j', b0 ≤ j → j < J → b0 < j' → j' ≤ J → (p.drop 1).take j ≠ p.take j') :
    ∀ (changes : List Ref) (β : Nat) (prob : Rat) (s : St) (want : Key → W),
      StP combine N caps U s Ks want → b0 ≤ β → β + changes.length = J →
      (∀ i (hi : i < changes.length), Den N U Ks changes[i] (p.take (β + i + 1))) →
      ∃ s', fillBlanks combine rest p changes β prob s = .ok s' ∧
        StP combine N caps U s' Ks (applyUpd want (fillUpd rest want p changes.length β prob)) := by
  intro changes
  induction changes with
  | nil => intro β prob s want h _ _ _; exact ⟨s, rfl, h⟩
  | cons ch more ih =>
    intro β prob s want h hb hJ hden
    have hβJ : β < J := hJ ▸ Nat.lt_add_of_pos_right (Nat.succ_pos _)
    have hJ' : β + 1 + more.length = J := by rw [Nat.succ_add_eq_add_succ]; exact hJ
    have hc0 := hctx β hb hβJ
    obtain ⟨ic, hdc, _, hfind⟩ := stP_lookup h β (Nat.le_trans hb0 hb) (Nat.lt_trans hβJ hJN) _ hc0
    obtain ⟨hpr, want2, h2, heq⟩ := stP_fill_step rest h p β more.length prob _ ch hdc (hden 0 (Nat.succ_pos _)) fun j h1 h2 => by
      have hlt : j < J := hJ' ▸ h2
      have hle : b0 ≤ j := Nat.le_trans hb (Nat.le_of_lt h1)
      refine ⟨fun he => ?_, hne _ _ hle hlt (Nat.lt_succ_of_le hb) hβJ⟩
      have hl := h.klen _ _ (hctx _ hle hlt)
      rw [he, h.klen _ _ hc0] at hl
      exact Nat.ne_of_lt h1 hl
    obtain ⟨s', hfb, h'⟩ := ih (β + 1) (prob + (setExtension (want ((p.drop 1).take β))).backoff) _ want2 h2
      (Nat.le_succ_of_le hb) hJ' (fun i hi => by
        have := hden (i + 1) (Nat.succ_lt_succ hi)
        rw [Nat.succ_add_eq_add_succ]; exact this)
    refine ⟨s', ?_, heq ▸ h'⟩
    simp only [fillBlanks, hfind, bind, Except.bind, hpr]
    exact hfb

/-- the updates of the marking loop at the end of `AdjustLower`: `MarkExtends(·, longerRest)` along the keys, `longerRest` being
the `rest` of the key before (under `NoRestBuild` every key just has its sign cleared, `markUpd_false`) -/
def markUpd (rest : Bool) (want : Key → W) : List Key → Rat → List (Key × (W → W))
  | [], _ => []
  | k :: ks, lr => (k, fun w => (markExtends rest w lr).1) :: markUpd rest want ks (markExtends rest (want k) lr).1.rest

/-- `markUpd true` written out (`markUpd_true`): the spelling of the statements in Properties/C03ProbingBuild.lean -/
def markUsT (want : Key → W) : List Key → Rat → List (Key × (W → W))
  | [], _ => []
  | k :: ks, lr => (k, fun w => (markExtends true w lr).1) :: markUsT want ks (markExtends true (want k) lr).1.rest

theorem markUpd_true (want : Key → W) : ∀ (keys : List Key) (lr : Rat), markUpd true want keys lr = markUsT want keys lr
  | [], _ => rfl
  | k :: ks, lr => by unfold markUpd markUsT; rw [markUpd_true want ks]

theorem markUpd_false (want : Key → W) : ∀ (keys : List Key) (lr : Rat), markUpd false want keys lr = keys.map fun k => (k, clr)
  | [], _ => rfl
  | k :: ks, lr => by unfold markUpd; rw [markUpd_false want ks]; rfl

theorem markUpd_congr (rest : Bool) (want want' : Key → W) : ∀ (keys : List Key) (lr : Rat), (∀ k ∈ keys, want' k = want k) →
    markUpd rest want' keys lr = markUpd rest want keys lr := by
  intro keys
  induction keys with
  | nil => intro lr _; rfl
  | cons k ks ih =>
    intro lr h
    simp only [markUpd]
    rw [h k (by simp), ih _ (fun k' hk' => h k' (List.mem_cons_of_mem _ hk'))]

theorem mark_other (rest : Bool) (want : Key → W) (k : Key) : ∀ (keys : List Key) (lr : Rat) (want0 : Key → W), k ∉ keys →
    applyUpd want0 (markUpd rest want keys lr) k = want0 k := by
  intro keys
  induction keys with
  | nil => intro lr want0 _; rfl
  | cons k0 ks ih =>
    intro lr want0 hk
    show applyUpd _ (markUpd rest want ks _) k = _
    rw [ih _ _ (fun h => hk (List.mem_cons_of_mem _ h))]
    exact if_neg fun he : k = k0 => hk (he ▸ List.mem_cons_self)

theorem mark_eval (rest : Bool) (want : Key → W) : ∀ (keys : List Key) (lr : Rat) (want0 : Key → W) (k : Key),
    upTo rest (applyUpd want0 (markUpd rest want keys lr) k) = upTo rest (if k ∈ keys then clr (want0 k) else want0 k) := by
  intro keys
  induction keys with
  | nil => intro lr want0 k; simp [applyUpd, markUpd]
  | cons k0 ks ih =>
    intro lr want0 k
    show upTo rest (applyUpd (updW want0 k0 _) (markUpd rest want ks _) k) = _
    rw [ih]
    by_cases hk : k = k0
    · subst hk
      rw [if_pos List.mem_cons_self, updW, if_pos rfl]
      split
      · show upTo rest (clr (markExtends rest (want0 k) lr).1) = upTo rest (clr (clr (want0 k)))
        exact upTo_clr (upTo_markExtends rest _ lr)
      · exact upTo_markExtends rest (want0 k) lr
    · rw [updW, if_neg hk]
      simp only [List.mem_cons, hk, false_or]

theorem markChain_chain (rest : Bool) (combine : Nat → Word → Nat) (N : Nat) (caps : Nat → Nat) (U : Nat) (Ks : Nat → List Key) :
    ∀ (refs : List Ref) (keys : List Key) (lr : Rat) (s : St) (want : Key → W),
      StP combine N caps U s Ks want → refs.length = keys.length →
      (∀ i (hi : i < refs.length) (hi' : i < keys.length), Den N U Ks refs[i] keys[i]) → keys.Nodup →
      StP combine N caps U (markChain rest refs lr s) Ks (applyUpd want (markUpd rest want keys lr)) := by
  intro refs
  induction refs with
  | nil =>
    intro keys lr s want h hl _ _
    cases keys with
    | nil => exact h
    | cons k ks => simp at hl
  | cons r more ih =>
    intro keys lr s want h hl hden hnd
    cases keys with
    | nil => simp at hl
    | cons k ks =>
      have hd0 := hden 0 (by simp) (by simp)
      simp only [List.getElem_cons_zero] at hd0
      have h1 := stP_modify h r k hd0 (fun w => (markExtends rest w lr).1)
      have hget := stP_get h1 r k hd0
      rw [updW, if_pos rfl] at hget
      have hnd' := List.nodup_cons.mp hnd
      have := ih ks ((s.modify r (fun w => (markExtends rest w lr).1)).get r).rest _ _ h1 (by simpa using hl)
        (fun i hi hi' => by
          have := hden (i + 1) (by simp; omega) (by simp; omega)
          simpa using this) hnd'.2
      rw [show markUpd rest (updW want k _) ks ((s.modify r (fun w => (markExtends rest w lr).1)).get r).rest =
          markUpd rest want ks (markExtends rest (want k) lr).1.rest by
        rw [hget]; exact markUpd_congr rest want _ ks _ fun k' hk' => if_neg fun he : k' = k => hnd'.1 (he ▸ hk')] at this
      exact this

theorem adjustLower_fill (combine : Nat → Word → Nat) (rest : Bool) (ar : Rat) (g : List Word) (n : Nat) (between : List Ref) (s : St)
    (h : 2 ≤ between.length) (hb : n - between.length ≠ 1) :
    adjustLower combine rest ar g n between s =
      (fillBlanks combine rest g (between.dropLast).reverse (n - between.length) (-(s.get (between.getLastD (.uni 0))).mag) s >>=
        fun s2 => .ok (markChain rest between ar s2)) := by
  have hb' : (n - between.length == 1) = false := by simpa using hb
  match between, h with
  | _ :: _ :: _, _ => simp only [adjustLower, hb', Bool.false_eq_true, if_false, bind, Except.bind]

theorem adjustLower_fill_uni (combine : Nat → Word → Nat) (rest : Bool) (ar : Rat) (g : List Word) (n : Nat) (between : List Ref) (s : St)
    (ch : Ref) (more : List Ref) (hb : n - between.length = 1) (hch : (between.dropLast).reverse = ch :: more) :
    adjustLower combine rest ar g n between s =
      (fillBlanks combine rest g more 2
          (-(s.get (between.getLastD (.uni 0))).mag + ((s.modify (.uni (g.getD 1 0)) setExtension).get (.uni (g.getD 1 0))).backoff)
          (((s.modify (.uni (g.getD 1 0)) setExtension).modify ch (fun w => setRest rest (setProb w
            (-(s.get (between.getLastD (.uni 0))).mag + ((s.modify (.uni (g.getD 1 0)) setExtension).get (.uni (g.getD 1 0))).backoff))))) >>=
        fun s2 => .ok (markChain rest between ar s2)) := by
  match between, hch with
  | _ :: _ :: _, hch => simp only [adjustLower, hb, hch, BEq.rfl, if_true, bind, Except.bind]
  | [_], hch => simp at hch
  | [], hch => simp at hch

/-- keys denoted by the references `FindLower` returns: orders `b+L` down to `b` -/
def chainKeys (p : Key) (b L : Nat) : List Key := (List.range (L + 1)).map fun i => p.take (b + L - i)

theorem chainKeys_nodup (p : Key) (b L : Nat) (h : b + L ≤ p.length) : (chainKeys p b L).Nodup := by
  unfold chainKeys
  rw [List.Nodup, List.pairwise_map]
  refine List.Pairwise.imp_of_mem ?_ (List.nodup_range (n := L + 1))
  intro i j hi hj hne he
  simp only [List.mem_range] at hi hj
  have := congrArg List.length he
  rw [List.length_take, List.length_take] at this
  omega

theorem mem_chainKeys (p : Key) (b L : Nat) (k : Key) : k ∈ chainKeys p b L ↔ ∃ j, b ≤ j ∧ j ≤ b + L ∧ k = p.take j := by
  unfold chainKeys
  simp only [List.mem_map, List.mem_range]
  constructor
  · rintro ⟨i, hi, he⟩
    exact ⟨b + L - i, Nat.le_sub_of_add_le (Nat.add_le_add_left (Nat.le_of_lt_succ hi) b), Nat.sub_le _ _, he.symm⟩
  · rintro ⟨j, h1, h2, he⟩
    refine ⟨b + L - j, Nat.lt_succ_of_le (Nat.sub_le_iff_le_add.mpr ?_), by rw [he, Nat.sub_sub_self h2]⟩
    rw [Nat.add_comm b L]
    exact Nat.add_le_add_left h1 L

/-- `AdjustLower` on a chain of `L` blanks over a basis of order `b`: the fill updates, then the marks (without a blank only
the mark on the basis) -/
theorem adjustLower_chain (rest : Bool) (combine : Nat → Word → Nat) (N : Nat) (caps : Nat → Nat) (U : Nat) (p : Key) (Ks : Nat → List Key)
    (b L : Nat) (hb : 1 ≤ b) (hnN : b + L + 1 ≤ N) (hplen : b + L ≤ p.length)
    (s : St) (want : Key → W) (h : StP combine N caps U s Ks want)
    (refs : List Ref) (hrl : refs.length = L + 1)
    (hden : ∀ i (hi : i < refs.length), Den N U Ks refs[i] (p.take (b + L - i)))
    (hctx : ∀ j, 2 ≤ j → b ≤ j → j < b + L → (p.drop 1).take j ∈ Ks j)
    (hctx1 : b = 1 → (p.drop 1).take 1 = [p.getD 1 0] ∧ p.getD 1 0 < U)
    (hne : ∀ j j', b ≤ j → j < b + L → b < j' → j' ≤ b + L → (p.drop 1).take j ≠ p.take j')
    (ar : Rat) :
    ∃ s', adjustLower combine rest ar p (b + L + 1) refs s = .ok s' ∧
      StP combine N caps U s' Ks (applyUpd (applyUpd want (fillUpd rest want p L b (-(want (p.take b)).mag)))
        (markUpd rest (applyUpd want (fillUpd rest want p L b (-(want (p.take b)).mag))) (chainKeys p b L) ar)) := by
  rcases Nat.eq_zero_or_pos L with rfl | hL
  · match refs, hrl, hden with
    | [r], _, hden => exact ⟨_, rfl, stP_modify h r _ (hden 0 Nat.zero_lt_one) _⟩
  have hr2 : 2 ≤ refs.length := hrl ▸ Nat.succ_le_succ hL
  have hlast : refs.getLastD (.uni 0) = refs[L]'(hrl ▸ Nat.lt_succ_self L) := by
    rw [getLastD_eq refs _ (hrl ▸ Nat.succ_pos L)]; simp [hrl]
  have hprob : (s.get (refs.getLastD (.uni 0))).mag = (want (p.take b)).mag := by
    have := stP_get h _ _ (hden L (hrl ▸ Nat.lt_succ_self L))
    rw [Nat.add_sub_cancel] at this
    rw [hlast, this]
  have hchl : (refs.dropLast).reverse.length = L := by simp [hrl]
  have hchd : ∀ i (hi : i < (refs.dropLast).reverse.length), Den N U Ks (refs.dropLast).reverse[i] (p.take (b + i + 1)) := by
    intro i hi
    rw [hchl] at hi
    have hiL : 1 + i ≤ L := Nat.add_comm i 1 ▸ hi
    -- position `i` from the end (the basis left out) is `refs[L - 1 - i]`, of order `b + L - (L - 1 - i)`
    have e : b + L - (L - 1 - i) = b + i + 1 := by
      rw [Nat.add_sub_assoc (Nat.le_trans (Nat.sub_le _ _) (Nat.sub_le _ _)), Nat.sub_sub, Nat.sub_sub_self hiL,
        Nat.add_comm 1 i, Nat.add_assoc]
    have := hden (L - 1 - i) (hrl ▸ Nat.lt_succ_of_le (Nat.le_trans (Nat.sub_le _ _) (Nat.sub_le _ _)))
    rw [e] at this
    simp only [List.getElem_reverse, List.getElem_dropLast, List.length_dropLast, hrl, Nat.add_sub_cancel]
    exact this
  have hbl : b + L + 1 - refs.length = b := by rw [hrl, Nat.add_assoc, Nat.add_sub_cancel]
  have hJN : b + L < N := hnN
  suffices hfill : ∃ s3, adjustLower combine rest ar p (b + L + 1) refs s = .ok (markChain rest refs ar s3) ∧
      StP combine N caps U s3 Ks (applyUpd want (fillUpd rest want p L b (-(want (p.take b)).mag))) by
    obtain ⟨s3, he, h3⟩ := hfill
    refine ⟨_, he, markChain_chain rest combine N caps U Ks refs (chainKeys p b L) ar s3 _ h3 (by simp [chainKeys, hrl]) ?_
      (chainKeys_nodup p b L hplen)⟩
    intro i hi hi'
    simp only [chainKeys, List.getElem_map, List.getElem_range]
    exact hden i hi
  by_cases hb1 : b = 1
  · -- unigram basis: `AdjustLower` does the first round itself, on the unigram array
    subst hb1
    obtain ⟨hc1, hwU⟩ := hctx1 rfl
    cases hch : (refs.dropLast).reverse with
    | nil => rw [hch] at hchl; exact absurd hchl (Nat.ne_of_lt hL)
    | cons ch more =>
      rw [hch] at hchd hchl
      have hJ : 2 + more.length = 1 + L := by rw [← hchl, List.length_cons, Nat.succ_add_eq_add_succ]
      have hctx' : ∀ j, 2 ≤ j → j < 1 + L → (p.drop 1).take j ∈ Ks j := fun j h2 hj => hctx j h2 (Nat.le_of_succ_le h2) hj
      obtain ⟨hpr, want2, h2, heq⟩ := stP_fill_step rest h p 1 more.length (-(want (p.take 1)).mag) (.uni (p.getD 1 0)) ch
        (by rw [hc1]; exact ⟨rfl, hwU⟩) (hchd 0 (Nat.succ_pos _)) fun j h1 h2 => by
        have hlt : j < 1 + L := hJ ▸ h2
        refine ⟨fun he => ?_, hne _ _ (Nat.le_of_lt h1) hlt (Nat.lt_succ_self 1) (Nat.add_le_add_left hL 1)⟩
        have hl := h.klen _ _ (hctx' _ h1 hlt)
        rw [he, hc1] at hl
        exact Nat.ne_of_lt h1 hl
      obtain ⟨s3, hfb, h3⟩ := fillBlanks_chain rest combine N caps U p Ks 2 (1 + L) (Nat.le_refl 2) hJN hctx'
        (fun j j' h1 h2 h3 h4 => hne j j' (Nat.le_of_succ_le h1) h2 (Nat.lt_of_succ_lt h3) h4)
        more 2 _ _ want2 h2 (Nat.le_refl 2) hJ
        (fun i hi => by
          have := hchd (i + 1) (Nat.succ_lt_succ hi)
          rw [Nat.succ_add_eq_add_succ]; exact this)
      rw [heq, ← List.length_cons, hchl] at h3
      refine ⟨s3, ?_, h3⟩
      rw [adjustLower_fill_uni combine rest ar p _ refs s ch more hbl hch, hprob, hpr, hfb]
      rfl
  · have hb2 : 2 ≤ b := Nat.succ_le_of_lt (Nat.lt_of_le_of_ne hb (Ne.symm hb1))
    rw [adjustLower_fill combine rest ar p _ refs s hr2 (by rw [hbl]; exact hb1), hbl, hprob]
    obtain ⟨s3, hfb, h3⟩ := fillBlanks_chain rest combine N caps U p Ks b (b + L) hb2 hJN
      (fun j h1 h2 => hctx j (Nat.le_trans hb2 h1) h1 h2) hne
      (refs.dropLast).reverse b (-(want (p.take b)).mag) s want h (Nat.le_refl b) (by rw [hchl]) hchd
    rw [hchl] at h3
    exact ⟨s3, by rw [hfb]; rfl, h3⟩

def lowerMarked (want : Key → W) (p : Key) (lr : Rat) (J : Nat) : Key → W := fun k =>
  if SufIn p 1 J k then (markExtends true (want k) lr).1 else want k

theorem lowerMarked_zero (want : Key → W) (p : Key) (lr : Rat) : lowerMarked want p lr 0 = want :=
  funext fun k => if_neg (by omega)

theorem lowerMarked_succ (want : Key → W) (p : Key) (lr : Rat) (J : Nat) (hJ : J + 1 ≤ p.length) :
    lowerMarked want p lr (J + 1) =
      lowerMarked (updW want (p.take (J + 1)) (markExtends true (want (p.take (J + 1))) lr).1) p lr J := by
  have hl : (p.take (J + 1)).length = J + 1 := List.length_take_of_le hJ
  funext k
  unfold lowerMarked
  by_cases hk : k = p.take (J + 1)
  · have hkl : k.length = J + 1 := hk ▸ hl
    rw [if_pos ⟨hkl ▸ Nat.succ_pos J, Nat.le_of_eq hkl, hkl ▸ hk⟩, if_neg fun c => Nat.not_succ_le_self J (by have := c.2.1; rwa [hkl] at this), updW, if_pos hk, hk]
  · rw [updW, if_neg hk]
    simp only [← sufIn_succ hk]

theorem lowerMarked_noop (want : Key → W) (p : Key) (lr : Rat) (J : Nat)
    (h : ∀ j, 1 ≤ j → j ≤ J → (want (p.take j)).neg = false ∧ lr ≤ (want (p.take j)).rest) :
    lowerMarked want p lr J = want := by
  funext k
  unfold lowerMarked
  split
  · rename_i hc
    obtain ⟨hn, hr⟩ := h k.length hc.1 hc.2.1
    rw [← hc.2.2] at hn hr
    rw [markExtends_rest, rat_max_eq_left hr, ← hn]
  · rfl

theorem lowerMarked_apply (want : Key → W) (p : Key) (lr : Rat) (J : Nat) (k : Key) :
    lowerMarked want p lr J k = if SufIn p 1 J k
      then { want k with neg := false, rest := max (want k).rest lr } else want k := by
  unfold lowerMarked
  rw [markExtends_rest]

theorem lowerMarked_congr_lr (want : Key → W) (p : Key) (lr lr' : Rat) (J : Nat)
    (h : ∀ j, 1 ≤ j → j ≤ J → max (want (p.take j)).rest lr = max (want (p.take j)).rest lr') :
    lowerMarked want p lr J = lowerMarked want p lr' J := by
  funext k
  rw [lowerMarked_apply, lowerMarked_apply]
  split
  · rename_i hc
    have := h k.length hc.1 hc.2.1
    rw [← hc.2.2] at this
    rw [this]
  · rfl

/-- `MarkLower` (`kMarkEvenLower`): the suffixes of orders `J .. 1` get `MarkExtends(·, lr)`; the early exit is sound when
`rest` does not increase towards the longer suffixes and their sign bits are already clear -/
theorem markLower_chain (combine : Nat → Word → Nat) (N : Nat) (caps : Nat → Nat) (U : Nat) (p : Key) (Ks : Nat → List Key) (lr : Rat) :
    ∀ (J : Nat) (s : St) (want : Key → W), StP combine N caps U s Ks want → J < N → J ≤ p.length →
      (∀ j, 2 ≤ j → j ≤ J → p.take j ∈ Ks j) → (1 ≤ J → p.headD 0 < U) →
      (∀ j, 1 ≤ j → j < J → (want (p.take (j + 1))).rest ≤ (want (p.take j)).rest) →
      (∀ j, 1 ≤ j → j ≤ J → (want (p.take j)).neg = false) →
      ∃ s', markLower combine p lr J s = .ok s' ∧ StP combine N caps U s' Ks (lowerMarked want p lr J) := by
  intro J
  induction J with
  | zero => intro s want h _ _ _ _ _ _; exact ⟨s, rfl, by rw [lowerMarked_zero]; exact h⟩
  | succ J ih =>
    intro s want h hJN hJl hmem hU H1 H2
    rw [lowerMarked_succ want p lr J hJl]
    have hlow : ∀ w j, j ≤ J → updW want (p.take (J + 1)) w (p.take j) = want (p.take j) := fun w j hj =>
      updW_of_length_ne w (by rw [List.length_take, List.length_take]; omega)
    cases J with
    | zero =>
      have hd : Den N U Ks (.uni (p.headD 0)) (p.take 1) := ⟨take_one_headD p hJl, hU (Nat.le_refl _)⟩
      exact ⟨_, rfl, by rw [lowerMarked_zero]; exact stP_modify h _ _ hd (fun w => (markExtends true w lr).1)⟩
    | succ el =>
      obtain ⟨i, hden, _, hfind⟩ := stP_lookup h (el + 2) (by omega) hJN _ (hmem (el + 2) (by omega) (Nat.le_refl _))
      simp only [Nat.add_sub_cancel] at hden hfind
      have hget := stP_get h _ _ hden
      have h1 := stP_modify h _ _ hden (fun _ => (markExtends true (s.get (.mid el i)) lr).1)
      rw [hget] at h1
      by_cases hch : (want (p.take (el + 2))).rest ≥ lr
      · -- not raised: stop; below, `rest` is at least as large, so marking would change nothing either
        have hr2 : (markExtends true (want (p.take (el + 2))) lr).2 = false := by
          rw [markExtends_rest_changed]; simp [hch]
        refine ⟨s.modify (.mid el i) (fun _ => (markExtends true (want (p.take (el + 2))) lr).1),
          by simp only [markLower, hfind, bind, Except.bind, hget, hr2, Bool.false_eq_true, if_false], ?_⟩
        rw [lowerMarked_noop]
        · exact h1
        · intro j hj1 hj
          rw [hlow _ j hj]
          exact ⟨H2 j hj1 (by omega), Rat.le_trans hch
            (le_of_antitone_steps (fun j => (want (p.take j)).rest) (el + 2) H1 (el + 2 - j) j (by omega) hj1)⟩
      · have hr2 : (markExtends true (want (p.take (el + 2))) lr).2 = true := by
          rw [markExtends_rest_changed]; simp [hch]
        obtain ⟨s', hml, h'⟩ := ih _ _ h1 (by omega) (by omega)
          (fun j h2 hj => hmem j h2 (by omega)) (fun _ => hU (by omega))
          (fun j hj1 hj2 => by rw [hlow _ (j + 1) (by omega), hlow _ j (by omega)]; exact H1 j hj1 (by omega))
          (fun j hj1 hj2 => by rw [hlow _ j hj2]; exact H2 j hj1 (by omega))
        exact ⟨s', by simp only [markLower, hfind, bind, Except.bind, hget, hr2, if_true]; exact hml, h'⟩

theorem activate_ok {combine : Nat → Word → Nat} {N : Nat} {caps : Nat → Nat} {U : Nat} {s : St} {Ks : Nat → List Key} {want : Key → W}
    (h : StP combine N caps U s Ks want) (p : Key) (hp2 : 2 ≤ p.length) (hpN : p.length ≤ N)
    (hctx : 3 ≤ p.length → p.drop 1 ∈ Ks (p.length - 1)) (hw : p.length = 2 → p.getD 1 0 < U) :
    ∃ s', activate combine p p.length s = .ok s' ∧
      StP combine N caps U s' Ks (updW want (p.drop 1) (setExtension (want (p.drop 1)))) := by
  by_cases h3 : 3 ≤ p.length
  · obtain ⟨i, hd, _, hfind⟩ := stP_lookup h (p.length - 1) (by omega) (by omega) (p.drop 1) (hctx h3)
    refine ⟨_, ?_, stP_modify h _ _ hd setExtension⟩
    have hn2 : (p.length == 2) = false := by simp; omega
    simp only [activate, hn2, Bool.false_eq_true, if_false, show p.length - 3 = p.length - 1 - 2 by omega, hfind, bind, Except.bind]
  · have h2 : p.length = 2 := by omega
    match p, h2, hw h2 with
    | [x, y], _, hy => exact ⟨_, rfl, stP_modify h (.uni y) [y] ⟨rfl, hy⟩ setExtension⟩

end KV.ProbingBuild
