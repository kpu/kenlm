import Model.Format
/-! The text `fmtShortest` produces: its closed form for the decimal representation, its length, and the bound on
the length for a given number of digits; and the text lengths of the integer types against a reservation. -/
namespace KV.Format

@[simp] theorem length_digitChars (ds : List Nat) : (digitChars ds).length = ds.length := by
  simp [digitChars]

@[simp] theorem length_pad (c : Char) (k : Int) : (pad c k).length = k.toNat := by
  simp [pad]

/-- the text of `fmtShortest` without its sign -/
def shortestBody (c : Conv) (digits : List Nat) (point : Int) : List Char :=
  if c.low ≤ point - 1 ∧ point - 1 < c.high then decRep c digits point (max 0 ((digits.length : Int) - point))
  else expRep c digits (point - 1)

theorem fmtShortest_eq (c : Conv) (neg : Bool) (digits : List Nat) (point : Int) :
    fmtShortest c neg digits point
      = (if neg && (!(digits.all (· == 0)) || !c.uniqueZero) then ['-'] else []) ++ shortestBody c digits point := rfl

/-- `decRep` as `fmtShortest` calls it (`after` = the digits right of the point, no trailing-point flags):
"0", "0.000ddd", "ddd000" or "dd.ddd". -/
theorem decRep_shortest (c : Conv) (digits : List Nat) (point : Int)
    (h1 : c.emitTrailingDecimalPoint = false) (h2 : c.emitTrailingZeroAfterPoint = false) :
    decRep c digits point (max 0 ((digits.length : Int) - point)) =
      if point ≤ 0 then
        if (digits.length : Int) - point > 0 then '0' :: '.' :: (pad '0' (-point) ++ digitChars digits) else ['0']
      else if point ≥ digits.length then digitChars digits ++ pad '0' (point - digits.length)
      else (digitChars digits).take point.toNat ++ '.' :: (digitChars digits).drop point.toNat := by
  unfold decRep
  simp only [h1, h2, Bool.false_eq_true, if_false, List.append_nil, ite_self]
  by_cases hn : (digits.length : Int) - point > 0
  · rw [Int.max_eq_right (Int.le_of_lt hn)]
    by_cases hp : point ≤ 0
    · have hz : (digits.length : Int) - point - (-point) - (digits.length : Int) = 0 := by omega
      simp only [if_pos hp, if_pos hn, hz, pad, Int.toNat_zero, List.replicate_zero, List.append_nil]
    · have hq : ¬ point ≥ digits.length := by omega
      simp only [if_neg hp, if_neg hq, Int.sub_self, pad, Int.toNat_zero, List.replicate_zero, List.append_nil]
  · rw [Int.max_eq_left (Int.not_lt.mp hn)]
    by_cases hp : point ≤ 0
    · simp only [if_pos hp, if_neg hn, Int.lt_irrefl, gt_iff_lt, if_false]
    · have hq : point ≥ digits.length := by omega
      simp only [if_neg hp, if_pos hq, Int.lt_irrefl, gt_iff_lt, if_false, List.append_nil]

/-- the decimal branch of `shortestLen` (Model/Format.lean) under a name of its own -/
def decLen (n : Nat) (point : Int) : Nat :=
  if point ≤ 0 then (if (n : Int) - point > 0 then 2 + (-point).toNat + n else 1)
  else if point ≥ n then point.toNat
  else n + 1

theorem decRep_length (c : Conv) (digits : List Nat) (point : Int)
    (h1 : c.emitTrailingDecimalPoint = false) (h2 : c.emitTrailingZeroAfterPoint = false) :
    (decRep c digits point (max 0 ((digits.length : Int) - point))).length = decLen digits.length point := by
  rw [decRep_shortest c digits point h1 h2, decLen]
  by_cases hp : point ≤ 0
  · by_cases hn : (digits.length : Int) - point > 0
    · simp only [if_pos hp, if_pos hn, List.length_cons, List.length_append, length_pad, length_digitChars]
      omega
    · simp only [if_pos hp, if_neg hn, List.length_cons, List.length_nil]
  · by_cases hq : point ≥ digits.length
    · simp only [if_neg hp, if_pos hq, List.length_append, length_pad, length_digitChars]
      omega
    · simp only [if_neg hp, if_neg hq, List.length_append, List.length_cons, List.length_take, List.length_drop,
        length_digitChars]
      omega

/-- the exponential branch of `shortestLen` (Model/Format.lean) -/
def expLen (c : Conv) (n : Nat) (exponent : Int) : Nat :=
  (min 1 n) + (if n ≠ 1 then 1 + (n - 1) else 0) + 1
    + (if exponent < 0 then 1 else if c.emitPositiveExponentSign then 1 else 0)
    + (min c.minExpWidth 5 - (fmtNat exponent.natAbs).length) + (fmtNat exponent.natAbs).length

theorem expRep_length (c : Conv) (digits : List Nat) (exponent : Int) :
    (expRep c digits exponent).length = expLen c digits.length exponent := by
  simp only [expRep, expLen, List.length_append, List.length_take, length_digitChars, List.length_replicate,
    apply_ite List.length, List.length_cons, List.length_nil, List.length_drop, Nat.add_comm 1]

theorem shortestLen_eq (c : Conv) (neg z : Bool) (n : Nat) (point : Int) :
    shortestLen c neg z n point
      = (if neg && (!z || !c.uniqueZero) then 1 else 0)
        + (if c.low ≤ point - 1 ∧ point - 1 < c.high then decLen n point else expLen c n (point - 1)) := by
  unfold shortestLen decLen expLen
  rfl

theorem length_fmtShortest (c : Conv) (neg : Bool) (digits : List Nat) (point : Int)
    (h1 : c.emitTrailingDecimalPoint = false) (h2 : c.emitTrailingZeroAfterPoint = false) :
    (fmtShortest c neg digits point).length
      = shortestLen c neg (digits.all (· == 0)) digits.length point := by
  rw [shortestLen_eq, fmtShortest_eq, List.length_append, shortestBody]
  congr 1
  · split <;> rfl
  · split
    · exact decRep_length c digits point h1 h2
    · exact expRep_length c digits (point - 1)

theorem length_fmtNat_le {n k : Nat} (hk : 0 < k) (h : n < 10 ^ k) : (fmtNat n).length ≤ k :=
  (Nat.length_toDigits_le_iff (by decide) hk).mpr h

-- nothing in the development uses this
theorem length_fmtNat_pos (n : Nat) : 0 < (fmtNat n).length := Nat.length_toDigits_pos

/-- an unsigned type with values below `m` needs `k` characters as soon as `m ≤ 10 ^ k` -/
theorem length_fmtNat_le_of_lt {n m k : Nat} (h : n < m) (hk : 0 < k) (hm : m ≤ 10 ^ k) : (fmtNat n).length ≤ k :=
  length_fmtNat_le hk (Nat.lt_of_lt_of_le h hm)

/-- a signed type with magnitudes up to `m`: the sign and `k - 1` digits -/
theorem length_fmtInt_le {i : Int} {m k : Nat} (h : i.natAbs ≤ m) (hk : 1 < k) (hm : m < 10 ^ (k - 1)) :
    (fmtInt i).length ≤ k := by
  have hn := length_fmtNat_le (Nat.sub_pos_of_lt hk) (Nat.lt_of_le_of_lt h hm)
  unfold fmtInt
  split
  · exact Nat.add_le_of_le_sub (Nat.le_of_lt hk) hn
  · exact Nat.le_trans hn (Nat.sub_le k 1)

theorem length_fmtPtr_le {v m k : Nat} (h : v < m) (hk : 2 < k) (hm : m ≤ 16 ^ (k - 2)) : (fmtPtr v).length ≤ k := by
  have hn := (Nat.length_toDigits_le_iff (b := 16) (by decide) (Nat.sub_pos_of_lt hk)).mpr (Nat.lt_of_lt_of_le h hm)
  show (Nat.toDigits 16 v).length + 2 ≤ k
  exact Nat.add_le_of_le_sub (Nat.le_of_lt hk) hn

/-- the 16-byte store of the SSE2 path stays inside any reservation that holds 16 bytes and the text -/
theorem footprintU64_le (sse2 : Bool) {n k : Nat} (hk : 16 ≤ k) (h : n < 10 ^ k) : footprintU64 sse2 n ≤ k := by
  unfold footprintU64
  split
  · exact hk
  · exact length_fmtNat_le (Nat.lt_of_lt_of_le (by decide) hk) h

theorem decLen_le (n D : Nat) (point low high : Int) (hn : n ≤ D) (hl : low ≤ point - 1) (hh : point - 1 < high) :
    decLen n point ≤ max (max (2 + (-low - 1).toNat + D) high.toNat) (D + 1) := by
  -- "0.000ddd" has `-point ≤ -low - 1` zeros after the point (`low ≤ point - 1`), "ddd000" has `point ≤ high` characters
  unfold decLen
  split
  · split
    · exact Nat.le_trans (Nat.add_le_add (Nat.add_le_add_left (Int.toNat_le_toNat (by omega)) 2) hn)
        (Nat.le_trans (Nat.le_max_left _ _) (Nat.le_max_left _ _))
    · exact Nat.le_trans (Nat.le_add_left 1 D) (Nat.le_max_right _ _)
  · split
    · exact Nat.le_trans (Int.toNat_le_toNat (by omega)) (Nat.le_trans (Nat.le_max_right _ _) (Nat.le_max_left _ _))
    · exact Nat.le_trans (Nat.add_le_add_right hn 1) (Nat.le_max_right _ _)

theorem expLen_le (c : Conv) (n D k : Nat) (e : Int) (hn : n ≤ D) (hk : 0 < k) (he : e.natAbs < 10 ^ k)
    (hw : min c.minExpWidth 5 ≤ k) : expLen c n e ≤ D + 3 + k := by
  -- digits with their point ≤ D + 1, the exponent character, a sign ≤ 1, the padded exponent ≤ k
  have h1 : min 1 n + (if n ≠ 1 then 1 + (n - 1) else 0) ≤ D + 1 := by split <;> omega
  have h2 : (if e < 0 then 1 else if c.emitPositiveExponentSign then 1 else 0) ≤ 1 := by
    split
    · decide
    · split <;> decide
  have h3 : min c.minExpWidth 5 - (fmtNat e.natAbs).length + (fmtNat e.natAbs).length ≤ k := by
    rw [Nat.sub_add_eq_max]
    exact Nat.max_le.mpr ⟨hw, length_fmtNat_le hk he⟩
  unfold expLen
  rw [Nat.add_assoc _ (_ - _) _]
  show _ ≤ D + 1 + 1 + 1 + k
  exact Nat.add_le_add (Nat.add_le_add (Nat.add_le_add h1 (Nat.le_refl 1)) h2) h3

/-- the longest text `fmtShortest` can produce for at most `D` digits and a decimal exponent of at most `k` digits: the sign and the
longest of "0.000ddd" (at most `-low - 1` zeros), "ddd000" (`high` characters), "dd.ddd" and "d.ddde-xx". -/
def maxShortestLen (c : Conv) (D k : Nat) : Nat :=
  1 + max (max (max (2 + (-c.low - 1).toNat + D) c.high.toNat) (D + 1)) (D + 3 + k)

theorem shortestLen_le (c : Conv) (neg z : Bool) (n D k : Nat) (point : Int) (hn : n ≤ D) (hk : 0 < k)
    (he : (point - 1).natAbs < 10 ^ k) (hw : min c.minExpWidth 5 ≤ k) :
    shortestLen c neg z n point ≤ maxShortestLen c D k := by
  rw [shortestLen_eq]
  refine Nat.add_le_add (by split <;> decide) ?_
  split
  · next h => exact Nat.le_trans (decLen_le n D point c.low c.high hn h.1 h.2) (Nat.le_max_left _ _)
  · exact Nat.le_trans (expLen_le c n D k (point - 1) hn hk he hw) (Nat.le_max_right _ _)

/-- the text and its terminating NUL fit a reservation of `B` bytes -/
theorem fmtShortest_fits (c : Conv) (h1 : c.emitTrailingDecimalPoint = false) (h2 : c.emitTrailingZeroAfterPoint = false)
    (neg : Bool) (digits : List Nat) (point : Int) (D k B : Nat) (hn : digits.length ≤ D) (hk : 0 < k)
    (he : (point - 1).natAbs < 10 ^ k) (hw : min c.minExpWidth 5 ≤ k) (hB : maxShortestLen c D k + 1 ≤ B) :
    (fmtShortest c neg digits point).length + 1 ≤ B := by
  rw [length_fmtShortest c neg digits point h1 h2]
  exact Nat.le_trans (Nat.add_le_add_right (shortestLen_le c neg _ _ D k point hn hk he hw) 1) hB

end KV.Format
