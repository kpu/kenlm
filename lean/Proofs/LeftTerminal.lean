import Proofs.LeftFrag
import Proofs.LeftCases
/-! **Terminal preserves the fragment invariant**: `FullScore` over the rest-cost search in terms of the resumed loop
(`resume_start`); a word joins a complete fragment or one it is independent of by `Frag.append_done`, and an open one it
extends as the one-word fragment it is, by `Frag.build`. -/
namespace KV.Left
open KV.Arpa KV.Table KV.State KV.Score

variable {a : Arpa} {T : Table}

theorem fullScore_rest (T : Table) (R : Ptr → Rat) (s : State) (w : Word) (tu : TEntry) (hu : T.lookup [w] = some tu) :
    fullScore (restSearch T R) s w =
      (let acc := resumeScore (restSearch T R) (s.words.take s.length) 0 [w]
        (startAcc R [w] tu [tu.backoff] (if tu.extendsRight then 1 else 0))
       ({ acc.ret with prob := acc.ret.prob + ((s.backoff.take s.length).drop (acc.ret.ngramLength - 1)).sum },
        { length := acc.nextUse, words := w :: (s.words.take s.length).take (acc.nextUse - 1), backoff := acc.backoffOut })) := by
  rw [fullScore_eq, finalAcc_rest R hu]

theorem fullScore_step (H : Hyp a T) (R : Ptr → Rat) {h : List Word} {s : State} (sf : StateFor a h s) {w : Word}
    (hw : a.gram [w] ≠ none) :
    (fullScore (restSearch T R) s w).1.prob = score a h w ∧
      StateFor a (w :: h) (normS (fullScore (restSearch T R) s w).2) ∧ NormS (normS (fullScore (restSearch T R) s w).2) := by
  have hsim := fullScore_sim T R s w
  have hstep := step H.wf H.tf sf hw
  obtain ⟨hn, hs⟩ := normS_of_stateFor (hsim.2 ▸ hstep.2 : StateFor a (w :: h) (fullScore (restSearch T R) s w).2)
  exact ⟨hsim.1.trans hstep.1, hs, hn⟩

theorem terminal_frag_aux (H : Hyp a T) (R : Ptr → Rat) {ws : List Word} {L : Nat} {rs : RS}
    (F : Frag a T R ws L rs) (w : Word) (hw : a.gram [w] ≠ none) :
    ∃ L', Frag a T R (ws ++ [w]) L' (terminal T R rs w) := by
  have ok := H.ok
  obtain ⟨e, he⟩ := Option.ne_none_iff_exists'.mp hw
  obtain ⟨tu, hu, _, _⟩ := H.tf.real [w] e he
  obtain ⟨hp, hst', hnorm⟩ := fullScore_step H R F.right_for hw
  have hprob : rs.prob + (fullScore (restSearch T R) rs.out.right w).1.prob = rs.prob + specSeq a ws.reverse [w] := by
    rw [hp]; simp only [specSeq]; rw [Rat.add_zero]
  by_cases hdone : rs.leftDone = true
  · rw [terminal_of_done R rs w hdone]
    exact ⟨L, F.append_done ((F.closed hdone).append H [w]) hdone rfl hst' hnorm hprob⟩
  · have hopen : rs.leftDone = false := by simpa using hdone
    obtain ⟨hL, hrl⟩ := F.open_ hopen
    have hfs := fullScore_rest T R rs.out.right w tu hu
    rw [show rs.out.right.words.take rs.out.right.length = ws.reverse by
      rw [F.right_for.words, hrl, List.take_of_length_le (by simp)]] at hfs
    obtain ⟨c0, post⟩ := resume_start ok R (g := [w]) (Nat.le_refl 1) hu (by have := ok.order_ge; show 1 ≤ T.order - 1; omega) ws.reverse
      [tu.backoff] (if tu.extendsRight then 1 else 0)
    change ExtPost T R [w] ws.reverse _ (resumeScore (restSearch T R) ws.reverse 0 [w] _) c0 at post
    generalize resumeScore (restSearch T R) ws.reverse 0 [w]
      (startAcc R [w] tu [tu.backoff] (if tu.extendsRight then 1 else 0)) = acc at post hfs
    by_cases hind : (fullScore (restSearch T R) rs.out.right w).1.independentLeft = true
    · rw [terminal_indep R rs w hopen hind]
      rw [hfs] at hst' hnorm hprob hind ⊢
      dsimp only at hst' hnorm hprob hind ⊢
      refine ⟨L, F.append_done (Or.inl ⟨by simp; omega, fun x => ?_⟩) rfl rfl hst' hnorm hprob⟩
      rw [hL, pre_full]
      exact post.no_ext ok (by simp) hind x
    · -- the whole fragment plus `w` is an n-gram that extends left: `w` joins as a one-word fragment with its pointer
      have hind' : (fullScore (restSearch T R) rs.out.right w).1.independentLeft = false := by simpa using hind
      rw [terminal_push R rs w hopen hind']
      rw [hfs] at hst' hnorm hprob hind' ⊢
      dsimp only at hst' hnorm hprob hind' ⊢
      obtain ⟨hce, hlenN, hxl, hptr, hrest⟩ := post.pushed hind'
      simp only [List.length_singleton, List.length_reverse, List.singleton_append] at hce hlenN hxl hptr hrest
      have hNa : ws.length + 1 ≤ a.order - 1 := by rw [← H.tf.order_eq]; omega
      refine ⟨ws.length + 1, Frag.build R F hopen 1 _ (Nat.le_refl 1) (by omega) hst' hnorm
        (by show rs.out.left.pointers ++ [acc.ret.extendLeft] = _; rw [hptr]; rfl) (fun i hi => by
          rw [show i = 0 by omega]; exact hxl) ?_ (fun hdn => ?_) (fun hdn => ?_)⟩
      · show rs.prob + acc.ret.rest = _
        rw [hrest]
        show _ = rs.prob + (R (w :: ws.reverse) + 0 + 0)
        rw [Rat.add_zero, Rat.add_zero]
      · have : (acc.nextUse != rs.out.right.length + 1) = false := hdn
        have h' : acc.nextUse = ws.length + 1 := by rw [hrl] at this; simpa using this
        exact ⟨rfl, by show (normS _).length = _; simp only [normS, h']; simp; omega⟩
      · -- completed because the whole n-gram does not extend right
        have : (acc.nextUse != rs.out.right.length + 1) = true := hdn
        have hnu : acc.nextUse ≠ ws.length + 1 := by rw [hrl] at this; simpa using this
        refine Or.inr (Or.inl ⟨by simp, Nat.succ_pos _, ws.length + 1, by omega, by simp, ?_⟩)
        rw [List.reverse_append, List.take_of_length_le (by simp)]
        cases hz : ws.length with
        | zero =>
          have hnil : ws = [] := List.eq_nil_of_length_eq_zero hz
          subst hnil
          obtain ⟨L, lm, he0⟩ := post.nu
          rw [hce, List.length_nil, Nat.zero_min] at lm
          rw [he0, Nat.le_zero.mp lm.le, if_pos rfl] at hnu
          have : tu.extendsRight = false := by
            cases hx : tu.extendsRight with
            | false => rfl
            | true => simp [startAcc, hx] at hnu
          simp [Table.xr, hu, this]
        | succ m =>
          have := post.last_unmarked (m := m) (by simp only [List.length_singleton, hce, hz]; omega)
            (by rw [hz] at hnu; simpa [Nat.add_comm] using hnu)
          rw [← hz, ← List.length_reverse, List.take_of_length_le (Nat.le_refl _)] at this
          exact this

end KV.Left
