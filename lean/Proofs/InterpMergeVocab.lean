import Model.Interp
import Mathlib.Data.List.Pairwise
/-!
`MergeVocab`: for pops in non-decreasing hash order — whatever the hash function and whatever the
heap does with ties — two entries get the same universal id iff they have the same hash, ids grow
with the hash, and every real word gets an id between 1 (0 is `<unk>`) and the number of pops (one
pop raises the id by at most one).
-/
namespace KV.Interp

/-- what the loop guarantees between an earlier and a later insertion: the ids follow the hashes -/
def VRel (a b : VIns) : Prop :=
  a.hash ≤ b.hash ∧ (a.hash = b.hash → a.univ = b.univ) ∧ (a.hash < b.hash → a.univ < b.univ)

theorem VRel.trans {a b c : VIns} (h1 : VRel a b) (h2 : VRel b c) : VRel a c := by
  obtain ⟨l1, e1, s1⟩ := h1
  obtain ⟨l2, e2, s2⟩ := h2
  refine ⟨Nat.le_trans l1 l2, fun h => ?_, fun h => ?_⟩
  · have hab : a.hash = b.hash := Nat.le_antisymm l1 (h ▸ l2)
    exact (e1 hab).trans (e2 (hab.symm.trans h))
  · rcases Nat.eq_or_lt_of_le l1 with hab | hab
    · exact e1 hab ▸ s2 (hab ▸ h)
    · rcases Nat.eq_or_lt_of_le l2 with hbc | hbc
      · exact e2 hbc ▸ s1 hab
      · exact Nat.lt_trans (s1 hab) (s2 hbc)

theorem VRel.iff_of_or {a b : VIns} (h : VRel a b ∨ VRel b a) :
    (a.hash = b.hash ↔ a.univ = b.univ) ∧ (a.hash < b.hash ↔ a.univ < b.univ) := by
  unfold VRel at h
  omega

/-- the state `(prev, gi)` of the loop acts as an insertion that precedes all the others; so the
whole claim is transitivity along the list -/
theorem pairwise_mergeVocabLoop : ∀ (pops : List VPop) (prev gi : Nat),
    pops.Pairwise (fun a b => a.hash ≤ b.hash) → (∀ p ∈ pops, prev ≤ p.hash) →
    (⟨prev, 0, 0, gi⟩ :: mergeVocabLoop pops prev gi).Pairwise VRel := by
  intro pops
  induction pops with
  | nil => exact fun _ _ _ _ => List.pairwise_singleton _ _
  | cons p rest ih' =>
    intro prev gi hs hge
    have hs' := List.pairwise_cons.1 hs
    have ih := List.pairwise_cons.1 (ih' p.hash (if p.hash ≠ prev then gi + 1 else gi) hs'.2 hs'.1)
    have hp := hge p List.mem_cons_self
    have h1 : VRel ⟨prev, 0, 0, gi⟩ ⟨p.hash, p.model, p.loc, if p.hash ≠ prev then gi + 1 else gi⟩ := by
      unfold VRel
      dsimp only
      split <;> omega
    rw [mergeVocabLoop]
    exact List.pairwise_cons.2
      ⟨fun o ho => (List.mem_cons.1 ho).elim (fun e => e ▸ h1) (fun ho => h1.trans (ih.1 o ho)),
        List.pairwise_cons.2 ⟨ih.1, ih.2⟩⟩

theorem univ_le_mergeVocabLoop : ∀ (pops : List VPop) (prev gi : Nat),
    ∀ o ∈ mergeVocabLoop pops prev gi, o.univ ≤ gi + pops.length
  | [], _, _, o, ho => by simp [mergeVocabLoop] at ho
  | p :: rest, prev, gi, o, ho => by
    rw [mergeVocabLoop] at ho
    rw [List.length_cons]
    have hgi : (if p.hash ≠ prev then gi + 1 else gi) ≤ gi + 1 := by
      split
      · exact Nat.le_refl _
      · exact Nat.le_succ _
    rcases List.mem_cons.1 ho with rfl | ho
    · exact Nat.le_trans hgi (Nat.add_le_add_left (Nat.succ_le_succ (Nat.zero_le _)) gi)
    · exact Nat.le_trans (univ_le_mergeVocabLoop rest _ _ o ho)
        (by rw [Nat.add_comm rest.length 1, ← Nat.add_assoc]; exact Nat.add_le_add_right hgi _)

theorem mergeVocabLoop_src : ∀ (l : List VPop) (prev gi : Nat), ∀ o ∈ mergeVocabLoop l prev gi,
    ∃ p ∈ l, p.hash = o.hash ∧ p.model = o.model ∧ p.loc = o.loc
  | [], _, _, o, ho => by simp [mergeVocabLoop] at ho
  | p :: l, prev, gi, o, ho => by
    rw [mergeVocabLoop] at ho
    rcases List.mem_cons.1 ho with rfl | ho
    · exact ⟨p, List.mem_cons_self, rfl, rfl, rfl⟩
    · obtain ⟨q, hq, h⟩ := mergeVocabLoop_src l _ _ o ho
      exact ⟨q, List.mem_cons_of_mem _ hq, h⟩

theorem mergeVocab_ids (pops : List VPop) (hs : pops.Pairwise (fun a b => a.hash ≤ b.hash))
    (hpos : ∀ p ∈ pops, 0 < p.hash) :
    ∀ a ∈ mergeVocabLoop pops 0 0, ∀ b ∈ mergeVocabLoop pops 0 0,
      (a.hash = b.hash ↔ a.univ = b.univ) ∧ (a.hash < b.hash ↔ a.univ < b.univ) ∧ 1 ≤ a.univ ∧
      a.univ ≤ pops.length := by
  have hP := List.pairwise_cons.1 (pairwise_mergeVocabLoop pops 0 0 hs (fun _ _ => Nat.zero_le _))
  intro a ha b hb
  -- whichever of the two comes first
  have hor : VRel a b ∨ VRel b a :=
    List.Pairwise.forall_of_forall_of_flip (R := fun a b => VRel a b ∨ VRel b a)
      (fun x _ => Or.inl ⟨Nat.le_refl _, fun _ => rfl, fun h => absurd h (Nat.lt_irrefl _)⟩)
      (hP.2.imp Or.inl) (hP.2.imp Or.inr) ha hb
  obtain ⟨p, hp, hph, -⟩ := mergeVocabLoop_src pops 0 0 a ha
  have hbound := univ_le_mergeVocabLoop pops 0 0 a ha
  exact ⟨(VRel.iff_of_or hor).1, (VRel.iff_of_or hor).2, (hP.1 a ha).2.2 (hph ▸ hpos p hp),
    by omega⟩

end KV.Interp
