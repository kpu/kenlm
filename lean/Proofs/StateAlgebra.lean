import Model.State
/-! Order / equality / hash algebra of lm/state.hh. -/
namespace KV.State

/-- `memcmp` both ways round: opposite signs, and `0` exactly on equal strings -/
theorem memcmp_cases (a b : List Nat) :
    (memcmp a b = -1 ∧ memcmp b a = 1 ∧ a ≠ b) ∨ (memcmp a b = 0 ∧ memcmp b a = 0 ∧ a = b) ∨
    (memcmp a b = 1 ∧ memcmp b a = -1 ∧ a ≠ b) := by
  induction a generalizing b with
  | nil => cases b with
    | nil => exact Or.inr (Or.inl ⟨rfl, rfl, rfl⟩)
    | cons y ys => exact Or.inl ⟨rfl, rfl, (List.cons_ne_nil y ys).symm⟩
  | cons x xs ih =>
    cases b with
    | nil => exact Or.inr (Or.inr ⟨rfl, rfl, List.cons_ne_nil x xs⟩)
    | cons y ys =>
      rw [memcmp, memcmp]
      rcases Nat.lt_trichotomy x y with h | rfl | h
      · rw [if_pos h, if_neg (Nat.lt_asymm h), if_pos h]
        exact Or.inl ⟨rfl, rfl, fun e => Nat.ne_of_lt h (List.cons.inj e).1⟩
      · rw [if_neg (Nat.lt_irrefl x), if_neg (Nat.lt_irrefl x)]
        simpa using ih ys
      · rw [if_neg (Nat.lt_asymm h), if_pos h, if_pos h]
        exact Or.inr (Or.inr ⟨rfl, rfl, fun e => Nat.ne_of_gt h (List.cons.inj e).1⟩)

theorem memcmp_eq_zero (a b : List Nat) : memcmp a b = 0 ↔ a = b := by
  rcases memcmp_cases a b with ⟨h, _, hne⟩ | ⟨h, _, he⟩ | ⟨h, _, hne⟩ <;> rw [h] <;> simp [*]

theorem State.eq_iff (a b : State) : a.eq b = true ↔ a.length = b.length ∧ a.key = b.key := by
  simp [State.eq, memcmp_eq_zero]

/-- `Compare`, `<` both ways round and `==` on `State`: by `length` first, then `memcmp` on the compared bytes -/
theorem State.compare_cases (a b : State) :
    (a.compare b = -1 ∧ a.lt b = true ∧ a.eq b = false ∧ b.lt a = false) ∨
    (a.compare b = 0 ∧ a.lt b = false ∧ a.eq b = true ∧ b.lt a = false) ∨
    (a.compare b = 1 ∧ a.lt b = false ∧ a.eq b = false ∧ b.lt a = true) := by
  unfold State.compare State.lt State.eq
  rcases Nat.lt_trichotomy a.length b.length with h | h | h
  · simp [Nat.ne_of_lt h, Nat.ne_of_gt h, h, Nat.lt_asymm h]
  · rcases memcmp_cases a.key b.key with ⟨h1, h2, _⟩ | ⟨h1, h2, _⟩ | ⟨h1, h2, _⟩ <;> simp [h, h1, h2]
  · simp [Nat.ne_of_lt h, Nat.ne_of_gt h, h, Nat.lt_asymm h]

theorem State.compare_sign (a b : State) :
    (a.compare b < 0 ↔ a.lt b = true) ∧ (a.compare b = 0 ↔ a.eq b = true) ∧ (a.compare b > 0 ↔ b.lt a = true) := by
  rcases a.compare_cases b with ⟨h, h1, h2, h3⟩ | ⟨h, h1, h2, h3⟩ | ⟨h, h1, h2, h3⟩ <;> rw [h, h1, h2, h3] <;> decide

theorem State.eq_hash (H : List Nat → Nat → Nat) (a b : State) (seed : Nat) (h : a.eq b = true) :
    a.hash H seed = b.hash H seed := by
  rw [State.hash, State.hash, ((State.eq_iff a b).mp h).2]

/-- equal states are equal on everything `==` may depend on: `length` and the compared bytes of `words[0..length)`
(stated for its own sake: no proof uses it) -/
theorem State.eq_words (a b : State) (h : a.eq b = true) : a.length = b.length ∧ a.key = b.key :=
  (State.eq_iff a b).mp h

/-- `Compare` on `Left` both ways round, and `==`: lexicographic on `length`, then (for non-empty states only) on the
last pointer, then on `full` -/
theorem Left.compare_cases (a b : Left) :
    (a.compare b = -1 ∧ b.compare a = 1 ∧ a.eq b = false) ∨ (a.compare b = 0 ∧ b.compare a = 0 ∧ a.eq b = true) ∨
    (a.compare b = 1 ∧ b.compare a = -1 ∧ a.eq b = false) := by
  unfold Left.compare Left.eq
  rcases Nat.lt_trichotomy a.length b.length with h | h | h
  · simp [h, Nat.lt_asymm h, Nat.ne_of_lt h]
  · by_cases h0 : b.length = 0
    · simp [h, h0]
    · rcases Nat.lt_trichotomy a.last b.last with hl | hl | hl
      · simp [h, h0, hl, Nat.lt_asymm hl, Nat.ne_of_lt hl]
      · cases a.full <;> cases b.full <;> simp [h, h0, hl]
      · simp [h, h0, hl, Nat.lt_asymm hl, Nat.ne_of_gt hl]
  · simp [h, Nat.lt_asymm h, Nat.ne_of_gt h]

/-- `hash_value(Left)` respects `==`: `full` is hashed only when `length != 0` -/
theorem Left.eq_hash (H : List Nat → Nat → Nat) (a b : Left) (h : a.eq b = true) : a.hash H = b.hash H := by
  unfold Left.eq at h
  simp only [Bool.and_eq_true, beq_iff_eq, Bool.or_eq_true] at h
  obtain ⟨hl, hor⟩ := h
  unfold Left.hash
  by_cases h0 : a.length = 0
  · have hb0 : b.length = 0 := by omega
    simp [h0, hb0]
  · rcases hor with h1 | ⟨h1, h2⟩
    · exact absurd h1 h0
    · simp [hl, h1, h2]

end KV.State
