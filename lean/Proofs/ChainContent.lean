import Proofs.ChainRing
/-! What the Chain ring delivers: the output of a stage as a function of its input (`map` for the default stage
functions, a transducer run for stateful stages), the output of the source, and that a finished stage has received
everything its predecessor produced.  Core Lean only. -/
namespace KV.Chain

variable {i : Nat}

section stagefn
variable [StageFn] {b m : Nat} {data : List Nat} {c : Chain}

def passOf (m i : Nat) : Item → Item
  | .val v => .val (if i = m then v else xform (i + 1) v)
  | .poison => .poison

theorem outFrom_eq_map (hi : i ≠ 0) (hdef : ∀ i hist v, StageFn.tr i hist v = xform (i + 1) v)
    (pre l : List Item) : outFrom m data i pre l = l.map (passOf m i) := by
  induction l generalizing pre with
  | nil => rfl
  | cons a l ih =>
    simp only [outFrom, List.map_cons, ih]
    congr 1
    cases a with
    | poison => rfl
    | val v =>
      simp only [outOf, bodyP, hi, if_false, passOf, hdef]
      by_cases e : i = m <;> simp [e]

theorem src_out_vals (l pre : List Item) (hl : Item.poison ∉ l) (hk : pre.length + l.length ≤ data.length) :
    outFrom m data 0 pre l = ((data.drop pre.length).take l.length).map Item.val := by
  induction l generalizing pre with
  | nil => simp [outFrom]
  | cons a l ih =>
    have hk' : pre.length < data.length := by simp at hk; omega
    cases a with
    | poison => simp at hl
    | val v =>
      have hl' : Item.poison ∉ l := fun e => hl (List.mem_cons_of_mem _ e)
      have := ih (pre ++ [Item.val v]) hl' (by simp at hk ⊢; omega)
      simp only [outFrom, this, List.length_cons, List.length_append, List.length_nil, Nat.zero_add]
      rw [List.drop_eq_getElem_cons hk', List.take_succ_cons, List.map_cons]
      congr 1
      simp [outOf, bodyP, List.getElem?_eq_getElem hk']

theorem RInv.source_out (h : RInv b m data c) (hf : (c.st 0).pc = .finished) :
    (c.st 0).out = data.map Item.val ++ [Item.poison] := by
  have ok := h.sok 0 (by omega)
  have hr := ok.image
  have hpe : pend (c.st 0) = [] := by simp [pend, hf]
  rw [hpe, List.append_nil] at hr
  have hsrc := ok.src rfl
  have hp : Item.poison ∈ (c.st 0).out := ok.fin.mp hf
  have hlen := ok.len
  have hL : (c.st 0).inp.length = data.length + 1 := by
    apply Classical.byContradiction
    intro hne
    have := src_out_vals (m := m) (data := data) (c.st 0).inp [] hsrc (by simp; omega)
    rw [hr, this] at hp
    obtain ⟨a, _, ha⟩ := List.mem_map.mp hp
    cases ha
  have hne : (c.st 0).inp ≠ [] := by intro e; rw [e] at hL; simp at hL
  obtain ⟨l1, x, hl⟩ : ∃ l1 x, (c.st 0).inp = l1 ++ [x] :=
    ⟨(c.st 0).inp.dropLast, (c.st 0).inp.getLast hne, (List.dropLast_concat_getLast hne).symm⟩
  have hl1 : l1.length = data.length := by rw [hl] at hL; simp at hL; exact hL
  have hsrc1 : Item.poison ∉ l1 := fun e => hsrc (by rw [hl]; exact List.mem_append_left _ e)
  rw [hr, hl, outFrom_append, src_out_vals l1 [] hsrc1 (by simp; omega), hl1]
  simp only [List.length_nil, List.drop_zero, List.take_length, List.nil_append]
  congr 1
  cases x with
  | poison => rfl
  | val v => simp [outFrom, outOf, bodyP, hl1]

theorem RInv.handed_over (h : RInv b m data c) (hi : i < m)
    (hf : (c.st (i + 1)).pc = .finished) : c.q (i + 1) = [] ∧ (c.st (i + 1)).inp = (c.st i).out := by
  have ok := h.sok (i + 1) (by omega)
  have hp : Item.poison ∈ (c.st (i + 1)).out := ok.fin.mp hf
  have : Item.poison ∈ outFrom m data (i + 1) [] (c.st (i + 1)).inp := by
    rw [← ok.image]; exact List.mem_append_left _ hp
  have hin := outFrom_poison_mem (by omega) this
  have hq := h.q i hi
  have hlast := (h.sok i (by omega)).last
  have hqe : c.q (i + 1) = [] := by
    apply Classical.byContradiction
    intro hne
    apply hlast
    rw [hq]
    rw [List.dropLast_append_of_ne_nil hne]
    exact List.mem_append_left _ hin
  rw [hqe, List.append_nil] at hq
  exact ⟨hqe, hq.symm⟩

end stagefn

/-- one deterministic, possibly stateful, stream transducer per stage: `step i : state × block → state × block` -/
structure Transducers (τ : Type) where
  init : Nat → τ
  step : Nat → τ → Nat → τ × Nat

namespace Transducers
variable {τ : Type} (T : Transducers τ)

def run (i : Nat) : τ → List Nat → List Nat
  | _, [] => []
  | s, v :: vs => (T.step i s v).2 :: run i (T.step i s v).1 vs

def stateAfter (i : Nat) (s : τ) (vs : List Nat) : τ := vs.foldl (fun s v => (T.step i s v).1) s

end Transducers

def valsOf : List Item → List Nat
  | [] => []
  | .val v :: l => v :: valsOf l
  | .poison :: l => valsOf l

/-- `valsOf` is `filterMap Item.val?`, the ThreadPool's way of saying it -/
theorem valsOf_eq_filterMap (l : List Item) : valsOf l = l.filterMap Item.val? := by
  induction l with
  | nil => rfl
  | cons x l ih => cases x <;> simp [valsOf, List.filterMap_cons, Item.val?, ih]

theorem valsOf_append (a b : List Item) : valsOf (a ++ b) = valsOf a ++ valsOf b := by
  simp only [valsOf_eq_filterMap, List.filterMap_append]

theorem valsOf_map_val (l : List Nat) : valsOf (l.map Item.val ++ [Item.poison]) = l := by
  induction l with
  | nil => rfl
  | cons a l ih => simp only [List.map_cons, List.cons_append, valsOf, ih]

/-- the stage functions realised by the transducers: the loop body of stage `i` keeps the transducer state, i.e.
computes its output from the current block and the state reached on the blocks received before -/
@[reducible] def Transducers.toStageFn {τ : Type} (T : Transducers τ) : StageFn :=
  ⟨fun i hist v => (T.step i (T.stateAfter i (T.init i) (valsOf hist)) v).2⟩

def Transducers.pipeline {τ : Type} (T : Transducers τ) (data : List Nat) : Nat → List Nat
  | 0 => data
  | i + 1 => T.run (i + 1) (T.init (i + 1)) (Transducers.pipeline T data i)

/-- the pass-through stages of `Chain.init` (the default of `Chain.tr`: stage `i` applies `xform (i + 1)`) as transducers
without state -/
def xformT : Transducers Unit := ⟨fun _ => (), fun i s v => (s, xform (i + 1) v)⟩

theorem Chain.init_eq_initT (b m : Nat) (data : List Nat) :
    Chain.init b m data = Chain.initT b m data xformT.toStageFn.tr := rfl

section transducer
variable {τ : Type} (T : Transducers τ)

theorem Transducers.run_append (i : Nat) (a b : List Nat) (s : τ) :
    T.run i s (a ++ b) = T.run i s a ++ T.run i (T.stateAfter i s a) b := by
  induction a generalizing s with
  | nil => rfl
  | cons v a ih =>
    simp only [List.cons_append, Transducers.run, ih (T.step i s v).1]
    rfl

theorem stateAfter_snoc (i : Nat) (s : τ) (vs : List Nat) (v : Nat) :
    T.stateAfter i s (vs ++ [v]) = (T.step i (T.stateAfter i s vs) v).1 := by
  simp [Transducers.stateAfter, List.foldl_append]

theorem valsOf_outFrom {m : Nat} {data : List Nat} (hi0 : i ≠ 0) (him : i ≠ m) (pre l : List Item) :
    valsOf (@outFrom T.toStageFn m data i pre l)
      = T.run i (T.stateAfter i (T.init i) (valsOf pre)) (valsOf l) := by
  induction l generalizing pre with
  | nil => rfl
  | cons x l ih =>
    cases x with
    | poison =>
      have := ih (pre ++ [Item.poison])
      simp only [valsOf_append, valsOf, List.append_nil] at this
      simp only [outFrom, outOf, valsOf, this]
    | val v =>
      have := ih (pre ++ [Item.val v])
      simp only [valsOf_append, valsOf, stateAfter_snoc] at this
      simp only [outFrom, outOf, bodyP, hi0, him, if_false, valsOf, Transducers.run, this]
      rfl

theorem outFrom_complete {m : Nat} {data : List Nat} (hi0 : i ≠ 0) (him : i ≠ m) (pre : List Item)
    (vs : List Nat) :
    @outFrom T.toStageFn m data i pre (vs.map Item.val ++ [Item.poison])
      = (T.run i (T.stateAfter i (T.init i) (valsOf pre)) vs).map Item.val ++ [Item.poison] := by
  induction vs generalizing pre with
  | nil => simp [outFrom, outOf, Transducers.run]
  | cons v vs ih =>
    have := ih (pre ++ [Item.val v])
    simp only [valsOf_append, valsOf, stateAfter_snoc] at this
    simp only [List.map_cons, List.cons_append, outFrom, outOf, bodyP, hi0, him, if_false, this,
      Transducers.run]
    rfl

theorem RInv.transducer_out {b m : Nat} {data : List Nat} {c : Chain} (h : @RInv T.toStageFn b m data c)
    (h1 : 1 ≤ i) (h2 : i < m) :
    valsOf ((c.st i).out ++ pend (c.st i)) = T.run i (T.init i) (valsOf (c.st i).inp) := by
  letI := T.toStageFn
  rw [(h.sok i (by omega)).image]
  exact valsOf_outFrom T (by omega) (by omega) [] _

theorem RInv.pipeline_out {b m : Nat} {data : List Nat} {c : Chain} (h : @RInv T.toStageFn b m data c)
    (hfin : c.main = .finished) :
    ∀ i, i < m → (c.st i).out = (T.pipeline data i).map Item.val ++ [Item.poison]
      ∧ (c.st (i + 1)).inp = (c.st i).out := by
  letI := T.toStageFn
  have hall := (h.mainok.of_main hfin).fin
  intro i
  induction i with
  | zero =>
    intro hi
    exact ⟨h.source_out (hall 0 (by omega)), (h.handed_over hi (hall 1 (by omega))).2⟩
  | succ i ih =>
    intro hi
    obtain ⟨hout, hinp⟩ := ih (by omega)
    refine ⟨?_, (h.handed_over hi (hall (i + 2) (by omega))).2⟩
    have hr' := (h.sok (i + 1) (by omega)).image
    have hp : pend (c.st (i + 1)) = [] := by simp [pend, hall (i + 1) (by omega)]
    rw [hp, List.append_nil, hinp, hout] at hr'
    rw [hr', outFrom_complete T (by omega) (by omega)]
    rfl

end transducer

end KV.Chain
