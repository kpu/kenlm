import Proofs.KNTable
import Proofs.KNDiscounts
import Mathlib.Tactic.Linarith
/-!
Every written value is a probability: under the record hypotheses `TableOK` and discounts within
their Chen–Goodman ranges (`DiscOK`: `0 ≤ D₁ ≤ 1`, `0 ≤ D₂ ≤ 2`, `0 ≤ D₃ ≤ 3`), every entry the
query can reach has `0 ≤ p ≤ 1` (so `log10 p ≤ 0`) and `0 ≤ bo`; and the query itself is in
`[0, 1]` for every context.  Route: `0 ≤ u`, `0 ≤ γ` ⇒ `0 ≤ score`; `score ≤ Σ score = 1`.
-/
namespace KV.KN.Norm

open KV.KN KV.KN.Spec

structure System.NonNeg (S : System) : Prop where
  u_nn : ∀ ctx w, ctx ≠ [] → 0 ≤ S.u ctx w
  γ_nn : ∀ ctx, ctx ≠ [] → 0 ≤ S.γ ctx
  p_nn : ∀ w ∈ S.V, 0 ≤ S.p [] w

theorem pBO_nonneg (S : System) (h : S.OK) (hn : S.NonNeg) (ctx : Gram) (w : Word) (hw : w ∈ S.V) :
    0 ≤ S.pBO ctx w := by
  induction ctx using dropLast_induction with
  | nil =>
    rw [S.pBO_in [] w (h.uni_mem w hw)]
    exact hn.p_nn w hw
  | step ctx hc ih =>
    by_cases hA : ∃ w ∈ S.V, S.inE ctx w = true
    · rw [S.pBO_ext h hc hA hw]
      refine add_nonneg ?_ (mul_nonneg (hn.γ_nn ctx hc) ih)
      split
      · exact hn.u_nn ctx w hc
      · exact le_refl 0
    · rw [S.pBO_free h hc hA hw]
      exact ih

theorem pBO_le_one (S : System) (h : S.OK) (hn : S.NonNeg) (ctx : Gram) (w : Word) (hw : w ∈ S.V) :
    S.pBO ctx w ≤ 1 := by
  rw [← normalised_abstract S h ctx]
  exact mem_le_sum_rat S.V (S.pBO ctx) (fun x hx => pBO_nonneg S h hn ctx x hx) w hw

theorem gamma_nonneg {d : Disc} (hd : DiscOK d) (es : List Emit) (ctx : Gram) :
    0 ≤ Spec.gamma d es ctx := by
  refine Rat.div_nonneg (sum_map_nonneg _ _ fun e _ => ?_) Rat.natCast_nonneg
  show 0 ≤ (if e.marked = true then (e.count : Rat) else d.get e.count)
  split
  · exact Rat.natCast_nonneg
  · exact get_nonneg hd _

theorem dAt_ok {c : Spec.Ctx} (hd : ∀ d ∈ c.ds, DiscOK d) (n : Nat) : DiscOK (c.dAt n) := by
  unfold Spec.Ctx.dAt
  rw [List.getD_eq_getElem?_getD]
  cases h : c.ds[n - 1]? with
  | none => simp [DiscOK]
  | some d => exact hd d (List.mem_of_getElem? h)

theorem uniform_nonneg {c : Spec.Ctx} (h : TableOK c) (hi : c.cfg.interpUni = true) : 0 ≤ c.uniform := by
  have hu := h.uniformOK hi
  by_contra hneg
  have hneg' : c.uniform < 0 := lt_of_not_ge hneg
  have hL : (0 : Rat) ≤ ((keptUni c).length : Rat) := Nat.cast_nonneg _
  have : c.uniform * ((keptUni c).length : Rat) ≤ 0 := mul_nonpos_of_nonpos_of_nonneg hneg'.le hL
  linarith

theorem prob_uni_nonneg {c : Spec.Ctx} (h : TableOK c) (hd : ∀ d ∈ c.ds, DiscOK d) {e : Emit}
    (he : e ∈ c.esAt 1) (w : Word) (hw : e.gram = [w]) : 0 ≤ c.prob [w] ∧ (w = bos → c.prob [w] = 1) := by
  have hd1 := dAt_ok hd 1
  have hg := gamma_nonneg hd1 (c.esAt 1) []
  have ha : 0 ≤ (c.dAt 1).apply e.count / (Spec.den (c.esAt 1) [] : Rat) :=
    Rat.div_nonneg (apply_nonneg hd1 _) Rat.natCast_nonneg
  rw [prob_uni]
  by_cases h1 : w = bos
  · subst h1; simp [uGamma_bos]
  refine ⟨?_, fun h' => absurd h' h1⟩
  -- without `--interpolate_unigrams` there is no weight on the uniform distribution, whatever its value
  have hgu : 0 ≤ (if c.cfg.interpUni then Spec.gamma (c.dAt 1) (c.esAt 1) [] else 0) * c.uniform := by
    cases hi : c.cfg.interpUni with
    | true => exact Rat.mul_nonneg hg (uniform_nonneg h hi)
    | false => simp
  by_cases h2 : w = unk
  · subst h2
    rw [uGamma_unk]
    cases hi : c.cfg.interpUni with
    | true => rw [hi] at hgu; simpa using hgu
    | false => simpa using hg
  · rw [uGamma_word c (h.nodup 1) he hw h1 h2]
    exact Rat.add_nonneg ha hgu

theorem sysOf_nonneg {c : Spec.Ctx} (h : TableOK c) (hd : ∀ d ∈ c.ds, DiscOK d) : (sysOf c).NonNeg where
  u_nn ctx w hc := by
    show 0 ≤ (c.uGamma (w :: ctx)).1
    rw [uGamma_cons c w hc]
    exact div_nonneg (apply_nonneg (dAt_ok hd _) _) (Nat.cast_nonneg _)
  γ_nn ctx _ := gamma_nonneg (dAt_ok hd _) _ _
  p_nn w hw := by
    obtain ⟨_, hk⟩ := (mem_V h).mp hw
    obtain ⟨e, he, _, hg⟩ := keptIn_iff.mp hk
    exact (prob_uni_nonneg h hd he w hg).1

theorem score_bounds {c : Spec.Ctx} (h : TableOK c) (hd : ∀ d ∈ c.ds, DiscOK d) (ctx : Gram) (w : Word)
    (hw : w ∈ Query.vocabNoBos (ordersOf c)) :
    0 ≤ Query.score (ordersOf c) ctx w ∧ Query.score (ordersOf c) ctx w ≤ 1 := by
  rw [score_eq]
  exact ⟨pBO_nonneg _ (sysOf_OK h) (sysOf_nonneg h hd) ctx w hw,
    pBO_le_one _ (sysOf_OK h) (sysOf_nonneg h hd) ctx w hw⟩

theorem backoff_nonneg {c : Spec.Ctx} (hd : ∀ d ∈ c.ds, DiscOK d) (g : Gram) : 0 ≤ c.backoff g := by
  unfold Spec.Ctx.backoff
  simp only
  split
  · exact gamma_nonneg (dAt_ok hd _) _ _
  · exact zero_le_one

/-- the probability of a written n-gram is a value of the query, hence in `[0, 1]` (`<s>` apart,
which the query never predicts and whose entry holds 1) -/
theorem prob_bounds {c : Spec.Ctx} (h : TableOK c) (hd : ∀ d ∈ c.ds, DiscOK d) (w : Word) (ctx : Gram)
    (hk : keptIn c (w :: ctx) = true) : 0 ≤ c.prob (w :: ctx) ∧ c.prob (w :: ctx) ≤ 1 := by
  by_cases hc : ctx = []
  · subst hc
    obtain ⟨r, hr, _, hg⟩ := keptIn_iff.mp hk
    have hp := prob_uni_nonneg h hd hr w hg
    by_cases hb : w = bos
    · exact ⟨hp.1, (hp.2 hb).le⟩
    · have := score_bounds h hd [] w ((mem_V h).mpr ⟨hb, hk⟩)
      rwa [score_eq, (sysOf c).pBO_in [] w hk] at this
  · have := score_bounds h hd ctx w (head_in_V h w ctx hc hk)
    rwa [score_eq, (sysOf c).pBO_in ctx w hk] at this

theorem lookup_bounds {c : Spec.Ctx} (h : TableOK c) (hd : ∀ d ∈ c.ds, DiscOK d) (g : Gram) (e : Entry)
    (hl : Query.lookup (ordersOf c) g = some e) : 0 ≤ e.p ∧ e.p ≤ 1 ∧ 0 ≤ e.bo := by
  cases g with
  | nil => simp [Query.lookup] at hl
  | cons w ctx =>
    rw [lookup_eq c _ (List.cons_ne_nil _ _)] at hl
    by_cases hk : keptIn c (w :: ctx) = true
    · rw [if_pos hk] at hl
      cases hl
      exact ⟨(prob_bounds h hd w ctx hk).1, (prob_bounds h hd w ctx hk).2, backoff_nonneg hd _⟩
    · rw [if_neg hk] at hl; cases hl

/-- every written entry, when the records of order `n` are n-grams of length `n` -/
theorem entry_bounds {c : Spec.Ctx} (h : RecordsOK c) (hd : ∀ d ∈ c.ds, DiscOK d) :
    ∀ l ∈ ordersOf c, ∀ e ∈ l, 0 ≤ e.p ∧ e.p ≤ 1 ∧ 0 ≤ e.bo := by
  intro l hl e he
  obtain ⟨i, hi⟩ := List.mem_iff_getElem?.mp hl
  have hget : (ordersOf c).getD (i + 1 - 1) [] = l := by
    rw [List.getD_eq_getElem?_getD, Nat.add_sub_cancel, hi]; rfl
  rw [orders_getD] at hget
  rw [← hget, List.mem_mergeSort] at he
  obtain ⟨r, hr, rfl⟩ := List.mem_map.mp he
  obtain ⟨hr1, hr2⟩ := List.mem_filter.mp hr
  have hrl := h.len (i + 1) (Nat.le_add_left 1 i) r hr1
  have hne : r.gram ≠ [] := by intro h0; rw [h0] at hrl; simp at hrl
  have hk : keptIn c r.gram = true := keptIn_iff.mpr ⟨r, by rw [hrl]; exact hr1, hr2, rfl⟩
  apply lookup_bounds h.toTableOK hd r.gram
  rw [lookup_eq c _ hne, if_pos hk]; rfl

/-- Every written value is a probability: `0 ≤ p ≤ 1` and `0 ≤ bo` for every entry of the
model `Spec.estimateFrom` returns for a well-formed table, when the fallback discounts (if any)
are in range. -/
theorem entry_bounds_table (cfg : Cfg) (fallback : Option Disc) (full : Spec.Table) (m : Model)
    (hm : Spec.estimateFrom cfg fallback full = .ok m) (hfb : ∀ f, fallback = some f → DiscOK f)
    (hw : WF cfg full) : ∀ l ∈ m.orders, ∀ e ∈ l, 0 ≤ e.p ∧ e.p ≤ 1 ∧ 0 ≤ e.bo := by
  obtain ⟨discs, hd, ho⟩ := estimateFrom_orders cfg fallback full m hm
  rw [ho]
  exact entry_bounds (recordsOK_of_wf hw discs) (discounts_ok hfb hd)

theorem score_bounds_table (cfg : Cfg) (fallback : Option Disc) (full : Spec.Table) (m : Model)
    (hm : Spec.estimateFrom cfg fallback full = .ok m) (hfb : ∀ f, fallback = some f → DiscOK f)
    (hw : WF cfg full) (ctx : Gram) (w : Word) (hwv : w ∈ Query.vocabNoBos m.orders) :
    0 ≤ Query.score m.orders ctx w ∧ Query.score m.orders ctx w ≤ 1 := by
  obtain ⟨discs, hd, ho⟩ := estimateFrom_orders cfg fallback full m hm
  rw [ho] at hwv ⊢
  exact score_bounds (tableOK_of_wf hw discs) (discounts_ok hfb hd) ctx w hwv

end KV.KN.Norm
