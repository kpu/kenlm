import Model.FilterDrv
import Proofs.FilterLists
/-!
`header_counts` at the level of `ARPAOutput`'s counter: feeding the calls that reach output
file `k` during a sequential (hence, by C12 `ctl_output`, any threaded) run of an ARPA input
into the model of `ARPAOutput` (`BeginLength` resets `fast_counter_`, `AddNGram` increments it,
`EndLength` stores it, `Finish` writes the counts at offset 0) yields exactly `arpaFile`.

The bytes written for a call do not depend on the counters (`chunkOf`), so the body of the file
and the counts are followed separately along the log of the reader's program.
-/
namespace KV.FilterDrv
open KV KV.Filter KV.FilterCtl

def body (o : AOut) : Bytes := o.chunks.reverse.flatten

/-- the bytes one call appends to the file -/
def chunkOf : Sum Mark Item → Bytes
  | .inl (.beginLength k) => gramsHeader k ++ [10]
  | .inl (.endLength _) => [10]
  | .inl .finish => bEnd ++ [10]
  | .inr it => it.line ++ [10]

theorem body_feed (o : AOut) (e : Sum Mark Item) : body (o.feed e) = body o ++ chunkOf e := by
  rcases e with (_ | _ | _) | _ <;> simp [body, AOut.feed, chunkOf]

theorem body_foldl (fl : List (Sum Mark Item)) (o : AOut) : body (fl.foldl AOut.feed o) = body o ++ fl.flatMap chunkOf := by
  induction fl generalizing o with
  | nil => simp
  | cons e fl ih => rw [List.foldl_cons, ih, body_feed, List.flatMap_cons, List.append_assoc]

theorem counter_lines (l : List Item) (o : AOut) :
    ((l.map Sum.inr).foldl AOut.feed o).counter = o.counter + l.length ∧
    ((l.map Sum.inr).foldl AOut.feed o).counts = o.counts := by
  induction l generalizing o with
  | nil => exact ⟨rfl, rfl⟩
  | cons x l ih =>
    obtain ⟨h1, h2⟩ := ih (o.feed (Sum.inr x))
    exact ⟨by rw [List.map_cons, List.foldl_cons, h1, List.length_cons]; exact Nat.add_right_comm _ 1 _, h2⟩

variable (vs : Item → Verdict) (k : Nat)

/-- the items written to file `k`, with multiplicity -/
def keptItems (vs : Item → Verdict) (k : Nat) (items : List Item) : List Item :=
  items.flatMap fun x => List.replicate ((vs x).copies k) x

theorem keptLines_eq (items : List Item) :
    keptLines vs k items = (keptItems vs k items).map (·.line) := by
  simp [keptLines, keptItems, List.map_flatMap]

theorem fileLog_itemEvents (x : Item) :
    fileLog k (itemEvents vs x) = List.replicate ((vs x).copies k) (Sum.inr x) := by
  unfold itemEvents
  cases hv : vs x with
  | all => simp [fileLog, Verdict.copies]
  | only ks =>
    simp only [Verdict.copies]
    clear hv
    induction ks with
    | nil => simp [fileLog]
    | cons j ks ih =>
      simp only [List.map_cons, fileLog, List.count_cons]
      by_cases hj : j = k
      · subst hj; simp [ih, List.replicate_succ]
      · have : (j == k) = false := by simpa using hj
        simp [hj, this, ih]

theorem fileLog_adds (items : List Item) (r : List (ROp Item)) :
    fileLog k (seqLog vs (items.map ROp.add ++ r)) = (keptItems vs k items).map Sum.inr ++ fileLog k (seqLog vs r) := by
  induction items with
  | nil => rfl
  | cons x items ih =>
    simp only [List.map_cons, List.cons_append, seqLog, fileLog_append, fileLog_itemEvents, ih, keptItems,
      List.flatMap_cons, List.map_append, List.map_replicate, List.append_assoc]

theorem chunks_lines (l : List Item) : (l.map Sum.inr).flatMap chunkOf = joinLines (l.map (·.line)) := by
  simp [List.flatMap_map, joinLines, chunkOf]

theorem setCount_end (cs : List Nat) (v : Nat) : setCount cs cs.length v = cs ++ [v] := by
  unfold setCount
  have : cs.length + 1 - cs.length = 1 := Nat.add_sub_cancel_left _ _
  rw [this]
  induction cs with
  | nil => rfl
  | cons c cs _ => simp


theorem body_orders : ∀ (os : List (List Item)) (j : Nat),
    (fileLog k (seqLog vs (arpaOrders j os))).flatMap chunkOf = sectionsBody j (os.map (keptLines vs k)) ++ bEnd ++ [10]
  | [], j => by simp [arpaOrders, seqLog, fileLog, chunkOf, sectionsBody]
  | it :: os, j => by
    simp only [arpaOrders, seqLog, fileLog, fileLog_adds, List.flatMap_cons, List.flatMap_append, chunks_lines,
      body_orders os (j+1), chunkOf, List.map_cons, sectionsBody, keptLines_eq, List.append_assoc]

theorem counts_orders : ∀ (os : List (List Item)) (j : Nat) (o : AOut),
    o.counts.length + 1 = j →
    ((fileLog k (seqLog vs (arpaOrders j os))).foldl AOut.feed o).counts =
      o.counts ++ (os.map (keptLines vs k)).map List.length
  | [], j, o, _ => by simp [arpaOrders, seqLog, fileLog, AOut.feed]
  | it :: os, j, o, hj => by
    simp only [arpaOrders, seqLog, fileLog, fileLog_adds, List.foldl_cons, List.foldl_append]
    obtain ⟨h1, h2⟩ := counter_lines (keptItems vs k it) (o.feed (Sum.inl (Mark.beginLength j)))
    have hend : ((List.foldl AOut.feed (o.feed (Sum.inl (Mark.beginLength j)))
        ((keptItems vs k it).map Sum.inr)).feed (Sum.inl (Mark.endLength j))).counts = o.counts ++ [(keptLines vs k it).length] := by
      show setCount _ (j - 1) _ = _
      rw [h1, h2]
      show setCount o.counts (j - 1) (0 + _) = _
      rw [show j - 1 = o.counts.length by rw [← hj, Nat.add_sub_cancel], setCount_end, Nat.zero_add, keptLines_eq, List.length_map]
    rw [counts_orders os (j+1) _ (by rw [hend, List.length_append, ← hj]; rfl), hend]
    simp [List.append_assoc]

end KV.FilterDrv
