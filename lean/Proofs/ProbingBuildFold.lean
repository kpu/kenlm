import Proofs.ProbingBuildLine
import Proofs.ProbingBuildFile
/-! The builder's run over a file, generic in the build mode, the invariant and the per-line step: the side conditions the fold
hands to each line (`LC`; `LineOK.of_lc`), the fold (`inv_fold`), and the end of the file: the stored keys are then the keys of
`Table.build a` (`Final`, `build_fold`), the marks are `extendsLeft` and `isContext` (`endsInK_final`, `startsWithK_final`). -/
namespace KV.ProbingBuild
open KV.Arpa KV.Table KV.Score KV.ProbingLM

/-- side conditions of one line relative to the stored keys, as the fold provides them: `asc` no stored key is longer than the line,
`rs` every shorter n-gram of the model is stored, `ctx` in particular the line's context, `fresh` the keys the line adds collide with
no stored key of their order, `cap` capacity for the keys after the line -/
structure LC (combine : Nat → Word → Nat) (a : Arpa) (u0 : List W) (N : Nat) (caps : Nat → Nat) (S : List Key) (p : Key) (e : Entry) : Prop where
  n2 : 2 ≤ p.length
  nN : p.length ≤ N
  real : a.gram p = some e
  asc : ∀ k ∈ S, k.length ≤ p.length
  fresh : ∀ k, (k ∈ missing S p (p.length - 1) ∨ k = p) → ∀ k' ∈ keysOf S k.length, hashOf combine k' ≠ hashOf combine k
  cap : ∀ m, (keysOf (addLineKeys S p) m).length < caps m
  words : ∀ x ∈ p, x < u0.length
  ctx : 3 ≤ p.length → p.drop 1 ∈ S
  rs : ∀ k, a.gram k ≠ none → 2 ≤ k.length → k.length < p.length → k ∈ S

theorem ctx_take_mem {a : Arpa} {S : List Key} (si : SInv a S) (p : Key) (hc : p.drop 1 ∈ S) (j : Nat) (h2 : 2 ≤ j)
    (hj : j < p.length) : (p.drop 1).take j ∈ S :=
  si.take_mem_le _ hc j h2 (by rw [List.length_drop]; exact Nat.le_sub_one_of_lt hj)

section
variable {combine : Nat → Word → Nat} {N : Nat} {caps : Nat → Nat} {U : Nat} {S : List Key} {p : Key} {b L : Nat}

theorem Blanks.cap_of_lc {a : Arpa} {u0 : List W} {e : Entry} (bl : Blanks S p b L) (lc : LC combine a u0 N caps S p e) (j : Nat)
    (h1 : b < j) (h2 : j ≤ b + L + 1) : (keysOf S j).length + 1 < caps j := by
  have := lc.cap j
  rw [bl.keysOf_addLineKeys] at this
  rcases Nat.lt_or_eq_of_le h2 with hj | hj
  · have hjL := Nat.le_of_lt_succ hj
    rwa [keysAfter_blank S p h1 hjL, keysOf_append_other S p _ (Nat.ne_of_gt (bl.lt_len hjL)), List.length_append] at this
  · rwa [keysAfter_other S p fun c => Nat.not_succ_le_self _ (hj ▸ c.2), keysOf_append_same S p _ (hj ▸ bl.hpl), List.length_append] at this

theorem LineOK.of_lc {a : Arpa} {u0 : List W} {e : Entry} (si : SInv a S) (lc : LC combine a u0 N caps S p e) (bl : Blanks S p b L) :
    LineOK combine N caps u0.length S p b L where
  toBlanks := bl
  nN := bl.hpl ▸ lc.nN
  ctx := fun j h2 _ hj =>
    ctx_take_mem si p (lc.ctx (Nat.succ_le_of_lt (Nat.lt_of_le_of_lt h2 (bl.lt_len hj)))) j h2 (bl.lt_len hj)
  fresh := fun j h1 h2 => by
    have hk : p.take j ∈ missing S p (p.length - 1) ∨ p.take j = p := by
      rcases Nat.lt_or_eq_of_le h2 with hj | hj
      · refine Or.inl (keysOf_mem _ j _ ?_)
        rw [show p.length - 1 = b + L by rw [bl.hpl]; rfl, bl.missing_keys L (Nat.le_refl _) j, if_pos ⟨h1, Nat.le_of_lt_succ hj⟩]
        exact List.mem_singleton_self _
      · exact Or.inr (hj ▸ bl.take_top)
    have := lc.fresh (p.take j) hk
    rwa [bl.take_len h2] at this
  new := fun h => lc.fresh p (Or.inr rfl) p ((mem_keysOf S _ p).mpr ⟨h, rfl⟩) rfl
  cap := bl.cap_of_lc lc
  words := fun _ => ⟨lc.words _ (headD_mem p (Nat.le_of_succ_le lc.n2)), lc.words _ (ctx_take_one p lc.n2).2⟩

end

/-- the stored keys relative to the lines processed so far: every processed line is stored, and every stored key is a suffix of a
processed line (so a line not yet processed and no shorter than the processed ones is not stored) -/
structure FoldInv (a : Arpa) (proc : List Line) (S : List Key) : Prop where
  si : SInv a S
  lines : ∀ q ∈ proc, q.1 ∈ S
  pre : ∀ k ∈ S, ∃ q ∈ proc, ∃ i, k = q.1.take i

/-- the per-line step the fold asks for: on a line of the class `Cls` (the restriction on the file under which the step is proved, e.g.
`Cls1`; `fun _ => True` for none), `addLine` in mode `rest` keeps the invariant `I` -/
def StepOK (combine : Nat → Word → Nat) (a : Arpa) (u0 : List W) (N : Nat) (caps : Nat → Nat) (rest : Bool)
    (I : List Key → St → Prop) (Cls : Key → Prop) : Prop :=
  ∀ (S : List Key) (s : St) (p : Key) (e : Entry), I S s → SInv a S → LC combine a u0 N caps S p e → Cls p →
    ∃ s', addLine combine rest N s p e = .ok s' ∧ I (addLineKeys S p) s'

/-- the single-blank class: every n-gram of order ≥ 4 has its immediate suffix in the model (trigrams are arbitrary).  No proof
needs `Cls1` or `Cls2`: they type a hypothesis of four statements of Properties/C03ProbingBuild.lean -/
def Cls1 (a : Arpa) (p : Key) : Prop := 4 ≤ p.length → a.gram (p.take (p.length - 1)) ≠ none

/-- single-level blanks at any order: an n-gram of order ≥ 4 has its immediate suffix or the next shorter one in the model -/
def Cls2 (a : Arpa) (p : Key) : Prop :=
  4 ≤ p.length → a.gram (p.take (p.length - 1)) ≠ none ∨ a.gram (p.take (p.length - 2)) ≠ none

/-- the fold.  The lines come sorted by length, so when a line `p` is read every n-gram shorter than `p` has been processed and is
stored: that gives `LC.rs` and, through `WellFormed`, `LC.ctx`.  Every stored key is a suffix of a processed line (`FoldInv.pre`) and
the n-grams are distinct, so `p` itself is not stored; injectivity of the hash on the keys of one order then gives `LC.fresh` for the
line and for the blanks it adds.  `LC.cap` speaks of the keys after the line because the capacity is given for the whole file and
the key lists only grow (`foldKeys_append`). -/
theorem inv_fold (combine : Nat → Word → Nat) (a : Arpa) (u0 : List W) (N : Nat) (caps : Nat → Nat) (Cls : Key → Prop)
    (rest : Bool) (I : List Key → St → Prop) (step : StepOK combine a u0 N caps rest I Cls) (hwf : WellFormed a)
    (hinj : ∀ k k', IsKey a k → IsKey a k' → 2 ≤ k.length → k.length = k'.length → hashOf combine k = hashOf combine k' → k = k')
    (hwords : ∀ p, a.gram p ≠ none → ∀ x ∈ p, x < u0.length) :
    ∀ (todo proc : List Line) (S : List Key) (s : St), I S s → FoldInv a proc S →
      (proc ++ todo).Pairwise (fun p q => p.1.length ≤ q.1.length) →
      ((proc ++ todo).map (·.1)).Nodup →
      (∀ q ∈ proc ++ todo, 2 ≤ q.1.length ∧ q.1.length ≤ N ∧ a.gram q.1 = some q.2) →
      (∀ k, a.gram k ≠ none → 2 ≤ k.length → ∃ q ∈ proc ++ todo, q.1 = k) →
      (∀ m, (keysOf (foldKeys S todo) m).length < caps m) →
      (∀ q ∈ todo, Cls q.1) →
      ∃ s', todo.foldlM (fun s p => addLine combine rest N s p.1 p.2) s = .ok s' ∧
        I (foldKeys S todo) s' ∧ FoldInv a (proc ++ todo) (foldKeys S todo) := by
  intro todo
  induction todo with
  | nil => intro proc S s inv fi _ _ _ _ _ _; exact ⟨s, rfl, by simpa [foldKeys] using inv, by simpa [foldKeys] using fi⟩
  | cons p todo ih =>
    intro proc S s inv fi hsorted hnd hlines hall hcaps hcls
    obtain ⟨hp2, hpN, hpr⟩ := hlines p (by simp)
    have hpw := List.pairwise_append.mp hsorted
    have hbefore : ∀ q ∈ proc, q.1.length ≤ p.1.length := fun q hq => hpw.2.2 q hq p List.mem_cons_self
    have hlater : ∀ q ∈ todo, p.1.length ≤ q.1.length := fun q hq => (List.pairwise_cons.mp hpw.2.1).1 q hq
    have inproc : ∀ q ∈ proc ++ p :: todo, q.1.length < p.1.length → q ∈ proc := by
      intro q hq hl
      rcases List.mem_append.mp hq with h | h
      · exact h
      · rcases List.mem_cons.mp h with h | h
        · subst h; omega
        · have := hlater q h; omega
    have realIn : ∀ k, a.gram k ≠ none → 2 ≤ k.length → k.length < p.1.length → k ∈ S := by
      intro k hk h2 hl
      obtain ⟨q, hq, hqe⟩ := hall k hk h2
      have := inproc q hq (by rw [hqe]; exact hl)
      rw [← hqe]; exact fi.lines q this
    have hpnS : p.1 ∉ S := by
      intro hin
      obtain ⟨q, hq, i, hqi⟩ := fi.pre _ hin
      have h1 := hbefore q hq
      have hlen : p.1.length = min i q.1.length := by rw [hqi, List.length_take]
      have hqe : q.1 = p.1 := by
        rw [hqi]; symm; apply List.take_of_length_le; omega
      rw [List.map_append, List.nodup_append] at hnd
      exact hnd.2.2 _ (List.mem_map_of_mem hq) _ (List.mem_map_of_mem (List.mem_cons_self (a := p) (l := todo))) hqe
    have hkp : IsKey a p.1 := isKey_of_gram (Nat.le_of_succ_le hp2) (by rw [hpr]; simp)
    obtain ⟨X, hX⟩ := foldKeys_append todo (addLineKeys S p.1)
    have lc : LC combine a u0 N caps S p.1 p.2 := by
      refine ⟨hp2, hpN, hpr, ?_, ?_, ?_, hwords p.1 (by rw [hpr]; simp), ?_, realIn⟩
      · intro k hk
        obtain ⟨q, hq, i, hqi⟩ := fi.pre k hk
        have := hbefore q hq
        rw [hqi, List.length_take]; omega
      · intro k hk k' hk' heq
        have hk'S := keysOf_mem S _ k' hk'
        have hk'l := keysOf_len S _ k' hk'
        have hkkey : IsKey a k := by
          rcases hk with hk | hk
          · obtain ⟨i, h1, h3, h4, _⟩ := missing_mem S p.1 _ k hk
            rw [h4]; exact isKey_take a p.1 hkp i (by omega) (by omega)
          · subst hk; exact hkp
        have := hinj k' k (fi.si.keys k' hk'S) hkkey (fi.si.len2 k' hk'S) hk'l heq
        subst this
        rcases hk with hk | hk
        · obtain ⟨_, _, _, _, hns⟩ := missing_mem S p.1 _ k' hk
          exact hns hk'S
        · subst hk; exact hpnS hk'S
      · intro m
        have h1 := hcaps m
        simp only [foldKeys, List.foldl_cons] at h1
        have h2 : foldKeys (addLineKeys S p.1) todo = addLineKeys S p.1 ++ X := hX
        simp only [foldKeys] at h2
        rw [h2] at h1
        have := keysOf_len_mono (addLineKeys S p.1) X m
        omega
      · intro h3
        have hreal : a.gram (p.1.drop 1) ≠ none := by
          match hpk : p.1, h3 with
          | x :: t, h3 =>
            have hne : t ≠ [] := by intro h; subst h; simp at h3
            have := hwf.ctx_present x t hne (by rw [← hpk, hpr]; simp)
            simpa using this
        exact realIn _ hreal (by rw [List.length_drop]; omega) (by rw [List.length_drop]; omega)
    obtain ⟨s1, h1, inv1⟩ := step S s p.1 p.2 inv fi.si lc (hcls p List.mem_cons_self)
    have si1 := sInv_addLine fi.si p.1 (by rw [hpr]; simp) hp2 lc.ctx
    have fi1 : FoldInv a (proc ++ [p]) (addLineKeys S p.1) := by
      refine ⟨si1, ?_, ?_⟩
      · intro q hq
        rcases List.mem_append.mp hq with h | h
        · exact (mem_addLineKeys S p.1 _).mpr (Or.inl (fi.lines q h))
        · simp at h; subst h; exact (mem_addLineKeys S q.1 _).mpr (Or.inr (Or.inr rfl))
      · intro k hk
        rcases (mem_addLineKeys S p.1 k).mp hk with h | h | h
        · obtain ⟨q, hq, i, hqi⟩ := fi.pre k h
          exact ⟨q, List.mem_append_left _ hq, i, hqi⟩
        · obtain ⟨i, _, _, h4, _⟩ := missing_mem S p.1 _ k h
          exact ⟨p, by simp, i, h4⟩
        · exact ⟨p, by simp, p.1.length, by rw [h, List.take_length]⟩
    have happ : proc ++ p :: todo = (proc ++ [p]) ++ todo := by simp
    obtain ⟨s', h2', inv', fi'⟩ := ih (proc ++ [p]) (addLineKeys S p.1) s1 inv1 fi1 (by rw [← happ]; exact hsorted)
      (by rw [← happ]; exact hnd) (by rw [← happ]; exact hlines) (by rw [← happ]; exact hall)
      (by intro m; have := hcaps m; simpa [foldKeys] using this)
      (fun q hq => hcls q (List.mem_cons_of_mem _ hq))
    refine ⟨s', ?_, by simpa [foldKeys] using inv', by rw [happ]; simpa [foldKeys] using fi'⟩
    rw [List.foldlM_cons, h1]
    exact h2'

theorem invG_init (combine : Nat → Word → Nat) (a : Arpa) (nWords : Nat) (buckets : List Nat) (hN : 2 ≤ a.order)
    (hcaps : ∀ m, 0 < capOf buckets m) :
    InvG combine a (initUni a nWords) a.order (capOf buckets) [] (initSt a nWords buckets) := by
  refine ⟨by simp [initSt], ⟨rfl, fun w => by simp [initSt, expU, endsInK, startsWithK]⟩, ?_⟩
  intro m h2 hmN
  refine ⟨fun _ => none, ?_⟩
  have : tbl a.order (initSt a nWords buckets) m = emptyOrd (capOf buckets m) := by
    unfold tbl capOf initSt
    by_cases hm : m = a.order
    · simp [hm]
    · have hlt : m - 2 < a.order - 2 := by omega
      simp only [hm, if_false]
      rw [List.getD_eq_getElem?_getD, List.getElem?_map, List.getElem?_range hlt]
      rfl
  rw [this]
  exact ordG_empty combine a m _ (hcaps m)

structure Final (a : Arpa) (Sf : List Key) : Prop where
  si : SInv a Sf
  reals : ∀ k, a.gram k ≠ none → 2 ≤ k.length → k ∈ Sf

theorem Final.key_mem {a : Arpa} {Sf : List Key} (f : Final a Sf) (k : Key) (hk : IsKey a k) (h2 : 2 ≤ k.length) : k ∈ Sf := by
  obtain ⟨q, hq, hp⟩ := (key_iff_prefix a k).mp hk.2
  have := f.si.take_mem_le q (f.reals q hq (Nat.le_trans h2 hp.length_le)) k.length h2 hp.length_le
  rwa [← List.prefix_iff_eq_take.mp hp] at this

theorem endsInK_final {a : Arpa} {Sf : List Key} (f : Final a Sf) (g : Key) (hg : g ≠ []) : endsInK Sf g = extendsLeft a g := by
  have hgl : 1 ≤ g.length := List.length_pos_iff.mpr hg
  apply Bool.eq_iff_iff.mpr
  rw [endsInK_true_iff, extendsLeft_iff]
  constructor
  · rintro ⟨k, hk, hl, ht⟩
    obtain ⟨q, hq, hp⟩ := (key_iff_prefix a k).mp (f.si.keys k hk).2
    exact ⟨q, hq, Nat.lt_of_lt_of_le (hl ▸ Nat.lt_succ_self _) hp.length_le, (ht ▸ List.take_prefix _ k).trans hp⟩
  · rintro ⟨p, hp, hl, hpre⟩
    have hkp : IsKey a p := isKey_of_gram (Nat.lt_of_le_of_lt (Nat.zero_le _) hl) hp
    refine ⟨p.take (g.length + 1), f.key_mem _ (isKey_take a p hkp _ (Nat.succ_pos _) hl)
      (by rw [List.length_take_of_le hl]; exact Nat.succ_le_succ hgl), List.length_take_of_le hl, ?_⟩
    rw [KV.take_take_of_le (Nat.le_succ _)]
    exact (List.prefix_iff_eq_take.mp hpre).symm

theorem startsWithK_final {a : Arpa} {Sf : List Key} (f : Final a Sf) (g : Key) (hg : g ≠ []) : startsWithK Sf g = isContext a g := by
  have hgl : 1 ≤ g.length := List.length_pos_iff.mpr hg
  apply Bool.eq_iff_iff.mpr
  rw [startsWithK_true_iff, isContext_iff_key]
  constructor
  · rintro ⟨k, hk, hl, hd⟩
    obtain ⟨q, hq, hp⟩ := (key_iff_prefix a k).mp (f.si.keys k hk).2
    match k, hl, hd with
    | x :: _, _, rfl => exact ⟨x, q, hq, hp⟩
  · rintro ⟨x, q, hq, hp⟩
    exact ⟨x :: g, f.key_mem _ ⟨List.cons_ne_nil _ _, (key_iff_prefix a _).mpr ⟨q, hq, hp⟩⟩ (Nat.succ_le_succ hgl), rfl, rfl⟩

/-- the builder's run over the file in either build mode: an invariant `I` that holds of the initial state and is kept by
every line (of the class `Cls`) holds at the end for the keys of the whole file, which are then the keys of the table -/
theorem build_fold (combine : Nat → Word → Nat) (a : Arpa) (nWords : Nat) (buckets : List Nat) (um : Rat)
    (ok : ArpaOK' a nWords um) (Cls : Key → Prop) (rest : Bool) (I : List Key → St → Prop)
    (step : StepOK combine a (initUni a nWords) a.order (capOf buckets) rest I Cls)
    (inv0 : I [] (initSt a nWords buckets))
    (hcls : ∀ q ∈ ngramLines a, Cls q.1)
    (hsorted : (ngramLines a).Pairwise (fun p q => p.1.length ≤ q.1.length))
    (hnd : ((ngramLines a).map (·.1)).Nodup) (hgram : ∀ q ∈ ngramLines a, a.gram q.1 = some q.2)
    (hinj : ∀ k k', IsKey a k → IsKey a k' → 2 ≤ k.length → k.length = k'.length → hashOf combine k = hashOf combine k' →
      k = k')
    (hcaps : ∀ m, (keysOf (foldKeys [] (ngramLines a)) m).length < capOf buckets m) :
    ∃ s, build combine rest a nWords buckets um = .ok (fixUnk a um s) ∧
      I (foldKeys [] (ngramLines a)) s ∧ Final a (foldKeys [] (ngramLines a)) := by
  have hul := initUni_length a nWords
  have fi0 : FoldInv a [] [] := ⟨⟨by simp, by simp, by simp, by simp⟩, by simp, by simp⟩
  obtain ⟨s, hf, inv, fi⟩ := inv_fold combine a (initUni a nWords) a.order (capOf buckets) Cls rest I step ok.wf hinj
    (fun p hp x hx => by rw [hul]; exact (ok.vocab x).mpr (ok.words p hp x hx))
    (ngramLines a) [] [] _ inv0 fi0 (by simpa using hsorted)
    (by simpa using hnd)
    (by
      intro q hq
      have hq' : q ∈ ngramLines a := by simpa using hq
      have hg := hgram q hq'
      exact ⟨(ngramLines_real a q hq').2, ok.wf.len_le _ (by rw [hg]; simp), hg⟩)
    (by
      intro k hk h2
      obtain ⟨e, he⟩ := Option.ne_none_iff_exists'.mp hk
      exact ⟨(k, e), by simpa using mem_ngramLines a k e he h2, rfl⟩)
    hcaps (by simpa using hcls)
  refine ⟨s, ?_, inv, fi.si, fun k hk h2 => ?_⟩
  · rw [build_eq, hf]
    rfl
  · obtain ⟨e, he⟩ := Option.ne_none_iff_exists'.mp hk
    exact fi.lines (k, e) (by simpa using mem_ngramLines a k e he h2)

end KV.ProbingBuild
