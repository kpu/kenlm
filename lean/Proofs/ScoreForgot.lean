import Proofs.ScoreMain
/-! `FullScoreForgotState` returns the textbook probability for every explicit context, and the matched length of
`ScoreExceptBackoff`. -/
namespace KV.Score
open KV.Arpa KV.Table KV.State

/-- once a context is not in the table, neither are the longer ones: their back-offs are all zero -/
theorem rsum_boW_zero {a : Arpa} {T : Table} (tf : TableFor a T) (c : List Word) {j : Nat}
    (hne : c.take j ≠ []) (hn : T.lookup (c.take j) = none) (lo d : Nat) (hlo : j ≤ lo + 1) :
    rsum (fun k => a.boW (c.take (k+1))) lo d = 0 :=
  rsum_zero fun i hi _ => by
    show a.boW (c.take (i+1)) = 0
    rw [← tf.bo_eq, Table.bo, lookup_none_take' tf.toTableOK c j (i+1) (by omega) hne hn]

/-- the charging loop of `FullScoreForgotState`, started on the node `c.take j` with `l = c.drop j` still to come (`om2`,
the order argument, plays no role over a table): it adds the back-offs of all longer contexts `c.take (k+1)`, `j ≤ k < |c|`
— those it does not reach because a lookup fails are zero (`rsum_boW_zero`) -/
theorem charge_spec {a : Arpa} {T : Table} (tf : TableFor a T) (c : List Word) :
    ∀ (l : List Word) (j om2 : Nat) (node : List Word) (acc : Rat), c.drop j = l → node = c.take j → c.take j ≠ [] →
      chargeLoop (tableSearch T) l om2 node acc
        = acc + rsum (fun k => a.boW (c.take (k+1))) j (c.length - j) := by
  intro l
  induction l with
  | nil =>
    intro j om2 node acc hd _ _
    rw [Nat.sub_eq_zero_of_le (List.drop_eq_nil_iff.mp hd)]
    exact (Rat.add_zero acc).symm
  | cons x rest ih =>
    intro j om2 node acc hd hnode hne
    obtain ⟨htake, hdrop, hjl⟩ := take_succ_of_drop hd
    have hnx : node ++ [x] = c.take (j+1) := by rw [hnode, htake]
    have hne' : c.take (j+1) ≠ [] := by rw [htake]; exact List.append_ne_nil_of_right_ne_nil _ (List.cons_ne_nil _ _)
    rw [chargeLoop, lookupMiddle_table, hnx]
    cases hl : T.lookup (c.take (j+1)) with
    | none =>
      rw [rsum_boW_zero tf c hne' hl j _ (Nat.le_refl _)]
      exact (Rat.add_zero acc).symm
    | some p =>
      show chargeLoop (tableSearch T) rest (om2+1) (c.take (j+1)) (acc + p.backoff) = _
      rw [ih (j+1) (om2+1) _ _ hdrop rfl hne',
        show c.length - j = (c.length - (j+1)) + 1 by omega, rsum_split, Rat.add_assoc,
        ← Table.bo_of_lookup hl, tf.bo_eq]

/-- `FullScoreForgotState` returns the textbook score, over any table representing the model (`C01.forgot_prob`,
`C03.forgot_prob_independent_of_table`): `ScoreExceptBackoff` over the truncated context gives the entry after `c0` matched
words, and each of the three ways the function continues charges exactly the back-offs of the contexts longer than `c0` -/
theorem forgot_prob_aux {a : Arpa} {T : Table} (wf : WellFormed a) (tf : TableFor a T) (ctx : List Word) {w : Word}
    (hw : a.gram [w] ≠ none) :
    (fullScoreForgotState (tableSearch T) ctx w).1.prob = score a ctx w := by
  obtain ⟨u, hu⟩ := tf.unigram hw
  have hN := wf.order_ge
  have hord : (tableSearch T).order = a.order := tf.order_eq
  rw [← score_take, fullScoreForgotState, hord]
  generalize hc : ctx.take (a.order - 1) = c
  have hcl : c.length ≤ a.order - 1 := by rw [← hc, List.length_take]; exact Nat.min_le_left _ _
  obtain ⟨c0, acc, post, hsxb⟩ := scoreExceptBackoff_post tf.toTableOK c w hu
  have hc0 := post.c0_le
  obtain ⟨t, ht, hp⟩ := post.found
  -- the specification in terms of the loop result: what remains is to charge the back-offs of the longer contexts
  have hspec : score a c w = acc.ret.prob + rsum (fun k => a.boW (c.take (k+1))) c0 (c.length - c0) := by
    rw [score_of_max a c w c0 (Nat.le_min.mpr ⟨hc0, Nat.le_trans hc0 hcl⟩) (post.gram_none tf), Nat.min_eq_left hcl,
      hp, entry_prob_eq tf c w c0 hc0 (Nat.le_trans hc0 hcl) t ht]
  simp only [hsxb]
  rw [hspec, post.len]
  by_cases h1 : c.length < c0 + 1
  · rw [if_pos h1, Nat.sub_eq_zero_of_le (Nat.le_of_lt_succ h1)]
    exact (Rat.add_zero _).symm
  · rw [if_neg h1]
    by_cases h2 : c0 + 1 ≤ 1
    · -- no context word matched: charging starts with the unigram of the newest context word
      obtain rfl : c0 = 0 := Nat.le_zero.mp (Nat.le_of_succ_le_succ h2)
      rw [if_pos h2]
      cases c with
      | nil => exact absurd (Nat.zero_lt_one) h1
      | cons x0 rest =>
        show chargeLoop (tableSearch T) rest 0 [x0] (acc.ret.prob + ((tableSearch T).lookupUnigram x0).1.backoff) = _
        rw [charge_spec tf (x0 :: rest) rest 1 0 [x0] _ rfl rfl (List.cons_ne_nil _ _), lookupUnigram_backoff,
          tf.bo_eq, Rat.add_assoc]
        exact congrArg _ (rsum_split (f := fun k => a.boW ((x0 :: rest).take (k+1))) (lo := 0) (d := rest.length)).symm
    · rw [if_neg h2, Nat.add_sub_cancel]
      have hne : c.take c0 ≠ [] := by
        intro hnil; have := congrArg List.length hnil
        rw [List.length_take, List.length_nil] at this; omega
      have hF : (tableSearch T).fastMakeNode (c.take c0) =
          if (T.lookup (c.take c0)).isSome then some (c.take c0) else none := rfl
      rw [hF]
      cases hl : T.lookup (c.take c0) with
      | none =>
        rw [rsum_boW_zero tf c hne hl c0 _ (Nat.le_succ _)]
        exact (Rat.add_zero _).symm
      | some tn =>
        exact charge_spec tf c _ c0 _ (c.take c0) acc.ret.prob rfl rfl hne

theorem forgot_ngramLength {ν : Type} (S : Search ν) (ctx : List Word) (w : Word) :
    (fullScoreForgotState S ctx w).1.ngramLength = (scoreExceptBackoff S (ctx.take (S.order - 1)) w).1.ngramLength := by
  unfold fullScoreForgotState
  simp only
  split
  · rfl
  · split
    · split <;> rfl
    · split <;> rfl

end KV.Score
