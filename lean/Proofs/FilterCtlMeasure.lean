import Proofs.FilterLists
import Proofs.FilterCtlStep
/-!
The measure of the threaded filter: remaining work, which every step of every thread decreases (`Step.measure_lt`).
It needs no invariant and holds for every variant of the code.
-/
namespace KV.FilterCtl
variable {α : Type}

/-- What the reader still has to do, in units of `measure`.  A waiting state is one above `run` (coming back costs a
step), `run` one above `poisonW w` (`finish`); each poison sent takes 2 off, one of which the poison carries into its
queue; `joinW`, `joinO` are a step each. -/
def rpcWeight (w : Nat) : RPc → Nat
  | .run => 2 * w + 6
  | .waitOne => 2 * w + 7
  | .waitAll => 2 * w + 7
  | .poisonW k => 2 * k + 5
  | .poisonO => 4
  | .joinO => 2
  | .done => 0

/-- Remaining work.  A batch in `filter_.in_` has five moves before it is home again (take, put, file, write,
recycle), hence 5, 4, 3, 2, 1 along the pipeline; a poison has one.  An operation of the parser weighs 8 because
executing it may send a batch (+5) and put the reader into a waiting state (+1) and must still come out lower. -/
def measure (cfg : Cfg α) (s : State α) : Nat :=
  8 * s.prog.length + rpcWeight cfg.workers s.rpc
  + 5 * (somes s.filterQ).length + nones s.filterQ + 4 * (held s.workers).length
  + 3 * (somes s.doneQ).length + nones s.doneQ + 2 * (somes s.ordering).length + s.toRead.length

theorem measure_newInput (cfg : Cfg α) (s : State α) : measure cfg (newInput cfg s) = measure cfg s := by
  obtain ⟨lr, n, e⟩ := newInput_eq cfg s
  rw [e]; rfl

theorem Step.measure_lt {cfg : Cfg α} {s s' : State α} {t : Tid} (h : Step cfg s t s') : measure cfg s' < measure cfg s := by
  cases h with
  | finish hrpc | joinW hrpc | joinO hrpc => simp +arith only [measure, hrpc, rpcWeight]
  | emit _ hp | add _ hp => simp +arith only [measure, hp, List.length_cons]
  | flushEmpty hrpc hp => simp +arith only [measure, hrpc, hp, rpcWeight, List.length_cons]
  | addLast hrpc hp | flushSend hrpc hp =>
    simp +arith only [measure, send, hrpc, hp, rpcWeight, List.length_cons, somes_append, somes_cons_some, somes_nil,
      nones_append, nones_cons_some, nones_nil, List.length_append, List.length_nil]
  | addNext hrpc hp =>
    rw [measure_newInput]
    simp +arith only [measure, send, hrpc, hp, rpcWeight, List.length_cons, somes_append, somes_cons_some, somes_nil,
      nones_append, nones_cons_some, nones_nil, List.length_append, List.length_nil]
  | getOne hrpc htr =>
    rw [measure_newInput]
    simp +arith only [measure, hrpc, htr, rpcWeight, List.length_cons]
  | getAll _ _ htr => simp +arith only [measure, htr, List.length_cons]
  | resume hrpc =>
    rw [measure_newInput]
    simp +arith only [measure, hrpc, rpcWeight]
  | poisonW hrpc | poisonO hrpc =>
    simp +arith only [measure, hrpc, rpcWeight, somes_append, somes_cons_none, somes_nil, nones_append, nones_cons_none,
      nones_nil, List.append_nil]
  | @take i b q hw hq =>
    have h2 : _ = (held s.workers).length + 1 := (held_set_take b hw).1.length_eq
    simp +arith only [measure, hq, somes_cons_some, nones_cons_some, List.length_cons, h2]
  | exit hw hq =>
    obtain ⟨h1, _⟩ := held_set_exit hw
    simp +arith only [measure, hq, somes_cons_none, nones_cons_none, h1]
  | put hw =>
    have h2 : (held s.workers).length = _ + 1 := (held_set_put hw).1.length_eq
    simp +arith only [measure, somes_append, somes_cons_some, somes_nil, nones_append, nones_cons_some, nones_nil,
      List.length_append, List.length_cons, List.length_nil, h2]
  | write _ hord =>
    simp +arith only [measure, hord, somes_cons_some, List.length_cons, List.length_append, List.length_nil]
  | stop _ _ hq => simp +arith only [measure, hq, somes_cons_none, nones_cons_none]
  | @file b q _ _ hq =>
    have h1 := somes_set_length_le (s.ordering ++ List.replicate (b.seq - s.baseSeq + 1 - s.ordering.length) none)
      (b.seq - s.baseSeq) b
    simp only [somes_append, somes_replicate_none, List.append_nil] at h1
    simp +arith only [measure, hq, somes_cons_some, nones_cons_some, List.length_cons]; omega

end KV.FilterCtl
