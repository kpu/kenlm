import Model.Vocab
import Proofs.ProbingAuto
import Proofs.VocabIdMap
/-!
`GrowableVocab`: the ids are the positions of first occurrence, whatever the initial size of the
`AutoProbing` table and hence whatever its doubling history.
-/
namespace KV.Vocab
open KV.Probing

/-- `ARef` with the map "word ↦ its position in `seen`", and what the vocabulary adds: the ids run with `entries_` (`cnt`) -/
structure GRep (a : Auto) (seen : List Nat) : Prop where
  ref : ARef id thetaReal a (mapFrom 0 seen)
  /-- `GrowableVocab` runs the mask arithmetic of `Power2Mod`; on a power of two it is the `DivMod` arithmetic `ref` speaks of -/
  pow : Pow2 a.t.N
  cnt : a.t.entries = seen.length

theorem gFindOrInsert_spec (a : Auto) (seen : List Nat) (k : Nat) (r : GRep a seen)
    (hmax : (specStep seen k).2.length < kWordIndexMax) :
    ∃ a', gFindOrInsert a k = .ok ((specStep seen k).1, a') ∧ GRep a' (specStep seen k).2 := by
  obtain ⟨⟨ai, abs⟩, hp, hcnt⟩ := r
  obtain ⟨hfound, hnew⟩ := auto_findOrInsert_spec id thetaReal thetaReal_ok a (mapFrom 0 seen) k a.t.entries ai abs
  unfold gFindOrInsert
  rw [auto_findOrInsertP2_eq id thetaReal a k a.t.entries hp]
  by_cases hm : k ∈ seen
  · have hM : mapFrom 0 seen k = some (seen.idxOf k) := by simp [mapFrom, hm]
    obtain ⟨p, a', hf, r⟩ := hfound _ hM
    refine ⟨a', ?_, ⟨r.ref.ai, ?_⟩, r.pow hp, ?_⟩
    · simp [hf, specStep]
    · simpa [specStep, hm] using r.ref.abs
    · simp [specStep, hm]; exact r.entries.trans hcnt
  · have hM : mapFrom 0 seen k = none := by simp [mapFrom, hm]
    obtain ⟨p, a', hf, r⟩ := hnew hM
    have hE := r.entries
    have hlen : (specStep seen k).2.length = seen.length + 1 := by simp [specStep, hm]
    have hnot : ¬ (a'.t.entries ≥ kWordIndexMax) := by omega
    refine ⟨a', ?_, ⟨r.ref.ai, ?_⟩, r.pow hp, ?_⟩
    · rw [hf]
      simp [hnot, specStep, List.idxOf_eq_length hm, hcnt]
    · have : (specStep seen k).2 = seen ++ [k] := by simp [specStep, hm]
      rw [this, ← mapFrom_append 0 seen k hm, ← hcnt]
      exact r.ref.abs
    · omega

theorem specStep_length_le (seen : List Nat) (k : Nat) : seen.length ≤ (specStep seen k).2.length := by
  unfold specStep; split <;> simp

theorem specLine_length_le : ∀ (l : List Nat) (seen : List Nat), seen.length ≤ (specLine seen l).2.length := by
  intro l
  induction l with
  | nil => intro seen; exact Nat.le_refl _
  | cons k ks ih =>
    intro seen
    exact Nat.le_trans (specStep_length_le seen k) (ih _)

theorem specLines_length_le : ∀ (ls : List (List Nat)) (seen : List Nat), seen.length ≤ (specLines seen ls).2.length := by
  intro ls
  induction ls with
  | nil => intro seen; exact Nat.le_refl _
  | cons l ls ih =>
    intro seen
    exact Nat.le_trans (specLine_length_le l seen) (ih _)

theorem gEncodeLine_spec : ∀ (l : List Nat) (a : Auto) (seen : List Nat), GRep a seen →
    (specLine seen l).2.length < kWordIndexMax →
    ∃ a', gEncodeLine a l = .ok ((specLine seen l).1, a') ∧ GRep a' (specLine seen l).2 := by
  intro l
  induction l with
  | nil => intro a seen r _; exact ⟨a, rfl, r⟩
  | cons k ks ih =>
    intro a seen r hmax
    have h1 : (specStep seen k).2.length < kWordIndexMax :=
      Nat.lt_of_le_of_lt (specLine_length_le ks _) hmax
    obtain ⟨a1, hf, r1⟩ := gFindOrInsert_spec a seen k r h1
    obtain ⟨a2, he, r2⟩ := ih a1 _ r1 hmax
    exact ⟨a2, by simp [gEncodeLine, hf, he, specLine], r2⟩

theorem gEncodeLines_spec : ∀ (ls : List (List Nat)) (a : Auto) (seen : List Nat), GRep a seen →
    (specLines seen ls).2.length < kWordIndexMax →
    ∃ a', gEncodeLines a ls = .ok ((specLines seen ls).1, a') ∧ GRep a' (specLines seen ls).2 := by
  intro ls
  induction ls with
  | nil => intro a seen r _; exact ⟨a, rfl, r⟩
  | cons l ls ih =>
    intro a seen r hmax
    have h1 : (specLine seen l).2.length < kWordIndexMax :=
      Nat.lt_of_le_of_lt (specLines_length_le ls _) hmax
    obtain ⟨a1, hf, r1⟩ := gEncodeLine_spec l a seen r h1
    obtain ⟨a2, he, r2⟩ := ih a1 _ r1 hmax
    exact ⟨a2, by simp [gEncodeLines, hf, he, specLines], r2⟩

/-- the hashes of `<unk>`, `<s>`, `</s>` differ -/
def Specials.Distinct (sp : Specials) : Prop := sp.unk ≠ sp.bos ∧ sp.unk ≠ sp.eos ∧ sp.bos ≠ sp.eos

theorem specials_steps (sp : Specials) (hd : sp.Distinct) :
    specStep ([] : List Nat) sp.unk = (0, [sp.unk]) ∧ specStep [sp.unk] sp.bos = (1, [sp.unk, sp.bos]) ∧
    specStep [sp.unk, sp.bos] sp.eos = (2, [sp.unk, sp.bos, sp.eos]) ∧
    specStep [sp.unk, sp.bos, sp.eos] sp.eos = (2, [sp.unk, sp.bos, sp.eos]) := by
  obtain ⟨hub, hue, hbe⟩ := hd
  have b1 : (sp.unk == sp.bos) = false := by simp [hub]
  have b2 : (sp.unk == sp.eos) = false := by simp [hue]
  have b3 : (sp.bos == sp.eos) = false := by simp [hbe]
  refine ⟨by simp [specStep], ?_, ?_, ?_⟩
  · simp [specStep, List.idxOf_cons, b1, Ne.symm hub]
  · simp [specStep, List.idxOf_cons, b2, b3, Ne.symm hue, Ne.symm hbe]
  · simp [specStep, List.idxOf_cons, b2, b3]

theorem gNewFrom_spec (sp : Specials) (a0 : Auto) (r0 : GRep a0 [])
    (hd : sp.Distinct) :
    ∃ a, gNewFrom sp a0 = .ok a ∧ GRep a [sp.unk, sp.bos, sp.eos] := by
  obtain ⟨e1, e2, e3, _⟩ := specials_steps sp hd
  have k1 : (1 : Nat) < kWordIndexMax := by decide
  have k2 : (2 : Nat) < kWordIndexMax := by decide
  have k3 : (3 : Nat) < kWordIndexMax := by decide
  obtain ⟨a1, f1, r1⟩ := gFindOrInsert_spec a0 [] sp.unk r0 (by rw [e1]; exact k1)
  rw [e1] at f1 r1
  obtain ⟨a2, f2, r2⟩ := gFindOrInsert_spec a1 _ sp.bos r1 (by rw [e2]; exact k2)
  rw [e2] at f2 r2
  obtain ⟨a3, f3, r3⟩ := gFindOrInsert_spec a2 _ sp.eos r2 (by rw [e3]; exact k3)
  rw [e3] at f3 r3
  exact ⟨a3, by simp only [gNewFrom, f1, f2, f3], r3⟩

/-- the freshly constructed table; beyond `2^63` the 64-bit `RoundBuckets` wraps to 0 buckets -/
theorem gTable_rep (x : Nat) (h1 : 1 ≤ x) (h2 : x ≤ 2^63) : GRep (gTable x) [] := by
  obtain ⟨j, hj, _, _⟩ := roundBuckets_spec x h1 h2
  have hpos : 0 < roundBuckets x := by rw [hj]; exact Nat.two_pow_pos j
  exact ⟨by rw [mapFrom_nil]; exact auto_init id thetaReal (roundBuckets x) hpos, ⟨j, hj⟩, rfl⟩

theorem gEncodeFrom_spec (sp : Specials) (a : Auto) (r : GRep a [sp.unk, sp.bos, sp.eos])
    (hd : sp.Distinct) (text : List (List Nat))
    (hmax : (specEncode sp.unk sp.bos sp.eos text).2 < kWordIndexMax) :
    gEncodeFrom sp a text = .ok (specEncode sp.unk sp.bos sp.eos text) := by
  obtain ⟨_, _, _, e4⟩ := specials_steps sp hd
  have k3 : (3 : Nat) < kWordIndexMax := by decide
  obtain ⟨a1, f1, r1⟩ := gFindOrInsert_spec a _ sp.eos r (by rw [e4]; exact k3)
  rw [e4] at f1 r1
  obtain ⟨a2, he, r2⟩ := gEncodeLines_spec text a1 _ r1 hmax
  simp only [gEncodeFrom, f1, he, specEncode, r2.cnt]

/-- **ids of a token stream do not depend on the initial table size** (hash level) -/
theorem growableEncode_spec (sp : Specials) (x : Nat) (h1 : 1 ≤ x) (h2 : x ≤ 2^63)
    (hd : sp.Distinct) (text : List (List Nat))
    (hmax : (specEncode sp.unk sp.bos sp.eos text).2 < kWordIndexMax) :
    growableEncode sp x text = .ok (specEncode sp.unk sp.bos sp.eos text) := by
  obtain ⟨a, hn, r⟩ := gNewFrom_spec sp (gTable x) (gTable_rep x h1 h2) hd
  unfold growableEncode gNew
  rw [hn]
  exact gEncodeFrom_spec sp a r hd text hmax

end KV.Vocab
