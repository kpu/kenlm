import Proofs.ChainUtil
/-! Invariant of the ThreadPool model: conservation of the item sequence, attribution of handled
requests to pops, one poison per finished worker; deadlock freedom; termination. Core Lean only. -/
namespace KV.Chain

variable {w : Nat} {reqs : List Nat} {p p' : Pool} {tid : Nat}

section step
variable {p : Pool} {i : Nat}

theorem Pool.step_submit {x : Item} {rest : List Item} (h : p.todo = x :: rest) :
    p.step 0 = if p.q.length < p.cap then some { p with q := p.q ++ [x], todo := rest } else none := by
  simp only [Pool.step, h]

theorem Pool.step_join (h : p.todo = []) :
    p.step 0 = if p.wpc[p.joined]? = some .finished then some { p with joined := p.joined + 1 } else none := by
  simp only [Pool.step, h]
  by_cases hj : p.joined < p.wpc.length
  · rw [if_pos hj]
    cases hw : p.wpc[p.joined]? with
    | none => rfl
    | some st => cases st <;> simp
  · rw [if_neg hj, if_neg]
    rw [List.getElem?_eq_none (Nat.le_of_not_lt hj)]; nofun

theorem Pool.step_start (h : p.wpc[i]? = some .notStarted) :
    p.step (i + 1) = some { p with wpc := p.wpc.set i .running } := by
  simp only [Pool.step, h]

theorem Pool.step_consume (h : p.wpc[i]? = some .running) :
    p.step (i + 1) = match p.q with
      | [] => none
      | .poison :: q' => some { p with q := q', wpc := p.wpc.set i .finished, log := p.log ++ [(i, .poison)] }
      | .val v :: q' => some { p with q := q', handled := p.handled.set i ((p.handled.getD i []) ++ [v]),
                                      log := p.log ++ [(i, .val v)] } := by
  simp only [Pool.step, h]
  rfl

/-- `h1`, `h2` are not named in the proof: `simp` uses them to discharge the side conditions of the match equations -/
theorem Pool.step_idle (h1 : p.wpc[i]? ≠ some .notStarted) (h2 : p.wpc[i]? ≠ some .running) :
    p.step (i + 1) = none := by
  simp only [Pool.step]

theorem Pool.step_cases {p' : Pool} (hs : p.step tid = some p') :
    (tid = 0 ∧ ∃ x rest, p.todo = x :: rest ∧ p.q.length < p.cap ∧ p' = { p with q := p.q ++ [x], todo := rest })
    ∨ (tid = 0 ∧ p.todo = [] ∧ p.wpc[p.joined]? = some .finished ∧ p' = { p with joined := p.joined + 1 })
    ∨ (∃ i, tid = i + 1 ∧ p.wpc[i]? = some .notStarted ∧ p' = { p with wpc := p.wpc.set i .running })
    ∨ (∃ i q', tid = i + 1 ∧ p.wpc[i]? = some .running ∧ p.q = .poison :: q'
        ∧ p' = { p with q := q', wpc := p.wpc.set i .finished, log := p.log ++ [(i, .poison)] })
    ∨ (∃ i v q', tid = i + 1 ∧ p.wpc[i]? = some .running ∧ p.q = .val v :: q'
        ∧ p' = { p with q := q', handled := p.handled.set i ((p.handled.getD i []) ++ [v]),
                        log := p.log ++ [(i, .val v)] }) := by
  revert hs
  fun_cases Pool.step p tid <;> intro hs <;> cases hs
  next x rest htodo hq => exact .inl ⟨rfl, x, rest, htodo, hq, rfl⟩
  next htodo _ hw => exact .inr (.inl ⟨rfl, htodo, hw, rfl⟩)
  next i hw => exact .inr (.inr (.inl ⟨i, rfl, hw, rfl⟩))
  next i hw q' hq => exact .inr (.inr (.inr (.inl ⟨i, q', rfl, hw, hq, rfl⟩)))
  next i hw v q' hq => exact .inr (.inr (.inr (.inr ⟨i, v, q', rfl, hw, hq, rfl⟩)))

end step

def allItems (w : Nat) (reqs : List Nat) : List Item := reqs.map .val ++ List.replicate w .poison

theorem allItems_eq (w : Nat) (reqs : List Nat) :
    allItems w reqs = reqs.map Item.val ++ List.replicate w Item.poison := rfl

theorem Pool.init_todo (cap w : Nat) (reqs : List Nat) : (Pool.init cap w reqs).todo = allItems w reqs := rfl

def poisons (l : List Item) : Nat := l.countP Item.isPoison

theorem poisons_append (a b : List Item) : poisons (a ++ b) = poisons a + poisons b := by
  simp [poisons]

theorem poisons_allItems (w : Nat) (reqs : List Nat) : poisons (allItems w reqs) = w := by
  simp [allItems, poisons, List.countP_replicate, List.countP_map, Item.isPoison, Function.comp_def]

theorem suffix_has_poison (hw : 0 < w) {pre suf : List Item}
    (h : pre ++ suf = allItems w reqs) (hs : suf ≠ []) : 0 < poisons suf := by
  have hlast : (allItems w reqs).getLast? = some Item.poison := by
    simp [allItems, List.getLast?_append, List.getLast?_replicate, Nat.ne_of_gt hw]
  rw [← h, List.getLast?_append] at hlast
  have hmem : Item.poison ∈ suf := by
    cases hsl : suf.getLast? with
    | none => exact absurd (List.getLast?_eq_none_iff.mp hsl) hs
    | some x =>
      rw [hsl] at hlast
      simp at hlast
      subst hlast
      exact List.mem_of_getLast? hsl
  unfold poisons
  exact List.countP_pos_iff.mpr ⟨_, hmem, rfl⟩

/-- the requests among the pops of worker `j` after one more pop, of `x` by worker `i` -/
theorem handled_pop (log : List (Nat × Item)) (i j : Nat) (x : Item) :
    (((log ++ [(i, x)]).filter (fun y => y.1 == j)).map (·.2)).filterMap Item.val?
      = ((log.filter (fun y => y.1 == j)).map (·.2)).filterMap Item.val?
        ++ (if i = j then (Item.val? x).toList else []) := by
  by_cases e : i = j <;> cases x <;> simp [List.filter_append, Item.val?, e]

/-- `cons`: popped, queued and still to submit make up the item sequence, in order; `hand`: what worker `i` has handled
are the requests it popped; `capb`, `jn`: bounds of the queue and of the join counter. -/
structure PInv (w : Nat) (reqs : List Nat) (p : Pool) : Prop where
  cons : p.log.map (·.2) ++ p.q ++ p.todo = allItems w reqs
  wlen : p.wpc.length = w
  hlen : p.handled.length = w
  hand : ∀ i, i < w → p.handled.getD i [] = ((p.log.filter (fun x => x.1 == i)).map (·.2)).filterMap Item.val?
  /-- the workers that have finished are counted by the poisons taken: what the deadlock proof counts with -/
  fin : poisons (p.log.map (·.2)) = p.wpc.countP (· == .finished)
  capb : p.q.length ≤ p.cap
  jn : p.joined ≤ w

theorem pinv_init (cap w : Nat) (reqs : List Nat) : PInv w reqs (Pool.init cap w reqs) := by
  refine ⟨by rw [Pool.init_todo]; simp [Pool.init], by simp [Pool.init], by simp [Pool.init], ?_, ?_, by simp [Pool.init],
          by simp [Pool.init]⟩
  · intro i hi
    simp [Pool.init, List.getD_eq_getElem?_getD, hi]
  · simp [Pool.init, poisons, List.countP_replicate]

theorem pinv_step (h : PInv w reqs p)
    (hs : p.step tid = some p') : PInv w reqs p' := by
  rcases Pool.step_cases hs with ⟨_, x, rest, htodo, hq, rfl⟩ | ⟨_, htodo, hw, rfl⟩ | ⟨i, _, hw, rfl⟩
    | ⟨i, q', _, hw, hq, rfl⟩ | ⟨i, v, q', _, hw, hq, rfl⟩
  · have := h.cons
    rw [htodo] at this
    exact ⟨by simpa using this, h.wlen, h.hlen, h.hand, h.fin, by simp; omega, h.jn⟩
  · have hj := (List.getElem?_eq_some_iff.mp hw).1
    exact ⟨h.cons, h.wlen, h.hlen, h.hand, h.fin, h.capb, by have := h.wlen; simp; omega⟩
  · have hc := countP_set' (fun x => x == WPC.finished) hw WPC.running
    simp at hc
    exact ⟨h.cons, by simp [h.wlen], h.hlen, h.hand, by rw [h.fin]; simpa using hc.symm, h.capb, h.jn⟩
  · have hc := countP_set' (fun x => x == WPC.finished) hw WPC.finished
    simp at hc
    have hcons := h.cons
    rw [hq] at hcons
    refine ⟨by simpa using hcons, by simp [h.wlen], h.hlen, ?_, ?_, ?_, h.jn⟩
    · intro j hj
      rw [handled_pop, ← h.hand j hj]
      simp [Item.val?]
    · simp only [List.map_append, poisons_append, h.fin]
      simp [poisons, Item.isPoison]
      omega
    · have := h.capb; rw [hq] at this; exact Nat.le_of_succ_le this
  · have hi : i < w := h.wlen ▸ (List.getElem?_eq_some_iff.mp hw).1
    have hcons := h.cons
    rw [hq] at hcons
    refine ⟨by simpa using hcons, h.wlen, by simp [h.hlen], ?_, ?_, ?_, h.jn⟩
    · intro j hj
      have hl : i < p.handled.length := by rw [h.hlen]; exact hi
      rw [handled_pop, ← h.hand j hj]
      by_cases e : i = j
      · subst e; simp [List.getD_eq_getElem?_getD, hl, Item.val?]
      · simp [List.getD_eq_getElem?_getD, e]
    · simp only [List.map_append, poisons_append, h.fin]
      simp [poisons, Item.isPoison]
    · have := h.capb; rw [hq] at this; exact Nat.le_of_succ_le this

theorem pinv_reach {w cap : Nat} (hr : Pool.Reach (Pool.init cap w reqs) p) :
    PInv w reqs p := by
  induction hr with
  | init => exact pinv_init cap w reqs
  | step _ hs ih => exact pinv_step ih hs

theorem filterMap_allItems (w : Nat) (reqs : List Nat) : (allItems w reqs).filterMap Item.val? = reqs := by
  simp [allItems, List.filterMap_append, List.filterMap_map, Function.comp_def, Item.val?, List.filterMap_replicate]

theorem all_finished_of_none {l : List WPC}
    (h1 : ∀ (i : Nat), l[i]? ≠ some .notStarted) (h2 : ∀ (i : Nat), l[i]? ≠ some .running) :
    l.countP (· == .finished) = l.length := by
  rw [List.countP_eq_length]
  intro x hx
  obtain ⟨i, hi, rfl⟩ := List.getElem_of_mem hx
  have e : l[i]? = some l[i] := List.getElem?_eq_getElem hi
  cases hc : l[i] with
  | notStarted => rw [hc] at e; exact absurd e (h1 i)
  | running => rw [hc] at e; exact absurd e (h2 i)
  | finished => rfl

theorem finished_of_count {l : List WPC} (h : l.countP (· == .finished) = l.length) {i : Nat} {x : WPC}
    (hx : l[i]? = some x) : x = .finished := by
  rw [List.countP_eq_length] at h
  have := h x (List.mem_of_getElem? hx)
  simpa using this

theorem log_complete (hw : 0 < w) (h : PInv w reqs p)
    (ht : p.todo = []) (hf : p.wpc.countP (· == .finished) = p.wpc.length) :
    p.q = [] ∧ p.log.map (·.2) = allItems w reqs := by
  have hc := h.cons
  rw [ht, List.append_nil] at hc
  have hp : poisons (p.log.map (·.2)) = w := by rw [h.fin, hf, h.wlen]
  have hq : p.q = [] := by
    apply Classical.byContradiction
    intro hne
    have h1 := suffix_has_poison hw hc hne
    have h2 := congrArg poisons hc
    rw [poisons_append, poisons_allItems] at h2
    omega
  rw [hq, List.append_nil] at hc
  exact ⟨hq, hc⟩

theorem PInv.all_done (hw : 0 < w) (h : PInv w reqs p) (hd : p.allDone = true) :
    (p.log.map (·.2)).filterMap Item.val? = reqs ∧ p.q = [] ∧ p.wpc.all (· == .finished) = true := by
  simp only [Pool.allDone, Pool.mainDone, Bool.and_eq_true, List.isEmpty_iff, beq_iff_eq] at hd
  obtain ⟨⟨ht, _⟩, hall⟩ := hd
  have hf : p.wpc.countP (· == .finished) = p.wpc.length := by
    rw [List.countP_eq_length]; exact List.all_eq_true.mp hall
  obtain ⟨hq, hlog⟩ := log_complete hw h ht hf
  exact ⟨by rw [hlog, filterMap_allItems], hq, hall⟩

/-- When no thread can step, everything is done.  No worker has still to start, and a running worker finds the queue
empty.  The user thread is not submitting: the queue would be full and nobody running, so all workers would have taken
their poison, yet one is still to come.  So all items are submitted; a worker running on the empty queue would mean a
poison not yet taken although all have been submitted; so all workers have finished, and the user thread has joined
them all. -/
theorem PInv.stuck_done (hw : 0 < w) (hcap : 0 < p.cap) (h : PInv w reqs p) (hmax : ∀ tid, p.step tid = none) :
    p.allDone = true := by
  have nA : ∀ i : Nat, p.wpc[i]? ≠ some .notStarted := fun i e => by
    have := hmax (i + 1); rw [Pool.step_start e] at this; cases this
  have nB : ∀ i : Nat, p.wpc[i]? = some .running → p.q = [] := fun i e => by
    have := hmax (i + 1)
    rw [Pool.step_consume e] at this
    cases hq : p.q with
    | nil => rfl
    | cons x r => rw [hq] at this; cases x <;> cases this
  have hc := h.cons
  cases htodo : p.todo with
  | cons x rest =>
    exfalso
    have hq : ¬ p.q.length < p.cap := fun hq => by
      have := hmax 0; rw [Pool.step_submit htodo, if_pos hq] at this; cases this
    have hne : p.q ≠ [] := by intro e; rw [e] at hq; exact hq hcap
    have hf := all_finished_of_none nA (fun i e => hne (nB i e))
    have h2 := congrArg poisons hc
    rw [poisons_append, poisons_append, poisons_allItems, h.fin, hf, h.wlen] at h2
    have h1 := suffix_has_poison hw hc (by rw [htodo]; simp)
    omega
  | nil =>
    have hfin : p.wpc[p.joined]? ≠ some .finished := fun hfin => by
      have := hmax 0; rw [Pool.step_join htodo, if_pos hfin] at this; cases this
    have hf : p.wpc.countP (· == .finished) = p.wpc.length := by
      apply Classical.byContradiction
      intro hall
      obtain ⟨i, hi⟩ : ∃ i : Nat, p.wpc[i]? = some .running :=
        Classical.byContradiction fun hno => hall (all_finished_of_none nA (fun i e => hno ⟨i, e⟩))
      rw [htodo, nB i hi, List.append_nil, List.append_nil] at hc
      exact hall (by rw [← h.fin, hc, poisons_allItems, h.wlen])
    have hjw : p.joined = p.wpc.length := by
      by_cases hj : p.joined < p.wpc.length
      · have e := List.getElem?_eq_getElem hj
        exact absurd (by rw [e, finished_of_count hf e]) hfin
      · have := h.jn; have := h.wlen; omega
    rw [List.countP_eq_length] at hf
    simpa [Pool.allDone, Pool.mainDone, htodo, hjw] using hf

theorem pool_no_deadlock_inv (hw : 0 < w) (hcap : 0 < p.cap)
    (h : PInv w reqs p) (hnd : p.allDone = false) : ∃ tid, p.step tid ≠ none := by
  apply Classical.byContradiction
  intro hno
  rw [h.stuck_done hw hcap (none_of_not_exists hno)] at hnd
  cases hnd

theorem pool_measure_step (hs : p.step tid = some p') : p'.measure < p.measure := by
  rcases Pool.step_cases hs with ⟨_, x, rest, htodo, hq, rfl⟩ | ⟨_, htodo, hw, rfl⟩ | ⟨i, _, hw, rfl⟩
    | ⟨i, q', _, hw, hq, rfl⟩ | ⟨i, v, q', _, hw, hq, rfl⟩
  · simp [Pool.measure, htodo]; omega
  · have := (List.getElem?_eq_some_iff.mp hw).1
    simp [Pool.measure, htodo]; omega
  · have hc := countP_set' (fun x => x == WPC.notStarted) hw WPC.running
    simp at hc
    simp [Pool.measure]; omega
  · have hc := countP_set' (fun x => x == WPC.notStarted) hw WPC.finished
    simp at hc
    simp [Pool.measure, hq]; omega
  · simp [Pool.measure, hq]

theorem pool_step_cap (hs : p.step tid = some p') : p'.cap = p.cap := by
  rcases Pool.step_cases hs with ⟨_, _, _, _, _, rfl⟩ | ⟨_, _, _, rfl⟩ | ⟨_, _, _, rfl⟩ | ⟨_, _, _, _, _, rfl⟩
    | ⟨_, _, _, _, _, _, rfl⟩ <;> rfl

end KV.Chain
