import Proofs.ProbingSlots
/-!
Linear probing without modular arithmetic: cyclic paths as linear-arithmetic predicates, the
`UncheckedInsert` loop (`firstEmpty`) and the `Find` loop (`scan`): what they return, when they
return nothing, and that they read only the buckets of the table.
-/
namespace KV.Probing

/-- the buckets visited when scanning from `a` and stopping at `p` (exclusive), cyclically in `[0, N)` -/
def onPath (N a p x : Nat) : Prop := (a ≤ p ∧ a ≤ x ∧ x < p) ∨ (p < a ∧ ((a ≤ x ∧ x < N) ∨ x < p))

def PathOK (s : Slots) (N a p : Nat) : Prop := ∀ x, onPath N a p x → s x ≠ none

/-- cyclic distance from `a` to `b` -/
def dist (N a b : Nat) : Nat := if a ≤ b then b - a else b + N - a

theorem next_lt (N i : Nat) (hi : i < N) : next N i < N := by
  unfold next; split <;> omega

theorem onPath_step (N i q x : Nat) (hi : i < N) (hq : q < N) (hne : i ≠ q) :
    onPath N i q x ↔ x = i ∨ onPath N (next N i) q x := by
  unfold onPath next
  split <;> omega

theorem onPath_self (N i x : Nat) : ¬ onPath N i i x := by
  unfold onPath; omega

theorem onPath_start (N i p : Nat) (hi : i < N) (hne : i ≠ p) : onPath N i p i := by
  unfold onPath; omega

theorem dist_next (N i e : Nat) (hi : i < N) (he : e < N) (hne : i ≠ e) :
    dist N (next N i) e + 1 = dist N i e := by
  unfold dist next
  by_cases h : i + 1 = N
  · rw [if_pos h, if_pos (Nat.zero_le e), if_neg (by omega)]; omega
  · rw [if_neg h]
    by_cases h2 : i ≤ e
    · rw [if_pos h2, if_pos (by omega)]; omega
    · rw [if_neg h2, if_neg (by omega)]; omega

theorem dist_lt (N a b : Nat) (ha : a < N) (hb : b < N) : dist N a b < N := by
  unfold dist; split <;> omega

theorem PathOK_mono (s s' : Slots) (N a p : Nat) (h : ∀ x, s x ≠ none → s' x ≠ none)
    (hp : PathOK s N a p) : PathOK s' N a p := fun x hx => h x (hp x hx)

theorem PathOK_step (s : Slots) (N i p : Nat) (hi : i < N) (hp : p < N) (hne : i ≠ p)
    (hsi : s i ≠ none) (h : PathOK s N (next N i) p) : PathOK s N i p := by
  intro x hx
  rcases (onPath_step N i p x hi hp hne).1 hx with rfl | hx
  · exact hsi
  · exact h x hx

theorem PathOK_next (s : Slots) (N i p : Nat) (hi : i < N) (hp : p < N) (hne : i ≠ p)
    (h : PathOK s N i p) : PathOK s N (next N i) p :=
  fun x hx => h x ((onPath_step N i p x hi hp hne).2 (Or.inr hx))

section Step
variable {nx : Nat → Nat} {s : Slots} {k k' v f i : Nat} {e : Entry}

theorem scanWith_empty (h : s i = none) : scanWith nx s k (f + 1) i = some (.absent i) := by
  simp [scanWith, h]

theorem scanWith_hit (h : s i = some (k, v)) : scanWith nx s k (f + 1) i = some (.found i v) := by
  simp [scanWith, h]

theorem scanWith_miss (h : s i = some (k', v)) (hk : k' ≠ k) :
    scanWith nx s k (f + 1) i = scanWith nx s k f (nx i) := by
  simp [scanWith, h, hk]

theorem firstEmptyWith_empty (h : s i = none) : firstEmptyWith nx s (f + 1) i = some i := by
  simp [firstEmptyWith, h]

theorem firstEmptyWith_occupied (h : s i = some e) :
    firstEmptyWith nx s (f + 1) i = firstEmptyWith nx s f (nx i) := by
  simp [firstEmptyWith, h]

end Step

theorem firstEmpty_sound (s : Slots) (N : Nat) : ∀ fuel i q, i < N → firstEmpty s N fuel i = some q →
    q < N ∧ s q = none ∧ PathOK s N i q := by
  intro fuel i
  unfold firstEmpty
  fun_induction firstEmptyWith (next N) s fuel i with
  | case1 => intro q _ h; cases h
  | case2 f i hsi =>
    intro q hi h
    cases h
    exact ⟨hi, hsi, fun x hx => absurd hx (onPath_self N i x)⟩
  | case3 f i e hsi ih =>
    intro q hi h
    obtain ⟨hq, hqs, hp⟩ := ih q (next_lt N i hi) h
    have hne : i ≠ q := by intro e; subst e; rw [hqs] at hsi; cases hsi
    exact ⟨hq, hqs, PathOK_step s N i q hi hq hne (by rw [hsi]; exact Option.some_ne_none e) hp⟩

theorem firstEmpty_none_full (s : Slots) (N : Nat) : ∀ fuel i, i < N → firstEmpty s N fuel i = none →
    ∀ x, x < N → dist N i x < fuel → s x ≠ none := by
  intro fuel i
  unfold firstEmpty
  fun_induction firstEmptyWith (next N) s fuel i with
  | case1 => intro _ _ x _ h; omega
  | case2 => intro _ h; cases h
  | case3 f i e hsi ih =>
    intro hi h x hx hdx
    by_cases hix : i = x
    · subst hix; rw [hsi]; exact Option.some_ne_none e
    · have := dist_next N i x hi hx hix
      exact ih (next_lt N i hi) h x hx (by omega)

theorem firstEmpty_total (s : Slots) (N e i : Nat) (he : e < N) (hes : s e = none) (hi : i < N) :
    ∃ q, firstEmpty s N N i = some q ∧ q < N ∧ s q = none ∧ PathOK s N i q := by
  cases h : firstEmpty s N N i with
  | none => exact absurd hes (firstEmpty_none_full s N N i hi h e he (dist_lt N i e hi he))
  | some q => exact ⟨q, rfl, firstEmpty_sound s N N i q hi h⟩

theorem scan_found (s : Slots) (N k p v : Nat) (hp : p < N) (hs : s p = some (k, v))
    (hd : ∀ q w, q < N → s q = some (k, w) → q = p) :
    ∀ fuel i, i < N → dist N i p < fuel → PathOK s N i p →
      scan s N k fuel i = some (.found p v) := by
  intro fuel i
  unfold scan
  fun_induction scanWith (next N) s k fuel i with
  | case1 => intro _ h; omega
  | case2 f i hsi =>
    intro hi _ hpath
    have hip : i = p := Classical.byContradiction fun hip => hpath i (onPath_start N i p hi hip) hsi
    subst hip; rw [hs] at hsi; cases hsi
  | case3 f i w hsi =>
    intro hi _ _
    obtain rfl := hd i w hi hsi
    rw [hs] at hsi; cases hsi; rfl
  | case4 f i k' w hsi hk ih =>
    intro hi hdist hpath
    have hip : i ≠ p := by intro e; subst e; rw [hs] at hsi; cases hsi; exact hk rfl
    have := dist_next N i p hi hp hip
    exact ih (next_lt N i hi) (by omega) (PathOK_next s N i p hi hp hip hpath)

/-- for a key that is not stored, `Find`'s loop is `UncheckedInsert`'s loop -/
theorem scan_absent_eq (s : Slots) (N k : Nat) (hk : Fresh s N k) :
    ∀ fuel i, i < N → scan s N k fuel i = (firstEmpty s N fuel i).map Probe.absent := by
  intro fuel i
  unfold scan firstEmpty
  fun_induction scanWith (next N) s k fuel i with
  | case1 => intro _; rfl
  | case2 f i hsi => intro _; rw [firstEmptyWith_empty hsi]; rfl
  | case3 f i w hsi => intro hi; exact absurd hsi (hk i w hi)
  | case4 f i k' w hsi hne ih => intro hi; rw [firstEmptyWith_occupied hsi]; exact ih (next_lt N i hi)

theorem scan_none_path (s : Slots) (N k : Nat) :
    ∀ fuel i, i < N → scan s N k fuel i = none →
      ∀ x, x < N → dist N i x < fuel → ∃ k' v', s x = some (k', v') ∧ k' ≠ k := by
  intro fuel i
  unfold scan
  fun_induction scanWith (next N) s k fuel i with
  | case1 => intro _ _ x _ h; omega
  | case2 => intro _ h; cases h
  | case3 => intro _ h; cases h
  | case4 f i k' w hsi hne ih =>
    intro hi h x hx hdx
    by_cases hix : i = x
    · subst hix; exact ⟨k', w, hsi, hne⟩
    · have := dist_next N i x hi hx hix
      exact ih (next_lt N i hi) h x hx (by omega)

/-- `scan … = none` with fuel `N`: every bucket holds another key, so the real loop (which has
no bound) cycles forever -/
theorem scan_none_all_other (s : Slots) (N k i : Nat) (hi : i < N) (h : scan s N k N i = none) :
    ∀ x, x < N → ∃ k' v', s x = some (k', v') ∧ k' ≠ k :=
  fun x hx => scan_none_path s N k N i hi h x hx (dist_lt N i x hi hx)

theorem scan_all_other_none (s : Slots) (N k : Nat)
    (hall : ∀ x, x < N → ∃ k' v', s x = some (k', v') ∧ k' ≠ k) :
    ∀ fuel i, i < N → scan s N k fuel i = none := by
  intro fuel i
  unfold scan
  fun_induction scanWith (next N) s k fuel i with
  | case1 => intro _; rfl
  | case2 f i hsi => intro hi; obtain ⟨k', v', hs, _⟩ := hall i hi; rw [hs] at hsi; cases hsi
  | case3 f i w hsi => intro hi; obtain ⟨k', v', hs, hk⟩ := hall i hi; rw [hs] at hsi; cases hsi; exact absurd rfl hk
  | case4 f i k' w hsi hne ih => intro hi; exact ih (next_lt N i hi)

theorem scan_congr (s s' : Slots) (N k : Nat) (heq : ∀ x, x < N → s x = s' x) :
    ∀ fuel i, i < N → scan s N k fuel i = scan s' N k fuel i := by
  intro fuel i
  unfold scan
  fun_induction scanWith (next N) s k fuel i with
  | case1 => intro _; rfl
  | case2 f i hsi => intro hi; rw [scanWith_empty (by rw [← heq i hi]; exact hsi)]
  | case3 f i w hsi => intro hi; rw [scanWith_hit (by rw [← heq i hi]; exact hsi)]
  | case4 f i k' w hsi hne ih =>
    intro hi
    rw [scanWith_miss (by rw [← heq i hi]; exact hsi) hne]
    exact ih (next_lt N i hi)

theorem firstEmpty_congr (s s' : Slots) (N : Nat) (heq : ∀ x, x < N → s x = s' x) :
    ∀ fuel i, i < N → firstEmpty s N fuel i = firstEmpty s' N fuel i := by
  intro fuel i
  unfold firstEmpty
  fun_induction firstEmptyWith (next N) s fuel i with
  | case1 => intro _; rfl
  | case2 f i hsi => intro hi; rw [firstEmptyWith_empty (by rw [← heq i hi]; exact hsi)]
  | case3 f i e hsi ih =>
    intro hi
    rw [firstEmptyWith_occupied (by rw [← heq i hi]; exact hsi)]
    exact ih (next_lt N i hi)

/-! Three more facts about the two loops; nothing in the development uses them. -/

theorem firstEmpty_unique (s : Slots) (N i q q' : Nat) (_hi : i < N) (hq : q < N) (hq' : q' < N)
    (hs : s q = none) (hs' : s q' = none) (hp : PathOK s N i q) (hp' : PathOK s N i q') : q = q' := by
  apply Classical.byContradiction
  intro hne
  have h1 : ¬ onPath N i q q' := fun h => hp q' h hs'
  have h2 : ¬ onPath N i q' q := fun h => hp' q h hs
  unfold onPath at h1 h2
  omega

theorem scan_sound (s : Slots) (N k : Nat) :
    ∀ fuel i r, i < N → scan s N k fuel i = some r →
      match r with
      | .found p v => p < N ∧ s p = some (k, v)
      | .absent p => p < N ∧ s p = none := by
  intro fuel i
  unfold scan
  fun_induction scanWith (next N) s k fuel i with
  | case1 => intro r _ h; cases h
  | case2 f i hsi => intro r hi h; cases h; exact ⟨hi, hsi⟩
  | case3 f i w hsi => intro r hi h; cases h; exact ⟨hi, hsi⟩
  | case4 f i k' w hsi hne ih => intro r hi h; exact ih r (next_lt N i hi) h

theorem scan_fuel_mono (s : Slots) (N k : Nat) :
    ∀ fuel i r m, scan s N k fuel i = some r → scan s N k (fuel + m) i = some r := by
  intro fuel i
  unfold scan
  fun_induction scanWith (next N) s k fuel i with
  | case1 => intro r m h; cases h
  | case2 f i hsi => intro r m h; rw [Nat.succ_add, scanWith_empty hsi]; exact h
  | case3 f i w hsi => intro r m h; rw [Nat.succ_add, scanWith_hit hsi]; exact h
  | case4 f i k' w hsi hne ih => intro r m h; rw [Nat.succ_add, scanWith_miss hsi hne]; exact ih r m h

end KV.Probing
