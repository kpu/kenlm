import Proofs.TrieBuildOrder
/-! Verdict-level facts about `KV.TrieBuild.buildTable` (the trie builder model of lm/search_trie.cc), used by C10 to tie the
loader model's trie verdict to it.  Core only. -/
namespace KV.TrieBuild
open KV.Arpa

theorem realOf_isNone (l : List Gram) (k : List Word) : (realOf l k).isNone = true ↔ ∀ g ∈ l, g.key ≠ k := by
  unfold realOf
  rw [Option.isNone_iff_eq_none, List.find?_eq_none]
  simp

theorem visit_error (st : VisitState) (g : Gram) (e : BuildErr) (h : visit st g = .error e) : e = .missingUnigram := by
  unfold visit at h
  simp only at h
  split at h
  · simp at h
  · split at h
    · simp only [Except.error.injEq] at h; exact h.symm
    · split at h
      · simp only [Except.error.injEq] at h; exact h.symm
      · simp at h

theorem visitAll_error : ∀ (gs : List Gram) (st : VisitState) (e : BuildErr), gs.foldlM visit st = .error e → e = .missingUnigram
  | [], st, e, h => by simp [List.foldlM, pure, Except.pure] at h
  | g :: gs, st, e, h => by
    simp only [List.foldlM_cons, bind, Except.bind] at h
    split at h
    · rename_i e' he
      simp only [Except.error.injEq] at h
      subst h
      exact visit_error st g _ he
    · exact visitAll_error gs _ e h

theorem any_missing_iff (gs : List Gram) :
    ((visitOrder gs).any fun g => decide (g.key.length ≥ 2) && (realOf (visitOrder gs) (g.key.drop 1)).isNone) = true ↔
      ∃ k ∈ gs.map (·.key), 2 ≤ k.length ∧ k.drop 1 ∉ gs.map (·.key) := by
  simp only [List.any_eq_true, Bool.and_eq_true, decide_eq_true_eq, realOf_isNone, mem_visitOrder, List.mem_map, not_exists,
    not_and]
  constructor
  · rintro ⟨g, hg, hl, hr⟩; exact ⟨g.key, ⟨g, hg, rfl⟩, hl, hr⟩
  · rintro ⟨_, ⟨g, hg, rfl⟩, hl, hr⟩; exact ⟨g, hg, hl, hr⟩

/-- the verdict of `buildTable` read test by test (duplicate keys; else a blank without a unigram basis; else a missing context;
else success): what each error class says about the input, and what success excludes -/
theorem buildTable_verdict (fadd : Nat → Nat → Nat) (order : Nat) (gs : List Gram) :
    (buildTable fadd order gs = .error .duplicate → ¬ (gs.map (·.key)).Nodup) ∧
    (buildTable fadd order gs = .error .missingContext → ∃ k ∈ gs.map (·.key), 2 ≤ k.length ∧ k.drop 1 ∉ gs.map (·.key)) ∧
    ((∃ k ∈ gs.map (·.key), 2 ≤ k.length ∧ k.drop 1 ∉ gs.map (·.key)) → ∀ b, buildTable fadd order gs ≠ .ok b) := by
  rw [← any_missing_iff]
  unfold buildTable
  dsimp only
  cases hd : hasDuplicate (visitOrder gs) with
  | true =>
    rw [if_pos rfl]
    exact ⟨fun _ hn => Bool.noConfusion (hd.symm.trans (hasDuplicate_false_of_nodup _ (nodup_visitOrder gs hn))), nofun, fun _ _ => nofun⟩
  | false =>
    rw [if_neg Bool.false_ne_true]
    cases hv : visitAll (visitOrder gs) with
    | error e => rw [visitAll_error _ _ _ hv]; exact ⟨nofun, nofun, fun _ _ => nofun⟩
    | ok st =>
      dsimp only
      cases (visitOrder gs).any fun g => decide (g.key.length ≥ 2) && (realOf (visitOrder gs) (g.key.drop 1)).isNone with
      | true => rw [if_pos rfl]; exact ⟨nofun, fun _ => rfl, fun _ _ => nofun⟩
      | false => rw [if_neg Bool.false_ne_true]; exact ⟨nofun, nofun, nofun⟩

end KV.TrieBuild
