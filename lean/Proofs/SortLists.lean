import Model.Sort
/-! C16: facts about lists and numbers that the sort proofs share: the non-empty runs (`nonempties`), the two ways the
model cuts a list into consecutive pieces (`splitLens`, `splitGroups`), sums of capped sizes, and "a positive multiple of
the entry size" (`Mult`). -/
namespace KV.Sort
open List

/-- `n` is a positive multiple of the positive entry size `E`: what `buffer_size_` and every `per_buffer` are -/
structure Mult (E n : Nat) : Prop where
  pos_base : 0 < E
  pos : 0 < n
  dvd : E ∣ n

theorem Mult.div_pos {E n : Nat} (h : Mult E n) : 0 < n / E :=
  Nat.div_pos (Nat.le_of_dvd h.pos h.dvd) h.pos_base

theorem splitLens_map_length {β : Type} : ∀ (rs : List (List β)), splitLens (rs.map List.length) rs.flatten = rs
  | [] => rfl
  | r :: rs => by
    simp [splitLens, splitLens_map_length rs]

def nonempties {β : Type} (runs : List (List β)) : List (List β) := runs.filter (fun r => !r.isEmpty)

/-- the spelling of the C16 statements -/
theorem nonempties_eq_filter {β : Type} (runs : List (List β)) :
    nonempties runs = runs.filter (fun r => !r.isEmpty) := rfl

theorem flatten_nonempties {β : Type} (runs : List (List β)) : (nonempties runs).flatten = runs.flatten :=
  List.flatten_filter_not_isEmpty

theorem map_length_nonempties {β : Type} : ∀ (runs : List (List β)),
    (runs.map List.length).filter (· ≠ 0) = (nonempties runs).map List.length
  | [] => rfl
  | r :: rs => by
    have ih := map_length_nonempties rs
    cases r with
    | nil => simpa [nonempties] using ih
    | cons x xs => simpa [nonempties] using ih

theorem mem_nonempties {β : Type} {runs : List (List β)} {r} : r ∈ nonempties runs ↔ r ∈ runs ∧ r ≠ [] := by
  simp [nonempties]

theorem not_isEmpty_iff {β : Type} {l : List β} : (!l.isEmpty) = true ↔ l.length ≠ 0 := by cases l <;> simp

theorem nonempties_map {β γ : Type} {f : β → List γ} {p : β → Bool} {xs : List β}
    (h : ∀ x ∈ xs, p x = true ↔ (f x).length ≠ 0) : nonempties (xs.map f) = (xs.filter p).map f := by
  unfold nonempties
  rw [filter_map]
  exact congrArg _ (filter_congr fun x hx => Bool.eq_iff_iff.mpr (not_isEmpty_iff.trans (h x hx).symm))

theorem splitGroups_flatten {β : Type} : ∀ (sizes : List Nat) (xs : List β), (splitGroups sizes xs).flatten = xs
  | _, [] => by cases ‹List Nat› <;> simp [splitGroups]
  | [], x :: xs => by simp [splitGroups]
  | n :: ns, x :: xs => by
    simp only [splitGroups, flatten_cons, splitGroups_flatten ns (xs.drop (n - 1))]
    simp

theorem mem_of_mem_splitGroups {β : Type} {sizes : List Nat} {xs : List β} {g : List β} {r : β}
    (hg : g ∈ splitGroups sizes xs) (hr : r ∈ g) : r ∈ xs := by
  rw [← splitGroups_flatten sizes xs]
  exact mem_flatten.mpr ⟨g, hg, hr⟩

theorem splitGroups_take_drop {β : Type} (ns : List Nat) (x : β) (xs : List β) (c : Nat) :
    splitGroups (((x :: xs).take (c + 1)).length :: ns) (x :: xs) =
      (x :: xs).take (c + 1) :: splitGroups ns ((x :: xs).drop (c + 1)) := by
  simp only [splitGroups, take_succ_cons, drop_succ_cons, length_cons, length_take, Nat.add_sub_cancel]
  rcases Nat.le_total c xs.length with h | h
  · rw [Nat.min_eq_left h]
  · rw [Nat.min_eq_right h, take_of_length_le h, drop_of_length_le h, take_of_length_le (Nat.le_refl _),
      drop_of_length_le (Nat.le_refl _)]

theorem sum_map_min_le (pb : Nat) : ∀ (ss : List Nat),
    (ss.map (min pb)).sum ≤ ss.sum ∧ (ss.map (min pb)).sum ≤ ss.length * pb
  | [] => ⟨Nat.le_refl _, Nat.zero_le _⟩
  | s :: ss => by
    obtain ⟨h1, h2⟩ := sum_map_min_le pb ss
    simp only [map_cons, sum_cons, length_cons, Nat.add_mul, Nat.one_mul]
    exact ⟨Nat.add_le_add (Nat.min_le_right _ _) h1, Nat.add_comm _ pb ▸ Nat.add_le_add (Nat.min_le_left _ _) h2⟩

end KV.Sort
