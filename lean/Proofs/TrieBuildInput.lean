import Proofs.TrieBuildPass
import Proofs.TableBuild
/-! The trie builder's input from a parsed model `a`: the records `gramsOf a P B` and their visit order, the hypotheses the theorems
make about a model (`ArpaKeys`: what the pass needs; `ArpaEnc`, `ArpaEncW`: value encodings; `UnkOK`: the `<unk>` fix-up), and the
outcome of the pass in the model's own terms (`PassOut`): the records are the n-grams, the blanks are exactly the keys of
`Table.build a` that are no n-gram (`IsBlankKey`), each once and based on its longest real prefix. -/
namespace KV.TrieBuild
open KV.Arpa KV.Table KV.TrieLM KV.Score

def gramsOf (a : Arpa) (P B : List Word → Nat) : List Gram := a.entries.map fun p => ⟨p.1, P p.1, B p.1⟩

/-- what the builder's pass needs of a parsed model, whatever its values: well-formed, distinct keys, word ids below the bound,
every word a unigram -/
structure ArpaKeys (a : Arpa) (bound : Nat) : Prop where
  wf : WellFormed a
  nodup : (a.entries.map (·.1)).Nodup
  words : ∀ p ∈ a.entries, ∀ w ∈ p.1, w < bound
  unigrams : ∀ w, w < bound → a.gram [w] ≠ none

/-- a suffix-closed model with a value encoding: `P g` / `B g` are the float bits of the probability / back-off of the n-gram
`g` as `read_arpa.cc` stores them, `fval` decodes bits.  For a real model: `P`/`B` = float32 of the ARPA numbers (all values
float32-representable), zero back-off = `-0.0` except the hallucinated `<unk>` (`+0.0`). -/
structure ArpaEnc (fval : Nat → Rat) (a : Arpa) (bound : Nat) (P B : List Word → Nat) : Prop where
  wf : WellFormed a
  sc : SuffixClosed a
  nodup : (a.entries.map (·.1)).Nodup
  words : ∀ p ∈ a.entries, ∀ w ∈ p.1, w < bound
  unigrams : ∀ w, w < bound → a.gram [w] ≠ none
  pval : ∀ g e, a.gram g = some e → P g < 2^32 ∧ fval (if g.length = 1 then P g else P g % 2^31 + 2^31) = e.prob
  bval : ∀ g e, a.gram g = some e → B g < 2^32 ∧ fval (B g) = e.backoff ∧
    (B g = minusZero ↔ (e.backoff = 0 ∧ ¬(a.unkHallucinated = true ∧ g = [0])))
  zero : fval plusZero = 0

/-- a model that is only well-formed (not necessarily suffix-closed, so blanks occur) with a value encoding: as `ArpaEnc`, and
in addition the raw probability bits decode to the value (`pval`, third clause: a blank's basis is the parsed float itself, not its
31-bit stored form), both zeros decode to 0, and a hallucinated `<unk>` is read as zero bits.  What the float additions on the blanks must
satisfy is a separate hypothesis, `C03TrieBuild.BlankArith`. -/
structure ArpaEncW (fval : Nat → Rat) (a : Arpa) (bound : Nat) (P B : List Word → Nat) : Prop where
  wf : WellFormed a
  nodup : (a.entries.map (·.1)).Nodup
  words : ∀ p ∈ a.entries, ∀ w ∈ p.1, w < bound
  unigrams : ∀ w, w < bound → a.gram [w] ≠ none
  /-- the probability bits the builder reads decode to the ARPA value — except for a hallucinated `<unk>` -/
  pval : ∀ g e, a.gram g = some e → ¬(a.unkHallucinated = true ∧ g = [0]) →
    P g < 2^32 ∧ fval (if g.length = 1 then P g else P g % 2^31 + 2^31) = e.prob ∧ fval (P g) = e.prob
  bval : ∀ g e, a.gram g = some e → B g < 2^32 ∧ fval (B g) = e.backoff ∧
    (B g = minusZero ↔ (e.backoff = 0 ∧ ¬(a.unkHallucinated = true ∧ g = [0])))
  /-- a hallucinated `<unk>` is the zeroed slot 0 of the unigram file while the builder runs (`unkSlot`) -/
  unk0 : a.unkHallucinated = true → P [0] = 0 ∧ B [0] = plusZero
  zero : fval plusZero = 0 ∧ fval minusZero = 0

/-- the `<unk>` fix-up `GenericModel::InitializeFromARPA` applies after the builder (`fixUnk`): `U` = bits of
`unknown_missing_logprob`; and the class the theorems exclude: when `<unk>` is hallucinated no blank has `<unk>` as its newest
word (`basis`; on that class the code computes the blank from the zeroed slot — known finding
`blank-based-on-hallucinated-unk`, witness `C03TrieBuild.unk_class_deviates`). -/
structure UnkOK (fval : Nat → Rat) (a : Arpa) (U : Nat) : Prop where
  bits : U < 2^32
  val : a.unkHallucinated = true → ∃ e, a.gram [0] = some e ∧ fval U = e.prob ∧ e.backoff = 0
  basis : a.unkHallucinated = true → ∀ w ctx, a.gram (w :: ctx) = none → extendsLeft a (w :: ctx) = true → w ≠ 0

def unkOf (a : Arpa) (U : Nat) : Option Nat := if a.unkHallucinated then some U else none

theorem unkOf_eq_some {a : Arpa} {U x : Nat} : unkOf a U = some x ↔ a.unkHallucinated = true ∧ x = U := by
  unfold unkOf
  split <;> simp [*, eq_comm]

theorem unkOf_eq_none {a : Arpa} {U : Nat} : unkOf a U = none ↔ a.unkHallucinated = false := by
  unfold unkOf
  split <;> simp [*]

variable {fval : Nat → Rat} {a : Arpa} {bound : Nat} {P B : List Word → Nat}

theorem ArpaEnc.keys (enc : ArpaEnc fval a bound P B) : ArpaKeys a bound := ⟨enc.wf, enc.nodup, enc.words, enc.unigrams⟩

theorem ArpaEncW.keys (enc : ArpaEncW fval a bound P B) : ArpaKeys a bound := ⟨enc.wf, enc.nodup, enc.words, enc.unigrams⟩

/-- a property of every listed entry holds of every n-gram the model answers: how the finite example models are checked -/
theorem gram_forall (a : Arpa) (p : List Word → Entry → Prop) (h : ∀ x ∈ a.entries, p x.1 x.2) (g : List Word) (e : Entry)
    (hg : a.gram g = some e) : p g e :=
  h (g, e) (KV.lookup_some_mem _ _ _ hg)

theorem gram_iff_mem (hn : (a.entries.map (·.1)).Nodup) (g : List Word) (e : Entry) : a.gram g = some e ↔ (g, e) ∈ a.entries :=
  ⟨KV.lookup_some_mem _ _ _, KV.lookup_of_nodup_keys hn⟩

theorem ArpaKeys.word_lt (keys : ArpaKeys a bound) {p : List Word} (hp : a.gram p ≠ none) {w : Word} (hw : w ∈ p) : w < bound := by
  obtain ⟨e, he⟩ := Option.ne_none_iff_exists'.mp hp
  exact keys.words (p, e) ((gram_iff_mem keys.nodup p e).mp he) w hw

/-- `sorted` lists exactly the n-grams of `a` with the bits `P`, `B`, each key once -/
structure Records (a : Arpa) (P B : List Word → Nat) (sorted : List Gram) : Prop where
  nodup : (sorted.map (·.key)).Nodup
  mem : ∀ r, r ∈ sorted ↔ a.gram r.key ≠ none ∧ r.prob = P r.key ∧ r.backoff = B r.key

theorem Records.real_of_mem {sorted : List Gram} (rc : Records a P B sorted) {r : Gram} (hr : r ∈ sorted) : a.gram r.key ≠ none :=
  ((rc.mem r).mp hr).1

theorem Records.entry_of_mem {sorted : List Gram} (rc : Records a P B sorted) {r : Gram} (hr : r ∈ sorted) :
    ∃ e, a.gram r.key = some e ∧ r.prob = P r.key ∧ r.backoff = B r.key :=
  let ⟨h1, h2, h3⟩ := (rc.mem r).mp hr
  let ⟨e, he⟩ := Option.ne_none_iff_exists'.mp h1
  ⟨e, he, h2, h3⟩

theorem Records.vals_lt {sorted : List Gram} (rc : Records a P B sorted) (hP : ∀ g e, a.gram g = some e → P g < 2^32)
    (hB : ∀ g e, a.gram g = some e → B g < 2^32) : ∀ r ∈ sorted, r.prob < 2^32 ∧ r.backoff < 2^32 := fun r hr => by
  obtain ⟨e, he, hp, hb⟩ := rc.entry_of_mem hr
  rw [hp, hb]
  exact ⟨hP _ e he, hB _ e he⟩

theorem Records.mem_real {sorted : List Gram} (rc : Records a P B sorted) {g : List Word} (hg : a.gram g ≠ none) :
    (⟨g, P g, B g⟩ : Gram) ∈ sorted := (rc.mem _).mpr ⟨hg, rfl, rfl⟩

theorem Records.realOf_eq {sorted : List Gram} (rc : Records a P B sorted) (k : List Word) :
    realOf sorted k = (a.gram k).map fun _ => (⟨k, P k, B k⟩ : Gram) := by
  cases hr : realOf sorted k with
  | some r =>
    obtain ⟨hm, rfl⟩ := realOf_mem _ _ _ hr
    obtain ⟨e, he, h2, h3⟩ := rc.entry_of_mem hm
    rw [he, Option.map_some, ← h2, ← h3]
  | none =>
    cases hg : a.gram k with
    | none => rfl
    | some e =>
      have := List.find?_eq_none.mp hr _ (rc.mem_real (by rw [hg]; nofun))
      simp at this

theorem Records.realOf_none {sorted : List Gram} (rc : Records a P B sorted) (k : List Word) :
    realOf sorted k = none ↔ a.gram k = none := by
  rw [rc.realOf_eq k]; cases a.gram k <;> simp

theorem visitOrder_records (hn : (a.entries.map (·.1)).Nodup) : Records a P B (visitOrder (gramsOf a P B)) := by
  refine ⟨nodup_visitOrder _ ?_, fun r => ?_⟩
  · rw [show (gramsOf a P B).map (·.key) = a.entries.map (·.1) by simp [gramsOf, Function.comp]]; exact hn
  · rw [mem_visitOrder]
    simp only [gramsOf, List.mem_map]
    constructor
    · rintro ⟨p, hp, rfl⟩
      exact ⟨by rw [(gram_iff_mem hn p.1 p.2).mpr hp]; nofun, rfl, rfl⟩
    · obtain ⟨k, p, b⟩ := r
      rintro ⟨hr, hp, hb⟩
      simp only at hr hp hb
      subst hp hb
      obtain ⟨e, he⟩ := Option.ne_none_iff_exists'.mp hr
      exact ⟨(k, e), (gram_iff_mem hn k e).mp he, rfl⟩

theorem visitOrder_checks {a : Arpa} {P B : List Word → Nat} (wf : WellFormed a) (hn : (a.entries.map (·.1)).Nodup) :
    hasDuplicate (visitOrder (gramsOf a P B)) = false ∧
    (visitOrder (gramsOf a P B)).any
      (fun g => decide (g.key.length ≥ 2) && (realOf (visitOrder (gramsOf a P B)) (g.key.drop 1)).isNone) = false := by
  have rc := visitOrder_records (P := P) (B := B) hn
  refine ⟨hasDuplicate_false_of_nodup _ rc.nodup, ?_⟩
  rw [List.any_eq_false]
  intro g hg
  simp only [Bool.and_eq_true, decide_eq_true_eq, not_and, Option.isNone_iff_eq_none]
  intro hl
  have hr := rc.real_of_mem hg
  cases hk : g.key with
  | nil => rw [hk] at hl; simp at hl
  | cons x rest =>
    rw [hk] at hr hl
    have hrest : rest ≠ [] := by intro e; rw [e] at hl; simp at hl
    simp only [List.drop_succ_cons, List.drop_zero]
    rw [rc.realOf_none]
    exact wf.ctx_present x rest hrest hr

/-- `g` is a key of `Table.build a` that is no n-gram: a proper reversed prefix, of length ≥ 2, of an n-gram -/
def IsBlankKey (a : Arpa) (g : List Word) : Prop :=
  a.gram g = none ∧ ∃ p, a.gram p ≠ none ∧ ∃ n, 2 ≤ n ∧ n < p.length ∧ g = p.take n

/-- the blank keys are the keys of `Table.build a` that are no n-gram (every word of an n-gram is a unigram, so such a key has
at least two words) -/
theorem isBlankKey_iff (keys : ArpaKeys a bound) (g : List Word) :
    IsBlankKey a g ↔ g ≠ [] ∧ a.gram g = none ∧ extendsLeft a g = true := by
  rw [extendsLeft_iff]
  constructor
  · rintro ⟨hnr, p, hp, n, hn2, hnl, rfl⟩
    have hl : (p.take n).length = n := List.length_take_of_le (Nat.le_of_lt hnl)
    exact ⟨fun e => by rw [e] at hl; exact absurd hl.symm (Nat.ne_of_gt (Nat.lt_of_lt_of_le Nat.zero_lt_two hn2)),
      hnr, p, hp, by rw [hl]; exact hnl, List.take_prefix _ _⟩
  · rintro ⟨hne, hnr, p, hp, hl, hpre⟩
    refine ⟨hnr, p, hp, g.length, ?_, hl, List.prefix_iff_eq_take.mp hpre⟩
    match g, hne, hnr, hpre with
    | [w], _, hnr, hpre => exact absurd hnr (keys.unigrams w (keys.word_lt hp (hpre.subset (by simp))))
    | _ :: _ :: _, _, _, _ => simp

theorem tableKey_iff_prefix (keys : ArpaKeys a bound) (g : List Word) :
    (a.gram g ≠ none ∨ IsBlankKey a g) ↔ g ≠ [] ∧ ∃ q, a.gram q ≠ none ∧ g <+: q := by
  rw [isBlankKey_iff keys, ← Score.key_iff_prefix]
  constructor
  · rintro (h | ⟨hne, _, hx⟩)
    · exact ⟨keys.wf.len_pos g h, .inl h⟩
    · exact ⟨hne, .inr hx⟩
  · rintro ⟨hne, h | hx⟩
    · exact .inl h
    · by_cases hr : a.gram g = none
      · exact .inr ⟨hne, hr, hx⟩
      · exact .inl hr

theorem blank_len (keys : ArpaKeys a bound) (g : List Word) (h : IsBlankKey a g) : 2 ≤ g.length ∧ g.length < a.order := by
  obtain ⟨_, p, hp, n, hn2, hnl, rfl⟩ := h
  have := keys.wf.len_le p hp
  rw [List.length_take]; omega

theorem closed_no_blank (sc : SuffixClosed a) (g : List Word) : ¬ IsBlankKey a g := by
  rintro ⟨hnr, p, hp, n, hn2, hnl, rfl⟩
  refine closed_prefix_real sc (p.drop n) (p.take n) (fun e => ?_) (by rw [List.take_append_drop]; exact hp) hnr
  have := congrArg List.length e
  rw [List.length_take, List.length_nil] at this
  omega

/-- the blank `b` is based on the longest real prefix of its own key (`BlankOK` says it of the key `b` was found under) and
carries that n-gram's probability bits -/
structure BasedOn (a : Arpa) (P : List Word → Nat) (b : Blank) : Prop where
  pos : 1 ≤ b.basedOn
  lt : b.basedOn < b.key.length
  real : a.gram (b.key.take b.basedOn) ≠ none
  bits : b.basis = P (b.key.take b.basedOn)
  longest : ∀ c, b.basedOn < c → c ≤ b.key.length → a.gram (b.key.take c) = none

/-- the outcome of the pass over the records `sorted`, in the model's terms: they are the n-grams, and `blanks` are exactly the blank keys,
each once and `BasedOn` its longest real prefix -/
structure PassOut (a : Arpa) (bound : Nat) (P B : List Word → Nat) (sorted : List Gram) (blanks : List Blank) : Prop where
  keys : ArpaKeys a bound
  recs : Records a P B sorted
  blank_nodup : (blanks.map (·.key)).Nodup
  blank_key : ∀ g, (∃ b ∈ blanks, b.key = g) ↔ IsBlankKey a g
  blank_basis : ∀ b ∈ blanks, BasedOn a P b

theorem Full.passOut (keys : ArpaKeys a bound) {st : VisitState}
    (hf : Full (visitOrder (gramsOf a P B)) (visitOrder (gramsOf a P B)) st) :
    PassOut a bound P B (visitOrder (gramsOf a P B)) st.blanks := by
  have rc := visitOrder_records (P := P) (B := B) keys.nodup
  refine ⟨keys, rc, hf.nodup, fun g => ⟨?_, ?_⟩, ?_⟩
  · rintro ⟨b, hb, rfl⟩
    obtain ⟨gm, hgm, hok⟩ := hf.sound b hb
    obtain ⟨n, hn2, hnl, hbk⟩ := hok.isPrefix
    exact ⟨(rc.realOf_none _).mp hok.notReal, gm.key, rc.real_of_mem hgm, n, hn2, hnl, hbk⟩
  · rintro ⟨hnr, p, hp, n, hn2, hnl, rfl⟩
    exact hf.complete _ (rc.mem_real hp) n hn2 hnl ((rc.realOf_none _).mpr hnr)
  · intro b hb
    obtain ⟨gm, hgm, hok⟩ := hf.sound b hb
    obtain ⟨n, hn2, hnl, hbk⟩ := hok.isPrefix
    have hlen : b.key.length = n := hbk ▸ List.length_take_of_le (Nat.le_of_lt hnl)
    have htake : ∀ t, t ≤ n → b.key.take t = gm.key.take t := fun t ht => by rw [hbk, List.take_take, Nat.min_eq_left ht]
    obtain ⟨r, hr, hrp⟩ := hok.basis
    rw [rc.realOf_eq] at hr
    obtain ⟨e, he, hre⟩ := Option.map_eq_some_iff.mp hr
    have hjn : b.basedOn ≤ n := by rw [← hlen]; exact Nat.le_of_lt hok.based.2
    refine ⟨hok.based.1, hok.based.2, by rw [htake _ hjn, he]; nofun, by rw [htake _ hjn, ← hrp, ← hre], fun c hc hcl => ?_⟩
    rw [hlen] at hcl
    rw [htake c hcl]
    exact (rc.realOf_none _).mp (hok.longest c hc (Nat.lt_of_le_of_lt hcl hnl))

theorem visit_passOut (keys : ArpaKeys a bound) :
    ∃ st, visitAll (visitOrder (gramsOf a P B)) = .ok st ∧ PassOut a bound P B (visitOrder (gramsOf a P B)) st.blanks := by
  have rc := visitOrder_records (P := P) (B := B) keys.nodup
  have hne : ∀ g ∈ visitOrder (gramsOf a P B), 1 ≤ g.key.length := fun g hg =>
    List.length_pos_iff.mpr (keys.wf.len_pos g.key (rc.real_of_mem hg))
  have h := visitAll_full _ (visitOrder_keysLt _ (hasDuplicate_false_of_nodup _ rc.nodup)) hne
  cases hv : visitAll (visitOrder (gramsOf a P B)) with
  | ok st => rw [hv] at h; exact ⟨st, rfl, h.passOut keys⟩
  | error e =>
    -- a missing unigram is excluded: the newest word of an n-gram is a unigram
    rw [hv] at h
    obtain ⟨_, g, hg, _, hnr⟩ := h
    have hreal := rc.real_of_mem hg
    cases hk : g.key with
    | nil => exact absurd hk (keys.wf.len_pos g.key hreal)
    | cons w rest =>
      rw [hk, List.take_succ_cons, List.take_zero, rc.realOf_none] at hnr
      exact absurd hnr (keys.unigrams w (keys.word_lt hreal (by rw [hk]; exact List.mem_cons_self)))

theorem PassOut.closed {sorted : List Gram} {blanks : List Blank} (po : PassOut a bound P B sorted blanks) (sc : SuffixClosed a) :
    blanks = [] :=
  List.eq_nil_iff_forall_not_mem.mpr fun b hb => closed_no_blank sc b.key ((po.blank_key _).mp ⟨b, hb, rfl⟩)

end KV.TrieBuild
