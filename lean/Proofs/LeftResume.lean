import Model.Left
import Proofs.ScoreLoop
import Proofs.SearchSim
/-! Post-condition of `ResumeScore` when it is *resumed* from the node of an already matched n-gram `g`
(the pointer of `ExtendLeft`) over further context words `add` — the loop of `model.cc:273-296` with
rest costs and the `extend_left` pointer, over the abstract table. -/
namespace KV.Left
open KV.Arpa KV.Table KV.State KV.Score

/-- invariant of the resumed loop after `k` words of `add`, started in state `acc0`: `node` is the pointer `g` extended by them, still at a
middle order (`k_lt`: at order `T.order - 1` the next step is `lookupLongest`, which leaves the loop) -/
structure ExtInv (T : Table) (R : Ptr → Rat) (g add : List Word) (acc0 : Acc Ptr) (k : Nat) (node : Ptr) (acc : Acc Ptr) : Prop where
  node_eq : node = g ++ add.take k
  k_le : k ≤ add.length
  k_lt : g.length + k ≤ T.order - 1
  len : acc.ret.ngramLength = g.length + k
  found : ∃ t, T.lookup (g ++ add.take k) = some t ∧ acc.ret.prob = t.prob ∧ acc.ret.independentLeft = !t.extendsLeft
  rest : acc.ret.rest = R (g ++ add.take k)
  ptr : acc.ret.extendLeft = g ++ add.take k
  bo : acc.backoffOut = acc0.backoffOut ++ (List.range k).map (fun j => T.bo (g ++ add.take (j+1)))
  /-- `next_use` is the length of the longest n-gram passed that is marked as extending right; the start value if there is none -/
  nu : ∃ L, LastMarked (fun j => T.xr (g ++ add.take (j+1))) k L ∧ acc.nextUse = if L = 0 then acc0.nextUse else g.length + L

/-- what the resumed loop returns: `c0` further words were matched, `min c0 (T.order - 1 - g.length)` of them
at a middle order -/
structure ExtPost (T : Table) (R : Ptr → Rat) (g add : List Word) (acc0 acc : Acc Ptr) (c0 : Nat) : Prop where
  c0_le : c0 ≤ add.length
  len_le : g.length + c0 ≤ T.order
  found : ∃ t, T.lookup (g ++ add.take c0) = some t ∧ acc.ret.prob = t.prob
  len : acc.ret.ngramLength = g.length + c0
  stop : c0 < add.length → g.length + c0 < T.order → T.lookup (g ++ add.take (c0+1)) = none
  indep : acc.ret.independentLeft =
    (decide (g.length + c0 = T.order) || decide (c0 < add.length) || !T.xl (g ++ add.take c0))
  rest : acc.ret.rest = if g.length + c0 = T.order then acc.ret.prob else R (g ++ add.take c0)
  ptr : g.length + c0 < T.order → acc.ret.extendLeft = g ++ add.take c0
  bo : acc.backoffOut = acc0.backoffOut ++
    (List.range (min c0 (T.order - 1 - g.length))).map (fun j => T.bo (g ++ add.take (j+1)))
  /-- among the middle orders only: the longest order writes no back-off and sets no `next_use` -/
  nu : ∃ L, LastMarked (fun j => T.xr (g ++ add.take (j+1))) (min c0 (T.order - 1 - g.length)) L ∧
    acc.nextUse = if L = 0 then acc0.nextUse else g.length + L

theorem ExtInv.stop {T : Table} {R : Ptr → Rat} {g add : List Word} {acc0 : Acc Ptr} {k : Nat} {node : Ptr} {acc : Acc Ptr}
    (ok : TableOK T) (inv : ExtInv T R g add acc0 k node acc) (b : Bool)
    (hstop : k < add.length → T.lookup (g ++ add.take (k+1)) = none)
    (hb : b = (decide (k < add.length) || !T.xl (g ++ add.take k))) :
    ExtPost T R g add acc0 { acc with ret := { acc.ret with independentLeft := b } } k := by
  obtain ⟨t, ht, hp, _⟩ := inv.found
  have hlt := inv.k_lt
  have h2 := ok.order_ge
  have hm : min k (T.order - 1 - g.length) = k := by omega
  have h1 : ¬ (g.length + k = T.order) := by omega
  refine ⟨inv.k_le, by omega, ⟨t, ht, hp⟩, inv.len, fun h _ => hstop h, ?_, ?_, fun _ => inv.ptr, ?_, ?_⟩
  · show b = _
    rw [hb, decide_eq_false h1, Bool.false_or]
  · show acc.ret.rest = _
    rw [if_neg h1]; exact inv.rest
  · rw [hm]; exact inv.bo
  · rw [hm]; exact inv.nu

/-- **the resumed loop.**  From the invariant after `k` words of `add` (the node is `g` extended by them) `ResumeScore` runs to
its post-condition: induction on the words left, one case per exit (left-independent entry, longest order, not found). -/
theorem resume_ext (T : Table) (R : Ptr → Rat) (ok : TableOK T) (g add : List Word) (acc0 : Acc Ptr) (hg : 1 ≤ g.length) :
    ∀ (n k : Nat) (node : Ptr) (acc : Acc Ptr), n = add.length - k →
      ExtInv T R g add acc0 k node acc →
      ∃ c0, ExtPost T R g add acc0 (resumeScore (restSearch T R) (add.drop k) (g.length - 1 + k) node acc) c0 := by
  intro n
  induction n with
  | zero =>
    intro k node acc hn inv
    have hk : ¬ k < add.length := by omega
    rw [List.drop_eq_nil_of_le (by omega)]
    simp only [resumeScore]
    obtain ⟨t, ht, _, hind⟩ := inv.found
    exact ⟨k, inv.stop ok acc.ret.independentLeft (fun h => absurd h hk) (by simp [hk, hind, Table.xl, ht])⟩
  | succ n ih =>
    intro k node acc hn inv
    have hk : k < add.length := by omega
    have hn' : n = add.length - (k + 1) := by omega
    clear hn
    obtain ⟨x, rest, hdrop⟩ : ∃ x rest, add.drop k = x :: rest := by
      cases h : add.drop k with
      | nil => have := List.drop_eq_nil_iff.mp h; omega
      | cons x rest => exact ⟨x, rest, rfl⟩
    obtain ⟨htake, hdrop', _⟩ := take_succ_of_drop hdrop
    rw [hdrop]
    obtain ⟨t, ht, hp, hind⟩ := inv.found
    have h2 := ok.order_ge
    have hlt : g.length + k + 1 ≤ T.order := by have := inv.k_lt; omega
    have hnode : node ++ [x] = g ++ add.take (k+1) := by rw [inv.node_eq, htake, List.append_assoc]
    unfold resumeScore
    by_cases hil : acc.ret.independentLeft = true
    · simp only [hil, if_true]
      have hxl : t.extendsLeft = false := by
        rw [hil] at hind
        cases h : t.extendsLeft with
        | false => rfl
        | true => rw [h] at hind; cases hind
      have hnone : T.lookup (g ++ add.take (k+1)) = none := by
        rw [← hnode, inv.node_eq]; exact ok.xl_sound (g ++ add.take k) x t ht hxl
      exact ⟨k, inv.stop ok acc.ret.independentLeft (fun _ => hnone) (by rw [hil]; simp [hk])⟩
    · simp only [hil, Bool.false_eq_true, if_false]
      by_cases hlong : g.length + k + 1 = T.order
      · have hb : (g.length - 1 + k == (restSearch T R).order - 2) = true := by
          simp only [restSearch, beq_iff_eq]; omega
        simp only [hb, if_true]
        cases hl : T.lookup (g ++ add.take (k+1)) with
        | none =>
          have : (restSearch T R).lookupLongest x node = none := by simp [restSearch, hnode, hl]
          simp only [this]
          exact ⟨k, inv.stop ok true (fun _ => hl) (by simp [hk])⟩
        | some tl =>
          have : (restSearch T R).lookupLongest x node = some tl.prob := by simp [restSearch, hnode, hl]
          simp only [this]
          have hm' : min (k+1) (T.order - 1 - g.length) = k := by omega
          have hfull : g.length + (k + 1) = T.order := hlong
          refine ⟨k+1, ⟨hk, Nat.le_of_eq hfull, ⟨tl, hl, rfl⟩, hfull.symm, fun _ h => absurd hfull (Nat.ne_of_lt h), ?_, ?_,
            fun h => absurd hfull (Nat.ne_of_lt h), ?_, ?_⟩⟩
          · simp [hfull]
          · simp [hfull]
          · rw [hm']; exact inv.bo
          · rw [hm']; exact inv.nu
      · have hb : (g.length - 1 + k == (restSearch T R).order - 2) = false := by
          simp only [restSearch, beq_eq_false_iff_ne]; omega
        simp only [hb, Bool.false_eq_true, if_false]
        cases hl : T.lookup (g ++ add.take (k+1)) with
        | none =>
          have : (restSearch T R).lookupMiddle (g.length - 1 + k) x node = (none, node ++ [x]) := by
            simp [restSearch, foundOf, hnode, hl]
          simp only [this]
          exact ⟨k, inv.stop ok true (fun _ => hl) (by simp [hk])⟩
        | some tm =>
          have : (restSearch T R).lookupMiddle (g.length - 1 + k) x node =
              (some { toFound tm with rest := R (g ++ add.take (k+1)) }, node ++ [x]) := by
            simp [restSearch, foundOf, hnode, hl]
          simp only [this]
          rw [← hdrop']
          have hom : g.length - 1 + k + 1 = g.length - 1 + (k + 1) := Nat.add_assoc _ _ _
          rw [hom]
          apply ih (k+1) (node ++ [x]) _ hn'
          refine ⟨hnode, hk, by omega, ?_, ⟨tm, hl, rfl, by simp [toFound]⟩, rfl, hnode, ?_, ?_⟩
          · show g.length - 1 + k + 2 = g.length + (k + 1); omega
          · simp only [inv.bo, List.range_succ, List.map_append, List.map_cons, List.map_nil, toFound, List.append_assoc]
            simp [Table.bo, hl]
          · have hxr : T.xr (g ++ add.take (k+1)) = tm.extendsRight := by simp [Table.xr, hl]
            simp only [toFound]
            obtain ⟨L, lm, he⟩ := inv.nu
            refine ⟨if tm.extendsRight then k + 1 else L, by rw [← hxr]; exact lm.succ, ?_⟩
            by_cases hx : tm.extendsRight = true
            · simp only [hx, if_true, Nat.succ_ne_zero, if_false]; omega
            · have hx' : tm.extendsRight = false := by simpa using hx
              simp only [hx', Bool.false_eq_true, if_false]; exact he

/-- the loop state right after the pointer `g` (entry `t`) was looked up -/
def startAcc (R : Ptr → Rat) (g : Ptr) (t : TEntry) (bo0 : List Rat) (nu0 : Nat) : Acc Ptr :=
  { ret := { prob := t.prob, rest := R g, ngramLength := g.length, independentLeft := !t.extendsLeft, extendLeft := g },
    backoffOut := bo0, nextUse := nu0 }

/-- once `LookupUnigram` has found the word, `ScoreExceptBackoff` over the rest-cost search is the loop resumed from `[w]` -/
theorem finalAcc_rest {T : Table} (R : Ptr → Rat) {w : Word} {t : TEntry} (ht : T.lookup [w] = some t) (ctx : List Word) :
    finalAcc (restSearch T R) ctx w =
      resumeScore (restSearch T R) ctx 0 [w] (startAcc R [w] t [t.backoff] (if t.extendsRight then 1 else 0)) := by
  have hu : (restSearch T R).lookupUnigram w = ({ toFound t with rest := R [w] }, [w]) := by simp [restSearch, foundOf, ht]
  unfold finalAcc
  rw [hu]
  rfl

theorem ExtInv.init {T : Table} {R : Ptr → Rat} {g : Ptr} {t : TEntry} (hg : T.lookup g = some t)
    (hlen : g.length ≤ T.order - 1) (add : List Word) (bo0 : List Rat) (nu0 : Nat) :
    ExtInv T R g add (startAcc R g t bo0 nu0) 0 g (startAcc R g t bo0 nu0) :=
  ⟨by simp, Nat.zero_le _, hlen, rfl, ⟨t, by simpa using hg, rfl, rfl⟩, by simp [startAcc], by simp [startAcc], by simp,
    ⟨0, LastMarked.zero _, rfl⟩⟩

theorem resume_start {T : Table} (ok : TableOK T) (R : Ptr → Rat) {g : Ptr} {t : TEntry} (hg1 : 1 ≤ g.length)
    (hg : T.lookup g = some t) (hlen : g.length ≤ T.order - 1) (add : List Word) (bo0 : List Rat) (nu0 : Nat) :
    ∃ c0, ExtPost T R g add (startAcc R g t bo0 nu0)
      (resumeScore (restSearch T R) add (g.length - 1) g (startAcc R g t bo0 nu0)) c0 := by
  have := resume_ext T R ok g add _ hg1 (add.length - 0) 0 g _ rfl (ExtInv.init hg hlen add bo0 nu0)
  simpa using this

/-- `FullScore` over a search with rest costs: the returned `rest` is `R` of the longest matching n-gram -/
theorem fullScore_rest_spec (T : Table) (R : Ptr → Rat) (ok : TableOK T) (s : State) (w : Word) (t : TEntry)
    (ht : T.lookup [w] = some t) :
    ∃ c0, c0 ≤ (s.words.take s.length).length ∧
      (fullScore (restSearch T R) s w).1.ngramLength = 1 + c0 ∧
      (∃ t', T.lookup (w :: (s.words.take s.length).take c0) = some t') ∧
      (1 + c0 < T.order → (fullScore (restSearch T R) s w).1.rest = R (w :: (s.words.take s.length).take c0)) := by
  obtain ⟨c0, post⟩ := resume_start ok R (g := [w]) (Nat.le_refl 1) ht (Nat.le_sub_one_of_lt ok.order_ge)
    (s.words.take s.length) [t.backoff] (if t.extendsRight then 1 else 0)
  rw [fullScore_eq, finalAcc_rest R ht]
  obtain ⟨t', ht', _⟩ := post.found
  refine ⟨c0, post.c0_le, post.len, ⟨t', ht'⟩, fun hlt => ?_⟩
  exact post.rest.trans (if_neg (Nat.ne_of_lt hlt))

/-- where `next_use` ends up when the loop starts with `next_use = |g|` (as `ExtendLeft` does): at `|g| + nx`, where
extension `nx` is the last one marked as extending right among the middle orders passed, `0` if there is none -/
theorem ExtPost.nextUse_spec {T : Table} {R : Ptr → Rat} {g add : List Word} {acc0 acc : Acc Ptr} {c0 : Nat}
    (post : ExtPost T R g add acc0 acc c0) (h0 : acc0.nextUse = g.length) :
    ∃ nx, acc.nextUse = g.length + nx ∧ nx ≤ min c0 (T.order - 1 - g.length) ∧
      (∀ k, nx < k → k ≤ min c0 (T.order - 1 - g.length) → T.xr (g ++ add.take k) = false) ∧
      (0 < nx → T.xr (g ++ add.take nx) = true) := by
  obtain ⟨L, lm, he⟩ := post.nu
  refine ⟨L, ?_, lm.le, fun k h1 h2 => ?_, fun h => ?_⟩
  · rw [he, h0]; split
    · rename_i hz; rw [hz]; rfl
    · rfl
  · have := lm.unmarked (k - 1) (Nat.le_sub_one_of_lt h1) (by omega)
    rwa [Nat.sub_add_cancel (Nat.lt_of_le_of_lt (Nat.zero_le _) h1)] at this
  · have := lm.marked h
    rwa [Nat.sub_add_cancel h] at this

/-- a call that does not report independence matched everything on offer, below the highest order, at an entry that extends left -/
theorem pushed_of_indep {n c0 len order : Nat} {xl : Bool}
    (h : (decide (n + c0 = order) || decide (c0 < len) || !xl) = false) (h1 : c0 ≤ len) (h2 : n + c0 ≤ order) :
    c0 = len ∧ n + c0 < order ∧ xl = true := by
  simp only [Bool.or_eq_false_iff, decide_eq_false_iff_not, Bool.not_eq_false'] at h
  exact ⟨Nat.le_antisymm h1 (Nat.le_of_not_lt h.1.2), Nat.lt_of_le_of_ne h2 h.1.1, h.2⟩

theorem ExtPost.pushed {T : Table} {R : Ptr → Rat} {g add : List Word} {acc0 acc : Acc Ptr} {c0 : Nat}
    (post : ExtPost T R g add acc0 acc c0) (hind : acc.ret.independentLeft = false) :
    c0 = add.length ∧ g.length + add.length < T.order ∧ T.xl (g ++ add) = true ∧ acc.ret.extendLeft = g ++ add ∧
      acc.ret.rest = R (g ++ add) := by
  obtain ⟨hc, hlt, hi3⟩ := pushed_of_indep (post.indep.symm.trans hind) post.c0_le post.len_le
  have hptr := post.ptr hlt
  have hrest := post.rest
  rw [if_neg (Nat.ne_of_lt hlt)] at hrest
  rw [hc, List.take_of_length_le (Nat.le_refl _)] at hi3 hptr hrest
  exact ⟨hc, hc ▸ hlt, hi3, hptr, hrest⟩

theorem ExtPost.last_unmarked {T : Table} {R : Ptr → Rat} {g add : List Word} {acc0 acc : Acc Ptr} {c0 m : Nat}
    (post : ExtPost T R g add acc0 acc c0) (hm : min c0 (T.order - 1 - g.length) = m + 1)
    (hnu : acc.nextUse ≠ g.length + (m + 1)) : T.xr (g ++ add.take (m + 1)) = false := by
  obtain ⟨L, lm, he⟩ := post.nu
  rw [hm] at lm
  refine lm.unmarked m (Nat.le_of_lt_succ (Nat.lt_of_le_of_ne lm.le fun hL => hnu ?_)) (Nat.lt_succ_self m)
  rw [he, hL, if_neg (Nat.succ_ne_zero m)]

end KV.Left
