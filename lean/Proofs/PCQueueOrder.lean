import Proofs.PCQueue
/-! What one consumer receives from one producer (`pairSeq`), as a selection from the writes: the list facts behind
`per_pair_order`. -/
namespace KV

/-- the pairs of a zip selected by a condition on each side, projected to one side, are among the entries of
that side selected by its condition, in order -/
theorem zip_filter_sublist {α β γ δ : Type} (w : List α) (r : List β) (f : α → Bool) (g : β → Bool)
    (v : α → γ) (u : β → δ) :
    (((w.zip r).filter (fun x => f x.1 && g x.2)).map (fun x => v x.1)).Sublist ((w.filter f).map v)
    ∧ (((w.zip r).filter (fun x => f x.1 && g x.2)).map (fun x => u x.2)).Sublist ((r.filter g).map u) := by
  induction w generalizing r with
  | nil => simp
  | cons a w ih =>
    cases r with
    | nil => simp
    | cons b r =>
      obtain ⟨h1, h2⟩ := ih r
      simp only [List.zip_cons_cons, List.filter_cons]
      cases f a <;> cases g b <;>
        simp only [Bool.and_self, Bool.and_false, Bool.false_and, Bool.false_eq_true, if_false, if_true, List.map_cons]
      · exact ⟨h1, h2⟩
      · exact ⟨h1, h2.cons _⟩
      · exact ⟨h1.cons _, h2⟩
      · exact ⟨h1.cons_cons _, h2.cons_cons _⟩

theorem zip_values_eq (w r : List (Nat × Nat)) (h : r.map (·.2) = (w.map (·.2)).take r.length) :
    ∀ wr ∈ w.zip r, wr.1.2 = wr.2.2 := by
  induction w generalizing r with
  | nil => simp
  | cons a w ih =>
    cases r with
    | nil => simp
    | cons b r =>
      simp only [List.map_cons, List.length_cons, List.take_succ_cons, List.cons.injEq] at h
      intro wr hwr
      simp only [List.zip_cons_cons, List.mem_cons] at hwr
      rcases hwr with rfl | hwr
      · exact h.1.symm
      · exact ih r h.2 wr hwr

end KV

namespace KV.PCQueue

/-- values written by producer `p` and read by consumer `c`, in the order of the reads -/
def pairSeq (s : State) (p c : Nat) : List Nat :=
  ((s.writes.zip s.reads).filter (fun wr => wr.1.1 == p && wr.2.1 == c)).map (·.2.2)

theorem pairSeq_eq_left {s : State} (h : Core s) (p c : Nat) :
    pairSeq s p c = ((s.writes.zip s.reads).filter (fun wr => wr.1.1 == p && wr.2.1 == c)).map (·.1.2) := by
  unfold pairSeq
  apply List.map_congr_left
  intro wr hwr
  exact (zip_values_eq _ _ h.fifo wr (List.mem_filter.mp hwr).1).symm

end KV.PCQueue
