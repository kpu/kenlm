import Proofs.ProbingBuildMarks
import Proofs.ProbingBuildKeys
/-! The file the builder reads and the state it starts from: the n-gram lines of orders ≥ 2 (`ngramLines`), the bucket counts
(`capOf`), `build` as a fold from `initSt` (`build_eq`), what a loaded proper ARPA satisfies (`ArpaOK'`), and what `Read1Grams` leaves
in the unigram array (`initUni_getD_lt/_ge`; under `ArpaOK'` in three cases: `Slot`, `initUni_slot`). -/
namespace KV.ProbingBuild
open KV.Arpa KV.Table KV.Score KV.ProbingLM

def linesOf (proc : List Line) (m : Nat) : List Line := proc.filter (fun p => p.1.length == m)

def ngramLines (a : Arpa) : List Line := a.entries.filter fun p => p.1.length ≥ 2

/-- the bucket count of the table of order `m`, as `build` reads it from its argument (1 if the list is too short: such a table
takes no key) -/
def capOf (buckets : List Nat) (m : Nat) : Nat := buckets.getD (m - 2) 1

def initSt (a : Arpa) (nWords : Nat) (buckets : List Nat) : St :=
  { uni := initUni a nWords,
    mid := (List.range (a.order - 2)).map (fun i => emptyOrd (buckets.getD i 1)),
    longest := emptyOrd (buckets.getD (a.order - 2) 1) }

theorem build_eq (combine : Nat → Word → Nat) (rest : Bool) (a : Arpa) (nWords : Nat) (buckets : List Nat) (um : Rat) :
    build combine rest a nWords buckets um =
      ((ngramLines a).foldlM (fun s p => addLine combine rest a.order s p.1 p.2) (initSt a nWords buckets) >>= fun s =>
        .ok (fixUnk a um s)) := rfl

theorem mem_ngramLines (a : Arpa) (g : List Word) (e : Entry) (h : a.gram g = some e) (hl : 2 ≤ g.length) :
    (g, e) ∈ ngramLines a := by
  have := lookup_some_mem _ _ _ h
  simp [ngramLines, this, hl]

theorem ngramLines_real (a : Arpa) (p : Line) (hp : p ∈ ngramLines a) : a.gram p.1 ≠ none ∧ 2 ≤ p.1.length := by
  simp [ngramLines] at hp
  exact ⟨mem_lookup_ne_none _ p.1 p.2 hp.1, hp.2⟩

/-- in a file whose entries are distinct n-grams the lines are distinct and `a.gram` finds each -/
theorem ngramLines_of_nodup (a : Arpa) (hdist : (a.entries.map (·.1)).Nodup) :
    ((ngramLines a).map (·.1)).Nodup ∧ ∀ q ∈ ngramLines a, a.gram q.1 = some q.2 :=
  ⟨List.Nodup.sublist (List.Sublist.map _ List.filter_sublist) hdist,
    fun _ hq => KV.lookup_of_nodup_keys hdist (List.mem_filter.mp hq).1⟩

/-- what a loaded proper ARPA satisfies (no suffix-closure).  In kenlm: `vocab` word ids are handed out in the order of the unigram
lines; `words` `ReadNGram` looks every word of an n-gram up in the vocabulary; `unk`/`umle` the missing-`<unk>` fix-up of
`GenericModel::InitializeFromARPA` -/
structure ArpaOK' (a : Arpa) (nWords : Nat) (um : Rat) : Prop where
  wf : WellFormed a
  nonpos : ∀ g e, a.gram g = some e → e.prob ≤ 0
  vocab : ∀ w, w < nWords ↔ a.gram [w] ≠ none
  unk : a.unkHallucinated = true → ∃ e, a.gram [0] = some e ∧ e.prob = um ∧ e.backoff = 0
  umle : um ≤ 0
  words : ∀ p, a.gram p ≠ none → ∀ x ∈ p, a.gram [x] ≠ none
  /-- "every backed-off product is ≤ 0": the hallucinated blanks have non-positive probability -/
  proper : ∀ k, IsKey a k → a.gram k = none → score a k.tail (k.headD 0) ≤ 0
  /-- no blank is based on a hallucinated `<unk>` (the code computes such a blank from the zeroed slot, see design_notes/C03.md) -/
  unkBasis : a.unkHallucinated = true → ∀ k, IsKey a k → a.gram k = none → k.headD 0 ≠ 0

theorem initUni_length (a : Arpa) (nWords : Nat) : (initUni a nWords).length = nWords := by simp [initUni]

theorem initUni_getD_lt (a : Arpa) (nWords w : Nat) (h : w < nWords) (e : Entry) (he : a.gram [w] = some e) :
    (initUni a nWords).getD w default =
      if w == 0 && a.unkHallucinated then { mag := 0, neg := true, backoff := 0, xr := true, rest := 0 }
      else { mag := e.prob.abs, neg := true, backoff := e.backoff, xr := decide (e.backoff ≠ 0),
             rest := if w < (a.entries.filter fun p => p.1.length == 1).length - (if a.unkHallucinated then 1 else 0)
                     then -e.prob.abs else 0 } := by
  unfold initUni
  rw [List.getD_eq_getElem?_getD, List.getElem?_map, List.getElem?_range h]
  simp only [Option.map_some, Option.getD_some, he]

theorem initUni_getD_ge (a : Arpa) (nWords w : Nat) (h : ¬ w < nWords) : (initUni a nWords).getD w default = default := by
  unfold initUni
  rw [List.getD_eq_getElem?_getD, List.getElem?_map]
  have : (List.range nWords)[w]? = none := by simp; omega
  rw [this]; rfl

/-- what `Read1Grams` leaves in the slot of word `w` of a proper file: zeroed memory outside the vocabulary, the zero slot with `+0.0`
back-off for a hallucinated `<unk>`, else the entry's weights (`rest` set by `SetRest` for the ids below the number of unigram lines) -/
inductive Slot (a : Arpa) (um : Rat) (w : Word) : W → Prop
  | oov : a.gram [w] = none → Slot a um w default
  | unk (e : Entry) : w = 0 → a.unkHallucinated = true → a.gram [0] = some e → e.prob = um → e.backoff = 0 →
      Slot a um w { mag := 0, neg := true, backoff := 0, xr := true, rest := 0 }
  | real (e : Entry) : a.gram [w] = some e → ¬ (w = 0 ∧ a.unkHallucinated = true) → e.prob ≤ 0 →
      Slot a um w
        { mag := e.prob.abs, neg := true, backoff := e.backoff, xr := decide (e.backoff ≠ 0),
          rest := if w < (a.entries.filter fun p => p.1.length == 1).length - (if a.unkHallucinated then 1 else 0)
                  then -e.prob.abs else 0 }

theorem initUni_slot {a : Arpa} {nWords : Nat} {um : Rat} (ok : ArpaOK' a nWords um) (w : Word) :
    Slot a um w ((initUni a nWords).getD w default) := by
  cases hg : a.gram [w] with
  | none => rw [initUni_getD_ge a nWords w fun h => (ok.vocab w).mp h hg]; exact .oov hg
  | some e =>
    rw [initUni_getD_lt a nWords w ((ok.vocab w).mpr (by rw [hg]; simp)) e hg]
    by_cases hu0 : w = 0 ∧ a.unkHallucinated = true
    · obtain ⟨e', he', hp, hb⟩ := ok.unk hu0.2
      rw [if_pos (by simp [hu0.1, hu0.2])]
      rw [hu0.1, he'] at hg
      cases hg
      exact .unk e hu0.1 hu0.2 he' hp hb
    · rw [if_neg (by simpa using hu0)]
      exact .real e hg hu0 (ok.nonpos _ e hg)

theorem fixUnk_mid (a : Arpa) (um : Rat) (s : St) : (fixUnk a um s).mid = s.mid := by
  unfold fixUnk; split <;> rfl

theorem fixUnk_longest (a : Arpa) (um : Rat) (s : St) : (fixUnk a um s).longest = s.longest := by
  unfold fixUnk; split <;> rfl

theorem initUni_ok (a : Arpa) (nWords : Nat) : UniOK (initUni a nWords) := by
  intro w hb
  by_cases h : w < nWords
  · unfold initUni at hb ⊢
    rw [List.getD_eq_getElem?_getD, List.getElem?_map, List.getElem?_range h] at hb ⊢
    simp only [Option.map_some, Option.getD_some] at hb ⊢
    cases hg : a.gram [w] with
    | none => simp [hg] at hb
    | some e =>
      simp only [hg] at hb ⊢
      by_cases hc : (w == 0 && a.unkHallucinated) = true
      · simp [hc] at hb
      · simp only [hc, Bool.false_eq_true, if_false] at hb ⊢
        simpa using hb
  · rw [initUni_getD_ge a nWords w h] at hb
    exact absurd rfl hb

end KV.ProbingBuild
