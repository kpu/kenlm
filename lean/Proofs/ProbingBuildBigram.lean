import Proofs.ProbingBuildPhases
/-! The probing builder on bigram models (order 2: no middle tables, no blanks): the fold over the file's lines
keeps `Inv2`, which says what the longest table and the marks in the unigram array hold (`inv2_fold`). -/
namespace KV.ProbingBuild
open KV.Arpa KV.Table KV.Score KV.ProbingLM

theorem addLine_bigram (combine : Nat → Word → Nat) (s : St) (x y : Word) (e : Entry) :
    addLine combine false 2 s [x, y] e =
      (s.longest.insert (hashOf combine [x, y]) (lineW e)).map
        (fun o => (({ s with longest := o } : St).modify (.uni x) clr).modify (.uni y) setExtension) := by
  unfold addLine
  cases h : s.longest.insert (hashOf combine [x, y]) (lineW e) with
  | error err => simp [h, bind, Except.bind, Except.map]
  | ok o =>
    simp [h, bind, Except.bind, Except.map, findLower, adjustLower, markExtends, activate]
    rfl

def uniAfter (u0 : List W) (proc : List (List Word × Entry)) (w : Word) : W :=
  let u := u0.getD w default
  { u with neg := u.neg && !(proc.any fun p => p.1.headD 0 == w),
           xr := u.xr || (proc.any fun p => p.1.getD 1 0 == w) }

/-- after the bigram lines `proc`: the one table (bucket count `N`) holds exactly their keys, in order, with the magnitudes of
their probabilities (the clauses of `OrdP`, Proofs/ProbingBuildView.lean, the one about the payloads weakened to `mag`), the unigram
array the marks -/
structure Inv2 (combine : Nat → Word → Nat) (u0 : List W) (N : Nat) (proc : List (List Word × Entry)) (s : St) : Prop where
  mid : s.mid = []
  ulen : s.uni.length = u0.length
  uni : ∀ w, s.uni.getD w default = uniAfter u0 proc w
  tab : ∃ M, OrdInv s.longest M ∧ s.longest.t.entries = proc.length ∧ s.longest.t.N = N ∧
    s.longest.pay.length = proc.length ∧
    (∀ j (hj : j < proc.length), M (hashOf combine proc[j].1) = some j) ∧
    (∀ j (hj : j < proc.length), (s.longest.pay.getD j default).mag = proc[j].2.prob.abs) ∧
    (∀ k i, M k = some i → ∃ (hj : i < proc.length), k = hashOf combine proc[i].1)

theorem inv2_step (combine : Nat → Word → Nat) (u0 : List W) (hu : UniOK u0) (N : Nat) (proc : List Line) (s : St)
    (inv : Inv2 combine u0 N proc s) (x y : Word) (e : Entry) (hx : x < u0.length) (hy : y < u0.length)
    (hfresh : ∀ p ∈ proc, hashOf combine p.1 ≠ hashOf combine [x, y]) (hcap : proc.length + 1 < N) :
    ∃ s', addLine combine false 2 s [x, y] e = .ok s' ∧ Inv2 combine u0 N (proc ++ [([x, y], e)]) s' := by
  obtain ⟨M, oi, hent, hN, hpl, hM, hmag, honly⟩ := inv.tab
  obtain ⟨o', hins, oi', hpay', hN', hent'⟩ := ord_insert oi (hashOf combine [x, y]) (lineW e)
    (none_of_fresh proc ([x, y], e) (fun q => hashOf combine q.1) honly hfresh) (by rw [hent, hN]; exact hcap)
  rw [addLine_bigram, hins]
  refine ⟨_, rfl, ?_⟩
  have hxl : x < s.uni.length := by rw [inv.ulen]; exact hx
  have hyl : y < s.uni.length := by rw [inv.ulen]; exact hy
  refine ⟨by simp [St.modify, inv.mid], by simp [St.modify, inv.ulen], ?_, ?_⟩
  · intro w
    have key : ((s.uni.set x (clr (s.uni.getD x default))).set y
          (setExtension ((s.uni.set x (clr (s.uni.getD x default))).getD y default))).getD w default =
        if w = y then setExtension (if w = x then clr (s.uni.getD w default) else s.uni.getD w default)
        else if w = x then clr (s.uni.getD w default) else s.uni.getD w default := by
      simp only [getD_set, List.length_set, hxl, hyl, and_true]
      by_cases hwy : w = y <;> by_cases hwx : w = x
      · subst hwy; subst hwx; simp only [if_true]
      · subst hwy; simp only [if_true, hwx, if_false]
      · subst hwx; simp only [if_true, hwy, if_false]
      · simp only [hwy, hwx, if_false]
    refine key.trans ?_
    rw [inv.uni w, mark_ite _ _ _ fun _ hb => by simp only [uniAfter, hu w hb, Bool.true_or]]
    have hb : ∀ a b : Nat, (a == b) = decide (b = a) := fun a b => by
      by_cases h : b = a
      · subst h; simp
      · simp [h, show ¬ a = b from fun e => h e.symm]
    simp only [markW, uniAfter, List.any_append, List.any_cons, List.any_nil, Bool.or_false, List.headD_cons, List.getD_cons_succ,
      List.getD_cons_zero, hb x w, hb y w, Bool.not_or, Bool.and_assoc, Bool.or_assoc]
  · refine ⟨KV.Probing.upd M (hashOf combine [x, y]) s.longest.pay.length, ?_, ?_, ?_, ?_, ?_, ?_, ?_⟩
    · simpa [St.modify] using oi'
    · simp [St.modify, hent', hent]
    · simp [St.modify, hN', hN]
    · simp [St.modify, hpay', hpl]
    · exact upd_key_append proc ([x, y], e) (fun q => hashOf combine q.1) hpl hM hfresh
    · simp only [St.modify, hpay']
      exact pay_append proc ([x, y], e) _ hpl (lineW e) (fun q v => v.mag = q.2.prob.abs) hmag (by simp [lineW])
    · exact upd_only_append proc ([x, y], e) (fun q => hashOf combine q.1) hpl honly

theorem inv2_fold (combine : Nat → Word → Nat) (u0 : List W) (hu : UniOK u0) (N : Nat) :
    ∀ (todo proc : List Line) (s : St), Inv2 combine u0 N proc s →
      (∀ p ∈ todo, ∃ x y, p.1 = [x, y] ∧ x < u0.length ∧ y < u0.length) →
      ((proc ++ todo).map (fun p => hashOf combine p.1)).Nodup → (proc ++ todo).length < N →
      ∃ s', todo.foldlM (fun s p => addLine combine false 2 s p.1 p.2) s = .ok s' ∧ Inv2 combine u0 N (proc ++ todo) s' := by
  intro todo
  induction todo with
  | nil => intro proc s inv _ _ _; exact ⟨s, rfl, by simpa using inv⟩
  | cons p todo ih =>
    intro proc s inv hw hnd hcap
    obtain ⟨x, y, hp, hx, hy⟩ := hw p List.mem_cons_self
    have hfresh : ∀ q ∈ proc, hashOf combine q.1 ≠ hashOf combine [x, y] := by
      intro q hq heq
      rw [List.map_append, List.nodup_append] at hnd
      have := hnd.2.2 _ (List.mem_map_of_mem hq) _ (List.mem_map_of_mem (List.mem_cons_self (a := p) (l := todo)))
      rw [hp] at this
      exact this heq
    obtain ⟨s1, h1, inv1⟩ := inv2_step combine u0 hu N proc s inv x y p.2 hx hy hfresh
      (by simp at hcap; omega)
    have hpe : (p.1, p.2) = p := rfl
    rw [← hp, hpe] at inv1
    obtain ⟨s', h2, inv'⟩ := ih (proc ++ [p]) s1 inv1 (fun q hq => hw q (List.mem_cons_of_mem _ hq))
      (by simpa using hnd) (by simpa using hcap)
    refine ⟨s', ?_, by simpa using inv'⟩
    rw [List.foldlM_cons, hp, h1]
    exact h2

/-- **capacity ⇒ ProbingSizeException** at the line that fills the table: if the invariant holds after `proc` lines and
the table is at capacity, the next bigram line raises `probingSize`. -/
theorem bigram_line_full (combine : Nat → Word → Nat) (u0 : List W) (N : Nat) (proc : List Line) (s : St)
    (inv : Inv2 combine u0 N proc s) (x y : Word) (e : Entry) (hcap : proc.length + 1 ≥ N) :
    addLine combine false 2 s [x, y] e = .error .probingSize := by
  obtain ⟨M, oi, hent, hN, _⟩ := inv.tab
  rw [addLine_bigram, ord_insert_full oi _ _ (by rw [hent, hN]; exact hcap)]
  rfl

end KV.ProbingBuild
