import Proofs.TrieShapeG
/-! The plain `TrieModel` layout (`DontQuantize`, `DontBhiksha`) is the layout `ofTableG … none false`: the regions `ofTable`
writes are those of `ofTableG`, so the memories are equal, and `ShapeOK` / `ofTable_represents` are read off `ShapeG` /
`ofTableG_represents`.  22 is `plainCfg.bhikshaBits` (`Model/TrieLM.lean`): `cfgG none 22` is `plainCfg` by definition. -/
namespace KV.TrieLM
open KV.Bits KV.Binary

/-- the layout facts of the plain `TrieModel` shape used by `ofTable` (bit widths from `RequiredBits`, the regions in file
order); they follow from the C04 layout model (`Binary.trieSetup`) for counts below 2^57 (`shapeOK_of_small`) -/
structure ShapeOK (bt : BT) (bound order start : Nat) : Prop where
  nmid : (ofLayout 0 false false plainCfg (countsOf bt bound order) start).middles.length = order - 2
  mid : ∀ om2, om2 + 2 < order → ∃ base,
    (ofLayout 0 false false plainCfg (countsOf bt bound order) start).middles.getD om2 default =
      { base := base, wordBits := requiredBits bound,
        totalBits := requiredBits bound + 63 + requiredBits (level bt bound (om2 + 3)).length,
        quantBits := 63, maxVocab := bound, bhik := .dont (requiredBits (level bt bound (om2 + 3)).length) }
  long : ∃ base, (ofLayout 0 false false plainCfg (countsOf bt bound order) start).longest =
      { base := base, wordBits := requiredBits bound, totalBits := requiredBits bound + 31, maxVocab := bound }
  ord : (regionsOf bt bound order (ofLayout 0 false false plainCfg (countsOf bt bound order) start)).Pairwise RegionSpec.Before
  wbits : requiredBits bound ≤ 57 ∧ ∀ k, k ≤ order → requiredBits (level bt bound k).length ≤ 57
  small : bound < 2^64 ∧ ∀ k, k ≤ order → (level bt bound k).length < 2^64

theorem ofTable_bound (bt : BT) (bound order start : Nat) (ho : 1 ≤ order) : (ofTable bt bound order start).bound = bound :=
  countsOf_cnt_zero bt bound order ho

/-- `BitPackedMiddle` records with `DontQuantize`, `DontBhiksha`: the general region writes every field reduced to its width,
the plain one writes word, back-off and pointer as they are -/
theorem midRegionG_plain (bt : BT) (hv : ValsOK bt) (bound k : Nat) (m : MiddleRegion) (maxVocab : Nat)
    (hword : ∀ i, i < (level bt bound k).length → ((level bt bound k).getD i []).getLast?.getD 0 < 2^m.wordBits)
    (hnext : ∀ i, (childStarts bt (level bt bound k)).getD i 0 < 2^m.inline) :
    midRegionG bt bound k m none = midRegion bt bound k
      { base := m.packed, wordBits := m.wordBits, totalBits := m.totalBits, quantBits := m.quantBits, maxVocab := maxVocab,
        bhik := .dont m.inline } m.inline := by
  unfold midRegionG midRegion
  simp only [RegionSpec.mk.injEq, true_and]
  funext i s
  by_cases h3 : s = 3
  · rw [if_pos h3, if_pos h3, Nat.mod_eq_of_lt (hnext i)]
  · rw [if_neg h3, if_neg h3]
    by_cases hi : i < (level bt bound k).length
    · rw [if_pos hi, if_pos hi]
      by_cases h0 : s = 0
      · rw [if_pos h0, if_pos h0, Nat.mod_eq_of_lt (hword i hi)]
      · rw [if_neg h0, if_neg h0]
        by_cases h1 : s = 1
        · rw [if_pos h1, if_pos h1, Nat.mod_mod_of_dvd _ (by decide : 2^31 ∣ 2^32)]
        · rw [if_neg h1, if_neg h1, Nat.mod_eq_of_lt (valuesOf_lt bt hv _).2]
    · rw [if_neg hi, if_neg hi]

theorem longRegionG_plain (bt : BT) (bound order : Nat) (l : Longest)
    (hword : ∀ i, ((level bt bound order).getD i []).getLast?.getD 0 < 2^l.wordBits) :
    longRegionG bt bound order l.base l.wordBits l.totalBits none = longRegion bt bound order l := by
  unfold longRegionG longRegion
  simp only [RegionSpec.mk.injEq, true_and]
  funext i s
  by_cases h0 : s = 0
  · rw [if_pos h0, if_pos h0, Nat.mod_eq_of_lt (hword i)]
  · rw [if_neg h0, if_neg h0, Nat.mod_mod_of_dvd _ (by decide : 2^31 ∣ 2^32)]

/-- the region lists of the two formulations correspond one to one: whatever `f` does not distinguish on corresponding
regions, it does not distinguish on the lists -/
theorem regionsG_map_plain {α} (f : RegionSpec → α) (bt : BT) (bound order start bh : Nat)
    (hmid : ∀ j, j < (setupG bt bound order start none false bh).middles.length →
      f (midRegionG bt bound (j + 2) (midG bt bound order start none false bh j) none)
        = f (midRegion bt bound (j + 2) ((ofTableG bt bound order start none false bh).middle j)
            (bhikBits ((ofTableG bt bound order start none false bh).middle j).bhik)))
    (hlong : f (longRegionG bt bound order (setupG bt bound order start none false bh).longest.1
        (setupG bt bound order start none false bh).longest.2.1 (setupG bt bound order start none false bh).longest.2.2 none)
      = f (longRegion bt bound order (ofTableG bt bound order start none false bh).longest)) :
    (regionsG bt bound order start none false bh).map f
      = (regionsOf bt bound order (ofLayout 0 false false (cfgG none bh) (countsOf bt bound order) start)).map f := by
  have hn : (ofLayout 0 false false (cfgG none bh) (countsOf bt bound order) start).middles.length
      = (setupG bt bound order start none false bh).middles.length := List.length_map _
  show (([] ++ [uniRegion bt bound _]
      ++ ((setupG bt bound order start none false bh).middles.zip
            (List.range (setupG bt bound order start none false bh).middles.length)).flatMap
          (fun mi : MiddleRegion × Nat => [] ++ [midRegionG bt bound (mi.2 + 2) mi.1 none])
      ++ [longRegionG bt bound order _ _ _ none]).map f)
    = ([uniRegion bt bound _]
      ++ ((ofLayout 0 false false (cfgG none bh) (countsOf bt bound order) start).middles.zip
            (List.range (ofLayout 0 false false (cfgG none bh) (countsOf bt bound order) start).middles.length)).map
          (fun mi : Middle × Nat => midRegion bt bound (mi.2 + 2) mi.1 (bhikBits mi.1.bhik))
      ++ [longRegion bt bound order _]).map f
  rw [zip_range_flatMap, zip_range_map _ default, hn]
  simp only [List.nil_append, List.map_append, List.map_cons, List.map_nil, List.map_map, ← List.map_eq_flatMap]
  exact append_congr₃ (List.map_congr_left fun j hj => hmid j (List.mem_range.mp hj)) (congrArg (fun x => [x]) hlong)

/-- file order speaks of the extents of the regions only, and those are the same -/
theorem regions_before_iff (bt : BT) (bound order start bh : Nat) :
    (regionsG bt bound order start none false bh).Pairwise RegionSpec.Before ↔
    (regionsOf bt bound order (ofLayout 0 false false (cfgG none bh) (countsOf bt bound order) start)).Pairwise RegionSpec.Before := by
  have h := regionsG_map_plain (fun R => (R.base + R.nrec * R.stride, R.base)) bt bound order start bh
    (fun j hj => by rw [ofTableG_middle_eq j hj rfl]; rfl) rfl
  have key : ∀ L : List RegionSpec, L.Pairwise RegionSpec.Before ↔
      (L.map fun R => (R.base + R.nrec * R.stride, R.base)).Pairwise (fun a b : Nat × Nat => a.1 ≤ b.2) :=
    fun L => (List.pairwise_map (f := fun R : RegionSpec => (R.base + R.nrec * R.stride, R.base))
      (R := fun a b : Nat × Nat => a.1 ≤ b.2)).symm
  rw [key, key, h]

variable {bt : BT} {bound order start : Nat}

theorem ofTable_eq_ofTableG (ok : BTOK bt bound order) (hv : ValsOK bt) (sh : ShapeG bt bound order start none false 22) :
    ofTable bt bound order start = ofTableG bt bound order start none false 22 := by
  have ho := ok.order2
  have hword : ∀ k i, 1 ≤ k → i < (level bt bound k).length →
      ((level bt bound k).getD i []).getLast?.getD 0 < 2^(requiredBits bound) := fun k i hk hi =>
    requiredBits_fits bound _ sh.small.1 (Nat.le_of_lt (level_word_lt bt bound order ok k i hk hi))
  have h := regionsG_map_plain id bt bound order start 22 (fun j hj => ?_) ?_
  · rw [List.map_id, List.map_id] at h
    unfold ofTableG
    rw [h]; rfl
  · have hom : j + 2 < order := by rw [sh.nmid] at hj; omega
    rw [ofTableG_middle_eq j hj rfl]
    exact midRegionG_plain bt hv bound (j + 2) _ _ (fun i hi => sh.wordBits hom rfl ▸ hword (j + 2) i (Nat.le_add_left 1 (j + 1)) hi)
      (fun i => Nat.lt_of_le_of_lt (childStarts_le bt bound (j + 1) i) (sh.inline_fits hom rfl rfl))
  · refine longRegionG_plain bt bound order (ofTableG bt bound order start none false 22).longest (fun i => ?_)
    show _ < 2^(setupG bt bound order start none false 22).longest.2.1
    rw [sh.long.1]
    by_cases hi : i < (level bt bound order).length
    · exact hword order i (Nat.le_of_succ_le ho) hi
    · rw [List.getD_eq_getElem?_getD, List.getElem?_eq_none (Nat.le_of_not_lt hi)]; exact Nat.two_pow_pos _

theorem shapeG_of_shapeOK (sh : ShapeOK bt bound order start) : ShapeG bt bound order start none false 22 := by
  have hn : (setupG bt bound order start none false 22).middles.length = order - 2 := (List.length_map _).symm.trans sh.nmid
  refine ⟨hn, fun om2 hom => ?_, ?_, (regions_before_iff bt bound order start 22).mpr sh.ord, sh.wbits.1, sh.small⟩
  · obtain ⟨base, hm⟩ := sh.mid om2 hom
    have hR := sh.wbits.2 (om2 + 3) hom
    have e := (ofTableG_middle_eq (q := none) (array := false) (bh := 22) om2 (hn ▸ Nat.lt_sub_of_add_lt hom) rfl).symm.trans hm
    have hi : (midG bt bound order start none false 22 om2).inline = requiredBits (level bt bound (om2 + 3)).length :=
      Bhik.dont.inj (congrArg Middle.bhik e)
    rw [hi]
    exact ⟨congrArg Middle.wordBits e, congrArg Middle.quantBits e, congrArg Middle.totalBits e, hR,
      fun _ => requiredBits_fits _ _ (sh.small.2 (om2 + 3) hom) (Nat.le_refl _), fun h => nomatch h⟩
  · obtain ⟨base, hl⟩ := sh.long
    exact ⟨congrArg Longest.wordBits hl, congrArg Longest.totalBits hl⟩

theorem shapeOK_of_small (bt : BT) (bound order start : Nat) (sm : SmallOK bt bound order) : ShapeOK bt bound order start := by
  have sh := shapeG_of_small bt bound order start none false 22 sm .none
  have c0 := countsOf_cnt_zero bt bound order (Nat.le_of_succ_le sm.order2)
  refine ⟨(List.length_map _).trans sh.nmid, fun om2 hom => ⟨(midG bt bound order start none false 22 om2).packed, ?_⟩,
    ⟨(setupG bt bound order start none false 22).longest.1, ?_⟩, (regions_before_iff bt bound order start 22).mp sh.ord,
    ⟨sh.wbits, fun k hk => requiredBits_le_of_lt _ 57 (by decide) (sm.levels k hk)⟩, sh.small⟩
  · refine (ofTableG_middle_eq (q := none) (array := false) (bh := 22) om2 (sh.mid_lt hom) rfl).trans ?_
    rw [sh.wordBits hom rfl, sh.quantBits hom rfl, sh.totalBits hom rfl, midG_inline_plain om2 hom, c0]; rfl
  · show Longest.mk _ (setupG bt bound order start none false 22).longest.2.1
      (setupG bt bound order start none false 22).longest.2.2 (cnt (countsOf bt bound order) 0) = _
    rw [sh.long.1, sh.long.2, c0]; rfl

theorem tableOf_ftOf (fval : Nat → Rat) (bt : BT) (order : Nat) :
    tableOf (ftOf fval bt order) order = tableV fval bt order (pvG bt none) (bvG bt none) := by
  -- `Eq.refl order`, not `rfl`: comparing the two tables themselves sends the kernel into `_ + 2^31` in unary
  refine table_ext _ _ (Eq.refl order) (fun g => ?_)
  rw [lookup_ftOf, lookup_tableV]
  cases h : bt.lookup g with
  | none => simp only [Option.map_none]
  | some v => rw [Option.map_some, Option.map_some, ← valuesOf_of_lookup h, entryOf_eq_entryV]

theorem ofTable_represents (fval : Nat → Rat) (bt : BT) (bound order start : Nat) (ok : BTOK bt bound order) (hv : ValsOK bt)
    (sh : ShapeOK bt bound order start) :
    Represents fval (ofTable bt bound order start) (tableOf (ftOf fval bt order) order) (rngOf bt bound) := by
  have shG := shapeG_of_shapeOK sh
  rw [tableOf_ftOf, ofTable_eq_ofTableG ok hv shG]
  exact ofTableG_represents fval bt bound order start none false 22 ok hv shG .none

end KV.TrieLM
