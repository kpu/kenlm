import Model.Arpa
import Proofs.Basics
/-! The two hypotheses on a parsed model, as propositions about `Arpa.gram`, each with its Boolean check over `Arpa.entries`:
`WellFormed` (assumed by every theorem of the query layer) with `wfB`, and `SuffixClosed` (assumed by the structural theorems:
matched length, left-independence, canonical state) with the model's `Arpa.suffixClosed`.  The checks serve the non-vacuity
examples; the driver reports the same flags for every generated model. -/
namespace KV.Score
open KV.Arpa

structure WellFormed (a : Arpa) : Prop where
  order_ge : 2 ≤ a.order
  len_pos : ∀ g, a.gram g ≠ none → g ≠ []
  len_le : ∀ g, a.gram g ≠ none → g.length ≤ a.order
  ctx_present : ∀ x g, g ≠ [] → a.gram (x :: g) ≠ none → a.gram g ≠ none
  top_bo : ∀ g e, a.gram g = some e → g.length = a.order → e.backoff = 0

/-- `order_ge` first; `len_pos`, `len_le` and `top_bo` entry by entry; `ctx_present` is the model's `contextsPresent` -/
def wfB (a : Arpa) : Bool :=
  decide (2 ≤ a.order) &&
  a.entries.all (fun p => !p.1.isEmpty && decide (p.1.length ≤ a.order) &&
                          (decide (p.1.length ≠ a.order) || p.2.backoff == 0)) &&
  a.contextsPresent

theorem wfB_sound (a : Arpa) (h : wfB a = true) : WellFormed a := by
  unfold wfB at h
  simp only [Bool.and_eq_true, decide_eq_true_eq, List.all_eq_true, Bool.or_eq_true, Bool.not_eq_true',
    beq_iff_eq] at h
  obtain ⟨⟨h1, h2⟩, h3⟩ := h
  have mem : ∀ g e, a.gram g = some e → (g, e) ∈ a.entries := fun g e hg => lookup_some_mem _ _ _ hg
  refine ⟨h1, ?_, ?_, ?_, ?_⟩
  · intro g hg hnil
    obtain ⟨e, he⟩ := Option.ne_none_iff_exists'.mp hg
    have := (h2 _ (mem g e he)).1.1
    subst hnil; simp at this
  · intro g hg
    obtain ⟨e, he⟩ := Option.ne_none_iff_exists'.mp hg
    exact (h2 _ (mem g e he)).1.2
  · intro x g hne hg
    obtain ⟨e, he⟩ := Option.ne_none_iff_exists'.mp hg
    unfold Arpa.contextsPresent at h3
    simp only [List.all_eq_true, Bool.or_eq_true, decide_eq_true_eq] at h3
    rcases h3 _ (mem _ e he) with hl | hr
    · have hl' : g.length + 1 ≤ 1 := by simpa using hl
      exact absurd (List.eq_nil_of_length_eq_zero (by omega)) hne
    · simpa [Arpa.isReal, Option.isSome_iff_ne_none] using hr
  · intro g e hg hlen
    rcases (h2 _ (mem g e hg)).2 with hl | hr
    · exact absurd hlen hl
    · exact hr

/-- the model contains the suffix (drop the oldest word = last of the reversed list) of each of its n-grams -/
def SuffixClosed (a : Arpa) : Prop := ∀ g, a.gram g ≠ none → 2 ≤ g.length → a.gram g.dropLast ≠ none

theorem suffixClosed_sound (a : Arpa) (h : a.suffixClosed = true) : SuffixClosed a := by
  intro g hg hl
  obtain ⟨e, he⟩ := Option.ne_none_iff_exists'.mp hg
  have := List.all_eq_true.mp h _ (lookup_some_mem _ _ _ he)
  simp only [Bool.or_eq_true, decide_eq_true_eq] at this
  rcases this with h1 | h2
  · exact absurd hl (Nat.not_le.mpr (Nat.lt_succ_of_le h1))
  · simpa [Arpa.isReal, Option.isSome_iff_ne_none] using h2

theorem closed_prefix_real {a : Arpa} (sc : SuffixClosed a) :
    ∀ (ys g : List Word), g ≠ [] → a.gram (g ++ ys) ≠ none → a.gram g ≠ none :=
  prefix_of_snoc (P := fun g => a.gram g ≠ none) fun g x hg h => by
    have := sc (g ++ [x]) h (by rw [List.length_append]; exact Nat.succ_le_succ (List.length_pos_iff.mpr hg))
    rwa [List.dropLast_concat] at this

end KV.Score
