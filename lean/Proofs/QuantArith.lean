/-! Equal-population bins (`MakeBins` of lm/quantize.cc): bin `i` of `bins` over `n` sorted values is the index range
`[n * i / bins, n * (i + 1) / bins)`.  With `n ≤ bins` the running end index grows by at most one per bin and reaches every
value up to `n`; both quantiser models (`Model/Quant.lean`, `Model/QuantBins.lean`) rest on these three facts. -/
namespace KV.Quant

theorem binEnd_step (n bins i : Nat) (hb : 0 < bins) (hn : n ≤ bins) :
    n * i / bins ≤ n * (i + 1) / bins ∧ n * (i + 1) / bins ≤ n * i / bins + 1 := by
  constructor
  · exact Nat.div_le_div_right (Nat.mul_le_mul_left n (Nat.le_succ i))
  · have h1 : n * (i + 1) ≤ n * i + bins := by rw [Nat.mul_succ]; omega
    calc n * (i + 1) / bins ≤ (n * i + bins) / bins := Nat.div_le_div_right h1
      _ = n * i / bins + 1 := Nat.add_div_right _ hb

theorem binEnd_le (n bins i : Nat) (hb : 0 < bins) (hi : i ≤ bins) : n * i / bins ≤ n := by
  have : n * i ≤ n * bins := Nat.mul_le_mul_left n hi
  calc n * i / bins ≤ n * bins / bins := Nat.div_le_div_right this
    _ = n := Nat.mul_div_cancel n hb

/-- every value `k = 1..n` of the running end index is reached by some bin, and by a first one: the index starts at 0, ends at
`n`, never decreases and grows by at most one per bin.  Proofs/QuantBins.lean needs the first bin (the first centre equal to the value),
Proofs/QuantOps.lean only some bin. -/
theorem finish_hits (n bins k : Nat) (hn : n ≤ bins) (hk1 : 1 ≤ k) (hkn : k ≤ n) :
    ∃ t, t < bins ∧ n * (t + 1) / bins = k ∧ ∀ t', t' < t → n * (t' + 1) / bins < k := by
  have hb : 0 < bins := Nat.lt_of_lt_of_le (Nat.lt_of_lt_of_le hk1 hkn) hn
  have upTo : ∀ m, m ≤ bins → k ≤ n * m / bins →
      ∃ t, t < m ∧ n * (t + 1) / bins = k ∧ ∀ t', t' < t → n * (t' + 1) / bins < k := by
    intro m
    induction m with
    | zero => intro _ h; rw [Nat.mul_zero, Nat.zero_div] at h; exact absurd (Nat.le_trans hk1 h) (Nat.not_succ_le_zero 0)
    | succ m ih =>
      intro hm h
      by_cases hk : k ≤ n * m / bins
      · obtain ⟨t, ht, e⟩ := ih (Nat.le_of_succ_le hm) hk
        exact ⟨t, Nat.lt_succ_of_lt ht, e⟩
      · exact ⟨m, Nat.lt_succ_self m, Nat.le_antisymm (Nat.le_trans (binEnd_step n bins m hb hn).2 (Nat.lt_of_not_le hk)) h,
          fun t' ht' => Nat.lt_of_le_of_lt (Nat.div_le_div_right (Nat.mul_le_mul_left n ht')) (Nat.lt_of_not_le hk)⟩
  obtain ⟨t, ht, e⟩ := upTo bins (Nat.le_refl _) (by rw [Nat.mul_div_cancel _ hb]; exact hkn)
  exact ⟨t, ht, e⟩

end KV.Quant
