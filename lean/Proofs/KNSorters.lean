import Model.KNSorters
import Proofs.KNPipeline
/-!
Any correct sorts inside the pipeline give `estimateFrom` (`estimateFromWith_eq`), for the
table of every corpus (`estimateFromWith_eq_corpus`).

`SortsOK` asks of each sort exactly "the output is a permutation of the input and is sorted":
what C16 proves for the external sort without combiner, for every block structure, merge plan
and tie-break policy (`KV.C16.extSort_sorted` + `KV.C16.extSort_perm`, and for the plan the code
computes `KV.C16.codeSort_sorted_perm`).  Stability is not needed: the records of one order have
pairwise distinct n-grams, on which `ContextOrder` and `SuffixOrder` are antisymmetric, so the
sorted permutation is unique.
-/
namespace KV.KN.Interp

open KV.KN KV.KN.Norm KV.KN.Spec KV.KN.Adjust

/-- each of the two sorts returns a sorted permutation of its input; stability is not asked -/
def SortsOK (S : Sorters) : Prop :=
  (∀ l, (S.ctx l).Perm l ∧ (S.ctx l).Pairwise (fun a b => ctxLe a b = true)) ∧
  (∀ l, (S.suf l).Perm l ∧ (S.suf l).Pairwise (fun a b => uninterpLe a b = true))

theorem stdSorters_ok : SortsOK stdSorters :=
  ⟨fun l => ⟨List.mergeSort_perm l _, List.pairwise_mergeSort ctxLe_trans ctxLe_total l⟩,
   fun l => ⟨List.mergeSort_perm l _, List.pairwise_mergeSort uninterpLe_trans uninterpLe_total l⟩⟩

theorem ctxLe_antisymm {a b : Emit} (ha : a.gram ≠ []) (hb : b.gram ≠ [])
    (h1 : ctxLe a b = true) (h2 : ctxLe b a = true) : a.gram = b.gram := by
  unfold ctxLe at h1 h2
  simp only [Bool.or_eq_true, decide_eq_true_eq, Bool.and_eq_true, beq_iff_eq] at h1 h2
  have ht : a.gram.tail = b.gram.tail ∧ a.gram.headD 0 = b.gram.headD 0 := by
    rcases h1 with h1 | h1 <;> rcases h2 with h2 | h2
    · exact absurd (List.lt_trans h1 h2) (List.lt_irrefl _)
    · exact absurd (h2.1 ▸ h1) (List.lt_irrefl _)
    · exact absurd (h1.1 ▸ h2) (List.lt_irrefl _)
    · exact ⟨h1.1, Nat.le_antisymm h1.2 h2.2⟩
  cases hga : a.gram with
  | nil => exact absurd hga ha
  | cons x s =>
    cases hgb : b.gram with
    | nil => exact absurd hgb hb
    | cons y t =>
      rw [hga, hgb] at ht
      simp only [List.tail_cons, List.headD_cons] at ht
      rw [ht.1, ht.2]

theorem uninterpLe_antisymm {a b : Uninterp} (h1 : uninterpLe a b = true) (h2 : uninterpLe b a = true) :
    a.gram = b.gram :=
  List.le_antisymm (of_decide_eq_true h1) (of_decide_eq_true h2)

theorem ctx_sort_perm_eq {S : Sorters} (hS : SortsOK S) {es es' : List Emit} (hperm : es'.Perm es)
    (hnd : (es.map (·.gram)).Nodup) (hne : ∀ e ∈ es, e.gram ≠ []) :
    S.ctx es' = es.mergeSort ctxLe :=
  sorted_perm_ext (·.gram)
    (fun a ha b hb => ctxLe_antisymm (hne a ha) (hne b hb)) hnd
    ((hS.1 es').1.trans hperm) (List.mergeSort_perm es _) (hS.1 es').2
    (List.pairwise_mergeSort ctxLe_trans ctxLe_total es)

theorem suf_sort_eq {S : Sorters} (hS : SortsOK S) {us : List Uninterp}
    (hnd : (us.map (·.gram)).Nodup) : S.suf us = us.mergeSort uninterpLe :=
  sorted_perm_ext (·.gram)
    (fun _ _ _ _ => uninterpLe_antisymm) hnd
    (hS.2 us).1 (List.mergeSort_perm us _) (hS.2 us).2
    (List.pairwise_mergeSort uninterpLe_trans uninterpLe_total us)

theorem mergeRight_grams (d : Disc) (run : List Emit) :
    (mergeRight d run).map (·.gram) = run.map (·.gram) := by
  unfold mergeRight; rw [List.map_map]; rfl

theorem mergeRightUnigram_grams (iu : Bool) (d : Disc) (run : List Emit) :
    (mergeRightUnigram iu d run).map (·.gram) = run.map (·.gram) := by
  unfold mergeRightUnigram
  rw [List.map_map]
  refine List.map_congr_left fun e _ => ?_
  dsimp only [Function.comp]
  split
  · rfl
  · split <;> rfl

theorem flatMap_grams {F : List Emit → List Uninterp}
    (hF : ∀ r, (F r).map (·.gram) = r.map (·.gram)) (rs : List (List Emit)) :
    (rs.flatMap F).map (·.gram) = rs.flatten.map (·.gram) := by
  induction rs with
  | nil => rfl
  | cons a t ih => rw [List.flatMap_cons, List.flatten_cons, List.map_append, List.map_append, hF, ih]

theorem initialOrderWith_eq {S : Sorters} (hS : SortsOK S) (interpUni : Bool) (n : Nat) (d : Disc)
    {es : List Emit} (hnd : (es.map (·.gram)).Nodup) (hne : ∀ e ∈ es, e.gram ≠ []) :
    initialOrderWith S interpUni n d es = initialOrder interpUni n d es := by
  unfold initialOrderWith initialOrder
  rw [ctx_sort_perm_eq hS (.refl _) hnd hne]
  simp only
  congr 1
  apply suf_sort_eq hS
  have hsorted : ((es.mergeSort ctxLe).map (·.gram)).Nodup :=
    ((List.mergeSort_perm es ctxLe).map _).nodup_iff.mpr hnd
  have hus : ((if (n == 1) = true then
        (ctxRuns (es.mergeSort ctxLe)).flatMap (mergeRightUnigram interpUni d)
      else (ctxRuns (es.mergeSort ctxLe)).flatMap (mergeRight d)).map (·.gram))
      = (es.mergeSort ctxLe).map (·.gram) := by
    split
    · rw [flatMap_grams (mergeRightUnigram_grams interpUni d), ctxRuns_flatten]
    · rw [flatMap_grams (mergeRight_grams d), ctxRuns_flatten]
  exact ((List.filter_sublist.map _).nodup (hus ▸ hsorted))

def StreamsOK (streams : List (List Emit)) : Prop :=
  ∀ es ∈ streams, (es.map (·.gram)).Nodup ∧ ∀ e ∈ es, e.gram ≠ []

theorem stage3With_eq {S : Nat → Sorters} (hS : ∀ n, SortsOK (S n)) (interpUni : Bool)
    {streams : List (List Emit)} (hst : StreamsOK streams) (discs : List (Disc × Bool)) :
    stage3With S interpUni streams discs = stage3With (fun _ => stdSorters) interpUni streams discs := by
  unfold stage3With
  apply List.map_congr_left
  rintro ⟨⟨es, d⟩, i⟩ hx
  have h1 : (es, d) ∈ streams.zip discs := by
    have := List.mem_map_of_mem (f := Prod.fst) hx
    rwa [List.zipIdx_map_fst] at this
  obtain ⟨hnd, hne⟩ := hst es (List.of_mem_zip h1).1
  simp only
  rw [initialOrderWith_eq (hS (i + 1)) interpUni (i + 1) d.1 hnd hne, initialOrderWith_std]

theorem estimateFromWith_eq (S : Nat → Sorters) (hS : ∀ n, SortsOK (S n)) (cfg : Cfg) (pv : Bool)
    (fallback : Option Disc) (full : List (Gram × Nat)) (hst : StreamsOK (adjust cfg full).streams) :
    estimateFromWith S cfg pv fallback full = estimateFrom cfg pv fallback full := by
  rw [← estimateFromWith_std]
  unfold estimateFromWith
  simp only [stage3With_eq hS cfg.interpUni hst]

theorem ksOf_ne_nil {cfg : Cfg} {full : Table} (h2 : 2 ≤ cfg.order) (hF : FullWF cfg.order full)
    (n : Nat) (hn : 1 ≤ n) : ∀ k ∈ ksOf cfg full n, k ≠ [] := by
  have hne : ∀ e ∈ full, e.1 ≠ [] := fun e he h0 => by
    have := hF.len e he
    rw [h0] at this
    exact absurd this.symm (Nat.ne_of_gt (Nat.lt_of_lt_of_le Nat.zero_lt_two h2))
  have hrow : ∀ e ∈ full, ∀ m, 1 ≤ m → e.1.take m ≠ [] := fun e he m hm h0 =>
    (List.take_eq_nil_iff.1 h0).elim (fun h => absurd (h ▸ hm) (by decide)) (hne e he)
  intro k hk
  unfold ksOf at hk
  split at hk
  · rcases List.mem_cons.1 hk with rfl | hk
    · exact List.cons_ne_nil _ _
    · rcases List.mem_cons.1 hk with rfl | hk
      · exact List.cons_ne_nil _ _
      · obtain ⟨e, he, _, rfl⟩ := Norm.mem_keys.mp hk
        exact hrow e he 1 (Nat.le_refl 1)
  · split at hk
    · obtain ⟨e, he, rfl⟩ := List.mem_map.mp (List.mem_filter.mp hk).1
      exact hne e he
    · obtain ⟨e, he, _, rfl⟩ := Norm.mem_keys.mp hk
      exact hrow e he n hn

theorem streamsOK_full (cfg : Cfg) (full : Table) (h2 : 2 ≤ cfg.order) (hF : FullWF cfg.order full)
    (hk : cfg.keepSpecials = true) : StreamsOK (adjust cfg full).streams := by
  rw [adjust_streams cfg full h2 hF hk]
  unfold specRecords
  rw [if_neg (Nat.not_le.2 h2)]
  intro es hes
  obtain ⟨i, _, rfl⟩ := List.mem_map.mp hes
  refine ⟨by rw [ents_grams]; exact ksOf_nodup_of hF.headOK (fullWF_nodup hF) _, ?_⟩
  intro e he
  have : e.gram ∈ ksOf cfg full (i + 1) := by
    rw [← ents_grams]; exact List.mem_map.mpr ⟨e, he, rfl⟩
  exact ksOf_ne_nil h2 hF (i + 1) (Nat.le_add_left 1 i) _ this

/-- the unigram stream of a corpus.  `3 ≤ w` (no special id in the text, `</s>` included) is what `rowOK_countFull` and
`fullWF_countFull` ask; the `Writer` facts of `Proofs/KNCount.lean` ask only `2 ≤ w`; both follow from `isSpecial w = false`
(`three_le_of_not_special`, `two_le_of_not_special`). -/
theorem streamsOK_corpus1 (cfg : Cfg) (corpus : List (List Word)) (h1 : cfg.order = 1)
    (hw : ∀ s ∈ corpus, ∀ w ∈ s, 3 ≤ w) : StreamsOK (adjust cfg (countFull1 corpus)).streams := by
  unfold adjust
  rw [if_pos (Nat.le_of_eq h1)]
  intro es hes
  simp only [List.mem_singleton] at hes
  subst hes
  have hg : (adjustUnigramOnly cfg (countFull1 corpus)).map (·.gram) = (countFull1 corpus).map (·.1) := by
    unfold adjustUnigramOnly; rw [List.map_map]; rfl
  have hrow : ∀ e ∈ countFull 1 corpus, e.1.length = 1 ∧ e.1.head? ≠ some bos ∧ e.1.head? ≠ some unk :=
    fun e he => ⟨(rowOK_countFull (Nat.le_refl 1) hw he).len, (rowOK_countFull (Nat.le_refl 1) hw he).head⟩
  constructor
  · rw [hg]
    unfold countFull1
    rw [List.map_cons, List.map_cons, List.nodup_cons, List.nodup_cons]
    refine ⟨?_, ?_, countFull_nodup 1 corpus⟩
    · intro hmem
      rcases List.mem_cons.mp hmem with h | h
      · exact absurd h (by decide)
      · obtain ⟨e, he, heq⟩ := List.mem_map.mp h
        exact (hrow e he).2.2 (by rw [heq]; rfl)
    · intro h
      obtain ⟨e, he, heq⟩ := List.mem_map.mp h
      exact (hrow e he).2.1 (by rw [heq]; rfl)
  · intro e he
    have : e.gram ∈ (countFull1 corpus).map (·.1) := hg ▸ List.mem_map_of_mem (f := (·.gram)) he
    rcases List.mem_cons.1 this with h | this
    · exact h ▸ List.cons_ne_nil _ _
    · rcases List.mem_cons.1 this with h | this
      · exact h ▸ List.cons_ne_nil _ _
      · obtain ⟨r, hr, heq⟩ := List.mem_map.mp this
        intro h0
        have := (hrow r hr).1
        rw [heq, h0] at this
        cases this

theorem estimateFromWith_eq_corpus (S : Nat → Sorters) (hS : ∀ n, SortsOK (S n)) (cfg : Cfg)
    (pv : Bool) (fallback : Option Disc) (corpus : List (List Word)) (hN : 1 ≤ cfg.order)
    (hw : ∀ s ∈ corpus, ∀ w ∈ s, 3 ≤ w) (hk : cfg.keepSpecials = true) :
    estimateFromWith S cfg pv fallback (if cfg.order ≤ 1 then countFull1 corpus else countFull cfg.order corpus)
      = estimate cfg pv fallback corpus := by
  refine estimateFromWith_eq S hS cfg pv fallback _ ?_
  split
  · next h => exact streamsOK_corpus1 cfg corpus (Nat.le_antisymm h hN) hw
  · next h =>
    have h2 : 2 ≤ cfg.order := Nat.lt_of_not_le h
    exact streamsOK_full cfg _ h2 (fullWF_countFull cfg.order corpus h2 hw) hk

end KV.KN.Interp
