import Model.FilterPhraseSearch
import Proofs.FilterInter
/-!
Specification of the lazy phrase search and basic lemmas: `PAcc` (a sentence is accepted at a
vertex: some path of arcs, all containing it, ends there), `Good` (no arc has dropped a valid
sentence at or above the low-water mark), list bookkeeping, `topArc`.
-/
namespace KV.Filter

/-- sentence `s` is accepted at vertex `v`: an arc into `v` contains it and so does (recursively)
its source vertex, or the arc starts before the n-gram -/
inductive PAcc (arcs : List PArc) : Nat → Nat → Prop where
  | start {v s : Nat} (a : PArc) (ha : a ∈ arcs) (hto : a.to = v) (hs : s ∈ a.sents) (hf : a.from_ = none) : PAcc arcs v s
  | step {v s : Nat} (a : PArc) (ha : a ∈ arcs) (hto : a.to = v) (hs : s ∈ a.sents) (u : Nat)
      (hf : a.from_ = some u) (hu : PAcc arcs u s) : PAcc arcs v s

/-- `s` counts for arc `a`: it is one of its sentences, and the vertex the arc starts from accepts it or the arc starts before the n-gram -/
def Valid (arcs : List PArc) (a : PArc) (s : Nat) : Prop :=
  s ∈ a.sents ∧ (a.from_ = none ∨ ∃ u, a.from_ = some u ∧ PAcc arcs u s)

theorem acc_iff_valid {arcs : List PArc} {v s : Nat} :
    PAcc arcs v s ↔ ∃ a ∈ arcs, a.to = v ∧ Valid arcs a s := by
  constructor
  · intro h
    cases h with
    | start a ha hto hs hf => exact ⟨a, ha, hto, hs, Or.inl hf⟩
    | step a ha hto hs u hf hu => exact ⟨a, ha, hto, hs, Or.inr ⟨u, hf, hu⟩⟩
  · rintro ⟨a, ha, hto, hs, hf | ⟨u, hf, hu⟩⟩
    · exact PAcc.start a ha hto hs hf
    · exact PAcc.step a ha hto hs u hf hu

/-- Well-formed graph.  `dag` — arcs lead from lower to higher vertices — is what lets `vertexLB` recurse with a depth
bounded by the vertex number. -/
structure WFG (arcs : List PArc) : Prop where
  inc : ∀ a ∈ arcs, Inc a.sents
  dag : ∀ a ∈ arcs, ∀ u, a.from_ = some u → u < a.to

/-- Every arc's remaining range is a suffix of its `Sentences` and still contains every valid sentence `≥ L`.  The
low-water mark `L` is needed because arcs are advanced lazily and only past sentences below the last `to` asked for:
what lies below may be gone from some arcs and not from others. -/
structure Good (arcs : List PArc) (σ : PState) (L : Nat) : Prop where
  len : σ.length = arcs.length
  suf : ∀ i a, arcs[i]? = some a → restOf σ i <:+ a.sents
  keep : ∀ i a, arcs[i]? = some a → ∀ s, Valid arcs a s → L ≤ s → s ∈ restOf σ i

variable {arcs : List PArc} {σ : PState} {a : PArc} {i j v s L : Nat}

theorem Good.mono {L' : Nat} (h : Good arcs σ L) (hl : L ≤ L') : Good arcs σ L' :=
  ⟨h.len, h.suf, fun i a ha s hv hs => h.keep i a ha s hv (Nat.le_trans hl hs)⟩

theorem restOf_set_ne (σ : PState) {i j : Nat} (r : List Nat) (h : j ≠ i) : restOf (σ.set i r) j = restOf σ j := by
  rw [restOf, restOf, List.getD_eq_getElem?_getD, List.getD_eq_getElem?_getD, List.getElem?_set_ne (Ne.symm h)]

theorem restOf_set_eq (σ : PState) {i : Nat} (r : List Nat) (h : i < σ.length) : restOf (σ.set i r) i = r := by
  rw [restOf, List.getD_eq_getElem?_getD, List.getElem?_set_self h]; rfl

theorem good_init : Good arcs (initState arcs) 0 := by
  have hrest : ∀ i a, arcs[i]? = some a → restOf (initState arcs) i = a.sents := fun i a ha => by
    rw [restOf, initState, List.getD_eq_getElem?_getD, List.getElem?_map, ha]; rfl
  exact ⟨List.length_map _, fun i a ha => hrest i a ha ▸ List.suffix_refl _, fun i a ha s hv _ => hrest i a ha ▸ hv.1⟩

theorem Good.inc (h : Good arcs σ L) (hw : WFG arcs)
    (ha : arcs[i]? = some a) : Inc (restOf σ i) :=
  (hw.inc a (List.mem_of_getElem? ha)).suffix (h.suf i a ha)

/-- what arc `j` offers to the queue of vertex `v`: the front of its range, if it leads into `v` -/
def key (arcs : List PArc) (σ : PState) (v j : Nat) : Option Nat :=
  match arcs[j]? with
  | some a => if a.to = v then (restOf σ j).head? else none
  | none => none

theorem key_of_arc (ha : arcs[j]? = some a) :
    key arcs σ v j = if a.to = v then (restOf σ j).head? else none := by
  rw [key, ha]

theorem key_eq_some {h : Nat} (hk : key arcs σ v j = some h) :
    ∃ a t, arcs[j]? = some a ∧ a.to = v ∧ restOf σ j = h :: t := by
  unfold key at hk
  split at hk
  · rename_i a ha
    split at hk
    · rename_i hv
      cases hr : restOf σ j with
      | nil => rw [hr] at hk; cases hk
      | cons x t => rw [hr] at hk; injection hk with hk; exact ⟨a, t, ha, hv, by rw [hk]⟩
    · cases hk
  · cases hk

/-- the invariant of the scan `topArcFrom`: `best` is an arc below `lim` into `v` whose key is least among those -/
def BestOf (arcs : List PArc) (σ : PState) (v : Nat) (lim : Nat) (best : Option (Nat × Nat)) : Prop :=
  (∀ i h, best = some (i, h) → key arcs σ v i = some h) ∧
  ∀ j h', j < lim → key arcs σ v j = some h' → ∃ i h, best = some (i, h) ∧ h ≤ h'

theorem BestOf.skip {best : Option (Nat × Nat)} (hb : BestOf arcs σ v i best)
    (hk : key arcs σ v i = none) : BestOf arcs σ v (i+1) best := by
  refine ⟨hb.1, fun j h' hj hkj => hb.2 j h' ?_ hkj⟩
  rcases Nat.lt_succ_iff_lt_or_eq.mp hj with hlt | rfl
  · exact hlt
  · rw [hk] at hkj; cases hkj

def better (best : Option (Nat × Nat)) (i h : Nat) : Option (Nat × Nat) :=
  match best with
  | none => some (i, h)
  | some (j, hj) => if h < hj then some (i, h) else some (j, hj)

theorem BestOf.take {h : Nat} {best : Option (Nat × Nat)} (hb : BestOf arcs σ v i best)
    (hk : key arcs σ v i = some h) : BestOf arcs σ v (i+1) (better best i h) := by
  suffices hs : ∃ i1 h1, better best i h = some (i1, h1) ∧ key arcs σ v i1 = some h1 ∧ h1 ≤ h ∧
      ∀ i0 h0, best = some (i0, h0) → h1 ≤ h0 by
    obtain ⟨i1, h1, e, hk1, hle, hold⟩ := hs
    rw [e]
    refine ⟨fun i2 h2 e2 => by injection e2 with e2; injection e2 with e3 e4; subst e3 e4; exact hk1, fun j h' hj hkj => ?_⟩
    rcases Nat.lt_succ_iff_lt_or_eq.mp hj with hlt | rfl
    · obtain ⟨i0, h0, e0, hle0⟩ := hb.2 j h' hlt hkj
      exact ⟨i1, h1, rfl, Nat.le_trans (hold i0 h0 e0) hle0⟩
    · rw [hk] at hkj; injection hkj with hkj
      exact ⟨i1, h1, rfl, hkj ▸ hle⟩
  cases best with
  | none => exact ⟨i, h, rfl, hk, Nat.le_refl _, nofun⟩
  | some p =>
    obtain ⟨j, hj⟩ := p
    have hold : ∀ {x : Nat}, x ≤ hj → ∀ i0 h0, some (j, hj) = some (i0, h0) → x ≤ h0 := fun hx i0 h0 e => by
      injection e with e; injection e with _ e; exact e ▸ hx
    by_cases hlt : h < hj
    · exact ⟨i, h, if_pos hlt, hk, Nat.le_refl _, hold (Nat.le_of_lt hlt)⟩
    · exact ⟨j, hj, if_neg hlt, hb.1 j hj rfl, Nat.not_lt.mp hlt, hold (Nat.le_refl _)⟩

theorem topArcFrom_spec (arcs : List PArc) (σ : PState) (v : Nat) :
    ∀ (rest : List PArc) (i : Nat) (best : Option (Nat × Nat)), arcs.drop i = rest → BestOf arcs σ v i best →
      BestOf arcs σ v arcs.length (topArcFrom arcs σ v i rest best)
  | [], i, best, hd, hb => by
    have hi : arcs.length ≤ i := List.drop_eq_nil_iff.mp hd
    refine ⟨hb.1, fun j h' hj hkj => hb.2 j h' (Nat.lt_of_lt_of_le hj hi) hkj⟩
  | a :: rest, i, best, hd, hb => by
    have hia : arcs[i]? = some a := by
      have : (arcs.drop i)[0]? = some a := by rw [hd]; rfl
      simpa using this
    have hd' : arcs.drop (i+1) = rest := by
      rw [← List.drop_drop, hd]; rfl
    have hk := key_of_arc (σ := σ) (v := v) hia
    simp only [topArcFrom]
    apply topArcFrom_spec arcs σ v rest (i+1) _ hd'
    by_cases hv : a.to = v
    · rw [if_pos hv] at hk ⊢
      cases hr : restOf σ i with
      | nil => rw [hr] at hk; exact hb.skip hk
      | cons h t =>
        rw [hr] at hk
        cases best with
        | none => exact hb.take hk
        | some p => exact hb.take hk
    · rw [if_neg hv] at hk ⊢
      exact hb.skip hk

theorem topArc_spec (arcs : List PArc) (σ : PState) (v : Nat) :
    match topArc arcs σ v with
    | none => ∀ j, key arcs σ v j = none
    | some (i, h) => key arcs σ v i = some h ∧ ∀ j h', key arcs σ v j = some h' → h ≤ h' := by
  have hb : BestOf arcs σ v arcs.length (topArc arcs σ v) :=
    topArcFrom_spec arcs σ v arcs 0 none rfl ⟨nofun, fun j h' hj => absurd hj (Nat.not_lt_zero j)⟩
  have hlim : ∀ j h', key arcs σ v j = some h' → j < arcs.length := fun j h' hk => by
    obtain ⟨a, _, ha, _⟩ := key_eq_some hk
    exact (List.getElem?_eq_some_iff.mp ha).1
  cases ht : topArc arcs σ v with
  | none =>
    rw [ht] at hb
    intro j
    cases hk : key arcs σ v j with
    | none => rfl
    | some h' => obtain ⟨_, _, e, _⟩ := hb.2 j h' (hlim j h' hk) hk; cases e
  | some p =>
    obtain ⟨i, h⟩ := p
    rw [ht] at hb
    refine ⟨hb.1 i h rfl, fun j h' hk => ?_⟩
    obtain ⟨i0, h0, e, hle⟩ := hb.2 j h' (hlim j h' hk) hk
    injection e with e; injection e with _ e
    exact e ▸ hle

theorem key_le_of_mem {b : PArc} (hj : arcs[j]? = some b) (hb : b.to = v)
    (hinc : Inc (restOf σ j)) (hs : s ∈ restOf σ j) : ∃ h', key arcs σ v j = some h' ∧ h' ≤ s := by
  rw [key_of_arc hj, if_pos hb]
  cases hr : restOf σ j with
  | nil => rw [hr] at hs; cases hs
  | cons h' t => rw [hr] at hinc hs; exact ⟨h', rfl, hinc.head_le hs⟩

end KV.Filter
