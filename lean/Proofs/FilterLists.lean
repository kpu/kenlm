import Model.FilterCtl
/-! List bookkeeping for the invariant of `KV.FilterCtl`: where the batches are.  Nothing in the development uses `cntL` and its
equations, `somes_length_le`, `held_nil_of_all_exited`, `getLast?_set_last`. -/
namespace KV.FilterCtl
variable {α : Type}
variable {β : Type}

def somes {β : Type} (l : List (Option β)) : List β := l.filterMap id

@[simp] theorem somes_nil {β : Type} : somes ([] : List (Option β)) = [] := rfl
@[simp] theorem somes_cons_some (b : β) (l : List (Option β)) : somes (some b :: l) = b :: somes l := by
  simp [somes]
@[simp] theorem somes_cons_none (l : List (Option β)) : somes (none :: l) = somes l := by
  simp [somes]
@[simp] theorem somes_append (l m : List (Option β)) : somes (l ++ m) = somes l ++ somes m := by
  simp [somes]
@[simp] theorem somes_replicate_none (n : Nat) : somes (List.replicate n (none : Option β)) = [] := by
  induction n with
  | zero => rfl
  | succ n ih => simp [List.replicate_succ, ih]

theorem somes_length_le {β : Type} (l : List (Option β)) : (somes l).length ≤ l.length := by
  induction l with
  | nil => exact Nat.le_refl 0
  | cons x l ih =>
    cases x with
    | none => rw [somes_cons_none]; exact Nat.le_succ_of_le ih
    | some b => rw [somes_cons_some]; exact Nat.succ_le_succ ih

def nones {β : Type} (l : List (Option β)) : Nat := l.countP Option.isNone

@[simp] theorem nones_nil {β : Type} : nones ([] : List (Option β)) = 0 := rfl
@[simp] theorem nones_cons_some (b : β) (l : List (Option β)) : nones (some b :: l) = nones l := by
  simp [nones]
@[simp] theorem nones_cons_none (l : List (Option β)) : nones (none :: l) = nones l + 1 := by
  simp [nones]
@[simp] theorem nones_append (l m : List (Option β)) : nones (l ++ m) = nones l + nones m := by
  simp [nones]

theorem length_eq_somes_add_nones (l : List (Option β)) : l.length = (somes l).length + nones l := by
  induction l with
  | nil => rfl
  | cons x l ih =>
    cases x with
    | none => rw [somes_cons_none, nones_cons_none, List.length_cons, ih]; rfl
    | some b => rw [somes_cons_some, nones_cons_some, List.length_cons, List.length_cons, ih, Nat.add_right_comm]

def held : List (WSt α) → List (Batch α)
  | [] => []
  | .holding b :: r => b :: held r
  | .idle :: r => held r
  | .exited :: r => held r

def exitedCount : List (WSt α) → Nat
  | [] => 0
  | .exited :: r => exitedCount r + 1
  | .holding _ :: r => exitedCount r
  | .idle :: r => exitedCount r

def cntL (k : Nat) (l : List (Batch α)) : Nat := l.countP fun b => b.seq == k

@[simp] theorem cntL_nil (k : Nat) : cntL k ([] : List (Batch α)) = 0 := rfl
@[simp] theorem cntL_cons (k : Nat) (b : Batch α) (l : List (Batch α)) :
    cntL k (b :: l) = cntL k l + (if b.seq = k then 1 else 0) := by
  simp [cntL, List.countP_cons]
@[simp] theorem cntL_append (k : Nat) (l m : List (Batch α)) : cntL k (l ++ m) = cntL k l + cntL k m := by
  simp [cntL]

theorem split_at : ∀ {l : List β} {i : Nat} {x : β}, l[i]? = some x →
    ∃ l1 l2, l = l1 ++ x :: l2 ∧ ∀ y, l.set i y = l1 ++ y :: l2
  | [], _, _, h => nomatch h
  | x :: l, 0, _, h => by injection h with h; exact ⟨[], l, by rw [h]; rfl, fun _ => rfl⟩
  | z :: l, i+1, x, h => by
    obtain ⟨l1, l2, e, hs⟩ := split_at (l := l) (i := i) h
    exact ⟨z :: l1, l2, by rw [e]; rfl, fun y => by rw [List.set_cons_succ, hs y]; rfl⟩

theorem held_append (l m : List (WSt α)) : held (l ++ m) = held l ++ held m := by
  induction l with
  | nil => rfl
  | cons w l ih => cases w <;> simp [held, ih]

theorem exitedCount_append (l m : List (WSt α)) : exitedCount (l ++ m) = exitedCount l + exitedCount m := by
  induction l with
  | nil => simp [exitedCount]
  | cons w l ih => cases w <;> simp [exitedCount, ih] <;> omega

theorem held_set_take {ws : List (WSt α)} {i : Nat} (b : Batch α) (h : ws[i]? = some .idle) :
    (held (ws.set i (.holding b))).Perm (b :: held ws) ∧
    exitedCount (ws.set i (.holding b)) = exitedCount ws := by
  obtain ⟨l1, l2, rfl, hs⟩ := split_at h
  rw [hs]
  simp only [held_append, held, exitedCount_append, exitedCount]
  exact ⟨List.perm_middle, trivial⟩

theorem held_set_put {ws : List (WSt α)} {i : Nat} {b : Batch α} (h : ws[i]? = some (.holding b)) :
    (held ws).Perm (b :: held (ws.set i .idle)) ∧ exitedCount (ws.set i .idle) = exitedCount ws := by
  obtain ⟨l1, l2, rfl, hs⟩ := split_at h
  rw [hs]
  simp only [held_append, held, exitedCount_append, exitedCount]
  exact ⟨List.perm_middle, trivial⟩

theorem held_set_exit {ws : List (WSt α)} {i : Nat} (h : ws[i]? = some .idle) :
    held (ws.set i .exited) = held ws ∧ exitedCount (ws.set i .exited) = exitedCount ws + 1 := by
  obtain ⟨l1, l2, rfl, hs⟩ := split_at h
  rw [hs]
  simp only [held_append, held, exitedCount_append, exitedCount]
  exact ⟨trivial, rfl⟩

theorem exitedCount_le_length : ∀ ws : List (WSt α), exitedCount ws ≤ ws.length
  | [] => Nat.le_refl 0
  | w :: ws => by
    have := exitedCount_le_length ws
    cases w
    · exact Nat.le_succ_of_le this
    · exact Nat.le_succ_of_le this
    · exact Nat.succ_le_succ this

theorem all_exited_iff (ws : List (WSt α)) : ws.all WSt.isExited = true ↔ exitedCount ws = ws.length := by
  induction ws with
  | nil => exact ⟨fun _ => rfl, fun _ => rfl⟩
  | cons w ws ih =>
    have := exitedCount_le_length ws
    cases w <;> simp [exitedCount, WSt.isExited, ih] <;> omega

theorem held_nil_of_all_exited {ws : List (WSt α)} (h : exitedCount ws = ws.length) : held ws = [] := by
  induction ws with
  | nil => rfl
  | cons w ws ih =>
    have := exitedCount_le_length ws
    cases w <;> simp only [exitedCount, List.length_cons] at h
    · exact absurd (h ▸ this) (Nat.not_succ_le_self _)
    · exact absurd (h ▸ this) (Nat.not_succ_le_self _)
    · exact ih (Nat.succ.inj h)

theorem exists_idle {ws : List (WSt α)} (hh : held ws = []) (he : exitedCount ws < ws.length) :
    ∃ i : Nat, ws[i]? = some (WSt.idle : WSt α) := by
  induction ws with
  | nil => cases he
  | cons w ws ih =>
    cases w with
    | idle => exact ⟨0, rfl⟩
    | holding b => cases hh
    | exited =>
      obtain ⟨i, hi⟩ := ih hh (Nat.lt_of_succ_lt_succ he)
      exact ⟨i+1, hi⟩

theorem mem_held {ws : List (WSt α)} {b : Batch α} : b ∈ held ws ↔ WSt.holding b ∈ ws := by
  induction ws with
  | nil => exact ⟨nofun, nofun⟩
  | cons w ws ih => cases w <;> simp [held, ih]

@[simp] theorem held_replicate_idle (n : Nat) : held (List.replicate n (WSt.idle : WSt α)) = [] := by
  induction n with
  | zero => rfl
  | succ n ih => simp [List.replicate_succ, held, ih]

@[simp] theorem exitedCount_replicate_idle (n : Nat) : exitedCount (List.replicate n (WSt.idle : WSt α)) = 0 := by
  induction n with
  | zero => rfl
  | succ n ih => simp [List.replicate_succ, exitedCount, ih]

theorem somes_set_none {L : List (Option β)} {pos : Nat} (b : β) (h : L[pos]? = some none) :
    (somes (L.set pos (some b))).Perm (b :: somes L) := by
  obtain ⟨l1, l2, rfl, hs⟩ := split_at h
  rw [hs, somes_append, somes_append, somes_cons_some, somes_cons_none]
  exact List.perm_middle

theorem somes_set_length_le (L : List (Option β)) (pos : Nat) (b : β) :
    (somes (L.set pos (some b))).length ≤ (somes L).length + 1 := by
  induction L generalizing pos with
  | nil => simp
  | cons x L ih =>
    cases pos with
    | zero => cases x <;> simp
    | succ p =>
      have := ih p
      cases x <;> simp <;> omega

theorem mem_somes_idx {l : List (Option β)} {b : β} (h : b ∈ somes l) : ∃ i : Nat, l[i]? = some (some b) := by
  obtain ⟨x, hx, rfl⟩ := List.mem_filterMap.mp h
  exact List.getElem?_of_mem hx

theorem getLast?_set_last {β : Type} (L : List β) (v : β) (h : L.length ≠ 0) :
    (L.set (L.length - 1) v).getLast? = some v := by
  induction L with
  | nil => simp at h
  | cons x L ih =>
    cases L with
    | nil => simp
    | cons y L =>
      have := ih (by simp)
      simp only [List.length_cons, Nat.add_sub_cancel] at this ⊢
      rw [List.set_cons_succ]
      generalize hM : (y :: L).set L.length v = M at this
      cases M with
      | nil => simp at this
      | cons m M => simpa [List.getLast?_cons_cons] using this

theorem fileLog_append {α : Type} (k : Nat) (a b : List (OutEv α)) : fileLog k (a ++ b) = fileLog k a ++ fileLog k b := by
  induction a with
  | nil => rfl
  | cons e a ih =>
    rcases e with ⟨_ | j, x⟩ | m
    · simp [fileLog, ih]
    · simp only [List.cons_append, fileLog]
      split <;> simp [ih]
    · simp [fileLog, ih]

end KV.FilterCtl
