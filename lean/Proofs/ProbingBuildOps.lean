import Model.ProbingBuild
import Proofs.ProbingInv
/-! Table operations of the probing builder lifted from the table theorems (`Proofs/ProbingInv.lean`): an order's table together with its payload
refines a finite map key ↦ payload index; capacity ⇒ `probingSize`, never `diverge`. -/
namespace KV.ProbingBuild
open KV.Arpa KV.Score KV.ProbingLM KV.Probing

/-- the order's table represents the map `M` (key ↦ payload index) -/
structure OrdInv (o : Ord) (M : Nat → Option Nat) : Prop where
  inv : Inv id o.t
  abs : Abs o.t M
  idx : ∀ k i, M k = some i → i < o.pay.length

theorem emptyOrd_inv (N : Nat) (hN : 0 < N) : OrdInv (emptyOrd N) (fun _ => none) :=
  ⟨Inv_empty id N hN, Abs_empty N, fun _ _ h => by cases h⟩

theorem OrdInv.idx_upd {o : Ord} {M : Nat → Option Nat} (h : OrdInv o M) (k : Nat) (w : W) :
    ∀ k' i, upd M k o.pay.length k' = some i → i < (o.pay ++ [w]).length := by
  intro k' i hk
  unfold upd at hk
  simp only [List.length_append, List.length_cons, List.length_nil]
  split at hk
  · cases hk; omega
  · have := h.idx k' i hk; omega

theorem ord_find {o : Ord} {M : Nat → Option Nat} (h : OrdInv o M) (k : Nat) : o.find k = .ok (M k) := by
  unfold Ord.find
  rw [find_correct id o.t M h.inv h.abs k]

theorem ord_insert {o : Ord} {M : Nat → Option Nat} (h : OrdInv o M) (k : Nat) (w : W) (hM : M k = none)
    (hc : o.t.entries + 1 < o.t.N) :
    ∃ o', o.insert k w = .ok o' ∧ OrdInv o' (upd M k o.pay.length) ∧ o'.pay = o.pay ++ [w] ∧
      o'.t.N = o.t.N ∧ o'.t.entries = o.t.entries + 1 := by
  obtain ⟨q, t', hi, inv', abs', hN, he, _, _⟩ := insert_spec id o.t M k o.pay.length h.inv h.abs hM hc
  refine ⟨{ t := t', pay := o.pay ++ [w] }, ?_, ⟨inv', abs', ?_⟩, rfl, hN, he⟩
  · simp [Ord.insert, hi, tableOp, bind, Except.bind]
  · exact h.idx_upd k w

/-- **capacity ⇒ ProbingSizeException** (`++entries_ >= buckets_`), for `Insert`; `ord_findOrInsert_full` for `FindOrInsert` -/
theorem ord_insert_full {o : Ord} {M : Nat → Option Nat} (h : OrdInv o M) (k : Nat) (w : W)
    (hc : o.t.entries + 1 ≥ o.t.N) : o.insert k w = .error .probingSize := by
  have := insert_full id o.t k o.pay.length hc
  simp [Ord.insert, this, tableOp, bind, Except.bind]

theorem ord_findOrInsert_full {o : Ord} {M : Nat → Option Nat} (h : OrdInv o M) (k : Nat) (w : W) (hM : M k = none)
    (hc : o.t.entries + 1 ≥ o.t.N) : o.findOrInsert k w = .error .probingSize := by
  have := findOrInsert_full id o.t M k o.pay.length h.inv h.abs hM hc
  simp [Ord.findOrInsert, this, tableOp, bind, Except.bind]

theorem ord_findOrInsert_found {o : Ord} {M : Nat → Option Nat} (h : OrdInv o M) (k : Nat) (w : W) (i : Nat)
    (hM : M k = some i) : o.findOrInsert k w = .ok (true, i, o) := by
  obtain ⟨p, hf, _, _⟩ := findOrInsert_found id o.t M k o.pay.length i h.inv h.abs hM
  simp [Ord.findOrInsert, hf, tableOp, bind, Except.bind]

theorem ord_findOrInsert_new {o : Ord} {M : Nat → Option Nat} (h : OrdInv o M) (k : Nat) (w : W) (hM : M k = none)
    (hc : o.t.entries + 1 < o.t.N) :
    ∃ o', o.findOrInsert k w = .ok (false, o.pay.length, o') ∧ OrdInv o' (upd M k o.pay.length) ∧
      o'.pay = o.pay ++ [w] ∧ o'.t.N = o.t.N ∧ o'.t.entries = o.t.entries + 1 := by
  obtain ⟨p, t', hf, inv', abs', hN, he, _, _⟩ := findOrInsert_new id o.t M k o.pay.length h.inv h.abs hM hc
  refine ⟨{ t := t', pay := o.pay ++ [w] }, ?_, ⟨inv', abs', ?_⟩, rfl, hN, he⟩
  · simp [Ord.findOrInsert, hf, tableOp, bind, Except.bind]
  · exact h.idx_upd k w

theorem ordInv_setPay {o : Ord} {M : Nat → Option Nat} (h : OrdInv o M) (i : Nat) (w : W) :
    OrdInv { o with pay := o.pay.set i w } M :=
  ⟨h.inv, h.abs, fun k j hk => by simpa using h.idx k j hk⟩

/-- **missing context ⇒ FormatLoadException** in `ActivateLowerMiddle`, and only then -/
theorem activate_format_iff (combine : Nat → Word → Nat) (g : List Word) (n : Nat) (hn : n ≠ 2) (s : St) (M : Nat → Option Nat)
    (h : OrdInv (s.mid.getD (n - 3) default) M) :
    activate combine g n s = .error .format ↔ M (hashOf combine (g.drop 1)) = none := by
  unfold activate
  have hb : (n == 2) = false := by simpa using hn
  simp only [hb, Bool.false_eq_true, if_false]
  rw [ord_find h]
  cases hm : M (hashOf combine (g.drop 1)) with
  | none => simp [bind, Except.bind]
  | some i => simp [bind, Except.bind]

end KV.ProbingBuild
