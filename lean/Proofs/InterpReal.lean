import Proofs.InterpFormula
import Mathlib.Analysis.SpecialFunctions.Pow.Real
import Mathlib.Analysis.SpecialFunctions.Log.Base
/-!
The real-number twin of the linear-domain model (C13): `E q = 10^q` with Mathlib's `Real.rpow`.
Noncomputable; used only in theorems.
-/
namespace KV.Interp

noncomputable def E10 (q : ℚ) : ℝ := (10 : ℝ) ^ (q : ℝ)

theorem isExp_E10 : IsExp E10 where
  add a b := by
    unfold E10
    rw [Rat.cast_add, Real.rpow_add (by norm_num)]
  zero := by simp [E10]

theorem E10_pos (q : ℚ) : 0 < E10 q := Real.rpow_pos_of_pos (by norm_num) _

theorem logb_E10 (q : ℚ) : Real.logb 10 (E10 q) = (q : ℝ) := by
  unfold E10
  rw [Real.logb_rpow (by norm_num) (by norm_num)]

section
variable {W : Type} [DecidableEq W]

theorem Zdirect_pos (cs : Comps W) (V : List W) (bos : W) (c : List W)
    (hne : V.filter (fun w => decide (w ≠ bos)) ≠ []) : 0 < Zdirect E10 cs V bos c := by
  unfold Zdirect
  apply List.sum_pos
  · intro x hx
    rw [List.mem_map] at hx
    obtain ⟨w, _, rfl⟩ := hx
    exact E10_pos _
  · intro h
    exact hne (List.map_eq_nil_iff.1 h)

theorem term_le_Zdirect (cs : Comps W) (V : List W) (bos : W) (c : List W) (w : W)
    (hw : w ∈ V.filter (fun w => decide (w ≠ bos))) :
    E10 (usum cs c w) ≤ Zdirect E10 cs V bos c := by
  unfold Zdirect
  apply List.single_le_sum
  · intro x hx
    rw [List.mem_map] at hx
    obtain ⟨w', _, rfl⟩ := hx
    exact le_of_lt (E10_pos _)
  · exact List.mem_map.2 ⟨w, hw, rfl⟩

end
end KV.Interp
