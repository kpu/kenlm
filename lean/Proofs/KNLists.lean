import Model.KN
import Proofs.Basics
/-!
Facts about lists (`List.eraseDups`, filters by a key without duplicates, sums of `Nat`, lists as
maps from distinct keys, strictly sorted lists, merge sort by an n-gram key) and about the suffix order `<` of
n-grams that the estimation proofs share; the order's own laws are core's (`List.lt_trans`, `Std.lt_trichotomy`, …).  No Mathlib (core Lean and `Proofs.Basics`).
-/
namespace KV.KN.Norm

theorem nodup_dedup {α : Type} [BEq α] [LawfulBEq α] : (l : List α) → l.eraseDups.Nodup
  | [] => by simp
  | a :: as => by
    rw [List.eraseDups_cons, List.nodup_cons]
    refine ⟨?_, nodup_dedup _⟩
    rw [List.mem_eraseDups, List.mem_filter]
    simp
termination_by l => l.length
decreasing_by
  simp only [List.length_cons]
  exact Nat.lt_succ_of_le (List.length_filter_le _ _)

theorem dedup_of_nodup {α : Type} [BEq α] [LawfulBEq α] : ∀ {l : List α}, l.Nodup → l.eraseDups = l
  | [], _ => List.eraseDups_nil
  | a :: t, h => by
    rw [List.nodup_cons] at h
    have : t.filter (fun b => !b == a) = t :=
      List.filter_eq_self.mpr fun b hb => by
        have : b ≠ a := fun e => h.1 (e ▸ hb)
        simpa using this
    rw [List.eraseDups_cons, this, dedup_of_nodup h.2]

theorem dedup_length_pos{α : Type} [BEq α] [LawfulBEq α] {l : List α} (h : l ≠ []) :
    1 ≤ l.eraseDups.length := by
  cases l with
  | nil => contradiction
  | cons a as => rw [List.eraseDups_cons]; simp

theorem dedup_snoc {α : Type} [BEq α] [LawfulBEq α] (l : List α) (a : α) :
    (l ++ [a]).eraseDups = if a ∈ l then l.eraseDups else l.eraseDups ++ [a] := by
  rw [List.eraseDups_append]
  by_cases h : a ∈ l
  · simp [h, List.removeAll]
  · simp [h, List.removeAll, List.eraseDups_cons]

theorem filter_key_nodup {α κ : Type} [BEq κ] [LawfulBEq κ] (f : α → κ) :
    ∀ (l : List α), (l.map f).Nodup → ∀ e ∈ l, l.filter (fun x => f x == f e) = [e]
  | [], _, e, he => by cases he
  | a :: t, hnd, e, he => by
    rw [List.map_cons, List.nodup_cons] at hnd
    rcases List.mem_cons.mp he with rfl | het
    · rw [List.filter_cons_of_pos (by simp)]
      congr 1
      rw [List.filter_eq_nil_iff]
      intro x hx hxe
      exact hnd.1 (by rw [← (beq_iff_eq.mp hxe)]; exact List.mem_map.mpr ⟨x, hx, rfl⟩)
    · have hne : (f a == f e) = false := by
        rw [beq_eq_false_iff_ne]
        intro h; exact hnd.1 (h ▸ List.mem_map.mpr ⟨e, het, rfl⟩)
      rw [List.filter_cons_of_neg (by simp [hne])]
      exact filter_key_nodup f t hnd.2 e het

theorem mem_le_sum {α : Type} (l : List α) (f : α → Nat) (a : α) (h : a ∈ l) :
    f a ≤ (l.map f).sum := by
  induction l with
  | nil => cases h
  | cons b t ih =>
    rw [List.map_cons, List.sum_cons]
    rcases List.mem_cons.mp h with h1 | h1
    · subst h1; omega
    · have := ih h1; omega

theorem sum_filter_le_of_imp {α : Type} (f : α → Nat) (l : List α) (p q : α → Bool)
    (h : ∀ e ∈ l, p e = true → q e = true) :
    ((l.filter p).map f).sum ≤ ((l.filter q).map f).sum := by
  induction l with
  | nil => simp
  | cons a t ih =>
    have ih' := ih (fun e he => h e (List.mem_cons_of_mem _ he))
    have ha := h a (List.mem_cons_self ..)
    by_cases hp : p a = true
    · simp only [List.filter_cons, hp, ha hp, if_true, List.map_cons, List.sum_cons]; omega
    · by_cases hq : q a = true
      · simp only [List.filter_cons, hp, hq, if_true, if_false, List.map_cons, List.sum_cons,
          Bool.false_eq_true]; omega
      · simp only [List.filter_cons, hp, hq, if_false, Bool.false_eq_true]; exact ih'

theorem mem_take_tail {α : Type} {w : α} {l : List α} {m : Nat} (h : w ∈ l.tail.take m) :
    w ∈ l.take (m + 1) := by
  cases l with
  | nil => simp at h
  | cons a t => simp only [List.tail_cons] at h; simp [List.take_succ_cons, h]

theorem sum_map_le_nat {α : Type} (l : List α) (f g : α → Nat) (h : ∀ x ∈ l, f x ≤ g x) :
    (l.map f).sum ≤ (l.map g).sum := by
  induction l with
  | nil => simp
  | cons a t ih =>
    have := h a (List.mem_cons_self ..)
    have := ih (fun x hx => h x (List.mem_cons_of_mem _ hx))
    simp only [List.map_cons, List.sum_cons]; omega

theorem length_eq_of_nodup_mem {α : Type} {l₁ l₂ : List α} (h1 : l₁.Nodup) (h2 : l₂.Nodup)
    (h : ∀ a, a ∈ l₁ ↔ a ∈ l₂) : l₁.length = l₂.length :=
  ((List.perm_ext_iff_of_nodup h1 h2).mpr h).length_eq

theorem dropLast_induction {P : Gram → Prop} (nil : P [])
    (step : ∀ ctx, ctx ≠ [] → P ctx.dropLast → P ctx) : ∀ ctx, P ctx := by
  intro ctx
  induction h : ctx.length generalizing ctx with
  | zero => rw [List.eq_nil_of_length_eq_zero h]; exact nil
  | succ n ih =>
    have hc : ctx ≠ [] := fun h0 => by rw [h0] at h; cases h
    exact step ctx hc (ih _ (by rw [List.length_dropLast, h]; rfl))

theorem bne_singleton (w b : Nat) : ([w] != [b]) = (w != b) := by
  simp only [bne, List.cons_beq_cons]
  have : (([] : List Nat) == []) = true := rfl
  rw [this, Bool.and_true]

/-- looking a key up in a list in which all elements with that key are equal to `v` -/
theorem find?_key_eq {α κ : Type} [BEq κ] [LawfulBEq κ] (key : α → κ) (l : List α) (k : κ) (v : α)
    [Decidable (k ∈ l.map key)]
    (h : ∀ a ∈ l, key a = k → a = v) :
    l.find? (fun a => key a == k) = if k ∈ l.map key then some v else none := by
  split
  · rename_i hm
    obtain ⟨a, ha, hk⟩ := List.mem_map.mp hm
    cases hf : l.find? (fun a => key a == k) with
    | none => exact absurd (beq_iff_eq.mpr hk) (by simpa using List.find?_eq_none.mp hf a ha)
    | some x =>
      rw [h x (List.mem_of_find?_eq_some hf) (beq_iff_eq.mp (List.find?_some (p := fun a => key a == k) hf))]
  · rename_i hm
    rw [List.find?_eq_none]
    intro a ha hk
    exact hm (List.mem_map.mpr ⟨a, ha, beq_iff_eq.mp hk⟩)

end KV.KN.Norm

namespace KV.KN.Adjust

/-- In a list of records `ks.map f` with distinct keys, changing the record function only at the key
of the *last* record changes only that record.  (When a new row shares a suffix with the last row,
the last record written for that order is the one that changes: the shared case of
`Adjust.stream_step_inv`.) -/
theorem map_update_last {κ ε : Type} (gram : ε → κ) (ks : List κ) (f f' : κ → ε)
    (hf : ∀ k, gram (f k) = k) (hnd : ks.Nodup) (E : List ε) (e : ε)
    (h : ks.map f = E ++ [e]) (hf' : ∀ k ∈ ks, k ≠ gram e → f' k = f k) :
    ks.map f' = E ++ [f' (gram e)] := by
  rcases List.eq_nil_or_concat ks with rfl | ⟨ks', kl, rfl⟩
  · simp at h
  · rw [List.concat_eq_append] at *
    rw [List.map_append] at h
    obtain ⟨h1, h2⟩ := List.append_inj' h rfl
    simp only [List.map_cons, List.map_nil, List.cons.injEq, and_true] at h2
    have hk : kl = gram e := by rw [← h2, hf]
    rw [List.nodup_append] at hnd
    have hnot : ∀ k ∈ ks', k ≠ gram e := by
      intro k hk' heq
      exact hnd.2.2 k hk' kl (by simp) (by rw [heq, hk])
    rw [List.map_append, ← h1, ← hk]
    congr 1
    apply List.map_congr_left
    intro k hk'
    exact hf' k (by simp [hk']) (hnot k hk')

theorem reverse_short {α : Type} (L : List α) (h : L.length ≤ 1) : L.reverse = L := by
  match L, h with
  | [], _ => rfl
  | [_], _ => rfl

theorem getLast?_take_row {x : Gram} {n : Nat} (h1 : 1 ≤ n) (hn : n ≤ x.length) :
    (x.take n).getLast? = x[n - 1]? := by
  rw [List.getLast?_eq_getElem?, List.length_take, Nat.min_eq_left hn, List.getElem?_take,
    if_pos (Nat.sub_lt h1 Nat.one_pos)]

end KV.KN.Adjust

namespace KV.KN.Interp

theorem glt_of_le_of_lt {a b c : Gram} (h1 : a ≤ b) (h2 : b < c) : a < c := List.lt_of_le_of_lt h1 h2

theorem dropLast_le_of_lt : ∀ (a b : Gram), a.length = b.length → a < b → a.dropLast ≤ b.dropLast
  | [], _, _, _ => List.nil_le _
  | [_], b, _, _ => List.nil_le _
  | x :: x' :: a, [], hl, _ => nomatch hl
  | x :: x' :: a, [y], hl, _ => nomatch Nat.succ.inj hl
  | x :: x' :: a, y :: y' :: b, hl, h => by
    rw [List.dropLast_cons_cons, List.dropLast_cons_cons, List.cons_le_cons_iff]
    rcases List.cons_lt_cons_iff.mp h with h1 | ⟨h1, h2⟩
    · exact Or.inl h1
    · exact Or.inr ⟨h1, dropLast_le_of_lt (x' :: a) (y' :: b) (Nat.succ.inj hl) h2⟩

theorem filter_flatten_block {α κ : Type} [BEq κ] [LawfulBEq κ] (k : α → κ) (key : List α → κ)
    (rs : List (List α)) (hconst : ∀ r ∈ rs, ∀ x ∈ r, k x = key r)
    (hd : rs.Pairwise fun r s => key r ≠ key s) :
    ∀ r ∈ rs, rs.flatten.filter (fun x => k x == key r) = r := by
  induction rs with
  | nil => intro r hr; cases hr
  | cons a t ih =>
    intro r hr
    rw [List.pairwise_cons] at hd
    rw [List.flatten_cons, List.filter_append]
    have iht := ih (fun r hr => hconst r (List.mem_cons_of_mem _ hr)) hd.2
    have hall : ∀ (s : List α), s ∈ a :: t → key s = key r → s.filter (fun x => k x == key r) = s := by
      intro s hs hk
      apply List.filter_eq_self.mpr
      intro x hx; simp [hconst s hs x hx, hk]
    have hnone : ∀ (s : List α), s ∈ a :: t → key s ≠ key r → s.filter (fun x => k x == key r) = [] := by
      intro s hs hk
      apply List.filter_eq_nil_iff.mpr
      intro x hx; simp [hconst s hs x hx, hk]
    rcases List.mem_cons.mp hr with h | h
    · subst h
      rw [hall r List.mem_cons_self rfl]
      have : t.flatten.filter (fun x => k x == key r) = [] := by
        apply List.filter_eq_nil_iff.mpr
        intro x hx
        rcases List.mem_flatten.mp hx with ⟨s, hs, hxs⟩
        have := hd.1 s hs
        simp [hconst s (List.mem_cons_of_mem _ hs) x hxs, Ne.symm this]
      rw [this, List.append_nil]
    · rw [iht r h, hnone a List.mem_cons_self (hd.1 r h), List.nil_append]

theorem sublist_after {α : Type} {g : α} {F P R : List α} (hP : g ∉ P)
    (h : (g :: F).Sublist (P ++ g :: R)) : F.Sublist R := by
  induction P with
  | nil => exact List.cons_sublist_cons.mp h
  | cons a P ih =>
    have hag : a ≠ g := fun e => hP (e ▸ List.mem_cons_self)
    rw [List.cons_append] at h
    cases h with
    | cons _ h' => exact ih (fun hm => hP (List.mem_cons_of_mem _ hm)) h'
    | cons_cons _ _ => exact absurd rfl hag

theorem nodup_of_sorted_key {α : Type} (key : α → Gram) {l : List α}
    (h : l.Pairwise fun a b => key a < key b) : (l.map key).Nodup :=
  List.pairwise_map.mpr (h.imp Std.ne_of_lt)

theorem pairwise_lt_of_le_nodup {l : List Gram} (h : l.Pairwise (· ≤ ·)) (hn : l.Nodup) :
    l.Pairwise (· < ·) :=
  (h.and hn).imp fun hab => Std.lt_of_le_of_ne hab.1 hab.2

/-- Every comparator of the model that sorts by n-gram is `fun a b => decide (key a ≤ key b)` for a
key: `gramLe` (the rows), `uninterpLe` (stage 3), `specLe` (the specification's entries). -/
theorem keyLe_trans {α : Type} (key : α → Gram) (a b c : α) (h1 : decide (key a ≤ key b) = true)
    (h2 : decide (key b ≤ key c) = true) : decide (key a ≤ key c) = true :=
  decide_eq_true (List.le_trans (of_decide_eq_true h1) (of_decide_eq_true h2))

theorem keyLe_total {α : Type} (key : α → Gram) (a b : α) :
    (decide (key a ≤ key b) || decide (key b ≤ key a)) = true := by
  simp only [Bool.or_eq_true, decide_eq_true_eq]
  exact List.le_total _ _

theorem mergeSort_key_sorted {α : Type} (key : α → Gram) (l : List α) :
    (l.mergeSort fun a b => decide (key a ≤ key b)).Pairwise fun a b => key a ≤ key b :=
  (List.pairwise_mergeSort (keyLe_trans key) (keyLe_total key) l).imp of_decide_eq_true

/-- sorting by a key whose values are distinct gives the keys in strictly increasing order -/
theorem mergeSort_key_grams {α : Type} (key : α → Gram) {l : List α} {ks : List Gram}
    (hp : (l.map key).Perm ks) (hnd : ks.Nodup) :
    ((l.mergeSort fun a b => decide (key a ≤ key b)).map key).Pairwise (· < ·) ∧
      ((l.mergeSort fun a b => decide (key a ≤ key b)).map key).Perm ks :=
  have hperm := ((List.mergeSort_perm l _).map key).trans hp
  ⟨pairwise_lt_of_le_nodup (List.pairwise_map.mpr (mergeSort_key_sorted key l))
    (hperm.nodup_iff.mpr hnd), hperm⟩

theorem sublist_of_subset_sorted (l₂ l₁ : List Gram) (h1 : l₁.Pairwise (· < ·))
    (h2 : l₂.Pairwise (· < ·)) (hs : ∀ x ∈ l₁, x ∈ l₂) : l₁.Sublist l₂ := by
  -- `l₁` is `l₂` without the members that `l₁` lacks
  rw [strict_sorted_ext (fun _ _ => List.lt_asymm) h1 (h2.filter (· ∈ l₁)) fun x => by
    rw [List.mem_filter, decide_eq_true_eq]; exact ⟨fun h => ⟨hs x h, h⟩, And.right⟩]
  exact List.filter_sublist

end KV.KN.Interp
