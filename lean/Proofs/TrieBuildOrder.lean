import Model.TrieBuild
import Proofs.TrieLists
import Proofs.Basics
import Proofs.InsertionSort
/-! The key order of the trie builder (`keyLt`: lexicographic, a prefix before its extensions), the length of the common prefix of
two keys, and the visit order (`visitOrder`: insertion sort by `keyLt`): strictly increasing when no two keys are equal, and keys
that share a prefix are contiguous in it. -/
namespace KV.TrieBuild
open KV.Arpa KV.TrieLM

theorem keyLt_iff_lt : ∀ a b : List Nat, keyLt a b = true ↔ a < b
  | [], [] => by simp [keyLt]
  | [], _ :: _ => by simp [keyLt]
  | _ :: _, [] => by simp [keyLt]
  | x :: xs, y :: ys => by
    rw [keyLt, List.cons_lt_cons_iff, ← keyLt_iff_lt xs ys]
    by_cases h1 : x < y
    · simp [h1]
    · by_cases h2 : y < x
      · simp [h1, h2]; omega
      · have : x = y := by omega
        simp [this]

theorem keyLt_eq_false_iff (a b : List Nat) : keyLt a b = false ↔ b ≤ a := by
  rw [← Bool.not_eq_true, keyLt_iff_lt, List.not_lt]

/-- `commonPrefix` by its lower set, the form in which it meets `List.take` -/
theorem le_commonPrefix : ∀ (g h : List Nat) (n : Nat),
    n ≤ commonPrefix g h ↔ n ≤ g.length ∧ n ≤ h.length ∧ g.take n = h.take n
  | _, _, 0 => by simp
  | [], h, n + 1 => by simp [commonPrefix]
  | a :: as, [], n + 1 => by simp [commonPrefix]
  | a :: as, b :: bs, n + 1 => by
    unfold commonPrefix
    by_cases hab : a = b
    · subst hab
      have := le_commonPrefix as bs n
      simp only [if_true, Nat.add_le_add_iff_right, List.length_cons, List.take_succ_cons,
        List.cons.injEq, true_and]
      exact this
    · simp [hab]

theorem commonPrefix_nil (g : List Nat) : commonPrefix [] g = 0 := by cases g <;> rfl

theorem commonPrefix_take : ∀ (p g : List Nat) (m : Nat), commonPrefix p (g.take m) = min (commonPrefix p g) m
  | [], g, m => by cases g <;> simp [commonPrefix]
  | _ :: _, [], m => by simp [commonPrefix]
  | _ :: _, _ :: _, 0 => by simp [commonPrefix]
  | a :: as, x :: xs, m+1 => by
    simp only [List.take_succ_cons, commonPrefix]
    by_cases h : a = x
    · simp only [h, if_true, commonPrefix_take as xs m]; omega
    · simp [h]

theorem take_eq_of_le_common (p q : List Nat) (n : Nat) (h : n ≤ commonPrefix p q) : p.take n = q.take n :=
  ((le_commonPrefix p q n).mp h).2.2

theorem commonPrefix_le (p g : List Nat) : commonPrefix p g ≤ p.length ∧ commonPrefix p g ≤ g.length :=
  have h := (le_commonPrefix p g _).mp (Nat.le_refl _)
  ⟨h.1, h.2.1⟩

/-- keys with a common prefix are contiguous in the visit order -/
theorem prefix_between (k a x b : List Nat) (ha : k <+: a) (hb : k <+: b) (h1 : a ≤ x) (h2 : x ≤ b) : k <+: x := by
  rw [List.prefix_iff_eq_take] at ha hb ⊢
  rw [take_sandwich k.length a x b (List.not_lt.mpr h1) (List.not_lt.mpr h2) (ha.symm.trans hb)]
  exact ha

theorem commonPrefix_ge_of_prefix (k p g : List Nat) (hp : k <+: p) (hg : k <+: g) : k.length ≤ commonPrefix p g :=
  (le_commonPrefix p g _).mpr ⟨hp.length_le, hg.length_le,
    (List.prefix_iff_eq_take.mp hp).symm.trans (List.prefix_iff_eq_take.mp hg)⟩

/-- strictly increasing keys: the visit order of a duplicate-free input -/
def KeysLt (L : List Gram) : Prop := L.Pairwise (fun a b => keyLt a.key b.key = true)

theorem keysLt_iff (L : List Gram) : KeysLt L ↔ L.Pairwise fun a b => a.key < b.key := by
  simp only [KeysLt, keyLt_iff_lt]

theorem realOf_mem (L : List Gram) (k : List Nat) (r : Gram) (h : realOf L k = some r) : r ∈ L ∧ r.key = k := by
  unfold realOf at h
  exact ⟨List.mem_of_find?_eq_some h, by have := List.find?_some h; simpa using this⟩

theorem realOf_of_mem {L : List Gram} (h : KeysLt L) (r : Gram) (hr : r ∈ L) : realOf L r.key = some r := by
  cases hf : realOf L r.key with
  | none =>
    unfold realOf at hf
    have := List.find?_eq_none.mp hf r hr
    simp at this
  | some r' =>
    obtain ⟨hm, hk⟩ := realOf_mem L _ _ hf
    rcases pairwise_trichotomy ((keysLt_iff L).mp h) r' hm r hr with e | e | e
    · rw [e]
    · exact absurd (hk ▸ e) (List.lt_irrefl _)
    · exact absurd (hk ▸ e) (List.lt_irrefl _)

def LeKey (a b : Gram) : Prop := a.key ≤ b.key

theorem insertGram_eq (g : Gram) : ∀ l : List Gram, insertGram g l = insertBy (fun a b => keyLt a.key b.key) g l
  | [] => rfl
  | h :: t => by rw [insertGram, insertBy, insertGram_eq g t]

theorem visitOrder_eq (gs : List Gram) : visitOrder gs = insertionSort (fun a b => keyLt a.key b.key) gs :=
  foldr_eq_insertionSort insertGram_eq gs

theorem visitOrder_perm (gs : List Gram) : (visitOrder gs).Perm gs := visitOrder_eq gs ▸ insertionSort_perm _ gs

theorem mem_visitOrder (gs : List Gram) (x : Gram) : x ∈ visitOrder gs ↔ x ∈ gs :=
  (visitOrder_perm gs).mem_iff

theorem nodup_visitOrder (gs : List Gram) (h : (gs.map (·.key)).Nodup) : ((visitOrder gs).map (·.key)).Nodup :=
  ((visitOrder_perm gs).map _).nodup_iff.mpr h

theorem visitOrder_sorted (gs : List Gram) : (visitOrder gs).Pairwise LeKey :=
  visitOrder_eq gs ▸ insertionSort_sorted (S := LeKey) (fun _ _ h => List.le_of_lt ((keyLt_iff_lt _ _).mp h))
    (fun _ _ h => (keyLt_eq_false_iff _ _).mp h) (fun _ _ _ h1 h2 => List.le_trans h1 h2) gs

theorem keysLt_of_sorted : ∀ (l : List Gram), l.Pairwise LeKey → hasDuplicate l = false → KeysLt l
  | [], _, _ => List.Pairwise.nil
  | [_], _, _ => by simp [KeysLt]
  | a :: b :: t, hs, hd => by
    have hp := List.pairwise_cons.mp hs
    simp only [hasDuplicate, Bool.or_eq_false_iff, beq_eq_false_iff_ne, ne_eq] at hd
    have ih := (keysLt_iff _).mp (keysLt_of_sorted (b :: t) hp.2 hd.2)
    have hab : a.key < b.key := Std.lt_of_le_of_ne (hp.1 b List.mem_cons_self) hd.1
    refine (keysLt_iff _).mpr (List.pairwise_cons.mpr ⟨fun x hx => ?_, ih⟩)
    rcases List.mem_cons.mp hx with e | e
    · rw [e]; exact hab
    · exact List.lt_trans hab ((List.pairwise_cons.mp ih).1 x e)

theorem visitOrder_keysLt (gs : List Gram) (hd : hasDuplicate (visitOrder gs) = false) : KeysLt (visitOrder gs) :=
  keysLt_of_sorted _ (visitOrder_sorted gs) hd

theorem hasDuplicate_false_of_nodup : ∀ (l : List Gram), (l.map (·.key)).Nodup → hasDuplicate l = false
  | [], _ => rfl
  | [_], _ => rfl
  | a :: b :: t, h => by
    simp only [List.map_cons, List.nodup_cons, List.mem_cons, not_or] at h
    simp only [hasDuplicate, Bool.or_eq_false_iff, beq_eq_false_iff_ne, ne_eq]
    exact ⟨h.1.1, hasDuplicate_false_of_nodup (b :: t) (by simp only [List.map_cons, List.nodup_cons]; exact ⟨h.2.1, h.2.2⟩)⟩

end KV.TrieBuild
