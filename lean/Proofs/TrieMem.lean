import Model.TrieLM
import Proofs.TrieLists
import Proofs.Basics
/-! Memory built by OR-ing disjoint bit fields: every field reads back (the frame argument for any number of writes); regions
of fixed-stride records that follow one another (`Before`, `Packed`) have disjoint fields. -/
namespace KV.TrieLM

def Field.Disj (a b : Field) : Prop := a.off + a.len ≤ b.off ∨ b.off + b.len ≤ a.off

theorem testBit_orFields (fs : List Field) : ∀ m k, (orFields m fs).testBit k =
    (m.testBit k || fs.any (fun f => decide (f.off ≤ k) && f.val.testBit (k - f.off))) := by
  induction fs with
  | nil => intro m k; simp [orFields]
  | cons f fs ih =>
    intro m k
    have : orFields m (f :: fs) = orFields (m ||| (f.val <<< f.off)) fs := rfl
    rw [this, ih, Nat.testBit_or, Nat.testBit_shiftLeft]
    simp [Bool.or_assoc]

theorem orFields_read_of (fs : List Field) (hv : ∀ g ∈ fs, g.val < 2^g.len)
    (f : Field) (hf : f ∈ fs) (hd : ∀ g ∈ fs, g = f ∨ Field.Disj f g) : (orFields 0 fs >>> f.off) % 2^f.len = f.val := by
  apply Nat.eq_of_testBit_eq
  intro j
  rw [Nat.testBit_mod_two_pow, Nat.testBit_shiftRight, testBit_orFields]
  simp only [Nat.zero_testBit, Bool.false_or]
  by_cases hj : j < f.len
  · simp only [hj, decide_true, Bool.true_and]
    cases hb : f.val.testBit j with
    | true =>
      rw [List.any_eq_true]
      exact ⟨f, hf, by simp [hb]⟩
    | false =>
      rw [List.any_eq_false]
      intro g hg
      rcases hd g hg with heq | hdis
      · subst heq; simp [hb]
      · by_cases hle : g.off ≤ f.off + j
        · have : g.val.testBit (f.off + j - g.off) = false := by
            apply testBit_of_lt_two_pow (hv g hg)
            rcases hdis with h | h <;> omega
          simp [this]
        · simp [hle]
  · simp only [hj, decide_false, Bool.false_and]
    exact (testBit_of_lt_two_pow (hv f hf) (by omega)).symm

theorem orFields_read (fs : List Field) (hd : fs.Pairwise Field.Disj) (hv : ∀ f ∈ fs, f.val < 2^f.len)
    (f : Field) (hf : f ∈ fs) : (orFields 0 fs >>> f.off) % 2^f.len = f.val :=
  orFields_read_of fs hv f hf fun g hg => (pairwise_trichotomy hd f hf g hg).imp Eq.symm fun h => h.elim id Or.symm

/-- the slots of a record lie inside the stride and one after the other, and every written value fits its slot -/
structure RegionSpec.OK (R : RegionSpec) : Prop where
  slot_in : ∀ s, s < R.slots.length → R.slotOff s + R.slotLen s ≤ R.stride
  slot_disj : ∀ s s', s < s' → s' < R.slots.length → R.slotOff s + R.slotLen s ≤ R.slotOff s'
  fits : ∀ i s v, i < R.nrec → s < R.slots.length → R.val i s = some v → v < 2^(R.slotLen s)

/-- every region writes `x % 2^width` into a slot of that width, so `RegionSpec.OK.fits` is this, slot by slot -/
theorem lt_of_some_mod {x L v : Nat} (h : some (x % 2^L) = some v) : v < 2^L :=
  Option.some.inj h ▸ Nat.mod_lt _ (Nat.two_pow_pos L)

theorem RegionSpec.ok_of_slots (R : RegionSpec) (hd : R.slots.Pairwise fun a b => a.1 + a.2 ≤ b.1)
    (hin : ∀ a ∈ R.slots, a.1 + a.2 ≤ R.stride)
    (fits : ∀ i s v, i < R.nrec → s < R.slots.length → R.val i s = some v → v < 2^(R.slotLen s)) : R.OK := by
  have hget : ∀ s (h : s < R.slots.length), R.slots.getD s (0, 0) = R.slots[s] := fun s h => by
    rw [← List.getElem_eq_getD (h := h)]
  refine ⟨fun s hs => ?_, fun s s' h hs' => ?_, fits⟩
  · simp only [RegionSpec.slotOff, RegionSpec.slotLen, hget s hs]; exact hin _ (List.getElem_mem hs)
  · simp only [RegionSpec.slotOff, RegionSpec.slotLen, hget s (by omega), hget s' hs']
    exact List.pairwise_iff_getElem.mp hd s s' _ _ h

/-- an array of `L`-bit values, one slot per record -/
theorem RegionSpec.OK.of_array (R : RegionSpec) (L : Nat) (x : Nat → Nat) (hs : R.slots = [(0, L)]) (hst : L ≤ R.stride)
    (hv : R.val = fun i _ => some (x i % 2^L)) : R.OK := by
  refine RegionSpec.ok_of_slots R ?_ ?_ ?_
  · rw [hs]; exact List.pairwise_singleton _ _
  · rw [hs]; intro p hp; rw [List.mem_singleton.mp hp]; exact (Nat.zero_add L).symm ▸ hst
  · intro i s v _ hlt hval
    have h0 : s = 0 := by rw [hs] at hlt; exact Nat.lt_one_iff.mp hlt
    rw [hv] at hval
    rw [h0, RegionSpec.slotLen, hs, ← Option.some.inj hval]
    exact Nat.mod_lt _ (Nat.two_pow_pos L)

theorem RegionSpec.mem_fields (R : RegionSpec) (g : Field) :
    g ∈ R.fields ↔ ∃ i s v, i < R.nrec ∧ s < R.slots.length ∧ R.val i s = some v ∧ g = R.fieldAt i s v := by
  unfold RegionSpec.fields
  simp only [List.mem_flatMap, List.mem_range, List.mem_filterMap, Option.map_eq_some_iff]
  constructor
  · rintro ⟨i, hi, s, hs, v, hv, rfl⟩; exact ⟨i, s, v, hi, hs, hv, rfl⟩
  · rintro ⟨i, s, v, hi, hs, hv, rfl⟩; exact ⟨i, hi, s, hs, v, hv, rfl⟩

def RegionSpec.endBit (R : RegionSpec) : Nat := R.base + R.nrec * R.stride

theorem RegionSpec.field_extent (R : RegionSpec) (ok : R.OK) (i s v : Nat) (hi : i < R.nrec) (hs : s < R.slots.length) :
    R.base + i * R.stride ≤ (R.fieldAt i s v).off ∧
    (R.fieldAt i s v).off + (R.fieldAt i s v).len ≤ R.base + (i + 1) * R.stride ∧
    R.base + (i + 1) * R.stride ≤ R.endBit := by
  have h1 := ok.slot_in s hs
  have h2 : (i + 1) * R.stride ≤ R.nrec * R.stride := Nat.mul_le_mul_right _ hi
  simp only [RegionSpec.fieldAt, RegionSpec.endBit, Nat.succ_mul]
  refine ⟨by omega, by omega, ?_⟩
  rw [Nat.succ_mul] at h2; omega

/-- bit address of the field at byte `o` of record `w` in an array of `S`-byte records at byte `U`, in the form `base + i * stride + off` of `regions_read` -/
theorem byte_field_addr (U S w o : Nat) : 8 * (U + S * w + o) = 8 * U + w * (8 * S) + 8 * o := by
  rw [Nat.mul_add, Nat.mul_add, ← Nat.mul_assoc, Nat.mul_comm (8 * S) w]

/-- the same field of the next record -/
theorem next_rec_addr (b i T a : Nat) : b + i * T + a + T = b + (i + 1) * T + a := by
  rw [Nat.succ_mul]; generalize i * T = x; omega

theorem RegionSpec.disj_same (R : RegionSpec) (ok : R.OK) (i s v i' s' v' : Nat) (hi : i < R.nrec) (hi' : i' < R.nrec)
    (hs : s < R.slots.length) (hs' : s' < R.slots.length) (hne : i ≠ i' ∨ s ≠ s') :
    Field.Disj (R.fieldAt i s v) (R.fieldAt i' s' v') := by
  obtain ⟨a1, a2, _⟩ := R.field_extent ok i s v hi hs
  obtain ⟨b1, b2, _⟩ := R.field_extent ok i' s' v' hi' hs'
  unfold Field.Disj
  rcases Nat.lt_trichotomy i i' with h | h | h
  · have : (i + 1) * R.stride ≤ i' * R.stride := Nat.mul_le_mul_right _ h
    left; omega
  · subst h
    have hss : s ≠ s' := by rcases hne with h | h; exact absurd rfl h; exact h
    rcases Nat.lt_or_gt_of_ne hss with h | h
    · left; have := ok.slot_disj s s' h hs'; simp only [RegionSpec.fieldAt]; omega
    · right; have := ok.slot_disj s' s h hs; simp only [RegionSpec.fieldAt]; omega
  · have : (i' + 1) * R.stride ≤ i * R.stride := Nat.mul_le_mul_right _ h
    right; omega

def RegionSpec.Before (R R' : RegionSpec) : Prop := R.base + R.nrec * R.stride ≤ R'.base

theorem RegionSpec.before_iff {R R' : RegionSpec} : R.Before R' ↔ R.endBit ≤ R'.base := Iff.rfl

theorem RegionSpec.disj_of_before {R R' : RegionSpec} (ok : R.OK) (ok' : R'.OK) (hb : R.Before R') {i s v i' s' v' : Nat}
    (hi : i < R.nrec) (hs : s < R.slots.length) (hi' : i' < R'.nrec) (hs' : s' < R'.slots.length) :
    Field.Disj (R.fieldAt i s v) (R'.fieldAt i' s' v') := by
  obtain ⟨_, a2, a3⟩ := R.field_extent ok i s v hi hs
  obtain ⟨b1, _, _⟩ := R'.field_extent ok' i' s' v' hi' hs'
  have h2 : R'.base ≤ R'.base + i' * R'.stride := Nat.le_add_right _ _
  rw [RegionSpec.before_iff] at hb
  left; omega

theorem regions_read (Rs : List RegionSpec) (hok : ∀ R ∈ Rs, R.OK) (hord : Rs.Pairwise RegionSpec.Before)
    (R : RegionSpec) (hR : R ∈ Rs) (i s v : Nat) (hi : i < R.nrec) (hs : s < R.slots.length) (hv : R.val i s = some v) :
    (orFields 0 (allFields Rs) >>> (R.base + i * R.stride + R.slotOff s)) % 2^(R.slotLen s) = v := by
  have field : ∀ g ∈ allFields Rs, ∃ R' ∈ Rs, ∃ i' s' v', i' < R'.nrec ∧ s' < R'.slots.length ∧ R'.val i' s' = some v' ∧
      g = R'.fieldAt i' s' v' := by
    intro g hg
    obtain ⟨R', hR', hg⟩ := List.mem_flatMap.mp hg
    exact ⟨R', hR', (R'.mem_fields g).mp hg⟩
  refine orFields_read_of (allFields Rs) (fun g hg => ?_) (R.fieldAt i s v)
    (List.mem_flatMap.mpr ⟨R, hR, (R.mem_fields _).mpr ⟨i, s, v, hi, hs, hv, rfl⟩⟩) (fun g hg => ?_)
  · obtain ⟨R', hR', i', s', v', hi', hs', hv', rfl⟩ := field g hg
    exact (hok R' hR').fits i' s' v' hi' hs' hv'
  · obtain ⟨R', hR', i', s', v', hi', hs', hv', rfl⟩ := field g hg
    rcases pairwise_trichotomy hord R hR R' hR' with e | e | e
    · subst e
      by_cases hsame : i = i' ∧ s = s'
      · obtain ⟨e1, e2⟩ := hsame
        subst e1; subst e2
        rw [hv] at hv'
        left; rw [Option.some.inj hv']
      · right
        exact R.disj_same (hok R hR) i s v i' s' v' hi hi' hs hs' (by
          by_cases h : i = i'
          · right; intro h2; exact hsame ⟨h, h2⟩
          · left; exact h)
    · exact .inr (RegionSpec.disj_of_before (hok R hR) (hok R' hR') e hi hs hi' hs')
    · exact .inr (RegionSpec.disj_of_before (hok R' hR') (hok R hR) e hi' hs' hi hs).symm

/-- the region lies inside the byte interval `[lo, hi)` -/
def Inside (R : RegionSpec) (lo hi : Nat) : Prop := 8 * lo ≤ R.base ∧ R.endBit ≤ 8 * hi

/-- the regions of `L` follow one another (`Before`, in bits) inside the byte interval `[lo, hi)` -/
def Packed (L : List RegionSpec) (lo hi : Nat) : Prop :=
  lo ≤ hi ∧ L.Pairwise RegionSpec.Before ∧ ∀ R ∈ L, Inside R lo hi

theorem Packed.nil {lo hi : Nat} (h : lo ≤ hi) : Packed [] lo hi :=
  ⟨h, List.Pairwise.nil, fun _ hR => absurd hR List.not_mem_nil⟩

theorem Packed.single {R : RegionSpec} {lo hi : Nat} (h : Inside R lo hi) : Packed [R] lo hi := by
  refine ⟨?_, List.pairwise_singleton _ _, fun R' hR' => by rw [List.mem_singleton.mp hR']; exact h⟩
  have h1 := h.1
  have h2 : R.base ≤ R.endBit := Nat.le_add_right _ _
  have h3 := h.2
  omega

theorem Packed.mono {L : List RegionSpec} {a b a' b' : Nat} (h : Packed L a b) (ha : a' ≤ a) (hb : b ≤ b') : Packed L a' b' :=
  ⟨Nat.le_trans ha (Nat.le_trans h.1 hb), h.2.1, fun R hR =>
    ⟨Nat.le_trans (Nat.mul_le_mul_left 8 ha) (h.2.2 R hR).1, Nat.le_trans (h.2.2 R hR).2 (Nat.mul_le_mul_left 8 hb)⟩⟩

theorem Packed.append {L₁ L₂ : List RegionSpec} {a b c : Nat} (h₁ : Packed L₁ a b) (h₂ : Packed L₂ b c) :
    Packed (L₁ ++ L₂) a c := by
  refine ⟨Nat.le_trans h₁.1 h₂.1, List.pairwise_append.mpr ⟨h₁.2.1, h₂.2.1, fun R hR R' hR' => ?_⟩, fun R hR => ?_⟩
  · exact Nat.le_trans (h₁.2.2 R hR).2 (h₂.2.2 R' hR').1
  · rcases List.mem_append.mp hR with h | h
    · exact ((h₁.mono (Nat.le_refl a) h₂.1).2.2 R h)
    · exact ((h₂.mono h₁.1 (Nat.le_refl c)).2.2 R h)

theorem Packed.range (f : Nat → List RegionSpec) (p : Nat → Nat) (n : Nat)
    (h : ∀ j, j < n → Packed (f j) (p j) (p (j + 1))) : Packed ((List.range n).flatMap f) (p 0) (p n) := by
  induction n with
  | zero => exact Packed.nil (Nat.le_refl _)
  | succ n ih =>
    rw [List.range_succ, List.flatMap_append, List.flatMap_singleton]
    exact (ih fun j hj => h j (Nat.lt_succ_of_lt hj)).append (h n (Nat.lt_succ_self n))

theorem Packed.pairwise_concat {L : List RegionSpec} {a b : Nat} {R : RegionSpec} (h : Packed L a b) (hR : 8 * b ≤ R.base) :
    (L ++ [R]).Pairwise RegionSpec.Before :=
  List.pairwise_append.mpr ⟨h.2.1, List.pairwise_singleton _ _, fun R' hR' R'' hR'' => by
    rw [List.mem_singleton.mp hR'']; exact Nat.le_trans (h.2.2 R' hR').2 hR⟩

end KV.TrieLM
