import Proofs.LeftFrag
import Proofs.LeftCases
/-! The finished-fragment invariant `FragC` (`Frag` after `Finish`), and what a pointer of a fragment receives when context
is revealed: `openTerm` if it stays in the left state, `doneTerm` if it is finalised (`unrest_done`: by `UnRest`). -/
namespace KV.Left
open KV.Arpa KV.Table KV.State KV.Score

variable {a : Arpa} {T : Table}

structure FragC (a : Arpa) (T : Table) (R : Ptr → Rat) (ws : List Word) (L : Nat) (c : Chart) (p : Rat) : Prop where
  right_for : StateFor a ws.reverse c.right
  right_norm : NormS c.right
  L_le : L ≤ ws.length
  L_lt : L ≤ a.order - 1
  ptrs : c.left.pointers = (List.range L).map (pre ws)
  ptr_xl : ∀ i, i < L → T.xl (pre ws i) = true
  prob_eq : p = restSum R ws L + specSeq a (ws.take L).reverse (ws.drop L)
  open_ : c.left.full = false → L = ws.length ∧ c.right.length = ws.length
  closed : c.left.full = true → Closed T ws L

theorem FragC.left_length {R : Ptr → Rat} {ws : List Word} {L : Nat} {c : Chart} {p : Rat} (G : FragC a T R ws L c p) :
    c.left.length = L := by simp [LeftSt.length, G.ptrs]

theorem FragC.empty {R : Ptr → Rat} {ws : List Word} {L : Nat} {c : Chart} {p : Rat} (G : FragC a T R ws L c p)
    (h1 : c.left.length = 0) (hf : c.left.full = false) : ws = [] ∧ p = 0 := by
  have hL : L = 0 := G.left_length.symm.trans h1
  have hnil : ws = [] := List.eq_nil_of_length_eq_zero ((G.open_ hf).1.symm.trans hL)
  subst hL hnil
  exact ⟨rfl, G.prob_eq.trans (Rat.add_zero 0)⟩

theorem FragC.toFrag {R : Ptr → Rat} {ws : List Word} {L : Nat} {c : Chart} {p : Rat} (G : FragC a T R ws L c p) :
    Frag a T R ws L (beginNonTerminal c p) :=
  ⟨G.right_for, G.right_norm, G.L_le, G.L_lt, G.ptrs, G.ptr_xl, G.prob_eq, G.open_, G.closed⟩

theorem FragC.ofFrag {R : Ptr → Rat} {ws : List Word} {L : Nat} {c : Chart} {p : Rat}
    (F : Frag a T R ws L (beginNonTerminal c p)) : FragC a T R ws L c p :=
  ⟨F.right_for, F.right_norm, F.L_le, F.L_lt, F.ptrs, F.ptr_xl, F.prob_eq, F.open_, F.closed⟩

theorem fragC_nil (R : Ptr → Rat) : FragC a T R [] 0 {} 0 := FragC.ofFrag (init_frag R)

theorem finish_frag (H : Hyp a T) (R : Ptr → Rat) {ws : List Word} {L : Nat} {rs : RS} (F : Frag a T R ws L rs) :
    FragC a T R ws L (finish T.order rs).1 (finish T.order rs).2 := by
  have hord : T.order = a.order := H.tf.order_eq
  refine ⟨F.right_for, F.right_norm, F.L_le, F.L_lt, F.ptrs, F.ptr_xl, F.prob_eq, ?_, ?_⟩
  · intro hf
    rw [finish_full, Bool.or_eq_false_iff] at hf
    exact F.open_ hf.1
  · intro hf
    rw [finish_full] at hf
    by_cases hd : rs.leftDone = true
    · exact F.closed hd
    · have hd' : rs.leftDone = false := by simpa using hd
      simp only [hd', Bool.false_or, beq_iff_eq] at hf
      have hl : rs.out.left.length = L := by simp [LeftSt.length, F.ptrs]
      right; right
      exact ⟨(F.open_ hd').1, by omega⟩

theorem probMinusRest_entry (R : Ptr → Rat) {g : Ptr} {t : TEntry} (ht : T.lookup g = some t) :
    probMinusRest T R g = t.prob - R g := by
  simp [probMinusRest, foundOf, ht, toFound]

theorem ptr_prob (H : Hyp a T) (F P : List Word) (i : Nat) (hi : i < F.length) (hN : i + P.length ≤ a.order - 1)
    {t : TEntry} (ht : T.lookup (pre F i ++ P) = some t) : t.prob = score a (gm1 F i ++ P) F[i] :=
  entry_score H.tf F[i] (gm1 F i ++ P) (by rw [List.length_append, gm1_length F i (by omega)]; exact hN)
    (by rw [← pre_cons_P F P i hi]; exact ht)

theorem pre_prob (H : Hyp a T) (ws : List Word) (i : Nat) (hi : i < ws.length) (hN : i ≤ a.order - 1)
    {t : TEntry} (ht : T.lookup (pre ws i) = some t) : t.prob = score a (gm1 ws i) ws[i] := by
  simpa using ptr_prob H ws [] i hi hN (by simpa using ht)

/-- the setting of one `ExtendLoop` call: `L` pointers `pre F i ++ P`, all extending left and (`bound`) below the highest
order; `nu0` words of the history `h` are offered -/
structure LoopCtx (a : Arpa) (T : Table) (F P h : List Word) (L nu0 : Nat) : Prop where
  L_le : L ≤ F.length
  ptr_xl : ∀ i, i < L → T.xl (pre F i ++ P) = true
  bound : L + P.length ≤ a.order - 1
  nu0_le : nu0 ≤ h.length

/-- contribution of a pointer that stays in the left state: new rest cost − old rest cost -/
def openTerm (R : Ptr → Rat) (F P h : List Word) (i : Nat) : Rat := R (pre F i ++ P ++ h) - R (pre F i ++ P)

/-- contribution of a pointer that is finalised: exact score given everything revealed − its rest cost -/
def doneTerm (a : Arpa) (R : Ptr → Rat) (F P h : List Word) (i : Nat) : Rat :=
  score a (gm1 F i ++ P ++ h) (F.getD i 0) - R (pre F i ++ P)

/-- with nothing of the new context usable, `UnRest` of the remaining pointers is what they still have to receive -/
theorem unrest_done (H : Hyp a T) (R : Ptr → Rat) {F P h : List Word} {L nu0 : Nat} (C : LoopCtx a T F P h L nu0) :
    ∀ (n i : Nat) (fl : Nat), n = L - i → i ≤ L →
      (∀ k, 1 ≤ k → k ≤ h.length → ¬ live a (gm1 F i ++ P ++ h.take k)) →
      unRest T R (((List.range L).map (fun i => pre F i ++ P)).drop i) fl = dsum (doneTerm a R F P h) i (L - i) ∧
      (∀ k, 1 ≤ k → k ≤ h.length → ¬ live a (gm1 F L ++ P ++ h.take k)) := by
  intro n
  induction n with
  | zero =>
    intro i fl hn hi hd
    have : i = L := by omega
    subst this
    rw [List.drop_eq_nil_of_le (by simp)]
    exact ⟨by simp [unRest, dsum], hd⟩
  | succ n ih =>
    intro i fl hn hi hd
    have hiL : i < L := by omega
    have hiw : i < F.length := Nat.lt_of_lt_of_le hiL C.L_le
    rw [map_range_drop (fun i => pre F i ++ P) L i hiL]
    obtain ⟨t, ht, _⟩ := xl_lookup (C.ptr_xl i hiL)
    have hb := C.bound
    have hd' : ∀ k, 1 ≤ k → k ≤ h.length → ¬ live a (gm1 F (i+1) ++ P ++ h.take k) := by
      intro k hk1 hk2
      rw [gm1_succ F i, pre_eq_cons F i hiw]
      have hne := append_take_ne_nil (gm1 F i ++ P) hk1 hk2
      have := dead_cons H.wf [F[i]] _ hne (hd k hk1 hk2)
      simpa only [List.cons_append, List.append_assoc, List.singleton_append, List.nil_append] using this
    obtain ⟨ih1, ih2⟩ := ih (i+1) fl (by omega) (by omega) hd'
    refine ⟨?_, ih2⟩
    have hsc : score a (gm1 F i ++ P ++ h) F[i] = t.prob := by
      rw [score_dead H.wf F[i] (gm1 F i ++ P) h hd, ptr_prob H F P i hiw (by omega) ht]
    unfold unRest at ih1 ⊢
    rw [dsum_cons _ hiL]
    simp only [List.map_cons, List.sum_cons]
    rw [ih1, probMinusRest_entry R ht]
    simp only [doneTerm]
    rw [← List.getElem_eq_getD (h := hiw) 0, hsc]

end KV.Left
