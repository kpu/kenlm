import Proofs.ProbingDouble
/-!
`Power2Mod`: for a power-of-two bucket count the mask arithmetic is the `DivMod` arithmetic, so every
operation written with masks (`…P2`: the fixed-size operations, `Double`, `AutoProbing`'s) is the `DivMod`
one, and `Double` keeps the bucket count a power of two; the constructor accepts exactly the powers of
two, and `RoundBuckets(x)` is the least power of two `≥ x`.
-/
namespace KV.Probing

def Pow2 (n : Nat) : Prop := ∃ j, n = 2^j

theorem Pow2_double (n : Nat) (hp : Pow2 n) : Pow2 (2 * n) := by
  obtain ⟨j, rfl⟩ := hp
  exact ⟨j + 1, by rw [Nat.pow_succ]; omega⟩

theorem nextP2_eq (j i : Nat) (hi : i < 2^j) : nextP2 (2^j) i = next (2^j) i := by
  unfold nextP2 next
  rw [Nat.and_two_pow_sub_one_eq_mod]
  split
  · next h => rw [h, Nat.mod_self]
  · next h => exact Nat.mod_eq_of_lt (by omega)

theorem idealP2_eq (h : Nat → Nat) (j k : Nat) : idealP2 h (2^j) k = ideal h (2^j) k := by
  unfold idealP2 ideal
  exact Nat.and_two_pow_sub_one_eq_mod _ _

theorem scanWithP2_eq (s : Slots) (j k : Nat) : ∀ fuel i, i < 2^j →
    scanWith (nextP2 (2^j)) s k fuel i = scanWith (next (2^j)) s k fuel i := by
  intro fuel
  induction fuel with
  | zero => intro i _; rfl
  | succ f ih =>
    intro i hi
    simp only [scanWith]
    rw [nextP2_eq j i hi, ih _ (next_lt _ i hi)]

theorem firstEmptyWithP2_eq (s : Slots) (j : Nat) : ∀ fuel i, i < 2^j →
    firstEmptyWith (nextP2 (2^j)) s fuel i = firstEmptyWith (next (2^j)) s fuel i := by
  intro fuel
  induction fuel with
  | zero => intro i _; rfl
  | succ f ih =>
    intro i hi
    simp only [firstEmptyWith]
    rw [nextP2_eq j i hi, ih _ (next_lt _ i hi)]

section Ops
variable (h : Nat → Nat) (θ : Nat → Nat)

theorem findPosP2_eq (t : Table) (k : Nat) (hp : Pow2 t.N) : findPosP2 h t k = findPos h t k := by
  obtain ⟨j, hN⟩ := hp
  unfold findPosP2 findPos
  rw [hN, idealP2_eq, scanWithP2_eq t.s j k _ _ (ideal_lt h _ k (Nat.two_pow_pos j))]

theorem uncheckedInsertP2_eq (t : Table) (k v : Nat) (hp : Pow2 t.N) :
    uncheckedInsertP2 h t k v = uncheckedInsert h t k v := by
  obtain ⟨j, hN⟩ := hp
  unfold uncheckedInsertP2 uncheckedInsert
  rw [hN, idealP2_eq, firstEmptyWithP2_eq _ j _ _ (ideal_lt h _ k (Nat.two_pow_pos j))]

theorem insertP2_eq (t : Table) (k v : Nat) (hp : Pow2 t.N) : insertP2 h t k v = insert h t k v := by
  simp only [insertP2, insert, uncheckedInsertP2_eq h { t with entries := t.entries + 1 } k v hp]

theorem findOrInsertP2_eq (t : Table) (k v : Nat) (hp : Pow2 t.N) :
    findOrInsertP2 h t k v = findOrInsert h t k v := by
  obtain ⟨j, hN⟩ := hp
  unfold findOrInsertP2 findOrInsert
  rw [hN, idealP2_eq, scanWithP2_eq _ j k _ _ (ideal_lt h _ k (Nat.two_pow_pos j))]

/-- `Power2Mod::Double`: `mask_ = (mask_ << 1) | 1` is the mask of the doubled bucket count -/
theorem mask_double (N : Nat) (hN : 0 < N) : (((N - 1) <<< 1) ||| 1) + 1 = 2 * N := by
  rw [← Nat.shiftLeft_add_eq_or_of_lt (by decide : 1 < 2^1), Nat.shiftLeft_eq]
  omega

theorem reinsertP2_eq (j : Nat) : ∀ (n i : Nat) (s : Slots),
    reinsertP2 h (2^j) n i s = reinsert h (2^j) n i s := by
  intro n
  induction n with
  | zero => intro i s; rfl
  | succ n ih =>
    intro i s
    simp only [reinsertP2, reinsert, firstEmpty]
    cases s i with
    | none => exact ih (i + 1) s
    | some e =>
      obtain ⟨k, v⟩ := e
      simp only []
      rw [idealP2_eq, firstEmptyWithP2_eq _ j _ _ (ideal_lt h _ k (Nat.two_pow_pos j))]
      cases firstEmptyWith (next (2 ^ j)) (set s i none) (2 ^ j) (ideal h (2 ^ j) k) with
      | none => rfl
      | some q => exact ih (i + 1) _

theorem insertAllP2_eq (j : Nat) : ∀ (buf : List Entry) (s : Slots),
    insertAllP2 h (2^j) buf s = insertAll h (2^j) buf s := by
  intro buf
  induction buf with
  | nil => intro s; rfl
  | cons e rest ih =>
    intro s
    obtain ⟨k, v⟩ := e
    simp only [insertAllP2, insertAll, firstEmpty]
    rw [idealP2_eq, firstEmptyWithP2_eq _ j _ _ (ideal_lt h _ k (Nat.two_pow_pos j))]
    cases firstEmptyWith (next (2 ^ j)) s (2 ^ j) (ideal h (2 ^ j) k) with
    | none => rfl
    | some q => exact ih _

theorem doubleP2_eq (t : Table) (hp : Pow2 t.N) : doubleP2 h t = double h t := by
  obtain ⟨j, hN⟩ := hp
  have hm : (((t.N - 1) <<< 1) ||| 1) + 1 = 2^(j+1) := by
    rw [mask_double t.N (by rw [hN]; exact Nat.two_pow_pos j), hN, Nat.pow_succ]; omega
  have h2 : 2 * t.N = 2^(j+1) := by rw [hN, Nat.pow_succ]; omega
  simp only [doubleP2, double, hm, h2, reinsertP2_eq, insertAllP2_eq]

theorem doubleIfNeededP2_eq (a : Auto) (hp : Pow2 a.t.N) :
    doubleIfNeededP2 h θ a = doubleIfNeeded h θ a := by
  simp only [doubleIfNeededP2, doubleIfNeeded, doubleP2_eq h a.t hp]

theorem doubleIfNeeded_pow2 (a a2 : Auto) (hp : Pow2 a.t.N)
    (hd : doubleIfNeeded h θ a = some a2) : Pow2 a2.t.N := by
  by_cases hc : a.t.entries < a.thr
  · rw [doubleIfNeeded_below h hc] at hd
    cases hd; exact hp
  · rw [doubleIfNeeded_at h hc] at hd
    obtain ⟨t', ht', rfl⟩ := Option.map_eq_some_iff.1 hd
    exact double_N h a.t t' ht' ▸ Pow2_double _ hp

theorem auto_insertP2_eq (a : Auto) (k v : Nat) (hp : Pow2 a.t.N) :
    a.insertP2 h θ k v = a.insert h θ k v := by
  unfold Auto.insertP2 Auto.insert
  rw [doubleIfNeededP2_eq h θ { a with t := { a.t with entries := a.t.entries + 1 } } hp]
  cases hd : doubleIfNeeded h θ { a with t := { a.t with entries := a.t.entries + 1 } } with
  | none => rfl
  | some a2 =>
    simp only []
    rw [uncheckedInsertP2_eq h a2.t k v
      (doubleIfNeeded_pow2 h θ { a with t := { a.t with entries := a.t.entries + 1 } } a2 hp hd)]

theorem auto_findOrInsertP2_eq (a : Auto) (k v : Nat) (hp : Pow2 a.t.N) :
    a.findOrInsertP2 h θ k v = a.findOrInsert h θ k v := by
  unfold Auto.findOrInsertP2 Auto.findOrInsert
  rw [doubleIfNeededP2_eq h θ _ hp]
  cases hd : doubleIfNeeded h θ a with
  | none => rfl
  | some a2 =>
    simp only []
    rw [findOrInsertP2_eq h a2.t k v (doubleIfNeeded_pow2 h θ _ a2 hp hd)]

theorem stepAP2_eq (a : Auto) (op : Op) (hp : Pow2 a.t.N) :
    stepAP2 h θ a op = stepA h θ a op := by
  cases op with
  | insert k v => simp only [stepAP2, stepA, auto_insertP2_eq h θ a k v hp]
  | findOrInsert k v => simp only [stepAP2, stepA, auto_findOrInsertP2_eq h θ a k v hp]
  | find k =>
    simp only [stepAP2, stepA, findPosP2_eq h a.t k hp, Auto.find, find, findPos]
    cases scan a.t.s a.t.N k a.t.N (ideal h a.t.N k) with
    | none => rfl
    | some r => cases r <;> rfl

end Ops

theorem testBit_top (n j : Nat) (h1 : 2^j ≤ n) (h2 : n < 2^(j+1)) : n.testBit j = true := by
  rw [Nat.testBit_eq_decide_div_mod_eq]
  have : n / 2^j = 1 := by
    apply Nat.div_eq_of_lt_le
    · simpa using h1
    · rw [Nat.pow_succ] at h2; omega
  simp [this]

/-- `n` lies in `[2^j, 2^(j+1))` for `j = log2 n`; unless `n = 2^j`, so does `n - 1`, and then both have bit `j` set, which
`(n - 1) & n = 0` excludes -/
theorem isPow2_iff (n : Nat) : isPow2 n = true ↔ Pow2 n := by
  unfold isPow2
  constructor
  · intro h
    simp at h
    obtain ⟨h0, hand⟩ := h
    refine ⟨n.log2, ?_⟩
    have hlo : 2 ^ n.log2 ≤ n := Nat.log2_self_le h0
    have hhi : n < 2 ^ (n.log2 + 1) := Nat.lt_log2_self
    apply Classical.byContradiction
    intro hne
    have h1 : 2 ^ n.log2 ≤ n - 1 := by omega
    have b1 := testBit_top n n.log2 hlo hhi
    have b2 := testBit_top (n - 1) n.log2 h1 (by omega)
    have : ((n - 1) &&& n).testBit n.log2 = true := by rw [Nat.testBit_and, b1, b2]; rfl
    rw [hand] at this
    simp at this
  · rintro ⟨j, rfl⟩
    have hp := Nat.two_pow_pos j
    have h1 : (2^j - 1) &&& 2^j = 0 := by
      rw [Nat.and_comm, Nat.and_two_pow_sub_one_eq_mod, Nat.mod_self]
    simp [h1]

/-- `f < 2^(j+1)` and its `t` bits from `j` downwards are set -/
def Top (f j t : Nat) : Prop := f < 2^(j+1) ∧ ∀ b, b ≤ j → j < b + t → f.testBit b = true

theorem Top_smear (f j t k : Nat) (hk : k ≤ t) (ht : Top f j t) : Top (f ||| (f >>> k)) j (t + k) := by
  obtain ⟨hlt, hb⟩ := ht
  refine ⟨Nat.or_lt_two_pow hlt (Nat.lt_of_le_of_lt (Nat.shiftRight_le _ _) hlt), ?_⟩
  intro b h1 h2
  rw [Nat.testBit_or, Nat.testBit_shiftRight]
  by_cases c : j < b + t
  · rw [hb b h1 c]; rfl
  · rw [hb (k + b) (by omega) (by omega)]; simp

theorem Top_full (f j t : Nat) (hj : j + 1 ≤ t) (ht : Top f j t) : f = 2^(j+1) - 1 := by
  obtain ⟨hlt, hb⟩ := ht
  apply Nat.eq_of_testBit_eq
  intro b
  rw [Nat.testBit_two_pow_sub_one]
  by_cases c : b < j + 1
  · rw [hb b (by omega) (by omega)]; simp [c]
  · have : f < 2^b := Nat.lt_of_lt_of_le hlt (Nat.pow_le_pow_right (by omega) (by omega))
    rw [Nat.testBit_lt_two_pow this]; simp [c]

/-- the six `from |= from >> k` lines in the middle of `roundBuckets`, as a function of their own (`roundBuckets_unfold`) -/
def smear6 (f0 : Nat) : Nat :=
  let f1 := f0 ||| (f0 >>> 1)
  let f2 := f1 ||| (f1 >>> 2)
  let f3 := f2 ||| (f2 >>> 4)
  let f4 := f3 ||| (f3 >>> 8)
  let f5 := f4 ||| (f4 >>> 16)
  f5 ||| (f5 >>> 32)

theorem roundBuckets_unfold (x : Nat) : roundBuckets x = (smear6 ((x + 2^64 - 1) % 2^64) + 1) % 2^64 := rfl

theorem smear6_spec (f j : Nat) (hj : j ≤ 63) (h1 : 2^j ≤ f) (h2 : f < 2^(j+1)) : smear6 f = 2^(j+1) - 1 := by
  have t0 : Top f j 1 := ⟨h2, fun b hb1 hb2 => by
    have : b = j := by omega
    subst this; exact testBit_top f b h1 h2⟩
  have t1 := Top_smear _ j 1 1 (by omega) t0
  have t2 := Top_smear _ j 2 2 (by omega) t1
  have t3 := Top_smear _ j 4 4 (by omega) t2
  have t4 := Top_smear _ j 8 8 (by omega) t3
  have t5 := Top_smear _ j 16 16 (by omega) t4
  have t6 := Top_smear _ j 32 32 (by omega) t5
  exact Top_full _ j 64 (by omega) t6

/-- `RoundBuckets(x)` is the least power of two `≥ x` (for `1 ≤ x ≤ 2^63`; beyond that the
64-bit result wraps to 0) -/
theorem roundBuckets_spec (x : Nat) (h1 : 1 ≤ x) (h2 : x ≤ 2^63) :
    ∃ j, roundBuckets x = 2^j ∧ x ≤ 2^j ∧ (j = 0 ∨ 2^(j-1) < x) := by
  obtain ⟨y, rfl⟩ : ∃ y, x = y + 1 := ⟨x - 1, (Nat.sub_add_cancel h1).symm⟩
  have hy : y < 2^63 := h2
  have e : (y + 1 + 2^64 - 1) % 2^64 = y := by
    rw [Nat.add_right_comm, Nat.add_sub_cancel, Nat.add_mod_right]
    exact Nat.mod_eq_of_lt (Nat.lt_trans hy (by decide))
  rw [roundBuckets_unfold, e]
  by_cases h0 : y = 0
  · subst h0
    exact ⟨0, by decide, by decide, Or.inl rfl⟩
  · -- `y` has its top bit at `j = log2 y ≤ 62`; smearing gives `2^(j+1) - 1`
    have hlo : 2 ^ y.log2 ≤ y := Nat.log2_self_le h0
    have hhi : y < 2 ^ (y.log2 + 1) := Nat.lt_log2_self
    have hj : y.log2 < 63 := (Nat.pow_lt_pow_iff_right (by decide : 1 < 2)).1 (Nat.lt_of_le_of_lt hlo hy)
    have hle : 2 ^ (y.log2 + 1) ≤ 2^63 := Nat.pow_le_pow_right (by decide) hj
    rw [smear6_spec y _ (Nat.le_of_lt_succ (Nat.lt_succ_of_lt hj)) hlo hhi,
      Nat.sub_add_cancel (Nat.two_pow_pos _), Nat.mod_eq_of_lt (Nat.lt_of_le_of_lt hle (by decide))]
    exact ⟨y.log2 + 1, rfl, hhi, Or.inr (Nat.lt_succ_of_le hlo)⟩

end KV.Probing
