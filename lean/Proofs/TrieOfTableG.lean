import Proofs.TrieOfTable
import Proofs.TrieMem
import Proofs.Bits
import Proofs.BinaryBhiksha
import Model.TrieG
/-! `Reads` for the memory `ofTableG` writes (all four trie classes): ArrayBhiksha offsets read back through
`Bhiksha.array_table`, quantised records read back as the centre their code points to. -/
namespace KV.TrieLM
open KV.Bits KV.Score KV.Search KV.Binary

instance : Inhabited MiddleRegion := ⟨⟨0, 0, 0, 0, 0, 0, 0, 0, 0, 0⟩⟩

/-- the regions `Binary.trieSetup` lays out for the counts of the bit table -/
def setupG (bt : BT) (bound order start : Nat) (q : Option QSpec) (array : Bool) (bh : Nat) : TrieRegions :=
  trieSetup q.isSome array (cfgG q bh) (countsOf bt bound order) start

/-- the block of middle number `om2` (n-grams of length `om2 + 2`) in `setupG` -/
def midG (bt : BT) (bound order start : Nat) (q : Option QSpec) (array : Bool) (bh : Nat) (om2 : Nat) : MiddleRegion :=
  (setupG bt bound order start q array bh).middles.getD om2 default

/-- `Quant::MiddleBits` / `LongestBits` (`DontQuantize`: 31 + 32 and 31) -/
def QB (q : Option QSpec) : Nat := match q with | none => 63 | some qs => qs.backoffBits + qs.probBits
def LB (q : Option QSpec) : Nat := match q with | none => 31 | some qs => qs.probBits
/-- widths of the two value slots of a middle record: `prob31 | backoff32`, or `backoff code | prob code` -/
def valWidth₁ (q : Option QSpec) : Nat := match q with | none => 31 | some qs => qs.backoffBits
def valWidth₂ (q : Option QSpec) : Nat := match q with | none => 32 | some qs => qs.probBits

theorem valWidth_add (q : Option QSpec) : valWidth₁ q + valWidth₂ q = QB q := by cases q <;> rfl

/-- layout facts of `Binary.trieSetup` the read-back needs (bit widths, no `uint8` wrap, table sizes, regions in file order);
57 is the width `ReadInt57` handles at every bit offset (25 for `ReadInt25`, in `QOK`); 64 is the width of `UnigramValue::next`
and of an entry of the offset table, which hold a whole pointer (`SmallOK` asks 2^57 of the same counts, for the word and inline fields) -/
structure ShapeG (bt : BT) (bound order start : Nat) (q : Option QSpec) (array : Bool) (bh : Nat) : Prop where
  nmid : (setupG bt bound order start q array bh).middles.length = order - 2
  mid : ∀ om2, om2 + 2 < order →
    (midG bt bound order start q array bh om2).wordBits = requiredBits bound ∧
    (midG bt bound order start q array bh om2).quantBits = QB q ∧
    (midG bt bound order start q array bh om2).totalBits = requiredBits bound + QB q + (midG bt bound order start q array bh om2).inline ∧
    (midG bt bound order start q array bh om2).inline ≤ 57 ∧
    (array = false → (level bt bound (om2 + 3)).length < 2^(midG bt bound order start q array bh om2).inline) ∧
    (array = true → ((midG bt bound order start q array bh om2).offEnd - (midG bt bound order start q array bh om2).offBegin) / 8
      = ((level bt bound (om2 + 3)).length >>> (midG bt bound order start q array bh om2).inline) + 1)
  long : (setupG bt bound order start q array bh).longest.2.1 = requiredBits bound ∧
    (setupG bt bound order start q array bh).longest.2.2 = requiredBits bound + LB q
  ord : (regionsG bt bound order start q array bh).Pairwise RegionSpec.Before
  wbits : requiredBits bound ≤ 57
  small : bound < 2^64 ∧ ∀ k, k ≤ order → (level bt bound k).length < 2^64

section
variable {bt : BT} {bound order start : Nat} {q : Option QSpec} {array : Bool} {bh : Nat} {om2 : Nat} {m : MiddleRegion}
  (sh : ShapeG bt bound order start q array bh) (hom : om2 + 2 < order) (hm : midG bt bound order start q array bh om2 = m)
include sh hom

theorem ShapeG.mid_lt : om2 < (setupG bt bound order start q array bh).middles.length := sh.nmid ▸ Nat.lt_sub_of_add_lt hom

include hm

theorem ShapeG.wordBits : m.wordBits = requiredBits bound := hm ▸ (sh.mid om2 hom).1

theorem ShapeG.quantBits : m.quantBits = QB q := hm ▸ (sh.mid om2 hom).2.1

theorem ShapeG.totalBits : m.totalBits = requiredBits bound + QB q + m.inline := hm ▸ (sh.mid om2 hom).2.2.1

theorem ShapeG.inline_le : m.inline ≤ 57 := hm ▸ (sh.mid om2 hom).2.2.2.1

/-- without an offset table the inline field holds the whole pointer -/
theorem ShapeG.inline_fits (h : array = false) : (level bt bound (om2 + 3)).length < 2^m.inline := hm ▸ (sh.mid om2 hom).2.2.2.2.1 h

theorem ShapeG.offCount (h : array = true) : (m.offEnd - m.offBegin) / 8 = ((level bt bound (om2 + 3)).length >>> m.inline) + 1 :=
  hm ▸ (sh.mid om2 hom).2.2.2.2.2 h

end

/-- a usable quantiser: code widths the 25-bit reader handles, full tables of 32-bit patterns, codes inside the tables -/
structure QOK (order : Nat) (qs : QSpec) : Prop where
  pb : qs.probBits ≤ 25
  bb : qs.backoffBits ≤ 25
  plen : ∀ t, (qs.ptab t).length = 2^qs.probBits
  blen : ∀ t, (qs.btab t).length = 2^qs.backoffBits
  pval : ∀ t, ∀ x ∈ qs.ptab t, x < 2^32
  bval : ∀ t, ∀ x ∈ qs.btab t, x < 2^32
  pcode : ∀ g, qs.pcode g < 2^qs.probBits
  bcode : ∀ g, qs.bcode g < 2^qs.backoffBits

def QOK' (order : Nat) (q : Option QSpec) : Prop := ∀ qs, q = some qs → QOK order qs

theorem QOK'.none {order : Nat} : QOK' order none := fun _ h => nomatch h

theorem QOK'.bits {order : Nat} {q : Option QSpec} (qk : QOK' order q) :
    ∀ qs, q = some qs → qs.probBits ≤ 25 ∧ qs.backoffBits ≤ 25 := fun qs h => ⟨(qk qs h).pb, (qk qs h).bb⟩

/-- a quantiser with all-zero tables and codes satisfies `QOK` (the layout does not depend on the values) -/
theorem QOK.zeros (order pb bb : Nat) (hpb : pb ≤ 25) (hbb : bb ≤ 25) :
    QOK order ⟨pb, bb, fun _ => List.replicate (2^pb) 0, fun _ => List.replicate (2^bb) 0, fun _ => 0, fun _ => 0⟩ :=
  ⟨hpb, hbb, fun _ => List.length_replicate, fun _ => List.length_replicate,
    fun _ _ hx => (List.eq_of_mem_replicate hx).symm ▸ Nat.two_pow_pos 32,
    fun _ _ hx => (List.eq_of_mem_replicate hx).symm ▸ Nat.two_pow_pos 32,
    fun _ => Nat.two_pow_pos pb, fun _ => Nat.two_pow_pos bb⟩

/-- the bits the pointers of the built trie return for key `g` -/
def pvG (bt : BT) (q : Option QSpec) (g : List Nat) : Nat :=
  match q with
  | none => if g.length = 1 then (valuesOf bt g).1 else (valuesOf bt g).1 % 2^31 + 2^31
  | some qs => if g.length = 1 then (valuesOf bt g).1 else (qs.ptab (g.length - 2)).getD (qs.pcode g) 0

def bvG (bt : BT) (q : Option QSpec) (g : List Nat) : Nat :=
  match q with
  | none => (valuesOf bt g).2
  | some qs => if g.length = 1 then (valuesOf bt g).2 else (qs.btab (g.length - 2)).getD (qs.bcode g) 0

theorem uniRegion_ok (bt : BT) (bound U : Nat) : (uniRegion bt bound U).OK := by
  refine RegionSpec.ok_of_slots _ (by simp [uniRegion]) (by simp [uniRegion, Gen.C04.sizeofTrieUnigramValue]) ?_
  intro i s v _ hs hv
  have h3 : s < 3 := hs
  rcases (by omega : s = 0 ∨ s = 1 ∨ s = 2) with rfl | rfl | rfl <;>
    simp only [uniRegion, Nat.reduceEqDiff, if_false, if_true] at hv <;> (try split at hv) <;>
    first | exact lt_of_some_mod hv | cases hv

theorem bytesRegion_ok (off : Nat) (bytes : List Nat) : (bytesRegion off bytes).OK := .of_array _ 8 _ rfl (Nat.le_refl _) rfl
theorem tabRegion_ok (off : Nat) (tab : List Nat) : (tabRegion off tab).OK := .of_array _ 32 _ rfl (Nat.le_refl _) rfl
theorem offRegion_ok (off : Nat) (tab : List Nat) : (offRegion off tab).OK := .of_array _ 64 _ rfl (Nat.le_refl _) rfl

theorem midRegionG_slots (bt : BT) (bound k : Nat) (m : MiddleRegion) (q : Option QSpec) :
    (midRegionG bt bound k m q).slots =
      [(0, m.wordBits), (m.wordBits, valWidth₁ q), (m.wordBits + valWidth₁ q, valWidth₂ q), (m.wordBits + m.quantBits, m.inline)] := by
  cases q <;> rfl

theorem midRegionG_ok {bt : BT} {bound k : Nat} {m : MiddleRegion} {q : Option QSpec}
    (hq : m.quantBits = QB q) (ht : m.totalBits = m.wordBits + QB q + m.inline) : (midRegionG bt bound k m q).OK := by
  have hab := valWidth_add q
  have hsl := midRegionG_slots bt bound k m q
  have hst : (midRegionG bt bound k m q).stride = m.totalBits := rfl
  refine RegionSpec.ok_of_slots _ ?_ ?_ ?_
  · rw [hsl]
    simp only [List.pairwise_cons, List.mem_cons, List.not_mem_nil, or_false, List.Pairwise.nil, and_true, forall_eq_or_imp,
      forall_eq, false_imp_iff, implies_true]
    omega
  · rw [hsl, hst]
    simp only [List.forall_mem_cons, List.not_mem_nil, false_imp_iff, implies_true, and_true]
    omega
  · intro i s v _ hs hval
    rw [hsl] at hs
    rw [RegionSpec.slotLen, hsl]
    have h4 : s < 4 := hs
    rcases (by omega : s = 0 ∨ s = 1 ∨ s = 2 ∨ s = 3) with rfl | rfl | rfl | rfl <;>
      simp only [midRegionG, Nat.reduceEqDiff, if_false, if_true] at hval <;> (try split at hval) <;>
      first | exact lt_of_some_mod hval | (cases q <;> exact lt_of_some_mod hval) | cases hval

theorem longRegionG_ok {bt : BT} {bound order base W T : Nat} {q : Option QSpec} (ht : T = W + LB q) :
    (longRegionG bt bound order base W T q).OK := by
  have hsl : (longRegionG bt bound order base W T q).slots = [(0, W), (W, LB q)] := by cases q <;> rfl
  have hst : (longRegionG bt bound order base W T q).stride = T := rfl
  refine RegionSpec.ok_of_slots _ ?_ ?_ ?_
  · rw [hsl]
    simp only [List.pairwise_cons, List.mem_cons, List.not_mem_nil, or_false, List.Pairwise.nil, and_true, forall_eq,
      false_imp_iff, implies_true]
    omega
  · rw [hsl, hst]
    simp only [List.forall_mem_cons, List.not_mem_nil, false_imp_iff, implies_true, and_true]
    omega
  · intro i s v _ hs hval
    rw [hsl] at hs
    rw [RegionSpec.slotLen, hsl]
    have h2 : s < 2 := hs
    rcases (by omega : s = 0 ∨ s = 1) with rfl | rfl <;> simp only [longRegionG, Nat.reduceEqDiff, if_false, if_true] at hval <;>
      first | exact lt_of_some_mod hval | (cases q <;> exact lt_of_some_mod hval)

section
variable {bt : BT} {bound order start : Nat} {q : Option QSpec} {qs : QSpec} {array : Bool} {bh : Nat}

theorem uniG_mem :
    uniRegion bt bound (setupG bt bound order start q array bh).unigram ∈ regionsG bt bound order start q array bh :=
  List.mem_append_left _ (List.mem_append_left _ (List.mem_append_right _ (List.mem_singleton_self _)))

theorem longG_mem :
    longRegionG bt bound order (setupG bt bound order start q array bh).longest.1 (setupG bt bound order start q array bh).longest.2.1
      (setupG bt bound order start q array bh).longest.2.2 q ∈ regionsG bt bound order start q array bh :=
  List.mem_append_right _ (List.mem_singleton_self _)

theorem middleRegionsG_sub (om2 : Nat)
    (h : om2 < (setupG bt bound order start q array bh).middles.length) (R : RegionSpec)
    (hR : R ∈ middleRegionsG bt bound q array bh om2 (midG bt bound order start q array bh om2)) :
    R ∈ regionsG bt bound order start q array bh :=
  List.mem_append_left _ (List.mem_append_right _ (List.mem_flatMap.mpr ⟨_, zip_range_mem _ om2 h, hR⟩))

theorem midG_mem (om2 : Nat) (h : om2 < (setupG bt bound order start q array bh).middles.length)
    {m : MiddleRegion} (hm : midG bt bound order start q array bh om2 = m) :
    midRegionG bt bound (om2 + 2) m q ∈ regionsG bt bound order start q array bh :=
  hm ▸ middleRegionsG_sub om2 h _ (List.mem_append_right _ (List.mem_singleton_self _))

theorem offG_mem (om2 : Nat) (h : om2 < (setupG bt bound order start q true bh).middles.length)
    {m : MiddleRegion} (hm : midG bt bound order start q true bh om2 = m) :
    offRegion m.offBegin (bhikTable m.inline ((m.offEnd - m.offBegin) / 8) (childStarts bt (level bt bound (om2 + 2))))
      ∈ regionsG bt bound order start q true bh :=
  hm ▸ middleRegionsG_sub om2 h _ (List.mem_append_left _ (List.mem_cons_of_mem _ (List.mem_singleton_self _)))

theorem quantG_sub (R : RegionSpec)
    (hR : R ∈ quantRegionsG order (setupG bt bound order start q array bh) q) : R ∈ regionsG bt bound order start q array bh :=
  List.mem_append_left _ (List.mem_append_left _ (List.mem_append_left _ hR))

theorem ptabG_mem (t : Nat) (ht : t + 2 < order) :
    tabRegion ((setupG bt bound order start (some qs) array bh).quantTables.getD (2 * t) 0) (qs.ptab t)
      ∈ regionsG bt bound order start (some qs) array bh :=
  quantG_sub _ (List.mem_append_left _ (List.mem_append_right _
    (List.mem_flatMap.mpr ⟨t, List.mem_range.mpr (Nat.lt_sub_of_add_lt ht), List.mem_cons_self⟩)))

theorem btabG_mem (t : Nat) (ht : t + 2 < order) :
    tabRegion ((setupG bt bound order start (some qs) array bh).quantTables.getD (2 * t + 1) 0) (qs.btab t)
      ∈ regionsG bt bound order start (some qs) array bh :=
  quantG_sub _ (List.mem_append_left _ (List.mem_append_right _
    (List.mem_flatMap.mpr ⟨t, List.mem_range.mpr (Nat.lt_sub_of_add_lt ht), List.mem_cons_of_mem _ (List.mem_singleton_self _)⟩)))

theorem ltabG_mem :
    tabRegion ((setupG bt bound order start (some qs) array bh).quantTables.getD (2 * (order - 2)) 0) (qs.ptab (order - 2))
      ∈ regionsG bt bound order start (some qs) array bh :=
  quantG_sub _ (List.mem_append_right _ (List.mem_singleton_self _))

theorem regionsG_ok
    (sh : ShapeG bt bound order start q array bh) : ∀ R ∈ regionsG bt bound order start q array bh, R.OK := by
  intro R hR
  unfold regionsG at hR
  simp only [List.mem_append, List.mem_singleton, List.mem_flatMap] at hR
  rcases hR with ((hq | hu) | ⟨mi, hmi, hR⟩) | hl
  · cases q with
    | none => simp [quantRegionsG] at hq
    | some qs =>
      simp only [quantRegionsG, List.mem_append, List.mem_flatMap, List.mem_range, List.mem_cons, List.not_mem_nil,
        or_false] at hq
      rcases hq with (rfl | ⟨t, _, rfl | rfl⟩) | rfl
      · exact bytesRegion_ok _ _
      · exact tabRegion_ok _ _
      · exact tabRegion_ok _ _
      · exact tabRegion_ok _ _
  · rw [hu]; exact uniRegion_ok _ _ _
  · obtain ⟨hidx, hm⟩ := zip_range_of_mem _ mi hmi
    have hom : mi.2 + 2 < order := by have := sh.nmid; unfold setupG at this; omega
    have hmid : mi.1 = midG bt bound order start q array bh mi.2 := hm
    rw [hmid] at hR
    have hmain : (midRegionG bt bound (mi.2 + 2) (midG bt bound order start q array bh mi.2) q).OK :=
      midRegionG_ok (sh.quantBits hom rfl) (by rw [sh.totalBits hom rfl, sh.wordBits hom rfl])
    cases array with
    | false =>
      simp only [middleRegionsG, Bool.false_eq_true, if_false, List.nil_append, List.mem_singleton] at hR
      rw [hR]; exact hmain
    | true =>
      simp only [middleRegionsG, if_true, List.cons_append, List.nil_append, List.mem_cons, List.not_mem_nil, or_false] at hR
      rcases hR with rfl | rfl | rfl
      · exact bytesRegion_ok _ _
      · exact offRegion_ok _ _
      · exact hmain
  · rw [hl]
    exact longRegionG_ok (by
      have := sh.long; unfold setupG at this; rw [this.2, this.1])

theorem ofTableG_read
    (sh : ShapeG bt bound order start q array bh) (R : RegionSpec) (hR : R ∈ regionsG bt bound order start q array bh)
    (i s v : Nat) (hi : i < R.nrec) (hs : s < R.slots.length) (hval : R.val i s = some v) :
    ((ofTableG bt bound order start q array bh).mem >>> (R.base + i * R.stride + R.slotOff s)) % 2^(R.slotLen s) = v :=
  regions_read _ (regionsG_ok sh) sh.ord R hR i s v hi hs hval

theorem bhikTable_spec (bits : Nat) (vs : List Nat) (hne : vs ≠ []) (hmono : vs.Pairwise (· ≤ ·)) :
    (bhikTable bits ((vs.getLast hne >>> bits) + 1) vs).length = (vs.getLast hne >>> bits) + 1 ∧
    (∀ x ∈ bhikTable bits ((vs.getLast hne >>> bits) + 1) vs, x < vs.length) ∧
    ∀ i, i + 1 < vs.length →
      KV.Bhiksha.readNext bits (bhikTable bits ((vs.getLast hne >>> bits) + 1) vs) (vs.map (· % 2^bits)) i
        = (vs.getD i 0, vs.getD (i + 1) 0) := by
  obtain ⟨_, hlen, hmem, hinl, hrd⟩ := KV.Bhiksha.array_table bits vs hne hmono
  refine ⟨congrArg (· + 1) hlen, fun x hx => ?_, fun i hi => hinl ▸ hrd i hi⟩
  rcases List.mem_cons.mp hx with rfl | hx
  · exact List.length_pos_iff.mpr hne
  · exact hmem x hx

theorem readNext_array (mem bits ob count bitOff index T : Nat) (vs : List Nat) (hne : vs ≠ []) (hmono : vs.Pairwise (· ≤ ·))
    (hcount : count = (vs.getLast hne >>> bits) + 1)
    (htab : ∀ j, j < count → load64 mem (ob + 8 * j) = (bhikTable bits count vs).getD j 0)
    (hi : index + 1 < vs.length)
    (h1 : readInt57 mem bitOff bits = vs.getD index 0 % 2^bits)
    (h2 : readInt57 mem (bitOff + T) bits = vs.getD (index + 1) 0 % 2^bits) :
    readNext mem (.array bits ob count) bitOff index T = (vs.getD index 0, vs.getD (index + 1) 0) := by
  subst hcount
  obtain ⟨hlen, _, hrd⟩ := bhikTable_spec bits vs hne hmono
  have htable : (List.range ((vs.getLast hne >>> bits) + 1)).map (fun j => load64 mem (ob + 8 * j))
      = bhikTable bits ((vs.getLast hne >>> bits) + 1) vs := by
    apply List.ext_getElem
    · simp [hlen]
    · intro j h1 h2
      simp only [List.length_map, List.length_range] at h1
      simp only [List.getElem_map, List.getElem_range]
      rw [htab j h1, ← List.getElem_eq_getD (h := h2)]
  have := hrd index hi
  unfold KV.Bhiksha.readNext at this
  rw [getD_map _ vs 0 0 (Nat.lt_of_succ_lt hi), getD_map _ vs 0 0 hi] at this
  unfold readNext
  simp only [htable, h1, h2]
  exact this

theorem ofTableG_order :
    (ofTableG bt bound order start q array bh).order = order := by
  simp [ofTableG, ofLayout, countsOf]

theorem ofTableG_bound (bt : BT) (bound order start : Nat) (q : Option QSpec) (array : Bool) (bh : Nat) (ho : 1 ≤ order) :
    (ofTableG bt bound order start q array bh).bound = bound :=
  countsOf_cnt_zero bt bound order ho

theorem ofTableG_middle_eq (om2 : Nat) (h : om2 < (setupG bt bound order start q array bh).middles.length)
    {m : MiddleRegion} (hm : midG bt bound order start q array bh om2 = m) :
    (ofTableG bt bound order start q array bh).middle om2 =
      { base := m.packed, wordBits := m.wordBits, totalBits := m.totalBits, quantBits := m.quantBits,
        maxVocab := Binary.cnt (countsOf bt bound order) 0,
        bhik := if array then .array m.inline m.offBegin ((m.offEnd - m.offBegin) / 8) else .dont m.inline } := by
  subst hm
  show ((setupG bt bound order start q array bh).middles.map _).getD om2 default = _
  simp [List.getD_eq_getElem?_getD, h, midG]

theorem pvG_uni (bt : BT) (q : Option QSpec) (w : Nat) : pvG bt q [w] = (valuesOf bt [w]).1 := by cases q <;> simp [pvG]
theorem bvG_uni (bt : BT) (q : Option QSpec) (w : Nat) : bvG bt q [w] = (valuesOf bt [w]).2 := by cases q <;> simp [bvG]

/-- the entry of the plain layout is the entry of the bits the general layout returns without quantisation -/
theorem entryOf_eq_entryV (fval : Nat → Rat) (bt : BT) (order : Nat) (g : List Nat) :
    entryOf fval bt order g (valuesOf bt g) = entryV fval bt order (pvG bt none) (bvG bt none) g := rfl

theorem pvG_none (bt : BT) (g : List Nat) (h : 2 ≤ g.length) : pvG bt none g = (valuesOf bt g).1 % 2^31 + 2^31 :=
  if_neg (by omega)
theorem pvG_some (bt : BT) (qs : QSpec) (g : List Nat) (h : 2 ≤ g.length) :
    pvG bt (some qs) g = (qs.ptab (g.length - 2)).getD (qs.pcode g) 0 := if_neg (by omega)
theorem bvG_some (bt : BT) (qs : QSpec) (g : List Nat) (h : 2 ≤ g.length) :
    bvG bt (some qs) g = (qs.btab (g.length - 2)).getD (qs.bcode g) 0 := if_neg (by omega)

theorem uniRegion_val (bt : BT) (bound U i : Nat) (hi : i < bound) :
    (uniRegion bt bound U).val i 0 = some ((valuesOf bt [i]).1 % 2^32) ∧
    (uniRegion bt bound U).val i 1 = some ((valuesOf bt [i]).2 % 2^32) := by
  simp [uniRegion, hi]

theorem ofTableG_unigramRec
    (ok : BTOK bt bound order) (hv : ValsOK bt) (sh : ShapeG bt bound order start q array bh) (w : Nat) (hw : w < bound) :
    unigramRec (ofTableG bt bound order start q array bh) w =
      { probBits := pvG bt q [w], backoffBits := bvG bt q [w],
        range := (startOf bt (level bt bound 1) w, startOf bt (level bt bound 1) (w + 1)) } := by
  -- bit addresses of the fields of `UnigramValue` number `w`, and of `next` of number `w + 1`: `16` is
  -- `Gen.C04.sizeofTrieUnigramValue`, `4` and `8` the byte offsets of `backoff` and `next`
  have e0 : ∀ U, 8 * (U + 16 * w) = 8 * U + w * (8 * 16) + 0 := fun U => byte_field_addr U 16 w 0
  have e1 : ∀ U, 8 * (U + 16 * w + 4) = 8 * U + w * (8 * 16) + 32 := fun U => byte_field_addr U 16 w 4
  have e2 : ∀ U, 8 * (U + 16 * w + 8) = 8 * U + w * (8 * 16) + 64 := fun U => byte_field_addr U 16 w 8
  have e3 : ∀ U, 8 * (U + 16 * w + 16 + 8) = 8 * U + (w + 1) * (8 * 16) + 64 := fun U => by
    rw [Nat.add_assoc U, ← Nat.mul_succ]; exact byte_field_addr U 16 (w + 1) 8
  have rd := ofTableG_read sh _ (uniG_mem)
  have hU : (ofTableG bt bound order start q array bh).unigram = (setupG bt bound order start q array bh).unigram := rfl
  generalize (setupG bt bound order start q array bh).unigram = U at rd hU
  obtain ⟨v0, v1⟩ := uniRegion_val bt bound U w hw
  have r0 : ((ofTableG bt bound order start q array bh).mem >>> (8 * U + w * (8 * 16) + 0)) % 2^32 = (valuesOf bt [w]).1 :=
    (rd w 0 _ (Nat.lt_succ_of_lt hw) (by show _ < 3; decide) v0).trans (Nat.mod_eq_of_lt (valuesOf_lt bt hv [w]).1)
  have r1 : ((ofTableG bt bound order start q array bh).mem >>> (8 * U + w * (8 * 16) + 32)) % 2^32 = (valuesOf bt [w]).2 :=
    (rd w 1 _ (Nat.lt_succ_of_lt hw) (by show _ < 3; decide) v1).trans (Nat.mod_eq_of_lt (valuesOf_lt bt hv [w]).2)
  have r2 : ∀ j, j ≤ bound → ((ofTableG bt bound order start q array bh).mem >>> (8 * U + j * (8 * 16) + 64)) % 2^64
      = startOf bt (level bt bound 1) j := by
    intro j hj
    refine (rd j 2 _ (Nat.lt_succ_of_le hj) (by show _ < 3; decide) rfl).trans ?_
    rw [childStarts_getD _ _ j (by rw [level1_length]; exact hj)]
    apply Nat.mod_eq_of_lt
    exact Nat.lt_of_le_of_lt (startOf_le bt bound 0 j) (sh.small.2 2 ok.order2)
  unfold unigramRec
  simp only [hU, Gen.C04.sizeofTrieUnigramValue, load32, load64]
  rw [e0, e1, e2, e3, r0, r1, r2 w (Nat.le_of_lt hw), r2 (w + 1) hw, pvG_uni, bvG_uni]

theorem ofTableG_quant :
    (ofTableG bt bound order start (some qs) array bh).quant =
      some { probBits := qs.probBits, backoffBits := qs.backoffBits,
             tables := (setupG bt bound order start (some qs) array bh).quantTables } := rfl

theorem ofTableG_quant_none :
    (ofTableG bt bound order start none array bh).quant = none := rfl

theorem tab_read
    (sh : ShapeG bt bound order start q array bh) (off : Nat) (tab : List Nat)
    (hR : tabRegion off tab ∈ regionsG bt bound order start q array bh) (hval : ∀ x ∈ tab, x < 2^32) (c : Nat) (hc : c < tab.length) :
    load32 (ofTableG bt bound order start q array bh).mem (off + 4 * c) = tab.getD c 0 := by
  have e : 8 * (off + 4 * c) = 8 * off + c * 32 + 0 := byte_field_addr off 4 c 0
  unfold load32
  rw [e]
  exact (ofTableG_read sh _ hR c 0 _ hc Nat.zero_lt_one rfl).trans
    (Nat.mod_eq_of_lt (hval _ (getD_mem 0 hc)))

theorem level_word_fits (bt : BT) (bound order : Nat) (ok : BTOK bt bound order) (hb : bound < 2^64) (k i : Nat) (hk : 1 ≤ k)
    (hi : i < (level bt bound k).length) :
    ((level bt bound k).getD i []).getLast?.getD 0 % 2^(requiredBits bound) = ((level bt bound k).getD i []).getLast?.getD 0 :=
  Nat.mod_eq_of_lt (requiredBits_fits bound _ hb (Nat.le_of_lt (level_word_lt bt bound order ok k i hk hi)))

theorem ofTableG_longest
    (ok : BTOK bt bound order) (sh : ShapeG bt bound order start q array bh) (qk : QOK' order q)
    (i : Nat) (hi : i < (level bt bound order).length) :
    longKey (ofTableG bt bound order start q array bh) i = ((level bt bound order).getD i []).getLast?.getD 0 ∧
    longestProbBits (ofTableG bt bound order start q array bh) i = pvG bt q ((level bt bound order).getD i []) := by
  have ho := ok.order2
  have rd := ofTableG_read sh _ (longG_mem)
  obtain ⟨hlw, hlt⟩ := sh.long
  have hlong : (ofTableG bt bound order start q array bh).longest =
      { base := (setupG bt bound order start q array bh).longest.1, wordBits := (setupG bt bound order start q array bh).longest.2.1,
        totalBits := (setupG bt bound order start q array bh).longest.2.2, maxVocab := Binary.cnt (countsOf bt bound order) 0 } := rfl
  rw [hlw, hlt] at rd hlong
  generalize (setupG bt bound order start q array bh).longest.1 = base at rd hlong
  have ho1 : 1 ≤ order := Nat.le_of_succ_le ho
  have hglen := level_getD_length bt bound order ok order i ho1 hi
  have hwfit := level_word_fits bt bound order ok sh.small.1 order i ho1 hi
  have h2 : 2 ≤ ((level bt bound order).getD i []).length := hglen.symm ▸ ho
  have r0 : ((ofTableG bt bound order start q array bh).mem >>> (8 * base + i * (requiredBits bound + LB q) + 0)) % 2^(requiredBits bound)
      = ((level bt bound order).getD i []).getLast?.getD 0 := (rd i 0 _ hi (by show _ < 2; decide) rfl).trans hwfit
  constructor
  · unfold longKey wordAt recAddr
    rw [hlong, read_eq_57 _ _ _ sh.wbits]
    exact r0
  · unfold longestProbBits longestValue recAddr
    simp only [hlong]
    cases q with
    | none =>
      have r1 : ((ofTableG bt bound order start none array bh).mem >>> (8 * base + i * (requiredBits bound + 31) + requiredBits bound)) % 2^31
          = (valuesOf bt ((level bt bound order).getD i [])).1 % 2^31 := rd i 1 _ hi (by show _ < 2; decide) rfl
      rw [ofTableG_quant_none, pvG_none bt _ h2]
      simp only [LB]
      rw [readFloat31_eq, r1]
    | some qs =>
      have qok := qk qs rfl
      have r1 : ((ofTableG bt bound order start (some qs) array bh).mem
            >>> (8 * base + i * (requiredBits bound + qs.probBits) + requiredBits bound)) % 2^qs.probBits
          = qs.pcode ((level bt bound order).getD i []) :=
        (rd i 1 _ hi (by show _ < 2; decide) rfl).trans (Nat.mod_eq_of_lt (qok.pcode _))
      rw [ofTableG_quant, pvG_some bt qs _ h2, hglen]
      simp only [LB]
      rw [read25_eq _ _ _ qok.pb, r1, ofTableG_order,
        tab_read sh _ _ (ltabG_mem) (qok.pval _) _
          (by rw [qok.plen]; exact qok.pcode _)]

theorem offCount_eq (bt : BT) (bound k inline count : Nat)
    (h : count = ((level bt bound (k + 2)).length >>> inline) + 1) :
    count = ((childStarts bt (level bt bound (k + 1))).getLast (childStarts_ne bt _) >>> inline) + 1 := by
  rw [childStarts_last]; exact h

theorem offG_read
    (sh : ShapeG bt bound order start q true bh) (om2 : Nat) (hom : om2 + 2 < order)
    (m : MiddleRegion) (hm : midG bt bound order start q true bh om2 = m) (j : Nat) (hj : j < (m.offEnd - m.offBegin) / 8) :
    load64 (ofTableG bt bound order start q true bh).mem (m.offBegin + 8 * j)
      = (bhikTable m.inline ((m.offEnd - m.offBegin) / 8) (childStarts bt (level bt bound (om2 + 2)))).getD j 0 := by
  have e : 8 * (m.offBegin + 8 * j) = 8 * m.offBegin + j * 64 + 0 := byte_field_addr m.offBegin 8 j 0
  have hR := offG_mem om2 (sh.mid_lt hom) hm
  have harr := sh.offCount hom hm rfl
  have hcount := offCount_eq bt bound (om2 + 1) m.inline _ harr
  obtain ⟨htl, hbound, _⟩ := bhikTable_spec m.inline (childStarts bt (level bt bound (om2 + 2))) (childStarts_ne bt _) (childStarts_mono bt _)
  rw [← hcount] at htl hbound
  have hsmall := sh.small.2 (om2 + 2) (Nat.le_of_lt hom)
  generalize bhikTable m.inline ((m.offEnd - m.offBegin) / 8) (childStarts bt (level bt bound (om2 + 2))) = table at *
  have hjl : j < table.length := by rw [htl]; exact hj
  unfold load64
  rw [e]
  refine (ofTableG_read sh _ hR j 0 _ hjl Nat.zero_lt_one rfl).trans (Nat.mod_eq_of_lt ?_)
  have hx := hbound _ (getD_mem 0 hjl)
  rw [childStarts_length] at hx
  omega

theorem ofTableG_next
    (sh : ShapeG bt bound order start q array bh) (om2 i : Nat) (hom : om2 + 2 < order) (hi : i < (level bt bound (om2 + 2)).length)
    (m : MiddleRegion) (hm : midG bt bound order start q array bh om2 = m) :
    readNext (ofTableG bt bound order start q array bh).mem
      (if array then .array m.inline m.offBegin ((m.offEnd - m.offBegin) / 8) else .dont m.inline)
      (8 * m.packed + i * m.totalBits + m.wordBits + m.quantBits) i m.totalBits
      = (startOf bt (level bt bound (om2 + 2)) i, startOf bt (level bt bound (om2 + 2)) (i + 1)) := by
  have hI57 := sh.inline_le hom hm
  have rd := ofTableG_read sh _ (midG_mem om2 (sh.mid_lt hom) hm)
  have r : ∀ j, j ≤ (level bt bound (om2 + 2)).length →
      readInt57 (ofTableG bt bound order start q array bh).mem (8 * m.packed + j * m.totalBits + (m.wordBits + m.quantBits)) m.inline
        = startOf bt (level bt bound (om2 + 2)) j % 2^m.inline := by
    intro j hj
    rw [read_eq_57 _ _ _ hI57, ← childStarts_getD _ _ j hj]
    exact rd j 3 _ (Nat.lt_succ_of_le hj) (by show _ < 4; decide) rfl
  rw [Nat.add_assoc _ m.wordBits m.quantBits]
  cases array with
  | false =>
    have hlt := fun j => Nat.lt_of_le_of_lt (startOf_le bt bound (om2 + 1) j) (sh.inline_fits hom hm rfl)
    show (readInt57 _ _ _, readInt57 _ _ _) = _
    rw [next_rec_addr, r i (Nat.le_of_lt hi), r (i + 1) hi, Nat.mod_eq_of_lt (hlt i), Nat.mod_eq_of_lt (hlt (i + 1))]
  | true =>
    show readNext _ (.array _ _ _) _ _ _ = _
    -- in this order: the entry count of the offset table, its entries, `i + 1` indexes the pointers, the two inline reads
    rw [readNext_array _ _ _ _ _ i _ (childStarts bt (level bt bound (om2 + 2))) (childStarts_ne bt _) (childStarts_mono bt _)
      (offCount_eq bt bound (om2 + 1) m.inline _ (sh.offCount hom hm rfl))
      (fun j hj => offG_read sh om2 hom m hm j hj)
      (by rw [childStarts_length]; exact Nat.succ_lt_succ hi)
      (by rw [r i (Nat.le_of_lt hi), childStarts_getD _ _ i (Nat.le_of_lt hi)])
      (by rw [next_rec_addr, r (i + 1) hi, childStarts_getD _ _ (i + 1) hi]),
      childStarts_getD _ _ i (Nat.le_of_lt hi), childStarts_getD _ _ (i + 1) hi]

def valSlot₁ (bt : BT) (q : Option QSpec) (g : List Nat) : Nat :=
  match q with | none => (valuesOf bt g).1 % 2^31 | some qs => qs.bcode g % 2^qs.backoffBits
def valSlot₂ (bt : BT) (q : Option QSpec) (g : List Nat) : Nat :=
  match q with | none => (valuesOf bt g).2 % 2^32 | some qs => qs.pcode g % 2^qs.probBits

theorem midRegionG_val (bt : BT) (bound k : Nat) (m : MiddleRegion) (q : Option QSpec) (i : Nat) (hi : i < (level bt bound k).length) :
    (midRegionG bt bound k m q).val i 0 = some (((level bt bound k).getD i []).getLast?.getD 0 % 2^m.wordBits) ∧
    (midRegionG bt bound k m q).val i 1 = some (valSlot₁ bt q ((level bt bound k).getD i [])) ∧
    (midRegionG bt bound k m q).val i 2 = some (valSlot₂ bt q ((level bt bound k).getD i [])) := by
  cases q <;> simp [midRegionG, hi, valSlot₁, valSlot₂]

theorem ofTableG_middle
    (ok : BTOK bt bound order) (hv : ValsOK bt) (sh : ShapeG bt bound order start q array bh) (qk : QOK' order q)
    (om2 i : Nat) (hom : om2 + 2 < order) (hi : i < (level bt bound (om2 + 2)).length) :
    midKey (ofTableG bt bound order start q array bh) om2 i = ((level bt bound (om2 + 2)).getD i []).getLast?.getD 0 ∧
    middleRec (ofTableG bt bound order start q array bh) om2 i =
      { probBits := pvG bt q ((level bt bound (om2 + 2)).getD i []), backoffBits := bvG bt q ((level bt bound (om2 + 2)).getD i []),
        range := (startOf bt (level bt bound (om2 + 2)) i, startOf bt (level bt bound (om2 + 2)) (i + 1)) } := by
  generalize hm : midG bt bound order start q array bh om2 = m
  have hnext := ofTableG_next sh om2 i hom hi m hm
  have hmid := ofTableG_middle_eq om2 (sh.mid_lt hom) hm
  have rd := ofTableG_read sh _ (midG_mem om2 (sh.mid_lt hom) hm)
  have hw := sh.wordBits hom hm
  have hglen := level_getD_length bt bound order ok (om2 + 2) i (Nat.le_add_left 1 (om2 + 1)) hi
  have hwfit := level_word_fits bt bound order ok sh.small.1 (om2 + 2) i (Nat.le_add_left 1 (om2 + 1)) hi
  rw [← hw] at hwfit
  have hWle : m.wordBits ≤ 57 := hw ▸ sh.wbits
  obtain ⟨v0, v1, v2⟩ := midRegionG_val bt bound (om2 + 2) m q i hi
  have hirec : i < (level bt bound (om2 + 2)).length + 1 := Nat.lt_succ_of_lt hi
  generalize (level bt bound (om2 + 2)).getD i [] = g at *
  have r0 : ((ofTableG bt bound order start q array bh).mem >>> (8 * m.packed + i * m.totalBits + 0)) % 2^m.wordBits
      = g.getLast?.getD 0 := (rd i 0 _ hirec (by show _ < 4; decide) v0).trans hwfit
  have r1 : ((ofTableG bt bound order start q array bh).mem >>> (8 * m.packed + i * m.totalBits + m.wordBits)) % 2^(valWidth₁ q)
      = valSlot₁ bt q g := rd i 1 _ hirec (by show _ < 4; decide) v1
  have r2 : ((ofTableG bt bound order start q array bh).mem >>> (8 * m.packed + i * m.totalBits + (m.wordBits + valWidth₁ q))) % 2^(valWidth₂ q)
      = valSlot₂ bt q g := rd i 2 _ hirec (by show _ < 4; decide) v2
  have h2 : 2 ≤ g.length := hglen ▸ Nat.le_add_left 2 om2
  constructor
  · unfold midKey wordAt recAddr
    rw [hmid, read_eq_57 _ _ _ hWle]
    exact r0
  · unfold middleRec
    simp only [hmid, recAddr]
    rw [hnext]
    cases q with
    | none =>
      rw [ofTableG_quant_none, pvG_none bt g h2]
      simp only [middleValues, bvG, valWidth₁, valWidth₂, valSlot₁, valSlot₂] at r1 r2 ⊢
      rw [readFloat31_eq, readFloat32_eq, Nat.add_assoc _ m.wordBits 31, r1, r2, Nat.mod_eq_of_lt (valuesOf_lt bt hv g).2]
    | some qs =>
      have qok := qk qs rfl
      rw [ofTableG_quant, pvG_some bt qs g h2, bvG_some bt qs g h2, hglen, Nat.add_sub_cancel]
      simp only [middleValues, valWidth₁, valWidth₂, valSlot₁, valSlot₂] at r1 r2 ⊢
      rw [read25_eq _ _ _ qok.bb, read25_eq _ _ _ qok.pb, Nat.add_assoc _ m.wordBits qs.backoffBits, r1, r2,
        Nat.mod_eq_of_lt (qok.bcode _), Nat.mod_eq_of_lt (qok.pcode _),
        tab_read sh _ _ (ptabG_mem om2 hom) (qok.pval _) _
          (by rw [qok.plen]; exact qok.pcode _),
        tab_read sh _ _ (btabG_mem om2 hom) (qok.bval _) _
          (by rw [qok.blen]; exact qok.bcode _)]

theorem ofTableG_reads
    (ok : BTOK bt bound order) (hv : ValsOK bt) (sh : ShapeG bt bound order start q array bh) (qk : QOK' order q) :
    Reads (ofTableG bt bound order start q array bh) bt bound order (pvG bt q) (bvG bt q) := by
  have hb := countsOf_cnt_zero bt bound order (Nat.le_of_succ_le ok.order2)
  exact ⟨ofTableG_order, hb,
    fun om2 hom => (congrArg Middle.maxVocab (ofTableG_middle_eq om2 (sh.mid_lt hom) rfl)).trans hb, hb,
    ofTableG_unigramRec ok hv sh, fun om2 i => ofTableG_middle ok hv sh qk om2 i, ofTableG_longest ok sh qk⟩

end

theorem ofTableG_represents (fval : Nat → Rat) (bt : BT) (bound order start : Nat) (q : Option QSpec) (array : Bool) (bh : Nat)
    (ok : BTOK bt bound order) (hv : ValsOK bt) (sh : ShapeG bt bound order start q array bh) (qk : QOK' order q) :
    Represents fval (ofTableG bt bound order start q array bh) (tableOf (ftV fval bt order (pvG bt q) (bvG bt q)) order)
      (rngOf bt bound) :=
  reads_represents fval _ bt bound order _ _ ok (ofTableG_reads ok hv sh qk)

end KV.TrieLM
