import Proofs.LeftSem
import Proofs.TableBuild
/-! The table that probing and the repaired trie builder produce (`Table.build`) meets what the chart-scoring theorems
assume: `Hyp` (complete extends-right marks), and exact extends-left marks (`XLSound`). -/
namespace KV.Left
open KV.Arpa KV.Table KV.State KV.Score

variable {a : Arpa} {T : Table}

theorem isContext_of_entry (a : Arpa) (g : List Word) (y : Word) (h : (build a).lookup (y :: g) ≠ none) : isContext a g = true := by
  rw [build_lookup_ne_none] at h
  rcases h.2 with hr | hx
  · exact isContext_of_real a g y hr
  · obtain ⟨p, hp, _, hpre⟩ := (extendsLeft_iff _ _).mp hx
    exact (isContext_iff_key a g).mpr ⟨y, p, hp, hpre⟩

theorem hyp_build (a : Arpa) (wf : WellFormed a)
    (premise : ∀ g e, a.gram g = some e → e.backoff ≠ 0 → ∃ y, a.gram (y :: g) ≠ none) : Hyp a (build a) := by
  refine ⟨wf, build_tableFor a wf _, ?_, premise⟩
  intro g y hg h
  have hctx := isContext_of_entry a g y h
  have hin : (build a).lookup g ≠ none := by
    have h2 : (build a).lookup (y :: g) ≠ none := h
    -- the context of a table entry is a table entry: real contexts are present, blanks are prefixes of real n-grams
    rw [build_lookup_ne_none] at h2 ⊢
    refine ⟨hg, ?_⟩
    rcases h2.2 with hr | hx
    · exact Or.inl (wf.ctx_present y g hg hr)
    · obtain ⟨p, hp, hl, hpre⟩ := (extendsLeft_iff _ _).mp hx
      obtain ⟨s, hs⟩ := hpre
      subst hs
      have hreal : a.gram (g ++ s) ≠ none := wf.ctx_present y (g ++ s) (by simp [hg]) (by simpa using hp)
      by_cases hsn : s = []
      · subst hsn; simp at hl
      · right
        rw [extendsLeft_iff]
        exact ⟨g ++ s, hreal, by
          simp only [List.length_append]
          have : 0 < s.length := List.length_pos_iff.mpr hsn
          omega, List.prefix_append _ _⟩
  cases g with
  | nil => exact absurd rfl hg
  | cons w ctx =>
    unfold Table.xr
    simp only [build]
    cases hgr : a.gram (w :: ctx) with
    | some e => simp [hctx]
    | none =>
      have hx : extendsLeft a (w :: ctx) = true := by
        rw [build_lookup_ne_none] at hin
        rcases hin.2 with h' | h'
        · exact absurd hgr h'
        · exact h'
      simp [hx, hctx]

/-- the extends-left marks are exact (true for every correctly built table; not for the probing sign-bit quirk) -/
def XLSound (T : Table) : Prop := ∀ g, T.xl g = true → ∃ x, T.lookup (g ++ [x]) ≠ none

theorem xlSound_build (a : Arpa) : XLSound (build a) := by
  intro g hg
  obtain ⟨t, ht, hxl⟩ := xl_lookup hg
  have hxa : extendsLeft a g = true := by
    cases g with
    | nil => simp [build] at ht
    | cons w ctx =>
      simp only [build] at ht
      cases hgr : a.gram (w :: ctx) with
      | some e => simp [hgr] at ht; subst ht; exact hxl
      | none =>
        by_cases hx : extendsLeft a (w :: ctx) = true
        · exact hx
        · simp [hgr, hx] at ht
  obtain ⟨p, hp, hl, s, hs⟩ := (extendsLeft_iff _ _).mp hxa
  subst hs
  cases s with
  | nil => simp at hl
  | cons x s' =>
    refine ⟨x, ?_⟩
    rw [build_lookup_ne_none]
    refine ⟨by simp, ?_⟩
    cases s' with
    | nil => left; simpa using hp
    | cons y s'' =>
      right
      rw [extendsLeft_iff]
      exact ⟨g ++ x :: y :: s'', hp, by simp, by
        have : g ++ x :: y :: s'' = (g ++ [x]) ++ (y :: s'') := by simp
        rw [this]; exact List.prefix_append _ _⟩

end KV.Left
