import Proofs.KNC07Chain
import Proofs.KNSorters
/-!
The statements about several chains at once that `lmplz_indep_final3`, `lmplz_indep_final4` (Properties/C07.lean) take as
premises, as `Prop`s: the adder fan-in into `MergeRight` over two chains (`FaninDelivers`), the discounts barrier
(`BarrierIndep`), `SortAndReadTwice` and step 3 of one order over its three chains (`Step3Delivers`).  They are proved in
Properties/C07.lean from `source_delivers`, `stage_on_chain` and the run-by-run lemmas of `Proofs/KNC07Stages.lean`.
-/
namespace KV.C07
open KV.KN KV.KN.Blocks KV.KN.ChainStages KV.KN.Interp KV.Chain

-- nothing in the development uses this
theorem addRight_blocks (d : Disc) (inBlocks : List (List Emit)) :
    addRightStream d inBlocks =
      (runBlocks (arBlock d) [] inBlocks).flatten ++ arFinish d (arRun d [] inBlocks.flatten).1 := by
  rw [(arBlock_streaming d).flatten]; rfl

theorem map_congr_forall₂ {α β : Type} {R : α → α → Prop} {f : α → β} (hf : ∀ a b, R a b → f a = f b)
    {l₁ l₂ : List α} (h : List.Forall₂ R l₁ l₂) : l₁.map f = l₂.map f := by
  induction h with
  | nil => rfl
  | cons h _ ih => rw [List.map_cons, List.map_cons, hf _ _ h, ih]

/-- the adder fan-in and the two-chain composition, for all codings, partitions, chain geometries and
pairs of schedules -/
def FaninDelivers : Prop :=
  ∀ (TA : Transducers Unit) (cG : BlockCode Gam) (cE : BlockCode Emit) (cU : BlockCode Uninterp) (d : Disc)
    (es : List Emit) (inBlocksA : List (List Emit)), inBlocksA.flatten = es →
    ∀ (sumBlocks : List (List Gam)), sumBlocks.flatten = addRightStream d inBlocksA →
    ∀ (blocksB : List (List Emit)), blocksB.flatten = es →
    ∀ (bA mA bB mB : Nat) (cA cB : Chain), 0 < bA → 1 ≤ mA → 0 < bB → 2 ≤ mB →
    Chain.Reach (Chain.initT bA mA (sumBlocks.map cG.enc) TA.toStageFn.tr) cA → cA.main = .finished →
    (((valsOf (cA.st 1).inp).map cG.dec).flatten = (ctxRuns es).map (addRight d))
    ∧ (Chain.Reach (Chain.initT bB mB (blocksB.map cE.enc)
        (liftStage cE cU (mrBlock d) ⟨((valsOf (cA.st 1).inp).map cG.dec).flatten, none⟩).toStageFn.tr) cB →
      cB.main = .finished →
      ((valsOf (cB.st 1).out).map cU.dec).flatten = ((ctxRuns es).flatMap (mergeRight d)).filter (·.keep))

/-- the discounts computed after step 2 depend only on the multiset of each order's records -/
def BarrierIndep : Prop :=
  ∀ (fallback : Option Disc) (s₁ s₂ : List (List Emit)), List.Forall₂ List.Perm s₁ s₂ →
    discounts fallback (s₁.map countsOfCounts) = discounts fallback (s₂.map countsOfCounts)

/-- what `MergeRight` hands on for an order ≥ 2 (the right-hand side of `Step3Delivers`) is what `initialOrderWith` /
`initialOrder` feed to the suffix sort; nothing in the development uses this -/
theorem step3_output_eq_initialOrder {S : Sorters} (hS : SortsOK S) (iu : Bool) {n : Nat} (hn : n ≠ 1) (d : Disc)
    {es : List Emit} (hnd : (es.map (·.gram)).Nodup) (hne : ∀ e ∈ es, e.gram ≠ []) :
    (initialOrderWith S iu n d es).1 =
      S.suf (((ctxRuns (es.mergeSort ctxLe)).flatMap (mergeRight d)).filter (·.keep))
    ∧ (initialOrderWith S iu n d es).1 = (initialOrder iu n d es).1 := by
  refine ⟨?_, by rw [initialOrderWith_eq hS iu n d hnd hne]⟩
  unfold initialOrderWith
  rw [ctx_sort_perm_eq hS (.refl _) hnd hne]
  have : (n == 1) = false := by simpa using hn
  simp [this]

/-- `SortAndReadTwice` + step 3 of one order, for all codings, sorts, partitions, geometries, schedules -/
def Step3Delivers : Prop :=
  ∀ (T₂ TA : Transducers Unit) (cE : BlockCode Emit) (cG : BlockCode Gam) (cU : BlockCode Uninterp) (d : Disc)
    (S : Sorters), SortsOK S → ∀ (es es' : List Emit), es'.Perm es → (es.map (·.gram)).Nodup → (∀ e ∈ es, e.gram ≠ []) →
    ∀ (blocks₂ blocksB : List (List Emit)), blocks₂.flatten = S.ctx es' → blocksB.flatten = S.ctx es' →
    ∀ (b₂ m₂ bA mA bB mB : Nat) (c₂ cA cB : Chain), 0 < b₂ → 1 ≤ m₂ → 0 < bA → 1 ≤ mA → 0 < bB → 2 ≤ mB →
    Chain.Reach (Chain.initT b₂ m₂ (blocks₂.map cE.enc) T₂.toStageFn.tr) c₂ → c₂.main = .finished →
    ∀ (sumBlocks : List (List Gam)), sumBlocks.flatten = addRightStream d ((valsOf (c₂.st 1).inp).map cE.dec) →
    Chain.Reach (Chain.initT bA mA (sumBlocks.map cG.enc) TA.toStageFn.tr) cA → cA.main = .finished →
    Chain.Reach (Chain.initT bB mB (blocksB.map cE.enc)
      (liftStage cE cU (mrBlock d) ⟨((valsOf (cA.st 1).inp).map cG.dec).flatten, none⟩).toStageFn.tr) cB →
    cB.main = .finished →
    ((valsOf (c₂.st 1).inp).map cE.dec).flatten = es.mergeSort ctxLe
    ∧ ((valsOf (cB.st 1).out).map cU.dec).flatten =
        ((ctxRuns (es.mergeSort ctxLe)).flatMap (mergeRight d)).filter (·.keep)

/-- a context spanning an input block boundary: two contexts, read as `[a b | c]` and as `[a | b c]` -/
example : let e (w c : Nat) : Emit := ⟨[w, c], 1, false⟩
    let d : Disc := ⟨1/2, 1, 3/2⟩
    (addRightStream d [[e 5 7, e 6 7], [e 5 8]]).map (·.ctx) = [[7], [8]]
    ∧ (runBlocks (arBlock d) [] [[e 5 7, e 6 7], [e 5 8]]).map (·.length) = [0, 1]
    ∧ (runBlocks (arBlock d) [] [[e 5 7], [e 6 7, e 5 8]]).map (·.length) = [0, 1] := by
  decide

end KV.C07
