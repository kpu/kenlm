import Proofs.PCQueueSysLive
import Proofs.ChainRing
/-!
The Chain as a client program of the composed system: the atomic client system instantiated with `chainProg` is
the `Chain` model (`toChain`; `chain_astep_eq`, `chain_presents`), so every reachable state of the chain running on
STEP-LEVEL queues abstracts to a reachable state of the `Chain` model, whose deadlock freedom and measure carry over
(`Presents`).  Core Lean only.
-/
namespace KV.Sys
open KV.Chain (Item Stage LPC MPC Chain fifoPush fifoPop upd exitLoop)
attribute [local simp] KV.Chain.upd_same KV.Chain.upd_ne

inductive CLoc
  | main (pc : MPC) (drained : List Item)
  | stage (s : Stage)

def stageFinished : CLoc → Bool
  | .stage s => s.pc == .finished
  | _ => false

/-- the stage threads are created by the user thread after `Chain::Start`; from then on it only joins them -/
def mainNotFill : CLoc → Bool
  | .main (.join _) _ => true
  | _ => false

/-- user thread = `Chain::Start` (fill), `Chain::Wait` (join all, drain); thread `i+1` = stage `i`, a
`for (Link l(position); l; ++l) body` loop, operation by operation as in `Chain.stageStep`; `c0` carries the
parameters `b`, `m`, `data`, `tr` -/
def chainProg (c0 : Chain) : Prog CLoc where
  nthreads := c0.m + 2
  cap := fun _ => c0.b
  act := fun t l =>
    match t, l with
    | 0, .main (.fill (k + 1)) d => .produce 0 (enc (.val 0)) (.main (if k = 0 then .join 1 else .fill k) d)
    | 0, .main (.fill 0) d => .tau (.main (.join 1) d)
    | 0, .main (.join i) d =>
      .await i stageFinished (.main (if i = c0.m + 1 then .drain 0 else .join (i + 1)) d)
    | 0, .main (.drain k) d =>
      .consume 0 (fun n => match dec n with
        | .poison => .main .finished (d ++ [.poison])
        | .val v => .main (if k = c0.b then .aborted else .drain (k + 1)) (d ++ [.val v]))
    | i + 1, .stage s =>
      if i ≤ c0.m then
        match s.pc with
        | .start => .await 0 mainNotFill (.stage { s with pc := .init })
        | .init =>
          .consume i (fun n => .stage (c0.loopTest i s.inp
            { s with poisoned := false, cur := dec n, inp := s.inp ++ [dec n] }))
        | .incProduce =>
          .produce (c0.outQ i) (enc s.cur) (.stage { s with pc := .incConsume, out := s.out ++ [s.cur] })
        | .incConsume =>
          .consume i (fun n => .stage (match dec n with
            | .poison => { s with cur := .poison, inp := s.inp ++ [.poison], poisoned := true, pc := .incPoison }
            | .val v => c0.loopTest i s.inp { s with cur := .val v, inp := s.inp ++ [.val v] }))
        | .incPoison =>
          .produce (c0.outQ i) (enc s.cur) (.stage (exitLoop { s with out := s.out ++ [s.cur] }))
        | .poisonCall =>
          .produce (c0.outQ i) (enc .poison)
            (.stage (exitLoop { s with cur := .poison, poisoned := true, out := s.out ++ [.poison] }))
        | .dtor => .produce (c0.outQ i) (enc s.cur) (.stage { s with pc := .finished, out := s.out ++ [s.cur] })
        | .finished => .stop
      else .stop
    | _, _ => .stop

def chainLoc0 (b : Nat) : Nat → CLoc
  | 0 => .main (.fill b) []
  | _ + 1 => .stage {}

def mainOf : CLoc → MPC
  | .main pc _ => pc
  | _ => .finished

def drainedOf : CLoc → List Item
  | .main _ d => d
  | _ => []

def stageOf : CLoc → Stage
  | .stage s => s
  | _ => {}

def toChain (c0 : Chain) (a : AState CLoc) : Chain :=
  { b := c0.b, m := c0.m, data := c0.data, tr := c0.tr,
    q := fun j => (a.q j).map dec, main := mainOf (a.loc 0), st := fun i => stageOf (a.loc (i + 1)),
    drained := drainedOf (a.loc 0) }

def CWF (a : AState CLoc) : Prop :=
  (∃ pc d, a.loc 0 = .main pc d) ∧ ∀ i, ∃ s, a.loc (i + 1) = .stage s

theorem chain_ext {x y : Chain} (h1 : x.b = y.b) (h2 : x.m = y.m) (h3 : x.data = y.data) (h4 : x.q = y.q)
    (h5 : x.main = y.main) (h6 : x.st = y.st) (h7 : x.drained = y.drained) (h8 : x.tr = y.tr) : x = y := by
  cases x; cases y; simp at *; simp [*]

theorem q_upd (a : AState CLoc) (j : Nat) (buf : List Nat) :
    (fun j' => (upd a.q j buf j').map dec) = upd (fun j' => (a.q j').map dec) j (buf.map dec) :=
  Chain.upd_comp (List.map dec) a.q j buf

theorem toChain_stage (c0 : Chain) (a : AState CLoc) (i : Nat) (s' : Stage) (q' : Nat → List Nat) (p') :
    toChain c0 { q := q', loc := upd a.loc (i + 1) (.stage s'), popped := p' }
      = { toChain c0 a with q := fun j => (q' j).map dec, st := upd (toChain c0 a).st i s' } := by
  have h0 : upd a.loc (i + 1) (CLoc.stage s') 0 = a.loc 0 := Chain.upd_ne _ _ (Nat.succ_ne_zero i).symm
  refine chain_ext rfl rfl rfl rfl (congrArg mainOf h0) ?_ (congrArg drainedOf h0) rfl
  funext i'
  show stageOf (upd a.loc (i + 1) (CLoc.stage s') (i' + 1)) = upd (fun i => stageOf (a.loc (i + 1))) i s' i'
  by_cases e : i' = i
  · rw [e, Chain.upd_same, Chain.upd_same]; rfl
  · rw [Chain.upd_ne _ _ e, Chain.upd_ne _ _ (fun h => e (Nat.succ.inj h))]

theorem toChain_main (c0 : Chain) (a : AState CLoc) (pc : MPC) (d : List Item) (q' : Nat → List Nat) (p') :
    toChain c0 { q := q', loc := upd a.loc 0 (.main pc d), popped := p' }
      = { toChain c0 a with q := fun j => (q' j).map dec, main := pc, drained := d } := by
  refine chain_ext rfl rfl rfl rfl ?_ ?_ ?_ rfl
  · simp [toChain, mainOf]
  · funext i'; simp [toChain]
  · simp [toChain, drainedOf]

theorem CWF.upd_main {a : AState CLoc} (h : CWF a) (pc : MPC) (d : List Item) (q p) :
    CWF { q := q, loc := upd a.loc 0 (.main pc d), popped := p } := by
  refine ⟨⟨pc, d, by simp⟩, fun i => ?_⟩
  obtain ⟨s, e⟩ := h.2 i
  exact ⟨s, by simp [e]⟩

theorem CWF.upd_stage {a : AState CLoc} (h : CWF a) (i : Nat) (s' : Stage) (q p) :
    CWF { q := q, loc := upd a.loc (i + 1) (.stage s'), popped := p } := by
  refine ⟨?_, fun j => ?_⟩
  · obtain ⟨pc, d, e⟩ := h.1
    exact ⟨pc, d, by simp [e]⟩
  · by_cases e : j = i
    · subst e; exact ⟨s', by simp⟩
    · obtain ⟨s, e'⟩ := h.2 j
      exact ⟨s, by simp [e, e']⟩

section act
open KV.Chain (consuming producing pend afterProduce)
variable (c0 : Chain) {i : Nat} (hi : i ≤ c0.m) {s : Stage}
include hi

theorem chainProg_start (h : s.pc = .start) :
    (chainProg c0).act (i + 1) (.stage s) = .await 0 mainNotFill (.stage { s with pc := .init }) := by
  simp only [chainProg, hi, if_true, h]

theorem chainProg_consuming (h : consuming s) :
    (chainProg c0).act (i + 1) (.stage s) = .consume i (fun n => .stage (c0.afterConsume i s (dec n))) := by
  rcases h with e | e
  · simp only [chainProg, hi, if_true, e, Chain.afterConsume]
  · simp only [chainProg, hi, if_true, e, Chain.afterConsume]
    congr 1; funext n; cases dec n <;> rfl

theorem chainProg_producing (h : producing s) {x : Item} (hx : pend s = [x]) :
    (chainProg c0).act (i + 1) (.stage s) = .produce (c0.outQ i) (enc x) (.stage (afterProduce s)) := by
  rcases h with e | e | e | e <;> simp only [pend, e, List.cons.injEq, and_true] at hx <;> subst hx <;>
    simp only [chainProg, hi, if_true, e, afterProduce]

theorem chainProg_finished (h : s.pc = .finished) : (chainProg c0).act (i + 1) (.stage s) = .stop := by
  simp only [chainProg, hi, if_true, h]

omit hi in
theorem chainProg_beyond (hi : ¬ i ≤ c0.m) : (chainProg c0).act (i + 1) (.stage s) = .stop := by
  simp only [chainProg, hi, if_false]

end act

/-- The atomic client system with `chainProg` IS the `Chain` model: a step of thread `t` is `Chain.step t` on the
denoted state, enabled in the one iff in the other — in states where a stage that has not started coexists only with
a user thread that is filling or joining (`H1`), and joins are 1-based (`H2`); both hold in reachable states.  Without
them the model is more permissive: `stageStep` lets a stage start as soon as the user thread is not filling, the
program waits until it is joining (`mainNotFill` holds at `.join` only: at `.drain` the user thread calls `Consume`,
which `AwaitQuiet` forbids for an awaited state).  The proof walks the kinds of step as `pool_astep_eq` does. -/
theorem chain_astep_eq {c0 : Chain} {a : AState CLoc} (t : Nat) (hwf : CWF a)
    (H1 : ∀ i, i ≤ c0.m → ((toChain c0 a).st i).pc = .start → (∀ k, (toChain c0 a).main ≠ .fill k) →
        ∃ j, (toChain c0 a).main = .join j)
    (H2 : ∀ i, (toChain c0 a).main = .join i → 1 ≤ i) :
    (astep (chainProg c0) a t).map (toChain c0) = (toChain c0 a).step t
    ∧ ∀ a', astep (chainProg c0) a t = some a' → CWF a' := by
  have hqlen : ∀ j, ((toChain c0 a).q j).length = (a.q j).length := fun j => List.length_map dec
  cases t with
  | zero =>
    have ht : 0 < (chainProg c0).nthreads := Nat.succ_pos _
    obtain ⟨pc, d, hl⟩ := hwf.1
    have hmainv : (toChain c0 a).main = pc := by simp [toChain, hl, mainOf]
    have hdr : (toChain c0 a).drained = d := by simp [toChain, hl, drainedOf]
    show _ = (toChain c0 a).mainStep ∧ _
    cases pc with
    | fill k =>
      cases k with
      | zero =>
        rw [astep_tau ht (by rw [hl]; rfl), Chain.mainStep_fill_zero hmainv]
        exact step_eq_some (by rw [toChain_main]; exact chain_ext rfl rfl rfl rfl rfl rfl hdr.symm rfl) (hwf.upd_main _ _ _ _)
      | succ k =>
        rw [astep_produce ht (by rw [hl]; rfl), Chain.mainStep_fill_succ hmainv]
        refine step_eq_ite (by rw [hqlen]; exact Iff.rfl) ?_ (hwf.upd_main _ _ _ _)
        rw [toChain_main]
        refine chain_ext rfl rfl rfl ?_ rfl rfl hdr.symm rfl
        rw [q_upd, List.map_append]; rfl
    | join i =>
      rw [astep_await ht (by rw [hl]; rfl), Chain.mainStep_join hmainv]
      obtain ⟨j, rfl⟩ : ∃ j, i = j + 1 := ⟨i - 1, by have := H2 i hmainv; omega⟩
      obtain ⟨s, e⟩ := hwf.2 j
      have hfin : stageFinished (a.loc (j + 1)) = true ↔ ((toChain c0 a).st (j + 1 - 1)).pc = .finished := by
        rw [e]; simp [stageFinished, toChain, e, stageOf]
      exact step_eq_ite hfin (by rw [toChain_main]; exact chain_ext rfl rfl rfl rfl rfl rfl hdr.symm rfl)
        (hwf.upd_main _ _ _ _)
    | drain k =>
      rw [astep_consume ht (by rw [hl]; rfl), Chain.mainStep_drain hmainv]
      cases hq : a.q 0 with
      | nil =>
        rw [show (toChain c0 a).q 0 = [] by simp [toChain, hq]]
        exact ⟨rfl, nofun⟩
      | cons n rest =>
        rw [show (toChain c0 a).q 0 = dec n :: rest.map dec by simp [toChain, hq]]
        cases hd : dec n with
        | poison | val v =>
          refine ⟨?_, fun a' e => by cases e; simpa [hd] using hwf.upd_main _ (d ++ [dec n]) _ _⟩
          show some (toChain c0 _) = _
          simp only [hd]
          rw [toChain_main]
          exact congrArg some (chain_ext rfl rfl rfl (q_upd a 0 rest) rfl rfl (by rw [hdr]) rfl)
    | aborted =>
      rw [astep_stop (by rw [hl]; rfl), Chain.mainStep_done (Or.inl hmainv)]
      exact ⟨rfl, nofun⟩
    | finished =>
      rw [astep_stop (by rw [hl]; rfl), Chain.mainStep_done (Or.inr hmainv)]
      exact ⟨rfl, nofun⟩
  | succ i =>
    by_cases hi : i ≤ c0.m
    · have ht : i + 1 < (chainProg c0).nthreads := Nat.succ_lt_succ (Nat.lt_succ_of_le hi)
      obtain ⟨s, hl⟩ := hwf.2 i
      have hst : (toChain c0 a).st i = s := by simp [toChain, hl, stageOf]
      rw [Chain.step_stage (show i ≤ (toChain c0 a).m from hi)]
      rcases Chain.pc_cases s with h | h | h | h
      · rw [astep_await ht (by rw [hl]; exact chainProg_start c0 hi h)]
        obtain ⟨pc, d, hl0⟩ := hwf.1
        have hmainv : (toChain c0 a).main = pc := by simp [toChain, hl0, mainOf]
        by_cases hf : mainNotFill (a.loc 0) = true
        · have hns : ∀ k, (toChain c0 a).main ≠ .fill k := by
            intro k e; rw [hl0, ← hmainv, e] at hf; cases hf
          rw [if_pos hf, Chain.stageStep_start (hst ▸ h) hns, hst]
          exact step_eq_some (by rw [toChain_stage]; rfl) (hwf.upd_stage _ _ _ _)
        · have hfill : ∃ k, (toChain c0 a).main = .fill k := Classical.byContradiction fun hno => by
            obtain ⟨j, hj⟩ := H1 i hi (hst ▸ h) fun k e => hno ⟨k, e⟩
            rw [hl0, ← hmainv, hj] at hf; exact hf rfl
          obtain ⟨k, hk⟩ := hfill
          rw [if_neg hf, Chain.stageStep_start_fill (hst ▸ h) hk]
          exact ⟨rfl, nofun⟩
      · rw [astep_consume ht (by rw [hl]; exact chainProg_consuming c0 hi h), Chain.stageStep_consuming (hst ▸ h)]
        cases hq : a.q i with
        | nil =>
          rw [show (toChain c0 a).q i = [] by simp [toChain, hq]]
          exact ⟨rfl, nofun⟩
        | cons n rest =>
          rw [show (toChain c0 a).q i = dec n :: rest.map dec by simp [toChain, hq], hst]
          exact step_eq_some (by rw [toChain_stage]; exact chain_ext rfl rfl rfl (q_upd a i rest) rfl rfl rfl rfl) (hwf.upd_stage _ _ _ _)
      · obtain ⟨x, hx⟩ := Chain.pend_of_producing h
        rw [astep_produce ht (by rw [hl]; exact chainProg_producing c0 hi h hx),
          Chain.stageStep_producing (hst ▸ h) (hst ▸ hx)]
        rw [hst]
        refine step_eq_ite (by rw [hqlen]; exact Iff.rfl) ?_ (hwf.upd_stage _ _ _ _)
        rw [toChain_stage]
        refine chain_ext rfl rfl rfl ?_ rfl rfl rfl rfl
        rw [q_upd, List.map_append, List.map_singleton, dec_enc]; rfl
      · rw [astep_stop (by rw [hl]; exact chainProg_finished c0 hi h), Chain.stageStep_finished (hst ▸ h)]
        exact ⟨rfl, nofun⟩
    · rw [Chain.step_beyond (show ¬ i ≤ (toChain c0 a).m from hi)]
      cases h : astep (chainProg c0) a (i + 1) with
      | none => exact ⟨rfl, nofun⟩
      | some a' => exact absurd (astep_lt h) (show ¬ i + 1 < c0.m + 2 by omega)

theorem toChain_init (b m : Nat) (data : List Nat) (tr : Nat → List Item → Nat → Nat) :
    toChain (Chain.initT b m data tr) (ainit (chainLoc0 b)) = Chain.initT b m data tr := by
  refine chain_ext rfl rfl rfl ?_ rfl ?_ rfl rfl
  · funext j; simp [toChain, ainit, Chain.initT, Chain.init]
  · funext i; simp [toChain, ainit, chainLoc0, stageOf, Chain.initT, Chain.init]

theorem awaitQuiet_chain (c0 : Chain) : AwaitQuiet (chainProg c0) := by
  intro t l p pred k lp hact hpred
  have hcases : (pred = stageFinished) ∨ (pred = mainNotFill) := by
    cases t with
    | zero =>
      cases l with
      | main pc d =>
        cases pc with
        | fill n => cases n <;> cases hact
        | join i => cases hact; exact Or.inl rfl
        | drain n => cases hact
        | aborted => cases hact
        | finished => cases hact
      | stage s => cases hact
    | succ i =>
      cases l with
      | main pc d => cases hact
      | stage s =>
        by_cases hi : i ≤ c0.m
        · rcases Chain.pc_cases s with h | h | h | h
          · rw [chainProg_start c0 hi h] at hact; cases hact; exact Or.inr rfl
          · rw [chainProg_consuming c0 hi h] at hact; cases hact
          · obtain ⟨x, hx⟩ := Chain.pend_of_producing h
            rw [chainProg_producing c0 hi h hx] at hact; cases hact
          · rw [chainProg_finished c0 hi h] at hact; cases hact
        · rw [chainProg_beyond c0 hi] at hact; cases hact
  rcases hcases with rfl | rfl
  · cases lp with
    | main pc d => cases hpred
    | stage s =>
      simp only [stageFinished, beq_iff_eq] at hpred
      cases p with
      | zero => exact ⟨fun _ _ _ e => (by cases e), fun _ _ e => (by cases e)⟩
      | succ j =>
        by_cases hj : j ≤ c0.m
        · rw [chainProg_finished c0 hj hpred]; exact ⟨nofun, nofun⟩
        · rw [chainProg_beyond c0 hj]; exact ⟨nofun, nofun⟩
  · cases lp with
    | stage s => cases hpred
    | main pc d =>
      cases pc <;> first | cases hpred | skip
      cases p <;> exact ⟨fun _ _ _ e => (by cases e), fun _ _ e => (by cases e)⟩

section presents
variable [KV.Chain.StageFn] {b m : Nat} {data : List Nat}

def ChainOK (b m : Nat) (data : List Nat) (a : AState CLoc) : Prop :=
  CWF a ∧ Chain.Reach (Chain.initT b m data KV.Chain.StageFn.tr) (toChain (Chain.initT b m data KV.Chain.StageFn.tr) a)

theorem chainOK_init (b m : Nat) (data : List Nat) : ChainOK b m data (ainit (chainLoc0 b)) :=
  ⟨⟨⟨_, _, rfl⟩, fun _ => ⟨_, rfl⟩⟩, by rw [toChain_init]; exact .init⟩

theorem chain_presents (hb : 0 < b) (hm : 1 ≤ m) :
    Presents (chainProg (Chain.initT b m data KV.Chain.StageFn.tr)) Chain.step
      (toChain (Chain.initT b m data KV.Chain.StageFn.tr)) (ChainOK b m data) :=
  .of_step_eq .step fun t hwf hr =>
    have hinv := KV.Chain.rinv_reach hb hm hr
    chain_astep_eq t hwf
      (fun i hi hst hnf => (hinv.mainok.of_unfinished (show i ≤ m from hi) (by rw [hst]; nofun)).2.resolve_left
        fun ⟨k, e, _⟩ => hnf k e)
      (fun i e => (hinv.mainok.of_main e).pos)

end presents

end KV.Sys
