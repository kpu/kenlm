import Proofs.TrieBuildTable
/-! The bit table of the trie builder against `Table.build a` up to what a query can observe (`TableAgree`, for which
`Represents.transfer` carries a representation over): a real record decodes to the entry of `Table.build` (`real_entry_eq`); a
blank's summed probability is the back-off recursion `score` (`PassOut.blank_score`); so the built table, `<unk>` fix-up included, agrees
with `Table.build a` under any value encoding that satisfies the hypotheses of `PassOut.agree` — `ArpaEncW` on every well-formed
model (`PassOut.agree_encW`; `buildTableU_spec` collects what the layouts need of the builder), `ArpaEnc` on the suffix-closed ones,
where there is no blank. -/
namespace KV.TrieBuild
open KV.Arpa KV.Table KV.TrieLM KV.Score
variable {fval : Nat → Rat} {a : Arpa} {bound : Nat} {P B : List Word → Nat} {sorted : List Gram} {blanks : List Blank}

theorem top_no_extension (wf : WellFormed a) (g : List Word) (hl : g.length = a.order) :
    extendsLeft a g = false ∧ isContext a g = false := by
  refine ⟨Bool.eq_false_iff.mpr fun h => ?_, Bool.eq_false_iff.mpr fun h => ?_⟩
  · obtain ⟨p, hp, hlt, _⟩ := (extendsLeft_iff a g).mp h
    exact absurd (hl ▸ hlt) (Nat.not_lt_of_le (wf.len_le p hp))
  · obtain ⟨p, hp, hlt, _⟩ := (isContext_iff a g).mp h
    exact absurd (hl ▸ hlt) (Nat.not_lt_of_le (wf.len_le p hp))

/-- a real n-gram `w :: ctx` with probability bits `p` and back-off bits `b`, written with the extension mark of `WriteEntries`
(`-0.0` becomes `+0.0` when `marked`): the entry `ftOf` reads off these bits is the entry of `Table.build` — values through the
encoding, `extendsLeft` = has a child, `extendsRight` = non-zero back-off, context of a longer n-gram, or the hallucinated `<unk>` -/
theorem real_entry_eq (wf : WellFormed a) (T : BT) (w : Word) (ctx : List Word) (e : Entry) (hg : a.gram (w :: ctx) = some e)
    (p b : Nat) (marked : Prop) [Decidable marked]
    (hPv : fval (if (w :: ctx).length = 1 then p else p % 2^31 + 2^31) = e.prob) (hBv : fval b = e.backoff)
    (hBz : b = minusZero ↔ (e.backoff = 0 ∧ ¬(a.unkHallucinated = true ∧ w :: ctx = [0]))) (hz : fval plusZero = 0)
    (hel : (!(childrenOf T (w :: ctx)).isEmpty) = extendsLeft a (w :: ctx))
    (hmk : marked ↔ isContext a (w :: ctx) = true) :
    entryOf fval T a.order (w :: ctx)
        (p, if (w :: ctx).length = a.order then 0 else if b = minusZero ∧ marked then plusZero else b)
      = { prob := e.prob, backoff := e.backoff, extendsLeft := extendsLeft a (w :: ctx),
          extendsRight := e.backoff != 0 || isContext a (w :: ctx) || (a.unkHallucinated && (w :: ctx) == [0]),
          blank := false } := by
  unfold entryOf
  rw [hPv]
  by_cases hl : (w :: ctx).length = a.order
  · have hbo := wf.top_bo _ e hg hl
    have hunk : ((w :: ctx) == [0]) = false := by
      cases ctx with
      | nil => have := wf.order_ge; simp at hl; omega
      | cons c cs => simp
    simp only [hl, if_true, hbo, (top_no_extension wf _ hl).1, (top_no_extension wf _ hl).2, hunk]
    simp
  · simp only [hl, if_false]
    rw [hel]
    by_cases hm : b = minusZero ∧ marked
    · rw [if_pos hm]
      have hb0 : e.backoff = 0 := (hBz.mp hm.1).1
      have hc : isContext a (w :: ctx) = true := hmk.mp hm.2
      have hz0 : fval 0 = 0 := hz
      simp [hz0, hb0, hc, plusZero, noExtensionBits]
    · -- unmarked: the bits stay `b`, and `b ≠ -0.0` iff back-off ≠ 0, or context, or hallucinated `<unk>` (by `hBz`, `hmk`)
      rw [if_neg hm, hBv]
      congr 1
      apply Bool.eq_iff_iff.mpr
      simp only [bne_iff_ne, ne_eq, Bool.or_eq_true, Bool.and_eq_true, beq_iff_eq]
      constructor
      · intro hnz
        have : ¬ (e.backoff = 0 ∧ ¬(a.unkHallucinated = true ∧ w :: ctx = [0])) := fun h => hnz (hBz.mpr h)
        by_cases hb0 : e.backoff = 0
        · right
          by_cases hu : a.unkHallucinated = true ∧ w :: ctx = [0]
          · exact hu
          · exact absurd ⟨hb0, hu⟩ this
        · left; left; exact hb0
      · intro h hz'
        have hz'' := hBz.mp hz'
        rcases h with (h | h) | h
        · exact h hz''.1
        · exact hm ⟨hz', hmk.mpr h⟩
        · exact hz''.2 h

def msgValue (fval : Nat → Rat) (gs : List Gram) (k : List Word) : Rat :=
  match realOf gs k with
  | some r => fval r.backoff
  | none => 0

/-- unrolling of the back-off recursion above the longest matching n-gram (`j` context words) up to `j + m` context words -/
theorem scoreAt_unroll (a : Arpa) (ctx : List Word) (w : Word) (j : Nat) (e0 : Entry)
    (hreal : a.gram (w :: ctx.take j) = some e0) (m : Nat)
    (hnone : ∀ c, j < c → c ≤ j + m → a.gram (w :: ctx.take c) = none) :
    scoreAt a ctx w (j + m) = e0.prob + ((List.range' (j + 1) m).map (fun c => a.boW (ctx.take c))).sum := by
  rw [scoreAt_skip a ctx w j m hnone, scoreAt_real j hreal, rsum_eq_sum, List.range'_succ_left, List.map_map]
  rfl

theorem PassOut.msgValue_eq_boW (po : PassOut a bound P B sorted blanks) (hB : ∀ g e, a.gram g = some e → fval (B g) = e.backoff)
    (k : List Word) : msgValue fval sorted k = a.boW k := by
  unfold msgValue Arpa.boW
  rw [po.recs.realOf_eq k]
  cases hg : a.gram k with
  | none => rfl
  | some e => exact hB k e hg

/-- the value of a blank is the ARPA back-off recursion, when the float sum is exact (`hval`): the basis is the longest real prefix
(`PassOut.blank_basis`), the messages are the contexts between its length and the blank's, and `scoreAt_unroll` has the same operands -/
theorem PassOut.blank_score (po : PassOut a bound P B sorted blanks) (enc : ArpaEncW fval a bound P B) (fadd : Nat → Nat → Nat)
    {b : Blank} (hb : b ∈ blanks)
    (hval : fval (blankProb fadd sorted b) = fval b.basis + ((messageKeys b).map (msgValue fval sorted)).sum)
    (w : Word) (ctx : List Word) (hk : b.key = w :: ctx) (hunk : a.unkHallucinated = true → w ≠ 0) :
    fval (blankProb fadd sorted b) = score a ctx w := by
  obtain ⟨hj1, hjn, hjr, hbas, hlong⟩ := po.blank_basis b hb
  have hord := (blank_len po.keys _ ((po.blank_key _).mp ⟨b, hb, rfl⟩)).2
  -- the basis is the n-gram `w :: ctx.take j`; `ctx` has `m` more words
  obtain ⟨j, hj⟩ : ∃ j, b.basedOn = j + 1 := ⟨b.basedOn - 1, (Nat.sub_add_cancel hj1).symm⟩
  rw [hk, hj] at hjn hjr hbas hlong
  rw [hk] at hord
  rw [List.take_succ_cons] at hjr hbas
  rw [List.length_cons] at hjn hlong hord
  obtain ⟨e0, he0⟩ := Option.ne_none_iff_exists'.mp hjr
  obtain ⟨m, hm⟩ := Nat.le.dest (Nat.le_of_lt (Nat.lt_of_succ_lt_succ hjn))
  have hbasis : fval b.basis = e0.prob := by
    rw [hbas]
    exact (enc.pval _ e0 he0 fun h => hunk h.1 (List.cons.inj h.2).1).2.2
  have hun := scoreAt_unroll a ctx w j e0 he0 m fun c h1 h2 => by
    have := hlong (c + 1) (Nat.succ_lt_succ h1) (Nat.succ_le_succ (hm ▸ h2))
    rwa [List.take_succ_cons] at this
  have hmk : messageKeys b = (List.range' (j + 1) m).map fun i => ctx.take i := by
    unfold messageKeys
    rw [hk, hj, List.length_cons, ← hm, List.drop_succ_cons, List.drop_zero, Nat.add_right_comm, Nat.add_sub_cancel_left]
  unfold score
  rw [Nat.min_eq_left (Nat.le_sub_one_of_lt (Nat.lt_of_succ_lt hord)), ← hm, hun, hval, hbasis, hmk, List.map_map]
  congr 1
  exact congrArg List.sum (List.map_congr_left fun i _ => po.msgValue_eq_boW (fun g e hg => (enc.bval g e hg).2.1) _)

/-- a blank `w :: ctx` (length ≥ 2, below the top order) with probability bits `p`, written with its message mark (`+0.0` when a
message was `sent` to it, else `-0.0`): what a query observes of the entry `ftOf` reads off these bits is what it observes of the
blank entry `Table.build` makes — probability through the 31-bit encoding, back-off 0, `extendsLeft` (it has a child),
`extendsRight` = `xr` when `sent ↔ xr` -/
theorem blank_entry_eq (T : BT) (w : Word) (ctx : List Word) (p : Nat) (sent : Prop) [Decidable sent] (xr : Bool)
    (hl1 : (w :: ctx).length ≠ 1) (hlo : (w :: ctx).length ≠ a.order)
    (hp : fval (p % 2^31 + 2^31) = score a ctx w) (hz : fval plusZero = 0 ∧ fval minusZero = 0)
    (hel : (!(childrenOf T (w :: ctx)).isEmpty) = true) (hmk : sent ↔ xr = true) :
    Score.toFound (entryOf fval T a.order (w :: ctx) (p, if sent then plusZero else minusZero))
      = Score.toFound { prob := score a ctx w, backoff := 0, extendsLeft := true, extendsRight := xr, blank := true } := by
  unfold entryOf Score.toFound
  simp only [hl1, hlo, if_false, hp, hel]
  by_cases hs : sent
  · simp only [if_pos hs, hz.1, hmk.mp hs]; rfl
  · simp only [if_neg hs, hz.2, Bool.eq_false_iff.mpr (mt hmk.mpr hs)]; rfl

/-- the builder's bit table agrees with `Table.build a` on every key — real entries and blanks, values and marks — whatever
the fix-up `u` and the encoding, given: the bits of the real entries decode to the model's values (the record of `[0]` excepted when
it is rewritten), the value written by the fix-up is that of the hallucinated `<unk>`, and every blank's probability is the
back-off recursion.  Without blanks the last hypothesis is empty. -/
theorem PassOut.agree (po : PassOut a bound P B sorted blanks) (fadd : Nat → Nat → Nat) (u : Option Nat)
    (hP : ∀ g e, a.gram g = some e → (u = none ∨ g ≠ [0]) → fval (if g.length = 1 then P g else P g % 2^31 + 2^31) = e.prob)
    (hB : ∀ g e, a.gram g = some e → fval (B g) = e.backoff ∧
      (B g = minusZero ↔ (e.backoff = 0 ∧ ¬(a.unkHallucinated = true ∧ g = [0]))))
    (hz : fval plusZero = 0)
    (hU : ∀ x, u = some x → a.unkHallucinated = true ∧ ∃ e, a.gram [0] = some e ∧ fval x = e.prob ∧ e.backoff = 0)
    (hbl : ∀ b ∈ blanks, fval minusZero = 0 ∧
      ∀ w ctx, b.key = w :: ctx → fval (blankProb fadd sorted b % 2^31 + 2^31) = score a ctx w) :
    TableAgree (tableOf (ftOf fval (fixUnk u (genTable fadd a.order sorted blanks)) a.order) a.order) (Table.build a) := by
  refine .of_rel rfl fun g => ?_
  rw [lookup_ftOf, entryOf_fixUnk]
  by_cases hx : ∃ x, u = some x ∧ g = [0]
  · -- the record the fix-up wrote: a real entry with bits `(x, +0.0)`
    obtain ⟨x, rfl, rfl⟩ := hx
    obtain ⟨hu, e, hge, hUv, hb0⟩ := hU x rfl
    have ho : ¬ ([0] : List Word).length = a.order := Nat.ne_of_lt po.keys.wf.order_ge
    have h := real_entry_eq po.keys.wf (genTable fadd a.order sorted blanks) 0 [] e hge x plusZero (isContext a [0] = true)
      hUv (by rw [hz, hb0]) ⟨fun h => absurd h (by decide), fun h => absurd ⟨hu, rfl⟩ h.2⟩ hz (po.children fadd [0]) Iff.rfl
    rw [if_neg ho, ite_self] at h
    rw [lookup_fixUnk_some, if_pos rfl, po.lookup_real fadd (by rw [hge]; nofun), build_lookup_real _ hge]
    exact .some (congrArg Score.toFound h)
  have hug : u = none ∨ g ≠ [0] := by
    cases u with
    | none => exact .inl rfl
    | some x => exact .inr fun h => hx ⟨x, rfl, h⟩
  rw [lookup_fixUnk_ne _ _ _ hug]
  cases g with
  | nil =>
    rw [po.lookup_none fadd (Classical.not_not.mp fun h => po.keys.wf.len_pos [] h rfl)
      fun h => absurd (blank_len po.keys [] h).1 (by decide)]
    exact .none
  | cons w ctx =>
    have hmk := po.marks (w :: ctx) (List.cons_ne_nil w ctx)
    cases hg : a.gram (w :: ctx) with
    | some e =>
      -- a real entry: marked iff it is a context, extends left iff it has a child
      rw [po.lookup_real fadd (by rw [hg]; nofun), build_lookup_real _ hg]
      exact .some (congrArg Score.toFound (real_entry_eq po.keys.wf _ w ctx e hg _ _ _ (hP _ e hg hug) (hB _ e hg).1 (hB _ e hg).2 hz
        (po.children fadd _) (by simpa only [List.contains_iff_mem] using hmk)))
    | none =>
      rw [build_lookup_blank _ hg]
      by_cases hx : extendsLeft a (w :: ctx) = true
      · -- a blank: its value is the hypothesis `hbl`; it has a child; a message was sent to it iff it is a context, since the
        -- context of a real entry is real
        obtain ⟨b, hb, hkey⟩ := (po.blank_key _).mpr ((isBlankKey_iff po.keys _).mpr ⟨List.cons_ne_nil w ctx, hg, hx⟩)
        obtain ⟨hl2, hlo⟩ := blank_len po.keys _ ((po.blank_key _).mp ⟨b, hb, hkey⟩)
        have hlook := po.lookup_blank fadd hb
        rw [hkey] at hlook
        rw [hlook, if_pos hx]
        refine .some ?_
        refine blank_entry_eq _ w ctx _ _ _ (Nat.ne_of_gt hl2) (Nat.ne_of_lt hlo) ((hbl b hb).2 w ctx hkey) ⟨hz, (hbl b hb).1⟩
          (by rw [po.children fadd (w :: ctx), hx]) ?_
        rw [List.contains_iff_mem, Bool.not_false, Bool.and_true, ← hmk]
        refine ⟨.inr, fun h => h.resolve_left fun h1 => ?_⟩
        obtain ⟨r, hr, hl, hd⟩ := (mem_ctxsOf _ _).mp h1
        obtain ⟨x, rest, hxr⟩ := List.exists_cons_of_length_pos (Nat.lt_of_lt_of_le Nat.zero_lt_two hl)
        rw [hxr, List.drop_succ_cons, List.drop_zero] at hd
        subst hd
        exact absurd hg (po.keys.wf.ctx_present x _ (List.cons_ne_nil w ctx) (hxr ▸ po.recs.real_of_mem hr))
      · rw [po.lookup_none fadd hg fun h => hx ((isBlankKey_iff po.keys _).mp h).2.2, if_neg hx]
        exact .none

theorem PassOut.agree_encW (po : PassOut a bound P B sorted blanks) (enc : ArpaEncW fval a bound P B) (fadd : Nat → Nat → Nat)
    {U : Nat} (uk : UnkOK fval a U)
    (hval : ∀ b ∈ blanks, fval (blankProb fadd sorted b) = fval b.basis + ((messageKeys b).map (msgValue fval sorted)).sum)
    (hsign : ∀ b ∈ blanks, fval (blankProb fadd sorted b % 2^31 + 2^31) = fval (blankProb fadd sorted b)) :
    TableAgree (tableOf (ftOf fval (fixUnk (unkOf a U) (genTable fadd a.order sorted blanks)) a.order) a.order) (Table.build a) := by
  have hnu : ∀ g, (unkOf a U = none ∨ g ≠ [0]) → ¬(a.unkHallucinated = true ∧ g = [0]) := by
    rintro g (h | h) ⟨hu, hg⟩
    · rw [unkOf_eq_none.mp h] at hu; cases hu
    · exact h hg
  refine po.agree fadd (unkOf a U) (fun g e hg h => (enc.pval g e hg (hnu g h)).2.1) (fun g e hg => (enc.bval g e hg).2) enc.zero.1
    (fun x hx => ?_) (fun b hb => ⟨enc.zero.2, fun w ctx hk => ?_⟩)
  · obtain ⟨hu, rfl⟩ := unkOf_eq_some.mp hx
    exact ⟨hu, uk.val hu⟩
  · rw [hsign b hb]
    have hbk := (isBlankKey_iff enc.keys _).mp ((po.blank_key _).mp ⟨b, hb, hk⟩)
    exact po.blank_score enc fadd hb (hval b hb) w ctx hk fun hu => uk.basis hu w ctx hbk.2.1 hbk.2.2

theorem PassOut.built_ok (po : PassOut a bound P B sorted blanks) (enc : ArpaEncW fval a bound P B) (fadd : Nat → Nat → Nat)
    {U : Nat} (uk : UnkOK fval a U) (hbits : ∀ b ∈ blanks, blankProb fadd sorted b < 2^32) :
    BTOK (fixUnk (unkOf a U) (genTable fadd a.order sorted blanks)) bound a.order ∧
    ValsOK (fixUnk (unkOf a U) (genTable fadd a.order sorted blanks)) := by
  refine ⟨fixUnk_btok _ _ _ _ (po.btok fadd),
    fixUnk_vals _ _ (fun x hx => ?_) (genTable_vals _ _ _ _ (po.recs.vals_lt (fun g e hg => ?_) fun g e hg => (enc.bval g e hg).1) hbits)⟩
  · rw [(unkOf_eq_some.mp hx).2]; exact uk.bits
  · -- the hallucinated `<unk>` is read as zero bits
    by_cases hu : a.unkHallucinated = true ∧ g = [0]
    · rw [hu.2, (enc.unk0 hu.1).1]; decide
    · exact (enc.pval g e hg hu).1

/-- probabilities of order ≥ 2 keep their value through the 31-bit encoding (`WriteNonPositiveFloat31`): the real ones by
`ArpaEncW.pval`, the blanks' by hypothesis -/
theorem PassOut.sign_ok (po : PassOut a bound P B sorted blanks) (enc : ArpaEncW fval a bound P B) (fadd : Nat → Nat → Nat)
    (u : Option Nat) (hsign : ∀ b ∈ blanks, fval (blankProb fadd sorted b % 2^31 + 2^31) = fval (blankProb fadd sorted b)) :
    ∀ p ∈ fixUnk u (genTable fadd a.order sorted blanks), 2 ≤ p.1.length → fval (p.2.1 % 2^31 + 2^31) = fval p.2.1 := by
  intro p hp hl
  rcases mem_fixUnk _ _ p hp with ⟨x, _, rfl⟩ | hp
  · exact absurd (show 2 ≤ 1 from hl) (by decide)
  · rcases mem_genTable.mp hp with ⟨r, hr, rfl⟩ | ⟨b, hb, rfl⟩
    · obtain ⟨e, he, hp1, _⟩ := po.recs.entry_of_mem hr
      have hl : 2 ≤ r.key.length := hl
      obtain ⟨_, h2, h3⟩ := enc.pval _ e he fun hu => by rw [hu.2] at hl; exact absurd hl (by decide)
      rw [if_neg (Nat.ne_of_gt hl)] at h2
      show fval (r.prob % 2^31 + 2^31) = fval r.prob
      rw [hp1, h2, h3]
    · exact hsign b hb

theorem buildTableU_spec (fadd : Nat → Nat → Nat) (enc : ArpaEncW fval a bound P B) {U : Nat} (uk : UnkOK fval a U)
    (hs : ∀ st, visitAll (visitOrder (gramsOf a P B)) = .ok st → ∀ b ∈ st.blanks,
      blankProb fadd (visitOrder (gramsOf a P B)) b < 2^32 ∧
      fval (blankProb fadd (visitOrder (gramsOf a P B)) b % 2^31 + 2^31) = fval (blankProb fadd (visitOrder (gramsOf a P B)) b) ∧
      fval (blankProb fadd (visitOrder (gramsOf a P B)) b)
        = fval b.basis + ((messageKeys b).map (msgValue fval (visitOrder (gramsOf a P B)))).sum) :
    ∃ st b, visitAll (visitOrder (gramsOf a P B)) = .ok st ∧
      buildTableU fadd a.order (gramsOf a P B) (unkOf a U) = .ok b ∧
      b.table = fixUnk (unkOf a U) (genTable fadd a.order (visitOrder (gramsOf a P B)) st.blanks) ∧
      BTOK b.table bound a.order ∧ ValsOK b.table ∧
      TableAgree (tableOf (ftOf fval b.table a.order) a.order) (Table.build a) ∧
      ∀ p ∈ b.table, 2 ≤ p.1.length → fval (p.2.1 % 2^31 + 2^31) = fval p.2.1 := by
  obtain ⟨st, ⟨t, bl, c⟩, hst, po, hb, htab, _⟩ := buildTable_passOut (P := P) (B := B) fadd enc.keys
  simp only at htab
  subst htab
  have h := hs st hst
  obtain ⟨hok, hvals⟩ := po.built_ok enc fadd uk fun b hb => (h b hb).1
  exact ⟨st, ⟨fixUnk (unkOf a U) (genTable fadd a.order (visitOrder (gramsOf a P B)) st.blanks), bl, c⟩, hst,
    by simp only [buildTableU, hb], rfl, hok, hvals,
    po.agree_encW enc fadd uk (fun b hb => (h b hb).2.2) (fun b hb => (h b hb).2.1),
    po.sign_ok enc fadd _ fun b hb => (h b hb).2.1⟩

theorem buildTable_closed_spec (fadd : Nat → Nat → Nat) (enc : ArpaEnc fval a bound P B) :
    (∃ counts, buildTable fadd a.order (gramsOf a P B) =
      .ok { table := closedTable a.order (visitOrder (gramsOf a P B)), blanks := [], counts := counts }) ∧
    BTOK (closedTable a.order (visitOrder (gramsOf a P B))) bound a.order ∧
    ValsOK (closedTable a.order (visitOrder (gramsOf a P B))) ∧
    TableAgree (tableOf (ftOf fval (closedTable a.order (visitOrder (gramsOf a P B))) a.order) a.order) (Table.build a) := by
  obtain ⟨st, ⟨t, bl, c⟩, _, po, hb, htab, hbl⟩ := buildTable_passOut (P := P) (B := B) fadd enc.keys
  have h0 := po.closed enc.sc
  rw [h0] at po htab hbl
  rw [genTable_nil] at htab
  simp only at htab hbl
  subst htab hbl
  exact ⟨⟨c, hb⟩, genTable_nil fadd _ _ ▸ po.btok fadd,
    genTable_nil fadd _ _ ▸ genTable_vals fadd _ _ []
      (po.recs.vals_lt (fun g e hg => (enc.pval g e hg).1) fun g e hg => (enc.bval g e hg).1) nofun,
    genTable_nil fadd _ _ ▸ po.agree fadd none (fun g e hg _ => (enc.pval g e hg).2) (fun g e hg => (enc.bval g e hg).2) enc.zero
      nofun nofun⟩

end KV.TrieBuild
