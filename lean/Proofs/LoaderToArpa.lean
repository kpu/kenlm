import Proofs.LoaderArpa
import Proofs.WellFormed
/-! The bridge `LParsed.toArpa` from the loader model to the `Arpa` of C01: where its n-grams come from. -/
namespace KV.LoaderArpa
open KV.Arpa

theorem toEntry_fst (le : LE) : (toEntry le).1 = le.1 := by
  unfold toEntry; split <;> rfl

theorem toEntry_backoff (le : LE) : (toEntry le).2.backoff = le.2.2 := by
  unfold toEntry; split <;> rfl

theorem map_toEntry_keys (p : LParsed) : (p.entries.map toEntry).map (·.1) = p.keys := by
  unfold LParsed.keys
  rw [List.map_map]
  exact List.map_congr_left fun le _ => toEntry_fst le

theorem mem_toArpa_keys (p : LParsed) (u : Rat) (k : List Word) :
    k ∈ (p.toArpa u).entries.map (·.1) ↔ k ∈ p.keys ∨ (p.sawUnk = false ∧ k = [0]) := by
  unfold LParsed.toArpa
  dsimp only
  cases p.sawUnk
  · rw [if_neg Bool.false_ne_true, List.map_cons, List.mem_cons, map_toEntry_keys]
    simp [or_comm]
  · rw [if_pos rfl, map_toEntry_keys]
    simp

theorem mem_toArpa_keys_of_two_le (p : LParsed) (u : Rat) (k : List Word) (h : 2 ≤ k.length) :
    k ∈ (p.toArpa u).entries.map (·.1) ↔ k ∈ p.keys := by
  rw [mem_toArpa_keys]
  exact ⟨fun h' => h'.resolve_right (fun ⟨_, h0⟩ => by rw [h0] at h; exact absurd h (by decide)), Or.inl⟩

theorem mem_entries_of_drop (p : LParsed) (le : LE) (h : le ∈ (p.grams.drop 1).flatten) : le ∈ p.entries := by
  obtain ⟨es, hes, hm⟩ := List.mem_flatten.mp h
  exact List.mem_flatten.mpr ⟨es, List.mem_of_mem_drop hes, hm⟩

theorem toArpa_gram_some (p : LParsed) (u : Rat) (g : List Word) (e : Entry) (hg : (p.toArpa u).gram g = some e) :
    (g = [0] ∧ e.backoff = 0) ∨
      ∃ (i : Nat) (es : List LE) (le : LE), p.grams[i]? = some es ∧ le ∈ es ∧ le.1 = g ∧ e.backoff = le.2.2 := by
  have stored : (g, e) ∈ p.entries.map toEntry →
      ∃ (i : Nat) (es : List LE) (le : LE), p.grams[i]? = some es ∧ le ∈ es ∧ le.1 = g ∧ e.backoff = le.2.2 := by
    intro hm
    obtain ⟨le, hle, hte⟩ := List.mem_map.mp hm
    obtain ⟨es, hes, hle⟩ := List.mem_flatten.mp hle
    obtain ⟨i, hi, rfl⟩ := List.getElem_of_mem hes
    refine ⟨i, _, le, List.getElem?_eq_getElem hi, hle, ?_, ?_⟩
    · rw [← toEntry_fst, hte]
    · rw [← toEntry_backoff, hte]
  have hm := KV.lookup_some_mem _ _ _ hg
  unfold LParsed.toArpa at hm
  dsimp only at hm
  split at hm
  · exact Or.inr (stored hm)
  · rcases List.mem_cons.mp hm with hh | hh
    · cases hh; exact Or.inl ⟨rfl, rfl⟩
    · exact Or.inr (stored hh)

end KV.LoaderArpa
