import Proofs.SortRecords
import Proofs.SortExt
/-! C16 byte level: the temp file (`WriteAndRecycle`, `PWrite`, the `Offsets` log in bytes, reads at the logged offsets),
`BlockSorter` on byte blocks, and the sizes of the output blocks. -/
namespace KV.Sort
open List

theorem writeAndRecycle_eq : ∀ (blocks : List Block) (file : Buf),
    writeAndRecycle file blocks = file ++ (blocks.map (fun b => b.mem.take b.valid)).flatten
  | [], file => by simp [writeAndRecycle]
  | b :: bs, file => by
    have := writeAndRecycle_eq bs (file ++ b.mem.take b.valid)
    simp only [writeAndRecycle, foldl_cons, map_cons, flatten_cons] at this ⊢
    rw [this, append_assoc]

theorem readRunsBytes_eq_storeRunsLogged (lens : List Nat) (runs : List Buf) :
    readRunsBytes runs.flatten lens = storeRunsLogged lens runs := rfl

theorem spill_records {s : Nat} (hs : 0 < s) (runs : List (List (List Nat)))
    (hu : ∀ r ∈ runs, Uniform s r) :
    (readRunsBytes (runs.map bytesOf).flatten (runs.map (fun r => r.length * s))).map (·.map (recordsOf s)) =
      storeRunsLogged (runs.map List.length) runs := by
  rw [readRunsBytes_eq_storeRunsLogged, map_length_bytesOf hu]
  show (storeRuns _).map _ = storeRuns _
  rw [storeRuns_eq, storeRuns_eq, Option.map_some, nonempties_map_bytesOf hs runs hu]

theorem sortBlock_valid {s : Nat} (lt : List Nat → List Nat → Bool) {b : Block} (hw : b.wf s) :
    (sortBlock s lt b).mem.take (sortBlock s lt b).valid = bytesOf (blockSort lt (b.records s)) ∧
      Uniform s (blockSort lt (b.records s)) ∧ b.valid = (blockSort lt (b.records s)).length * s := by
  have hun : Uniform s (blockSort lt (b.records s)) :=
    fun r hr => recordsOf_uniform _ r ((blockSort_perm lt _).subset hr)
  have hl : b.valid = (blockSort lt (b.records s)).length * s := by
    rw [(blockSort_perm lt _).length_eq, Block.records, recordsOf_length, length_take, Nat.min_eq_left hw.1,
      Nat.div_mul_cancel hw.2]
  exact ⟨take_left' ((length_bytesOf hun).trans hl.symm), hun, hl⟩

theorem afterBlockSorterBytes_eq {s : Nat} (hs : 0 < s) {lt : List Nat → List Nat → Bool} {blocks : List Block}
    (hw : ∀ b ∈ blocks, b.wf s) :
    afterBlockSorterBytes s lt blocks = afterBlockSorter lt (blocks.map (Block.records s)) := by
  have hruns : (blocks.map (sortBlock s lt)).map (fun b => b.mem.take b.valid) =
      (blocks.map fun b => blockSort lt (b.records s)).map bytesOf := by
    rw [map_map, map_map]
    exact map_congr_left fun b hb => (sortBlock_valid lt (hw b hb)).1
  have hlog : blockSorterLog blocks = (blocks.map fun b => blockSort lt (b.records s)).map (fun r => r.length * s) := by
    rw [blockSorterLog, map_map]
    exact map_congr_left fun b hb => (sortBlock_valid lt (hw b hb)).2.2
  rw [afterBlockSorterBytes, writeAndRecycle_eq, nil_append, hruns, hlog,
    spill_records hs _ (forall_mem_map.mpr fun b hb => (sortBlock_valid lt (hw b hb)).2.1),
    afterBlockSorter_eq, initialRuns]
  exact (storeRuns_eq _).trans (by rw [map_map]; rfl)

theorem writeAndRecycle_stream (cap : Nat) (pad : Buf) : ∀ (f : Nat) (bytes file : Buf),
    writeAndRecycle file (streamToBlocks cap pad f bytes) = file ++ bytes
  | 0, bytes, file => by
    simp [streamToBlocks, writeAndRecycle]
  | f + 1, bytes, file => by
    simp only [streamToBlocks]
    split
    · rename_i h
      simp only [writeAndRecycle, foldl_cons]
      have ih := writeAndRecycle_stream cap pad f (bytes.drop cap) (file ++ (bytes.take cap).take cap)
      simp only [writeAndRecycle] at ih
      rw [ih, take_take, Nat.min_self, append_assoc, take_append_drop]
    · simp [writeAndRecycle]

theorem pwrite_fold (blocks : List Block) : ∀ (f : Buf) (off : Nat) (written : Buf),
    f.take off = written → written.length = off →
    let r := blocks.foldl (fun (st : Buf × Nat) b =>
      (pwriteAt st.1 st.2 (b.mem.take b.valid), st.2 + (b.mem.take b.valid).length)) (f, off)
    r.1.take r.2 = written ++ (blocks.map (fun b => b.mem.take b.valid)).flatten := by
  induction blocks with
  | nil => intro f off written h1 _; simpa using h1
  | cons b bs ih =>
    intro f off written h1 h2
    simp only [foldl_cons, map_cons, flatten_cons]
    have := ih (pwriteAt f off (b.mem.take b.valid)) (off + (b.mem.take b.valid).length)
      (written ++ b.mem.take b.valid) (by
        unfold pwriteAt
        rw [h1]
        have : (written ++ take b.valid b.mem).length = off + (take b.valid b.mem).length := by
          rw [length_append, h2]
        rw [take_left' this]) (by rw [length_append, h2])
    simp only at this ⊢
    rw [this, append_assoc]

/-- the block sizes sum to `n`, none exceeds `cap`, all but the last are full -/
def BlocksOK (cap n : Nat) (bs : List Nat) : Prop :=
  bs.sum = n ∧ (∀ b ∈ bs, b ≤ cap) ∧ (∀ b ∈ bs.dropLast, b = cap)

theorem readSingleBlocks_ok {cap : Nat} (hc : 0 < cap) : ∀ (fuel n : Nat), n ≤ fuel →
    BlocksOK cap n (readSingleBlocks cap fuel n) ∧ readSingleBlocks cap fuel n ≠ []
  | 0, n, h => by
    cases Nat.le_zero.mp h
    simp [readSingleBlocks, BlocksOK]
  | fuel + 1, n, h => by
    simp only [readSingleBlocks]
    by_cases hn : cap < n
    · rw [if_pos hn]
      obtain ⟨⟨h1, h2, h3⟩, hne⟩ := readSingleBlocks_ok hc fuel (n - cap)
        (Nat.sub_le_of_le_add (Nat.le_trans h (Nat.add_le_add_left hc fuel)))
      refine ⟨⟨by rw [sum_cons, h1, Nat.add_sub_cancel' (Nat.le_of_lt hn)], ?_, ?_⟩, by simp⟩
      · intro b hb
        simp only [mem_cons] at hb
        rcases hb with rfl | hb
        · exact Nat.le_refl _
        · exact h2 b hb
      · intro b hb
        rw [dropLast_cons_of_ne_nil hne] at hb
        simp only [mem_cons] at hb
        rcases hb with rfl | hb
        · rfl
        · exact h3 b hb
    · rw [if_neg hn]
      exact ⟨⟨by simp, fun b hb => mem_singleton.mp hb ▸ Nat.le_of_not_lt hn, by simp⟩, by simp⟩

theorem streamBlocks_ok {cap : Nat} (hc : 0 < cap) (n : Nat) : BlocksOK cap n (streamBlocks cap n) := by
  unfold streamBlocks BlocksOK
  refine ⟨?_, ?_, ?_⟩
  · simp only [sum_append, sum_replicate_nat, sum_cons, sum_nil]
    have := Nat.div_add_mod n cap
    rw [Nat.mul_comm] at this
    omega
  · intro b hb
    simp only [mem_append, mem_replicate, mem_singleton] at hb
    rcases hb with ⟨_, rfl⟩ | rfl
    · exact Nat.le_refl _
    · exact Nat.le_of_lt (Nat.mod_lt _ hc)
  · intro b hb
    rw [dropLast_concat] at hb
    exact (mem_replicate.mp hb).2

end KV.Sort
