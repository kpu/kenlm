import Proofs.LeftLoop
/-! Joining two fragments.  What every caller of the pointer loop does with its outcome: the score bookkeeping relative to
included context (`score_after_loop`, `canon_append`), what the back-off buffer left by the loop means for the
right state (`tail_sem`), and the assembly of the fragment invariant of a concatenation (`assemble`). -/
namespace KV.Left
open KV.Arpa KV.Table KV.State KV.Score

variable {a : Arpa} {T : Table}

theorem state_words_take {h : List Word} {s0 : State} (sf : StateFor a h s0) (nm : NormS s0) {nu : Nat} (hnu : nu ≤ s0.length) :
    s0.words.take nu = h.take nu := by
  have h1 : s0.words.take s0.length = s0.words := List.take_of_length_le (by rw [nm.1]; omega)
  rw [← h1, sf.words, List.take_take, Nat.min_eq_left hnu]

theorem stateFor_extend {hA : List Word} {s : State} (sf : StateFor a hA s) (c : List Word)
    (hd : ∀ k, 1 ≤ k → k ≤ c.length → ¬ live a (hA ++ c.take k)) : StateFor a (hA ++ c) s := by
  have h1 := sf.len_le_h
  refine ⟨by simp; omega, sf.len_le_N, ?_, ?_, ?_⟩
  · rw [sf.words, List.take_append_of_le_length h1]
  · rw [sf.backoff]
    apply List.map_congr_left
    intro j hj
    have : j < s.length := by simpa using hj
    rw [List.take_append_of_le_length (by omega)]
  · intro k hk1 hk2
    by_cases hk : k ≤ hA.length
    · rw [List.take_append_of_le_length hk]; exact sf.dead k hk1 hk
    · have e : k = hA.length + (k - hA.length) := by omega
      rw [e, List.take_length_add_append]
      simp only [List.length_append] at hk2
      exact hd _ (by omega) (by omega)

theorem stateFor_exists (wf : WellFormed a) (h : List Word) :
    ∃ s, StateFor a h s ∧ NormS s ∧ s.length = min h.length (a.order - 1) := by
  let n := min h.length (a.order - 1)
  refine ⟨{ length := n, words := h.take n, backoff := (List.range n).map (fun j => a.boW (h.take (j+1))) },
    ⟨Nat.min_le_left _ _, Nat.min_le_right _ _, by simp [List.take_take], by rw [List.take_of_length_le (by simp)], ?_⟩, ⟨by simp [n], by simp⟩, rfl⟩
  intro k hk1 hk2 hl
  have hk1' : n < k := hk1
  have hlen := live_length_lt wf hl
  simp only [List.length_take] at hlen
  simp only [n] at hk1'
  omega

/-- reason (a) relative to an included context `Q`: the first word after the left state receives the back-offs of the
newly revealed contexts, the words after it nothing -/
theorem tail_of_no_ext (H : Hyp a T) (F Q h : List Word) (L nu : Nat) (hL : L < F.length) (hLN : L + Q.length + nu ≤ a.order - 1)
    (hnu : nu ≤ h.length)
    (hx : ∀ x, T.lookup (pre F L ++ Q ++ [x]) = none)
    (hD : ∀ k, nu < k → k ≤ h.length → ¬ live a (gm1 F L ++ Q ++ h.take k)) :
    specSeq a (gm1 F L ++ Q ++ h) (F.drop L) = specSeq a (gm1 F L ++ Q) (F.drop L) +
      rsum (fun j => a.boW (gm1 F L ++ Q ++ h.take (j+1))) 0 nu := by
  have hgl : (gm1 F L ++ Q).length = L + Q.length := by rw [List.length_append, gm1_length F L (by omega)]
  have hpc := pre_cons_P F Q L hL
  have hne : pre F L ++ Q ≠ [] := by rw [hpc]; simp
  rw [List.drop_eq_getElem_cons hL]
  simp only [specSeq]
  have htail : specSeq a (F[L] :: (gm1 F L ++ Q ++ h)) (F.drop (L+1)) = specSeq a (F[L] :: (gm1 F L ++ Q)) (F.drop (L+1)) := by
    have e : F[L] :: (gm1 F L ++ Q ++ h) = (pre F L ++ Q) ++ h := by rw [hpc]; simp
    rw [e, ← hpc]
    apply specSeq_dead H.wf
    intro k hk1 hk2
    have := H.dead_of_no_ext hne hx [] (h.take k) (take_ne_nil hk1 hk2)
    simpa using this
  rw [htail]
  have hloc := score_local (a := a) F[L] (gm1 F L ++ Q) h (by rw [hgl]; omega) (by
    intro k hk1 hk2
    have := H.not_real_of_no_ext hne hx [] (h.take k) (take_ne_nil hk1 hk2)
    rw [hpc] at this
    simpa using this)
  rw [hloc, hgl]
  have hsplit : min h.length (a.order - 1 - (L + Q.length)) = nu + (min h.length (a.order - 1 - (L + Q.length)) - nu) := by omega
  rw [hsplit]
  have hz := rsum_zero_tail (f := fun j => a.boW (gm1 F L ++ Q ++ h.take (j+1))) (lo := 0) (d := nu)
    (e := min h.length (a.order - 1 - (L + Q.length)) - nu) (by
      intro j h1 h2
      exact boW_zero_of_dead (hD (j+1) (by omega) (by omega)))
  rw [hz]
  ac_rfl

theorem closedP_tail (H : Hyp a T) {F Q : List Word} {L : Nat} (hc : ClosedP T F Q L) (h : List Word) (nu : Nat)
    (hLN : L + Q.length + nu ≤ a.order - 1) (hnu : nu ≤ h.length)
    (hD : ∀ k, nu < k → k ≤ h.length → ¬ live a (gm1 F L ++ Q ++ h.take k)) :
    specSeq a (gm1 F L ++ Q ++ h) (F.drop L) = specSeq a (gm1 F L ++ Q) (F.drop L) +
      rsum (fun j => a.boW (gm1 F L ++ Q ++ h.take (j+1))) 0 nu := by
  rcases hc with ⟨h1, h2⟩ | hbc
  · exact tail_of_no_ext H F Q h L nu h1 hLN hnu h2 hD
  · -- all of `F` is in its left state: nothing is left to receive anything, and the new contexts are dead
    have h1 : L = F.length := by rcases hbc with ⟨h1, _⟩ | ⟨h1, _⟩ <;> exact h1
    have hg : gm1 F L = F.reverse := by rw [h1, gm1_full]
    rw [rsum_zero, h1, List.drop_eq_nil_of_le (Nat.le_refl _)]
    · simp only [specSeq, Rat.add_zero]
    · intro j _ hj
      rw [hg]
      exact boW_zero_of_dead (closedP_dead H (Or.inr hbc) _ (take_ne_nil (Nat.succ_pos j) (by omega)))

/-- the right state of a concatenation: the state of a fragment whose words are all in it (`sA`, history `hA`),
extended by the words of the outside history `h` that can still matter after the loop, with their back-offs -/
theorem stateFor_merge {hA h : List Word} {sA : State} (sfA : StateFor a hA sA) (nmA : NormS sA) (hfull : sA.length = hA.length)
    {v : ExtendReturn} (hN : hA.length + v.nextUse ≤ a.order - 1) (hnu : v.nextUse ≤ h.length)
    (hbo : v.backIn.take v.nextUse = (List.range v.nextUse).map (fun j => a.boW (hA ++ h.take (j+1))))
    (hdead : ∀ k, v.nextUse < k → k ≤ h.length → ¬ live a (hA ++ h.take k)) :
    StateFor a (hA ++ h) (mergedState sA h v) ∧ NormS (mergedState sA h v) := by
  unfold mergedState
  generalize v.backIn.take v.nextUse = bo at hbo
  generalize v.nextUse = nu at hN hnu hbo hdead
  have hw1 : sA.words.take sA.length = hA := by rw [sfA.words, hfull, List.take_of_length_le (Nat.le_refl _)]
  have hbl : bo.length = nu := by rw [hbo]; simp
  have hcb : (sA.backoff.take hA.length).length = hA.length := by rw [List.length_take, nmA.2, hfull]; exact Nat.min_self _
  have hsb := sfA.backoff
  rw [hfull] at hsb
  rw [hw1, hfull]
  refine ⟨⟨by simp; omega, hN, ?_, ?_, ?_⟩, ?_, ?_⟩
  · show (hA ++ h.take nu).take (hA.length + nu) = _
    rw [List.take_length_add_append, List.take_length_add_append, List.take_take, Nat.min_self]
  · show (sA.backoff.take hA.length ++ bo).take (hA.length + nu) = _
    rw [List.take_of_length_le (by rw [List.length_append, hbl, hcb]; exact Nat.le_refl _), range_add_map, hsb, hbo]
    congr 1
    · apply List.map_congr_left
      intro j hj
      have : j < hA.length := by simpa using hj
      rw [List.take_append_of_le_length (by omega)]
    · apply List.map_congr_left
      intro j _
      rw [Nat.add_assoc, List.take_length_add_append]
  · intro k hk1 hk2
    have hk1' : hA.length + nu < k := hk1
    rw [List.length_append] at hk2
    have e1 : k = hA.length + (k - hA.length) := by omega
    rw [e1, List.take_length_add_append]
    exact hdead _ (by omega) (by omega)
  · show (hA ++ h.take nu).length = _
    rw [List.length_append, List.length_take, Nat.min_eq_left hnu]
  · show (sA.backoff.take hA.length ++ bo).length = _
    rw [List.length_append, hbl, hcb]

theorem specSeq_drop_split (F Q : List Word) : ∀ (n Lw : Nat), Lw + n ≤ F.length →
    specSeq a (gm1 F Lw ++ Q) (F.drop Lw) =
      dsum (fun i => score a (gm1 F i ++ Q) (F.getD i 0)) Lw n + specSeq a (gm1 F (Lw + n) ++ Q) (F.drop (Lw + n)) := by
  intro n
  induction n with
  | zero => intro Lw _; simp [dsum]; exact (Rat.zero_add _).symm
  | succ n ih =>
    intro Lw h
    have hlt : Lw < F.length := by omega
    rw [List.drop_eq_getElem_cons hlt]
    simp only [specSeq, dsum]
    have e : F[Lw] :: (gm1 F Lw ++ Q) = gm1 F (Lw+1) ++ Q := by
      rw [gm1_succ F Lw, pre_eq_cons F Lw hlt]; rfl
    rw [e, ih (Lw+1) (by omega), ← List.getElem_eq_getD (h := hlt) 0]
    have e2 : Lw + 1 + n = Lw + (n + 1) := by omega
    rw [e2]; exact (Rat.add_assoc _ _ _).symm

/-- the canonical score of `F` relative to the included context `P` (`x`), after an `ExtendLoop` that rewrote the pointers
below `Lw` with the further context `h` and finalised those from `Lw` to `Lk` (`adj`), `tail` being what the words after
the left state receive: the canonical score relative to `P ++ h` -/
theorem score_after_loop (R : Ptr → Rat) (F P h : List Word) {Lk Lw : Nat} (hLw : Lw ≤ Lk) (hLk : Lk ≤ F.length) {x adj tail : Rat}
    (hx : x = psum R F P Lk + specSeq a (gm1 F Lk ++ P) (F.drop Lk))
    (hadj : adj = dsum (openTerm R F P h) 0 Lw + dsum (doneTerm a R F P h) Lw (Lk - Lw))
    (htail : specSeq a (gm1 F Lk ++ P) (F.drop Lk) + tail = specSeq a (gm1 F Lk ++ (P ++ h)) (F.drop Lk)) :
    x + (adj + tail) = psum R F (P ++ h) Lw + specSeq a (gm1 F Lw ++ (P ++ h)) (F.drop Lw) := by
  have hsp := specSeq_drop_split (a := a) F (P ++ h) (Lk - Lw) Lw (by omega)
  have e1 : Lw + (Lk - Lw) = Lk := by omega
  rw [e1] at hsp
  have hps : psum R F P Lk = psum R F P Lw + dsum (fun i => R (pre F i ++ P)) Lw (Lk - Lw) := by
    unfold psum
    have := dsum_add (fun i => R (pre F i ++ P)) Lw (Lk - Lw) 0
    rwa [e1, Nat.zero_add] at this
  have ho : dsum (openTerm R F P h) 0 Lw = psum R F (P ++ h) Lw - psum R F P Lw := by
    unfold psum
    rw [← dsum_sub]
    apply dsum_congr; intro j _ _
    simp only [openTerm, List.append_assoc]
  have hd : dsum (doneTerm a R F P h) Lw (Lk - Lw) =
      dsum (fun i => score a (gm1 F i ++ (P ++ h)) (F.getD i 0)) Lw (Lk - Lw) - dsum (fun i => R (pre F i ++ P)) Lw (Lk - Lw) := by
    rw [← dsum_sub]
    apply dsum_congr; intro j _ _
    simp only [doneTerm, List.append_assoc]
  rw [hsp, ← htail, hx, hadj, ho, hd, hps]
  grind

theorem canon_append (R : Ptr → Rat) (F l P : List Word) {Lk : Nat} (hLk : Lk ≤ F.length) :
    psum R (F ++ l) P Lk + specSeq a (gm1 (F ++ l) Lk ++ P) ((F ++ l).drop Lk) =
      psum R F P Lk + specSeq a (gm1 F Lk ++ P) (F.drop Lk) + specSeq a (F.reverse ++ P) l := by
  rw [psum_append R _ _ _ Lk hLk, gm1_append _ _ Lk hLk, List.drop_append_of_le_length hLk, specSeq_append]
  rw [← List.append_assoc, ← rev_split, Rat.add_assoc]

theorem score_after_loop_nil (R : Ptr → Rat) (F h : List Word) {Lk Lw : Nat} (hLw : Lw ≤ Lk) (hLk : Lk ≤ F.length) {x adj tail : Rat}
    (hx : x = restSum R F Lk + specSeq a (gm1 F Lk) (F.drop Lk))
    (hadj : adj = dsum (openTerm R F [] h) 0 Lw + dsum (doneTerm a R F [] h) Lw (Lk - Lw))
    (htail : specSeq a (gm1 F Lk) (F.drop Lk) + tail = specSeq a (gm1 F Lk ++ h) (F.drop Lk)) :
    x + (adj + tail) = psum R F h Lw + specSeq a (gm1 F Lw ++ h) (F.drop Lw) :=
  score_after_loop R F [] h hLw hLk (by rw [hx, psum_nil, List.append_nil]) hadj (by rw [List.append_nil]; exact htail)

/-- what the back-off buffer after all pointers means for the code that follows: if the fragment's left state is complete
the back-offs are charged to the first word after it; otherwise all its words are in its right state, which is extended by
the context that can still matter -/
theorem tail_sem (H : Hyp a T) (R : Ptr → Rat) {A : List Word} {La : Nat} {cA : Chart} {pA : Rat} (GA : FragC a T R A La cA pA)
    {h : List Word} {nu0 : Nat} (hnu0 : nu0 ≤ h.length) {v : ExtendReturn} (I : LoopInv a A [] h nu0 La v.nextUse v.backIn) :
    (cA.left.full = true →
        specSeq a (gm1 A La) (A.drop La) + (v.backIn.take v.nextUse).sum = specSeq a (gm1 A La ++ h) (A.drop La) ∧
        StateFor a (A.reverse ++ h) cA.right) ∧
    (cA.left.full = false → La = A.length ∧ cA.right.length = A.length ∧
        StateFor a (A.reverse ++ h) (mergedState cA.right h v) ∧ NormS (mergedState cA.right h v)) := by
  have hnuh : v.nextUse ≤ h.length := Nat.le_trans I.nu_le hnu0
  have hN := I.hN
  have hback := I.back
  have hdead := I.dead
  simp only [List.append_nil, List.length_nil, Nat.add_zero] at hN hback hdead
  refine ⟨fun hf => ?_, fun hf => ?_⟩
  · have hc := (GA.closed hf).toP
    refine ⟨?_, stateFor_extend GA.right_for h fun k hk1 hk2 => by
      simpa using closedP_dead H hc (h.take k) (take_ne_nil hk1 hk2)⟩
    have ht := closedP_tail H hc h v.nextUse (by simp; omega) hnuh (by simpa using hdead)
    simp only [List.append_nil] at ht
    rw [ht, hback, sum_range_map]
  · obtain ⟨h1, h2⟩ := GA.open_ hf
    have hg : gm1 A La = A.reverse := by rw [h1, gm1_full]
    rw [hg] at hback hdead
    have := stateFor_merge GA.right_for GA.right_norm (by rw [h2, List.length_reverse]) (v := v)
      (by rw [List.length_reverse]; omega) hnuh hback hdead
    exact ⟨h1, h2, this⟩

/-- **from the outcome of a pointer loop to the fragment of the concatenation.**  The running fragment `M` (`rs`) and
the finished fragment `A` were joined by a loop that kept `Lp` pointers of `A`, extended by all of `M`; `adj` is what the
loop added, `tail` what the first word after `A`'s left state received. -/
theorem assemble (H : Hyp a T) (R : Ptr → Rat) {M A : List Word} {Lm La : Nat} {rs : RS} {cA : Chart} {pA : Rat}
    (FM : Frag a T R M Lm rs) (GA : FragC a T R A La cA pA) (rs' : RS) {Lp : Nat} {adj tail : Rat} (hLp : Lp ≤ La)
    (hptr : rs'.out.left.pointers = rs.out.left.pointers ++ (List.range Lp).map (fun i => pre A i ++ M.reverse))
    (hxl : ∀ i, i < Lp → T.xl (pre A i ++ M.reverse) = true) (hbound : 0 < Lp → Lp + M.length ≤ a.order - 1)
    (hLp0 : rs.leftDone = true → Lp = 0)
    (hadj : adj = dsum (openTerm R A [] M.reverse) 0 Lp + dsum (doneTerm a R A [] M.reverse) Lp (La - Lp))
    (htail : specSeq a (gm1 A La) (A.drop La) + tail = specSeq a (gm1 A La ++ M.reverse) (A.drop La))
    (hprob : rs'.prob = rs.prob + pA + (adj + tail))
    (hsf : StateFor a (A.reverse ++ M.reverse) rs'.out.right) (hnm : NormS rs'.out.right)
    (hop : rs'.leftDone = false → rs.leftDone = false ∧ Lp = A.length ∧ rs'.out.right.length = A.length + M.length)
    (hfullM : rs.leftDone = true → rs'.leftDone = true)
    (hcl : rs'.leftDone = true → rs.leftDone = false → Closed T (M ++ A) (M.length + Lp)) :
    ∃ L', Frag a T R (M ++ A) L' rs' := by
  have hX := score_after_loop_nil R A M.reverse hLp GA.L_le GA.prob_eq hadj htail
  rw [Rat.add_assoc] at hprob
  rw [hX] at hprob
  by_cases hd : rs.leftDone = true
  · have hLp' := hLp0 hd
    subst hLp'
    refine ⟨Lm, FM.append_done ((FM.closed hd).append H A) (hfullM hd) (by rw [hptr]; exact List.append_nil _) hsf hnm ?_⟩
    rw [hprob]; exact congrArg _ (Rat.zero_add _)
  · have hd' : rs.leftDone = false := by simpa using hd
    refine ⟨M.length + Lp, Frag.build R FM hd' Lp rs' (Nat.le_trans hLp GA.L_le) ?_ hsf hnm hptr hxl hprob
      (fun hc => (hop hc).2) (fun hc => hcl hc hd')⟩
    by_cases hpos : 0 < Lp
    · exact hbound hpos
    · have := FM.L_lt; have := (FM.open_ hd').1; omega

theorem LoopInv.start {A h : List Word} {s0 : State} (H : Hyp a T) (sf : StateFor a h s0) {v0 : ExtendReturn}
    (hnu : v0.nextUse = s0.length) (hbo : v0.backIn.take v0.nextUse = s0.backoff.take s0.length) :
    LoopInv a A [] h s0.length 0 v0.nextUse v0.backIn := by
  refine ⟨Nat.le_of_eq hnu, ?_, ?_, ?_⟩
  · have := sf.len_le_N; have := H.wf.order_ge; rw [hnu]; show 0 + 0 + 1 + s0.length ≤ a.order; omega
  · rw [hbo, hnu, sf.backoff]; rfl
  · rw [hnu]; exact sf.dead

/-- the pointer loop over all pointers of a finished fragment `A`, to which the history `h` is revealed through the right
state `s0` -/
theorem join_loop (H : Hyp a T) (R : Ptr → Rat) {A : List Word} {La : Nat} {cA : Chart} {pA : Rat} (GA : FragC a T R A La cA pA)
    {h : List Word} {s0 : State} (sf : StateFor a h s0) {add : List Word} (hadd : ∀ j, j ≤ s0.length → add.take j = h.take j)
    {v0 : ExtendReturn} (hnu : v0.nextUse = s0.length) (hbo : v0.backIn.take v0.nextUse = s0.backoff.take s0.length)
    (write : Bool) (hw : write = true → s0.length = h.length ∧ v0.makeFull = false) (v : ExtendReturn)
    (hv : loopFrom T R 0 add s0.length cA.left.pointers v0 write = v) :
    ∃ Lw, LoopOut a T R A [] h La s0.length 0 write v0 v Lw := by
  have C : LoopCtx a T A [] h La s0.length :=
    ⟨GA.L_le, fun i hi => by simpa using GA.ptr_xl i hi, by simpa using GA.L_lt, sf.len_le_h⟩
  have I0 := LoopInv.start (A := A) H sf hnu hbo
  rw [GA.ptrs, ptrs_nil] at hv
  exact loopFrom_sem H R C hadd 0 0 rfl (Nat.zero_le _) I0 write (fun hc => ⟨(hw hc).1, hnu, (hw hc).2⟩) v hv

theorem FragC.tail_open {R : Ptr → Rat} {ws : List Word} {L : Nat} {c : Chart} {p : Rat} (G : FragC a T R ws L c p)
    (hf : c.left.full = false) (h : List Word) :
    specSeq a (gm1 ws L) (ws.drop L) + 0 = specSeq a (gm1 ws L ++ h) (ws.drop L) := by
  rw [(G.open_ hf).1, List.drop_eq_nil_of_le (Nat.le_refl _)]; exact Rat.add_zero _

theorem FragC.closed_concat (H : Hyp a T) {R : Ptr → Rat} {ws2 : List Word} {L2 : Nat} {c : Chart} {p2 : Rat}
    (G : FragC a T R ws2 L2 c p2) (hf : c.left.full = true) (ws1 : List Word) (hb : L2 + ws1.length ≤ a.order - 1) :
    Closed T (ws1 ++ ws2) (ws1.length + L2) :=
  Closed.concat ((G.closed hf).toP.more_ctx H ws1.reverse (by rw [H.tf.order_eq]; simpa using hb))

theorem fragC_append_full (H : Hyp a T) (R : Ptr → Rat) {ws X : List Word} {L : Nat} {c : Chart} {p q : Rat}
    (G : FragC a T R ws L c p) (hf : c.left.full = true) {left' : LeftSt} {sR : State}
    (hl : left'.pointers = c.left.pointers) (hlf : left'.full = true)
    (hsR : StateFor a (ws ++ X).reverse sR) (hn : NormS sR) (hq : q = p + specSeq a ws.reverse X) :
    FragC a T R (ws ++ X) L { left := left', right := sR } q := by
  have hleft : left' = c.left := by
    cases left'; cases hc : c.left
    rw [hc] at hl hf
    simp only at hl hlf hf
    rw [hl, hlf, hf]
  exact FragC.ofFrag (G.toFrag.append_done ((G.closed hf).append H X) hlf (congrArg _ hleft) (by rw [← List.reverse_append]; exact hsR) hn hq)

end KV.Left
