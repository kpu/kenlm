import Proofs.ScoreClosed
/-! `GetState` post-condition and canonicity of the state returned by `FullScore` (suffix-closed models). -/
namespace KV.Score
open KV.Arpa KV.Table KV.State

/-- what `GetState`'s loop returns for the context `x :: rest`: `c1` more words were found -/
structure GetPost (T : Table) (x : Word) (rest : List Word) (res : Nat × List Rat) (c1 : Nat) : Prop where
  c1_le : c1 ≤ rest.length
  found : T.lookup (x :: rest.take c1) ≠ none
  stop : c1 < rest.length → T.lookup (x :: rest.take (c1+1)) = none
  bo : res.2 = (List.range (c1+1)).map (fun j => T.bo (x :: rest.take j))
  len_le : res.1 ≤ c1 + 1
  unmarked : ∀ j, res.1 ≤ j → j < c1 + 1 → T.xr (x :: rest.take j) = false
  marked : 0 < res.1 → T.xr (x :: rest.take (res.1 - 1)) = true

/-- loop invariant of `GetState` after `i` words of `rest`: `AccInv` without the return value -/
structure GetInv (T : Table) (x : Word) (rest : List Word) (i : Nat) (node : List Word) (len : Nat) (bo : List Rat) : Prop where
  node_eq : node = x :: rest.take i
  i_le : i ≤ rest.length
  found : T.lookup (x :: rest.take i) ≠ none
  bo : bo = (List.range (i+1)).map (fun j => T.bo (x :: rest.take j))
  len_le : len ≤ i + 1
  unmarked : ∀ j, len ≤ j → j < i + 1 → T.xr (x :: rest.take j) = false
  marked : 0 < len → T.xr (x :: rest.take (len - 1)) = true

variable {T : Table} {x : Word} {rest : List Word} {i : Nat} {node : List Word} {len : Nat} {bo : List Rat}

theorem GetInv.toPost (inv : GetInv T x rest i node len bo)
    (hstop : i < rest.length → T.lookup (x :: rest.take (i+1)) = none) : GetPost T x rest (len, bo) i :=
  ⟨inv.i_le, inv.found, hstop, inv.bo, inv.len_le, inv.unmarked, inv.marked⟩

theorem GetInv.next (inv : GetInv T x rest i node len bo) (hi : i < rest.length)
    {t : TEntry} (hl : T.lookup (x :: rest.take (i+1)) = some t) {node' : List Word} (hnode : node' = x :: rest.take (i+1)) :
    GetInv T x rest (i+1) node' (if t.extendsRight then i + 2 else len) (bo ++ [t.backoff]) := by
  have lm := (LastMarked.mk inv.len_le inv.unmarked inv.marked).succ
  simp only [Table.xr_of_lookup hl] at lm
  refine ⟨hnode, hi, by rw [hl]; exact Option.some_ne_none t, ?_, lm.le, lm.unmarked, lm.marked⟩
  rw [inv.bo, List.range_succ (n := i+1), List.map_append, ← Table.bo_of_lookup hl]; rfl

/-- the loop of `GetState` from its head after `i` words, for any table; `n` is the number of words still to come -/
theorem get_post (T : Table) (x : Word) (rest : List Word) :
    ∀ (n i : Nat) (node : List Word) (len : Nat) (bo : List Rat), n = rest.length - i →
      GetInv T x rest i node len bo →
      ∃ c1, GetPost T x rest (getStateLoop (tableSearch T) (rest.drop i) i node len bo) c1 := by
  intro n
  induction n with
  | zero =>
    intro i node len bo hn inv
    have hi : rest.length ≤ i := Nat.le_of_sub_eq_zero hn.symm
    rw [List.drop_eq_nil_of_le hi]
    exact ⟨i, inv.toPost fun h => absurd h (Nat.not_lt.mpr hi)⟩
  | succ n ih =>
    intro i node len bo hn inv
    cases hd : rest.drop i with
    | nil => have := List.drop_eq_nil_iff.mp hd; omega
    | cons y rest' =>
      obtain ⟨htake, hdrop, hi⟩ := take_succ_of_drop hd
      have hnode : node ++ [y] = x :: rest.take (i+1) := by rw [inv.node_eq, htake]; rfl
      rw [getStateLoop, lookupMiddle_table, hnode]
      cases hl : T.lookup (x :: rest.take (i+1)) with
      | none => exact ⟨i, inv.toPost fun _ => hl⟩
      | some t =>
        rw [← hdrop]
        exact ih (i+1) _ _ _ (by omega) (inv.next hi hl rfl)

/-- `GetState` over a table, for a context whose newest word has a unigram entry; `x :: tl` are the words that fit -/
theorem getState_post (ctx : List Word) {tl : List Word} (hctx : ctx.take (T.order - 1) = x :: tl)
    {u : TEntry} (hu : T.lookup [x] = some u) :
    ∃ c1 res, GetPost T x tl res c1 ∧
      getState (tableSearch T) ctx = { length := res.1, words := (x :: tl).take res.1, backoff := res.2 } := by
  have lm := (LastMarked.zero (fun j => T.xr (x :: tl.take j))).succ
  simp only [List.take_zero, Table.xr_of_lookup hu] at lm
  obtain ⟨c1, gp⟩ := get_post T x tl tl.length 0 [x] (if u.extendsRight then 1 else 0) [u.backoff] rfl
    ⟨rfl, Nat.zero_le _, by rw [List.take_zero, hu]; exact Option.some_ne_none u, by rw [← Table.bo_of_lookup hu]; rfl,
     lm.le, lm.unmarked, lm.marked⟩
  refine ⟨c1, _, gp, ?_⟩
  have hctx' : ctx.take ((tableSearch T).order - 1) = x :: tl := hctx
  rw [getState, hctx']
  simp only [lookupUnigram_table hu]
  rfl

/-- The loops of `ScoreExceptBackoff` (over the `n` newest words of `h`) and of `GetState` (over the `N` newest words,
`N + 1` the state size) compute the same length and the same back-offs, provided the first one matched as many words
of `h` as the table allows. -/
theorem loops_agree (ok : TableOK T) {h : List Word} {w : Word} {n N c0 c1 : Nat} {acc : Acc (List Word)}
    {res : Nat × List Rat} (post : AccPost T (h.take n) w acc c0) (gp : GetPost T w (h.take N) res c1)
    (hN : T.order - 1 = N + 1) (hmax : ∀ c, c0 < c → c ≤ h.length → T.lookup (w :: h.take c) = none) :
    acc.nextUse = res.1 ∧ acc.backoffOut = res.2 ∧ res.1 ≤ N + 1 := by
  have hc0 := post.c0_le
  rw [List.length_take] at hc0
  have hc0n : c0 ≤ n := Nat.le_trans hc0 (Nat.min_le_left _ _)
  have hc1 := gp.c1_le
  rw [List.length_take] at hc1
  have hc1N : c1 ≤ N := Nat.le_trans hc1 (Nat.min_le_left _ _)
  have hle : c1 ≤ c0 := Nat.le_of_not_lt fun hgt => by
    have hf := gp.found
    rw [take_take_of_le hc1N] at hf
    exact hf (hmax c1 hgt (Nat.le_trans hc1 (Nat.min_le_right _ _)))
  -- `GetState` stops only at its bound or where the other loop stops
  have hge : c0 ≤ c1 ∨ N ≤ c1 := by
    rcases Nat.lt_or_ge c1 c0 with h1 | h1
    · rcases Nat.lt_or_ge c1 N with h2 | h2
      · have hst := gp.stop (by rw [List.length_take]; omega)
        obtain ⟨t, ht, _⟩ := post.found
        rw [take_take_of_le h2] at hst
        rw [take_take_of_le hc0n, lookup_none_take ok w h (c1+1) c0 h1 hst] at ht
        cases ht
      · exact Or.inr h2
    · exact Or.inl h1
  have hbound : min (c0 + 1) (T.order - 1) = c1 + 1 := by rw [hN]; omega
  have htake₁ : ∀ j, j < c1 + 1 → (h.take n).take j = h.take j := fun j hj =>
    take_take_of_le (Nat.le_trans (Nat.le_of_lt_succ hj) (Nat.le_trans hle hc0n))
  have htake₂ : ∀ j, j < c1 + 1 → (h.take N).take j = h.take j := fun j hj =>
    take_take_of_le (Nat.le_trans (Nat.le_of_lt_succ hj) hc1N)
  have lm1 : LastMarked (fun j => T.xr (w :: h.take j)) (c1 + 1) acc.nextUse :=
    LastMarked.congr (fun j hj => by rw [htake₁ j hj]) (hbound ▸ LastMarked.mk post.olen_le post.unmarked post.marked)
  have lm2 : LastMarked (fun j => T.xr (w :: h.take j)) (c1 + 1) res.1 :=
    LastMarked.congr (fun j hj => by rw [htake₂ j hj]) (LastMarked.mk gp.len_le gp.unmarked gp.marked)
  refine ⟨lm1.unique lm2, ?_, Nat.le_trans gp.len_le (Nat.succ_le_succ hc1N)⟩
  rw [post.bo, gp.bo, hbound]
  exact List.map_congr_left fun j hj => by rw [htake₁ j (List.mem_range.mp hj), htake₂ j (List.mem_range.mp hj)]

/-- **Canonical state** (tables without blanks): the state `FullScore` returns after `w` equals — on `length`,
`words[0..length)` and `backoff[0..length)` — the state `GetState` computes directly from the history. -/
theorem canonical_out {a : Arpa} {T : Table} (wf : WellFormed a) (tf : TableFor a T) (nb : NoBlanks a T)
    {h : List Word} {s : State} (sf : StateFor a h s) {w : Word} (hw : a.gram [w] ≠ none) :
    let out := (fullScore (tableSearch T) s w).2
    let gs := getState (tableSearch T) (w :: h)
    out.length = gs.length ∧ out.words.take out.length = gs.words.take gs.length ∧
      out.backoff.take out.length = gs.backoff.take gs.length := by
  obtain ⟨N, hN⟩ : ∃ N, T.order - 1 = N + 1 :=
    ⟨a.order - 2, by have := wf.order_ge; rw [tf.order_eq]; omega⟩
  obtain ⟨c0, acc, post, hfs, hc0s, hmax⟩ := fullScore_char wf tf sf hw
  obtain ⟨u, hu⟩ := tf.unigram hw
  obtain ⟨c1, res, gp, hgs⟩ := getState_post (T := T) (w :: h) (tl := h.take N) (by rw [hN]; rfl) hu
  -- the table has no blanks, so it matches no more words than the model
  obtain ⟨hL, hbo, hLN⟩ := loops_agree tf.toTableOK post gp hN fun c h1 h2 =>
    Classical.byContradiction fun hne => nb _ hne (hmax c h1 h2)
  intro out gs
  have hout : out = { length := acc.nextUse, words := w :: h.take (acc.nextUse - 1), backoff := acc.backoffOut } :=
    congrArg Prod.snd hfs
  rw [hout, show gs = _ from hgs]
  refine ⟨hL, ?_, by rw [hbo, hL]⟩
  show (w :: h.take (acc.nextUse - 1)).take acc.nextUse = ((w :: h.take N).take res.1).take res.1
  rw [hL, List.take_take, Nat.min_self]
  cases hr : res.1 with
  | zero => rfl
  | succ l =>
    rw [List.take_succ_cons, List.take_succ_cons, Nat.add_sub_cancel, List.take_take, Nat.min_self,
      take_take_of_le (by rw [hr] at hLN; exact Nat.le_of_succ_le_succ hLN)]

end KV.Score
