import Proofs.VocabGrowable
/-!
From hashes to words: if the hash is injective on the words that occur, the ids `GrowableVocab`
assigns are the positions of first occurrence of the *words*.
-/
namespace KV.Vocab

section Words
variable {W : Type}

def InjOn (f : W → Nat) (S : List W) : Prop := ∀ a, a ∈ S → ∀ b, b ∈ S → f a = f b → a = b

variable [DecidableEq W]

theorem idxOf_map_inj (f : W → Nat) (seen : List W) (k : W) (hinj : InjOn f (k :: seen)) :
    (seen.map f).idxOf (f k) = seen.idxOf k ∧ (f k ∈ seen.map f ↔ k ∈ seen) := by
  have hk : ∀ a, a ∈ seen → (f a = f k ↔ a = k) := fun a ha =>
    ⟨hinj a (List.mem_cons_of_mem _ ha) k (List.mem_cons_self ..), fun e => e ▸ rfl⟩
  constructor
  · clear hinj
    induction seen with
    | nil => rfl
    | cons x xs ih =>
      have ih' := ih (fun a ha => hk a (List.mem_cons_of_mem _ ha))
      simp only [List.map_cons, List.idxOf_cons]
      by_cases e : x = k
      · subst e; simp
      · have e' : ¬ f x = f k := fun h => e ((hk x (List.mem_cons_self ..)).1 h)
        rw [ih', beq_false_of_ne e', beq_false_of_ne e]
  · rw [List.mem_map]
    exact ⟨fun ⟨a, ha, e⟩ => (hk a ha).1 e ▸ ha, fun h => ⟨k, h, rfl⟩⟩

theorem specStep_map (f : W → Nat) (seen : List W) (k : W) (hinj : InjOn f (k :: seen)) :
    specStep (seen.map f) (f k) = ((specStep seen k).1, (specStep seen k).2.map f) := by
  obtain ⟨h1, h2⟩ := idxOf_map_inj f seen k hinj
  unfold specStep
  rw [h1]
  by_cases hm : k ∈ seen
  · simp [hm, h2.2 hm]
  · have : ¬ f k ∈ seen.map f := fun h => hm (h2.1 h)
    simp [hm, this]

theorem specStep_subset (seen : List W) (k : W) : ∀ a, a ∈ (specStep seen k).2 → a ∈ k :: seen := by
  intro a ha
  unfold specStep at ha
  split at ha
  · exact List.mem_cons_of_mem _ ha
  · rcases List.mem_append.1 ha with h | h
    · exact List.mem_cons_of_mem _ h
    · rw [List.mem_singleton.1 h]; exact List.mem_cons_self ..

/-- one line, for a hash injective on a list `S` that contains every word in sight; the words seen
afterwards are still in `S` -/
theorem specLine_map (f : W → Nat) (S : List W) (hinj : InjOn f S) : ∀ (l seen : List W),
    (∀ a, a ∈ seen → a ∈ S) → (∀ a, a ∈ l → a ∈ S) →
    specLine (seen.map f) (l.map f) = ((specLine seen l).1, (specLine seen l).2.map f) ∧
      ∀ a, a ∈ (specLine seen l).2 → a ∈ S := by
  intro l
  induction l with
  | nil => intro seen hs _; exact ⟨rfl, hs⟩
  | cons k ks ih =>
    intro seen hs hl
    have hks : ∀ a, a ∈ k :: seen → a ∈ S := fun a ha =>
      (List.mem_cons.1 ha).elim (fun e => e ▸ hl k (List.mem_cons_self ..)) (hs a)
    obtain ⟨e2, hsub⟩ := ih (specStep seen k).2 (fun a ha => hks a (specStep_subset seen k a ha))
      (fun a ha => hl a (List.mem_cons_of_mem _ ha))
    exact ⟨by simp only [List.map_cons, specLine, specStep_map f seen k fun a ha b hb => hinj a (hks a ha) b (hks b hb), e2], hsub⟩

theorem specLines_map (f : W → Nat) (S : List W) (hinj : InjOn f S) : ∀ (ls : List (List W)) (seen : List W),
    (∀ a, a ∈ seen → a ∈ S) → (∀ l, l ∈ ls → ∀ a, a ∈ l → a ∈ S) →
    specLines (seen.map f) (ls.map (·.map f)) = ((specLines seen ls).1, (specLines seen ls).2.map f) := by
  intro ls
  induction ls with
  | nil => intro seen _ _; rfl
  | cons l ls ih =>
    intro seen hs hl
    obtain ⟨e, hsub⟩ := specLine_map f S hinj l seen hs (hl l (List.mem_cons_self ..))
    have e2 := ih (specLine seen l).2 hsub (fun l' hl' => hl l' (List.mem_cons_of_mem _ hl'))
    simp only [List.map_cons, specLines, e, e2]

theorem specEncode_map (f : W → Nat) (unk bos eos : W) (text : List (List W))
    (hinj : InjOn f ([unk, bos, eos] ++ text.flatten)) :
    specEncode (f unk) (f bos) (f eos) (text.map (·.map f)) = specEncode unk bos eos text := by
  have := specLines_map f _ hinj text [unk, bos, eos] (fun a ha => List.mem_append_left _ ha)
    (fun l hl a ha => List.mem_append_right _ (List.mem_flatten.2 ⟨l, hl, ha⟩))
  simp only [List.map_cons, List.map_nil] at this
  simp only [specEncode, this, List.length_map]

/-- `growableEncode` on words: for every admissible initial size `x` of the `AutoProbing` table
(hence every doubling history) the id sequences `CorpusCount` produces are those of the order of first
occurrence of the words, and the final vocabulary size is the number of distinct words -/
theorem growable_ids_first_occurrence (hash : W → Nat) (unk bos eos : W) (unkCapHash : Nat) (text : List (List W))
    (hsp : unk ≠ bos ∧ unk ≠ eos ∧ bos ≠ eos)
    (hinj : InjOn hash ([unk, bos, eos] ++ text.flatten))
    (hmax : (specEncode unk bos eos text).2 < kWordIndexMax)
    (x : Nat) (h1 : 1 ≤ x) (h2 : x ≤ 2^63) :
    growableEncode ⟨hash unk, unkCapHash, hash bos, hash eos⟩ x (text.map (·.map hash)) =
      .ok (specEncode unk bos eos text) := by
  have hd : hash unk ≠ hash bos ∧ hash unk ≠ hash eos ∧ hash bos ≠ hash eos :=
    ⟨fun e => hsp.1 (hinj unk (by simp) bos (by simp) e),
     fun e => hsp.2.1 (hinj unk (by simp) eos (by simp) e),
     fun e => hsp.2.2 (hinj bos (by simp) eos (by simp) e)⟩
  have e := specEncode_map hash unk bos eos text hinj
  have := growableEncode_spec ⟨hash unk, unkCapHash, hash bos, hash eos⟩ x h1 h2 hd (text.map (·.map hash))
    (by show (specEncode (hash unk) (hash bos) (hash eos) _).2 < _; rw [e]; exact hmax)
  rw [this]
  show Except.ok (specEncode (hash unk) (hash bos) (hash eos) _) = _
  rw [e]

end Words
end KV.Vocab
