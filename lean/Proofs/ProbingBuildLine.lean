import Proofs.ProbingBuildLoops
/-! One line of `ReadNGrams` on the key-indexed view, for either build mode: a line `p` of order `b + L + 1` whose suffix of
order `b` is stored (or `b = 1`) and whose `L ≥ 0` suffixes above it are not (`Blanks`).  `LineOK` are the side conditions,
`afterFind`, `afterAdjust`, `afterMark`, `afterLine` the payloads after each phase, `addLine_run` the statement. -/
namespace KV.ProbingBuild
open KV.Arpa KV.Table KV.Score KV.ProbingLM

structure LineOK (combine : Nat → Word → Nat) (N : Nat) (caps : Nat → Nat) (U : Nat) (S : List Key) (p : Key) (b L : Nat) : Prop
    extends LineKeys S p b L where
  nN : b + L + 1 ≤ N
  fresh : ∀ j, b < j → j ≤ b + L + 1 → ∀ k' ∈ keysOf S j, hashOf combine k' ≠ hashOf combine (p.take j)
  cap : ∀ j, b < j → j ≤ b + L + 1 → (keysOf S j).length + 1 < caps j
  /-- only a unigram basis makes the line touch the unigram array (`MarkLower` apart) -/
  words : b = 1 → p.headD 0 < U ∧ p.getD 1 0 < U

/-- the payloads after the insertion of the line (payload `lw`) and `FindLower`: the blanks enter with `blankW` -/
def afterFind (want0 : Key → W) (p : Key) (lw : W) (b L : Nat) : Key → W := fun k =>
  if SufIn p (b + 1) (b + L) k then blankW else updW want0 p lw k

/-- … after `AdjustLower` (from the payloads `w1` after `FindLower`): the probabilities of the blanks filled bottom-up, then the
chain marked from the top, under `MaxRestBuild` with the rest costs starting from `lr` -/
def afterAdjust (rest : Bool) (w1 : Key → W) (p : Key) (lr : Rat) (b L : Nat) : Key → W :=
  applyUpd (applyUpd w1 (fillUpd rest w1 p L b (-(w1 (p.take b)).mag)))
    (markUpd rest (applyUpd w1 (fillUpd rest w1 p L b (-(w1 (p.take b)).mag))) (chainKeys p b L) lr)

/-- … after `MarkLower` below the basis with the `rest` the basis has got (`MaxRestBuild` only) -/
def afterMark (rest : Bool) (w1 : Key → W) (p : Key) (lr : Rat) (b L : Nat) : Key → W :=
  if rest then lowerMarked (afterAdjust rest w1 p lr b L) p (afterAdjust rest w1 p lr b L (p.take b)).rest (b - 1)
  else afterAdjust rest w1 p lr b L

theorem afterMark_true (w1 : Key → W) (p : Key) (lr : Rat) (b L : Nat) : afterMark true w1 p lr b L =
    lowerMarked (afterAdjust true w1 p lr b L) p (afterAdjust true w1 p lr b L (p.take b)).rest (b - 1) := rfl

theorem afterMark_false (w1 : Key → W) (p : Key) (lr : Rat) (b L : Nat) : afterMark false w1 p lr b L = afterAdjust false w1 p lr b L :=
  rfl

/-- … after the whole line: the extension bit of the line's context -/
def afterLine (rest : Bool) (w1 : Key → W) (p : Key) (lr : Rat) (b L : Nat) : Key → W :=
  updW (afterMark rest w1 p lr b L) (p.drop 1) (setExtension (afterMark rest w1 p lr b L (p.drop 1)))

/-- what `MarkLower` relies on below a basis of order `b`: the suffixes are stored, `rest` does not increase towards the longer
ones, the sign bits are clear -/
structure LowOK (U : Nat) (S : List Key) (want : Key → W) (p : Key) (b : Nat) : Prop where
  pre : ∀ j, 2 ≤ j → j < b → p.take j ∈ S
  hd : p.headD 0 < U
  mono : ∀ j, 1 ≤ j → j + 1 < b → (want (p.take (j + 1))).rest ≤ (want (p.take j)).rest
  neg : ∀ j, 1 ≤ j → j < b → (want (p.take j)).neg = false

/-- `afterLine false` written out (`afterLine_false`): blanks filled bottom-up, signs cleared along the chain, extension mark on the
context -/
def chainWant (want1 : Key → W) (p : Key) (b L : Nat) : Key → W :=
  updW (applyUpd (applyUpd want1 (fillUs want1 p L b (-(want1 (p.take b)).mag))) ((chainKeys p b L).map fun k => (k, clr)))
    (p.drop 1)
    (setExtension ((applyUpd (applyUpd want1 (fillUs want1 p L b (-(want1 (p.take b)).mag))) ((chainKeys p b L).map fun k => (k, clr))) (p.drop 1)))

section
variable {combine : Nat → Word → Nat} {N : Nat} {caps : Nat → Nat} {U : Nat} {S : List Key} {p : Key} {b L : Nat}

theorem afterAdjust_low (rest : Bool) (w1 : Key → W) (p : Key) (lr : Rat) (b L : Nat) (hpl : b + L < p.length) (k : Key)
    (hk : k.length < b) : afterAdjust rest w1 p lr b L k = w1 k := by
  have hne : ∀ {k' : Key} {j : Nat}, k'.length = j → b ≤ j → k ≠ k' := fun hl hj he =>
    Nat.lt_irrefl _ (Nat.lt_of_lt_of_le (he ▸ hk) (hl ▸ hj))
  unfold afterAdjust
  rw [mark_other rest _ k _ _ _ fun hm => by
      obtain ⟨j, h1, h2, he⟩ := (mem_chainKeys p b L k).mp hm
      exact hne (List.length_take_of_le (Nat.le_of_lt (Nat.lt_of_le_of_lt h2 hpl))) h1 he,
    fill_other rest w1 p k (b + L) L b _ _ rfl
      (fun j h1 h2 => hne (length_ctx_take p j (Nat.lt_trans h2 hpl)) h1)
      (fun j h1 h2 => hne (List.length_take_of_le (Nat.le_of_lt (Nat.lt_of_le_of_lt h2 hpl))) (Nat.le_of_lt h1))]

theorem afterFind_low (want0 : Key → W) (p : Key) (lw : W) (b L : Nat) (hpl : b + L < p.length) (k : Key) (hk : k.length ≤ b) :
    afterFind want0 p lw b L k = want0 k := by
  unfold afterFind
  rw [if_neg fun c => Nat.lt_irrefl _ (Nat.lt_of_lt_of_le c.1 hk),
    updW_of_length_ne lw (Nat.ne_of_lt (Nat.lt_of_le_of_lt (Nat.le_trans hk (Nat.le_add_right b L)) hpl))]

/-- insertion, `FindLower` and `AdjustLower` of a line, in either build mode and from any payloads `want0`: the blanks are
appended, their probabilities filled, the chain marked; with the reference to the basis that `MarkLower` starts from -/
theorem addLine_adjust (rest : Bool) {s : St} {want0 : Key → W} (h : StP combine N caps U s (keysOf S) want0)
    (lo : LineOK combine N caps U S p b L) (e : Entry) :
    ∃ s1 s2 refs s3,
      insPhase combine N s p e = .ok s1 ∧ findLower combine p (p.length - 2) s1 [] = .ok (s2, refs) ∧
      adjustLower combine rest (lineW e).rest p p.length refs s2 = .ok s3 ∧
      Den N U (keysAfter S p b L) (refs.getLastD (.uni 0)) (p.take b) ∧ refs.length = L + 1 ∧
      StP combine N caps U s3 (keysAfter S p b L) (afterAdjust rest (afterFind want0 p (lineW e) b L) p (lineW e).rest b L) := by
  have hb := lo.hb
  have hbL : b ≤ b + L := Nat.le_add_right b L
  have hp2 : 2 ≤ p.length := lo.hpl ▸ Nat.succ_le_succ (Nat.le_trans hb hbL)
  obtain ⟨s1, hins, h1⟩ := stP_insert h p e hp2 (lo.hpl ▸ lo.nN)
    (by have := lo.fresh (b + L + 1) (Nat.lt_succ_of_le hbL) (Nat.le_refl _); rwa [lo.take_top, ← lo.hpl] at this)
    (lo.hpl ▸ lo.cap (b + L + 1) (Nat.lt_succ_of_le hbL) (Nat.le_refl _))
  -- `FindLower` counts down from `f = b + L - 1`
  obtain ⟨f, hf⟩ : ∃ f, f + 1 = b + L := ⟨b + L - 1, Nat.sub_add_cancel (Nat.le_trans hb hbL)⟩
  have hpf : p.length - 2 = f := by rw [lo.hpl, ← hf]; rfl
  have hK0 : ∀ j, j ≤ b + L → keysOf (S ++ [p]) j = keysOf S j := fun j hj =>
    keysOf_append_other S p j (Nat.ne_of_gt (lo.lt_len hj))
  obtain ⟨s2, refs, Ks1, w1, hfl, h2, hKs1, hw1, hrl, hden⟩ := findLower_chain combine N caps U p b hb f s1 _ _ [] h1
    (hf ▸ lo.nN) (hf ▸ hbL) (hf ▸ Nat.le_of_lt (lo.lt_len (Nat.le_refl _)))
    (lo.basis.imp_right fun hm => by
      rw [hK0 b hbL]; exact (mem_keysOf S b _).mpr ⟨hm, lo.take_len (Nat.le_succ_of_le hbL)⟩)
    (fun h1 => (lo.words h1).1)
    (fun j hj1 hj2 => by
      rw [hf] at hj2
      rw [hK0 j hj2]
      exact ⟨fun hm => lo.miss j hj1 hj2 (keysOf_mem S j _ hm), lo.fresh j hj1 (Nat.le_succ_of_le hj2),
        lo.cap j hj1 (Nat.le_succ_of_le hj2)⟩)
  rw [hf] at hKs1 hw1 hden
  obtain rfl : Ks1 = keysAfter S p b L := funext hKs1
  obtain rfl : w1 = afterFind want0 p (lineW e) b L := funext hw1
  have hrl : refs.length = L + 1 := by
    rw [hrl, show f + 2 = b + (L + 1) from congrArg (· + 1) hf, Nat.add_sub_cancel_left]
  obtain ⟨s3, hadj, h3⟩ := adjustLower_chain rest combine N caps U p _ b L hb lo.nN (Nat.le_of_lt (lo.lt_len (Nat.le_refl _)))
    s2 _ h2 refs hrl hden
    (fun j hj2 hbj hjl => mem_keysAfter S p b L (lo.ctx j hj2 hbj (Nat.le_of_lt hjl))
      (length_ctx_take p j (lo.lt_len (Nat.le_of_lt hjl))) (lo.lt_len (Nat.le_of_lt hjl)))
    (fun h1 => ⟨(ctx_take_one p hp2).1, (lo.words h1).2⟩)
    (fun j j' hbj hjl hbj' hjl' he => by
      have hl := congrArg List.length he
      rw [length_ctx_take p j (lo.lt_len (Nat.le_of_lt hjl)), lo.take_len (Nat.le_succ_of_le hjl')] at hl
      subst hl
      exact lo.miss j hbj' hjl' (he ▸ lo.ctx j (Nat.succ_le_of_lt (Nat.lt_of_le_of_lt hb hbj')) hbj hjl'))
    (lineW e).rest
  refine ⟨s1, s2, refs, s3, hins, hpf ▸ hfl, lo.hpl ▸ hadj, ?_, hrl, h3⟩
  have := hden L (hrl ▸ Nat.lt_succ_self L)
  rwa [Nat.add_sub_cancel, ← getLastD_of_length refs (.uni 0) hrl] at this

/-- **one line of `ReadNGrams` on the key-indexed view**, in either build mode, from any payloads `want0`, with `L ≥ 0`
blanks: `addLine` succeeds, appends the blanks and the line, and leaves `afterLine` -/
theorem addLine_run (rest : Bool) {s : St} {want0 : Key → W} (h : StP combine N caps U s (keysOf S) want0)
    (lo : LineOK combine N caps U S p b L) (e : Entry) (hlow : rest = true → LowOK U S want0 p b) :
    ∃ s', addLine combine rest N s p e = .ok s' ∧
      StP combine N caps U s' (keysAfter S p b L) (afterLine rest (afterFind want0 p (lineW e) b L) p (lineW e).rest b L) := by
  obtain ⟨s1, s2, refs, s3, hins, hfl, hadj, hdl, hrl, h3⟩ := addLine_adjust rest h lo e
  have hb := lo.hb
  have hbL : b + L < p.length := lo.lt_len (Nat.le_refl _)
  have hJ : p.length - refs.length - 1 = b - 1 := by rw [lo.hpl, hrl, Nat.add_assoc, Nat.add_sub_cancel]
  have hp2 : 2 ≤ p.length := lo.hpl ▸ Nat.succ_le_succ (Nat.le_trans hb (Nat.le_add_right b L))
  -- `MarkLower`: below the basis nothing has changed so far
  obtain ⟨s4, hml, h4⟩ : ∃ s4,
      (if rest then markLower combine p (s3.get (refs.getLastD (.uni 0))).rest (b - 1) s3 else .ok s3) = .ok s4 ∧
      StP combine N caps U s4 (keysAfter S p b L)
        (afterMark rest (afterFind want0 p (lineW e) b L) p (lineW e).rest b L) := by
    cases rest with
    | false => exact ⟨s3, rfl, h3⟩
    | true =>
      have low := hlow rfl
      have hJb : ∀ {j}, j ≤ b - 1 → j < b := fun hj => Nat.lt_of_le_of_lt hj (Nat.sub_lt hb Nat.one_pos)
      have hlen : ∀ {j}, j < b → (p.take j).length = j := fun hj =>
        List.length_take_of_le (Nat.le_of_lt (Nat.lt_of_lt_of_le hj (Nat.le_of_lt (Nat.lt_of_le_of_lt (Nat.le_add_right b L) hbL))))
      have hw : ∀ {j}, j < b → afterAdjust true (afterFind want0 p (lineW e) b L) p (lineW e).rest b L (p.take j) = want0 (p.take j) :=
        fun hj => by
          rw [afterAdjust_low true _ p _ b L hbL _ (by rw [hlen hj]; exact hj),
            afterFind_low want0 p _ b L hbL _ (by rw [hlen hj]; exact Nat.le_of_lt hj)]
      rw [stP_get h3 _ _ hdl]
      exact markLower_chain combine N caps U p _ _ (b - 1) s3 _ h3
        (Nat.lt_of_lt_of_le (hJb (Nat.le_refl _)) (Nat.le_trans (Nat.le_add_right b (L + 1)) lo.nN))
        (Nat.le_of_lt (Nat.lt_trans (hJb (Nat.le_refl _)) (Nat.lt_of_le_of_lt (Nat.le_add_right b L) hbL)))
        (fun j h2 hj => mem_keysAfter S p b L (low.pre j h2 (hJb hj)) (hlen (hJb hj))
          (Nat.lt_trans (hJb hj) (Nat.lt_of_le_of_lt (Nat.le_add_right b L) hbL)))
        (fun _ => low.hd)
        (fun j h1 hj => by
          have hj1 : j + 1 < b := Nat.add_lt_of_lt_sub hj
          rw [hw hj1, hw (Nat.lt_of_succ_lt hj1)]; exact low.mono j h1 hj1)
        (fun j h1 hj => by rw [hw (hJb hj)]; exact low.neg j h1 (hJb hj))
  obtain ⟨s5, hact, h5⟩ := activate_ok h4 p hp2 (lo.hpl ▸ lo.nN)
    (fun h3 => by
      have h2 : 2 ≤ b + L := Nat.le_of_succ_le_succ (show 3 ≤ b + L + 1 from lo.hpl ▸ h3)
      have hd := lo.ctx_top
      rw [show p.length - 1 = b + L by rw [lo.hpl, Nat.add_sub_cancel]]
      exact mem_keysAfter S p b L (hd ▸ lo.ctx _ h2 (Nat.le_add_right b L) (Nat.le_refl _))
        (by rw [List.length_drop, lo.hpl, Nat.add_sub_cancel]) hbL)
    (fun h2 => (lo.words (by have := lo.hpl; omega)).2)
  refine ⟨s5, ?_, h5⟩
  rw [addLine_phases_mode, hins]
  simp only [bind, Except.bind, hfl, hadj, hJ, hml]
  exact hact

theorem afterAdjust_true (w1 : Key → W) (p : Key) (lr : Rat) (b L : Nat) : afterAdjust true w1 p lr b L =
    applyUpd (applyUpd w1 (fillUsT w1 p L b (-(w1 (p.take b)).mag)))
      (markUsT (applyUpd w1 (fillUsT w1 p L b (-(w1 (p.take b)).mag))) (chainKeys p b L) lr) := by
  unfold afterAdjust
  rw [fillUpd_true, markUpd_true]

theorem afterLine_false (w1 : Key → W) (p : Key) (lr : Rat) (b L : Nat) : afterLine false w1 p lr b L = chainWant w1 p b L := by
  unfold afterLine afterMark afterAdjust chainWant
  rw [fillUpd_false, markUpd_false]
  rfl

end

end KV.ProbingBuild
