import Proofs.SortCode
/-! C16: for every legal configuration the arity logic never reaches one of the `abort()`s /
an empty queue, and the pass loop terminates (fuel = number of runs suffices): every stage returns `.ok` (`…_ok`). -/
namespace KV.Sort
open List

variable {α : Type}

/-- what the `Sort` constructor guarantees (`mkCfg`) -/
structure LegalCfg (cfg : Cfg) : Prop where
  mult : Mult cfg.entrySize cfg.bufferSize
  fourBuffers : 4 * cfg.bufferSize ≤ cfg.totalMemory

theorem mkCfg_legal {e b t : Nat} {cfg : Cfg} (h : mkCfg e b t = .ok cfg) : LegalCfg cfg := by
  unfold mkCfg at h
  have hd : e ∣ b - b % e := Nat.dvd_sub_mod b
  generalize b - b % e = B at h hd
  split at h; · cases h
  simp only at h
  split at h; · cases h
  split at h; · cases h
  rename_i he hb ht
  cases h
  exact ⟨⟨Nat.pos_of_ne_zero he, Nat.pos_of_ne_zero hb, hd⟩, Nat.mul_comm B 4 ▸ Nat.le_of_not_lt ht⟩

theorem groupCount_le (pb M : Nat) : ∀ (ss : List Nat) (used : Nat), groupCount pb M used ss ≤ ss.length
  | [], _ => by simp [groupCount]
  | s :: ss, used => by
    simp only [groupCount]
    split
    · have := groupCount_le pb M ss (used + min s pb); simp only [length_cons]; omega
    · omega

/- `groupCount` tests `used + min perBuffer s` and steps by `min s perBuffer`, as sort.hh:275, 279 write the two
`std::min`s; hence the `Nat.min_comm`s below. -/
theorem groupCount_ge (pb M : Nat) : ∀ (k : Nat) (ss : List Nat) (used : Nat), k ≤ ss.length →
    used + ((ss.take k).map (min pb)).sum ≤ M → k ≤ groupCount pb M used ss
  | 0, _, _, _, _ => Nat.zero_le _
  | _ + 1, [], _, hk, _ => absurd hk (Nat.not_succ_le_zero _)
  | k + 1, s :: ss, used, hk, h => by
    rw [take_succ_cons, map_cons, sum_cons] at h
    have h1 : used + min pb s ≤ M := Nat.le_trans (Nat.add_le_add_left (Nat.le_add_right _ _) used) h
    rw [groupCount, if_pos h1, Nat.add_comm 1]
    exact Nat.succ_le_succ (groupCount_ge pb M k ss (used + min s pb) (Nat.le_of_succ_le_succ hk)
      (by rw [Nat.min_comm s pb, Nat.add_assoc]; exact h))

theorem groupCount_all (pb M : Nat) (ss : List Nat) (used : Nat) (h : used + (ss.map (min pb)).sum ≤ M) :
    groupCount pb M used ss = ss.length :=
  Nat.le_antisymm (groupCount_le pb M ss used)
    (groupCount_ge pb M ss.length ss used (Nat.le_refl _) (by rwa [take_length]))

theorem groupCount_two (pb M : Nat) (s1 s2 : Nat) (ss : List Nat) (h : min pb s1 + min pb s2 ≤ M) :
    2 ≤ groupCount pb M 0 (s1 :: s2 :: ss) :=
  groupCount_ge pb M 2 (s1 :: s2 :: ss) 0 (Nat.le_add_left 2 _) (by
    simpa only [take_succ_cons, take_zero, map_cons, map_nil, sum_cons, sum_nil, Nat.add_zero, Nat.zero_add] using h)

theorem perBuffer_bounds {E B : Nat} (hB : Mult E B) (M R : Nat) :
    B ≤ perBuffer E B M R ∧ perBuffer E B M R ≤ max B (M / R) := by
  unfold perBuffer
  simp only
  generalize hpb : max B (M / R) = pb0
  have hle : B ≤ pb0 := by rw [← hpb]; exact Nat.le_max_left _ _
  refine ⟨?_, Nat.sub_le _ _⟩
  have hE := hB.pos_base
  obtain ⟨k, rfl⟩ := hB.dvd
  have h1 : E * k / E ≤ pb0 / E := Nat.div_le_div_right hle
  rw [Nat.mul_div_cancel_left k hE] at h1
  have h2 : E * k ≤ E * (pb0 / E) := Nat.mul_le_mul_left E h1
  have := Nat.div_add_mod pb0 E
  omega

theorem szs_drop_sum_le (E : Nat) (c : Nat) (runs : List (List α)) : (szs E (runs.drop c)).sum ≤ (szs E runs).sum := by
  have : szs E runs = szs E (runs.take c) ++ szs E (runs.drop c) := by
    simp only [szs, ← map_append, take_append_drop]
  rw [this, sum_append]; omega

theorem perBuffer_valid {E B : Nat} (hB : Mult E B) (M R : Nat) : Mult E (perBuffer E B M R) :=
  ⟨hB.pos_base, Nat.lt_of_lt_of_le hB.pos (perBuffer_bounds hB M R).1, Nat.dvd_sub_mod _⟩

theorem firstCount_all {E B M : Nat} (runs : List (List α))
    (h : (szs E runs).sum ≤ M ∨ runs.length * perBuffer E B M runs.length ≤ M) :
    firstCount E B M runs = runs.length := by
  unfold firstCount
  rw [groupCount_all, length_map]
  rcases h with h | h
  · have := (sum_map_min_le (perBuffer E B M runs.length) (szs E runs)).1; omega
  · have := (sum_map_min_le (perBuffer E B M runs.length) (szs E runs)).2
    rw [length_map] at this; omega

/- `2 * B ≤ M`: the reading memory of a pass is `total_memory` minus two output buffers, and the constructor demands
`total_memory ≥ 4 * buffer_size` (`readingMem_ok`); with room for two buffers a group of one run cannot occur. -/
theorem firstCount_ok {E B : Nat} (hB : Mult E B) (M : Nat) (r : List α) (rs : List (List α))
    (hM : 2 * B ≤ M ∨ (szs E (r :: rs)).sum ≤ M) :
    firstCount E B M (r :: rs) = (r :: rs).length ∨ 2 ≤ firstCount E B M (r :: rs) := by
  obtain ⟨hpb1, hpb2⟩ := perBuffer_bounds hB M (r :: rs).length
  rcases hM with hM | hM
  · rcases Nat.le_total (M / (r :: rs).length) B with hq | hq
    · have hpb : perBuffer E B M (r :: rs).length = B := by
        rw [Nat.max_eq_left hq] at hpb2; exact Nat.le_antisymm hpb2 hpb1
      rw [Nat.two_mul] at hM
      cases rs with
      | nil =>
        refine Or.inl (firstCount_all _ (Or.inr ?_))
        rw [hpb, length_singleton, Nat.one_mul]
        exact Nat.le_trans (Nat.le_add_right B B) hM
      | cons r2 rs =>
        right
        unfold firstCount
        rw [hpb]
        exact groupCount_two B M _ _ _
          (Nat.le_trans (Nat.add_le_add (Nat.min_le_left B _) (Nat.min_le_left B _)) hM)
    · rw [Nat.max_eq_right hq] at hpb2
      exact Or.inl (firstCount_all _ (Or.inr (Nat.le_trans (Nat.mul_le_mul_left _ hpb2) (Nat.mul_div_le M _))))
  · exact Or.inl (firstCount_all _ (Or.inl hM))

theorem codeGroups_ok {E B : Nat} (hB : Mult E B) (M : Nat) :
    ∀ (fuel : Nat) (runs : List (List α)), runs.length ≤ fuel →
      (2 * B ≤ M ∨ (szs E runs).sum ≤ M) → ∃ gs, codeGroups E B M false fuel runs = .ok gs
  | fuel, [], _, _ => ⟨[], codeGroups_nil E B M false fuel⟩
  | 0, _ :: _, hf, _ => absurd hf (Nat.not_succ_le_zero _)
  | fuel + 1, r :: rs, hf, hM => by
    have hpb := (perBuffer_bounds hB M (r :: rs).length).1
    obtain ⟨hc0, hc2⟩ : firstCount E B M (r :: rs) ≠ 0 ∧
        (firstCount E B M (r :: rs) < 2 → (r :: rs).length ≤ firstCount E B M (r :: rs)) := by
      rcases firstCount_ok hB M r rs hM with e | h2
      · exact ⟨e ▸ Nat.succ_ne_zero _, fun _ => Nat.le_of_eq e.symm⟩
      · exact ⟨Nat.ne_of_gt (Nat.lt_of_lt_of_le Nat.zero_lt_two h2), fun h => absurd h2 (Nat.not_le.mpr h)⟩
    obtain ⟨gs', hg⟩ := codeGroups_ok hB M fuel ((r :: rs).drop (firstCount E B M (r :: rs)))
      (by rw [length_drop]
          exact Nat.sub_le_of_le_add (Nat.le_trans hf (Nat.add_le_add_left (Nat.pos_of_ne_zero hc0) fuel)))
      (hM.imp id (Nat.le_trans (szs_drop_sum_le E _ _)))
    exact ⟨_, codeGroups_cons_eq_ok.mpr ⟨gs', hg, rfl, Nat.ne_of_gt (Nat.lt_of_lt_of_le hB.pos hpb), hc0,
      fun h => hc2 (h.resolve_right Bool.false_ne_true)⟩⟩

theorem codeGroups_final_ok {E B : Nat} (hB : Mult E B) (M : Nat)
    (r : List α) (rs : List (List α)) (fuel : Nat) (hf : 0 < fuel)
    (hM : (r :: rs).length * B ≤ M ∨ (szs E (r :: rs)).sum ≤ M) :
    codeGroups E B M true fuel (r :: rs) = .ok [r :: rs] := by
  obtain ⟨fuel, rfl⟩ : ∃ f, fuel = f + 1 := ⟨fuel - 1, by omega⟩
  obtain ⟨hpb1, hpb2⟩ := perBuffer_bounds hB M (r :: rs).length
  have hc : firstCount E B M (r :: rs) = (r :: rs).length := by
    refine firstCount_all _ (hM.symm.imp id fun h => ?_)
    have hq : B ≤ M / (r :: rs).length :=
      (Nat.le_div_iff_mul_le (Nat.succ_pos _)).mpr (by rw [Nat.mul_comm]; exact h)
    rw [Nat.max_eq_right hq] at hpb2
    exact Nat.le_trans (Nat.mul_le_mul_left _ hpb2) (Nat.mul_div_le M _)
  refine codeGroups_cons_eq_ok.mpr ⟨[], ?_, ?_, Nat.ne_of_gt (Nat.lt_of_lt_of_le hB.pos hpb1), ?_, fun _ => Nat.le_of_eq hc.symm⟩
  · rw [hc, drop_length]; exact codeGroups_nil E B M true fuel
  · rw [hc, take_length]
  · rw [hc]; exact Nat.succ_ne_zero _

theorem LazyCond.fits {cfg : Cfg} (L : LegalCfg cfg) {lazyMem : Nat} {runs : List (List α)}
    (h : LazyCond cfg lazyMem runs) (h2 : 2 ≤ runs.length) :
    runs.length * cfg.bufferSize ≤ lazyMem ∨ dataSize cfg runs ≤ lazyMem := by
  refine h.imp (fun h => (Nat.le_div_iff_mul_le L.mult.pos).mp ?_) id
  rcases Nat.le_total 1 (lazyMem / cfg.bufferSize) with h1 | h1
  · rwa [Nat.max_eq_right h1] at h
  · rw [Nat.max_eq_left h1] at h; omega

section
variable {cfg : Cfg} (L : LegalCfg cfg) (lt : α → α → Bool) (comb : α → α → Option α) (pick : Pick α)
  (lazyMem : Nat)
include L

theorem codePass_ok (reading : Nat)
    (runs : List (List α)) (h2 : 2 ≤ runs.length)
    (hM : 2 * cfg.bufferSize ≤ reading ∨ dataSize cfg runs ≤ reading) :
    ∃ runs', codePass lt comb pick cfg reading runs = .ok runs' ∧ runs'.length < runs.length := by
  match runs, h2 with
  | r1 :: r2 :: rs, h2 =>
    obtain ⟨gs, hg⟩ := codeGroups_ok L.mult reading (r1 :: r2 :: rs).length
      (r1 :: r2 :: rs) (Nat.le_refl _) hM
    have hlt := (codeGroups_length_lt hg).2 h2
    rw [codePass_two, hg]
    refine ⟨_, rfl, Nat.lt_of_le_of_lt (length_filter_le _ _) ?_⟩
    rwa [length_map]

theorem readingMem_ok (runs : List (List α)) :
    2 * cfg.bufferSize ≤ readingMem cfg runs ∨ dataSize cfg runs ≤ readingMem cfg runs := by
  have := L.fourBuffers
  unfold readingMem
  split
  · right; omega
  · left; omega

/-- fuel: every pass leaves fewer runs (`codePass_ok`), and at most one run satisfies the exit test -/
theorem codeMergeLoop_ok :
    ∀ (fuel : Nat) (runs : List (List α)) (n : Nat), runs.length ≤ fuel + 1 →
      ∃ r, codeMergeLoop lt comb pick cfg lazyMem fuel runs n = .ok r := by
  intro fuel
  induction fuel with
  | zero =>
    intro runs n hf
    exact ⟨_, codeMergeLoop_done (LazyCond.of_length_le_one hf)⟩
  | succ fuel ih =>
    intro runs n hf
    by_cases hc : LazyCond cfg lazyMem runs
    · exact ⟨_, codeMergeLoop_done hc⟩
    · obtain ⟨r1, hp, hlt⟩ := codePass_ok L lt comb pick _ runs (two_le_of_not_lazyCond hc) (readingMem_ok L runs)
      rw [codeMergeLoop_step hc, hp]
      exact ih r1 (n + 1) (by omega)

theorem codeMerge_ok (runs : List (List α)) : ∃ m, codeMerge lt comb pick cfg lazyMem runs = .ok m := by
  rw [codeMerge_eq]
  by_cases h1 : runs.length ≤ 1
  · rw [if_pos h1]; exact ⟨_, rfl⟩
  · obtain ⟨r, hl⟩ := codeMergeLoop_ok L lt comb pick lazyMem runs.length runs 0 (by omega)
    rw [if_neg h1, hl]; exact ⟨_, rfl⟩

theorem codeFinal_eq (runs : List (List α)) (h : LazyCond cfg lazyMem runs) :
    codeFinal lt comb pick cfg lazyMem runs = .ok (finalMerge lt comb pick runs) := by
  match runs, h with
  | [], _ => rfl
  | [r], _ => rfl
  | r1 :: r2 :: rs, h =>
    have := codeGroups_final_ok L.mult lazyMem r1 (r2 :: rs) (r1 :: r2 :: rs).length
      (Nat.succ_pos _) (h.fits L (Nat.le_add_left 2 _))
    simp only [codeFinal, this, finalMerge, map_cons, map_nil, flatten_cons, flatten_nil, append_nil]

theorem mergeRet_cond (runs : List (List α)) :
    LazyCond cfg (mergeRet cfg runs) runs := by
  unfold mergeRet
  by_cases h1 : runs.length ≤ 1
  · exact LazyCond.of_length_le_one h1
  · rw [if_neg h1]
    by_cases hs : dataSize cfg runs ≤ runs.length * cfg.bufferSize
    · right; rw [Nat.min_eq_left hs]; exact Nat.le_refl _
    · left
      rw [Nat.min_eq_right (by omega), Nat.mul_div_cancel _ L.mult.pos]
      exact Nat.le_max_right _ _

theorem codeMerge_idem (runs : List (List α)) :
    codeMerge lt comb pick cfg (mergeRet cfg runs) runs = .ok ⟨runs, 0, mergeRet cfg runs⟩ := by
  rw [codeMerge_eq]
  by_cases h1 : runs.length ≤ 1
  · rw [if_pos h1]
  · rw [if_neg h1, codeMergeLoop_done (mergeRet_cond L runs)]

theorem mergeRet_le (runs : List (List α))
    (h : LazyCond cfg lazyMem runs) : mergeRet cfg runs ≤ lazyMem := by
  unfold mergeRet
  by_cases h1 : runs.length ≤ 1
  · rw [if_pos h1]; omega
  · rw [if_neg h1]
    rcases h.fits L (Nat.lt_of_not_le h1) with h | h
    · exact Nat.le_trans (Nat.min_le_right _ _) h
    · exact Nat.le_trans (Nat.min_le_left _ _) h

end

end KV.Sort
