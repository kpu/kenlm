import Model.Quant
import Proofs.QuantArith
import Proofs.InsertionSort
import Proofs.Basics
/-! Proofs about the quantiser model over any arithmetic (`Model/Quant.lean`): with at most as many values as bins every value is
its own centre.  Proofs/QuantBins.lean proves the same (its clause (a)) for the model over exact rationals, lemma for lemma: `centerOf` ↔ `lastBelow`,
`makeBins_eq` ↔ `centreAt_fits`, `encode_decode_of_mem` ↔ `roundTrip_of_index`, `quant_exact` ↔ `roundTrip_of_length_le`; the two encoders
differ on a `-inf` neighbour, so neither model is an instance of the other. -/
namespace KV.Quant
variable {α : Type}

/-- The order laws of the arithmetic the quantiser runs on.  IEEE-754 floats restricted to the values that occur
(no NaN, and not both `-0.0` and `+0.0` in one table — the code removes zero back-offs before training) satisfy them:
`<` is a strict total order with `-inf` at the bottom, the mean of one value is the value (a double sum of one float
divided by `1.0f` and rounded back), and `v - p` for `p < v` is never below `v - v = +0`. -/
structure Laws (ops : Ops α) : Prop where
  irrefl : ∀ a, ops.lt a a = false
  trans : ∀ a b c, ops.lt a b = true → ops.lt b c = true → ops.lt a c = true
  tri : ∀ a b, ops.lt a b = false → ops.lt b a = false → a = b
  negInf_min : ∀ a, ops.lt a ops.negInf = false
  mean_single : ∀ a, ops.mean [a] = a
  sub_close : ∀ p v, ops.lt p v = true → ops.lt (ops.sub v p) (ops.sub v v) = false

section
variable (ops : Ops α) (laws : Laws ops)
include laws

theorem not_lt_trans (a b c : α) (h1 : ops.lt b a = false) (h2 : ops.lt c b = false) : ops.lt c a = false := by
  cases hca : ops.lt c a with
  | false => rfl
  | true =>
    cases hab : ops.lt a b with
    | true => have := laws.trans c a b hca hab; rw [h2] at this; cases this
    | false => have := laws.tri a b hab h1; subst this; rw [h2] at hca; cases hca

omit laws in
theorem insertSorted_eq (x : α) : ∀ l, insertSorted ops x l = insertBy ops.lt x l
  | [] => rfl
  | y :: ys => by rw [insertSorted, insertBy, insertSorted_eq x ys]

omit laws in
theorem sortVals_eq (vals : List α) : sortVals ops vals = insertionSort ops.lt vals := foldr_eq_insertionSort (insertSorted_eq ops) vals

omit laws in
theorem length_sortVals (vals : List α) : (sortVals ops vals).length = vals.length :=
  sortVals_eq ops vals ▸ (insertionSort_perm ops.lt vals).length_eq

omit laws in
theorem mem_sortVals (v : α) (vals : List α) : v ∈ sortVals ops vals ↔ v ∈ vals :=
  sortVals_eq ops vals ▸ (insertionSort_perm ops.lt vals).mem_iff

theorem sortVals_sorted (vals : List α) : (sortVals ops vals).Pairwise (fun a b => ops.lt b a = false) := by
  rw [sortVals_eq]
  refine insertionSort_sorted (S := fun a b => ops.lt b a = false) (fun x y hxy => ?_) (fun _ _ h => h)
    (fun a b c => not_lt_trans ops laws a b c) vals
  cases hc : ops.lt y x with
  | false => rfl
  | true => have := laws.trans x y x hxy hc; rw [laws.irrefl] at this; cases this

theorem dropWhile_lt_of_mem (centers : List α) (hs : centers.Pairwise (fun a b => ops.lt b a = false))
    (v : α) (hv : v ∈ centers) : ∃ rest, centers.dropWhile (fun c => ops.lt c v) = v :: rest := by
  induction centers with
  | nil => cases hv
  | cons c cs ih =>
    have hp := List.pairwise_cons.mp hs
    cases hcv : ops.lt c v with
    | true =>
      simp only [List.dropWhile_cons, hcv, if_true]
      rcases List.mem_cons.mp hv with rfl | hv
      · rw [laws.irrefl] at hcv; cases hcv
      · exact ih hp.2 hv
    | false =>
      simp only [List.dropWhile_cons, hcv, Bool.false_eq_true, if_false]
      rcases List.mem_cons.mp hv with rfl | hv
      · exact ⟨cs, rfl⟩
      · exact ⟨cs, by rw [laws.tri c v hcv (hp.1 v hv)]⟩

/-- the crux, independent of how the centres were made: on a sorted centre table that contains `v`, `Encode` finds a
centre equal to `v` -/
theorem encode_decode_of_mem [Inhabited α] (pre centers : List α) (hs : centers.Pairwise (fun a b => ops.lt b a = false))
    (v : α) (hv : v ∈ centers) :
    decode (pre ++ centers) (encode ops (pre ++ centers) pre.length v) = v := by
  -- `lower_bound` stops at the end of `below`, the centres below `v`, where `v` itself stands
  obtain ⟨rest, hd⟩ := dropWhile_lt_of_mem ops laws centers hs v hv
  have hc : centers = centers.takeWhile (fun c => ops.lt c v) ++ v :: rest := by
    rw [← hd, List.takeWhile_append_dropWhile]
  have hlb : lowerBound ops (pre ++ centers) pre.length v
      = pre.length + (centers.takeWhile (fun c => ops.lt c v)).length := by simp [lowerBound]
  have hlt : ∀ x ∈ centers.takeWhile (fun c => ops.lt c v), ops.lt x v = true :=
    List.all_eq_true.mp List.all_takeWhile
  generalize centers.takeWhile (fun c => ops.lt c v) = below at hc hlb hlt
  subst hc
  simp only [encode, decode, hlb]
  rcases List.eq_nil_or_concat below with rfl | ⟨below', p, rfl⟩
  · simp
  · -- the centre before `v` is below it, so the tie-break keeps `v`
    simp only [List.concat_eq_append] at hlt ⊢
    have e : pre ++ ((below' ++ [p]) ++ v :: rest) = (pre ++ below') ++ p :: v :: rest := by simp
    have el : pre.length + (below' ++ [p]).length = (pre ++ below').length + 1 := by simp [Nat.add_assoc]
    have hL : pre.length ≤ (pre ++ below').length := by simp
    rw [e, el]
    generalize pre ++ below' = l at hL
    have h1 : ¬ l.length + 1 = pre.length := Nat.ne_of_gt (Nat.lt_succ_of_le hL)
    have h2 : ¬ l.length + 1 = (l ++ p :: v :: rest).length := by simp
    rw [if_neg h1, if_neg h2, Nat.add_sub_cancel, getD_append_add l _ 1,
      show l.length = l.length + 0 from rfl, getD_append_add l _ 0]
    simp only [List.getD_cons_succ, List.getD_cons_zero, laws.sub_close p v (hlt p (by simp))]
    exact getD_append_add l _ 1 default

end


/-- centre as a function of the running end index `finish`: `-inf` before the first value, else the last value consumed -/
def centerOf (ops : Ops α) (sorted : List α) (k : Nat) : α :=
  if k = 0 then ops.negInf else sorted.getD (k - 1) ops.negInf

theorem centerOf_succ (ops : Ops α) (sorted : List α) (k : Nat) (h : k < sorted.length) :
    centerOf ops sorted (k + 1) = sorted[k] := by
  simp [centerOf, List.getD_eq_getElem?_getD, h]

theorem binCenter_of_fit (ops : Ops α) (laws : Laws ops) (sorted : List α) (bins i : Nat) (hn : sorted.length ≤ bins)
    (hi : i < bins) :
    binCenter ops sorted bins (centerOf ops sorted (sorted.length * i / bins)) i
      = centerOf ops sorted (sorted.length * (i + 1) / bins) := by
  obtain ⟨h1, h2⟩ := binEnd_step sorted.length bins i (Nat.zero_lt_of_lt hi) hn
  have h3 := binEnd_le sorted.length bins (i + 1) (Nat.zero_lt_of_lt hi) hi
  simp only [binCenter]
  generalize sorted.length * i / bins = s at *
  generalize sorted.length * (i + 1) / bins = f at *
  by_cases he : f = s
  · rw [if_pos he, he]
  · obtain rfl : f = s + 1 := by omega
    have hlt : s < sorted.length := h3
    rw [if_neg he, Nat.add_sub_cancel_left, List.drop_eq_getElem_cons hlt, List.take_succ_cons, List.take_zero,
      laws.mean_single, centerOf_succ ops sorted s hlt]

theorem makeBinsFrom_eq (ops : Ops α) (laws : Laws ops) (sorted : List α) (bins : Nat) (hn : sorted.length ≤ bins) :
    ∀ fuel i, i + fuel ≤ bins →
      makeBinsFrom ops sorted bins fuel i (centerOf ops sorted (sorted.length * i / bins))
        = (List.range' i fuel).map (fun t => centerOf ops sorted (sorted.length * (t + 1) / bins)) := by
  intro fuel
  induction fuel with
  | zero => intro i _; rfl
  | succ fuel ih =>
    intro i hi
    have hi' : i + 1 + fuel ≤ bins := Nat.add_right_comm i 1 fuel ▸ hi
    simp only [makeBinsFrom, List.range'_succ, List.map_cons,
      binCenter_of_fit ops laws sorted bins i hn (Nat.lt_of_lt_of_le (Nat.lt_add_of_pos_right (Nat.succ_pos fuel)) hi)]
    rw [ih (i + 1) hi']

theorem makeBins_eq (ops : Ops α) (laws : Laws ops) (vals : List α) (bins : Nat) (hn : vals.length ≤ bins) :
    makeBins ops vals bins
      = (List.range' 0 bins).map (fun t => centerOf ops (sortVals ops vals) ((sortVals ops vals).length * (t + 1) / bins)) := by
  have hl : (sortVals ops vals).length = vals.length := length_sortVals ops vals
  have := makeBinsFrom_eq ops laws (sortVals ops vals) bins (hl ▸ hn) bins 0 (Nat.le_of_eq (Nat.zero_add _))
  simpa [makeBins, centerOf] using this

theorem centerOf_mono (ops : Ops α) (laws : Laws ops) (sorted : List α)
    (hs : sorted.Pairwise (fun a b => ops.lt b a = false)) (k1 k2 : Nat) (h12 : k1 ≤ k2) (h2 : k2 ≤ sorted.length) :
    ops.lt (centerOf ops sorted k2) (centerOf ops sorted k1) = false := by
  cases k1 with
  | zero => exact laws.negInf_min _
  | succ a =>
    cases k2 with
    | zero => exact absurd h12 (Nat.not_succ_le_zero a)
    | succ b =>
      have ha : a < sorted.length := Nat.lt_of_lt_of_le h12 h2
      rw [centerOf_succ ops sorted a ha, centerOf_succ ops sorted b h2]
      by_cases he : a = b
      · subst he; exact laws.irrefl _
      · exact List.pairwise_iff_getElem.mp hs a b ha h2 (Nat.lt_of_le_of_ne (Nat.le_of_succ_le_succ h12) he)

theorem quant_exact [Inhabited α] (ops : Ops α) (laws : Laws ops) (vals : List α) (bins reserved : Nat) (pre : List α)
    (hpre : pre.length = reserved) (hfit : vals.length ≤ bins)
    (v : α) (hv : v ∈ vals) :
    decode (pre ++ makeBins ops vals bins) (encode ops (pre ++ makeBins ops vals bins) reserved v) = v := by
  subst hpre
  have hl : (sortVals ops vals).length = vals.length := length_sortVals ops vals
  have hsorted := sortVals_sorted ops laws vals
  have hb : 0 < bins := Nat.lt_of_lt_of_le (List.length_pos_of_mem hv) hfit
  rw [makeBins_eq ops laws vals bins hfit]
  apply encode_decode_of_mem ops laws
  · rw [List.pairwise_map]
    refine (List.pairwise_lt_range' (s := 0) (n := bins)).imp_of_mem ?_
    intro t1 t2 _ hm2 h12
    have ht2 : t2 < bins := by simpa [List.mem_range'_1] using hm2
    apply centerOf_mono ops laws _ hsorted
    · exact Nat.div_le_div_right (Nat.mul_le_mul_left _ (Nat.succ_le_succ (Nat.le_of_lt h12)))
    · exact binEnd_le _ bins (t2 + 1) hb ht2
  · have hvs : v ∈ sortVals ops vals := (mem_sortVals ops v vals).mpr hv
    obtain ⟨idx, hidx, hval⟩ := List.getElem_of_mem hvs
    obtain ⟨t, ht, hk, _⟩ := finish_hits (sortVals ops vals).length bins (idx + 1) (hl ▸ hfit) (Nat.succ_pos idx) hidx
    rw [List.mem_map]
    refine ⟨t, by simp [List.mem_range'_1, ht], ?_⟩
    rw [hk, centerOf_succ ops _ idx hidx, hval]

end KV.Quant
