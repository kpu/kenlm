import Proofs.ScoreForgot
import Proofs.TableBuild
/-! Structural theorems: tables without blanks (`NoBlanks`, which `Table.build` of a suffix-closed model is) and the matched
length over them; the left-independence flag on `Table.build` of a suffix-closed model. -/
namespace KV.Score
open KV.Arpa KV.Table KV.State

/-- the table has no blanks: every entry is an n-gram of the model.  This is all the theorems on the matched length and the
canonical state use of `SuffixClosed`, so they hold for every table that represents a suffix-closed model. -/
def NoBlanks (a : Arpa) (T : Table) : Prop := ∀ g, T.lookup g ≠ none → a.gram g ≠ none

/-- in a suffix-closed model every key of `Table.build a` (`build_lookup_ne_none`) is an n-gram of the model -/
theorem closed_key_real {a : Arpa} (sc : SuffixClosed a) {g : List Word}
    (h : g ≠ [] ∧ (a.gram g ≠ none ∨ extendsLeft a g = true)) : a.gram g ≠ none := by
  rcases h.2 with hr | hx
  · exact hr
  · obtain ⟨p, hp, _, ⟨ys, hys⟩⟩ := (extendsLeft_iff _ _).mp hx
    exact closed_prefix_real sc ys g h.1 (hys ▸ hp)

theorem noBlanks_build {a : Arpa} (sc : SuffixClosed a) (um : List Word → Bool) : NoBlanks a (build a um) :=
  fun g h => closed_key_real sc ((build_lookup_ne_none a um g).mp h)

/-- over a table without blanks the entry the loop ends at is an n-gram of the model, and it is the longest match with any
history `h` that begins with the matched words and of which no n-gram of the model matches more -/
theorem AccPost.longestMatch_noBlanks {a : Arpa} {T : Table} (tf : TableFor a T) (nb : NoBlanks a T) {ctx h : List Word}
    {w : Word} {acc : Acc (List Word)} {c0 : Nat} (post : AccPost T ctx w acc c0) (hctx : ctx.take c0 = h.take c0)
    (hc0 : c0 ≤ h.length) (hmax : ∀ c, c0 < c → c ≤ h.length → a.gram (w :: h.take c) = none) :
    a.gram (w :: h.take c0) ≠ none ∧ longestMatch a h w = c0 + 1 := by
  obtain ⟨t, ht, _⟩ := post.found
  have hreal : a.gram (w :: h.take c0) ≠ none := hctx ▸ nb _ (by rw [ht]; exact Option.some_ne_none t)
  exact ⟨hreal, longestMatch_of_max a h w c0 (Nat.le_min.mpr ⟨hc0, tf.order_eq ▸ post.c0_lt⟩) hreal hmax⟩

theorem forgot_length_longest {a : Arpa} {T : Table} (tf : TableFor a T) (nb : NoBlanks a T)
    (h : List Word) {w : Word} (hw : a.gram [w] ≠ none) :
    (fullScoreForgotState (tableSearch T) h w).1.ngramLength = longestMatch a h w := by
  obtain ⟨u, hu⟩ := tf.unigram hw
  have hord : (tableSearch T).order = a.order := tf.order_eq
  rw [forgot_ngramLength, hord, ← longestMatch_take]
  obtain ⟨c0, acc, post, hsxb⟩ := scoreExceptBackoff_post tf.toTableOK (h.take (a.order - 1)) w hu
  rw [hsxb]
  exact post.len.trans (post.longestMatch_noBlanks tf nb rfl post.c0_le (post.gram_none tf)).2.symm

theorem closed_extendsLeft_eq {a : Arpa} (sc : SuffixClosed a) (g : List Word) :
    extendsLeft a g = a.hasLeftExtension g := by
  apply Bool.eq_iff_iff.mpr
  rw [extendsLeft_iff, hasLeftExtension_iff]
  constructor
  · rintro ⟨p, hp, hl, ⟨ys, hys⟩⟩
    cases ys with
    | nil => simp at hys; subst hys; omega
    | cons y ys =>
      have h1 : a.gram ((g ++ [y]) ++ ys) ≠ none := by rw [← hys] at hp; simpa using hp
      exact ⟨g ++ [y], closed_prefix_real sc ys (g ++ [y]) (by simp) h1, by simp, List.prefix_append _ _⟩
  · rintro ⟨p, hp, hl, hpre⟩
    exact ⟨p, hp, by omega, hpre⟩

/-- on a suffix-closed model the left-independence flag returned for a supplied context equals its
L0 specification: it is clear exactly when the whole supplied context was matched, the match is shorter than the
order, and some n-gram of the model extends the match by one more word to the left. -/
theorem independentLeft_eq_spec {a : Arpa} (wf : WellFormed a) (sc : SuffixClosed a) (um : List Word → Bool)
    (s : State) (hs : s.length ≤ a.order - 1) {w : Word} (hw : a.gram [w] ≠ none) :
    (fullScore (tableSearch (build a um)) s w).1.independentLeft = independentLeftSpec a (s.words.take s.length) w := by
  have tf := build_tableFor a wf um
  obtain ⟨u, hu⟩ := tf.unigram hw
  have hN := wf.order_ge
  generalize hctx : s.words.take s.length = ctx
  have hcl : ctx.length ≤ a.order - 1 := by rw [← hctx, List.length_take]; omega
  obtain ⟨c0, acc, post, hsxb⟩ := scoreExceptBackoff_post tf.toTableOK ctx w hu
  rw [fullScore, hctx, hsxb]
  show acc.ret.independentLeft = _
  have hc0 := post.c0_le
  obtain ⟨hreal, hlm⟩ := post.longestMatch_noBlanks tf (noBlanks_build sc um) rfl hc0 (post.gram_none tf)
  rw [post.indep, independentLeftSpec, List.take_of_length_le hcl, hlm]
  show (decide (c0 = a.order - 1) || decide (c0 < ctx.length) || !(build a um).xl (w :: ctx.take c0)) =
    !(c0 + 1 == ctx.length + 1 && decide (c0 + 1 < a.order) && a.hasLeftExtension (w :: ctx))
  by_cases hlt : c0 < ctx.length
  · -- part of the supplied context is unmatched
    rw [decide_eq_true hlt, Bool.or_true, Bool.true_or, beq_false_of_ne (by omega)]; rfl
  · obtain rfl : c0 = ctx.length := Nat.le_antisymm hc0 (Nat.not_lt.mp hlt)
    rw [List.take_length] at hreal
    obtain ⟨e', he'⟩ := Option.ne_none_iff_exists'.mp hreal
    -- the entry found is real, so its mark is `extendsLeft`, which on a suffix-closed model means a one-word extension
    have hxl : (build a um).xl (w :: ctx) = a.hasLeftExtension (w :: ctx) := by
      rw [Table.xl_of_lookup (build_lookup_real um he'), closed_extendsLeft_eq sc (w :: ctx)]
    rw [List.take_length, hxl, decide_eq_false hlt, beq_self_eq_true]
    by_cases hN1 : ctx.length = a.order - 1
    · rw [decide_eq_true hN1, decide_eq_false (by omega)]; rfl
    · rw [decide_eq_false hN1, decide_eq_true (by omega)]
      cases a.hasLeftExtension (w :: ctx) <;> rfl

end KV.Score
