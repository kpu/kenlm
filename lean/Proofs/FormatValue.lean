import Proofs.Format
import Proofs.FormatRead
/-! The floating-point reader grammar recovers, from the shortest text, exactly the decimal value
`0.d₁…dₙ × 10^point`: the text has the shape `digits [. digits] [e exponent]` (`shortestBody_shape`), every text of that shape
consists of number characters (`shape_chars`) and is read back as its digits and exponent (`readDecimal_shape`). -/
namespace KV.Format

/-- what follows the number in the file does not continue it -/
def NumTerm (rest : List Char) : Prop :=
  ∀ c, rest.head? = some c → c.isDigit = false ∧ c ≠ '.' ∧ c ≠ 'e' ∧ c ≠ 'E'

-- nothing in the development uses this
theorem numTerm_nil : NumTerm [] := by intro c h; simp at h

theorem NumTerm.noDigit {rest : List Char} (h : NumTerm rest) : NoDigitHead rest := fun c hc => (h c hc).1

/-- value of a digit list d₁…dₙ as the integer d₁…dₙ -/
def digitsVal (ds : List Nat) : Nat := Nat.ofDigitChars 10 (digitChars ds) 0

theorem readExponent_term (rest : List Char) (h : NumTerm rest) : readExponent rest = (0, rest) := by
  cases rest with
  | nil => rfl
  | cons c t =>
    obtain ⟨_, _, he, hE⟩ := h c rfl
    simp [readExponent, he, hE]

theorem readFraction_term (rest : List Char) (h : NumTerm rest) : readFraction rest = ([], rest) := by
  cases rest with
  | nil => rfl
  | cons c t =>
    obtain ⟨_, hdot, _, _⟩ := h c rfl
    unfold readFraction
    split
    · rename_i heq; simp at heq; exact absurd heq.1 hdot
    · rfl

theorem readMantissa_eq (neg : Bool) (ip fp s1 s2 s3 rest : List Char) (e : Int)
    (h1 : spanDigits s1 = (ip, s2)) (h2 : readFraction s2 = (fp, s3))
    (hne : (ip.isEmpty && fp.isEmpty) = false) (h3 : readExponent s3 = (e, rest)) :
    readMantissa neg s1 = .num neg (Nat.ofDigitChars 10 (ip ++ fp) 0) (e - fp.length) rest := by
  simp [readMantissa, h1, h2, hne, h3]

theorem startsWith_false (sym : List Char) (c1 : Char) (hs : NoDigitHead sym)
    (h1 : c1.isDigit = true) : startsWith sym c1 = false := by
  unfold startsWith
  cases h : sym.head? with
  | none => rfl
  | some c =>
    simp only [beq_eq_false_iff_ne, ne_eq, Option.some.injEq]
    exact (ne_of_isDigit h1 (hs c h)).symm

/-- the exponent part `e` followed by a formatted integer is read back as that integer; `1073741823` is `INT_MAX / 2`, where
`readExponent` (as the code) saturates -/
theorem readExponent_fmtInt (e : Int) (rest : List Char) (he : e.natAbs ≤ 1073741823) (hr : NumTerm rest) :
    readExponent ('e' :: (fmtInt e ++ rest)) = (e, rest) := by
  obtain ⟨_, hsign, hspan, hne⟩ := read_prefix e.natAbs rest hr.noDigit
  have hmin : min e.natAbs 1073741823 = e.natAbs := Nat.min_eq_left he
  unfold fmtInt
  by_cases hneg : e < 0
  · have hsign' : takeSign ('-' :: (fmtNat e.natAbs ++ rest)) = (true, fmtNat e.natAbs ++ rest) := rfl
    simp [readExponent, hneg, hsign', hspan, hne, ofDigitChars_fmtNat, hmin, Int.ofNat_natAbs_of_nonpos (Int.le_of_lt hneg)]
  · simp [readExponent, hneg, hsign, hspan, hne, ofDigitChars_fmtNat, hmin, Int.natAbs_of_nonneg (Int.not_lt.mp hneg)]

theorem fmtInt_chars (i : Int) : ∀ ch ∈ fmtInt i, ch.isDigit = true ∨ ch = '-' := by
  intro ch h
  unfold fmtInt at h
  split at h
  · exact (List.mem_cons.mp h).elim .inr fun h => .inl (fmtNat_isDigit _ _ h)
  · exact .inl (fmtNat_isDigit _ _ h)

/-- every character of a text `digits [. digits] [e integer]` is a digit, '.', '-' or 'e' -/
theorem shape_chars {ip fp expo : List Char} {e : Int} (hd : ∀ ch ∈ ip ++ fp, ch.isDigit = true)
    (he : expo = [] ∨ expo = 'e' :: fmtInt e) :
    ∀ ch ∈ ip ++ ((if fp = [] then [] else '.' :: fp) ++ expo), ch.isDigit = true ∨ ch = '.' ∨ ch = '-' ∨ ch = 'e' := by
  intro ch h
  rcases List.mem_append.mp h with h | h
  · exact .inl (hd ch (List.mem_append_left _ h))
  rcases List.mem_append.mp h with h | h
  · split at h
    · cases h
    · exact (List.mem_cons.mp h).elim (.inr ∘ .inl) fun h => .inl (hd ch (List.mem_append_right _ h))
  · rcases he with rfl | rfl
    · cases h
    · exact (List.mem_cons.mp h).elim (.inr ∘ .inr ∘ .inr) fun h =>
        (fmtInt_chars e ch h).elim .inl (.inr ∘ .inr ∘ .inl)

section reader
/- the special-value symbols of the converter: all that matters here is that neither starts with a digit -/
variable {inf nan : List Char} (hinf : NoDigitHead inf) (hnan : NoDigitHead nan)
include hinf hnan

/-- sign handling of `StringToIeee`: an optional '-' directly followed by digits. -/
theorem readDecimal_signed (neg : Bool) (ip s : List Char) (hip : ∀ c ∈ ip, c.isDigit = true) (hne : ip ≠ []) :
    readDecimal inf nan ((if neg then ['-'] else []) ++ (ip ++ s)) = readMantissa neg (ip ++ s) := by
  obtain ⟨a, ip', rfl⟩ := List.exists_cons_of_ne_nil hne
  have ha : a.isDigit = true := hip a (List.mem_cons_self ..)
  rw [List.cons_append]
  generalize ip' ++ s = t
  have hsp : isWhitespaceDC a = false := isSpaceC_of_isDigit ha
  have h1 : a ≠ '-' := ne_of_isDigit ha rfl
  have h2 : a ≠ '+' := ne_of_isDigit ha rfl
  have hi := startsWith_false inf a hinf ha
  have hn := startsWith_false nan a hnan ha
  cases neg with
  | true =>
    have hd : ('-' :: a :: t).dropWhile isWhitespaceDC = '-' :: a :: t := List.dropWhile_cons_of_neg (by decide)
    simp [readDecimal, hd, hsp, hi, hn]
  | false =>
    have hd : (a :: t).dropWhile isWhitespaceDC = a :: t := List.dropWhile_cons_of_neg (by simp [hsp])
    have hneg : (a == '-') = false := by simp [h1]
    simp [readDecimal, hd, hi, hn, h2, hneg]

/-- the reader on `[-] digits [. digits] [e integer]`: sign, all digits as the mantissa, the exponent lowered by the number of
fraction digits -/
theorem readDecimal_shape (neg : Bool) (ip fp expo rest : List Char) (e : Int) (hne : ip ≠ [])
    (hd : ∀ ch ∈ ip ++ fp, ch.isDigit = true)
    (he : expo = [] ∧ e = 0 ∨ expo = 'e' :: fmtInt e ∧ e.natAbs ≤ 1073741823) (hr : NumTerm rest) :
    readDecimal inf nan ((if neg then ['-'] else []) ++ (ip ++ ((if fp = [] then [] else '.' :: fp) ++ expo) ++ rest))
      = .num neg (Nat.ofDigitChars 10 (ip ++ fp) 0) (e - fp.length) rest := by
  have hip : ∀ ch ∈ ip, ch.isDigit = true := fun ch h => hd ch (List.mem_append_left _ h)
  have hemp : ∀ f : List Char, (ip.isEmpty && f.isEmpty) = false := fun _ => by
    cases ip with | nil => exact absurd rfl hne | cons => rfl
  -- after the digits comes the exponent, if any, then `rest`: no digit, no fraction
  obtain ⟨htail, hfrac, hexp⟩ : NoDigitHead (expo ++ rest) ∧ readFraction (expo ++ rest) = ([], expo ++ rest) ∧
      readExponent (expo ++ rest) = (e, rest) := by
    rcases he with ⟨rfl, rfl⟩ | ⟨rfl, he⟩
    · exact ⟨hr.noDigit, readFraction_term rest hr, readExponent_term rest hr⟩
    · exact ⟨noDigitHead_cons rfl, rfl, readExponent_fmtInt e rest he hr⟩
  rw [List.append_assoc, List.append_assoc, readDecimal_signed hinf hnan neg ip _ hip hne]
  by_cases hfp : fp = []
  · subst hfp
    exact readMantissa_eq neg ip [] _ _ _ rest _ (spanDigits_append ip _ hip htail) hfrac (hemp _) hexp
  · rw [if_neg hfp]
    exact readMantissa_eq neg ip fp _ _ _ rest _ (spanDigits_append ip _ hip (noDigitHead_cons rfl))
      (spanDigits_append fp _ (fun ch h => hd ch (List.mem_append_right _ h)) htail) (hemp _) hexp

end reader

theorem digitChars_isDigit (ds : List Nat) (hd : ∀ d ∈ ds, d < 10) : ∀ ch ∈ digitChars ds, ch.isDigit = true := by
  intro ch h
  simp only [digitChars, List.mem_map] at h
  obtain ⟨d, hdm, rfl⟩ := h
  exact (by decide : ∀ d, d < 10 → (Nat.digitChar d).isDigit = true) d (hd d hdm)

theorem pad_zero_isDigit (k : Int) : ∀ ch ∈ pad '0' k, ch.isDigit = true := by
  intro ch h
  simp only [pad, List.mem_replicate] at h
  rw [h.2]; rfl

/-- configuration facts the value theorem needs (all hold for util::kConverter, checked by `rfl` on the
regenerated constants) -/
structure PlainConv (c : Conv) : Prop where
  tdp : c.emitTrailingDecimalPoint = false
  tz : c.emitTrailingZeroAfterPoint = false
  plus : c.emitPositiveExponentSign = false
  expc : c.expChar = 'e'
  width : c.minExpWidth = 0

theorem expRep_shape (c : Conv) (digits : List Nat) (e : Int)
    (hc : c.expChar = 'e') (hplus : c.emitPositiveExponentSign = false) (hw : c.minExpWidth = 0) :
    expRep c digits e
      = (digitChars digits).take 1 ++ ((if digits.length ≠ 1 then '.' :: (digitChars digits).drop 1 else [])
        ++ 'e' :: fmtInt e) := by
  unfold expRep fmtInt
  simp only [hc, hplus, hw]
  by_cases he : e < 0 <;> simp [he]

/-- the shortest text of a plain configuration, without its sign, has the shape `digits [. digits] [e integer]`, and its digits
are those of the value: with `k` padding zeros among them it denotes `d₁…dₙ · 10^(point − n)` -/
theorem shortestBody_shape (c : Conv) (pc : PlainConv c) (digits : List Nat) (point : Int)
    (hd : ∀ d ∈ digits, d < 10) (hL : 1 ≤ digits.length) :
    ∃ ip fp expo, ∃ e : Int, ∃ k : Nat,
      shortestBody c digits point = ip ++ ((if fp = [] then [] else '.' :: fp) ++ expo) ∧
      ip ≠ [] ∧ (∀ ch ∈ ip ++ fp, ch.isDigit = true) ∧
      (expo = [] ∧ e = 0 ∨ expo = 'e' :: fmtInt e ∧ e = point - 1) ∧
      Nat.ofDigitChars 10 (ip ++ fp) 0 = digitsVal digits * 10 ^ k ∧ e - fp.length + k = point - digits.length := by
  have hds := digitChars_isDigit digits hd
  have hne : digitChars digits ≠ [] := by
    intro h; have := length_digitChars digits; rw [h] at this; simp at this; omega
  have htake : ∀ p, 0 < p → (digitChars digits).take p ≠ [] := fun p hp h =>
    (List.take_eq_nil_iff.mp h).elim (Nat.ne_of_gt hp) hne
  have hdrop : ∀ p, p < digits.length → (digitChars digits).drop p ≠ [] := fun p hp h => by
    have := List.drop_eq_nil_iff.mp h; rw [length_digitChars] at this; omega
  have hsplit : ∀ p, ∀ ch ∈ (digitChars digits).take p ++ (digitChars digits).drop p, ch.isDigit = true := fun p => by
    rwa [List.take_append_drop]
  unfold shortestBody
  by_cases hdec : c.low ≤ point - 1 ∧ point - 1 < c.high
  · rw [if_pos hdec, decRep_shortest c digits point pc.tdp pc.tz]
    by_cases hp : point ≤ 0
    · -- "0.000ddd"
      rw [if_pos hp, if_pos (show (digits.length : Int) - point > 0 by omega)]
      refine ⟨['0'], pad '0' (-point) ++ digitChars digits, [], 0, 0, ?_, by decide, ?_, .inl ⟨rfl, rfl⟩, ?_, ?_⟩
      · rw [if_neg (List.append_ne_nil_of_right_ne_nil _ hne), List.append_nil]; rfl
      · intro ch h
        rcases List.mem_append.mp h with h | h
        · rw [List.mem_singleton.mp h]; rfl
        · exact (List.mem_append.mp h).elim (pad_zero_isDigit _ _) (hds _)
      · simp [digitsVal, pad, Nat.ofDigitChars_cons, Nat.ofDigitChars_append]
      · simp [pad]; omega
    · rw [if_neg hp]
      by_cases hq : point ≥ digits.length
      · -- "ddd000"
        rw [if_pos hq]
        refine ⟨digitChars digits ++ pad '0' (point - digits.length), [], [], 0, (point - digits.length).toNat, by simp,
          List.append_ne_nil_of_left_ne_nil hne _, ?_,
          .inl ⟨rfl, rfl⟩, ?_, ?_⟩
        · intro ch h
          rw [List.append_nil] at h
          exact (List.mem_append.mp h).elim (hds _) (pad_zero_isDigit _ _)
        · simp [digitsVal, pad, Nat.ofDigitChars_append, Nat.mul_comm]
        · simp; omega
      · -- "dd.ddd"
        rw [if_neg hq]
        refine ⟨(digitChars digits).take point.toNat, (digitChars digits).drop point.toNat, [], 0, 0,
          by rw [if_neg (hdrop _ (by omega)), List.append_nil], htake _ (by omega), hsplit _,
          .inl ⟨rfl, rfl⟩, ?_, ?_⟩
        · simp [digitsVal]
        · simp; omega
  · -- "d.ddde±x" and "de±x"
    rw [if_neg hdec, expRep_shape c digits (point - 1) pc.expc pc.plus pc.width]
    by_cases h1L : digits.length ≠ 1
    · rw [if_pos h1L]
      refine ⟨_, _, _, point - 1, 0, by rw [if_neg (hdrop 1 (by omega))], htake 1 Nat.one_pos, hsplit 1, .inr ⟨rfl, rfl⟩, ?_, ?_⟩
      · rw [List.take_append_drop]; simp [digitsVal]
      · simp; omega
    · rw [if_neg h1L]
      refine ⟨_, [], _, point - 1, 0, rfl, htake 1 Nat.one_pos, ?_, .inr ⟨rfl, rfl⟩, ?_, ?_⟩
      · intro ch h
        exact hds _ (List.mem_of_mem_take (by simpa using h))
      · rw [List.take_of_length_le (by simp; omega)]; simp [digitsVal]
      · simp; omega

theorem ofDigitChars_digitChars (ds : List Nat) (hd : ∀ d ∈ ds, d < 10) (init : Nat) :
    Nat.ofDigitChars 10 (digitChars ds) init = ds.foldl (fun a d => 10 * a + d) init := by
  induction ds generalizing init with
  | nil => rfl
  | cons d t ih =>
    have hd0 : d < 10 := hd d (by simp)
    have := ih (fun x hx => hd x (by simp [hx])) (10 * init + d)
    simpa [digitChars, Nat.ofDigitChars_cons_digitChar_of_lt_ten hd0] using this

-- nothing in the development uses this
theorem digitsVal_eq_foldl (ds : List Nat) (hd : ∀ d ∈ ds, d < 10) :
    digitsVal ds = ds.foldl (fun a d => 10 * a + d) 0 := ofDigitChars_digitChars ds hd 0

end KV.Format
