import Proofs.TrieBuildOrder
/-! The `BlankManager` pass of the trie builder (`visit`, `visitAll`) on a strictly increasing list of keys: the invariant of one
`Visit` (`been_` is the previous key; `basis_[i]` is the probability of the real n-gram on the current path at order `i+1`, and
`kBadProb` exactly where that prefix is a blank), and what the whole pass creates: every blank is a non-real proper prefix based on
the *longest* real proper prefix below it, every non-real proper prefix of length ≥ 2 becomes a blank exactly once (`Full`), and a
missing unigram is reported exactly when the first word of some key has no unigram. -/
namespace KV.TrieBuild
open KV.Arpa KV.TrieLM

theorem getD_setAt_same {α} (l : List α) (i : Nat) (v d d' : α) : (setAt l i v d).getD i d' = v := by
  unfold setAt
  by_cases h : i < l.length
  · simp [h, List.getD_eq_getElem?_getD]
  · simp only [h, if_false, List.getD_eq_getElem?_getD]
    have hl : (l ++ List.replicate (i - l.length) d).length = i := by simp; omega
    rw [List.getElem?_append_right (by omega), hl]
    simp

/-- by cases on where `j` lies: inside the old list, in the padding `setAt` adds when `i` is beyond its end, or beyond `i` -/
theorem getD_setAt_other {α} (l : List α) (i j : Nat) (v d : α) (h : j ≠ i) : (setAt l i v d).getD j d = l.getD j d := by
  unfold setAt
  by_cases hi : i < l.length
  · simp [hi, List.getD_eq_getElem?_getD, Ne.symm h]
  · simp only [hi, if_false, List.getD_eq_getElem?_getD]
    have hl : (l ++ List.replicate (i - l.length) d).length = i := by simp; omega
    by_cases hj : j < l.length
    · rw [List.append_assoc, List.getElem?_append_left hj]
    · have h1 : l[j]? = none := List.getElem?_eq_none (by omega)
      rw [h1]
      by_cases hj2 : j < i
      · rw [List.getElem?_append_left (by rw [hl]; omega), List.getElem?_append_right (by omega), List.getElem?_replicate]
        have : j - l.length < i - l.length := by omega
        simp [this]
      · rw [List.getElem?_append_right (by omega), hl]
        have : j - i ≠ 0 := by omega
        cases hx : j - i with
        | zero => omega
        | succ n => simp

theorem getD_clear (orders : List Nat) : ∀ (basis : List (Option Nat)) (j : Nat),
    (orders.foldl (fun bs b => setAt bs (b - 1) none none) basis).getD j none =
      if (orders.any fun b => b - 1 == j) then none else basis.getD j none := by
  induction orders with
  | nil => intro basis j; simp
  | cons b bs ih =>
    intro basis j
    rw [List.foldl_cons, ih, List.any_cons]
    by_cases hb : b - 1 = j
    · have e : (b - 1 == j) = true := by simpa using hb
      rw [e, Bool.true_or, if_pos rfl]
      by_cases h2 : (bs.any fun b' => b' - 1 == j) = true
      · rw [if_pos h2]
      · rw [if_neg h2, ← hb, getD_setAt_same]
    · have e : (b - 1 == j) = false := by simpa using hb
      rw [e, Bool.false_or, getD_setAt_other _ _ _ _ _ (Ne.symm hb)]

/-- invalidating the orders `cur+1 … len-1` clears exactly the indices `cur … len-2` -/
theorem getD_clear_range (basis : List (Option Nat)) (cur len i : Nat) :
    ((List.range' (cur + 1) (len - (cur + 1))).foldl (fun bs b => setAt bs (b - 1) none none) basis).getD i none =
      if cur ≤ i ∧ i + 1 < len then none else basis.getD i none := by
  have hany : ((List.range' (cur + 1) (len - (cur + 1))).any fun b => b - 1 == i) = true ↔ (cur ≤ i ∧ i + 1 < len) := by
    simp only [List.any_eq_true, List.mem_range'_1, beq_iff_eq]
    constructor
    · rintro ⟨b, ⟨h1, h2⟩, rfl⟩; omega
    · intro h; exact ⟨i + 1, ⟨by omega, by omega⟩, rfl⟩
  rw [getD_clear]
  by_cases h : cur ≤ i ∧ i + 1 < len
  · rw [if_pos h, if_pos (hany.mpr h)]
  · rw [if_neg h, if_neg (mt hany.mp h)]

theorem lowerBasis_of_some {basis : List (Option Nat)} {i q : Nat} (h : basis.getD i none = some q) :
    lowerBasis basis i = some (i, q) := by
  cases i <;> simp only [lowerBasis, h]

theorem lowerBasis_zero_of_none {basis : List (Option Nat)} (h : basis.getD 0 none = none) : lowerBasis basis 0 = none := by
  simp only [lowerBasis, h]

theorem lowerBasis_succ_of_none {basis : List (Option Nat)} {i : Nat} (h : basis.getD (i + 1) none = none) :
    lowerBasis basis (i + 1) = lowerBasis basis i := by
  simp only [lowerBasis, h]

theorem lowerBasis_some (basis : List (Option Nat)) : ∀ i idx p, lowerBasis basis i = some (idx, p) →
    idx ≤ i ∧ basis.getD idx none = some p ∧ ∀ j, idx < j → j ≤ i → basis.getD j none = none := by
  have hit : ∀ i q idx p, basis.getD i none = some q → lowerBasis basis i = some (idx, p) →
      idx ≤ i ∧ basis.getD idx none = some p ∧ ∀ j, idx < j → j ≤ i → basis.getD j none = none := by
    intro i q idx p hq h
    rw [lowerBasis_of_some hq] at h
    cases h
    exact ⟨Nat.le_refl _, hq, fun j h1 h2 => absurd h2 (Nat.not_le_of_lt h1)⟩
  intro i
  induction i with
  | zero =>
    intro idx p h
    cases hq : basis.getD 0 none with
    | some q => exact hit 0 q idx p hq h
    | none => rw [lowerBasis_zero_of_none hq] at h; cases h
  | succ i ih =>
    intro idx p h
    cases hq : basis.getD (i + 1) none with
    | some q => exact hit (i + 1) q idx p hq h
    | none =>
      rw [lowerBasis_succ_of_none hq] at h
      obtain ⟨a, b, c⟩ := ih idx p h
      exact ⟨Nat.le_succ_of_le a, b, fun j h1 h2 =>
        (Nat.lt_or_eq_of_le h2).elim (fun h' => c j h1 (Nat.le_of_lt_succ h')) (fun e => e ▸ hq)⟩

theorem lowerBasis_none (basis : List (Option Nat)) : ∀ i, lowerBasis basis i = none → ∀ j, j ≤ i → basis.getD j none = none := by
  intro i
  induction i with
  | zero =>
    intro h j hj
    cases hq : basis.getD 0 none with
    | some q => rw [lowerBasis_of_some hq] at h; cases h
    | none => exact Nat.le_zero.mp hj ▸ hq
  | succ i ih =>
    intro h j hj
    cases hq : basis.getD (i + 1) none with
    | some q => rw [lowerBasis_of_some hq] at h; cases h
    | none =>
      rw [lowerBasis_succ_of_none hq] at h
      exact (Nat.lt_or_eq_of_le hj).elim (fun h' => ih h j (Nat.le_of_lt_succ h')) (fun e => e ▸ hq)

/-- the key visited before the next one: `been_` (empty before the first) -/
abbrev prevKey (pre : List Gram) : List Nat := (pre.getLast?.map (·.key)).getD []

theorem prevKey_eq (pre : List Gram) : prevKey pre = (pre.getLast?.map (·.key)).getD [] := rfl

theorem prevKey_nil : prevKey [] = [] := rfl

theorem prevKey_concat (pre : List Gram) (g : Gram) : prevKey (pre ++ [g]) = g.key := by
  simp [prevKey]

/-- the length of the path a key `g` shares with the previous key `p` among its proper prefixes: what `BlankManager::Visit`
computes as `cur - to` -/
def sharedLen (p g : List Nat) : Nat := min (commonPrefix p g) (g.length - 1)

theorem sharedLen_eq (p g : List Nat) : commonPrefix p (g.take (g.length - 1)) = sharedLen p g := commonPrefix_take p g _

theorem sharedLen_le_common (p g : List Nat) : sharedLen p g ≤ commonPrefix p g := Nat.min_le_left _ _

theorem sharedLen_le_pred (p g : List Nat) : sharedLen p g ≤ g.length - 1 := Nat.min_le_right _ _

theorem le_sharedLen {p g : List Nat} {n : Nat} (h1 : n ≤ commonPrefix p g) (h2 : n < g.length) : n ≤ sharedLen p g :=
  Nat.le_min.mpr ⟨h1, Nat.le_sub_one_of_lt h2⟩

theorem mem_pre_of_lt {pre post : List Gram} {g r : Gram} (hk : KeysLt (pre ++ g :: post)) (hr : r ∈ pre ++ g :: post)
    (hlt : r.key < g.key) : r ∈ pre := by
  rcases List.mem_append.mp hr with h | h
  · exact h
  · have hgt := (List.pairwise_cons.mp (List.pairwise_append.mp ((keysLt_iff _).mp hk)).2.1).1
    rcases List.mem_cons.mp h with rfl | h
    · exact absurd hlt (List.lt_irrefl _)
    · exact absurd hlt (List.lt_asymm (hgt r h))

/-- the order argument: whatever an earlier key shares with `g`, the previous key shares too (keys with a common prefix are
contiguous), so it is no longer than the common prefix of the previous key and `g` -/
theorem prefix_le_common {pre post : List Gram} {g x : Gram} (hk : KeysLt (pre ++ g :: post)) (hx : x ∈ pre)
    {k : List Nat} (h1 : k <+: x.key) (h2 : k <+: g.key) : k.length ≤ commonPrefix (prevKey pre) g.key := by
  obtain ⟨init, p, rfl⟩ := (List.eq_nil_or_concat pre).resolve_left (List.ne_nil_of_mem hx)
  rw [List.concat_eq_append] at hk hx ⊢
  have hp := List.pairwise_append.mp ((keysLt_iff _).mp hk)
  have hxp : x.key ≤ p.key := by
    rcases List.mem_append.mp hx with h | h
    · exact List.le_of_lt ((List.pairwise_append.mp hp.1).2.2 x h p (List.mem_singleton.mpr rfl))
    · rw [List.mem_singleton.mp h]; exact List.le_refl _
  have hpg := List.le_of_lt (hp.2.2 p (List.mem_append_right _ (List.mem_singleton.mpr rfl)) g List.mem_cons_self)
  rw [prevKey_concat]
  exact commonPrefix_ge_of_prefix k _ _ (prefix_between k x.key p.key g.key h1 h2 hxp hpg) h2

theorem not_real_between (pre post : List Gram) (g : Gram) (hk : KeysLt (pre ++ g :: post)) (j : Nat)
    (hc : commonPrefix (prevKey pre) g.key < j) (hj : j < g.key.length) :
    realOf (pre ++ g :: post) (g.key.take j) = none := by
  refine Option.eq_none_iff_forall_ne_some.mpr fun r hf => ?_
  obtain ⟨hm, hkey⟩ := realOf_mem _ _ _ hf
  have hpre : r ∈ pre := mem_pre_of_lt hk hm (hkey ▸ take_lt _ hj)
  have := prefix_le_common hk hpre (List.prefix_refl _) (hkey ▸ List.take_prefix _ _)
  rw [hkey, List.length_take_of_le (Nat.le_of_lt hj)] at this
  exact Nat.not_lt_of_le this hc

/-- invariant of `BlankManager` after visiting the key `prev`: `been_` is `prev`, and `basis_[i]` is the probability of the real
n-gram `prev.take (i+1)`, `kBadProb` (`none`) where that prefix is no n-gram; entries beyond `prev` are stale -/
structure Inv (L : List Gram) (st : VisitState) (prev : List Nat) : Prop where
  been : st.been = prev
  basis : ∀ i, i < prev.length → st.basis.getD i none = (realOf L (prev.take (i + 1))).map (·.prob)

/-- what `Visit` guarantees of a blank `b` it creates while visiting `g`, `L` being the whole visit order (it decides which keys are real) -/
structure BlankOK (L : List Gram) (g : Gram) (b : Blank) : Prop where
  isPrefix : ∃ n, 2 ≤ n ∧ n < g.key.length ∧ b.key = g.key.take n
  notReal : realOf L b.key = none
  based : 1 ≤ b.basedOn ∧ b.basedOn < b.key.length
  basis : ∃ r, realOf L (g.key.take b.basedOn) = some r ∧ r.prob = b.basis
  longest : ∀ j, b.basedOn < j → j < g.key.length → realOf L (g.key.take j) = none

/-- what `Visit` finds on the path of `g` when `been_` / `basis_` describe the previous key (`Inv`), with `cur` the length of
the shared path: below `cur` the entries of `basis_` are those of `g`'s own prefixes, the entry just stored is that of `g`
itself, and no proper prefix of `g` longer than `cur` is real (the order argument `not_real_between`) -/
theorem path_facts (pre post : List Gram) (g : Gram) (st : VisitState)
    (hk : KeysLt (pre ++ g :: post)) (hlen : 1 ≤ g.key.length)
    (hinv : Inv (pre ++ g :: post) st (prevKey pre)) :
    (∀ i, i < sharedLen (prevKey pre) g.key ∨ i = g.key.length - 1 →
      (setAt st.basis (g.key.length - 1) (some g.prob) none).getD i none
        = (realOf (pre ++ g :: post) (g.key.take (i + 1))).map (·.prob)) ∧
    (∀ j, sharedLen (prevKey pre) g.key < j → j < g.key.length →
      realOf (pre ++ g :: post) (g.key.take j) = none) := by
  have hcp := (commonPrefix_le (prevKey pre) g.key).1
  have hsc := sharedLen_le_common (prevKey pre) g.key
  have hsp := sharedLen_le_pred (prevKey pre) g.key
  refine ⟨?_, ?_⟩
  · rintro i (hi | rfl)
    · rw [getD_setAt_other _ _ _ _ _ (by omega), hinv.basis i (by omega),
        take_eq_of_le_common _ g.key (i + 1) (by omega)]
    · rw [getD_setAt_same, Nat.sub_add_cancel hlen, List.take_length, realOf_of_mem hk g (by simp)]; rfl
  · intro j h1 h2
    exact not_real_between pre post g hk j (Nat.lt_of_not_le fun h => Nat.not_le_of_lt h1 (le_sharedLen h h2)) h2

/-- one `Visit`: the invariant is kept; the blanks added are the prefixes of `g` longer than the path shared with the previous key,
in increasing length, and each is as `BlankOK` says; or a unigram is missing -/
theorem visit_step (pre post : List Gram) (g : Gram) (st : VisitState)
    (hk : KeysLt (pre ++ g :: post)) (hlen : 1 ≤ g.key.length)
    (hinv : Inv (pre ++ g :: post) st (prevKey pre)) :
    match visit st g with
    | .ok st' => Inv (pre ++ g :: post) st' g.key ∧
        ∃ nb, st'.blanks = st.blanks ++ nb ∧ (∀ b ∈ nb, BlankOK (pre ++ g :: post) g b) ∧
          nb.map (·.key) = (List.range' (sharedLen (prevKey pre) g.key + 1)
            (g.key.length - (sharedLen (prevKey pre) g.key + 1))).map fun n => g.key.take n
    | .error e => e = .missingUnigram ∧ 2 ≤ g.key.length ∧ realOf (pre ++ g :: post) (g.key.take 1) = none := by
  obtain ⟨hbas, hnone⟩ := path_facts pre post g st hk hlen hinv
  have hcl := sharedLen_le_pred (prevKey pre) g.key
  unfold visit
  dsimp only
  rw [hinv.been, sharedLen_eq]
  clear hk hinv
  generalize pre ++ g :: post = L at hbas hnone ⊢
  generalize setAt st.basis (g.key.length - 1) (some g.prob) none = basis0 at hbas ⊢
  generalize sharedLen (prevKey pre) g.key = cur at hcl hbas hnone ⊢
  by_cases hc : cur = g.key.length - 1
  · rw [if_pos hc]
    refine ⟨⟨rfl, fun i hi => hbas i (by omega)⟩, [], (List.append_nil _).symm, nofun, ?_⟩
    rw [hc, Nat.sub_add_cancel hlen, Nat.sub_self]; rfl
  rw [if_neg hc]
  by_cases h1 : cur + 1 = 1
  · rw [if_pos h1]
    exact ⟨rfl, by omega, hnone 1 (by omega) (by omega)⟩
  rw [if_neg h1]
  cases hlb : lowerBasis basis0 (cur + 1 - 2) with
  | none =>
    have h0 := lowerBasis_none basis0 _ hlb 0 (Nat.zero_le _)
    rw [hbas 0 (by omega)] at h0
    exact ⟨rfl, by omega, Option.map_eq_none_iff.mp h0⟩
  | some ip =>
    obtain ⟨idx, p⟩ := ip
    obtain ⟨hidx, hval, hmax⟩ := lowerBasis_some basis0 _ idx p hlb
    -- the prefixes between the basis order and the shared length are not real: their `basis_` entries are `kBadProb`
    have hgap : ∀ j, idx + 1 < j → j < g.key.length → realOf L (g.key.take j) = none := by
      intro j hj1 hj2
      by_cases hjc : j ≤ cur
      · have hn := hmax (j - 1) (by omega) (by omega)
        rw [hbas (j - 1) (by omega), Nat.sub_add_cancel (by omega)] at hn
        exact Option.map_eq_none_iff.mp hn
      · exact hnone j (by omega) hj2
    dsimp only
    refine ⟨⟨rfl, ?_⟩, _, rfl, ?_, by rw [List.map_map]; rfl⟩
    · intro i hi
      show (List.foldl _ basis0 _).getD i none = _
      rw [getD_clear_range]
      by_cases hin : cur ≤ i ∧ i + 1 < g.key.length
      · rw [if_pos hin, hnone (i + 1) (by omega) hin.2]; rfl
      · rw [if_neg hin]; exact hbas i (by omega)
    · intro b' hb'
      obtain ⟨b, hb, rfl⟩ := List.mem_map.mp hb'
      have hbr := List.mem_range'_1.mp hb
      have hklen : (g.key.take b).length = b := List.length_take_of_le (by omega)
      refine { isPrefix := ⟨b, by omega, by omega, rfl⟩, notReal := hnone b (by omega) (by omega), based := ?_, basis := ?_,
               longest := hgap }
      · show 1 ≤ idx + 1 ∧ idx + 1 < (g.key.take b).length
        rw [hklen]; omega
      · show ∃ r, realOf L (g.key.take (idx + 1)) = some r ∧ r.prob = p
        have := hbas idx (by omega)
        rw [hval] at this
        obtain ⟨r, hr, hrp⟩ := Option.map_eq_some_iff.mp this.symm
        exact ⟨r, hr, hrp⟩

/-- the invariant of the pass after the keys `pre` of the whole visit order `L`: `Inv`, and the blanks so far are sound, complete and distinct -/
structure Full (L pre : List Gram) (st : VisitState) : Prop where
  inv : Inv L st ((pre.getLast?.map (·.key)).getD [])
  sound : ∀ b ∈ st.blanks, ∃ g ∈ pre, BlankOK L g b
  complete : ∀ g ∈ pre, ∀ n, 2 ≤ n → n < g.key.length → realOf L (g.key.take n) = none →
    ∃ b ∈ st.blanks, b.key = g.key.take n
  nodup : (st.blanks.map (·.key)).Nodup

theorem full_step (pre post : List Gram) (g : Gram) (st st' : VisitState)
    (hk : KeysLt (pre ++ g :: post)) (hlen : 1 ≤ g.key.length)
    (hf : Full (pre ++ g :: post) pre st) (hv : visit st g = .ok st') :
    Full (pre ++ g :: post) (pre ++ [g]) st' := by
  have hstep := visit_step pre post g st hk hlen hf.inv
  rw [hv] at hstep
  obtain ⟨hinv', nb, hnb, hok, hkeys⟩ := hstep
  -- `cur`: the length of the path shared with the previous key, at most the common prefix of the two keys
  generalize hcur : sharedLen (prevKey pre) g.key = cur at hkeys
  have hnew : ∀ k, k ∈ nb.map (·.key) ↔ ∃ n, cur < n ∧ n < g.key.length ∧ k = g.key.take n := by
    intro k
    rw [hkeys]
    simp only [List.mem_map, List.mem_range'_1]
    constructor
    · rintro ⟨n, ⟨h1, h2⟩, rfl⟩; exact ⟨n, h1, by omega, rfl⟩
    · rintro ⟨n, h1, h2, rfl⟩; exact ⟨n, ⟨h1, by omega⟩, rfl⟩
  refine ⟨prevKey_eq (pre ++ [g]) ▸ (prevKey_concat pre g).symm ▸ hinv', ?_, ?_, ?_⟩
  · intro b hb
    rw [hnb] at hb
    rcases List.mem_append.mp hb with h | h
    · obtain ⟨g0, hg0, hb0⟩ := hf.sound b h
      exact ⟨g0, List.mem_append_left _ hg0, hb0⟩
    · exact ⟨g, List.mem_append_right _ (List.mem_singleton.mpr rfl), hok b h⟩
  · intro g0 hg0 n hn2 hnl hnr
    rw [hnb]
    rcases List.mem_append.mp hg0 with h | h
    · obtain ⟨b, hb, hbk⟩ := hf.complete g0 h n hn2 hnl hnr
      exact ⟨b, List.mem_append_left _ hb, hbk⟩
    · obtain rfl := List.mem_singleton.mp h
      by_cases hle : n ≤ cur
      · -- shared with the previous key `p`, of which it is a proper prefix too since it is not real: an earlier blank
        have hcp : n ≤ commonPrefix (prevKey pre) g0.key := Nat.le_trans hle (hcur ▸ sharedLen_le_common _ _)
        obtain ⟨init, p, rfl⟩ := (List.eq_nil_or_concat pre).resolve_left fun e => by
          rw [e, prevKey_nil, commonPrefix_nil] at hcp; omega
        simp only [List.concat_eq_append] at *
        rw [prevKey_concat] at hcp
        have heq := take_eq_of_le_common p.key g0.key n hcp
        have hpm : p ∈ init ++ [p] := List.mem_append_right _ (List.mem_singleton.mpr rfl)
        rw [← heq] at hnr ⊢
        have hnlt : n < p.key.length := Nat.lt_of_le_of_ne (Nat.le_trans hcp (commonPrefix_le _ _).1) fun e => by
          rw [e, List.take_length, realOf_of_mem hk p (List.mem_append_left _ hpm)] at hnr; cases hnr
        obtain ⟨b, hb, hbk⟩ := hf.complete p hpm n hn2 hnlt hnr
        exact ⟨b, List.mem_append_left _ hb, hbk⟩
      · obtain ⟨b, hb, hbk⟩ := List.mem_map.mp ((hnew _).mpr ⟨n, Nat.lt_of_not_le hle, hnl, rfl⟩)
        exact ⟨b, List.mem_append_right _ hb, hbk⟩
  · rw [hnb, List.map_append, List.nodup_append]
    refine ⟨hf.nodup, ?_, ?_⟩
    · -- the new keys have different lengths
      rw [hkeys]
      refine (List.pairwise_map.mpr ?_ : List.Pairwise (· ≠ ·) _)
      refine List.Pairwise.imp_of_mem ?_ (List.nodup_range' (step := 1))
      intro x y hx hy hxy he
      have hx' := List.mem_range'_1.mp hx
      have hy' := List.mem_range'_1.mp hy
      have := congrArg List.length he
      simp only [List.length_take] at this
      omega
    · -- an earlier blank is shared with an earlier key, so it is no longer than `cur`
      rintro k hk1 _ hk2 rfl
      obtain ⟨b, hb, rfl⟩ := List.mem_map.mp hk1
      obtain ⟨n, hn1, hn2, hbk⟩ := (hnew _).mp hk2
      obtain ⟨g0, hg0, hb0⟩ := hf.sound b hb
      obtain ⟨m, _, _, hbm⟩ := hb0.isPrefix
      have := prefix_le_common hk hg0 (hbm ▸ List.take_prefix _ _) (hbk ▸ List.take_prefix _ _)
      rw [hbk, List.length_take_of_le (Nat.le_of_lt hn2)] at this
      exact Nat.not_le_of_lt hn1 (hcur ▸ le_sharedLen this hn2)

theorem run_full : ∀ (post pre : List Gram) (st : VisitState), KeysLt (pre ++ post) →
    (∀ g ∈ pre ++ post, 1 ≤ g.key.length) → Full (pre ++ post) pre st →
    match post.foldlM visit st with
    | .ok st' => Full (pre ++ post) (pre ++ post) st'
    | .error e => e = .missingUnigram ∧ ∃ g ∈ pre ++ post, 2 ≤ g.key.length ∧ realOf (pre ++ post) (g.key.take 1) = none := by
  intro post
  induction post with
  | nil =>
    intro pre st _ _ hf
    show Full (pre ++ []) (pre ++ []) st
    simpa using hf
  | cons g rest ih =>
    intro pre st hk hne hf
    have hstep := visit_step pre rest g st hk (hne g (by simp)) hf.inv
    rw [List.foldlM_cons]
    cases hv : visit st g with
    | error e =>
      rw [hv] at hstep
      exact ⟨hstep.1, g, by simp, hstep.2⟩
    | ok st' =>
      have hf' := full_step pre rest g st st' hk (hne g (by simp)) hf hv
      have e : pre ++ g :: rest = (pre ++ [g]) ++ rest := by simp
      rw [e] at hk hne hf' ⊢
      exact ih (pre ++ [g]) st' hk hne hf'

theorem visitAll_full (L : List Gram) (hk : KeysLt L) (hne : ∀ g ∈ L, 1 ≤ g.key.length) :
    match visitAll L with
    | .ok st => Full L L st
    | .error e => e = .missingUnigram ∧ ∃ g ∈ L, 2 ≤ g.key.length ∧ realOf L (g.key.take 1) = none :=
  run_full L [] {} hk hne ⟨⟨rfl, fun i hi => by simp at hi⟩, by simp, by simp, by simp⟩

end KV.TrieBuild
