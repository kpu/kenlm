import Proofs.KNInterp
import Proofs.KNCorpusGrams
import Proofs.KNDiscounts
import Proofs.KNAdjustStats
/-!
Property C05, end to end: the streaming pipeline `estimateFrom` equals the set-based
specification `Spec.estimateFrom`.

The closure facts that `orderOK_of_closure'` (`Proofs/KNInterp.lean`) asks for hold for a
well-formed table once every n-gram that does not end in `</s>` or `<unk>` is the context of a longer one
(`CtxComplete`, true of every corpus): `closureFacts_of_table`, `orderOK_table`.  With what
`AdjustCounts` hands on (`adjust_streams`, `adjust_stats`, `adjust1` of
`Proofs/KNAdjustStats.lean`) this gives `estimateFrom_eq_spec`, `estimateFrom1_eq_spec`, and
`estimate_eq_spec` for every corpus and every order.

The one hypothesis beyond well-formedness is `pv = false → ∀ w, cfg.excl w = false`: the model
keeps "`--limit_vocab_file` given" (`pv`) and the exclusion predicate `cfg.excl` apart; with
exclusions but `pv = false` and threshold 0 stage 4 consumes the gammas sequentially although
records may have been removed, so fact 3 of `ClosureFacts` (and with it `takeBackoffsSeq_eq`) is
not available; the real tool never runs in that combination.
-/
namespace KV.KN.Interp

open KV.KN KV.KN.Norm KV.KN.Spec KV.KN.Adjust

theorem kept_of_unpruned {cfg : Cfg} {full : Table} (hw : WF cfg full)
    (discs : List (Disc × Bool)) {n : Nat} (h1 : 1 ≤ n) (hthr : cfg.thr n = 0)
    (hex : ∀ w, cfg.excl w = false) {e : Emit} (he : e ∈ (specCtx cfg full discs).esAt (n + 1)) :
    keptBy e = true := by
  obtain ⟨hn, r, hr, hv, hl, rfl⟩ := hi_rec hw discs h1 he
  refine keptBy_iff.mpr (Or.inr ⟨(pruned_eq_false_iff ..).mpr (Or.inr ⟨?_, fun w _ => hex w⟩),
    adj_pos hr (by rw [hl]) (hw.pos r hr)⟩)
  rw [hl, Nat.add_sub_cancel, hthr]
  exact trueCount_pos hr (by rw [hl]) (hw.pos r hr)

/-- `hpr`: an order that stage 4 treats as unpruned (`pruned n = false`) has threshold 0 and no
excluded word, so every record of order `n + 1` is kept (`kept_of_unpruned`) -/
theorem closureFacts_of_table {cfg : Cfg} {full : Table} (hw : WF cfg full)
    (hcc : CtxComplete cfg full) (discs : List (Disc × Bool)) (pruned : Nat → Bool)
    (hpr : ∀ n, 1 ≤ n → n < cfg.order → pruned n = false →
      cfg.thr n = 0 ∧ ∀ w, cfg.excl w = false)
    (n : Nat) (hn0 : 1 ≤ n) (hn : n ≤ cfg.order) :
    ClosureFacts (specCtx cfg full discs) pruned n := by
  have hT := tableOK_of_wf hw discs
  refine ⟨?_, ?_, ?_⟩
  · intro hn1 e he hk
    obtain ⟨m, rfl⟩ : ∃ m, n = m + 1 := ⟨n - 1, by omega⟩
    exact (hT.closure m (by omega) e he hk).1
  · intro hlt e he hk hwb
    have hlt' : n < cfg.order := hlt
    rw [esAt_mid hw discs hn0 hn] at he
    obtain ⟨k, hk', rfl⟩ := mem_ents.mp he
    rw [recOf_gram] at hwb ⊢
    obtain ⟨k', hk2, ht⟩ := hcc n hn0 hlt' k hk' hwb
    refine ⟨recOf cfg full k', ?_, by rw [recOf_gram]; exact ht⟩
    rw [esAt_mid hw discs (by omega) (by omega)]
    exact mem_ents.mpr ⟨k', hk2, rfl⟩
  · intro hlt hp e' he'
    have hlt' : n < cfg.order := hlt
    obtain ⟨hthr, hex⟩ := hpr n hn0 hlt' hp
    have hk' := kept_of_unpruned hw discs hn0 hthr hex he'
    obtain ⟨e, he, hk, heg⟩ := (hT.closure n hn0 e' he' hk').2
    exact ⟨e, he, hk, heg ▸ (hT.headOK n hn0 e' he' hk').2, heg⟩

section
variable {cfg : Cfg} {full : Table}

theorem stage3_list (h1 : 1 ≤ cfg.order) (discs : List (Disc × Bool))
    (hlen : discs.length = cfg.order) :
    ((specRecords cfg full).zip discs).zipIdx.map
        (fun x => initialOrder cfg.interpUni (x.2 + 1) x.1.2.1 x.1.1)
      = (List.range' 1 cfg.order).map (stage3Of (specCtx cfg full discs)) := by
  have hl := specRecords_length (full := full) h1
  apply List.ext_getElem
  · simp [hl, hlen]
  · intro i hi _
    have hi' : i < cfg.order := by simpa [hl, hlen] using hi
    have he : i < (specCtx cfg full discs).es.length := hl ▸ hi'
    have hd : i < (specCtx cfg full discs).ds.length := by
      rw [show (specCtx cfg full discs).ds = discs.map (·.1) from rfl, List.length_map, hlen]; exact hi'
    -- both sides are `initialOrder` of order `i + 1` on the `i`-th stream and discount
    simp only [List.getElem_map, List.getElem_zipIdx, List.getElem_zip, List.getElem_range', stage3Of,
      Nat.one_mul, Nat.zero_add, Nat.add_comm 1 i, esAt_getElem he, dAt_getElem hd]
    simp only [specCtx, List.getElem_map]

theorem specOrders_eq (h1 : 1 ≤ cfg.order) (discs : List (Disc × Bool)) :
    (List.range' 1 cfg.order).map (specOrder (specCtx cfg full discs))
      = ordersOf (specCtx cfg full discs) := by
  have hl : (specCtx cfg full discs).es.length = cfg.order := specRecords_length h1
  apply List.ext_getElem
  · simp [ordersOf, hl]
  · intro i hi _
    have hi' : i < cfg.order := by simpa using hi
    simp only [List.getElem_map, List.getElem_range', ordersOf, specOrder, Nat.one_mul,
      Nat.add_comm 1 i, esAt_getElem (hl ▸ hi')]

end

theorem orderOK_table {cfg : Cfg} {full : Table} (hw : WF cfg full) (hcc : CtxComplete cfg full)
    (discs : List (Disc × Bool)) (pv : Bool) (hpv : pv = false → ∀ w, cfg.excl w = false)
    (n : Nat) (hn0 : 1 ≤ n) (hn : n ≤ cfg.order) :
    OrderOK' (specCtx cfg full discs) (fun n => pv || decide (cfg.thr n > 0)) n := by
  have hR := recordsOK_of_wf hw discs
  apply orderOK_of_closure' _ _ n hn0 hn
  · exact fun k hk1 _ => ⟨hR.len k hk1, hR.nodup k⟩
  · exact fun e he hk _ _ => unmarked_of_kept hk fun _ => hR.specialsUnmarked e he
  · apply closureFacts_of_table hw hcc discs _ _ n hn0 hn
    intro m _ _ hp
    simp only [Bool.or_eq_false_iff, decide_eq_false_iff_not] at hp
    exact ⟨by omega, hpv hp.1⟩

theorem estimateFrom_unfold (cfg : Cfg) (pv : Bool) (fallback : Option Disc) (full : Table) :
    estimateFrom cfg pv fallback full =
      match discounts fallback (adjust cfg full).stats with
      | .error e => .error e
      | .ok discs =>
        match interpAll (fun n => pv || decide (cfg.thr n > 0))
            (1 / ((((adjust cfg full).stats.map (·.countPruned)).headD 0 - 1 : Nat) : Rat)) 1
            ((((adjust cfg full).streams.zip discs).zipIdx).map
              (fun x => initialOrder cfg.interpUni (x.2 + 1) x.1.2.1 x.1.1)) none with
        | .error e => .error e
        | .ok orders => .ok
            { stats := (adjust cfg full).stats, discs := discs,
              header := (adjust cfg full).stats.map (·.countPruned),
              uniform := 1 / ((((adjust cfg full).stats.map (·.countPruned)).headD 0 - 1 : Nat) : Rat),
              orders := orders } := by
  unfold estimateFrom
  simp only [bind, Except.bind]
  cases discounts fallback (adjust cfg full).stats with
  | error e => rfl
  | ok discs =>
    simp only
    cases interpAll (fun n => pv || decide (cfg.thr n > 0))
        (1 / ((((adjust cfg full).stats.map (·.countPruned)).headD 0 - 1 : Nat) : Rat)) 1
        ((((adjust cfg full).streams.zip discs).zipIdx).map
          (fun x => initialOrder cfg.interpUni (x.2 + 1) x.1.2.1 x.1.1)) none <;> rfl

/-- the streaming pipeline returns what the specification returns (the same model or the same
error) as soon as `AdjustCounts` hands on the records and statistics of the specification and
every order satisfies `OrderOK'`; `full'` is the table as `AdjustCounts` reads it -/
theorem estimateFrom_eq_of_adjust (cfg : Cfg) (pv : Bool) (fallback : Option Disc) (full full' : Table)
    (h1 : 1 ≤ cfg.order)
    (hs : (adjust cfg full').streams = specRecords cfg full)
    (hst : (adjust cfg full').stats = (specRecords cfg full).map Spec.stats)
    (hok : ∀ discs n, 1 ≤ n → n ≤ cfg.order →
      OrderOK' (specCtx cfg full discs) (fun n => pv || decide (cfg.thr n > 0)) n) :
    estimateFrom cfg pv fallback full' = Spec.estimateFrom cfg fallback full := by
  rw [estimateFrom_unfold, spec_estimateFrom_unfold, hs, hst]
  cases hd : discounts fallback ((specRecords cfg full).map Spec.stats) with
  | error e => rfl
  | ok discs =>
    have hlen : discs.length = cfg.order := by
      rw [(discountsFrom_eq_ok _ 0 discs hd).1, List.length_map, specRecords_length h1]
    have h34 : interpAll (fun n => pv || decide (cfg.thr n > 0)) (specCtx cfg full discs).uniform 1
          ((List.range' 1 cfg.order).map (stage3Of (specCtx cfg full discs))) none
        = .ok ((List.range' 1 cfg.order).map (specOrder (specCtx cfg full discs))) :=
      interp_eq' (specCtx cfg full discs) _ (hok discs)
    rw [← stage3_list h1 discs hlen, specOrders_eq h1 discs] at h34
    simp only
    have hu : (specCtx cfg full discs).uniform
        = 1 / (((((specRecords cfg full).map Spec.stats).map (·.countPruned)).headD 0 - 1 : Nat) : Rat) := rfl
    rw [hu] at h34
    rw [h34]
    rfl

theorem estimateFrom_eq_spec (cfg : Cfg) (pv : Bool) (fallback : Option Disc) (full : Table)
    (hw : TableWF cfg full) (hF : FullWF cfg.order full) (hcc : CtxComplete cfg full)
    (hk : cfg.keepSpecials = true) (hfix : cfg.flushAdjusted = true)
    (hpv : pv = false → ∀ w, cfg.excl w = false) :
    estimateFrom cfg pv fallback full = Spec.estimateFrom cfg fallback full :=
  have h2 := hw.order2
  estimateFrom_eq_of_adjust cfg pv fallback full full (by omega) (adjust_streams cfg full h2 hF hk)
    (adjust_stats cfg full h2 hF hk hfix) fun discs => orderOK_table (.inl hw) hcc discs pv hpv

/-- `estimateFrom` = `Spec.estimateFrom` for the unigram table (`Writer` puts `<unk>`, `<s>` in
front of the counted unigrams); stages 3 and 4 are the case `N = 1` of `orderOK_table` -/
theorem estimateFrom1_eq_spec (cfg : Cfg) (pv : Bool) (fallback : Option Disc) (full : Table)
    (hw : TableWF1 cfg full) (hpv : pv = false → ∀ w, cfg.excl w = false) :
    estimateFrom cfg pv fallback (([unk], 0) :: ([bos], 0) :: full)
      = Spec.estimateFrom cfg fallback full :=
  estimateFrom_eq_of_adjust cfg pv fallback full _ (by rw [hw.order1]) (adjust1 hw).1 (adjust1 hw).2
    fun discs => orderOK_table (.inr hw)
      (fun n h1 hn => absurd (hw.order1 ▸ hn) (Nat.not_lt.mpr h1)) discs pv hpv

theorem estimate_eq_spec (cfg : Cfg) (pv : Bool) (fallback : Option Disc)
    (corpus : List (List Word)) (h1 : 1 ≤ cfg.order) (hne : corpus ≠ [])
    (hw : ∀ s ∈ corpus, ∀ w ∈ s, 3 ≤ w)
    (hthr : ∀ i, i < cfg.order - 1 → cfg.thr i ≤ cfg.thr (i + 1))
    (hk : cfg.keepSpecials = true) (hfix : cfg.flushAdjusted = true)
    (hpv : pv = false → ∀ w, cfg.excl w = false) :
    estimate cfg pv fallback corpus = Spec.estimate cfg pv fallback corpus := by
  unfold estimate Spec.estimate countFull1
  by_cases h : cfg.order = 1
  · rw [if_pos (by omega), if_pos (by omega)]
    exact estimateFrom1_eq_spec cfg pv fallback _ (tableWF1_countFull cfg corpus h hne hw) hpv
  · have h2 : 2 ≤ cfg.order := by omega
    rw [if_neg (by omega), if_neg (by omega)]
    exact estimateFrom_eq_spec cfg pv fallback _
      (tableWF_countFull cfg corpus h2 hne hw hthr) (fullWF_countFull cfg.order corpus h2 hw)
      (ctx_complete_corpus cfg corpus hne hw) hk hfix hpv

def exCfg2 : Cfg := { order := 2, thr := fun _ => 0, excl := fun _ => false }

example : estimate exCfg2 false (some ⟨1/2, 1, 3/2⟩) [[3, 4], [3]]
    = Spec.estimate exCfg2 false (some ⟨1/2, 1, 3/2⟩) [[3, 4], [3]] :=
  estimate_eq_spec _ _ _ _ (by decide) (by decide) (by decide) (fun _ _ => Nat.le_refl _)
    rfl rfl (fun _ _ => rfl)

end KV.KN.Interp
