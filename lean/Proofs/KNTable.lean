import Proofs.KNNorm
import Model.KNTable
/-!
From the count table to the record hypotheses: `WF cfg full → TableOK (specCtx cfg full discs)`
(`tableOK_of_wf`), hence `normalised_table`: the model `Spec.estimateFrom` returns for a well-formed
table is normalised in every context.  `WF` is `TableWF` (order ≥ 2) or `TableWF1` (order 1): the
order-1 model is the case `N = 1` of everything here, because on a unigram table `Spec.ents1` is
`Spec.ents … 1` (`ents1_eq_ents`), so the records are `Spec.ents cfg full 1 … Spec.ents cfg full N`
for every order (`specRecords_eq`).  `exTable_wf…` show that `TableWF` holds (by `decide` of the
checker `tableWFb`) for the real trigram table of a three-sentence corpus.  `esAt_zero` has no user.
-/
namespace KV.KN.Norm

open KV.KN KV.KN.Spec

/-! ### The model `Spec.estimateFrom` returns, in terms of `specCtx` -/

/-- the context `Spec.estimateFrom` builds, given the discounts it computed -/
def specCtx (cfg : Cfg) (full : Spec.Table) (discs : List (Disc × Bool)) : Spec.Ctx :=
  { cfg := cfg, es := specRecords cfg full, ds := discs.map (·.1),
    uniform := 1 / (((((specRecords cfg full).map Spec.stats).map (·.countPruned)).headD 0 - 1 : Nat) : Rat) }

theorem spec_estimateFrom_unfold (cfg : Cfg) (fallback : Option Disc) (full : Spec.Table) :
    Spec.estimateFrom cfg fallback full =
      match discounts fallback ((specRecords cfg full).map Spec.stats) with
      | .error e => .error e
      | .ok discs => .ok
          { stats := (specRecords cfg full).map Spec.stats, discs := discs,
            header := ((specRecords cfg full).map Spec.stats).map (·.countPruned),
            uniform := (specCtx cfg full discs).uniform,
            orders := ordersOf (specCtx cfg full discs) } := by
  cases hd : discounts fallback ((specRecords cfg full).map Spec.stats) with
  | error e =>
    unfold specRecords at hd
    unfold Spec.estimateFrom
    simp only [bind, Except.bind, hd]
  | ok discs =>
    unfold specRecords at hd
    unfold Spec.estimateFrom
    simp only [bind, Except.bind, hd]
    rfl

theorem estimateFrom_ok {cfg : Cfg} {fallback : Option Disc} {full : Spec.Table} {m : Model}
    (hm : Spec.estimateFrom cfg fallback full = .ok m) :
    ∃ discs, discounts fallback ((specRecords cfg full).map Spec.stats) = .ok discs ∧
      m = { stats := (specRecords cfg full).map Spec.stats, discs := discs,
            header := ((specRecords cfg full).map Spec.stats).map (·.countPruned),
            uniform := (specCtx cfg full discs).uniform,
            orders := ordersOf (specCtx cfg full discs) } := by
  rw [spec_estimateFrom_unfold] at hm
  cases hd : discounts fallback ((specRecords cfg full).map Spec.stats) with
  | error e => rw [hd] at hm; cases hm
  | ok discs => rw [hd] at hm; exact ⟨discs, rfl, (Except.ok.inj hm).symm⟩

theorem estimateFrom_orders (cfg : Cfg) (fallback : Option Disc) (full : Spec.Table) (m : Model)
    (hm : Spec.estimateFrom cfg fallback full = .ok m) :
    ∃ discs, discounts fallback ((specRecords cfg full).map Spec.stats) = .ok discs ∧
      m.orders = ordersOf (specCtx cfg full discs) := by
  obtain ⟨discs, hd, rfl⟩ := estimateFrom_ok hm
  exact ⟨discs, hd, rfl⟩

theorem estimateFrom_header (cfg : Cfg) (fallback : Option Disc) (full : Spec.Table) (m : Model)
    (hm : Spec.estimateFrom cfg fallback full = .ok m) :
    m.header = ((specRecords cfg full).map Spec.stats).map (·.countPruned) := by
  obtain ⟨discs, _, rfl⟩ := estimateFrom_ok hm
  rfl

theorem normalised_estimate (cfg : Cfg) (fallback : Option Disc) (full : Spec.Table) (m : Model)
    (hm : Spec.estimateFrom cfg fallback full = .ok m)
    (hT : ∀ discs, discounts fallback ((specRecords cfg full).map Spec.stats) = .ok discs →
      TableOK (specCtx cfg full discs))
    (ctx : Gram) :
    ((Query.vocabNoBos m.orders).map (Query.score m.orders ctx)).sum = 1 := by
  obtain ⟨discs, hd, ho⟩ := estimateFrom_orders cfg fallback full m hm
  rw [ho]
  exact normalised (hT discs hd) ctx

/-- `TableOK.uniformOK` from the way `Spec.estimateFrom` sets `uniform`
(`1 / (number of unmarked order-1 records − 1)`; the `− 1` is `<s>`, which is counted in the header
but is no word to predict) and structural facts of the order-1 records. -/
theorem uniformOK_of (c : Spec.Ctx)
    (nodup1 : ((c.esAt 1).map (·.gram)).Nodup)
    (hasUnk : ∃ e ∈ c.esAt 1, e.gram = [unk])
    (hasBos : ∃ e ∈ c.esAt 1, e.gram = [bos])
    (specialsUnmarked : ∀ e ∈ c.esAt 1, e.gram.all isSpecial = true → e.marked = false)
    (pos1 : ∀ e ∈ c.esAt 1, 1 ≤ e.count ∨ (e.gram.length = 1 ∧ e.gram.all isSpecial = true))
    (hu : c.uniform = 1 / ((((c.esAt 1).countP fun e => !e.marked) - 1 : Nat) : Rat)) :
    c.uniform * ((keptUni c).length : Rat) = 1 := by
  -- kept = unmarked on the order-1 records
  have hkept : ∀ e ∈ c.esAt 1, keptBy e = !e.marked := fun e he =>
    keptBy_eq_not_marked (fun _ => specialsUnmarked e he) fun _ => pos1 e he
  -- so the unmarked records are `<s>` and the kept records other than `<s>`
  obtain ⟨eb, heb, hgb⟩ := hasBos
  have h3 : (c.esAt 1).countP (fun e => !e.marked) = 1 + (keptUni c).length := by
    rw [List.countP_eq_countP_filter_add _ _ (fun e => e.gram == eb.gram),
      filter_key_nodup (·.gram) _ nodup1 eb heb, List.countP_filter, keptUni,
      ← List.countP_eq_length_filter, hgb]
    congr 1
    · rw [List.countP_singleton, specialsUnmarked eb heb (by rw [hgb]; decide)]; rfl
    · exact List.countP_congr fun e he => by rw [hkept e he]; rfl
  obtain ⟨eu, heu, hgu⟩ := hasUnk
  have h4 : (keptUni c).length ≠ 0 := by
    refine Nat.ne_of_gt (List.length_pos_of_mem (mem_keptUni.mpr ⟨heu, ?_, by rw [hgu]; decide⟩))
    rw [hkept eu heu, specialsUnmarked eu heu (by rw [hgu]; decide)]; rfl
  rw [hu, h3, Nat.add_sub_cancel_left]
  exact one_div_mul_cancel (Nat.cast_ne_zero.mpr h4)

theorem specCtx_uniform (cfg : Cfg) (full : Spec.Table) (discs : List (Disc × Bool)) :
    (specCtx cfg full discs).uniform =
      1 / (((((specCtx cfg full discs).esAt 1).countP fun e => !e.marked) - 1 : Nat) : Rat) := by
  unfold specCtx Spec.Ctx.esAt
  cases specRecords cfg full <;> rfl

theorem trueCount_pos {full : Table} {k : Gram} {e : Gram × Nat} (he : e ∈ full)
    (hk : e.1.take k.length = k) (hp : 1 ≤ e.2) : 1 ≤ trueCount full k := by
  have := mem_le_sum (rowsOf full k) (·.2) e (mem_rowsOf.mpr ⟨he, hk⟩)
  unfold trueCount; omega

theorem exists_row_of_trueCount_pos {full : Table} {k : Gram} (h : 1 ≤ trueCount full k) :
    ∃ e ∈ full, e.1.take k.length = k := by
  unfold trueCount at h
  cases hr : rowsOf full k with
  | nil => rw [hr] at h; simp at h
  | cons a t =>
    have : a ∈ rowsOf full k := by rw [hr]; simp
    exact ⟨a, (mem_rowsOf.mp this).1, (mem_rowsOf.mp this).2⟩

theorem trueCount_dropLast_le (full : Table) (k : Gram) :
    trueCount full k ≤ trueCount full k.dropLast := by
  unfold trueCount rowsOf
  apply sum_filter_le_of_imp Prod.snd
  intro e _ h
  have h' : e.1.take k.length = k := by simpa using h
  have : e.1.take (k.length - 1) = k.dropLast := by
    rw [List.dropLast_eq_take, ← congrArg (List.take (k.length - 1)) h', List.take_take,
      Nat.min_eq_left (Nat.sub_le _ _)]
  rw [List.length_dropLast, this]
  exact beq_self_eq_true _

theorem adj_pos {N : Nat} {full : Table} {k : Gram} {e : Gram × Nat} (he : e ∈ full)
    (hk : e.1.take k.length = k) (hp : 1 ≤ e.2) : 1 ≤ adjCount N full k := by
  unfold adjCount
  split
  · exact trueCount_pos he hk hp
  · unfold leftExts
    apply dedup_length_pos
    have : e ∈ rowsOf full k := mem_rowsOf.mpr ⟨he, hk⟩
    intro h0
    rw [List.map_eq_nil_iff] at h0
    rw [h0] at this; cases this

theorem pruned_mono {cfg : Cfg} {full : Table} {k k' : Gram} (hl : 2 ≤ k.length)
    (hp : pruned cfg full k = false) (hc : trueCount full k ≤ trueCount full k')
    (hsub : ∀ w ∈ k', w ∈ k) (hthr : cfg.thr (k'.length - 1) ≤ cfg.thr (k.length - 1)) :
    pruned cfg full k' = false := by
  rw [pruned_eq_false_iff] at hp ⊢
  obtain ⟨h1, h2⟩ := hp.resolve_left fun h => by
    rcases h with rfl | rfl | rfl <;> exact absurd hl (by decide)
  exact Or.inr ⟨Nat.lt_of_le_of_lt hthr (Nat.lt_of_lt_of_le h1 hc), fun w hw => h2 w (hsub w hw)⟩

def WF (cfg : Cfg) (full : Table) : Prop := TableWF cfg full ∨ TableWF1 cfg full

namespace WF

variable {cfg : Cfg} {full : Table} (h : WF cfg full)
include h

theorem order_pos : 1 ≤ cfg.order :=
  h.elim (fun h => Nat.le_of_succ_le h.order2) fun h => Nat.le_of_eq h.order1.symm

theorem hi (h2 : 2 ≤ cfg.order) : TableWF cfg full :=
  h.resolve_right fun h1 => absurd (h1.order1 ▸ h2) (by decide)

theorem nonempty : full ≠ [] := h.elim (·.nonempty) (·.nonempty)

theorem len : ∀ e ∈ full, e.1.length = cfg.order :=
  h.elim (·.len) fun h1 e he => (h1.len e he).trans h1.order1.symm

theorem nodup : (full.map (·.1)).Nodup := h.elim (·.nodup) (·.nodup)

theorem pos : ∀ e ∈ full, 1 ≤ e.2 := h.elim (·.pos) (·.pos)

theorem headOK : ∀ e ∈ full, e.1.head? ≠ some bos ∧ e.1.head? ≠ some unk :=
  h.elim (·.headOK) fun h1 e he => by
    obtain ⟨w, hw⟩ := List.length_eq_one_iff.mp (h1.len e he)
    have := h1.headOK e he
    rw [hw] at this ⊢
    exact ⟨fun hb => this.2 (congrArg (fun o => o.toList) hb), fun hu => this.1 (congrArg (fun o => o.toList) hu)⟩

theorem take_len {e : Gram × Nat} (he : e ∈ full) {n : Nat} (hn : n ≤ cfg.order) :
    (e.1.take n).length = n := by
  rw [List.length_take, h.len e he, Nat.min_eq_left hn]

end WF

theorem ents1_eq_ents {cfg : Cfg} {full : Table} (hw : TableWF1 cfg full) :
    ents1 cfg full = ents cfg full 1 := by
  have htake : (full.map fun e => e.1.take 1) = full.map (·.1) :=
    List.map_congr_left fun e he => List.take_of_length_le (Nat.le_of_eq (hw.len e he))
  have hkeys : keys 1 full = full.map (·.1) := by
    unfold keys
    rw [List.filter_eq_self.mpr fun g _ => validAt_one g, List.map_map]
    show (full.map fun e => e.1.take 1).eraseDups = _
    rw [htake, dedup_of_nodup hw.nodup]
  show _ = (([unk] : Gram) :: [bos] :: keys 1 full).map (recOf cfg full)
  rw [hkeys, List.map_cons, List.map_cons, List.map_map]
  refine congrArg (_ :: ·) (congrArg (_ :: ·) (List.map_congr_left fun e he => ?_))
  have hne := hw.headOK e he
  have hl := hw.len e he
  have h12 : (e.1 == [unk] || e.1 == [bos]) = false := by simp [hne.1, hne.2]
  show (⟨e.1, e.2, _⟩ : Emit) = recOf cfg full e.1
  simp only [recOf, adjCount, pruned, h12, trueCount_row hw.nodup hw.len he, hl, hw.order1, true_or,
    if_true, Bool.false_eq_true, if_false, Nat.sub_self]

theorem specRecords_eq {cfg : Cfg} {full : Table} (h : WF cfg full) :
    specRecords cfg full = (List.range cfg.order).map fun i => ents cfg full (i + 1) := by
  unfold specRecords
  rcases h with h | h
  · rw [if_neg (Nat.not_le.mpr h.order2)]
  · rw [if_pos (Nat.le_of_eq h.order1), h.order1, ents1_eq_ents h]; rfl

theorem esAt_of_records {cfg : Cfg} {full : Table}
    (hs : specRecords cfg full = (List.range cfg.order).map fun i => ents cfg full (i + 1))
    (discs : List (Disc × Bool)) (n : Nat) : (specCtx cfg full discs).esAt n =
      if n - 1 < cfg.order then ents cfg full (n - 1 + 1) else [] := by
  show (specRecords cfg full).getD (n - 1) [] = _
  rw [hs, List.getD_eq_getElem?_getD, List.getElem?_map]
  split
  · rename_i h; simp [h]
  · rename_i h; simp [h]

theorem esAt_zero {cfg : Cfg} (h2 : 2 ≤ cfg.order) (full : Table) (discs : List (Disc × Bool)) :
    (specCtx cfg full discs).esAt 0 = ents cfg full 1 := by
  rw [esAt_of_records (by unfold specRecords; rw [if_neg (Nat.not_le.mpr h2)]),
    if_pos (Nat.lt_of_lt_of_le Nat.zero_lt_two h2)]

section
variable {cfg : Cfg} {full : Table} (hw : WF cfg full)
include hw

theorem esAt_spec (discs : List (Disc × Bool)) (n : Nat) : (specCtx cfg full discs).esAt n =
    if n - 1 < cfg.order then ents cfg full (n - 1 + 1) else [] :=
  esAt_of_records (specRecords_eq hw) discs n

theorem esAt_mid (discs : List (Disc × Bool)) {n : Nat} (h1 : 1 ≤ n) (hn : n ≤ cfg.order) :
    (specCtx cfg full discs).esAt n = ents cfg full n := by
  rw [esAt_spec hw, if_pos (Nat.lt_of_lt_of_le (Nat.sub_lt h1 Nat.one_pos) hn), Nat.sub_add_cancel h1]

theorem esAt_above (discs : List (Disc × Bool)) {n : Nat} (hn : cfg.order < n) :
    (specCtx cfg full discs).esAt n = [] := by
  rw [esAt_spec hw, if_neg (Nat.not_lt.mpr (Nat.le_sub_one_of_lt hn))]

end

section
variable {cfg : Cfg} {full : Table} (hw : TableWF cfg full)
include hw

omit hw in
theorem mem_ksOf_top (h2 : 2 ≤ cfg.order) (hlen : ∀ e ∈ full, e.1.length = cfg.order) {k : Gram} :
    k ∈ ksOf cfg full cfg.order ↔ ∃ e ∈ full, e.1 = k ∧ k.getD (cfg.order - 2) unk ≠ bos := by
  have hk : ∀ e ∈ full, Adjust.keepTop e.1 = true ↔ e.1.getD (cfg.order - 2) unk ≠ bos := fun e he => by
    rw [Adjust.keepTop, hlen e he, decide_eq_true h2, Bool.true_and]
    simp
  rw [Adjust.ksOf_top h2 hlen, List.mem_filter, List.mem_map]
  constructor
  · rintro ⟨⟨e, he, rfl⟩, hc⟩
    exact ⟨e, he, rfl, (hk e he).mp hc⟩
  · rintro ⟨e, he, rfl, hc⟩
    exact ⟨⟨e, he, rfl⟩, (hk e he).mpr hc⟩

theorem hi_key {n : Nat} (h1 : 1 ≤ n) (hn : n + 1 ≤ cfg.order) {k : Gram}
    (hk : k ∈ ksOf cfg full (n + 1)) :
    ∃ e ∈ full, validAt (n + 1) e.1 = true ∧ e.1.take (n + 1) = k := by
  by_cases hN : n + 1 = cfg.order
  · rw [hN] at hk ⊢
    obtain ⟨e, he, rfl, hc⟩ := (mem_ksOf_top hw.order2 hw.len).mp hk
    exact ⟨e, he, hw.topValid e he hc, List.take_of_length_le (Nat.le_of_eq (hw.len e he))⟩
  · rcases (mem_ksOf_lower (Nat.lt_of_le_of_ne hn hN)).mp hk with ⟨h, _⟩ | hk
    · omega
    · exact mem_keys.mp hk

omit hw in
theorem lo_key {e : Gram × Nat} (he : e ∈ full) {n : Nat} (hn : n < cfg.order)
    (hv : validAt n e.1 = true) : e.1.take n ∈ ksOf cfg full n :=
  (mem_ksOf_lower hn).mpr (Or.inr (mem_keys.mpr ⟨e, he, hv, rfl⟩))

end

section
variable {cfg : Cfg} {full : Table} (hw : WF cfg full) (discs : List (Disc × Bool))
include hw

theorem esAt_one : (specCtx cfg full discs).esAt 1 = ents cfg full 1 :=
  esAt_mid hw discs (Nat.le_refl 1) hw.order_pos

theorem mem_esAt_one {e : Emit} (he : e ∈ (specCtx cfg full discs).esAt 1) :
    ∃ k ∈ ksOf cfg full 1, recOf cfg full k = e :=
  mem_ents.mp (esAt_one hw discs ▸ he)

theorem uni_row_rec {e : Gram × Nat} (he : e ∈ full) :
    recOf cfg full (e.1.take 1) ∈ ents cfg full 1 ∧ 1 ≤ (recOf cfg full (e.1.take 1)).count ∧
      (recOf cfg full (e.1.take 1)).gram.tail = [] := by
  have hl : (e.1.take 1).length = 1 := hw.take_len he hw.order_pos
  have hne := take_ne_special (hw.headOK e he) 1 (Nat.le_refl 1)
  refine ⟨mem_ents.mpr ⟨_, mem_ksOf_one.mpr (.inr (.inr (mem_keys.mpr ⟨e, he, validAt_one _, rfl⟩))), rfl⟩,
    ?_, ?_⟩
  · rw [recOf, if_neg (by simp [hne.1, hne.2])]
    exact adj_pos he (by rw [hl]) (hw.pos e he)
  · rw [recOf_gram]
    exact List.eq_nil_of_length_eq_zero (by rw [List.length_tail, hl])

theorem records_pos1 : ∀ e ∈ (specCtx cfg full discs).esAt 1,
    1 ≤ e.count ∨ (e.gram.length = 1 ∧ e.gram.all isSpecial = true) := by
  intro e he
  obtain ⟨k, hk, rfl⟩ := mem_esAt_one hw discs he
  rcases mem_ksOf_one.mp hk with rfl | rfl | hk
  · exact Or.inr ⟨rfl, rfl⟩
  · exact Or.inr ⟨rfl, rfl⟩
  · obtain ⟨r, hr, _, rfl⟩ := mem_keys.mp hk
    exact Or.inl (uni_row_rec hw hr).2.1

theorem hi_rec {n : Nat} (h1 : 1 ≤ n) {e : Emit} (he : e ∈ (specCtx cfg full discs).esAt (n + 1)) :
    n + 1 ≤ cfg.order ∧ ∃ r ∈ full, validAt (n + 1) r.1 = true ∧ (r.1.take (n + 1)).length = n + 1 ∧
      e = ⟨r.1.take (n + 1), adjCount cfg.order full (r.1.take (n + 1)),
        pruned cfg full (r.1.take (n + 1))⟩ := by
  have hn : n + 1 ≤ cfg.order := by
    by_contra hn
    rw [esAt_above hw discs (Nat.lt_of_not_le hn)] at he
    cases he
  rw [esAt_mid hw discs (Nat.le_add_left 1 n) hn] at he
  obtain ⟨k, hk, rfl⟩ := mem_ents.mp he
  obtain ⟨r, hr, hv, rfl⟩ := hi_key (hw.hi (Nat.le_trans (Nat.succ_le_succ h1) hn)) h1 hn hk
  have hl := hw.take_len hr hn
  exact ⟨hn, r, hr, hv, hl, recOf_hi cfg full (by rw [hl]; exact Nat.succ_le_succ h1)⟩

end

section
variable {cfg : Cfg} {full : Table} (hw : WF cfg full) (discs : List (Disc × Bool))
include hw

/-- Plan: the record comes from a row `r`.  Dropping the oldest word: the same row gives the key, and
`trueCount_dropLast_le` the count.  Dropping the newest word: `tailDom` gives a row of the context
with at least the count.  `pruned_mono` with `thrMono` then carries "unpruned" over in both. -/
theorem tableOK_closure : ∀ n, 1 ≤ n → ∀ e ∈ (specCtx cfg full discs).esAt (n + 1), keptBy e = true →
    (∃ e' ∈ (specCtx cfg full discs).esAt n, keptBy e' = true ∧ e'.gram = e.gram.dropLast) ∧
    (∃ e' ∈ (specCtx cfg full discs).esAt n, keptBy e' = true ∧ e'.gram = e.gram.tail) := by
  intro n h1 e he hke
  obtain ⟨hn, r, hr, hv, hl, rfl⟩ := hi_rec hw discs h1 he
  have hn' : n ≤ cfg.order := Nat.le_of_succ_le hn
  have hl2 : 2 ≤ (r.1.take (n + 1)).length := by rw [hl]; exact Nat.succ_le_succ h1
  have hT := hw.hi (Nat.le_trans (Nat.succ_le_succ h1) hn)
  rw [esAt_mid hw discs h1 hn']
  have hp : pruned cfg full (r.1.take (n + 1)) = false := (kept_hi hl2 hke).1
  have hthr : cfg.thr (n - 1) ≤ cfg.thr n := by
    obtain ⟨m, rfl⟩ : ∃ m, n = m + 1 := ⟨n - 1, (Nat.sub_add_cancel h1).symm⟩
    exact hT.thrMono m (Nat.lt_sub_of_add_lt hn)
  have htc : 1 ≤ trueCount full (r.1.take (n + 1)) := trueCount_pos hr (by rw [hl]) (hw.pos r hr)
  have htake : (r.1.take (n + 1)).take n = r.1.take n := by
    rw [List.take_take, Nat.min_eq_left (Nat.le_succ n)]
  generalize hk : r.1.take (n + 1) = k at *
  constructor
  · -- drop the oldest word
    have hdrop : k.dropLast = r.1.take n := by
      rw [List.dropLast_eq_take, hl, ← htake]; rfl
    have hl' : (r.1.take n).length = n := hw.take_len hr hn'
    refine ⟨recOf cfg full (r.1.take n),
      mem_ents.mpr ⟨_, lo_key hr hn (validAt_mono hv), rfl⟩, ?_, ?_⟩
    · refine keptBy_recOf.mpr (.inr ⟨?_, adj_pos hr (by rw [hl']) (hw.pos r hr)⟩)
      apply pruned_mono (k := k) hl2 hp
      · rw [← hdrop]; exact trueCount_dropLast_le full k
      · intro w hw'; rw [← hdrop] at hw'; exact List.dropLast_subset _ hw'
      · rw [hl', hl]; exact hthr
    · rw [recOf_gram]; exact hdrop.symm
  · -- drop the newest word
    have hlt : k.tail.length = n := by rw [List.length_tail, hl]; rfl
    by_cases hb : k.tail = [bos]
    · have hn1 : n = 1 := by rw [hb] at hlt; exact hlt.symm
      subst hn1
      exact ⟨recOf cfg full [bos], mem_ents.mpr ⟨_, mem_ksOf_one.mpr (.inr (.inl rfl)), rfl⟩,
        keptBy_recOf.mpr (.inl (.inr (.inl rfl))), by rw [recOf_gram, hb]⟩
    · have hdom := hT.tailDom r hr n hn h1 hv (by rw [hk]; exact hb)
      rw [hk] at hdom
      obtain ⟨r', hr', hk'⟩ := exists_row_of_trueCount_pos (Nat.le_trans htc hdom)
      rw [hlt] at hk'
      have hv' : validAt n r'.1 = true := by
        rw [validAt_iff]
        intro hmem
        have h1' : r'.1.take (n - 1) = k.tail.take (n - 1) := by
          rw [← hk', List.take_take, Nat.min_eq_left (Nat.sub_le n 1)]
        rw [h1'] at hmem
        have h2' := mem_take_tail hmem
        rw [Nat.sub_add_cancel h1, htake] at h2'
        exact (validAt_iff.mp hv) h2'
      refine ⟨recOf cfg full k.tail, mem_ents.mpr ⟨_, hk' ▸ lo_key hr' hn hv', rfl⟩, ?_,
        recOf_gram ..⟩
      refine keptBy_recOf.mpr (.inr ⟨?_, adj_pos hr' (by rw [hlt]; exact hk') (hw.pos r' hr')⟩)
      apply pruned_mono (k := k) hl2 hp hdom
      · intro w hw'; exact List.mem_of_mem_tail hw'
      · rw [hlt, hl]; exact hthr

theorem tableOK_headOK : ∀ n, 1 ≤ n → ∀ e ∈ (specCtx cfg full discs).esAt (n + 1), keptBy e = true →
    e.gram.head? ≠ some bos ∧ wantsBackoff e.gram.tail = true := by
  intro n h1 e he _
  obtain ⟨hn, r, hr, _, _, rfl⟩ := hi_rec hw discs h1 he
  have h2 := Nat.le_trans (Nat.succ_le_succ h1) hn
  have hlen : 2 ≤ r.1.length := by rw [hw.len r hr]; exact h2
  have hh := (hw.headOK r hr).1
  have hs := (hw.hi h2).second r hr
  obtain ⟨m, rfl⟩ : ∃ m, n = m + 1 := ⟨n - 1, (Nat.sub_add_cancel h1).symm⟩
  generalize r.1 = g at hlen hh hs ⊢
  match g, hlen, hh, hs with
  | [], h, _, _ => exact absurd h (by decide)
  | [_], h, _, _ => exact absurd h (Nat.not_succ_le_self 1)
  | a :: b :: t, _, hh, hs =>
    refine ⟨hh, ?_⟩
    have h1' : b ≠ unk := fun h => hs.1 (by rw [h]; rfl)
    have h2' : b ≠ eos := fun h => hs.2 (by rw [h]; rfl)
    simp [wantsBackoff, h1', h2']

theorem tableOK_of_wf : TableOK (specCtx cfg full discs) := by
  have inv1 := fun e => mem_esAt_one hw discs (e := e)
  have hlen1 : ∀ e ∈ (specCtx cfg full discs).esAt 1, e.gram.length = 1 := by
    intro e he
    obtain ⟨k, hk, rfl⟩ := inv1 e he
    rw [recOf_gram]
    rcases mem_ksOf_one.mp hk with rfl | rfl | hk
    · rfl
    · rfl
    · obtain ⟨r, hr, _, rfl⟩ := mem_keys.mp hk
      exact hw.take_len hr hw.order_pos
  have hnodup : ∀ n, (((specCtx cfg full discs).esAt n).map (·.gram)).Nodup := by
    intro n
    rw [esAt_spec hw]
    split
    · rw [ents_grams]; exact ksOf_nodup_of hw.headOK hw.nodup _
    · exact List.nodup_nil
  have hunk : ∃ e ∈ (specCtx cfg full discs).esAt 1, e.gram = [unk] := by
    rw [esAt_one hw]
    exact ⟨recOf cfg full [unk], mem_ents.mpr ⟨_, mem_ksOf_one.mpr (.inl rfl), rfl⟩, recOf_gram ..⟩
  have hbos : ∃ e ∈ (specCtx cfg full discs).esAt 1, e.gram = [bos] := by
    rw [esAt_one hw]
    exact ⟨recOf cfg full [bos], mem_ents.mpr ⟨_, mem_ksOf_one.mpr (.inr (.inl rfl)), rfl⟩, recOf_gram ..⟩
  have hspec : ∀ e ∈ (specCtx cfg full discs).esAt 1, e.gram.all isSpecial = true → e.marked = false := by
    intro e he hs
    have hl := hlen1 e he
    obtain ⟨k, _, rfl⟩ := inv1 e he
    rw [recOf_gram] at hs hl
    rw [recOf_marked]
    exact pruned_special (by rw [← special_iff, hl, hs]; rfl)
  exact {
    esLen := by
      show (specRecords cfg full).length ≤ cfg.order
      rw [specRecords_eq hw, List.length_map, List.length_range]
    len1 := hlen1
    nodup := hnodup
    den1 := by
      rw [esAt_one hw]
      obtain ⟨e, he⟩ := List.exists_mem_of_ne_nil _ hw.nonempty
      obtain ⟨h1, h2, h3⟩ := uni_row_rec hw he
      exact den_pos_of_mem (mem_group.mpr ⟨h1, h3⟩) h2
    hasUnk := hunk
    unkBosCount := by
      intro e he hg
      obtain ⟨k, _, rfl⟩ := inv1 e he
      rw [recOf_gram] at hg
      rcases hg with rfl | rfl <;> rfl
    specialsUnmarked := hspec
    uniformOK := fun _ => uniformOK_of _ (hnodup 1) hunk hbos hspec (records_pos1 hw discs)
      (specCtx_uniform cfg full discs)
    countPos := by
      intro n h1 e he
      obtain ⟨_, r, hr, _, hl, rfl⟩ := hi_rec hw discs h1 he
      exact adj_pos hr (by rw [hl]) (hw.pos r hr)
    closure := tableOK_closure hw discs
    headOK := tableOK_headOK hw discs }

theorem spec_len :
    ∀ n, 1 ≤ n → ∀ r ∈ (specCtx cfg full discs).esAt n, r.gram.length = n := by
  intro n hn r hr
  by_cases h1 : n = 1
  · subst h1; exact (tableOK_of_wf hw discs).len1 r hr
  · obtain ⟨m, rfl⟩ : ∃ m, n = m + 1 := ⟨n - 1, by omega⟩
    obtain ⟨_, row, _, _, hl, rfl⟩ := hi_rec hw discs (by omega : 1 ≤ m) hr
    exact hl

theorem recordsOK_of_wf : RecordsOK (specCtx cfg full discs) :=
  { tableOK_of_wf hw discs with len := spec_len hw discs, pos1 := records_pos1 hw discs }

end

theorem normalised_table (cfg : Cfg) (fallback : Option Disc) (full : Spec.Table) (m : Model)
    (hm : Spec.estimateFrom cfg fallback full = .ok m) (hw : WF cfg full) (ctx : Gram) :
    ((Query.vocabNoBos m.orders).map (Query.score m.orders ctx)).sum = 1 :=
  normalised_estimate cfg fallback full m hm (fun discs _ => tableOK_of_wf hw discs) ctx

/-- the trigram table (`countFull 3`) of the corpus `a b` / `a` / `b a c` (`a b c = 3 4 5`) -/
def exTable : Spec.Table :=
  [([2, 3, 1], 1), ([2, 4, 3], 1), ([2, 5, 3], 1), ([3, 1, 1], 2), ([3, 4, 1], 1),
   ([4, 1, 1], 1), ([4, 3, 1], 1), ([5, 3, 4], 1)]

/-- order 3, no pruning (6 unigrams, 8 bigrams, 6 trigrams are kept) -/
def exCfg : Cfg := { order := 3, thr := fun _ => 0, excl := fun _ => false }

/-- order 3, bigrams and trigrams with count ≤ 1 pruned (one bigram survives) -/
def exCfgPruned : Cfg := { order := 3, thr := fun i => if i = 0 then 0 else 1, excl := fun _ => false }

theorem exTable_wf : TableWF exCfg exTable := tableWFb_sound _ _ (by decide)

theorem exTable_wf_pruned : TableWF exCfgPruned exTable :=
  { exTable_wf with thrMono := by decide }

example (discs : List (Disc × Bool)) : TableOK (specCtx exCfgPruned exTable discs) :=
  tableOK_of_wf (.inl exTable_wf_pruned) discs

example (m : Model) (hm : Spec.estimateFrom exCfgPruned (some ⟨1/2, 1, 3/2⟩) exTable = .ok m)
    (ctx : Gram) : Query.mass m.orders ctx = 1 :=
  normalised_table _ _ _ m hm (.inl exTable_wf_pruned) ctx

example : TableWF1 { order := 1, thr := fun _ => 0, excl := fun w => w == 5 }
    [([2], 3), ([3], 3), ([4], 2), ([5], 1)] := tableWF1b_sound _ _ (by decide)

end KV.KN.Norm
