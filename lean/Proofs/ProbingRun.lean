import Proofs.ProbingDouble
/-!
Scripts of operations on the fixed-size table refine the map with capacity, step by step and hence
run by run, with and without explicit calls of `Double`; below capacity the map with capacity is the
plain map; what a script of insertions does to the plain map.
-/
namespace KV.Probing

variable (h : Nat → Nat)

/-- what one operation does on the map with a capacity: one constructor per branch of `stepSpec` that returns;
at capacity an insertion only raises the counter -/
inductive SpecStep (σ : Spec) : Op → Out → Spec → Prop
  | insertFull {k v} : σ.M k = none → σ.count + 1 ≥ σ.N → SpecStep σ (.insert k v) .full { σ with count := σ.count + 1 }
  | insert {k v} : σ.M k = none → σ.count + 1 < σ.N →
      SpecStep σ (.insert k v) .done { σ with M := upd σ.M k v, count := σ.count + 1 }
  | found {k v w} : σ.M k = some w → SpecStep σ (.findOrInsert k v) (.foi true w) σ
  | newFull {k v} : σ.M k = none → σ.count + 1 ≥ σ.N →
      SpecStep σ (.findOrInsert k v) .full { σ with count := σ.count + 1 }
  | new {k v} : σ.M k = none → σ.count + 1 < σ.N →
      SpecStep σ (.findOrInsert k v) (.foi false v) { σ with M := upd σ.M k v, count := σ.count + 1 }
  | find {k} : SpecStep σ (.find k) (.got (σ.M k)) σ

theorem stepSpec_iff {σ : Spec} {op : Op} {o : Out} {σ' : Spec} :
    stepSpec σ op = some (o, σ') ↔ SpecStep σ op o σ' := by
  constructor
  · intro hs
    cases op with
    | insert k v =>
      cases hM : σ.M k <;> simp [stepSpec, hM] at hs
      by_cases hc : σ.count + 1 ≥ σ.N <;> simp [hc] at hs <;> obtain ⟨rfl, rfl⟩ := hs
      · exact .insertFull hM hc
      · exact .insert hM (Nat.lt_of_not_le hc)
    | findOrInsert k v =>
      cases hM : σ.M k <;> simp [stepSpec, hM] at hs
      · by_cases hc : σ.count + 1 ≥ σ.N <;> simp [hc] at hs <;> obtain ⟨rfl, rfl⟩ := hs
        · exact .newFull hM hc
        · exact .new hM (Nat.lt_of_not_le hc)
      · obtain ⟨rfl, rfl⟩ := hs; exact .found hM
    | find k => simp [stepSpec] at hs; obtain ⟨rfl, rfl⟩ := hs; exact .find
  · intro hs
    cases hs with
    | insertFull hM hc | newFull hM hc => simp [stepSpec, hM, hc]
    | insert hM hc | new hM hc => simp [stepSpec, hM, Nat.not_le_of_lt hc]
    | found hM => simp [stepSpec, hM]
    | find => rfl

/-- `Inv ∧ Abs`, and the two counters of the specification state are the table's `entries_` and bucket count -/
structure Ref (h : Nat → Nat) (t : Table) (σ : Spec) : Prop where
  inv : Inv h t
  abs : Abs t σ.M
  cnt : t.entries = σ.count
  cap : t.N = σ.N

theorem step_refines (t : Table) (σ : Spec) (op : Op) (o : Out) (σ' : Spec)
    (r : Ref h t σ) (hs : stepSpec σ op = some (o, σ')) :
    ∃ t', stepT h t op = some (o, t') ∧ Ref h t' σ' := by
  obtain ⟨inv, abs, hcnt, hcap⟩ := r
  cases stepSpec_iff.1 hs with
  | @insertFull k v hM hc =>
    exact ⟨_, by simp [stepT, insert_full h t k v (by omega)], Inv_bump h t inv, abs, congrArg (· + 1) hcnt, hcap⟩
  | @insert k v hM hc =>
    obtain ⟨q, t', hi, r⟩ := insert_spec h t σ.M k v inv abs hM (by omega)
    exact ⟨t', by simp [stepT, hi], r.inv, r.abs, r.entries.trans (congrArg (· + 1) hcnt), r.N.trans hcap⟩
  | @found k v w hM =>
    obtain ⟨p, hf, _, _⟩ := findOrInsert_found h t σ.M k v w inv abs hM
    exact ⟨t, by simp [stepT, hf], inv, abs, hcnt, hcap⟩
  | @newFull k v hM hc =>
    exact ⟨_, by simp [stepT, findOrInsert_full h t σ.M k v inv abs hM (by omega)], Inv_bump h t inv, abs,
      congrArg (· + 1) hcnt, hcap⟩
  | @new k v hM hc =>
    obtain ⟨p, t', hi, r⟩ := findOrInsert_new h t σ.M k v inv abs hM (by omega)
    exact ⟨t', by simp [stepT, hi], r.inv, r.abs, r.entries.trans (congrArg (· + 1) hcnt), r.N.trans hcap⟩
  | @find k => exact ⟨t, by simp [stepT, find_correct h t σ.M inv abs k], inv, abs, hcnt, hcap⟩

theorem run_refines : ∀ (ops : List Op) (t : Table) (σ : Spec) (outs : List Out) (σ' : Spec),
    Ref h t σ → runSpec σ ops = some (outs, σ') →
    ∃ t', runT h t ops = some (outs, t') ∧ Ref h t' σ' := by
  intro ops
  induction ops with
  | nil => intro t σ outs σ' r hs; cases hs; exact ⟨t, rfl, r⟩
  | cons op ops ih =>
    intro t σ outs σ' r hs
    simp only [runSpec] at hs
    split at hs
    · cases hs
    next o σ1 h1 =>
    split at hs
    · cases hs
    next os σ2 h2 =>
    cases hs
    obtain ⟨t1, ht1, r1⟩ := step_refines h t σ op o σ1 r h1
    obtain ⟨t2, ht2, r2⟩ := ih t1 σ1 os _ r1 h2
    exact ⟨t2, by simp only [runT, ht1, ht2], r2⟩

theorem stepD_refines (t : Table) (σ : Spec) (op : OpD) (o : Option Out) (σ' : Spec)
    (r : Ref h t σ) (hs : stepSpecD σ op = some (o, σ')) :
    ∃ t', stepTD h t op = some (o, t') ∧ Ref h t' σ' := by
  cases op with
  | base b =>
    simp only [stepSpecD] at hs
    split at hs
    · next r1 σ1 h1 =>
      injection hs with hs; injection hs with ho hσ
      subst ho; subst hσ
      obtain ⟨t', ht, r'⟩ := step_refines h t σ b r1 σ1 r h1
      exact ⟨t', by simp [stepTD, ht], r'⟩
    · cases hs
  | double =>
    simp only [stepSpecD] at hs
    injection hs with hs; injection hs with ho hσ
    subst ho; subst hσ
    obtain ⟨t', hd, d⟩ := double_preserves h t σ.M r.inv r.abs
    exact ⟨t', by simp [stepTD, hd], d.inv, d.abs, d.entries.trans r.cnt, d.N.trans (congrArg (2 * ·) r.cap)⟩

theorem runD_refines : ∀ (ops : List OpD) (t : Table) (σ : Spec) (outs : List (Option Out)) (σ' : Spec),
    Ref h t σ → runSpecD σ ops = some (outs, σ') →
    ∃ t', runTD h t ops = some (outs, t') ∧ Ref h t' σ' := by
  intro ops
  induction ops with
  | nil => intro t σ outs σ' r hs; cases hs; exact ⟨t, rfl, r⟩
  | cons op ops ih =>
    intro t σ outs σ' r hs
    simp only [runSpecD] at hs
    split at hs
    · cases hs
    next o σ1 h1 =>
    split at hs
    · cases hs
    next os σ2 h2 =>
    cases hs
    obtain ⟨t1, ht1, r1⟩ := stepD_refines h t σ op o σ1 r h1
    obtain ⟨t2, ht2, r2⟩ := ih t1 σ1 os _ r1 h2
    exact ⟨t2, by simp only [runTD, ht1, ht2], r2⟩

def insertsOf (kvs : List (Nat × Nat)) : List Op := kvs.map fun e => Op.insert e.1 e.2

/-- what one operation does on the plain map: one constructor per branch of `stepMap` that returns -/
inductive MapStep (M : Nat → Option Nat) : Op → Out → (Nat → Option Nat) → Prop
  | insert {k v} : M k = none → MapStep M (.insert k v) .done (upd M k v)
  | found {k v w} : M k = some w → MapStep M (.findOrInsert k v) (.foi true w) M
  | new {k v} : M k = none → MapStep M (.findOrInsert k v) (.foi false v) (upd M k v)
  | find {k} : MapStep M (.find k) (.got (M k)) M

theorem stepMap_iff {M : Nat → Option Nat} {op : Op} {o : Out} {M' : Nat → Option Nat} :
    stepMap M op = some (o, M') ↔ MapStep M op o M' := by
  constructor
  · intro hs
    cases op with
    | insert k v =>
      cases hM : M k <;> simp [stepMap, hM] at hs
      obtain ⟨rfl, rfl⟩ := hs; exact .insert hM
    | findOrInsert k v =>
      cases hM : M k <;> simp [stepMap, hM] at hs <;> obtain ⟨rfl, rfl⟩ := hs
      · exact .new hM
      · exact .found hM
    | find k => simp [stepMap] at hs; obtain ⟨rfl, rfl⟩ := hs; exact .find
  · intro hs
    cases hs with
    | insert hM | found hM | new hM => simp [stepMap, hM]
    | find => rfl

theorem runMap_cons_some {M M'' : Nat → Option Nat} {op : Op} {ops : List Op} {outs : List Out}
    (hs : runMap M (op :: ops) = some (outs, M'')) :
    ∃ o M' os, stepMap M op = some (o, M') ∧ runMap M' ops = some (os, M'') ∧ outs = o :: os := by
  simp only [runMap] at hs
  split at hs
  · cases hs
  next o M' h1 =>
  split at hs
  · cases hs
  next os M2 h2 =>
  cases hs
  exact ⟨o, M', os, h1, h2, rfl⟩

theorem runMap_inserts : ∀ (kvs : List (Nat × Nat)) (M : Nat → Option Nat),
    (∀ e, e ∈ kvs → M e.1 = none) → kvs.Pairwise (fun a b => a.1 ≠ b.1) →
    ∃ M', runMap M (insertsOf kvs) = some (kvs.map (fun _ => Out.done), M') ∧
      (∀ k v, M' k = some v ↔ M k = some v ∨ (k, v) ∈ kvs) := by
  intro kvs
  induction kvs with
  | nil =>
    intro M _ _
    exact ⟨M, rfl, by intro k v; simp⟩
  | cons e rest ih =>
    intro M hfresh hpw
    obtain ⟨k, v⟩ := e
    rw [List.pairwise_cons] at hpw
    obtain ⟨hk, hpw'⟩ := hpw
    have hMk : M k = none := hfresh (k, v) (List.mem_cons_self ..)
    have hstep : stepMap M (Op.insert k v) = some (Out.done, upd M k v) := stepMap_iff.2 (.insert hMk)
    have hfresh' : ∀ e, e ∈ rest → (upd M k v) e.1 = none := by
      intro e he
      have hne : e.1 ≠ k := fun h => hk e he h.symm
      simp [upd, hne]
      exact hfresh e (List.mem_cons_of_mem _ he)
    obtain ⟨M', hrun, hM⟩ := ih (upd M k v) hfresh' hpw'
    refine ⟨M', ?_, ?_⟩
    · show runMap M (Op.insert k v :: insertsOf rest) = _
      simp only [runMap, hstep]
      rw [show insertsOf rest = List.map (fun e => Op.insert e.1 e.2) rest from rfl] at hrun
      simp only [insertsOf, hrun, List.map_cons]
    · intro k' v'
      rw [hM k' v', List.mem_cons, upd_eq_some_iff M k v k' v' hMk, Prod.mk.injEq, or_assoc]

theorem stepSpec_of_stepMap (σ : Spec) (op : Op) (o : Out) (M' : Nat → Option Nat)
    (hroom : σ.count + 1 < σ.N) (hs : stepMap σ.M op = some (o, M')) :
    ∃ c, stepSpec σ op = some (o, ⟨M', c, σ.N⟩) ∧ c ≤ σ.count + 1 := by
  cases stepMap_iff.1 hs with
  | insert hM => exact ⟨_, stepSpec_iff.2 (.insert hM hroom), Nat.le_refl _⟩
  | found hM => exact ⟨_, stepSpec_iff.2 (.found hM), Nat.le_succ _⟩
  | new hM => exact ⟨_, stepSpec_iff.2 (.new hM hroom), Nat.le_refl _⟩
  | find => exact ⟨_, stepSpec_iff.2 .find, Nat.le_succ _⟩

theorem runSpec_of_runMap : ∀ (ops : List Op) (σ : Spec) (outs : List Out) (M' : Nat → Option Nat),
    σ.count + ops.length < σ.N → runMap σ.M ops = some (outs, M') →
    ∃ c, runSpec σ ops = some (outs, ⟨M', c, σ.N⟩) := by
  intro ops
  induction ops with
  | nil => intro σ outs M' _ hs; cases hs; exact ⟨σ.count, rfl⟩
  | cons op ops ih =>
    intro σ outs M' hroom hs
    simp only [List.length_cons] at hroom
    obtain ⟨o, M1, os, h1, h2, rfl⟩ := runMap_cons_some hs
    obtain ⟨c1, hc1, hle⟩ := stepSpec_of_stepMap σ op o M1 (by omega) h1
    obtain ⟨c2, hc2⟩ := ih ⟨M1, c1, σ.N⟩ os _ (by show c1 + ops.length < σ.N; omega) h2
    exact ⟨c2, by simp only [runSpec, hc1, hc2]⟩

theorem lookups_of_pairs {M : Nat → Option Nat} {kvs : List (Nat × Nat)} {f : Nat → Option (Option Nat)}
    (hM : ∀ k v, M k = some v ↔ (k, v) ∈ kvs) (hf : ∀ k, f k = some (M k)) :
    (∀ k v, (k, v) ∈ kvs → f k = some (some v)) ∧ (∀ k, (∀ v, (k, v) ∉ kvs) → f k = some none) := by
  refine ⟨fun k v hkv => by rw [hf, (hM k v).2 hkv], fun k hk => ?_⟩
  rw [hf]
  cases hMk : M k with
  | none => rfl
  | some v => exact absurd ((hM k v).1 hMk) (hk v)

end KV.Probing
