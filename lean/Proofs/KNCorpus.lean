import Proofs.KNTable
import Proofs.KNCorpusRows
import Proofs.KNAdjust
/-!
The count table of a corpus satisfies the table hypotheses: for every non-empty corpus without
special symbols (all word ids ≥ 3) and monotone thresholds, `countFull cfg.order corpus` satisfies
`Spec.TableWF` (`tableWF_countFull`; `Spec.TableWF1` at order 1) and `Adjust.FullWF`
(`fullWF_countFull`).  `estimate_corpus` puts it to use: `Spec.estimate` on a corpus is
`Spec.estimateFrom` on a well-formed table, so that every corpus-level clause of C05/C06 is its
table-level form.  `prune_exact_corpus` has no user.
-/
namespace KV.KN.Norm

open KV.KN KV.KN.Spec

theorem tableWF_countFull (cfg : Cfg) (corpus : List (List Word)) (h2 : 2 ≤ cfg.order)
    (hne : corpus ≠ []) (hw : ∀ s ∈ corpus, ∀ w ∈ s, 3 ≤ w)
    (hthr : ∀ i, i < cfg.order - 1 → cfg.thr i ≤ cfg.thr (i + 1)) :
    Spec.TableWF cfg (countFull cfg.order corpus) :=
  have hr := fun e he => rowOK_countFull (e := e) (Nat.le_of_succ_le h2) hw he
  { order2 := h2
    nonempty := countFull_nonempty (Nat.le_of_succ_le h2) hne
    len := fun e he => (hr e he).len
    nodup := countFull_nodup _ _
    pos := countFull_pos _ _
    headOK := fun e he => (hr e he).head
    second := by
      intro e he
      obtain ⟨s, hs, i, hi, hg⟩ := row_occ he
      rw [hg]; exact win_second (hw s hs) hi h2
    topValid := fun e he hg' => topValid_of_bosRun (hr e he).len h2 (hr e he).run hg'
    tailDom := by
      intro e he n hn h1 hv hne'
      have hlen := (hr e he).len
      have hk : (e.1.take (n + 1)).length = n + 1 := by rw [List.length_take, hlen, Nat.min_eq_left hn]
      have hkt : (e.1.take (n + 1)).tail.length = n := by rw [List.length_tail, hk]; rfl
      have hval : bos ∉ (e.1.take (n + 1)).take n := by
        rw [List.take_take, Nat.min_eq_left (Nat.le_succ n)]
        exact validAt_iff.mp hv
      rw [trueCount_occurrences corpus (by rw [hk]; exact Nat.le_add_left 1 n) (by rw [hk]; exact hn),
        trueCount_occurrences corpus (by rw [hkt]; exact h1) (by rw [hkt]; exact Nat.le_of_lt hn), hk, hkt]
      unfold occurrences
      rw [List.count_flatMap, List.count_flatMap]
      apply sum_map_le_nat
      intro s _
      exact sentence_tailDom h1 s _ hk hval hne'
    thrMono := hthr }

theorem tableWF1_countFull (cfg : Cfg) (corpus : List (List Word)) (h1 : cfg.order = 1)
    (hne : corpus ≠ []) (hw : ∀ s ∈ corpus, ∀ w ∈ s, 3 ≤ w) :
    Spec.TableWF1 cfg (countFull 1 corpus) where
  order1 := h1
  nonempty := countFull_nonempty (Nat.le_refl 1) hne
  len := fun e he => (rowOK_countFull (Nat.le_refl 1) hw he).len
  nodup := countFull_nodup _ _
  pos := countFull_pos _ _
  headOK := fun e he =>
    have := (rowOK_countFull (Nat.le_refl 1) hw he).head
    ⟨fun h => this.2 (by rw [h]; rfl), fun h => this.1 (by rw [h]; rfl)⟩

theorem estimate_corpus {cfg : Cfg} {pv : Bool} {fallback : Option Disc} {corpus : List (List Word)}
    {m : Model} (hm : Spec.estimate cfg pv fallback corpus = .ok m) (h1 : 1 ≤ cfg.order)
    (hne : corpus ≠ []) (hw : ∀ s ∈ corpus, ∀ w ∈ s, 3 ≤ w)
    (hthr : ∀ i, i < cfg.order - 1 → cfg.thr i ≤ cfg.thr (i + 1)) :
    WF cfg (countFull cfg.order corpus) ∧
      Spec.estimateFrom cfg fallback (countFull cfg.order corpus) = .ok m := by
  unfold Spec.estimate at hm
  split at hm
  · rename_i h
    have h1 : cfg.order = 1 := Nat.le_antisymm h h1
    rw [h1]
    exact ⟨.inr (tableWF1_countFull cfg corpus h1 hne hw), hm⟩
  · rename_i h
    exact ⟨.inl (tableWF_countFull cfg corpus (Nat.lt_of_not_le h) hne hw hthr), hm⟩

theorem thr_mono_of_order1 {cfg : Cfg} (h1 : cfg.order = 1) :
    ∀ i, i < cfg.order - 1 → cfg.thr i ≤ cfg.thr (i + 1) :=
  fun i hi => absurd hi (by rw [h1]; exact Nat.not_lt_zero i)

theorem fullWF_countFull (N : Nat) (corpus : List (List Word)) (h2 : 2 ≤ N)
    (hw : ∀ s ∈ corpus, ∀ w ∈ s, 3 ≤ w) : KV.KN.Adjust.FullWF N (countFull N corpus) :=
  KV.KN.Adjust.fullWF_iff.mpr
    ⟨countFull_sorted N corpus, fun _ he => rowOK_countFull (Nat.le_of_succ_le h2) hw he⟩

theorem prune_exact_corpus (cfg : Cfg) (corpus : List (List Word)) (h2 : 2 ≤ cfg.order)
    (hw : ∀ s ∈ corpus, ∀ w ∈ s, 3 ≤ w) (hk : cfg.keepSpecials = true) (n : Nat) (h1 : 1 ≤ n)
    (hn : n < cfg.order) :
    ∀ e ∈ (adjustStream cfg (countFull cfg.order corpus)).stream n,
      e.marked = Spec.pruned cfg (countFull cfg.order corpus) e.gram :=
  KV.KN.Adjust.prune_exact cfg _ h2 (fullWF_countFull _ corpus h2 hw) hk n h1 hn

example : Spec.TableWF { order := 3, thr := fun i => if i = 0 then 0 else 1, excl := fun _ => false }
    (countFull 3 [[3, 4], [3], [4, 3, 5]]) :=
  tableWF_countFull _ _ (by decide) (by decide) (by decide) (by decide)

end KV.KN.Norm
