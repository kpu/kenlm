import Model.ProbingLM
import Model.Left
import Proofs.SearchSim
import Proofs.ProbingInv
/-! The probing search simulates the abstract table search (`probing_sim_rest` for a table search with any rest
costs `R`, `probing_sim` for the plain one, `R = noRest T`; `probing_refines` in Properties/C03.lean follows), given
(i) the map refinement of each probing table (`find_correct` from `Inv`/`Abs`, which `run_refines` establishes for any
insertion sequence), (ii) that the stored keys are exactly the hashes of the table's n-grams with their values,
(iii) injectivity of the chained hash on the n-grams at hand (explicit hypothesis, checked per generated model by the driver of the C01 check, `hashinj`). -/
namespace KV.ProbingLM
open KV.Arpa KV.Table KV.Score KV.State KV.Left

variable (combine : Nat → Word → Nat)

theorem hashOf_append (g : List Word) (hg : g ≠ []) (x : Word) : hashOf combine (g ++ [x]) = combine (hashOf combine g) x := by
  cases g with
  | nil => exact absurd rfl hg
  | cons w rest =>
    show List.foldl combine w (rest ++ [x]) = combine (List.foldl combine w rest) x
    rw [List.foldl_append]; rfl

structure Represents (combine : Nat → Word → Nat) (P : PLM) (T : Table) (Mmid : Nat → Nat → Option Nat) (Mlong : Nat → Option Nat) : Prop where
  order : P.order = T.order
  uni : ∀ w, P.uni w = ((tableSearch T).lookupUnigram w).1
  mid_inv : ∀ om2, KV.Probing.Inv id (P.middle om2) ∧ KV.Probing.Abs (P.middle om2) (Mmid om2)
  long_inv : KV.Probing.Inv id P.longest ∧ KV.Probing.Abs P.longest Mlong
  mid_stored : ∀ om2 g t, g.length = om2 + 2 → om2 + 2 < T.order → T.lookup g = some t →
    ∃ v, Mmid om2 (hashOf combine g) = some v ∧ P.payload om2 v = toFound t
  mid_only : ∀ om2 k v, Mmid om2 k = some v → ∃ g, g.length = om2 + 2 ∧ hashOf combine g = k ∧ T.lookup g ≠ none
  long_stored : ∀ g t, g.length = T.order → T.lookup g = some t → ∃ v, Mlong (hashOf combine g) = some v ∧ P.longestProb v = t.prob
  long_only : ∀ k v, Mlong k = some v → ∃ g, g.length = T.order ∧ hashOf combine g = k ∧ T.lookup g ≠ none

/-- 64-bit chained-hash injectivity on the n-grams of the table (a queried n-gram never collides with a stored one) -/
def HashInjective (combine : Nat → Word → Nat) (T : Table) : Prop :=
  ∀ g g' : List Word, g.length = g'.length → T.lookup g' ≠ none → hashOf combine g = hashOf combine g' → g = g'

/-- as `Represents`, for a table search whose `Rest()` returns `R`: the payloads carry `rest = R g` -/
structure RepresentsRest (combine : Nat → Word → Nat) (P : PLM) (T : Table) (R : List Word → Rat)
    (Mmid : Nat → Nat → Option Nat) (Mlong : Nat → Option Nat) : Prop where
  order : P.order = T.order
  uni : ∀ w, P.uni w = ((restSearch T R).lookupUnigram w).1
  mid_inv : ∀ om2, KV.Probing.Inv id (P.middle om2) ∧ KV.Probing.Abs (P.middle om2) (Mmid om2)
  long_inv : KV.Probing.Inv id P.longest ∧ KV.Probing.Abs P.longest Mlong
  mid_stored : ∀ om2 g t, g.length = om2 + 2 → om2 + 2 < T.order → T.lookup g = some t →
    ∃ v, Mmid om2 (hashOf combine g) = some v ∧ P.payload om2 v = { toFound t with rest := R g }
  mid_only : ∀ om2 k v, Mmid om2 k = some v → ∃ g, g.length = om2 + 2 ∧ hashOf combine g = k ∧ T.lookup g ≠ none
  long_stored : ∀ g t, g.length = T.order → T.lookup g = some t → ∃ v, Mlong (hashOf combine g) = some v ∧ P.longestProb v = t.prob
  long_only : ∀ k v, Mlong k = some v → ∃ g, g.length = T.order ∧ hashOf combine g = k ∧ T.lookup g ≠ none

/-- one probing table of the model: it holds, under their hashes, values that decode (`pay`) to `F` of the table's
entries of the length of `g`, and nothing else; then looking `g`'s hash up is looking `g` up in the table -/
theorem find_hashed {β : Type} (T : Table) (inj : HashInjective combine T) (t : KV.Probing.Table) (M : Nat → Option Nat)
    (inv : KV.Probing.Inv id t ∧ KV.Probing.Abs t M) (pay : Nat → β) (F : TEntry → β) (g : List Word)
    (stored : ∀ e, T.lookup g = some e → ∃ v, M (hashOf combine g) = some v ∧ pay v = F e)
    (only : ∀ v, M (hashOf combine g) = some v →
      ∃ g', g'.length = g.length ∧ hashOf combine g' = hashOf combine g ∧ T.lookup g' ≠ none) :
    (match KV.Probing.find id t (hashOf combine g) with
      | some (some v) => some (pay v)
      | _ => none) = (T.lookup g).map F := by
  rw [KV.Probing.find_correct id t M inv.1 inv.2]
  cases hl : T.lookup g with
  | some e =>
    obtain ⟨v, hv, hp⟩ := stored e hl
    simp [hv, hp]
  | none =>
    cases hm : M (hashOf combine g) with
    | none => rfl
    | some v =>
      -- a stored key with the hash of `g` is `g` itself, which the table does not have
      obtain ⟨g', hg'l, hg'h, hg'n⟩ := only v hm
      rw [← inj g g' hg'l.symm hg'n hg'h.symm, hl] at hg'n
      exact absurd rfl hg'n

theorem probing_sim_rest (P : PLM) (T : Table) (R : List Word → Rat) (Mmid : Nat → Nat → Option Nat)
    (Mlong : Nat → Option Nat) (rep : RepresentsRest combine P T R Mmid Mlong) (inj : HashInjective combine T)
    (hN : 2 ≤ T.order) :
    Sim (search combine P) (restSearch T R) (fun d n g => g.length = d ∧ n = hashOf combine g ∧ g ≠ []) := by
  refine ⟨rep.order, ?_, ?_, ?_⟩
  · intro w
    exact ⟨rep.uni w, rfl, rfl, by simp [restSearch]⟩
  · intro om2 w n g hom ⟨hl, hn, hg⟩
    have hk : combine n w = hashOf combine (g ++ [w]) := by rw [hn, hashOf_append combine g hg]
    have hlen : (g ++ [w]).length = om2 + 2 := by simp [hl]
    have hom' : om2 + 2 < T.order := by rw [← rep.order]; exact hom
    refine ⟨?_, fun _ => ⟨hlen, by simp only [search]; exact hk, by simp [restSearch]⟩⟩
    simp only [search, restSearch, hk]
    exact find_hashed combine T inj _ _ (rep.mid_inv om2) _ _ _
      (fun e he => rep.mid_stored om2 _ e hlen hom' he)
      (fun v hv => by rw [hlen]; exact rep.mid_only om2 _ v hv)
  · intro w n g ⟨hl, hn, hg⟩
    have hk : combine n w = hashOf combine (g ++ [w]) := by rw [hn, hashOf_append combine g hg]
    have hlen : (g ++ [w]).length = T.order := by
      simp [hl]; have : (search combine P).order = P.order := rfl
      rw [this, rep.order]; omega
    simp only [search, restSearch, hk]
    exact find_hashed combine T inj _ _ rep.long_inv _ _ _
      (fun e he => rep.long_stored _ e hlen he)
      (fun v hv => by rw [hlen]; exact rep.long_only _ v hv)

/-- without separate rest costs `Rest() = Prob()`: the plain table search is the instance `R = noRest T` -/
theorem tableSearch_eq_restSearch (T : Table) : tableSearch T = restSearch T (noRest T) := by
  have hf : ∀ g, (T.lookup g).map toFound = foundOf T (noRest T) g := by
    intro g
    unfold foundOf noRest
    cases T.lookup g <;> rfl
  unfold tableSearch restSearch
  congr 1
  · funext w
    rw [← hf]
    cases T.lookup [w] <;> rfl
  · funext _ w node
    rw [← hf]

/-- a model without separate rest costs is the case `R = noRest T` -/
theorem Represents.toRest {P : PLM} {T : Table} {Mmid : Nat → Nat → Option Nat} {Mlong : Nat → Option Nat}
    (rep : Represents combine P T Mmid Mlong) : RepresentsRest combine P T (noRest T) Mmid Mlong := by
  refine ⟨rep.order, ?_, rep.mid_inv, rep.long_inv, ?_, rep.mid_only, rep.long_stored, rep.long_only⟩
  · intro w; rw [← tableSearch_eq_restSearch]; exact rep.uni w
  · intro om2 g t hl ho ht
    obtain ⟨v, hv, hp⟩ := rep.mid_stored om2 g t hl ho ht
    exact ⟨v, hv, by rw [hp]; simp [noRest, ht, toFound]⟩

theorem probing_sim (P : PLM) (T : Table) (Mmid : Nat → Nat → Option Nat) (Mlong : Nat → Option Nat)
    (rep : Represents combine P T Mmid Mlong) (inj : HashInjective combine T) (hN : 2 ≤ T.order) :
    Sim (search combine P) (tableSearch T) (fun d n g => g.length = d ∧ n = hashOf combine g ∧ g ≠ []) :=
  tableSearch_eq_restSearch T ▸ probing_sim_rest combine P T (noRest T) Mmid Mlong rep.toRest inj hN

end KV.ProbingLM
