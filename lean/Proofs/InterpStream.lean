import Proofs.InterpTree
import Proofs.Basics
import Mathlib.Algebra.BigOperators.Ring.List
import Mathlib.Algebra.Field.Basic
import Mathlib.Tactic.Ring  -- no `ring` below: with it imported `needS`/`needE` elaborate their `Zero ℕ` as the statements of C13 expect
/-!
The stream recursion shared by pass 1 and pass 2 (C13).  On streams of the grouped shape `levels`
(one stream per order, the records of every subtree contiguous) the recursion `sameCtxG` / `extendCtxG`
computes exactly the structural recursion `specSameG` and consumes every record (`extendCtx_top`), with
fuel `needE`; no arithmetic is used for this.  The induction is written once, for any recursion that satisfies `Walks`
(`walk_siblings`, `walk_top`); `extendCtxG` is one instance (`walks_extendCtx`), the k-way `handleK` on component views the
other (`walks_handleK`, Proofs/InterpKway.lean).  Pass 2 is the instance `sameCtx` / `extendCtx` (the code's
`Recurse::SameContext` / `ExtendContext`): with `X = explicit`, started from `Zinc`, it writes `pOut` /
`boSame`.  Pass 1 is the instance `handleSuffix` (`MergeProbabilities` / `HandleSuffix`): it writes
`p1Rec`, the per-component longest-suffix probabilities and `from` levels of `LM.merge`.
-/
namespace KV.Interp

section Stream
variable {W : Type} [DecidableEq W]
variable {I Evt : Type} (step : List W → I → List W → I) (emit : List W → I → List W → List Evt)
variable (X Y : List W → List W)

/-- fuel that suffices for `sameCtx` on the subtree of `c`: one unit for the call itself and, per child, one for the
iteration of `extendCtx` that meets it plus what its own `sameCtx` needs -/
def needS : Nat → List W → Nat
  | 0, _ => 1
  | d + 1, c => 1 + ((Y c).map (fun y => 1 + needS d (y :: c))).sum

def needE (d : Nat) (ys : List W) (c : List W) : Nat :=
  (ys.map (fun y => 1 + needS Y d (y :: c))).sum

theorem extendCtxG_nil (fuel : Nat) (m : List W) (z : I) :
    extendCtxG step emit fuel ([] : List (List (Rec W))) m z = ([], []) := by
  cases fuel <;> simp [extendCtxG]

theorem extendCtxG_stop (fuel : Nat) (s : List (Rec W)) (ss : List (List (Rec W))) (m : List W) (z : I)
    (h : ∀ r, s.head? = some r → r.1.tail ≠ m) :
    extendCtxG step emit fuel (s :: ss) m z = (s :: ss, []) := by
  cases fuel with
  | zero => rfl
  | succ n =>
    cases s with
    | nil => rfl
    | cons r s => rw [extendCtxG, if_neg (h r rfl)]

theorem sameCtxG_own (n : Nat) (r0 : List (Rec W)) (ss : List (List (Rec W))) (c : List W) (zl : I)
    (h0 : ∀ r ∈ r0, ¬ c <:+ r.1) {res : List (List (Rec W)) × List Evt}
    (hres : extendCtxG step emit n ss c (step c zl (X c)) = res) :
    sameCtxG step emit (n + 1) ((own X c ++ r0) :: ss) c zl =
      (r0 :: res.1, emit c zl (X c) ++ res.2) := by
  have hp := takeWhile_append_of_head (fun r : Rec W => decide (r.1 = c)) (own X c) r0
    (fun a ha => decide_eq_true ((mem_own X).1 ha).1)
    (by
      intro r hr
      have := h0 r (List.mem_of_mem_head? hr)
      have hne : r.1 ≠ c := fun h => this (h ▸ List.suffix_refl _)
      simp [hne])
  rw [sameCtxG]
  simp only [hp.1, hp.2, map_snd_own, hres]

omit [DecidableEq W] in
theorem specSameG_zero (c : List W) (zl : I) :
    specSameG step emit X Y 0 c zl = emit c zl (X c) := rfl

omit [DecidableEq W] in
theorem specSameG_succ (d : Nat) (c : List W) (zl : I) :
    specSameG step emit X Y (d + 1) c zl =
      emit c zl (X c) ++ (Y c).flatMap (fun y => specSameG step emit X Y d (y :: c) (step c zl (X c))) := rfl

end Stream

section Walks
variable {W : Type} [DecidableEq W] {S I Out : Type}

/-- what the induction over the grouped streams uses of a recursion `run` that sees the streams through `v`: it returns on an
empty list of streams (`nil`), it returns when no record of the first stream lies below the suffix (`stop`), and when the first
stream starts with the records of the node `y :: g` it writes them, recurses into the lower streams with the stepped attribute
and goes on with the rest of the stream (`node`; `k` extra units of fuel per node: 1 for `extendCtxG`, which spends one on
`sameCtxG`, 0 for `handleK`).  `Z` is what is known of the inherited attribute, `Node` of a node, `Later` of the first words of
the records that follow a node. -/
structure Walks (run : Nat → List S → List W → I → List S × List Out) (v : List (Rec W) → S)
    (step : List W → I → List W → I) (emit : List W → I → List W → List Out) (X : List W → List W)
    (k : Nat) (Later : W → W → Prop) (Node : List W → Prop) (Z : List W → I → Prop) : Prop where
  k_le : k ≤ 1
  nil : ∀ f g z, run f [] g z = ([], [])
  stop : ∀ f M lower g z, (∀ r ∈ M, ¬ g <:+ r.1) → run f (v M :: lower) g z = (v M :: lower, [])
  inh : ∀ y g z, Z g z → Z (y :: g) (step (y :: g) z (X (y :: g)))
  node : ∀ n y g z M' lower r1 r2, Z g z → Node (y :: g) →
    (∀ r ∈ M', ¬ (y :: g) <:+ r.1 ∧ ∀ z', r.1 = z' :: g → Later y z') →
    run n lower (y :: g) (step (y :: g) z (X (y :: g))) = r1 → run (n + k) (v M' :: r1.1) g z = r2 →
    run (n + k + 1) (v (own X (y :: g) ++ M') :: lower) g z =
      (r2.1, emit (y :: g) z (X (y :: g)) ++ r1.2 ++ r2.2)

variable (run : Nat → List S → List W → I → List S × List Out) (v : List (Rec W) → S)
  (step : List W → I → List W → I) (emit : List W → I → List W → List Out) (X Y : List W → List W)
  (k : Nat) (Later : W → W → Prop) (Node : List W → Prop) (Z : List W → I → Prop)

/-- the tree below `c`, `d` levels deep: later siblings are distinct and `Later`, every node is a `Node` -/
def GoodW : Nat → List W → Prop
  | 0, _ => True
  | d + 1, c => (Y c).Pairwise (fun a b => a ≠ b ∧ Later a b) ∧ ∀ y ∈ Y c, Node (y :: c) ∧ GoodW d (y :: c)

/-- the streams of the subtree of `c` without `c`'s own records -/
def deeper : Nat → List W → List (List (Rec W))
  | 0, _ => []
  | d + 1, c => levelsE X Y d (Y c) c

omit [DecidableEq W] in
theorem levels_cons (d : Nat) (c : List W) : levels X Y d c = own X c :: deeper X Y d c := by
  cases d <;> rfl

/-- what is written below `c`, the records of `c` itself excluded -/
def specDeeper : Nat → List W → I → List Out
  | 0, _, _ => []
  | d + 1, c, z => (Y c).flatMap (fun y => specSameG step emit X Y d (y :: c) z)

omit [DecidableEq W] in
theorem specSameG_eq (d : Nat) (c : List W) (z : I) :
    specSameG step emit X Y d c z = emit c z (X c) ++ specDeeper step emit X Y d c (step c z (X c)) := by
  cases d
  · exact (List.append_nil _).symm
  · rfl

omit [DecidableEq W] in
theorem needS_pos (d : Nat) (c : List W) : 1 ≤ needS Y d c := by
  cases d
  · exact Nat.le_refl _
  · exact Nat.le_add_right _ _

/-- the recursive call for the suffix `c`, on subtrees `d` levels deep -/
def DeepSpec (d : Nat) : Prop :=
  ∀ (c : List W) (z : I) (rests : List (List (Rec W))) (fuel : Nat), Z c z →
    rests.length = d → needS Y d c ≤ fuel + 1 → GoodW Y Later Node d c →
    AllRecs (fun r : Rec W => ¬ c <:+ r.1) rests →
    run fuel ((List.zipWith (· ++ ·) (deeper X Y d c) rests).map v) c z =
      (rests.map v, specDeeper step emit X Y d c z)

variable {run v step emit X k Later Node Z} (hW : Walks run v step emit X k Later Node Z)
include hW

omit [DecidableEq W] in
/-- **the sibling loop**, given the recursive call one level down: on streams that start with the grouped records of the subtrees
of `y :: c`, `y ∈ ys`, followed by streams without a record below `c`, the recursion consumes exactly those subtrees and writes
what the structural recursion writes.  Regroup so that the subtree of the first sibling heads every stream; its node is one
`node` step whose first call is `hD` and whose second is the loop over the later siblings. -/
theorem walk_siblings (d : Nat) (hD : DeepSpec run v step emit X Y Later Node Z d) :
    ∀ (ys c : List W) (z : I) (rests : List (List (Rec W))) (fuel : Nat), Z c z →
    rests.length = d + 1 → needE Y d ys c ≤ fuel → ys.Pairwise (fun a b => a ≠ b ∧ Later a b) →
    (∀ y ∈ ys, Node (y :: c) ∧ GoodW Y Later Node d (y :: c)) →
    AllRecs (fun r : Rec W => ¬ c <:+ r.1) rests →
    run fuel ((List.zipWith (· ++ ·) (levelsE X Y d ys c) rests).map v) c z =
      (rests.map v, ys.flatMap (fun y => specSameG step emit X Y d (y :: c) z)) := by
  intro ys c z rests
  induction ys with
  | nil =>
    intro fuel _ hlen _ _ _ hrests
    rw [levelsE_nil, zipWith_replicate_nil _ _ (Nat.le_of_eq hlen)]
    match rests, hlen with
    | r0 :: rs, _ => exact hW.stop fuel r0 _ c z (hrests r0 List.mem_cons_self)
  | cons y ys' ih' =>
    intro fuel hZ hlen hfuel hpw hall hrests
    have hpw' := List.pairwise_cons.1 hpw
    have hy := hall y List.mem_cons_self
    have hneed : needE Y d (y :: ys') c = 1 + needS Y d (y :: c) + needE Y d ys' c := rfl
    obtain ⟨n, rfl, hn1, hn2⟩ : ∃ n, fuel = n + k + 1 ∧ needS Y d (y :: c) ≤ n + 1 ∧ needE Y d ys' c ≤ n + k := by
      have := needS_pos Y d (y :: c)
      have := hW.k_le
      exact ⟨fuel - k - 1, by omega, by omega, by omega⟩
    have hlater : AllRecs (fun r : Rec W => ¬ (y :: c) <:+ r.1 ∧ ∀ z', r.1 = z' :: c → Later y z')
        (List.zipWith (· ++ ·) (levelsE X Y d ys' c) rests) :=
      allRecs_zipWith _ _ _
        (allRecs_mono (fun r ⟨y', hy', hsuf⟩ =>
          ⟨fun hcon => (hpw'.1 y' hy').1 (suffix_cons_inj hcon hsuf),
           fun z' hz => suffix_cons_inj (hz ▸ hsuf) (List.suffix_refl _) ▸ (hpw'.1 y' hy').2⟩)
          (allRecs_levelsE X Y d c ys'))
        (allRecs_mono (fun r hno =>
          ⟨fun hcon => hno ((List.suffix_cons y c).trans hcon),
           fun z' hz => absurd (hz ▸ List.suffix_cons z' c) hno⟩) hrests)
    have hlen' : (List.zipWith (· ++ ·) (levelsE X Y d ys' c) rests).length = d + 1 := by
      rw [List.length_zipWith, length_levelsE, hlen, Nat.min_self]
    obtain ⟨r0', Rs', hR'⟩ := List.exists_cons_of_length_eq_add_one hlen'
    have ih := ih' (n + k) hZ hlen hn2 hpw'.2 (fun y' hy' => hall y' (List.mem_cons_of_mem _ hy')) hrests
    rw [hR'] at hlater ih hlen'
    rw [levelsE_cons, zipWith_append_assoc, hR', levels_cons, List.zipWith_cons_cons, List.map_cons,
      List.flatMap_cons, specSameG_eq]
    exact hW.node n y c z r0' _ _ _ hZ hy.1 (hlater r0' List.mem_cons_self)
      (hD (y :: c) _ Rs' n (hW.inh y c z hZ) (Nat.succ.inj hlen') hn1 hy.2
        (fun l hl r hr => (hlater l (List.mem_cons_of_mem _ hl) r hr).1)) ih

omit [DecidableEq W] in
theorem deepSpec : ∀ d : Nat, DeepSpec run v step emit X Y Later Node Z d
  | 0 => by
    intro c z rests fuel _ hlen _ _ _
    rw [List.length_eq_zero_iff.1 hlen]
    exact hW.nil _ _ _
  | d + 1 => fun c z rests fuel hZ hlen hfuel hgood hrests =>
    walk_siblings Y hW d (deepSpec d) (Y c) c z rests fuel hZ hlen
      (by rw [needS] at hfuel; unfold needE; omega) hgood.1 hgood.2 hrests

omit [DecidableEq W] in
theorem walk_top (D fuel : Nat) (z : I) (hZ : Z [] z) (hfuel : needE Y D (Y []) [] ≤ fuel)
    (hgood : GoodW Y Later Node (D + 1) []) :
    run fuel ((levelsE X Y D (Y []) []).map v) [] z =
      ((List.replicate (D + 1) []).map v, (Y []).flatMap (fun y => specSameG step emit X Y D [y] z)) := by
  have h := walk_siblings Y hW D (deepSpec Y hW D) (Y []) [] z (List.replicate (D + 1) []) fuel hZ List.length_replicate hfuel hgood.1 hgood.2 (allRecs_replicate_nil _ _)
  rwa [zipWith_replicate_nil_right _ _ (Nat.le_of_eq (length_levelsE ..))] at h

end Walks

section Refinement
variable {W : Type} [DecidableEq W] {I Evt : Type}

/-- the merged recursion walks: any attribute, siblings merely distinct, a node needs a record of its own (its head is what
`extendCtxG` tests) -/
theorem walks_extendCtx (step : List W → I → List W → I) (emit : List W → I → List W → List Evt) (X : List W → List W) :
    Walks (extendCtxG step emit) id step emit X 1 (fun _ _ => True) (fun c => X c ≠ []) (fun _ _ => True) where
  k_le := Nat.le_refl 1
  nil f g z := extendCtxG_nil step emit f g z
  stop f M lower g z h := extendCtxG_stop step emit f M lower g z
    (fun r hr ht => h r (List.mem_of_mem_head? hr) (ht ▸ List.tail_suffix r.1))
  inh _ _ _ _ := trivial
  node n y g z M' lower r1 r2 _ hX hfr h1 h2 := by
    obtain ⟨x0, xs, hxs⟩ := List.exists_cons_of_ne_nil hX
    -- `extendCtxG` tests the head record: spell the stream out far enough to show it, take the `if`, fold back
    have hshape : own X (y :: g) ++ M' = (y :: g, x0) :: (xs.map (fun x => (y :: g, x)) ++ M') := by
      rw [own, hxs]; rfl
    have hs := sameCtxG_own step emit X n M' lower (y :: g) z (fun r hr => (hfr r hr).1) h1
    rw [id, hshape, extendCtxG, if_pos (show (y :: g, x0).1.tail = g from rfl), ← hshape]
    simp only [hs, id] at h2 ⊢
    rw [h2, List.append_assoc]


variable (step : List W → I → List W → I) (emit : List W → I → List W → List Evt) (X Y : List W → List W)

omit [DecidableEq W] in
theorem goodW_of_good : ∀ (d : Nat) (c : List W), Good X Y d c →
    GoodW Y (fun _ _ => True) (fun c => X c ≠ []) d c
  | 0, _, _ => trivial
  | d + 1, c, h => ⟨h.1.imp (fun hne => ⟨hne, trivial⟩), fun y hy => ⟨(h.2 y hy).1, goodW_of_good d (y :: c) (h.2 y hy).2⟩⟩

theorem extendCtx_top (D fuel : Nat) (z : I) (hfuel : needE Y D (Y []) [] ≤ fuel)
    (hgood : ∀ y ∈ Y [], X [y] ≠ [] ∧ Good X Y D [y]) (hnd : (Y []).Nodup) :
    extendCtxG step emit fuel (levelsE X Y D (Y []) []) [] z =
      (List.replicate (D + 1) [], (Y []).flatMap (fun y => specSameG step emit X Y D [y] z)) := by
  have h := walk_top Y (walks_extendCtx step emit X) D fuel z trivial hfuel
    (goodW_of_good X Y (D + 1) [] ⟨hnd, hgood⟩)
  rwa [List.map_id, List.map_id] at h

end Refinement

section Values
variable {W : Type} [DecidableEq W] {F : Type} [Field F]
variable (E : ℚ → F) (cs : Comps W) (V : List W) (X Y : List W → List W)

theorem zStep_eq_Zinc (y : W) (c : List W) {xs : List W} (h : xs.Perm (explicit cs (y :: c))) :
    zStep E cs (y :: c) (Zinc E cs V c) xs = Zinc E cs V (y :: c) := by
  -- the order in which the words of the context are summed does not matter
  unfold zStep
  rw [(h.map _).sum_eq]
  rfl

def specOut : Nat → List W → List (Ev W F)
  | 0, c => (X c).map (fun x => Ev.prob c x (pOut E cs V c x)) ++ [Ev.bo c (boSame E cs V c)]
  | d + 1, c =>
    (X c).map (fun x => Ev.prob c x (pOut E cs V c x)) ++ [Ev.bo c (boSame E cs V c)] ++
      (Y c).flatMap (fun y => specOut d (y :: c))

theorem sameEvents_eq (y : W) (c : List W) (h : (X (y :: c)).Perm (explicit cs (y :: c))) :
    sameEvents E cs (y :: c) (Zinc E cs V c) (X (y :: c)) =
      (X (y :: c)).map (fun x => Ev.prob (y :: c) x (pOut E cs V (y :: c) x)) ++
        [Ev.bo (y :: c) (boSame E cs V (y :: c))] := by
  unfold sameEvents
  rw [zStep_eq_Zinc E cs V y c h]
  rfl

theorem specSame_eq_specOut (hX : ∀ c, (X c).Perm (explicit cs c)) : ∀ (d : Nat) (y : W) (c : List W),
    specSame E cs X Y d (y :: c) (Zinc E cs V c) = specOut E cs V X Y d (y :: c)
  | 0, y, c => by
    show specSameG (zStep E cs) (sameEvents E cs) X Y 0 (y :: c) (Zinc E cs V c) = _
    rw [specSameG_zero, specOut, sameEvents_eq E cs V X y c (hX _)]
  | d + 1, y, c => by
    show specSameG (zStep E cs) (sameEvents E cs) X Y (d + 1) (y :: c) (Zinc E cs V c) = _
    rw [specSameG_succ, specOut, sameEvents_eq E cs V X y c (hX _), zStep_eq_Zinc E cs V y c (hX _)]
    congr 1
    apply List.flatMap_congr
    intro y' _
    exact specSame_eq_specOut hX d y' (y :: c)

end Values

section Events
variable {W F : Type}

/-- the context of a back-off event of pass 2: for which contexts `SameContext` ran, in which order -/
def evCtx : Ev W F → Option (List W)
  | Ev.bo c _ => some c
  | Ev.prob _ _ _ => none

theorem filterMap_probs (c : List W) (xs : List W) (f : W → F) :
    (xs.map (fun x => Ev.prob c x (f x))).filterMap evCtx = [] := by
  induction xs with
  | nil => rfl
  | cons x xs ih => simp [List.filterMap_cons, evCtx, ih]

end Events

section Pass1
variable {W : Type} [DecidableEq W]

theorem mergeStep_mergeFb (cs : Comps W) (y : W) (t : List W) (xs : List W) :
    mergeStep cs (y :: t) (mergeFb cs t) xs = mergeFb cs (y :: t) := by
  unfold mergeStep mergeFb
  induction cs with
  | nil => rfl
  | cons p ps ih =>
    rw [List.map_cons, List.map_cons, List.zipWith_cons_cons, ih]
    congr 1
    rw [LM.mergeG]
    cases p.2.findGram (y :: t) <;> simp

theorem mergeEmit_eq (cs : Comps W) (y : W) (t : List W) (xs : List W) :
    mergeEmit cs (y :: t) (mergeFb cs t) xs = [p1Rec cs (y :: t)] := by
  unfold mergeEmit p1Rec
  rw [mergeStep_mergeFb]
  rfl

theorem specSameG_merge (cs : Comps W) (X Y : List W → List W) : ∀ (d : Nat) (y : W) (t : List W),
    specSameG (mergeStep cs) (mergeEmit cs) X Y d (y :: t) (mergeFb cs t) = specP1 cs Y d (y :: t)
  | 0, y, t => by
    rw [specSameG_zero, mergeEmit_eq, specP1]
  | d + 1, y, t => by
    rw [specSameG_succ, mergeEmit_eq, mergeStep_mergeFb, specP1]
    simp only [List.singleton_append, List.cons.injEq, true_and]
    apply List.flatMap_congr
    intro y' _
    exact specSameG_merge cs X Y d y' (y :: t)

/-- **Pass 1 refines the functional model.**  On n-gram streams of the grouped shape (a record stands for its n-gram;
`mergeStep` and `mergeEmit` ignore the words `X g`, which only have to be there: `X1`), started like `HandleNGrams` starts it (fallback = the components'
`<unk>`), `HandleSuffix` consumes every n-gram of every order and writes for each the record
`p1Rec`: `Prob()` = Σᵢ λᵢ·(probability of the longest suffix in component i), `LowerProb()` = the same
for the n-gram without its first word, and the `from` vector. -/
theorem pass1_refines (cs : Comps W) (X Y : List W → List W) (D fuel : Nat)
    (hfuel : needE Y D (Y []) [] ≤ fuel)
    (hgood : ∀ y ∈ Y [], X [y] ≠ [] ∧ Good X Y D [y]) (hnd : (Y []).Nodup) :
    handleSuffix cs fuel (levelsE X Y D (Y []) []) [] (mergeFb cs []) =
      (List.replicate (D + 1) [], (Y []).flatMap (fun y => specP1 cs Y D [y])) := by
  refine (extendCtx_top (mergeStep cs) (mergeEmit cs) X Y D fuel _ hfuel hgood hnd).trans ?_
  congr 1
  apply List.flatMap_congr
  intro y _
  exact specSameG_merge cs X Y D y []

end Pass1

end KV.Interp
