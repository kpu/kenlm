import Model.Vocab
import Proofs.VocabIdMap
/-!
`ProbingVocabulary`: ids in file order (`<unk>` / `<UNK>` are 0 and never enter the table),
`Index` returns the id of an inserted word and 0 for everything else.
-/
namespace KV.Vocab
open KV.Probing

def isUnk (sp : Specials) (k : Nat) : Bool := k = sp.unk || k = sp.unkCap

/-- the ids `Insert` returns, `n` = current `bound_` -/
def pSpecIds (sp : Specials) : Nat → List Nat → List Nat
  | _, [] => []
  | n, k :: ks => if isUnk sp k then 0 :: pSpecIds sp n ks else n :: pSpecIds sp (n + 1) ks

/-- `Inv ∧ Abs` with the map "word ↦ its position in `seen`, plus 1", and what the vocabulary adds: `bound_` is the next id -/
structure PRep (v : PVocab) (seen : List Nat) : Prop where
  inv : Inv id v.t
  abs : Abs v.t (mapFrom 1 seen)
  /-- `Inv` only has `occupied ≤ entries_`; the room for the next `Insert` needs the equality -/
  cnt : v.t.entries = seen.length
  bound : v.bound = seen.length + 1

theorem pNew_rep (N : Nat) (hN : 0 < N) : PRep (pNew N) [] := by
  refine ⟨Inv_empty id N hN, ?_, rfl, rfl⟩
  rw [mapFrom_nil]; exact Abs_empty N

theorem pInsert_unk (sp : Specials) (v : PVocab) (k : Nat) (hk : isUnk sp k = true) :
    pInsert sp v k = .ok (0, { v with sawUnk := true }) := by
  have : k = sp.unk ∨ k = sp.unkCap := by simpa [isUnk] using hk
  simp [pInsert, this]

theorem pInsert_new (sp : Specials) (v : PVocab) (seen : List Nat) (k : Nat) (r : PRep v seen)
    (hk : isUnk sp k = false) (hfresh : k ∉ seen) (hroom : seen.length + 1 < v.t.N) :
    ∃ v', pInsert sp v k = .ok (seen.length + 1, v') ∧ PRep v' (seen ++ [k]) ∧ v'.sawUnk = v.sawUnk ∧ v'.t.N = v.t.N := by
  obtain ⟨inv, abs, hcnt, hb⟩ := r
  have hnu : ¬ (k = sp.unk ∨ k = sp.unkCap) := by simpa [isUnk] using hk
  have hM : mapFrom 1 seen k = none := by simp [mapFrom, hfresh]
  obtain ⟨q, t', hi, r⟩ := insert_spec id v.t (mapFrom 1 seen) k v.bound inv abs hM (by omega)
  refine ⟨{ v with t := t', bound := v.bound + 1 }, ?_, ⟨r.inv, ?_, ?_, ?_⟩, rfl, r.N⟩
  · rw [hb] at hi
    simp [pInsert, hnu, hi, hb]
  · have abs' := r.abs
    rw [hb, mapFrom_append 1 seen k hfresh] at abs'
    exact abs'
  · show t'.entries = (seen ++ [k]).length; rw [r.entries, hcnt, List.length_append]; rfl
  · show v.bound + 1 = (seen ++ [k]).length + 1; simp; omega

theorem pIndex_spec (v : PVocab) (seen : List Nat) (r : PRep v seen) (k : Nat) :
    pIndex v k = some (if k ∈ seen then seen.idxOf k + 1 else 0) := by
  unfold pIndex
  rw [find_correct id v.t (mapFrom 1 seen) r.inv r.abs k]
  unfold mapFrom
  by_cases hm : k ∈ seen <;> simp [hm]

/-- the words that enter the table: all but `<unk>` / `<UNK>` -/
abbrev realWords (sp : Specials) (ws : List Nat) : List Nat := ws.filter (fun k => !isUnk sp k)

theorem realWords_cons_unk {sp : Specials} {k : Nat} (hk : isUnk sp k = true) (ks : List Nat) :
    realWords sp (k :: ks) = realWords sp ks := by
  simp [realWords, hk]

theorem realWords_cons {sp : Specials} {k : Nat} (hk : isUnk sp k = false) (seen ks : List Nat) :
    seen ++ realWords sp (k :: ks) = (seen ++ [k]) ++ realWords sp ks := by
  simp [realWords, hk]

theorem not_mem_of_nodup_snoc {seen rest : List Nat} {k : Nat} (h : ((seen ++ [k]) ++ rest).Nodup) : k ∉ seen :=
  fun hm => (List.nodup_append.1 (List.nodup_append.1 h).1).2.2 k hm k (List.mem_singleton_self k) rfl

theorem pInsertAll_spec (sp : Specials) : ∀ (ws : List Nat) (v : PVocab) (seen : List Nat), PRep v seen →
    (seen ++ realWords sp ws).Nodup → (seen ++ realWords sp ws).length < v.t.N →
    ∃ v', pInsertAll sp v ws = .ok (pSpecIds sp (seen.length + 1) ws, v') ∧
      PRep v' (seen ++ realWords sp ws) ∧ v'.sawUnk = (v.sawUnk || ws.any (isUnk sp)) := by
  intro ws
  induction ws with
  | nil =>
    intro v seen r _ _
    exact ⟨v, rfl, by simpa using r, by simp⟩
  | cons k ks ih =>
    intro v seen r hnd hlen
    cases hk : isUnk sp k with
    | true =>
      rw [realWords_cons_unk hk] at hnd hlen ⊢
      have r' : PRep { v with sawUnk := true } seen := ⟨r.inv, r.abs, r.cnt, r.bound⟩
      obtain ⟨v', h1, r1, hs⟩ := ih { v with sawUnk := true } seen r' hnd hlen
      refine ⟨v', ?_, r1, ?_⟩
      · simp [pInsertAll, pInsert_unk sp v k hk, h1, pSpecIds, hk]
      · rw [hs]; simp [hk]
    | false =>
      rw [realWords_cons hk] at hnd hlen ⊢
      have hroom : seen.length + 1 < v.t.N := by simp at hlen; omega
      obtain ⟨v1, hi, r1, hs1, hN1⟩ := pInsert_new sp v seen k r hk (not_mem_of_nodup_snoc hnd) hroom
      obtain ⟨v', h1, r', hs⟩ := ih v1 (seen ++ [k]) r1 hnd (by rw [hN1]; exact hlen)
      refine ⟨v', ?_, r', ?_⟩
      · have hl : (seen ++ [k]).length + 1 = seen.length + 1 + 1 := by simp
        rw [hl] at h1
        simp [pInsertAll, hi, h1, pSpecIds, hk]
      · rw [hs, hs1]; simp [hk]

theorem pSpecIds_eq_index (sp : Specials) : ∀ (ws : List Nat) (seen : List Nat),
    (seen ++ realWords sp ws).Nodup →
    pSpecIds sp (seen.length + 1) ws =
      ws.map (fun k => if isUnk sp k then 0 else (seen ++ realWords sp ws).idxOf k + 1) := by
  intro ws
  induction ws with
  | nil => intro _ _; rfl
  | cons k ks ih =>
    intro seen hnd
    cases hk : isUnk sp k with
    | true =>
      rw [realWords_cons_unk hk] at hnd ⊢
      simp only [pSpecIds, hk, List.map_cons, if_true]
      rw [ih seen hnd]
    | false =>
      rw [realWords_cons hk] at hnd ⊢
      have hfresh : k ∉ seen := not_mem_of_nodup_snoc hnd
      have hl : (seen ++ [k]).length + 1 = seen.length + 1 + 1 := by simp
      have := ih (seen ++ [k]) hnd
      rw [hl] at this
      simp only [pSpecIds, hk, List.map_cons, Bool.false_eq_true, if_false, this]
      congr 1
      rw [List.idxOf_append, if_pos (by simp), List.idxOf_append, if_neg hfresh]; simp

end KV.Vocab
