import Proofs.InterpList
/-!
The union n-gram set of the components (C13): the words explicitly following a context (`LM.ext`,
`explicit`), the union as `(context, word)` pairs (`unionGrams`) and as word lists (`unionN`), look-ups
by whole n-gram, the conditions on the input the theorems assume (`EntriesOK`; closure under dropping
the last word, `PrefixClosedD`; under dropping the first word, `UnionSuffixClosed`, and per component,
`SuffixClosed`), and which union
n-grams are left without a back-off record (`stuck`).
-/
namespace KV.Interp

section Union
variable {W : Type} [DecidableEq W]

theorem mem_ext_iff {m : LM W} {c : List W} {x : W} :
    x ∈ m.ext c ↔ ∃ e ∈ m.entries, e.ctx = c ∧ e.word = x := by
  unfold LM.ext
  rw [List.mem_map]
  constructor
  · rintro ⟨e, he, hw⟩
    rw [List.mem_filter] at he
    exact ⟨e, he.1, by simpa using he.2, hw⟩
  · rintro ⟨e, he, h1, h2⟩
    exact ⟨e, List.mem_filter.2 ⟨he, by simpa using h1⟩, h2⟩

theorem find_eq_none_of_not_mem_ext (m : LM W) (c : List W) (x : W) (h : x ∉ m.ext c) :
    m.find c x = none := by
  unfold LM.find
  rw [List.find?_eq_none]
  intro e he hp
  exact h (mem_ext_iff.2 ⟨e, he, of_decide_eq_true hp⟩)

theorem mem_ext_of_find (m : LM W) (c : List W) (x : W) (e : Entry W) (h : m.find c x = some e) :
    x ∈ m.ext c ∧ e ∈ m.entries ∧ e.ctx = c ∧ e.word = x := by
  unfold LM.find at h
  have hm := List.mem_of_find?_eq_some h
  have hp := List.find?_some h
  rw [decide_eq_true_eq] at hp
  exact ⟨mem_ext_iff.2 ⟨e, hm, hp⟩, hm, hp⟩

theorem mem_explicit {cs : Comps W} {c : List W} {x : W} :
    x ∈ explicit cs c ↔ ∃ p ∈ cs, x ∈ p.2.ext c := by
  unfold explicit
  rw [mem_dedup, List.mem_flatMap]

theorem nodup_explicit (cs : Comps W) (c : List W) : (explicit cs c).Nodup := nodup_dedup _

theorem mem_unionGrams {cs : Comps W} {c : List W} {w : W} :
    (c, w) ∈ unionGrams cs ↔ ∃ p ∈ cs, ∃ e ∈ p.2.entries, e.ctx = c ∧ e.word = w := by
  unfold unionGrams
  rw [mem_dedup, List.mem_flatMap]
  constructor
  · rintro ⟨p, hp, h⟩
    rw [List.mem_map] at h
    obtain ⟨e, he, heq⟩ := h
    exact ⟨p, hp, e, he, by simpa using congrArg Prod.fst heq, by simpa using congrArg Prod.snd heq⟩
  · rintro ⟨p, hp, e, he, h1, h2⟩
    exact ⟨p, hp, List.mem_map.2 ⟨e, he, by rw [h1, h2]⟩⟩

theorem nodup_unionGrams (cs : Comps W) : (unionGrams cs).Nodup := nodup_dedup _

theorem mem_unionGrams_iff_explicit {cs : Comps W} {c : List W} {w : W} :
    (c, w) ∈ unionGrams cs ↔ w ∈ explicit cs c := by
  rw [mem_unionGrams, mem_explicit]
  exact exists_congr (fun p => and_congr_right (fun _ => mem_ext_iff.symm))

theorem explicit_ne_nil_iff {cs : Comps W} {c : List W} :
    explicit cs c ≠ [] ↔ ∃ x, (c, x) ∈ unionGrams cs :=
  ⟨fun h => (List.exists_mem_of_ne_nil _ h).imp (fun _ hx => mem_unionGrams_iff_explicit.2 hx),
    fun ⟨_, hx⟩ => List.ne_nil_of_mem (mem_unionGrams_iff_explicit.1 hx)⟩

def unionN (cs : Comps W) : List (List W) := (unionGrams cs).map (fun u => u.1 ++ [u.2])

theorem mem_unionN {cs : Comps W} {g : List W} :
    g ∈ unionN cs ↔ ∃ p ∈ cs, ∃ e ∈ p.2.entries, e.gram = g := by
  unfold unionN
  rw [List.mem_map]
  constructor
  · rintro ⟨u, hu, rfl⟩
    obtain ⟨p, hp, e, he, h1, h2⟩ := mem_unionGrams.1 (show (u.1, u.2) ∈ unionGrams cs from hu)
    exact ⟨p, hp, e, he, by rw [Entry.gram, h1, h2]⟩
  · rintro ⟨p, hp, e, he, rfl⟩
    exact ⟨(e.ctx, e.word), mem_unionGrams.2 ⟨p, hp, e, he, rfl, rfl⟩, rfl⟩

theorem mem_unionN_append {cs : Comps W} {c : List W} {x : W} :
    c ++ [x] ∈ unionN cs ↔ (c, x) ∈ unionGrams cs := by
  unfold unionN
  rw [List.mem_map]
  constructor
  · rintro ⟨u, hu, h⟩
    obtain ⟨h1, h2⟩ := List.append_singleton_inj.1 h
    rw [← h1, ← h2]
    exact hu
  · intro h
    exact ⟨(c, x), h, rfl⟩

theorem findGram_append (m : LM W) (c : List W) (w : W) : m.findGram (c ++ [w]) = m.find c w := by
  unfold LM.findGram LM.find
  congr 1
  funext e
  exact decide_eq_decide.2 List.append_singleton_inj

theorem findGram_some {m : LM W} {g : List W} {e : Entry W} (h : m.findGram g = some e) :
    e ∈ m.entries ∧ e.gram = g := by
  unfold LM.findGram at h
  have hp := List.find?_some h
  exact ⟨List.mem_of_find?_eq_some h, of_decide_eq_true hp⟩

theorem findGram_isSome_iff (m : LM W) (g : List W) :
    (m.findGram g).isSome = true ↔ ∃ e ∈ m.entries, e.gram = g := by
  unfold LM.findGram
  rw [List.find?_isSome]
  exact exists_congr (fun e => and_congr_right (fun _ => decide_eq_true_iff))

end Union

section Conditions
variable {W : Type} [DecidableEq W]

def EntriesOK (cs : Comps W) (V : List W) (bos : W) : Prop :=
  ∀ p ∈ cs, ∀ e ∈ p.2.entries, e.word ∈ V ∧ (e.ctx ≠ [] → e.word ≠ bos)

theorem explicit_ok {cs : Comps W} {V : List W} {bos : W} (h : EntriesOK cs V bos) :
    ∀ y c, ∀ x ∈ explicit cs (y :: c), x ∈ V ∧ x ≠ bos := by
  intro y c x hx
  obtain ⟨p, hp, hx⟩ := mem_explicit.1 hx
  obtain ⟨e, he, h1, h2⟩ := mem_ext_iff.1 hx
  have := h p hp e he
  rw [h2] at this
  exact ⟨this.1, this.2 (by rw [h1]; simp)⟩

/-- the union is closed under dropping the last word: the context of every union n-gram is a union
n-gram (true of lmplz models; checked on every generated component) -/
def PrefixClosedD (cs : Comps W) : Prop :=
  ∀ g ∈ unionGrams cs, g.1 ≠ [] → ∃ g' ∈ unionGrams cs, g'.1 ++ [g'.2] = g.1

theorem mem_unionN_of_explicit {cs : Comps W} (h : PrefixClosedD cs) {c : List W} (hc : c ≠ [])
    (hne : explicit cs c ≠ []) : c ∈ unionN cs := by
  obtain ⟨x, hx⟩ := explicit_ne_nil_iff.1 hne
  exact List.mem_map.2 (h (c, x) hx hc)

/-- every n-gram's suffix is an n-gram of the same component (`UnionSuffixClosed` asks it of the union only) -/
def SuffixClosed (m : LM W) : Prop :=
  ∀ e ∈ m.entries, e.ctx ≠ [] → (m.find e.ctx.tail e.word).isSome = true

end Conditions

section SuffixClosed
variable (cs : Comps Nat)

/-- the union n-gram set is closed under dropping the first word (lmplz models are); the mirror image of
`PrefixClosedD` -/
def UnionSuffixClosed : Prop :=
  ∀ g ∈ unionGrams cs, g.1 ≠ [] → (g.1.tail, g.2) ∈ unionGrams cs

theorem union_drop (h : UnionSuffixClosed cs) : ∀ (p c : List Nat) (x : Nat),
    (p ++ c, x) ∈ unionGrams cs → (c, x) ∈ unionGrams cs
  | [], _, _, hm => hm
  | y :: p, c, x, hm => union_drop h p c x (by simpa using h (y :: p ++ c, x) hm (by simp))

theorem explicit_drop (h : UnionSuffixClosed cs) (p c : List Nat) (hne : explicit cs (p ++ c) ≠ []) :
    explicit cs c ≠ [] := by
  obtain ⟨x, hx⟩ := explicit_ne_nil_iff.1 hne
  exact explicit_ne_nil_iff.2 ⟨x, union_drop cs h p c x hx⟩

theorem unionN_drop (h : UnionSuffixClosed cs) (p g : List Nat) (hg : g ≠ [])
    (hm : p ++ g ∈ unionN cs) : g ∈ unionN cs := by
  obtain ⟨g0, x, rfl⟩ := (List.eq_nil_or_concat g).resolve_left hg
  rw [List.concat_eq_append] at hm ⊢
  rw [← List.append_assoc, mem_unionN_append] at hm
  rw [mem_unionN_append]
  exact union_drop cs h p g0 x hm

end SuffixClosed

section Stuck
variable {W : Type} [DecidableEq W]

omit [DecidableEq W] in
theorem maxOrder_le (cs : Comps W) (n : Nat) (h : ∀ p ∈ cs, p.2.order ≤ n) : maxOrder cs ≤ n := by
  unfold maxOrder
  induction cs with
  | nil => simp
  | cons p ps ih =>
    simp only [List.map_cons, List.foldr_cons]
    exact Nat.max_le.2 ⟨h p List.mem_cons_self, ih (fun q hq => h q (List.mem_cons_of_mem _ hq))⟩

theorem hasBackoffRecord_iff (cs : Comps W) {g : List W} :
    hasBackoffRecord cs g = true ↔
      explicit cs g ≠ [] ∨ ∃ p ∈ cs, g.length < p.2.order ∧ ∃ e ∈ p.2.entries, e.gram = g := by
  unfold hasBackoffRecord
  simp only [Bool.or_eq_true, Bool.not_eq_eq_eq_not, Bool.not_true, List.isEmpty_eq_false_iff,
    List.any_eq_true, Bool.and_eq_true, decide_eq_true_eq, findGram_isSome_iff]

theorem mem_stuck (cs : Comps W) {g : List W} :
    g ∈ stuck cs ↔ g ∈ unionN cs ∧ g.length < maxOrder cs ∧ hasBackoffRecord cs g = false := by
  unfold stuck unionN
  rw [List.mem_filter, Bool.and_eq_true, decide_eq_true_eq, Bool.not_eq_true']

end Stuck

end KV.Interp
