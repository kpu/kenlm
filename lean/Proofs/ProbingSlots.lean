import Model.Probing
/-!
The buckets as a function `Nat → Option Entry`: writing one bucket (`set`), the number of occupied
buckets (`occ`) with the pigeonhole, and keys that are stored once (`KeysDistinct`) or not at all (`Fresh`).
-/
namespace KV.Probing

theorem ideal_lt (h : Nat → Nat) (N k : Nat) (hN : 0 < N) : ideal h N k < N := Nat.mod_lt _ hN

theorem set_self (s : Slots) (p : Nat) (x : Option Entry) : set s p x p = x := if_pos rfl

theorem set_ne (s : Slots) {p i : Nat} (x : Option Entry) (h : i ≠ p) : set s p x i = s i := if_neg h

theorem set_eq_some_iff (s : Slots) (p i : Nat) (x : Option Entry) (e : Entry) :
    set s p x i = some e ↔ (i = p ∧ x = some e) ∨ (i ≠ p ∧ s i = some e) := by
  by_cases h : i = p
  · subst h; rw [set_self]; simp
  · rw [set_ne s x h]; simp [h]

theorem set_mono (s : Slots) (q : Nat) (e : Entry) (x : Nat) (hx : s x ≠ none) : set s q (some e) x ≠ none := by
  unfold set; split
  · exact Option.some_ne_none e
  · exact hx

/-- the number of occupied buckets below `n` -/
def occ (s : Slots) : Nat → Nat
  | 0 => 0
  | n+1 => occ s n + (if (s n).isSome then 1 else 0)

theorem occ_le (s : Slots) : ∀ n, occ s n ≤ n := by
  intro n; induction n with
  | zero => simp [occ]
  | succ n ih => simp only [occ]; split <;> omega

theorem exists_hole (s : Slots) : ∀ n, occ s n < n → ∃ e, e < n ∧ s e = none := by
  intro n; induction n with
  | zero => intro h; omega
  | succ n ih =>
    intro h
    simp only [occ] at h
    cases hs : s n with
    | none => exact ⟨n, by omega, hs⟩
    | some en =>
      simp [hs] at h
      obtain ⟨e, he, hes⟩ := ih (by omega)
      exact ⟨e, by omega, hes⟩

theorem occ_congr (s s' : Slots) : ∀ n, (∀ i, i < n → s i = s' i) → occ s n = occ s' n := by
  intro n; induction n with
  | zero => intro _; rfl
  | succ n ih =>
    intro h
    simp only [occ]
    rw [ih (fun i hi => h i (by omega)), h n (by omega)]

theorem occ_empty : ∀ n, occ (fun _ => none) n = 0 := by
  intro n; induction n with
  | zero => rfl
  | succ n ih => simp [occ, ih]

theorem occ_set (s : Slots) (p : Nat) (x : Option Entry) : ∀ n, p < n →
    occ (set s p x) n + (if (s p).isSome then 1 else 0) = occ s n + (if x.isSome then 1 else 0) := by
  intro n; induction n with
  | zero => intro h; omega
  | succ n ih =>
    intro hp
    simp only [occ]
    by_cases hpn : p = n
    · subst hpn
      rw [occ_congr _ s p (fun i hi => set_ne s x (Nat.ne_of_lt hi)), set_self]; omega
    · rw [set_ne s x (Ne.symm hpn)]
      have := ih (by omega); omega

theorem occ_set_some (s : Slots) (p : Nat) (x : Entry) (n : Nat) (hp : p < n) (hs : s p = none) :
    occ (set s p (some x)) n = occ s n + 1 := by
  have := occ_set s p (some x) n hp
  rw [hs] at this; exact this

theorem occ_set_none (s : Slots) (p : Nat) (x : Entry) (n : Nat) (hp : p < n) (hs : s p = some x) :
    occ (set s p none) n + 1 = occ s n := by
  have := occ_set s p none n hp
  rw [hs] at this; exact this

theorem occ_extend (s : Slots) (n : Nat) : ∀ m, n ≤ m → (∀ x, n ≤ x → x < m → s x = none) →
    occ s m = occ s n := by
  intro m; induction m with
  | zero => intro h _; have : n = 0 := by omega
            subst this; rfl
  | succ m ih =>
    intro h hall
    by_cases hnm : n = m + 1
    · subst hnm; rfl
    · simp only [occ]
      rw [ih (by omega) (fun x h1 h2 => hall x h1 (by omega)), hall m (by omega) (by omega)]
      simp

/-- no key in two buckets (the field `distinct` of `WF` and of the loop invariant `J` of `Double` spell this out) -/
def KeysDistinct (s : Slots) (N : Nat) : Prop :=
  ∀ p q k v w, p < N → q < N → s p = some (k, v) → s q = some (k, w) → p = q

def Fresh (s : Slots) (N k : Nat) : Prop := ∀ p w, p < N → s p ≠ some (k, w)

theorem KeysDistinct.erase {s : Slots} {N : Nat} (hd : KeysDistinct s N) (i : Nat) :
    KeysDistinct (set s i none) N := by
  intro p q k v w hp hq h1 h2
  rw [set_eq_some_iff] at h1 h2
  rcases h1 with ⟨_, e⟩ | ⟨_, h1⟩
  · cases e
  · rcases h2 with ⟨_, e⟩ | ⟨_, h2⟩
    · cases e
    · exact hd p q k v w hp hq h1 h2

theorem KeysDistinct.erase_fresh {s : Slots} {N i k v : Nat} (hd : KeysDistinct s N) (hi : i < N)
    (hsi : s i = some (k, v)) : Fresh (set s i none) N k := by
  intro p w hp h
  rw [set_eq_some_iff] at h
  rcases h with ⟨_, e⟩ | ⟨hne, h⟩
  · cases e
  · exact hne (hd p i k w v hp hi h hsi)

theorem KeysDistinct.fill {s : Slots} {N k : Nat} (hd : KeysDistinct s N)
    (hfresh : Fresh s N k) (q v : Nat) :
    KeysDistinct (set s q (some (k, v))) N := by
  intro p p' k' v' w' hp hp' h1 h2
  rw [set_eq_some_iff] at h1 h2
  rcases h1 with ⟨rfl, e1⟩ | ⟨_, h1⟩ <;> rcases h2 with ⟨rfl, e2⟩ | ⟨_, h2⟩
  · rfl
  · cases e1; exact absurd h2 (hfresh p' w' hp')
  · cases e2; exact absurd h1 (hfresh p v' hp)
  · exact hd p p' k' v' w' hp hp' h1 h2

theorem Fresh.fill {s : Slots} {N k' : Nat} (hf : Fresh s N k') {k : Nat} (hk : k ≠ k') (q v : Nat) :
    Fresh (set s q (some (k, v))) N k' := by
  intro p w hp h
  rw [set_eq_some_iff] at h
  rcases h with ⟨_, e⟩ | ⟨_, h⟩
  · cases e; exact hk rfl
  · exact hf p w hp h

end KV.Probing
