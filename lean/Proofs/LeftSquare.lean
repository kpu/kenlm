import Proofs.LeftCases

/-!
# Open chart states are square (C08)

While `left_done_` is false every word scored so far sits in both halves of the chart state, so
`right.length = left.length`.  Consequently two branches of `RuleScore::NonTerminal` cannot be
taken for states that `RuleScore` itself produced:

* `left.hh:105-106`  (`out_->right.length == 0`, `!left_done_`, `out_->left.length != 0`);
* `left.hh:135-137`  (`!in.left.full` and `in.right.length < in.left.length`).

No hypothesis on the table or on the rest function is needed.
-/

namespace KV.Left
open KV.Arpa KV.Table KV.State KV.Score

def Sq (rs : RS) : Prop := rs.leftDone = false → rs.out.right.length = rs.out.left.length

def SqC (c : Chart) : Prop := c.left.full = false → c.right.length = c.left.length

theorem init_sq : Sq RS.init := by
  intro _; rfl

theorem beginSentence_sq (T : Table) (R : Ptr → Rat) (bos : Word) (rs : RS) : Sq (beginSentence T R bos rs) := by
  intro h; simp [beginSentence] at h

theorem finish_sq (order : Nat) {rs : RS} (h : Sq rs) : SqC (finish order rs).1 := by
  intro hf
  rw [finish_full, Bool.or_eq_false_iff] at hf
  exact h hf.1

theorem terminal_sq (T : Table) (R : Ptr → Rat) {rs : RS} (h : Sq rs) (w : Word) : Sq (terminal T R rs w) := by
  by_cases hd : rs.leftDone = true
  · rw [terminal_of_done R rs w hd]
    intro hd'; rw [show rs.leftDone = false from hd'] at hd; cases hd
  · have hd : rs.leftDone = false := by simpa using hd
    by_cases hi : (fullScore (restSearch T R) rs.out.right w).1.independentLeft = true
    · rw [terminal_indep R rs w hd hi]
      intro hd'; cases hd'
    · rw [terminal_push R rs w hd (by simpa using hi)]
      intro hd'
      have hlen : ((fullScore (restSearch T R) rs.out.right w).2.length != rs.out.right.length + 1) = false := hd'
      simp only [bne_eq_false_iff_eq] at hlen
      have h0 := h hd
      simp only [normS, LeftSt.length, List.length_append, List.length_singleton] at *
      omega

theorem loopFrom_open (T : Table) (R : Ptr → Rat) (seen : Nat) (add : List Word) (n : Nat) (ps : List Ptr)
    (v : ExtendReturn) (write : Bool) (hn : v.nextUse = n) (h : (loopFrom T R seen add n ps v write).makeFull = false) :
    v.makeFull = false ∧ (write = true → (loopFrom T R seen add n ps v write).nextUse = n ∧
      (loopFrom T R seen add n ps v write).written.length = v.written.length + ps.length) := by
  unfold loopFrom at h ⊢
  have h' : (extendLoopUse T R seen add _ _ _).1.makeFull = false := h
  rw [extendLoopUse_makeFull] at h'
  cases write with
  | false => exact ⟨h', fun hc => by cases hc⟩
  | true =>
    obtain ⟨e0, e1, e2, e3⟩ := extendLoopWrite_open T R seen add n ps 0 v hn h'
    simp only [if_true, e1]
    exact ⟨e0, fun _ => ⟨e2, e3⟩⟩

theorem nonTerminal_sq (T : Table) (R : Ptr → Rat) {rs : RS} {inC : Chart} (h : Sq rs) (hc : SqC inC) (p : Rat) :
    Sq (nonTerminal T R rs inC p) := by
  rcases nonTerminal_cases (T := T) R rs inC p with ⟨_, _, e⟩ | ⟨_, _, e⟩ | ⟨_, _, e⟩ | ⟨_, _, e⟩ <;> rw [e]
  · intro hd; cases hd
  · exact h
  · split
    · rename_i hd
      intro hd'; rw [hd] at hd'; cases hd'
    · split
      · intro hd'; cases hd'
      · exact hc
  · have key := loopFrom_open T R 0 rs.out.right.words rs.out.right.length inC.left.pointers (loopStart rs p)
      (!rs.leftDone) rfl
    generalize loopFrom T R 0 rs.out.right.words rs.out.right.length inC.left.pointers (loopStart rs p)
      (!rs.leftDone) = v at key ⊢
    rcases joinOut_cases inC rs v with ⟨_, e⟩ | ⟨_, _, e⟩ | ⟨_, hf, hlt, e⟩ | ⟨_, hf, _, e⟩ <;> rw [e]
    · intro hd; cases hd
    · intro hd; cases hd
    · have := hc hf; omega
    · -- still open: the loop ran in write mode to the end
      intro hd
      obtain ⟨e1, e23⟩ := key hd
      have e1' : rs.leftDone = false := e1
      obtain ⟨e2, e3⟩ := e23 (by rw [e1']; rfl)
      show inC.right.length + v.nextUse = v.written.length
      rw [e2, e3, hc hf, h e1']
      simp only [LeftSt.length, loopStart]
      omega

mutual

theorem applyItem_sq (T : Table) (R : Ptr → Rat) : ∀ (i : Item) {rs : RS}, Sq rs → Sq (applyItem T R rs i)
  | .term w, rs, h => by
    simp only [applyItem]; exact terminal_sq T R h w
  | .nt r, rs, h => by
    simp only [applyItem]
    exact nonTerminal_sq T R h (finish_sq T.order (applyRule_sq T R r init_sq)) _

theorem applyRule_sq (T : Table) (R : Ptr → Rat) : ∀ (r : Rule) {rs : RS}, Sq rs → Sq (applyRule T R rs r)
  | .nil, rs, h => by simpa [applyRule] using h
  | .cons i r, rs, h => by
    simp only [applyRule]
    exact applyRule_sq T R r (applyItem_sq T R i h)
end

theorem ruleScore_sq (T : Table) (R : Ptr → Rat) (bos : Option Word) (r : Rule) : SqC (ruleScore T R bos r).1 := by
  unfold ruleScore
  cases bos with
  | none => exact finish_sq _ (applyRule_sq T R r init_sq)
  | some b => exact finish_sq _ (applyRule_sq T R r (beginSentence_sq T R b RS.init))

end KV.Left
