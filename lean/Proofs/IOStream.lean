import Proofs.IO
/-! FileStream (util/file_stream.hh): nothing is lost, duplicated or reordered. -/
namespace KV.IO

/-- the stream invariant relative to `total` = concatenation of the arguments so far -/
def SInv (r : SRun) (total : Bytes) : Prop :=
  (r.res = .ok → r.sink ++ r.st.buf = total) ∧ (r.res ≠ .ok → r.sink <+: total)

theorem SInv.weaken {r : SRun} {total : Bytes} (h : SInv r total) (hne : r.res ≠ .ok) (c : Bytes) :
    SInv r (total ++ c) :=
  ⟨fun hh => absurd hh hne, fun _ => (h.2 hne).trans (List.prefix_append _ _)⟩

-- the whole stream state, buffer and capacity
@[simp] theorem absorb_cap (r : SRun) (o : Out) : (r.absorb o).st = r.st := rfl
@[simp] theorem absorb_res (r : SRun) (o : Out) : (r.absorb o).res = o.res := rfl
@[simp] theorem absorb_sink (r : SRun) (o : Out) : (r.absorb o).sink = r.sink ++ o.moved := rfl
@[simp] theorem setBuf_cap (r : SRun) (b : Bytes) : (r.setBuf b).st.cap = r.st.cap := rfl
@[simp] theorem setBuf_buf (r : SRun) (b : Bytes) : (r.setBuf b).st.buf = b := rfl
@[simp] theorem setBuf_res (r : SRun) (b : Bytes) : (r.setBuf b).res = r.res := rfl
@[simp] theorem setBuf_sink (r : SRun) (b : Bytes) : (r.setBuf b).sink = r.sink := rfl

section
variable (orc : Oracle) (fuel : Nat)

theorem absorb_write_inv (r : SRun) (data total : Bytes) (hs : r.sink = total) :
    let o := writeOrThrow orc fuel r.next data
    (o.res = .ok → (r.absorb o).sink = total ++ data) ∧ (o.res ≠ .ok → (r.absorb o).sink <+: total ++ data) := by
  have hsp := writeOrThrow_split orc fuel r.next data 0
  have hr := writeOrThrow_ok_rest orc fuel r.next data 0
  refine ⟨fun hok => ?_, fun _ => ?_⟩
  · have hm : (writeOrThrow orc fuel r.next data).moved = data := by
      have := hr hok; rw [this] at hsp; simpa using hsp
    simp [hm, hs]
  · refine ⟨(writeOrThrow orc fuel r.next data).rest, ?_⟩
    simp only [absorb_sink, List.append_assoc, hsp, hs]

theorem sFlush_cap (r : SRun) : (sFlush orc fuel r).st.cap = r.st.cap := by
  unfold sFlush
  split
  · rfl
  · split <;> simp

theorem sFlush_buf_le (r : SRun) : (sFlush orc fuel r).st.buf.length ≤ r.st.buf.length := by
  unfold sFlush
  split
  · exact Nat.le_refl _
  · split
    · simp
    · exact Nat.le_refl _

theorem sFlush_ok_buf (r : SRun) (h : (sFlush orc fuel r).res = .ok) :
    (sFlush orc fuel r).st.buf = [] := by
  unfold sFlush at h ⊢
  split
  · assumption
  · split
    · rfl
    · rename_i h1 h2
      rw [if_neg h1, if_neg h2] at h
      simp only [absorb_res] at h; exact absurd h h2

theorem sFlush_inv (r : SRun) (total : Bytes) (h : SInv r total) (hok : r.res = .ok) :
    SInv (sFlush orc fuel r) total := by
  unfold sFlush
  split
  · exact h
  · -- view the state as "sink accounts for `r.sink`, then write `buf`"
    have key := absorb_write_inv orc fuel r r.st.buf r.sink rfl
    rw [h.1 hok] at key
    split
    · next hres => exact ⟨fun _ => (List.append_nil _).trans (key.1 hres), fun hne => absurd hres hne⟩
    · next hres => exact ⟨fun h' => absurd h' hres, fun _ => key.2 hres⟩

theorem sWriteAfterFlush_cap (r1 : SRun) (data : Bytes) :
    (sWriteAfterFlush orc fuel r1 data).st.cap = r1.st.cap := by
  unfold sWriteAfterFlush
  split
  · rfl
  · split <;> simp

theorem sWrite_cap (r : SRun) (data : Bytes) : (sWrite orc fuel r data).st.cap = r.st.cap := by
  unfold sWrite
  split
  · simp
  · rw [sWriteAfterFlush_cap, sFlush_cap]

theorem sAppendIfOk_cap (r1 : SRun) (s : Bytes) : (sAppendIfOk r1 s).st.cap = r1.st.cap := by
  unfold sAppendIfOk; split <;> simp

theorem sInplace_cap (r : SRun) (amount : Nat) (s : Bytes) :
    (sInplace orc fuel r amount s).st.cap = r.st.cap := by
  unfold sInplace
  rw [sAppendIfOk_cap]
  split
  · exact sFlush_cap orc fuel r
  · rfl

theorem sStep_cap (r : SRun) (op : SOp) : (sStep orc fuel r op).st.cap = r.st.cap := by
  unfold sStep
  split
  · rfl
  · cases op with
    | flush => exact sFlush_cap orc fuel r
    | write data => exact sWrite_cap orc fuel r data
    | inplace amount s => exact sInplace_cap orc fuel r amount s

theorem sAppendIfOk_inv (r1 : SRun) (s total : Bytes) (h : SInv r1 total) : SInv (sAppendIfOk r1 s) (total ++ s) := by
  unfold sAppendIfOk
  split
  · rename_i hne; exact h.weaken hne s
  · rename_i hok'
    have hok : r1.res = .ok := by simpa using hok'
    refine ⟨fun _ => ?_, fun hne => absurd hok (by simpa using hne)⟩
    simp only [setBuf_sink, setBuf_buf, ← List.append_assoc, h.1 hok]

theorem sWriteAfterFlush_inv (r1 : SRun) (data total : Bytes) (h : SInv r1 total)
    (hb : r1.res = .ok → r1.st.buf = []) : SInv (sWriteAfterFlush orc fuel r1 data) (total ++ data) := by
  unfold sWriteAfterFlush
  split
  · rename_i hne; exact h.weaken hne data
  · rename_i hok'
    have hok : r1.res = .ok := by simpa using hok'
    have hbuf := hb hok
    have ht := h.1 hok
    rw [hbuf, List.append_nil] at ht
    split
    · refine ⟨fun _ => ?_, fun hne => absurd hok (by simpa using hne)⟩
      simp only [setBuf_sink, setBuf_buf, hbuf, List.nil_append, ht]
    · have key := absorb_write_inv orc fuel r1 data total ht
      refine ⟨fun hres => ?_, fun hne => key.2 (by simpa using hne)⟩
      simp only [absorb_res] at hres
      simp only [absorb_cap, hbuf, List.append_nil]
      exact key.1 hres

theorem sWrite_inv (r : SRun) (data total : Bytes) (h : SInv r total) (hok : r.res = .ok) :
    SInv (sWrite orc fuel r data) (total ++ data) := by
  unfold sWrite
  split
  · refine ⟨fun _ => ?_, fun hne => absurd hok (by simpa using hne)⟩
    simp only [setBuf_sink, setBuf_buf, ← List.append_assoc, h.1 hok]
  · exact sWriteAfterFlush_inv orc fuel _ data total (sFlush_inv orc fuel r total h hok) (sFlush_ok_buf orc fuel r)

theorem sInplace_inv (r : SRun) (amount : Nat) (s total : Bytes) (h : SInv r total)
    (hok : r.res = .ok) : SInv (sInplace orc fuel r amount s) (total ++ s) := by
  unfold sInplace
  apply sAppendIfOk_inv
  split
  · exact sFlush_inv orc fuel r total h hok
  · exact h

/-- one operation preserves the invariant (no precondition on sizes is needed for *content*) -/
theorem sStep_inv (r : SRun) (op : SOp) (total : Bytes) (h : SInv r total) :
    SInv (sStep orc fuel r op) (total ++ op.arg) := by
  unfold sStep
  split
  · rename_i hne; exact h.weaken hne _
  · rename_i hok0
    have hok : r.res = .ok := by simpa using hok0
    cases op with
    | flush =>
      simp only [SOp.arg, List.append_nil]
      exact sFlush_inv orc fuel r total h hok
    | write data => exact sWrite_inv orc fuel r data total h hok
    | inplace amount s => exact sInplace_inv orc fuel r amount s total h hok

theorem foldl_inv : ∀ (ops : List SOp) (r : SRun) (total : Bytes), SInv r total →
    SInv (ops.foldl (sStep orc fuel) r) (total ++ (ops.map SOp.arg).flatten) := by
  intro ops
  induction ops with
  | nil => intro r total h; simpa using h
  | cons op ops ih =>
    intro r total h
    simp only [List.foldl_cons, List.map_cons, List.flatten_cons, ← List.append_assoc]
    exact ih _ _ (sStep_inv orc fuel r op total h)

end

theorem foldl_cap (orc fuel) : ∀ (ops : List SOp) (r : SRun),
    (ops.foldl (sStep orc fuel) r).st.cap = r.st.cap := by
  intro ops
  induction ops with
  | nil => intro r; rfl
  | cons op ops ih => intro r; simp only [List.foldl_cons, ih, sStep_cap]

/-- an operation respects the buffer when in-place reservations are honest and fit -/
def SOp.fits (cap : Nat) : SOp → Prop
  | .inplace amount s => s.length ≤ amount ∧ amount ≤ cap
  | _ => True

section
variable (orc : Oracle) (fuel : Nat)

theorem sStep_flush_ok_buf (r : SRun) (h : (sStep orc fuel r .flush).res = .ok) :
    (sStep orc fuel r .flush).st.buf = [] := by
  unfold sStep at h ⊢
  split
  · next hne => rw [if_pos hne] at h; exact absurd h hne
  · next hne => rw [if_neg hne] at h; exact sFlush_ok_buf orc fuel r h

theorem sWriteAfterFlush_bounded (r1 : SRun) (data : Bytes) (hb : r1.st.buf.length ≤ r1.st.cap) :
    (sWriteAfterFlush orc fuel r1 data).st.buf.length ≤ r1.st.cap := by
  unfold sWriteAfterFlush
  split
  · exact hb
  · split
    · next h => rw [setBuf_buf, List.length_append]; exact h
    · exact hb

theorem sWrite_bounded (r : SRun) (data : Bytes) (hb : r.st.buf.length ≤ r.st.cap) :
    (sWrite orc fuel r data).st.buf.length ≤ r.st.cap := by
  unfold sWrite
  split
  · next h => rw [setBuf_buf, List.length_append]; exact h
  · rw [← sFlush_cap orc fuel r]
    exact sWriteAfterFlush_bounded orc fuel _ data (sFlush_cap orc fuel r ▸ Nat.le_trans (sFlush_buf_le orc fuel r) hb)

/-- `Ensure(amount)` flushes when the reservation does not fit, and an honest reservation fits an empty buffer -/
theorem sInplace_bounded (r : SRun) (amount : Nat) (s : Bytes) (hs : s.length ≤ amount)
    (ha : amount ≤ r.st.cap) (hb : r.st.buf.length ≤ r.st.cap) :
    (sInplace orc fuel r amount s).st.buf.length ≤ r.st.cap := by
  unfold sInplace sAppendIfOk
  by_cases hc : r.st.buf.length + amount > r.st.cap
  · simp only [if_pos hc]
    split
    · exact Nat.le_trans (sFlush_buf_le orc fuel r) hb
    · next hok =>
      rw [setBuf_buf, sFlush_ok_buf orc fuel r (Classical.not_not.mp hok), List.nil_append]
      exact Nat.le_trans hs ha
  · simp only [if_neg hc]
    split
    · exact hb
    · rw [setBuf_buf, List.length_append]
      exact Nat.le_trans (Nat.add_le_add_left hs _) (Nat.le_of_not_gt hc)

/-- the buffer never exceeds its capacity (the `assert(current_ + amount <= end_)` of `Ensure`) -/
theorem sStep_bounded (r : SRun) (op : SOp) (hfit : op.fits r.st.cap)
    (hb : r.st.buf.length ≤ r.st.cap) : (sStep orc fuel r op).st.buf.length ≤ r.st.cap := by
  unfold sStep
  split
  · exact hb
  · cases op with
    | flush => exact Nat.le_trans (sFlush_buf_le orc fuel r) hb
    | write data => exact sWrite_bounded orc fuel r data hb
    | inplace amount s => exact sInplace_bounded orc fuel r amount s hfit.1 hfit.2 hb

theorem SOp.fits_mono {c c' : Nat} (h : c ≤ c') : ∀ {op : SOp}, op.fits c → op.fits c'
  | .inplace _ _, hf => ⟨hf.1, Nat.le_trans hf.2 h⟩
  | .write _, _ | .flush, _ => trivial

theorem foldl_bounded : ∀ (ops : List SOp) (r : SRun), (∀ op ∈ ops, op.fits r.st.cap) →
    r.st.buf.length ≤ r.st.cap → (ops.foldl (sStep orc fuel) r).st.buf.length ≤ r.st.cap := by
  intro ops
  induction ops with
  | nil => exact fun _ _ h => h
  | cons op ops ih =>
    intro r hf hb
    rw [List.foldl_cons, ← sStep_cap orc fuel r op]
    refine ih _ ?_ ?_ <;> rw [sStep_cap]
    · exact fun o ho => hf o (List.mem_cons_of_mem _ ho)
    · exact sStep_bounded orc fuel r op (hf op List.mem_cons_self) hb

end

end KV.IO
