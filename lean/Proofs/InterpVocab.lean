import Proofs.InterpList
import Mathlib.Data.List.Nodup
/-!
Union vocabulary and renumbering (`merge_vocab.cc`, `universal_vocab.hh`, `Renumber`): words are
identified by their strings; every local id of every component is mapped to the universal id of
its string, injectively, and mapping back through the union vocabulary returns the string.
-/
namespace KV.Interp

theorem mem_unionVocab {ms : List LocalLM} {s : String} :
    s ∈ unionVocab ms ↔ s = "<unk>" ∨ ∃ m ∈ ms, s ∈ m.vocab := by
  unfold unionVocab
  rw [mem_dedup, List.mem_cons, List.mem_flatMap]

theorem nodup_unionVocab (ms : List LocalLM) : (unionVocab ms).Nodup := nodup_dedup _

theorem unionVocab_toUniv {ms : List LocalLM} {m : LocalLM} (hm : m ∈ ms) {i : Nat}
    (hi : i < m.vocab.length) :
    (unionVocab ms)[toUniv (unionVocab ms) m.vocab i]? = some m.vocab[i] := by
  unfold toUniv
  have hget : m.vocab.getD i "<unk>" = m.vocab[i] := by
    rw [List.getD_eq_getElem?_getD, List.getElem?_eq_getElem hi]; rfl
  rw [hget]
  have hmem : m.vocab[i] ∈ unionVocab ms :=
    mem_unionVocab.2 (Or.inr ⟨m, hm, List.getElem_mem hi⟩)
  have hlt := List.idxOf_lt_length_iff.2 hmem
  rw [List.getElem?_eq_getElem hlt, List.getElem_idxOf hlt]

theorem toUniv_inj {ms : List LocalLM} {m : LocalLM} (hm : m ∈ ms) (hnd : m.vocab.Nodup)
    {i j : Nat} (hi : i < m.vocab.length) (hj : j < m.vocab.length)
    (h : toUniv (unionVocab ms) m.vocab i = toUniv (unionVocab ms) m.vocab j) : i = j := by
  have h1 := unionVocab_toUniv hm hi
  have h2 := unionVocab_toUniv hm hj
  rw [h, h2] at h1
  have := Option.some.inj h1
  exact (List.Nodup.getElem_inj_iff hnd).1 this.symm

theorem toUniv_unk (uv : List String) {m : LocalLM} (h0 : m.vocab[0]? = some "<unk>") :
    toUniv uv m.vocab 0 = uv.idxOf "<unk>" := by
  unfold toUniv
  rw [List.getD_eq_getElem?_getD, h0]; rfl

/-- no statement uses this -/
theorem unionVocab_onto {ms : List LocalLM} {u : Nat} (hu : u < (unionVocab ms).length) :
    (unionVocab ms)[u] = "<unk>" ∨
      ∃ m ∈ ms, ∃ i, i < m.vocab.length ∧ toUniv (unionVocab ms) m.vocab i = u := by
  have hmem := List.getElem_mem hu
  rcases mem_unionVocab.1 hmem with h | ⟨m, hm, hs⟩
  · exact Or.inl h
  · right
    obtain ⟨i, hi, hget⟩ := List.getElem_of_mem hs
    refine ⟨m, hm, i, hi, ?_⟩
    have h1 := unionVocab_toUniv hm hi
    rw [hget] at h1
    have h2 : (unionVocab ms)[u]? = some (unionVocab ms)[u] := List.getElem?_eq_getElem hu
    have hlt : toUniv (unionVocab ms) m.vocab i < (unionVocab ms).length := by
      by_contra hcon
      rw [List.getElem?_eq_none (by omega)] at h1
      exact absurd h1 (by simp)
    rw [List.getElem?_eq_getElem hlt] at h1
    have := Option.some.inj h1
    exact (List.Nodup.getElem_inj_iff (nodup_unionVocab ms)).1 this

theorem mem_globalizeAll_entries (ms : List LocalLM) (ls : List ℚ) (hl : ls.length = ms.length)
    (c : List Nat) (w : Nat) :
    (∃ p ∈ globalizeAll ms ls, ∃ e ∈ p.2.entries, e.ctx = c ∧ e.word = w) ↔
      ∃ m ∈ ms, ∃ e ∈ m.entries, e.ctx.map (toUniv (unionVocab ms) m.vocab) = c ∧
        toUniv (unionVocab ms) m.vocab e.word = w := by
  unfold globalizeAll
  constructor
  · rintro ⟨p, hp, e, he, h1, h2⟩
    have hp2 := (List.of_mem_zip (show (p.1, p.2) ∈ _ from hp)).2
    rw [List.mem_map] at hp2
    obtain ⟨m, hm, hg⟩ := hp2
    rw [← hg] at he
    simp only [LocalLM.globalize, List.mem_map] at he
    obtain ⟨e0, he0, rfl⟩ := he
    exact ⟨m, hm, e0, he0, h1, h2⟩
  · rintro ⟨m, hm, e0, he0, h1, h2⟩
    obtain ⟨a, ha⟩ := exists_mem_zip_of_mem_right ls (ms.map (LocalLM.globalize (unionVocab ms)))
      (m.globalize (unionVocab ms)) (by simpa using hl) (List.mem_map.2 ⟨m, hm, rfl⟩)
    refine ⟨_, ha, ?_⟩
    simp only [LocalLM.globalize, List.mem_map]
    exact ⟨_, ⟨e0, he0, rfl⟩, h1, h2⟩

end KV.Interp
