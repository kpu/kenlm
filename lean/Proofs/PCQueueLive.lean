import Proofs.PCQueueStep
/-! What a state looks like in which no thread can step; deadlock freedom; the termination measure; what a maximal run
has delivered.  Core Lean only. -/
namespace KV.PCQueue

variable {s s' : State} {th : Thread} {t : Nat}

def Enabled (s : State) (th : Thread) : Prop :=
  match th.role, th.pc with
  | _, .done => False
  | .prod, .wait => s.empty ≠ 0
  | .prod, .lock => s.pmutex = none
  | .cons, .wait => s.used ≠ 0
  | .cons, .lock => s.cmutex = none
  | _, _ => True

/-- the guards of `step`, read in both directions (a producer at its body has an item by `ThreadOK`) -/
theorem step_ne_none_iff {t : Nat} (h : Core s) :
    step s t ≠ none ↔ ∃ th, s.threads[t]? = some th ∧ Enabled s th := by
  unfold step
  cases hth : s.threads[t]? with
  | none => simp
  | some th =>
    have ok := h.thr t th hth
    obtain ⟨role, pc, items, orig, quota, got⟩ := th
    cases role <;> cases pc <;> simp [Enabled]
    have := ok.p_nonempty rfl (Or.inr (Or.inr rfl))
    cases items with
    | nil => exact absurd rfl this
    | cons v r => simp

theorem Enabled.of_past (hp : th.pc = .body ∨ th.pc = .unlock ∨ th.pc = .post) : Enabled s th := by
  unfold Enabled
  rcases hp with e | e | e <;> rw [e] <;> cases th.role <;> trivial

theorem Enabled.ne_done (h : Enabled s th) : th.pc ≠ .done := by
  intro e
  unfold Enabled at h
  rw [e] at h
  cases th.role <;> exact h

theorem quiet_counts (h : Core s)
    (hq : ∀ (t : Nat) (th : Thread), s.threads[t]? = some th → th.pc = .wait ∨ th.pc = .done) :
    s.empty + s.used = s.cap ∧ s.writes.length = s.reads.length + s.used := by
  obtain ⟨zA, zB, zC, zD⟩ := quiet_sums hq
  have hacct := h.acct
  have hocc := h.occ
  omega

theorem remP_zero (h : Core s)
    (hd : ∀ (t : Nat) (th : Thread), s.threads[t]? = some th → th.role = .prod → th.pc = .done) :
    sumBy remP s.threads = 0 :=
  sumBy_eq_zero fun t th hth => by
    cases hr : th.role
    · simp [remP, hr, (h.thr t th hth).p_done hr (hd t th hth hr)]
    · simp [remP, hr]

theorem remC_zero (h : Core s)
    (hd : ∀ (t : Nat) (th : Thread), s.threads[t]? = some th → th.role = .cons → th.pc = .done) :
    sumBy remC s.threads = 0 :=
  sumBy_eq_zero fun t th hth => by
    cases hr : th.role
    · simp [remC, hr]
    · simp [remC, hr, (h.thr t th hth).c_done hr (hd t th hth hr)]

/-- If no thread can step, nobody is inside a critical section or about to post, so both mutexes are free and
nobody waits for one: every thread has finished or waits on a semaphore without tokens. -/
theorem stuck_quiet (h : Core s) (hstuck : ∀ t, step s t = none) {t : Nat} {th : Thread}
    (hth : s.threads[t]? = some th) :
    th.pc = .done ∨ (th.pc = .wait ∧ (th.role = .prod → s.empty = 0) ∧ (th.role = .cons → s.used = 0)) := by
  have blocked : ∀ {t : Nat} {th : Thread}, s.threads[t]? = some th → ¬ Enabled s th :=
    fun hth he => (step_ne_none_iff h).mpr ⟨_, hth, he⟩ (hstuck _)
  have free : ∀ {m : Option Nat} {H : Thread → Prop}, MutexOK m s.threads H →
      (∀ th, H th → th.pc = .body ∨ th.pc = .unlock) → m = none := by
    intro m H hm hH
    cases e : m with
    | none => rfl
    | some u =>
      obtain ⟨th', hth', hp⟩ := hm.1 u e
      exact absurd (.of_past ((hH th' hp).elim Or.inl fun e => Or.inr (Or.inl e))) (blocked hth')
  have hpm := free h.pm fun _ hp => hp.2
  have hcm := free h.cm fun _ hp => hp.2
  have hb := blocked hth
  unfold Enabled at hb
  cases hr : th.role <;> cases hp : th.pc <;> simp [hr, hp, hpm, hcm] at hb ⊢ <;> exact hb

theorem stuck_counts (h : Core s) (hstuck : ∀ t, step s t = none) :
    s.empty + s.used = s.cap ∧ s.writes.length = s.reads.length + s.used :=
  quiet_counts h fun _ _ hth => (stuck_quiet h hstuck hth).elim Or.inr fun hw => Or.inl hw.1

theorem no_deadlock_inv {d : Nat} (h : Inv d d s)
    (hwork : ∃ (t : Nat) (th : Thread), s.threads[t]? = some th ∧ th.pc ≠ .done) :
    ∃ tid, step s tid ≠ none := by
  apply Classical.byContradiction
  intro hn
  have hstuck := none_of_not_exists hn
  have hbal := h.balance
  have hcap := h.cap_pos
  replace h := h.core
  obtain ⟨hsem, hlen⟩ := stuck_counts h hstuck
  obtain ⟨t, th, hth, hnd⟩ := hwork
  obtain ⟨hw, hprod, hcons⟩ := (stuck_quiet h hstuck hth).resolve_left hnd
  cases hr : th.role
  · -- a producer waits and `empty = 0`: the ring is full, so no consumer waits, so all consumers are done
    have he := hprod hr
    have zQ := remC_zero h fun t' th' hth' hr' =>
      (stuck_quiet h hstuck hth').elim id fun hw' => by have := hw'.2.2 hr'; omega
    omega
  · -- a consumer waits and `used = 0`: the ring is empty, so no producer waits, so all producers are done
    have hu := hcons hr
    have zP := remP_zero h fun t' th' hth' hr' =>
      (stuck_quiet h hstuck hth').elim id fun hw' => by have := hw'.2.1 hr'; omega
    have hq : 0 < th.quota := (h.thr t th hth).c_pos hr (Or.inl hw)
    have : th.quota ≤ sumBy remC s.threads := by
      have := sumBy_le (f := remC) hth; simpa [remC, hr] using this
    omega

theorem stepsLeft_step (hth : s.threads[t]? = some th)
    (hs : step s t = some s') :
    ∃ th', s'.threads = s.threads.set t th' ∧ stepsLeft th' + 1 = stepsLeft th := by
  obtain ⟨role, pc, items, orig, quota, got⟩ := th
  rcases step_cases hth hs with ⟨pc', e, u, pm, cm, rfl, hrole⟩ | ⟨hr, hp, v, rest, hi, rfl⟩ | ⟨hr, hp, rfl⟩
  · refine ⟨_, rfl, ?_⟩
    -- by computation, move by move; after `post` it matters whether a call is left
    rcases hrole with ⟨hr, -, hm⟩ | ⟨hr, -, hm⟩ <;> cases hr <;> cases hm <;> simp [stepsLeft, pcRank, Thread.next]
    · cases items <;> simp [nextProd]; omega
    · by_cases hq : quota = 0 <;> simp [nextCons, hq]; omega
  · cases hr; cases hp; cases hi; exact ⟨_, rfl, by simp [stepsLeft, pcRank]⟩
  · cases hr; cases hp; exact ⟨_, rfl, by simp [stepsLeft, pcRank]⟩

theorem measure_step (hs : step s t = some s') : measure s' + 1 = measure s := by
  obtain ⟨th, hth⟩ := step_entry hs
  obtain ⟨th', hset, hdec⟩ := stepsLeft_step hth hs
  have := sumBy_set (f := stepsLeft) hth th'
  unfold measure
  rw [hset]
  omega

theorem stuck_delivered {d : Nat} (h : Inv d d s) (hmax : ∀ tid, step s tid = none) :
    (∀ (t : Nat) (th : Thread), s.threads[t]? = some th → th.pc = .done)
    ∧ s.reads.map (·.2) = s.writes.map (·.2)
    ∧ (∀ (t : Nat) (th : Thread), s.threads[t]? = some th → th.role = .prod → writesOf s.writes t = th.orig)
    ∧ s.used = 0 ∧ s.empty = s.cap := by
  have hd : ∀ (t : Nat) (th : Thread), s.threads[t]? = some th → th.pc = .done := fun t th hth =>
    Classical.byContradiction fun hnd =>
      let ⟨tid, ht⟩ := no_deadlock_inv h ⟨t, th, hth, hnd⟩
      ht (hmax tid)
  have hbal := h.balance
  replace h := h.core
  obtain ⟨hsem, hlen'⟩ := quiet_counts h fun t th hth => Or.inr (hd t th hth)
  have zP := remP_zero h fun t th hth _ => hd t th hth
  have zQ := remC_zero h fun t th hth _ => hd t th hth
  have hlen : s.reads.length = s.writes.length := by omega
  refine ⟨hd, ?_, fun t th hth hrole => ?_, by omega, by omega⟩
  · have := h.fifo
    rw [hlen, ← List.length_map (f := (·.2)), List.take_length] at this
    exact this
  · have := (h.thr t th hth).p_orig hrole
    rw [(h.thr t th hth).p_done hrole (hd t th hth), List.append_nil] at this
    exact this.symm

end KV.PCQueue
