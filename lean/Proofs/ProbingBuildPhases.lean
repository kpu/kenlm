import Proofs.ProbingBuildOps
import Proofs.ProbingBuildMarks
import Proofs.ProbingBuildKeys
/-! One line of `ReadNGrams` as its phases (`addLine_phases_mode`: insertion, `FindLower`, `AdjustLower`, `MarkLower`, `activate`), and
the table of an order in the builder's state (`tbl`, `setMid`, `setLongest`, `insPhase_ok`). -/
namespace KV.ProbingBuild
open KV.Arpa KV.Table KV.Score KV.ProbingLM

theorem adjustLower_single (combine : Nat → Word → Nat) (ar : Rat) (g : List Word) (n : Nat) (r : Ref) (s : St) :
    adjustLower combine false ar g n [r] s = .ok (s.modify r clr) := by
  simp only [adjustLower, markExtends, pure, Except.pure, Bool.false_eq_true, if_false]
  rfl

def withPay (o : Ord) (p : List W) : Ord := { o with pay := p }

def setMid (s : St) (k : Nat) (o : Ord) : St := { s with mid := s.mid.set k o }

theorem setMid_self (s : St) (l : Nat) (hl : l < s.mid.length) : setMid s l (s.mid.getD l default) = s := by
  unfold setMid
  have : s.mid.set l (s.mid.getD l default) = s.mid := by
    rw [List.getD_eq_getElem?_getD, List.getElem?_eq_getElem hl]; exact List.set_getElem_self hl
  rw [this]

/-- the table of order `m` (2 ≤ m ≤ N) -/
def tbl (N : Nat) (s : St) (m : Nat) : Ord := if m = N then s.longest else s.mid.getD (m - 2) default

def setLongest (s : St) (o : Ord) : St := { s with longest := o }

theorem tbl_mid (N : Nat) (s : St) (m : Nat) (h : m ≠ N) : tbl N s m = s.mid.getD (m - 2) default := by
  unfold tbl; simp [h]

theorem tbl_setMid (N : Nat) (s : St) (k : Nat) (o : Ord) (m : Nat) (hk : k < s.mid.length) :
    tbl N (setMid s k o) m = if m ≠ N ∧ m - 2 = k then o else tbl N s m := by
  unfold tbl setMid
  by_cases hm : m = N
  · simp [hm]
  · simp only [hm, if_false, ne_eq, not_false_eq_true, true_and, getD_set]
    by_cases h2 : m - 2 = k
    · simp [h2, hk]
    · simp [h2]

theorem tbl_setLongest (N : Nat) (s : St) (o : Ord) (m : Nat) :
    tbl N (setLongest s o) m = if m = N then o else tbl N s m := by
  unfold tbl setLongest
  by_cases hm : m = N <;> simp [hm]

theorem tbl_modify_uni (N : Nat) (s : St) (w : Word) (f : W → W) (m : Nat) : tbl N (s.modify (.uni w) f) m = tbl N s m := rfl

def insPhase (combine : Nat → Word → Nat) (N : Nat) (s : St) (g : List Word) (e : Entry) : Except BErr St :=
  if g.length == N then (s.longest.insert (hashOf combine g) (lineW e)).map (setLongest s)
  else ((s.mid.getD (g.length - 2) default).insert (hashOf combine g) (lineW e)).map (setMid s (g.length - 2))

theorem addLine_phases_mode (combine : Nat → Word → Nat) (rest : Bool) (N : Nat) (s : St) (g : List Word) (e : Entry) :
    addLine combine rest N s g e =
      (insPhase combine N s g e >>= fun s1 =>
        findLower combine g (g.length - 2) s1 [] >>= fun r =>
          adjustLower combine rest (lineW e).rest g g.length r.2 r.1 >>= fun s3 =>
            (if rest then markLower combine g (s3.get (r.2.getLastD (.uni 0))).rest (g.length - r.2.length - 1) s3 else .ok s3) >>=
              fun s4 => activate combine g g.length s4) := by
  unfold addLine insPhase
  cases rest <;> by_cases hN : (g.length == N) = true
  all_goals simp only [hN, Bool.false_eq_true, if_true, if_false, bind, Except.bind, Except.map, setLongest, setMid]
  -- the two sides differ only in how a failed insertion is passed on
  · cases s.longest.insert (hashOf combine g) (lineW e) <;> rfl
  · cases (s.mid.getD (g.length - 2) default).insert (hashOf combine g) (lineW e) <;> rfl
  · cases s.longest.insert (hashOf combine g) (lineW e) <;> rfl
  · cases (s.mid.getD (g.length - 2) default).insert (hashOf combine g) (lineW e) <;> rfl

theorem addLine_phases (combine : Nat → Word → Nat) (N : Nat) (s : St) (g : List Word) (e : Entry) :
    addLine combine false N s g e =
      (insPhase combine N s g e >>= fun s1 =>
        findLower combine g (g.length - 2) s1 [] >>= fun r =>
          adjustLower combine false (lineW e).rest g g.length r.2 r.1 >>= fun s3 => activate combine g g.length s3) :=
  addLine_phases_mode combine false N s g e

theorem insPhase_ok (combine : Nat → Word → Nat) (N : Nat) (s : St) (g : List Word) (e : Entry) (o' : Ord)
    (hn2 : 2 ≤ g.length) (hnN : g.length ≤ N) (hml : s.mid.length = N - 2)
    (hins : (tbl N s g.length).insert (hashOf combine g) (lineW e) = .ok o') :
    ∃ s1, insPhase combine N s g e = .ok s1 ∧ s1.uni = s.uni ∧ s1.mid.length = N - 2 ∧ tbl N s1 g.length = o' ∧
      ∀ m, m ≠ g.length → 2 ≤ m → tbl N s1 m = tbl N s m := by
  unfold insPhase
  by_cases hN : g.length = N
  · have hb : (g.length == N) = true := by simpa using hN
    unfold tbl at hins
    simp only [hN, if_true] at hins
    simp only [hN, beq_self_eq_true, if_true, hins, Except.map]
    refine ⟨setLongest s o', rfl, rfl, hml, ?_, ?_⟩
    · rw [tbl_setLongest]; simp
    · intro m hm _
      rw [tbl_setLongest]
      have : ¬ m = N := hm
      simp [this]
  · have hb : (g.length == N) = false := by simpa using hN
    unfold tbl at hins
    simp only [hN, if_false] at hins
    simp only [hb, Bool.false_eq_true, if_false, hins, Except.map]
    have hk : g.length - 2 < s.mid.length := by rw [hml]; omega
    refine ⟨setMid s (g.length - 2) o', rfl, rfl, by simp [setMid, hml], ?_, ?_⟩
    · rw [tbl_setMid _ _ _ _ _ hk]; simp [hN]
    · intro m hm h2
      rw [tbl_setMid _ _ _ _ _ hk]
      have : ¬ (m ≠ N ∧ m - 2 = g.length - 2) := by
        intro ⟨_, h⟩; apply hm; omega
      simp [this]

end KV.ProbingBuild
