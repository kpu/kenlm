import Model.IO
import Proofs.Basics
/-! Lemmas for C09: frames of the volatile image, the commit point, crash images. -/
namespace KV.IO.Fs

theorem firstIdx_none (p : Nat → Bool) : ∀ n, firstIdx p n = none → ∀ i, i < n → p i = false := by
  intro n
  induction n with
  | zero => intro _ i hi; cases hi
  | succ n ih =>
    intro h i hi
    rw [firstIdx] at h
    cases hf : firstIdx p n with
    | some j => rw [hf] at h; cases h
    | none =>
      rw [hf] at h
      cases hp : p n with
      | true => simp [hp] at h
      | false =>
        rcases Nat.lt_succ_iff_lt_or_eq.mp hi with hi | rfl
        · exact ih hf i hi
        · exact hp

theorem firstIdx_spec (p : Nat → Bool) : ∀ n c, firstIdx p n = some c →
    c < n ∧ p c = true ∧ ∀ i, i < c → p i = false := by
  intro n
  induction n with
  | zero => intro c h; cases h
  | succ n ih =>
    intro c h
    rw [firstIdx] at h
    cases hf : firstIdx p n with
    | some i =>
      obtain rfl : i = c := by simpa [hf] using h
      exact ⟨Nat.lt_succ_of_lt (ih i hf).1, (ih i hf).2⟩
    | none =>
      cases hp : p n with
      | false => simp [hf, hp] at h
      | true =>
        obtain rfl : n = c := by simpa [hf, hp] using h
        exact ⟨Nat.lt_succ_self _, hp, firstIdx_none p _ hf⟩

theorem vol_succ (t : Trace) (k : Nat) (e : Ev) (h : t[k]? = some e) :
    vol t (k + 1) = e.apply (vol t k) := by
  rw [vol, List.take_add_one, h, List.foldl_append]; rfl

theorem vol_beyond (t : Trace) (k : Nat) (h : t.length ≤ k) : vol t k = final t := by
  rw [final, vol, vol, List.take_of_length_le h, List.take_of_length_le (Nat.le_refl _)]

theorem apply_nonwrite (m : Img) (e : Ev) (h : e.isWrite = false) : e.apply m = m := by
  cases e <;> first | rfl | cases h

/-- what holds of the image after `a` events and is kept by every event with index in `[a, b)` holds after `b` events -/
theorem vol_induction (t : Trace) (P : Img → Prop) (a : Nat) (h0 : P (vol t a)) : ∀ b, a ≤ b → b ≤ t.length →
    (∀ j e, a ≤ j → j < b → t[j]? = some e → P (vol t j) → P (e.apply (vol t j))) → P (vol t b) := by
  intro b
  induction b with
  | zero => intro hab _ _; obtain rfl := Nat.le_zero.mp hab; exact h0
  | succ b ih =>
    intro hab hb step
    rcases Nat.lt_or_ge b a with hlt | hge
    · obtain rfl : a = b + 1 := Nat.le_antisymm hab hlt
      exact h0
    · have he : t[b]? = some t[b] := List.getElem?_eq_getElem hb
      rw [vol_succ t b _ he]
      exact step b _ hge (Nat.lt_succ_self b) he
        (ih hge (Nat.le_of_succ_le hb) fun j e h1 h2 => step j e h1 (Nat.lt_succ_of_lt h2))

theorem vol_frame (t : Trace) (a : Nat) : ∀ b, a ≤ b → b ≤ t.length →
    (∀ j e, a ≤ j → j < b → t[j]? = some e → e.isWrite = false) → vol t b = vol t a :=
  fun b hab hb hw => vol_induction t (· = vol t a) a rfl b hab hb fun j e h1 h2 he hj => by
    rw [apply_nonwrite _ _ (hw j e h1 h2 he), hj]

theorem vol_eq_final (t : Trace) (a : Nat) (ha : a ≤ t.length)
    (hw : ∀ j e, a ≤ j → j < t.length → t[j]? = some e → e.isWrite = false) : ∀ k, a ≤ k → vol t k = final t := by
  intro k hk
  rcases Nat.le_total k t.length with hle | hge
  · rw [final, vol_frame t a k hk hle fun j e h1 h2 => hw j e h1 (Nat.lt_of_lt_of_le h2 hle),
      vol_frame t a _ ha (Nat.le_refl _) hw]
  · exact vol_beyond t k hge

theorem get_beyond (m : Img) {i : Nat} (h : ¬ i < m.len) : m.get i = 0 := if_neg h

theorem get_trunc (m : Img) {n i : Nat} (h : i < n) : (m.trunc n).get i = m.get i := if_pos h

theorem get_write (m : Img) (off : Nat) (bs : Array Nat) (i : Nat) (h : off + bs.size ≤ i) :
    (m.write off bs).get i = m.get i := by
  have h1 : ¬ (off ≤ i ∧ i < off + bs.size) := fun hc => Nat.not_lt.mpr h hc.2
  simp only [Img.write, Img.get, h1, if_false]
  by_cases hi : i < m.len
  · rw [if_pos hi, if_pos (Nat.lt_of_lt_of_le hi (Nat.le_max_left ..))]
  · rw [if_neg hi, if_neg (Nat.not_lt.mpr (Nat.max_le.mpr ⟨Nat.not_lt.mp hi, h⟩))]

theorem apply_inHeader (m : Img) (e : Ev) (H : Nat) (h : e.inHeader H = true) (hl : H ≤ m.len) :
    (e.apply m).len = m.len ∧ ∀ i, H ≤ i → (e.apply m).get i = m.get i := by
  have write : ∀ off bs, off + bs.size ≤ H →
      (m.write off bs).len = m.len ∧ ∀ i, H ≤ i → (m.write off bs).get i = m.get i :=
    fun off bs h => ⟨Nat.max_eq_left (Nat.le_trans h hl), fun i hi => get_write m off bs i (Nat.le_trans h hi)⟩
  cases e with
  | pwrite off bs => exact write off bs (of_decide_eq_true h)
  | store off bs => exact write off bs (of_decide_eq_true h)
  | create | truncate n => cases h
  | msync | fsync | munmap | close => exact ⟨rfl, fun _ _ => rfl⟩

theorem vol_frame_header (t : Trace) (a H : Nat) (hl : H ≤ (vol t a).len) : ∀ b, a ≤ b → b ≤ t.length →
    (∀ j e, a ≤ j → j < b → t[j]? = some e → e.inHeader H = true) →
    (vol t b).len = (vol t a).len ∧ ∀ i, H ≤ i → (vol t b).get i = (vol t a).get i :=
  fun b hab hb hw =>
    vol_induction t (fun m => m.len = (vol t a).len ∧ ∀ i, H ≤ i → m.get i = (vol t a).get i) a ⟨rfl, fun _ _ => rfl⟩
      b hab hb fun j e h1 h2 he ⟨hlen, hget⟩ =>
        have hap := apply_inHeader (vol t j) e H (hw j e h1 h2 he) (hlen ▸ hl)
        ⟨hap.1.trans hlen, fun i hi => (hap.2 i hi).trans (hget i hi)⟩

theorem vol_header_final (t : Trace) (a H : Nat) (hl : H ≤ (vol t a).len) (ha : a ≤ t.length)
    (hw : ∀ j e, a ≤ j → j < t.length → t[j]? = some e → e.inHeader H = true) :
    ∀ k, a ≤ k → (vol t k).len = (final t).len ∧ ∀ i, H ≤ i → (vol t k).get i = (final t).get i := by
  intro k hk
  have hfin := vol_frame_header t a H hl _ ha (Nat.le_refl _) hw
  rcases Nat.le_total k t.length with hle | hge
  · have hk' := vol_frame_header t a H hl k hk hle fun j e h1 h2 => hw j e h1 (Nat.lt_of_lt_of_le h2 hle)
    exact ⟨hk'.1.trans hfin.1.symm, fun i hi => (hk'.2 i hi).trans (hfin.2 i hi).symm⟩
  · rw [vol_beyond t k hge]; exact ⟨rfl, fun _ _ => rfl⟩

theorem fullSync_covers (e : Ev) (len s : Nat) (h : e.fullSync len = true) : e.covers len s = true := by
  cases e <;> first | rfl | cases h | skip
  rename_i lo hi
  simp only [Ev.fullSync, Ev.covers, Bool.and_eq_true, decide_eq_true_eq] at h ⊢
  exact ⟨h.1 ▸ Nat.zero_le _, Nat.le_trans (Nat.min_le_right ..) h.2⟩

theorem fullSync_isSync (e : Ev) (len : Nat) (h : e.fullSync len = true) : e.isSync = true := by
  cases e <;> first | rfl | cases h

theorem prefixIs_iff (m : Img) (a : Array Nat) : prefixIs m a = true ↔ ∀ i, i < a.size → m.get i = a.getD i 0 := by
  simp only [prefixIs, List.all_eq_true, List.mem_range, beq_iff_eq]

theorem getD_of_none (t : Trace) (j : Nat) (h : t[j]? = none) : t.getD j .close = .close := by
  rw [List.getD_eq_getElem?_getD, h]; rfl

/-- the shape of `noWriteBetween` and `onlyHeaderBetween`: every event strictly between `a` and `b` passes the test `q` -/
theorem allBetween_spec (t : Trace) (a b : Nat) (q : Ev → Bool)
    (h : ((List.range t.length).all fun j => !(decide (a < j) && decide (j < b)) || q (t.getD j .close)) = true) :
    ∀ j e, a < j → j < b → t[j]? = some e → q e = true := by
  intro j e h1 h2 he
  have hj : j < t.length := (List.getElem?_eq_some_iff.mp he).1
  have := List.all_eq_true.mp h j (List.mem_range.mpr hj)
  simpa only [h1, h2, decide_true, Bool.and_self, Bool.not_true, Bool.false_or, getD_of_getElem? Ev.close he] using this

theorem noWriteBetween_spec (t : Trace) (a b : Nat) (h : noWriteBetween t a b = true) :
    ∀ j e, a < j → j < b → t[j]? = some e → e.isWrite = false :=
  fun j e h1 h2 he => by simpa using allBetween_spec t a b (fun e => !e.isWrite) h j e h1 h2 he

theorem onlyHeaderBetween_spec (t : Trace) (a b H : Nat) (h : onlyHeaderBetween t a b H = true) :
    ∀ j e, a < j → j < b → t[j]? = some e → e.inHeader H = true :=
  allBetween_spec t a b (fun e => e.inHeader H) h

theorem nonwrite_inHeader (e : Ev) (H : Nat) (h : e.isWrite = false) : e.inHeader H = true := by
  cases e <;> first | rfl | cases h

/-- the shape of `verOKB` and `lenOKB`: version `j` is not older than `k` and no event in `(j, k]` passes the test `q`
(an event the trace does not have counts as `close`, which passes neither test) -/
theorem okB_iff (t : Trace) (k j : Nat) (q : Nat → Ev → Bool) (hq : ∀ y, q y .close = false) :
    (decide (j ≤ k) && (List.range (k + 1)).all fun y =>
        !(decide (j < y) && decide (y ≤ k)) || !(q y (t.getD (y - 1) .close))) = true
      ↔ j ≤ k ∧ ∀ y, j < y → y ≤ k → ∀ e, t[y - 1]? = some e → q y e = false := by
  simp only [Bool.and_eq_true, decide_eq_true_eq, List.all_eq_true, List.mem_range, Bool.or_eq_true,
    Bool.not_eq_true', Bool.and_eq_false_imp, decide_eq_false_iff_not]
  refine and_congr_right fun _ => ⟨fun h y hjy hyk e he => ?_, fun h y _ => ?_⟩
  · rcases h y (Nat.lt_succ_of_le hyk) with h1 | h1
    · exact absurd hyk (h1 hjy)
    · rwa [getD_of_getElem? _ he] at h1
  · by_cases hc : j < y ∧ y ≤ k
    · right
      cases he : t[y - 1]? with
      | some e => rw [getD_of_getElem? _ he]; exact h y hc.1 hc.2 e he
      | none => rw [getD_of_none t _ he]; exact hq y
    · exact .inl fun h1 h2 => hc ⟨h1, h2⟩

theorem verOKB_iff (t : Trace) (k s j : Nat) : verOKB t k s j = true ↔ VerOK t k s j :=
  okB_iff t k j (fun y e => e.covers (vol t y).len s) fun _ => rfl

theorem lenOKB_iff (t : Trace) (k jl : Nat) : lenOKB t k jl = true ↔ LenOK t k jl :=
  okB_iff t k jl (fun _ e => e.isSync) fun _ => rfl

theorem crashImage_get (vols : Nat → Img) (jl : Nat) (choice : Nat → Nat) (i : Nat)
    (hi : i < (vols jl).len) : (crashImage vols jl choice).get i = (vols (choice (i / kSector))).get i :=
  if_pos hi

end KV.IO.Fs
