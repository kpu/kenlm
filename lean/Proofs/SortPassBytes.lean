import Proofs.SortFile
import Proofs.SortEntry
import Proofs.SortArity
/-! C16: the byte level threaded through every merge pass: each byte-level stage of the pipeline equals the record-level
stage (`…_eq`).  The byte-wise swap (SortBytes), `FileEntry`, `HolePunch` and the output block sizes are not used here: they
are fragments with theorems of their own in Properties/C16. -/
namespace KV.Sort
open List

theorem optAll_map_some {β γ : Type} (f : β → γ) : ∀ (l : List β), optAll (l.map (fun x => some (f x))) = some (l.map f)
  | [] => rfl
  | x :: xs => by simp [optAll, optAll_map_some f xs]

theorem storeRunsBytes_eq {E cap B : Nat} (hcap : Mult E cap) (pad : Buf)
    (runs : List (List (List Nat))) (hu : ∀ r ∈ runs, Uniform E r) :
    storeRunsBytes E cap B pad (runs.map List.length) runs = storeRunsLogged (runs.map List.length) runs := by
  unfold storeRunsBytes
  simp only
  rw [writeAndRecycle_stream, nil_append]
  have hlen : (runs.map List.length).map (· * E) = runs.map (fun r => r.length * E) := by
    rw [map_map]; rfl
  rw [hlen, map_length_bytesOf hu, readRunsBytes_eq_storeRunsLogged]
  show (match storeRuns (runs.map bytesOf) with | none => none | some rs => optAll (rs.map (decodeRun E cap))) = storeRuns runs
  rw [storeRuns_eq, storeRuns_eq]
  simp only
  have hdec : (nonempties (runs.map bytesOf)).map (decodeRun E cap) =
      (nonempties (runs.map bytesOf)).map (fun b => some (recordsOf E b)) := by
    apply map_congr_left
    intro b hb
    obtain ⟨r, hr, rfl⟩ := mem_map.mp (mem_nonempties.mp hb).1
    exact decodeRun_eq hcap _ ⟨r.length, by rw [length_bytesOf (hu r hr), Nat.mul_comm]⟩
  rw [hdec, optAll_map_some, nonempties_map_bytesOf hcap.pos_base runs hu]

theorem afterBlockSorter_uniform {E : Nat} (lt : List Nat → List Nat → Bool) (blocks : List Block)
    {runs : List (List (List Nat))} (hr : afterBlockSorter lt (blocks.map (Block.records E)) = some runs) :
    ∀ r ∈ runs, Uniform E r := by
  rw [afterBlockSorter_eq] at hr
  cases hr
  refine uniform_flatten.mp fun x hx => ?_
  obtain ⟨b, hb, hxb⟩ := mem_flatten.mp ((initialRuns_perm lt _).subset hx)
  obtain ⟨blk, _, rfl⟩ := mem_map.mp hb
  exact recordsOf_uniform _ x hxb

theorem codeSortBytes_eq {s : Nat} (hs : 0 < s) {lt : List Nat → List Nat → Bool} {comb} {pick} {cfg : Cfg}
    {lazyMem : Nat} {blocks : List Block} (hw : ∀ b ∈ blocks, b.wf s) :
    codeSortBytes s lt comb pick cfg lazyMem blocks =
      (codeSort lt comb pick cfg lazyMem (blocks.map (Block.records s))).map (fun r => (bytesOf r.1, r.2)) := by
  unfold codeSortBytes codeSort
  rw [afterBlockSorterBytes_eq hs hw]
  cases afterBlockSorter lt (blocks.map (Block.records s)) with
  | none => rfl
  | some runs =>
    simp only
    cases codeMerge lt comb pick cfg lazyMem runs with
    | error e => rfl
    | ok m => simp only; cases codeFinal lt comb pick cfg lazyMem m.runs <;> rfl

theorem Combined.uniform {comb : List Nat → List Nat → Option (List Nat)}
    (hcomb : ∀ a b c, comb a b = some c → c.length = a.length) {E : Nat} {l l' : List (List Nat)}
    (hl : Combined comb l l') (hu : Uniform E l) : Uniform E l' :=
  hl.forall (P := fun x : List Nat => x.length = E) (fun a b c hc ha => (hcomb a b c hc).trans ha) hu

/-! `hcomb`: the combiner keeps the size of the record it combines into (`NeverCombine` trivially; `CombineCounts` adds
into the count field). -/
section
variable {lt : List Nat → List Nat → Bool} (h : StrictWeak lt) {comb : List Nat → List Nat → Option (List Nat)}
  (hcomb : ∀ a b c, comb a b = some c → c.length = a.length) (pick : Pick (List Nat)) {cfg : Cfg} (L : LegalCfg cfg)
  (pad : Buf)
include h hcomb

theorem codePass_uniform (reading : Nat)
    {runs runs' : List (List (List Nat))} (hu : ∀ r ∈ runs, Uniform cfg.entrySize r)
    (hp : codePass lt comb pick cfg reading runs = .ok runs') : ∀ r ∈ runs', Uniform cfg.entrySize r := by
  by_cases h2 : 2 ≤ runs.length
  · obtain ⟨sizes, rfl⟩ := codePass_refines hp h2
    exact uniform_flatten.mp (Combined.uniform hcomb (passOut_combined h sizes runs) (uniform_flatten.mpr hu))
  · match runs, h2 with
    | [], _ => simp only [codePass, Except.ok.injEq] at hp; subst hp; exact hu
    | [r], _ => simp only [codePass, Except.ok.injEq] at hp; subst hp; exact hu
    | _ :: _ :: _, h2 => simp at h2

include L

theorem codePassBytes_eq (reading : Nat) (runs : List (List (List Nat))) (hu : ∀ r ∈ runs, Uniform cfg.entrySize r) :
    codePassBytes lt comb pick cfg pad reading runs = codePass lt comb pick cfg reading runs := by
  match runs with
  | [] => rfl
  | [r] => rfl
  | r1 :: r2 :: rs =>
    rw [codePass_two]
    simp only [codePassBytes]
    cases hg : codeGroups cfg.entrySize cfg.bufferSize reading false (r1 :: r2 :: rs).length (r1 :: r2 :: rs) with
    | error e => rfl
    | ok gs =>
      have hun : ∀ r ∈ gs.map (mergeGroup lt comb pick), Uniform cfg.entrySize r := by
        intro r hr
        obtain ⟨g, hgm, rfl⟩ := mem_map.mp hr
        rw [← codeGroups_split hg] at hgm
        refine Combined.uniform hcomb (mergeGroup_combined h g) fun x hx => ?_
        obtain ⟨run, hrun, hxr⟩ := mem_flatten.mp hx
        exact hu run (mem_of_mem_splitGroups hgm hrun) x hxr
      simp only [map_mergeWritten, storeRunsBytes_eq L.mult pad _ hun]
      rw [show storeRunsLogged _ _ = storeRuns _ from rfl, storeRuns_eq]
      rfl

theorem codeMergeLoopBytes_eq (lazyMem : Nat) : ∀ (fuel : Nat) (runs : List (List (List Nat))) (n : Nat),
      (∀ r ∈ runs, Uniform cfg.entrySize r) →
      codeMergeLoopBytes lt comb pick cfg pad lazyMem fuel runs n =
        codeMergeLoop lt comb pick cfg lazyMem fuel runs n := by
  intro fuel
  induction fuel with
  | zero =>
    intro runs n _
    unfold codeMergeLoopBytes codeMergeLoop
    rfl
  | succ fuel ih =>
    intro runs n hu
    unfold codeMergeLoopBytes codeMergeLoop
    simp only
    split
    · rfl
    · rw [codePassBytes_eq h hcomb pick L pad _ runs hu]
      cases hp : codePass lt comb pick cfg
          (if dataSize cfg runs < cfg.totalMemory - 2 * cfg.bufferSize then dataSize cfg runs
            else cfg.totalMemory - 2 * cfg.bufferSize) runs with
      | error e => rfl
      | ok runs' => exact ih runs' (n + 1) (codePass_uniform h hcomb pick _ hu hp)

theorem codeMergeBytes_eq (lazyMem : Nat) (runs : List (List (List Nat))) (hu : ∀ r ∈ runs, Uniform cfg.entrySize r) :
    codeMergeBytes lt comb pick cfg pad lazyMem runs = codeMerge lt comb pick cfg lazyMem runs := by
  unfold codeMergeBytes codeMerge
  rw [codeMergeLoopBytes_eq h hcomb pick L pad lazyMem _ runs 0 hu]
  split
  · rfl
  · cases codeMergeLoop lt comb pick cfg lazyMem runs.length runs 0 with
    | error e => rfl
    | ok p => obtain ⟨a, b⟩ := p; rfl

theorem codeSortBytesPasses_eq (lazyMem : Nat) (blocks : List Block) (hw : ∀ b ∈ blocks, b.wf cfg.entrySize) :
    codeSortBytesPasses lt comb pick cfg pad lazyMem blocks =
      codeSortBytes cfg.entrySize lt comb pick cfg lazyMem blocks := by
  unfold codeSortBytesPasses codeSortBytes
  cases hab : afterBlockSorterBytes cfg.entrySize lt blocks with
  | none => rfl
  | some runs =>
    simp only
    rw [afterBlockSorterBytes_eq L.mult.pos_base hw] at hab
    rw [codeMergeBytes_eq h hcomb pick L pad lazyMem runs (afterBlockSorter_uniform lt blocks hab)]

end

theorem neverCombine_length (a b c : List Nat) (h : neverCombine a b = some c) : c.length = a.length := nomatch h

end KV.Sort
