import Proofs.FilterInter
import Proofs.InsertionSort
/-!
The vocabulary filters of lm/filter/vocab.hh over sentence ids: `std::sort` by size keeps the set
of ranges; posting lists are strictly increasing and list exactly the sentences that contain the
word; the ranges gathered for an n-gram; `vocab::Single::PassNGram`, `vocab::Union::PassNGram`,
`vocab::Multiple::AddNGram` (`multiVerdict_spec`).
-/
namespace KV.Filter

variable {c : Nat} {sets : List (List Nat)}

/-- the words of an n-gram that the vocabulary filters look at: all but the `<tags>` -/
abbrev nonTags (ws : List Bytes) : List Bytes := ws.filter (fun w => !isTag w)

/-- sentence `c` of the vocabulary file exists and contains the word `w` -/
abbrev InSent (sents : List (List Bytes)) (c : Nat) (w : Bytes) : Prop := ∃ sent, sents[c]? = some sent ∧ w ∈ sent

/-! `std::sort(.., RangeLessBySize)` (`sortBySize`): all that is used of the sort is that it keeps the set of ranges. -/

theorem insertBySize_eq (s : List Nat) : ∀ l, insertBySize s l = insertBy (fun s t => decide (s.length ≤ t.length)) s l
  | [] => rfl
  | t :: ts => by rw [insertBySize, insertBy_decide (fun s t : List Nat => s.length ≤ t.length), insertBySize_eq s ts]

theorem mem_sortBySize (t : List Nat) (l : List (List Nat)) : t ∈ sortBySize l ↔ t ∈ l := by
  rw [sortBySize, foldr_eq_insertionSort insertBySize_eq]; exact (insertionSort_perm _ l).mem_iff

theorem sortBySize_ne_nil {l : List (List Nat)} (h : l ≠ []) : sortBySize l ≠ [] := by
  obtain ⟨s, hs⟩ := List.exists_mem_of_ne_nil l h
  exact List.ne_nil_of_mem ((mem_sortBySize s l).mpr hs)

theorem sortBySize_allInc {l : List (List Nat)} (h : AllInc l) : AllInc (sortBySize l) :=
  fun s hs => h s ((mem_sortBySize s l).mp hs)

theorem sortBySize_common {l : List (List Nat)} : Common c (sortBySize l) ↔ Common c l :=
  ⟨fun h s hs => h s ((mem_sortBySize s l).mpr hs), fun h s hs => h s ((mem_sortBySize s l).mp hs)⟩

theorem mem_postingFrom (w : Bytes) : ∀ (sents : List (List Bytes)) (i c : Nat),
    c ∈ postingFrom w i sents ↔ ∃ j sent, c = i + j ∧ sents[j]? = some sent ∧ w ∈ sent
  | [], i, c => ⟨nofun, fun ⟨_, _, _, h, _⟩ => nomatch h⟩
  | s :: ss, i, c => by
    have hmem : c ∈ postingFrom w i (s :: ss) ↔ (c = i ∧ w ∈ s) ∨ c ∈ postingFrom w (i+1) ss := by
      rw [postingFrom]
      split
      · rename_i hs
        rw [List.mem_cons]
        exact or_congr_left ⟨fun e => ⟨e, List.contains_iff_mem.mp hs⟩, fun e => e.1⟩
      · rename_i hs
        exact ⟨Or.inr, fun h => h.elim (fun e => absurd (List.contains_iff_mem.mpr e.2) hs) id⟩
    rw [hmem, mem_postingFrom w ss (i+1) c]
    constructor
    · rintro (⟨rfl, hw⟩ | ⟨j, sent, rfl, h1, h2⟩)
      · exact ⟨0, s, rfl, rfl, hw⟩
      · exact ⟨j+1, sent, Nat.add_right_comm i 1 j, h1, h2⟩
    · rintro ⟨j, sent, rfl, h1, h2⟩
      cases j with
      | zero => injection h1 with h1; exact Or.inl ⟨rfl, h1 ▸ h2⟩
      | succ j => exact Or.inr ⟨j, sent, (Nat.add_right_comm i 1 j).symm, h1, h2⟩

theorem postingFrom_inc (w : Bytes) : ∀ (sents : List (List Bytes)) (i : Nat), Inc (postingFrom w i sents)
  | [], _ => List.Pairwise.nil
  | s :: ss, i => by
    rw [postingFrom]
    split
    · refine List.pairwise_cons.mpr ⟨fun c hc => ?_, postingFrom_inc w ss (i+1)⟩
      obtain ⟨j, _, rfl, _⟩ := (mem_postingFrom w ss (i+1) _).mp hc
      exact Nat.lt_of_lt_of_le (Nat.lt_succ_self i) (Nat.le_add_right _ j)
    · exact postingFrom_inc w ss (i+1)

theorem posting_eq (sents : List (List Bytes)) (w : Bytes) :
    posting sents w = if postingFrom w 0 sents = [] then none else some (postingFrom w 0 sents) := by
  unfold posting
  split <;> simp_all

variable {sents : List (List Bytes)} {w : Bytes} {ws : List Bytes}

theorem posting_some {p : List Nat} (hp : posting sents w = some p) : p = postingFrom w 0 sents ∧ p ≠ [] := by
  rw [posting_eq] at hp
  split at hp
  · cases hp
  · injection hp with hp
    exact ⟨hp.symm, hp ▸ ‹_›⟩

theorem mem_posting {p : List Nat} (hp : posting sents w = some p) (c : Nat) : c ∈ p ↔ InSent sents c w := by
  rw [(posting_some hp).1, mem_postingFrom]
  exact ⟨fun ⟨j, sent, e, h1, h2⟩ => ⟨sent, by rwa [e, Nat.zero_add], h2⟩, fun ⟨sent, h⟩ => ⟨c, sent, (Nat.zero_add c).symm, h⟩⟩

theorem posting_inc {p : List Nat} (hp : posting sents w = some p) : Inc p :=
  (posting_some hp).1 ▸ postingFrom_inc w sents 0

theorem posting_of_mem (h : InSent sents c w) :
    posting sents w = some (postingFrom w 0 sents) := by
  obtain ⟨sent, h⟩ := h
  have hc : c ∈ postingFrom w 0 sents := (mem_postingFrom w sents 0 c).mpr ⟨c, sent, (Nat.zero_add c).symm, h⟩
  rw [posting_eq, if_neg (List.ne_nil_of_mem hc)]

theorem gatherSets_iff (sents : List (List Bytes)) : ∀ (ws : List Bytes) (sets : List (List Nat)),
    gatherSets sents ws = some sets ↔ (nonTags ws).map (posting sents) = sets.map some
  | [], sets => by cases sets <;> simp [gatherSets]
  | w :: ws, sets => by
    have ih := gatherSets_iff sents ws
    unfold nonTags at ih ⊢
    by_cases ht : isTag w = true
    · rw [gatherSets, if_pos ht, List.filter_cons_of_neg (by simp [ht])]
      exact ih sets
    · rw [gatherSets, if_neg ht, List.filter_cons_of_pos (by simpa using ht), List.map_cons]
      cases hp : posting sents w with
      | none => cases sets <;> simp
      | some p =>
        cases sets with
        | nil => simp
        | cons s sets =>
          rw [Option.map_eq_some_iff, List.map_cons, List.cons.injEq, Option.some.injEq]
          constructor
          · rintro ⟨t, ht, e⟩
            injection e with e1 e2
            subst e1 e2
            exact ⟨rfl, (ih _).mp ht⟩
          · rintro ⟨rfl, h⟩
            exact ⟨sets, (ih _).mpr h, rfl⟩

theorem gatherSets_nil_iff (e : gatherSets sents ws = some sets) :
    sets = [] ↔ nonTags ws = [] := by
  rw [← List.map_eq_nil_iff (f := some), ← (gatherSets_iff sents ws sets).mp e, List.map_eq_nil_iff]

theorem gatherSets_allInc (e : gatherSets sents ws = some sets) : AllInc sets := fun s hs => by
  have hm : some s ∈ sets.map some := List.mem_map_of_mem hs
  rw [← (gatherSets_iff sents ws sets).mp e] at hm
  obtain ⟨w, _, hw⟩ := List.mem_map.mp hm
  exact posting_inc hw

theorem gatherSets_common (e : gatherSets sents ws = some sets) (c : Nat) :
    Common c sets ↔ ∀ w ∈ nonTags ws, InSent sents c w := by
  have h := (gatherSets_iff sents ws sets).mp e
  constructor
  · intro hc w hw
    have hm : posting sents w ∈ (nonTags ws).map (posting sents) := List.mem_map_of_mem hw
    rw [h] at hm
    obtain ⟨s, hs, hsw⟩ := List.mem_map.mp hm
    exact (mem_posting hsw.symm c).mp (hc s hs)
  · intro hall s hs
    have hm : some s ∈ sets.map some := List.mem_map_of_mem hs
    rw [← h] at hm
    obtain ⟨w, hw, hsw⟩ := List.mem_map.mp hm
    exact (mem_posting hsw c).mpr (hall w hw)

theorem gatherSets_isSome : (∃ sets, gatherSets sents ws = some sets) ↔ ∀ w ∈ nonTags ws, ∃ c, InSent sents c w := by
  constructor
  · rintro ⟨sets, e⟩ w hw
    have hm : posting sents w ∈ (nonTags ws).map (posting sents) := List.mem_map_of_mem hw
    rw [(gatherSets_iff sents ws sets).mp e] at hm
    obtain ⟨p, _, hp⟩ := List.mem_map.mp hm
    obtain ⟨c, hc⟩ := List.exists_mem_of_ne_nil p (posting_some hp.symm).2
    exact ⟨c, (mem_posting hp.symm c).mp hc⟩
  · intro h
    refine ⟨(nonTags ws).map (postingFrom · 0 sents), (gatherSets_iff sents ws _).mpr ?_⟩
    rw [List.map_map]
    refine List.map_congr_left fun w hw => ?_
    obtain ⟨c, hc⟩ := h w hw
    exact posting_of_mem hc

theorem gatherSets_none (hg : gatherSets sents ws = none) (c : Nat) : ¬ ∀ w ∈ nonTags ws, InSent sents c w := fun h => by
  obtain ⟨sets, e⟩ := gatherSets_isSome.mpr fun w hw => ⟨c, h w hw⟩
  rw [hg] at e; cases e

/-! The modes with one output (`single`, `union`) write a line or drop it: their verdict is
`if pass then .all else .only []`. -/

theorem Verdict.ite_eq_all (c : Bool) : (if c then Verdict.all else .only []) = .all ↔ c = true := by
  cases c
  · exact ⟨nofun, nofun⟩
  · exact ⟨fun _ => rfl, fun _ => rfl⟩

theorem Verdict.ite_cases (c : Bool) :
    (if c then Verdict.all else .only []) = .all ∨ (if c then Verdict.all else .only []) = .only [] := by
  cases c
  · exact Or.inr rfl
  · exact Or.inl rfl

theorem Verdict.ite_copies_le_one (c : Bool) (k : Nat) : (if c then Verdict.all else .only []).copies k ≤ 1 := by
  cases c
  · exact Nat.zero_le 1
  · exact Nat.le_refl 1

theorem passSingle_iff (V ws : List Bytes) : passSingle V ws = true ↔ ∀ w ∈ ws, isTag w = true ∨ w ∈ V := by
  simp only [passSingle, List.all_eq_true, Bool.or_eq_true, List.contains_iff_mem]

theorem passUnion_iff (sents : List (List Bytes)) (ws : List Bytes) :
    passUnion sents ws = true ↔
      ∃ c : Nat, ∀ w ∈ nonTags ws, InSent sents c w := by
  unfold passUnion
  cases hg : gatherSets sents ws with
  | none => exact ⟨nofun, fun ⟨c, hc⟩ => (gatherSets_none hg c hc).elim⟩
  | some sets =>
    cases sets with
    | nil => exact ⟨fun _ => ⟨0, (gatherSets_common hg 0).mp nofun⟩, fun _ => rfl⟩
    | cons s0 rest =>
      show (firstInter (sortBySize (s0 :: rest))).isSome = true ↔ _
      rw [firstInter_isSome_iff (sortBySize_ne_nil (List.cons_ne_nil _ _)) (sortBySize_allInc (gatherSets_allInc hg))]
      exact exists_congr fun c => sortBySize_common.trans (gatherSets_common hg c)

theorem multiVerdict_spec (sents : List (List Bytes)) (ws : List Bytes) :
    (multiVerdict sents ws = .all ↔ nonTags ws = []) ∧
    ∀ ks, multiVerdict sents ws = .only ks →
      Inc ks ∧ ∀ s : Nat, s ∈ ks ↔ nonTags ws ≠ [] ∧ ∀ w ∈ nonTags ws, InSent sents s w := by
  unfold multiVerdict
  cases hg : gatherSets sents ws with
  | none =>
    refine ⟨⟨nofun, fun hnil => (gatherSets_none hg 0 (hnil ▸ nofun)).elim⟩, fun ks hks => ?_⟩
    injection hks with hks; subst hks
    exact ⟨List.Pairwise.nil, fun s => ⟨nofun, fun h => (gatherSets_none hg s h.2).elim⟩⟩
  | some sets =>
    have hnil := gatherSets_nil_iff hg
    cases sets with
    | nil => exact ⟨⟨fun _ => hnil.mp rfl, fun _ => rfl⟩, nofun⟩
    | cons s0 rest =>
      have hne : nonTags ws ≠ [] := fun h => nomatch (hnil.mpr h)
      refine ⟨⟨nofun, fun h => absurd h hne⟩, fun ks hks => ?_⟩
      injection hks with hks; subst hks
      obtain ⟨h1, h2⟩ := allInter_spec (sortBySize_ne_nil (List.cons_ne_nil s0 rest)) (sortBySize_allInc (gatherSets_allInc hg))
      refine ⟨h2, fun s => ?_⟩
      rw [h1 s, sortBySize_common, gatherSets_common hg s]
      exact (and_iff_right hne).symm

end KV.Filter
