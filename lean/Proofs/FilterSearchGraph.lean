import Proofs.FilterSearchSpec
import Proofs.FilterPhrase
/-!
`buildGraph` is a well-formed graph, and it accepts (`PAcc` at the last vertex) exactly the
sentences that the declarative graph model `graphAccept` accepts.
-/
namespace KV.Filter

variable {sents : List (List (List Bytes))} {g : List Bytes} {s : Nat}

theorem mem_sentsWhere {P : List (List Bytes) → Bool} :
    s ∈ sentsWhere sents P ↔ s < sents.length ∧ P (sents.getD s []) = true := by
  simp [sentsWhere]

/-- the four kinds of arcs of `BuildGraph`: right-aligned from before the n-gram, the whole
n-gram inside one phrase; and after a first part `x`: a whole phrase between two word positions,
left-aligned into the last vertex -/
theorem mem_buildGraph {a : PArc} : a ∈ buildGraph sents g ↔
    ((∃ x y, (x, y) ∈ cuts g ∧ prefixesPresent sents x = true ∧
        a = ⟨none, x.length - 1, sentsWhere sents (isSuffixOfAny · x)⟩) ∨
      (prefixesPresent sents g.dropLast = true ∧ a = ⟨none, g.length - 1, sentsWhere sents (·.any (isSubstr g))⟩)) ∨
    ∃ x y, (x, y) ∈ cuts g ∧
      ((∃ p z, (p, z) ∈ cuts y ∧ prefixesPresent sents p = true ∧
          a = ⟨some (x.length - 1), x.length + p.length - 1, sentsWhere sents (·.contains p)⟩) ∨
        (prefixesPresent sents y.dropLast = true ∧
          a = ⟨some (x.length - 1), g.length - 1, sentsWhere sents (isPrefixOfAny · y)⟩)) := by
  simp only [buildGraph, List.mem_append, List.mem_filterMap, List.mem_flatMap, Prod.exists,
    Option.ite_none_right_eq_some, Option.some.injEq, List.mem_ite_nil_right, List.mem_singleton, eq_comm (b := a)]

theorem buildGraph_wf (sents : List (List (List Bytes))) (g : List Bytes) : WFG (buildGraph sents g) := by
  constructor
  · intro a ha
    rcases mem_buildGraph.mp ha with (⟨_, _, _, _, rfl⟩ | ⟨_, rfl⟩) | ⟨_, _, _, ⟨_, _, _, _, rfl⟩ | ⟨_, rfl⟩⟩ <;>
      exact inc_filter_range _ _
  · intro a ha u hu
    rcases mem_buildGraph.mp ha with (⟨_, _, _, _, rfl⟩ | ⟨_, rfl⟩) | ⟨x, y, hc, ⟨p, z, hc', _, rfl⟩ | ⟨_, rfl⟩⟩
    · cases hu
    · cases hu
    · injection hu with hu
      subst hu
      exact Nat.sub_lt_sub_right (List.length_pos_iff.mpr (mem_cuts_iff.mp hc).1)
        (Nat.lt_add_of_pos_right (List.length_pos_iff.mpr (mem_cuts_iff.mp hc').1))
    · injection hu with hu
      obtain ⟨hx, hy, rfl⟩ := mem_cuts_iff.mp hc
      subst hu
      show x.length - 1 < (x ++ y).length - 1
      rw [List.length_append]
      exact Nat.sub_lt_sub_right (List.length_pos_iff.mpr hx) (Nat.lt_add_of_pos_right (List.length_pos_iff.mpr hy))

theorem PAcc.ofStart {arcs : List PArc} {v s : Nat} {S : List Nat} (ha : ⟨none, v, S⟩ ∈ arcs) (hs : s ∈ S) : PAcc arcs v s :=
  .start _ ha rfl hs rfl

theorem PAcc.ofStep {arcs : List PArc} {u v s : Nat} {S : List Nat} (ha : ⟨some u, v, S⟩ ∈ arcs) (hs : s ∈ S)
    (hu : PAcc arcs u s) : PAcc arcs v s :=
  .step _ ha rfl hs u rfl hu

theorem graphRest_acc :
    ∀ (fuel : Nat) (done r : List Bytes), done ++ r = g → done ≠ [] →
      PAcc (buildGraph sents g) (done.length - 1) s → graphRest sents (sents.getD s []) fuel r = true →
      PAcc (buildGraph sents g) (g.length - 1) s
  | 0, _, _, _, _, _, h => nomatch h
  | f+1, done, r, hg, hd, hacc, h => by
    rcases graphRest_succ.mp h with ⟨hrne, hpp, hpre⟩ | ⟨y, z, hc, hpp, hcon, hrest⟩
    · -- last segment: `FindLeft`
      exact .ofStep (mem_buildGraph.mpr (Or.inr ⟨done, r, mem_cuts_iff.mpr ⟨hd, hrne, hg⟩, Or.inr ⟨hpp, rfl⟩⟩))
        (mem_sentsWhere.mpr ⟨sentence_lt_of_any hpre, hpre⟩) hacc
    · -- a whole phrase `y`, then `z`
      obtain ⟨hy, hz, rfl⟩ := mem_cuts_iff.mp hc
      have hacc' : PAcc (buildGraph sents g) ((done ++ y).length - 1) s := by
        rw [List.length_append]
        exact .ofStep (mem_buildGraph.mpr (Or.inr ⟨done, y ++ z,
          mem_cuts_iff.mpr ⟨hd, List.append_ne_nil_of_left_ne_nil hy z, hg⟩, Or.inl ⟨y, z, hc, hpp, rfl⟩⟩))
          (mem_sentsWhere.mpr ⟨sentence_lt (List.contains_iff_mem.mp hcon), hcon⟩) hacc
      exact graphRest_acc f (done ++ y) z (by rw [List.append_assoc, hg]) (by simp [hd]) hacc' hrest

theorem graphAccept_acc (sents : List (List (List Bytes))) (s : Nat) (g : List Bytes)
    (h : graphAccept sents s g = true) : PAcc (buildGraph sents g) (g.length - 1) s := by
  rcases graphAccept_iff.mp h with ⟨hpp, p, hp, hsub⟩ | ⟨x, y, hc, hpp, hsuf, hrest⟩
  · exact .ofStart (mem_buildGraph.mpr (Or.inl (Or.inr ⟨hpp, rfl⟩)))
      (mem_sentsWhere.mpr ⟨sentence_lt hp, List.any_eq_true.mpr ⟨p, hp, hsub⟩⟩)
  · obtain ⟨hx, hy, hg⟩ := mem_cuts_iff.mp hc
    exact graphRest_acc _ x y hg hx
      (.ofStart (mem_buildGraph.mpr (Or.inl (Or.inl ⟨x, y, hc, hpp, rfl⟩))) (mem_sentsWhere.mpr ⟨sentence_lt_of_any hsuf, hsuf⟩))
      hrest

theorem graphRest_mono {phrases : List (List Bytes)} :
    ∀ (f f' : Nat) (r : List Bytes), f ≤ f' → graphRest sents phrases f r = true → graphRest sents phrases f' r = true
  | 0, _, _, _, h => nomatch h
  | f+1, 0, _, hle, _ => absurd hle (Nat.not_succ_le_zero f)
  | f+1, f'+1, r, hle, h => by
    rw [graphRest_succ] at h ⊢
    exact h.imp_right fun ⟨y, z, hc, hpp, hcon, hrest⟩ =>
      ⟨y, z, hc, hpp, hcon, graphRest_mono f f' z (Nat.le_of_succ_le_succ hle) hrest⟩

/-- what can follow vertex `v`: nothing (it is the last vertex) or the arcs over the rest of the n-gram -/
def Cont (sents : List (List (List Bytes))) (s : Nat) (g : List Bytes) (v : Nat) : Prop :=
  v = g.length - 1 ∨ graphRest sents (sents.getD s []) ((g.drop (v+1)).length + 1) (g.drop (v+1)) = true

theorem drop_after_vertex {x y : List Bytes} (hx : x ≠ []) : (x ++ y).drop (x.length - 1 + 1) = y := by
  rw [Nat.sub_add_cancel (List.length_pos_iff.mpr hx), List.drop_left]

theorem Cont.rest {x y : List Bytes} (hx : x ≠ []) (hy : y ≠ [])
    (h : Cont sents s (x ++ y) (x.length - 1)) : graphRest sents (sents.getD s []) (y.length + 1) y = true := by
  rcases h with h | h
  · have := List.length_pos_iff.mpr hx
    have := List.length_pos_iff.mpr hy
    rw [List.length_append] at h; omega
  · rwa [drop_after_vertex hx] at h

/-- one arc backwards: a continuation after its target gives a continuation after its source,
or `graphAccept` when it starts before the n-gram -/
theorem arc_cont {a : PArc} (ha : a ∈ buildGraph sents g)
    (hs : s ∈ a.sents) (hc : Cont sents s g a.to) :
    match a.from_ with
    | none => graphAccept sents s g = true
    | some u => Cont sents s g u := by
  rcases mem_buildGraph.mp ha with (⟨x, y, hc', hp, rfl⟩ | ⟨hp, rfl⟩) | ⟨x, y', hc', ⟨y, z, hc'', hp, rfl⟩ | ⟨hp, rfl⟩⟩ <;>
    simp only [mem_sentsWhere] at hs
  · obtain ⟨hx, hy, rfl⟩ := mem_cuts_iff.mp hc'
    exact graphAccept_iff.mpr (Or.inr ⟨x, y, hc', hp, hs.2, hc.rest hx hy⟩)
  · exact graphAccept_iff.mpr (Or.inl ⟨hp, List.any_eq_true.mp hs.2⟩)
  · obtain ⟨hx, _, rfl⟩ := mem_cuts_iff.mp hc'
    obtain ⟨hy, hz, rfl⟩ := mem_cuts_iff.mp hc''
    have hr : graphRest sents (sents.getD s []) (z.length + 1) z = true :=
      Cont.rest (x := x ++ y) (by simp [hx]) hz (by rw [List.append_assoc, List.length_append]; exact hc)
    refine Or.inr ?_
    rw [drop_after_vertex hx, graphRest_succ]
    have := List.length_pos_iff.mpr hy
    exact Or.inr ⟨y, z, hc'', hp, hs.2, graphRest_mono _ _ _ (by rw [List.length_append]; omega) hr⟩
  · obtain ⟨hx, hy, rfl⟩ := mem_cuts_iff.mp hc'
    refine Or.inr ?_
    rw [drop_after_vertex hx, graphRest_succ]
    exact Or.inl ⟨hy, hp, hs.2⟩

theorem acc_graphAccept {v s : Nat}
    (h : PAcc (buildGraph sents g) v s) : Cont sents s g v → graphAccept sents s g = true := by
  induction h with
  | start a ha hto hs hf =>
    intro hc
    have := arc_cont ha hs (hto ▸ hc)
    rwa [hf] at this
  | step a ha hto hs u hf _ ih =>
    intro hc
    have := arc_cont ha hs (hto ▸ hc)
    rw [hf] at this
    exact ih this

theorem acc_iff_graphAccept (sents : List (List (List Bytes))) (s : Nat) (g : List Bytes) :
    PAcc (buildGraph sents g) (g.length - 1) s ↔ graphAccept sents s g = true :=
  ⟨fun h => acc_graphAccept h (Or.inl rfl), graphAccept_acc sents s g⟩

theorem graphAccept_lt (h : graphAccept sents s g = true) : s < sents.length := by
  rcases graphAccept_iff.mp h with ⟨_, _, hp, _⟩ | ⟨_, _, _, _, hsuf, _⟩
  · exact sentence_lt hp
  · exact sentence_lt_of_any hsuf

end KV.Filter
