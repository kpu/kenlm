import Model.LoaderArpa
/-! The loader model's probing run alone (`KV.LoaderArpa.probingRun`): what is in the key table after a step and after a run,
what an accepted run says about the contexts, and the number of keys of one order.  Core only. -/
namespace KV.LoaderArpa
open KV.Arpa

/-- `k` is an n-gram of the file, or a blank: a proper reversed prefix (length ≥ 2) of an n-gram of the file -/
def Reach (all : List (List Word)) (k : List Word) : Prop :=
  k ∈ all ∨ ∃ g ∈ all, 2 ≤ k.length ∧ k.length < g.length ∧ k = g.take k.length

theorem findLower_eq (g : List Word) : ∀ (j : Nat) (keys : List (List Word)),
    ∃ pre, findLower g j keys = pre ++ keys ∧ ∀ k ∈ pre, ∃ i, 2 ≤ i ∧ i ≤ j ∧ k = g.take i := by
  intro j
  induction j with
  | zero => intro keys; exact ⟨[], rfl, nofun⟩
  | succ j ih =>
    intro keys
    unfold findLower
    split
    · exact ⟨[], rfl, nofun⟩
    split
    · exact ⟨[], rfl, nofun⟩
    obtain ⟨pre, hp, hb⟩ := ih (g.take (j + 1) :: keys)
    refine ⟨pre ++ [g.take (j + 1)], by rw [hp, List.append_assoc]; rfl, fun k hk => ?_⟩
    rcases List.mem_append.mp hk with h | h
    · obtain ⟨i, h2, hi, he⟩ := hb k h
      exact ⟨i, h2, by omega, he⟩
    · exact ⟨j + 1, by omega, Nat.le_refl _, List.mem_singleton.mp h⟩

/-- the `keys1` of `probingStep`: the middle-order keys once the line `g` itself is stored -/
def keys1 (order : Nat) (keys : List (List Word)) (g : List Word) : List (List Word) :=
  if g.length < order then g :: keys else keys

theorem probingStep_eq (order : Nat) (keys : List (List Word)) (b : Bool) (g : List Word) :
    probingStep order (keys, b) g =
      (findLower g (g.length - 1) (keys1 order keys g),
       b && (decide (g.length < 3) || (findLower g (g.length - 1) (keys1 order keys g)).contains g.tail)) := rfl

theorem probingStep_keys (order : Nat) (st : List (List Word) × Bool) (g : List Word) :
    ∃ pre, (probingStep order st g).1 = pre ++ keys1 order st.1 g ∧
      ∀ k ∈ pre, ∃ i, 2 ≤ i ∧ i < g.length ∧ k = g.take i := by
  obtain ⟨pre, hp, hb⟩ := findLower_eq g (g.length - 1) (keys1 order st.1 g)
  refine ⟨pre, hp, fun k hk => ?_⟩
  obtain ⟨i, h2, hi, he⟩ := hb k hk
  exact ⟨i, h2, by omega, he⟩

theorem probingStep_mem (order : Nat) (st : List (List Word) × Bool) (g k : List Word) (hk : k ∈ (probingStep order st g).1) :
    k ∈ st.1 ∨ k = g ∨ ∃ i, 2 ≤ i ∧ i < g.length ∧ k = g.take i := by
  obtain ⟨pre, hp, hb⟩ := probingStep_keys order st g
  rw [hp] at hk
  rcases List.mem_append.mp hk with h | h
  · exact Or.inr (Or.inr (hb k h))
  · unfold keys1 at h
    split at h
    · rcases List.mem_cons.mp h with rfl | h
      · exact Or.inr (Or.inl rfl)
      · exact Or.inl h
    · exact Or.inl h

theorem probingStep_reach (all : List (List Word)) (order : Nat) (st : List (List Word) × Bool) (g : List Word)
    (hg : g ∈ all) (h : ∀ k ∈ st.1, Reach all k) :
    ∀ k ∈ (probingStep order st g).1, Reach all k := by
  intro k hk
  rcases probingStep_mem order st g k hk with hk | rfl | ⟨i, h2, hi, rfl⟩
  · exact h k hk
  · exact Or.inl hg
  · have hl : (g.take i).length = i := List.length_take_of_le (Nat.le_of_lt hi)
    exact Or.inr ⟨g, hg, by rw [hl]; exact h2, by rw [hl]; exact hi, by rw [hl]⟩

theorem probingStep_flag (order : Nat) (st : List (List Word) × Bool) (g : List Word) :
    (probingStep order st g).2 = true →
      st.2 = true ∧ (3 ≤ g.length → g.tail ∈ (probingStep order st g).1) := by
  unfold probingStep
  simp only [Bool.and_eq_true, Bool.or_eq_true, decide_eq_true_eq, List.contains_eq_mem]
  intro h
  refine ⟨h.1, fun h3 => ?_⟩
  rcases h.2 with hl | hm
  · omega
  · exact hm

theorem fold_flag_mono (order : Nat) : ∀ (gs : List (List Word)) (st : List (List Word) × Bool),
    (gs.foldl (probingStep order) st).2 = true → st.2 = true := by
  intro gs
  induction gs with
  | nil => intro st h; exact h
  | cons g gs ih =>
    intro st h
    simp only [List.foldl_cons] at h
    exact (probingStep_flag order st g (ih _ h)).1

theorem run_reach (all : List (List Word)) (order : Nat) : ∀ (gs : List (List Word)) (st : List (List Word) × Bool),
    (∀ g ∈ gs, g ∈ all) → (∀ k ∈ st.1, Reach all k) → (gs.foldl (probingStep order) st).2 = true →
    ∀ g ∈ gs, 3 ≤ g.length → Reach all g.tail := by
  intro gs
  induction gs with
  | nil => intro st _ _ _ g hg; cases hg
  | cons g0 gs ih =>
    intro st hall hinv hflag g hg h3
    simp only [List.foldl_cons] at hflag
    have hg0 := hall g0 List.mem_cons_self
    have hinv' := probingStep_reach all order st g0 hg0 hinv
    rcases List.mem_cons.mp hg with rfl | hg
    · have hf := fold_flag_mono order gs _ hflag
      exact hinv' _ ((probingStep_flag order st g hf).2 h3)
    · exact ih _ (fun x hx => hall x (List.mem_cons_of_mem _ hx)) hinv' hflag g hg h3

theorem fold_suffix (order : Nat) : ∀ (gs : List (List Word)) (st : List (List Word) × Bool),
    ∃ pre, (gs.foldl (probingStep order) st).1 = pre ++ st.1 := by
  intro gs
  induction gs with
  | nil => intro st; exact ⟨[], rfl⟩
  | cons g gs ih =>
    intro st
    simp only [List.foldl_cons]
    obtain ⟨p1, h1, _⟩ := probingStep_keys order st g
    obtain ⟨p2, h2⟩ := ih (probingStep order st g)
    exact ⟨p2 ++ p1 ++ (if g.length < order then [g] else []), by rw [h2, h1, keys1]; split <;> simp⟩

end KV.LoaderArpa

/-! The number of keys of one order, under the names the statements of C10 use. -/
namespace KV.LoaderPB
open KV.Arpa

abbrev Key := List Word

/-- the number of keys of order `m`: what `probingFull` compares with the bucket count of that order -/
def cnt (keys : List Key) (m : Nat) : Nat := (keys.filter (fun g => g.length == m)).length

theorem cnt_cons_same (k : Key) (keys : List Key) (m : Nat) (h : k.length = m) : cnt (k :: keys) m = cnt keys m + 1 := by
  simp [cnt, h]

theorem cnt_cons_other (k : Key) (keys : List Key) (m : Nat) (h : k.length ≠ m) : cnt (k :: keys) m = cnt keys m := by
  simp [cnt, h]

theorem cnt_append (a b : List Key) (m : Nat) : cnt (a ++ b) m = cnt a m + cnt b m := by
  simp [cnt, List.filter_append]

/-- Nothing in the development uses this. -/
theorem fold_keys_indep (N : Nat) : ∀ (gs : List Key) (keys : List Key) (b : Bool),
    (gs.foldl (KV.LoaderArpa.probingStep N) (keys, b)).1 = (gs.foldl (KV.LoaderArpa.probingStep N) (keys, true)).1 := by
  intro gs
  induction gs with
  | nil => intro keys b; rfl
  | cons g gs ih =>
    intro keys b
    simp only [List.foldl_cons, KV.LoaderArpa.probingStep_eq]
    rw [ih _ (b && _), ih _ (true && _)]

end KV.LoaderPB
