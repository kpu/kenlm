import Model.KNSpec
import Proofs.KNLists
/-!
The records of the set-based specification: `Spec.ents cfg full n` is the list of keys
`ksOf cfg full n` mapped to their records `recOf cfg full`; `specRecords` lists them for all
orders.  With them the few facts about `validAt`, `keys`, `rowsOf`, `pruned` and the special
unigrams that both the refinement proof (`KNAdjust`) and the normalisation proof (`KNTable`) start
from.  Core only.

Which hypothesis each stage consumes: stage 2 (`AdjustCounts`) a strictly sorted table of
well-formed rows, `Adjust.FullWF` (rows: `Adjust.RowOK`); normalisation, the bounds and the written
set an unsorted well-formed table, `Norm.WF` (= `Spec.TableWF` or `Spec.TableWF1`), through the record
hypotheses `Norm.RecordsOK` (⊃ `Norm.TableOK`); stages 3–4 `RecordsOK` and `CtxComplete` (below),
through `Interp.ClosureFacts` and `Interp.OrderOK'`.  Only `Interp.estimateFrom_eq_spec` needs all three
of `FullWF`, `WF`, `CtxComplete`; the table of a corpus satisfies them (`Proofs/KNCorpus.lean`).
-/
namespace KV.KN.Norm

open KV.KN KV.KN.Spec

theorem validAt_iff {n : Nat} {g : Gram} : validAt n g = true ↔ bos ∉ g.take (n - 1) := by
  simp [validAt]

theorem validAt_one (g : Gram) : validAt 1 g = true := by simp [validAt]

theorem validAt_mono {n : Nat} {g : Gram} (h : validAt (n + 1) g = true) : validAt n g = true := by
  rw [validAt_iff] at *
  intro hb
  apply h
  exact (List.take_prefix_take_left (l := g) (by omega : n - 1 ≤ n + 1 - 1)).subset hb

theorem validAt_of_take {n : Nat} {g l : Gram} (h : g.take n = l.take n) :
    validAt n g = validAt n l := by
  have : g.take (n - 1) = l.take (n - 1) := by
    have := congrArg (List.take (n - 1)) h
    rwa [List.take_take, List.take_take, Nat.min_eq_left (Nat.sub_le n 1)] at this
  rw [validAt, validAt, this]

theorem validAt_succ {n : Nat} {l : Gram} (h1 : 1 ≤ n) (hv : validAt n l = true)
    (hb : l[n - 1]? ≠ some bos) : validAt (n + 1) l = true := by
  obtain ⟨m, rfl⟩ : ∃ m, n = m + 1 := ⟨n - 1, (Nat.sub_add_cancel h1).symm⟩
  rw [validAt_iff] at hv ⊢
  rw [Nat.add_sub_cancel] at hv hb ⊢
  rw [List.take_add_one, List.mem_append, Option.mem_toList]
  exact fun h => h.elim hv hb

theorem mem_rowsOf {full : Table} {k : Gram} {e : Gram × Nat} :
    e ∈ rowsOf full k ↔ e ∈ full ∧ e.1.take k.length = k := by
  simp [rowsOf, List.mem_filter]

theorem mem_keys {n : Nat} {full : Table} {k : Gram} :
    k ∈ keys n full ↔ ∃ e ∈ full, validAt n e.1 = true ∧ e.1.take n = k := by
  unfold keys
  rw [List.mem_eraseDups, List.mem_map]
  constructor
  · rintro ⟨g, hg, rfl⟩
    obtain ⟨hg1, hg2⟩ := List.mem_filter.mp hg
    obtain ⟨e, he, rfl⟩ := List.mem_map.mp hg1
    exact ⟨e, he, hg2, rfl⟩
  · rintro ⟨e, he, hv, rfl⟩
    exact ⟨e.1, List.mem_filter.mpr ⟨List.mem_map.mpr ⟨e, he, rfl⟩, hv⟩, rfl⟩

theorem ne_singleton_of_two_le {k : Gram} (hl : 2 ≤ k.length) (w : Word) : (k == [w]) = false := by
  cases k with
  | nil => simp at hl
  | cons a t =>
    cases t with
    | nil => simp at hl
    | cons b t' => simp

/-- the two ways the model says "special unigram": `markOf`/`keptBy` and `Spec.pruned` -/
theorem special_iff (g : Gram) :
    (g.length == 1 && g.all isSpecial) = (g == [unk] || g == [bos] || g == [eos]) := by
  cases g with
  | nil => rfl
  | cons w t =>
    cases t with
    | nil => simp [isSpecial]
    | cons b t' => simp

theorem pruned_special {cfg : Cfg} {full : Table} {g : Gram}
    (h : (g == [unk] || g == [bos] || g == [eos]) = true) : pruned cfg full g = false := by
  unfold pruned; rw [if_pos h]

theorem pruned_eq_false_iff (cfg : Cfg) (full : Table) (g : Gram) :
    pruned cfg full g = false ↔
      (g = [unk] ∨ g = [bos] ∨ g = [eos]) ∨
      (cfg.thr (g.length - 1) < trueCount full g ∧ ∀ w ∈ g, cfg.excl w = false) := by
  unfold pruned
  by_cases hsp : (g == [unk] || g == [bos] || g == [eos]) = true
  · rw [if_pos hsp]
    simp only [Bool.or_eq_true, beq_iff_eq, or_assoc] at hsp
    exact iff_of_true rfl (Or.inl hsp)
  · rw [if_neg hsp]
    simp only [Bool.or_eq_true, beq_iff_eq, or_assoc] at hsp
    simp only [Bool.or_eq_false_iff, decide_eq_false_iff_not, Nat.not_le, List.any_eq_false, hsp,
      false_or, Bool.not_eq_true]

theorem keptBy_iff {e : Emit} : keptBy e = true ↔
    (e.gram.length = 1 ∧ e.gram.all isSpecial = true) ∨ (e.marked = false ∧ 1 ≤ e.count) := by
  unfold keptBy Emit.cutoff
  cases e.marked <;> simp [Nat.pos_iff_ne_zero, Nat.one_le_iff_ne_zero]

theorem unmarked_of_kept {e : Emit} (hk : keptBy e = true)
    (hsp : e.gram.length = 1 → e.gram.all isSpecial = true → e.marked = false) : e.marked = false :=
  (keptBy_iff.mp hk).elim (fun h => hsp h.1 h.2) (·.1)

theorem kept_hi {e : Emit} (hl : 2 ≤ e.gram.length) (hk : keptBy e = true) :
    e.marked = false ∧ 1 ≤ e.count :=
  (keptBy_iff.mp hk).resolve_left fun h => absurd (h.1 ▸ hl) (by decide)

theorem marked_or_zero_of_not_kept {e : Emit} (hk : keptBy e = false) : e.marked = true ∨ e.count = 0 := by
  cases hm : e.marked with
  | true => exact Or.inl rfl
  | false =>
    refine Or.inr (Nat.eq_zero_of_not_pos fun hc => ?_)
    rw [keptBy_iff.mpr (Or.inr ⟨hm, hc⟩)] at hk
    cases hk

theorem keptBy_eq_not_marked {e : Emit}
    (hsp : e.gram.length = 1 → e.gram.all isSpecial = true → e.marked = false)
    (hpos : e.marked = false → 1 ≤ e.count ∨ (e.gram.length = 1 ∧ e.gram.all isSpecial = true)) :
    keptBy e = !e.marked := by
  rw [Bool.eq_iff_iff, keptBy_iff, Bool.not_eq_true']
  exact ⟨fun h => h.elim (fun h => hsp h.1 h.2) (·.1),
    fun hm => (hpos hm).elim (fun h => Or.inr ⟨hm, h⟩) Or.inl⟩

/-- the record `Spec.ents` makes for the key `k` (the function it maps over its keys, `ents_eq`) -/
def recOf (cfg : Cfg) (full : Table) (k : Gram) : Emit :=
  if k == [unk] || k == [bos] then ⟨k, 0, false⟩
  else ⟨k, adjCount cfg.order full k, pruned cfg full k⟩

/-- the keys of order `n`: the list of n-grams `Spec.ents cfg full n` maps `recOf` over -/
def ksOf (cfg : Cfg) (full : Table) (n : Nat) : List Gram :=
  if n == 1 then [unk] :: [bos] :: keys 1 full
  else if n == cfg.order then
    (full.map (·.1)).filter fun g => !(g.getD (g.length - 2) unk == bos)
  else keys n full

theorem ents_eq (cfg : Cfg) (full : Table) (n : Nat) :
    ents cfg full n = (ksOf cfg full n).map (recOf cfg full) := rfl

theorem recOf_gram (cfg : Cfg) (full : Table) (k : Gram) : (recOf cfg full k).gram = k := by
  unfold recOf; split <;> rfl

theorem ents_grams (cfg : Cfg) (full : Table) (n : Nat) :
    (ents cfg full n).map (·.gram) = ksOf cfg full n := by
  rw [ents_eq, List.map_map]
  have : ((fun x : Emit => x.gram) ∘ recOf cfg full) = id := by
    funext k; simp [Function.comp, recOf_gram]
  rw [this, List.map_id]

theorem mem_ents {cfg : Cfg} {full : Table} {n : Nat} {e : Emit} :
    e ∈ ents cfg full n ↔ ∃ k ∈ ksOf cfg full n, recOf cfg full k = e := by
  rw [ents_eq, List.mem_map]

theorem recOf_hi (cfg : Cfg) (full : Table) {k : Gram} (hl : 2 ≤ k.length) :
    recOf cfg full k = ⟨k, adjCount cfg.order full k, pruned cfg full k⟩ := by
  unfold recOf
  simp [ne_singleton_of_two_le hl]

theorem recOf_marked (cfg : Cfg) (full : Table) (k : Gram) :
    (recOf cfg full k).marked = pruned cfg full k := by
  unfold recOf
  split
  · rename_i h
    exact (pruned_special (by rw [h]; rfl)).symm
  · rfl

theorem keptBy_recOf {cfg : Cfg} {full : Table} {k : Gram} : keptBy (recOf cfg full k) = true ↔
    (k = [unk] ∨ k = [bos] ∨ k = [eos]) ∨
      (pruned cfg full k = false ∧ 1 ≤ adjCount cfg.order full k) := by
  have hsp : (k.length = 1 ∧ k.all isSpecial = true) ↔ (k = [unk] ∨ k = [bos] ∨ k = [eos]) := by
    have := special_iff k
    rw [Bool.eq_iff_iff] at this
    simpa [or_assoc] using this
  rw [keptBy_iff, recOf_gram, hsp]
  unfold recOf
  split
  · rename_i h
    simp only [Bool.or_eq_true, beq_iff_eq] at h
    exact iff_of_true (Or.inl (h.elim Or.inl fun h => Or.inr (Or.inl h)))
      (Or.inl (h.elim Or.inl fun h => Or.inr (Or.inl h)))
  · rfl

theorem pruned_false_of_kept {cfg : Cfg} {full : Table} {g : Gram}
    (h : keptBy (recOf cfg full g) = true) : pruned cfg full g = false :=
  (keptBy_recOf.mp h).elim (fun h => (pruned_eq_false_iff cfg full g).mpr (Or.inl h)) (·.1)

theorem recOf_congr (cfg : Cfg) (A B : Table) (k : Gram) (h : rowsOf A k = rowsOf B k) :
    recOf cfg A k = recOf cfg B k := by
  unfold recOf adjCount pruned trueCount leftExts
  rw [h]

theorem ksOf_lower {cfg : Cfg} (full : Table) {n : Nat} (hn : n < cfg.order) :
    ksOf cfg full n = (if n = 1 then [[unk], [bos]] else []) ++ keys n full := by
  have h : (n == cfg.order) = false := beq_false_of_ne (Nat.ne_of_lt hn)
  unfold ksOf
  by_cases h1 : n = 1
  · simp [h1]
  · simp [h1, h]

theorem mem_ksOf_lower {cfg : Cfg} {full : Table} {n : Nat} (hn : n < cfg.order) {k : Gram} :
    k ∈ ksOf cfg full n ↔ (n = 1 ∧ (k = [unk] ∨ k = [bos])) ∨ k ∈ keys n full := by
  rw [ksOf_lower full hn, List.mem_append]
  by_cases h1 : n = 1 <;> simp [h1]

theorem ksOf_lower_length {cfg : Cfg} {P : Table} (hP : ∀ x ∈ P, x.1.length = cfg.order) {n : Nat}
    (hn : n < cfg.order) : ∀ k ∈ ksOf cfg P n, k.length = n := by
  intro k hk
  rcases (mem_ksOf_lower hn).mp hk with ⟨rfl, rfl | rfl⟩ | hk
  · rfl
  · rfl
  · obtain ⟨x, hx, _, rfl⟩ := mem_keys.mp hk
    rw [List.length_take, hP x hx]; omega

theorem take_ne_special {x : Gram} (hh : x.head? ≠ some bos ∧ x.head? ≠ some unk) (n : Nat)
    (h1 : 1 ≤ n) : x.take n ≠ [unk] ∧ x.take n ≠ [bos] := by
  obtain ⟨m, rfl⟩ : ∃ m, n = m + 1 := ⟨n - 1, (Nat.sub_add_cancel h1).symm⟩
  have key : ∀ w, x.take (m + 1) = [w] → x.head? = some w := by
    intro w h
    have := congrArg List.head? h
    rwa [List.head?_take, if_neg (Nat.succ_ne_zero m)] at this
  exact ⟨fun h => hh.2 (key _ h), fun h => hh.1 (key _ h)⟩

theorem mem_ksOf_one {cfg : Cfg} {full : Table} {k : Gram} :
    k ∈ ksOf cfg full 1 ↔ k = [unk] ∨ k = [bos] ∨ k ∈ keys 1 full := by
  show k ∈ ([unk] : Gram) :: [bos] :: keys 1 full ↔ _
  rw [List.mem_cons, List.mem_cons]

theorem specials_keys_nodup {full : Table}
    (hh : ∀ x ∈ full, x.1.head? ≠ some bos ∧ x.1.head? ≠ some unk) (n : Nat) :
    ((if n = 1 then [[unk], [bos]] else []) ++ keys n full).Nodup := by
  rw [List.nodup_append]
  refine ⟨by split <;> decide, nodup_dedup _, ?_⟩
  intro a ha b hb hab
  obtain ⟨x, hx, _, rfl⟩ := mem_keys.mp hb
  split at ha
  · rename_i h1
    have hne := take_ne_special (hh x hx) n (Nat.le_of_eq h1.symm)
    rcases List.mem_cons.mp ha with rfl | ha
    · exact hne.1 hab.symm
    · exact hne.2 (hab.symm.trans (List.mem_singleton.mp ha))
  · cases ha

theorem ksOf_lower_nodup {cfg : Cfg} {full : Table}
    (hh : ∀ x ∈ full, x.1.head? ≠ some bos ∧ x.1.head? ≠ some unk) {n : Nat} (hn : n < cfg.order) :
    (ksOf cfg full n).Nodup := by
  rw [ksOf_lower full hn]
  exact specials_keys_nodup hh n

theorem ksOf_nodup_of {cfg : Cfg} {full : Table}
    (hh : ∀ x ∈ full, x.1.head? ≠ some bos ∧ x.1.head? ≠ some unk) (hnd : (full.map (·.1)).Nodup)
    (n : Nat) : (ksOf cfg full n).Nodup := by
  by_cases h1 : n = 1
  · subst h1; exact specials_keys_nodup hh 1
  · rw [ksOf, beq_false_of_ne h1, if_neg Bool.false_ne_true]
    split
    · exact hnd.filter _
    · exact nodup_dedup _

theorem trueCount_row {N : Nat} {full : Table} (hnd : (full.map (·.1)).Nodup)
    (hlen : ∀ e ∈ full, e.1.length = N) {e : Gram × Nat} (he : e ∈ full) : trueCount full e.1 = e.2 := by
  unfold trueCount rowsOf
  have : (full.filter fun x => x.1.take e.1.length == e.1) = full.filter fun x => x.1 == e.1 :=
    List.filter_congr fun x hx => by
      rw [List.take_of_length_le (by rw [hlen x hx, hlen e he]; exact Nat.le_refl N)]
  rw [this, filter_key_nodup (fun x : Gram × Nat => x.1) full hnd e he]
  simp

/-- the records per order that `Spec.estimateFrom` builds from the count table -/
def specRecords (cfg : Cfg) (full : Spec.Table) : List (List Emit) :=
  if cfg.order ≤ 1 then [Spec.ents1 cfg full]
  else (List.range cfg.order).map fun i => Spec.ents cfg full (i + 1)

theorem specRecords_length {cfg : Cfg} {full : Table} (h1 : 1 ≤ cfg.order) : (specRecords cfg full).length = cfg.order := by
  unfold specRecords
  split
  · rw [List.length_singleton]; omega
  · rw [List.length_map, List.length_range]

/-- every n-gram of order `n < N` that does not end in `</s>` / `<unk>` is the context of an
n-gram of order `n+1` (a corpus-level fact: something follows; `ctx_complete_corpus`) -/
def CtxComplete (cfg : Cfg) (full : Table) : Prop :=
  ∀ n, 1 ≤ n → n < cfg.order → ∀ k ∈ ksOf cfg full n, wantsBackoff k = true →
    ∃ k' ∈ ksOf cfg full (n + 1), k'.tail = k

end KV.KN.Norm

namespace KV.KN.Adjust

/-- what every row of a count table satisfies (the per-row part of `Adjust.FullWF`): `N` words, the
newest neither `<s>` nor `<unk>`, `<s>` only as a run at the old end -/
structure RowOK (N : Nat) (g : Gram) : Prop where
  len : g.length = N
  head : g.head? ≠ some bos ∧ g.head? ≠ some unk
  run : ∀ i j, i ≤ j → j < N → g[i]? = some bos → g[j]? = some bos

/-- the row survives `CollapseStream` -/
def keepTop (g : Gram) : Bool := !(decide (2 ≤ g.length) && g.getD (g.length - 2) unk == bos)

/-- the keys of the highest order are the rows that survive `CollapseStream` -/
theorem ksOf_top {cfg : Cfg} {full : Spec.Table} (h2 : 2 ≤ cfg.order)
    (hlen : ∀ e ∈ full, e.1.length = cfg.order) :
    Norm.ksOf cfg full cfg.order = (full.map (·.1)).filter keepTop := by
  rw [Norm.ksOf, beq_false_of_ne (Nat.ne_of_gt h2), beq_self_eq_true]
  simp only [Bool.false_eq_true, if_false, if_true]
  apply List.filter_congr
  intro g hg
  obtain ⟨e, he, rfl⟩ := List.mem_map.mp hg
  rw [keepTop, hlen e he, decide_eq_true h2, Bool.true_and]

end KV.KN.Adjust
