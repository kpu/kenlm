import Proofs.PCQueueSysLive
import Proofs.ChainPool
/-!
The ThreadPool as a client program of the composed system: the atomic system instantiated with `poolProg` is the
`Pool` model (`toPool`; `pool_astep_eq`, `pool_presents`), so every reachable state of the ThreadPool running on the
STEP-LEVEL queue (semaphores, mutexes, ring, EINTR) abstracts to a reachable state of the `Pool` model, whose deadlock
freedom and measure carry over (`Presents`).  Core Lean only.
-/
namespace KV.Sys
open KV.Chain (Item WPC Pool fifoPush fifoPop upd map_range_upd map_range_upd0)
attribute [local simp] KV.Chain.upd_same KV.Chain.upd_ne

inductive PLoc
  | main (todo : List Item) (joined : Nat)
  | worker (pc : WPC) (handled : List Nat)

variable {cap w : Nat} {a : AState PLoc}

def isFinished : PLoc → Bool
  | .worker .finished _ => true
  | _ => false

/-- user thread (tid 0): `Produce` every request, then one poison per worker, then `Join` every worker in order;
worker `i` (tid `i+1`): `while (1) { Consume(request); if (request == poison) return; handler(request); }` -/
def poolProg (cap w : Nat) : Prog PLoc where
  nthreads := w + 1
  cap := fun _ => cap
  act := fun t l =>
    match t, l with
    | 0, .main (x :: rest) j => .produce 0 (enc x) (.main rest j)
    | 0, .main [] j => if j < w then .await (j + 1) isFinished (.main [] (j + 1)) else .stop
    | _ + 1, .worker .notStarted h => .tau (.worker .running h)
    | _ + 1, .worker .running h =>
      .consume 0 (fun n => match dec n with
        | .poison => .worker .finished h
        | .val v => .worker .running (h ++ [v]))
    | _, _ => .stop

def poolLoc0 (w : Nat) (reqs : List Nat) : Nat → PLoc
  | 0 => .main (reqs.map .val ++ List.replicate w .poison) 0
  | _ + 1 => .worker .notStarted []

def wpcOf : PLoc → WPC
  | .worker pc _ => pc
  | _ => .finished

def handledOf : PLoc → List Nat
  | .worker _ h => h
  | _ => []

def todoOf : PLoc → List Item
  | .main todo _ => todo
  | _ => []

def joinedOf : PLoc → Nat
  | .main _ j => j
  | _ => 0

/-- worker `i` is thread `i + 1`: in the log the popping thread `x.1` becomes the worker `x.1 - 1` (thread 0 never
pops) -/
def toPool (cap w : Nat) (a : AState PLoc) : Pool :=
  { cap := cap, q := (a.q 0).map dec, todo := todoOf (a.loc 0), joined := joinedOf (a.loc 0),
    wpc := (List.range w).map fun i => wpcOf (a.loc (i + 1)),
    handled := (List.range w).map fun i => handledOf (a.loc (i + 1)),
    log := (a.popped 0).map fun x => (x.1 - 1, dec x.2) }

/-- one type `PLoc` holds the local state of the user thread and of the workers: each thread is in its own summand
(`CWF` in `Proofs/ChainSys.lean` likewise) -/
def PWF (w : Nat) (a : AState PLoc) : Prop :=
  (∃ todo j, a.loc 0 = .main todo j) ∧ ∀ i, i < w → ∃ pc h, a.loc (i + 1) = .worker pc h

theorem toPool_wpc_get (cap w : Nat) (a : AState PLoc) {i : Nat} (hi : i < w) :
    (toPool cap w a).wpc[i]? = some (wpcOf (a.loc (i + 1))) := by
  simp [toPool, hi]

/-- the `handled` list of `toPool` read at a worker; `toPool_worker` uses the form with `set` instead -/
theorem handled_getD (w : Nat) (a : AState PLoc) {i : Nat} (hi : i < w) :
    ((List.range w).map fun j => handledOf (a.loc (j + 1))).getD i [] = handledOf (a.loc (i + 1)) := by
  simp [List.getD_eq_getElem?_getD, hi]

theorem PWF.upd_main (h : PWF w a) (todo : List Item) (j : Nat) (q p) :
    PWF w { q := q, loc := upd a.loc 0 (.main todo j), popped := p } := by
  refine ⟨⟨todo, j, by simp⟩, fun i hi => ?_⟩
  obtain ⟨pc, hh, e⟩ := h.2 i hi
  exact ⟨pc, hh, by simp [e]⟩

theorem PWF.upd_worker (h : PWF w a) (i : Nat) (pc : WPC) (hh : List Nat) (q p) :
    PWF w { q := q, loc := upd a.loc (i + 1) (.worker pc hh), popped := p } := by
  refine ⟨?_, fun j hj => ?_⟩
  · obtain ⟨todo, jn, e⟩ := h.1
    exact ⟨todo, jn, by simp [e]⟩
  · by_cases e : j = i
    · subst e; exact ⟨pc, hh, by simp⟩
    · obtain ⟨pc', h', e'⟩ := h.2 j hj
      exact ⟨pc', h', by simp [e, e']⟩

theorem toPool_main (cap w : Nat) (a : AState PLoc) (todo : List Item) (j : Nat) (q' : Nat → List Nat)
    (p' : Nat → List (Nat × Nat)) :
    toPool cap w { q := q', loc := upd a.loc 0 (.main todo j), popped := p' }
      = { cap := cap, q := (q' 0).map dec, todo := todo, joined := j, wpc := (toPool cap w a).wpc,
          handled := (toPool cap w a).handled, log := (p' 0).map fun x => (x.1 - 1, dec x.2) } := by
  simp only [toPool, map_range_upd0]
  simp [todoOf, joinedOf]

theorem toPool_worker (cap w : Nat) (a : AState PLoc) {i : Nat} (hi : i < w) (pc : WPC) (hh : List Nat)
    (q' : Nat → List Nat) (p' : Nat → List (Nat × Nat)) :
    toPool cap w { q := q', loc := upd a.loc (i + 1) (.worker pc hh), popped := p' }
      = { cap := cap, q := (q' 0).map dec, todo := (toPool cap w a).todo, joined := (toPool cap w a).joined,
          wpc := (toPool cap w a).wpc.set i pc, handled := (toPool cap w a).handled.set i hh,
          log := (p' 0).map fun x => (x.1 - 1, dec x.2) } := by
  have e1 := map_range_upd wpcOf a.loc w i (.worker pc hh) hi
  have e2 := map_range_upd handledOf a.loc w i (.worker pc hh) hi
  simp only [toPool, e1, e2]
  simp [wpcOf, handledOf]

theorem poolProg_join (cap : Nat) {w j : Nat} (hj : j < w) :
    (poolProg cap w).act 0 (.main [] j) = .await (j + 1) isFinished (.main [] (j + 1)) := by
  simp only [poolProg, hj, if_true]

theorem poolProg_joined (cap : Nat) {w j : Nat} (hj : ¬ j < w) : (poolProg cap w).act 0 (.main [] j) = .stop := by
  simp only [poolProg, hj, if_false]

/-- The atomic client system with `poolProg` IS the `Pool` model: a step of thread `t` is `Pool.step t` on the
denoted state, enabled in the one iff in the other.  The proof walks the branches of `poolProg` (user thread: submit,
join, done; worker: start, consume, finished); in each, both sides are rewritten by the equation of their step
function for that branch and compared guard by guard and field by field (`toPool_main`, `toPool_worker`). -/
theorem pool_astep_eq (t : Nat) (hwf : PWF w a) :
    (astep (poolProg cap w) a t).map (toPool cap w) = (toPool cap w a).step t
    ∧ ∀ a', astep (poolProg cap w) a t = some a' → PWF w a' := by
  have hlen : (toPool cap w a).q.length = (a.q 0).length := List.length_map _
  cases t with
  | zero =>
    have ht : 0 < (poolProg cap w).nthreads := Nat.succ_pos _
    obtain ⟨todo, j, hl⟩ := hwf.1
    have htodo : (toPool cap w a).todo = todo := by simp [toPool, hl, todoOf]
    have hjoined : (toPool cap w a).joined = j := by simp [toPool, hl, joinedOf]
    cases todo with
    | cons x rest =>
      rw [astep_produce ht (by rw [hl]; rfl), Pool.step_submit htodo]
      exact step_eq_ite (by rw [hlen]; exact Iff.rfl) (by rw [toPool_main]; simp [dec_enc, toPool, hl, joinedOf])
        (hwf.upd_main rest j _ _)
    | nil =>
      rw [Pool.step_join htodo, hjoined]
      by_cases hj : j < w
      · rw [astep_await ht (by rw [hl]; exact poolProg_join cap hj)]
        obtain ⟨pc, hh, e⟩ := hwf.2 j hj
        have hfin : isFinished (a.loc (j + 1)) = true ↔ (toPool cap w a).wpc[j]? = some .finished := by
          rw [toPool_wpc_get cap w a hj, e]; cases pc <;> simp [isFinished, wpcOf]
        exact step_eq_ite hfin (by rw [toPool_main]; simp [toPool, hl, joinedOf, todoOf]) (hwf.upd_main [] (j + 1) _ _)
      · rw [astep_stop (by rw [hl]; exact poolProg_joined cap hj), if_neg]
        · exact ⟨rfl, nofun⟩
        · rw [List.getElem?_eq_none (by simp [toPool]; omega)]; nofun
  | succ i =>
    by_cases hi : i < w
    · have ht : i + 1 < (poolProg cap w).nthreads := Nat.succ_lt_succ hi
      obtain ⟨pc, hh, hl⟩ := hwf.2 i hi
      have hget : (toPool cap w a).wpc[i]? = some pc := by rw [toPool_wpc_get cap w a hi, hl]; rfl
      have hhand : (toPool cap w a).handled[i]? = some hh := by
        show ((List.range w).map fun i => handledOf (a.loc (i + 1)))[i]? = some hh
        simp [hi, hl, handledOf]
      cases pc with
      | notStarted =>
        rw [astep_tau ht (by rw [hl]; rfl), Pool.step_start hget]
        exact step_eq_some (by rw [toPool_worker cap w a hi, set_same hhand]; rfl) (hwf.upd_worker i .running hh _ _)
      | running =>
        rw [astep_consume ht (by rw [hl]; rfl), Pool.step_consume hget]
        cases hq : a.q 0 with
        | nil =>
          rw [show (toPool cap w a).q = [] by simp [toPool, hq]]
          exact ⟨rfl, nofun⟩
        | cons n rest =>
          rw [show (toPool cap w a).q = dec n :: rest.map dec by simp [toPool, hq]]
          cases hd : dec n with
          | poison =>
            refine ⟨?_, fun a' e => by cases e; simpa [hd] using hwf.upd_worker i .finished hh _ _⟩
            show some (toPool cap w _) = _
            simp only [hd]
            rw [toPool_worker cap w a hi, set_same hhand]
            simp [toPool, hd]
          | val v =>
            have hgetD : (toPool cap w a).handled.getD i [] = hh := by simp [List.getD_eq_getElem?_getD, hhand]
            refine ⟨?_, fun a' e => by cases e; simpa [hd] using hwf.upd_worker i .running (hh ++ [v]) _ _⟩
            show some (toPool cap w _) = _
            simp only [hd]
            rw [toPool_worker cap w a hi, set_same hget, hgetD]
            simp [toPool, hd]
      | finished =>
        rw [astep_stop (by rw [hl]; rfl), Pool.step_idle (by rw [hget]; nofun) (by rw [hget]; nofun)]
        exact ⟨rfl, nofun⟩
    · have hn : (toPool cap w a).wpc[i]? = none := List.getElem?_eq_none (by simp [toPool]; omega)
      rw [Pool.step_idle (by rw [hn]; nofun) (by rw [hn]; nofun)]
      cases h : astep (poolProg cap w) a (i + 1) with
      | none => exact ⟨rfl, nofun⟩
      | some a' => exact absurd (astep_lt h) (show ¬ i + 1 < w + 1 by omega)

theorem toPool_init (cap w : Nat) (reqs : List Nat) :
    toPool cap w (ainit (poolLoc0 w reqs)) = Pool.init cap w reqs := by
  simp [toPool, ainit, poolLoc0, Pool.init, todoOf, joinedOf, wpcOf, handledOf, List.map_const']

theorem awaitQuiet_pool (cap w : Nat) : AwaitQuiet (poolProg cap w) := by
  intro t l p pred k lp hact hpred
  have hfin : pred = isFinished := by
    cases t with
    | zero =>
      cases l with
      | main todo j =>
        cases todo with
        | nil =>
          by_cases hj : j < w
          · rw [poolProg_join cap hj] at hact; cases hact; rfl
          · rw [poolProg_joined cap hj] at hact; cases hact
        | cons x r => cases hact
      | worker pc h => cases hact
    | succ i =>
      cases l with
      | main todo j => cases hact
      | worker pc h => cases pc <;> cases hact
  subst hfin
  cases lp with
  | main todo j => cases hpred
  | worker pc h =>
    cases pc <;> first | cases hpred | skip
    cases p <;> exact ⟨fun _ _ _ e => (by cases e), fun _ _ e => (by cases e)⟩

def PoolOK (cap w : Nat) (reqs : List Nat) (a : AState PLoc) : Prop :=
  PWF w a ∧ Pool.Reach (Pool.init cap w reqs) (toPool cap w a)

theorem poolOK_init (cap w : Nat) (reqs : List Nat) : PoolOK cap w reqs (ainit (poolLoc0 w reqs)) :=
  ⟨⟨⟨_, _, rfl⟩, fun _ _ => ⟨_, _, rfl⟩⟩, by rw [toPool_init]; exact .init⟩

theorem pool_presents (cap w : Nat) (reqs : List Nat) :
    Presents (poolProg cap w) Pool.step (toPool cap w) (PoolOK cap w reqs) :=
  .of_step_eq .step fun t hwf _ => pool_astep_eq t hwf

end KV.Sys
