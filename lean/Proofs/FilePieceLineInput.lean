import Proofs.FilePieceRC
/-! `util::stream::LineInput::Run`: the blocks are the input cut after newlines. -/
namespace KV.FilePiece

theorem liFill_spec (orc : Nat → Nat) : ∀ (f : Nat) (ch : Chain) (i need : Nat), need < f →
    (liFill orc f ch i need).1 = ch.flatten.take need ∧
    (liFill orc f ch i need).2.1.flatten = ch.flatten.drop need ∧
    ((liFill orc f ch i need).2.2 = true ↔ ch.flatten.length < need) := by
  intro f
  induction f with
  | zero => intro ch i need h; omega
  | succ f ih =>
    intro ch i need hf
    simp only [liFill]
    by_cases hn : need = 0
    · subst hn; simp
    · rw [if_neg hn]
      obtain ⟨h1, h2, h3⟩ := rcRead_append orc ch i (Nat.pos_of_ne_zero hn)
      cases hr : rcRead orc ch i need with
      | mk out ch' =>
        rw [hr] at h1 h2 h3
        cases out with
        | nil =>
          dsimp only at h1 ⊢
          have hfl : ch.flatten = [] := h3.mp rfl
          simp only [List.nil_append] at h1
          rw [h1, hfl]
          simp; omega
        | cons b bs =>
          dsimp only at h1 h2 ⊢
          simp only [List.length_cons] at h2
          obtain ⟨a1, a2, a3⟩ := ih ch' (i + (bs.length + 1)) (need - (bs.length + 1)) (by omega)
          rw [a1, a2, a3, ← h1]
          have hl : (b :: bs).length = bs.length + 1 := rfl
          refine ⟨?_, ?_, ?_⟩
          · rw [List.take_append, hl]
            have : (b :: bs).take need = b :: bs := List.take_of_length_le (by rw [hl]; omega)
            rw [this]
          · rw [List.drop_append, hl]
            have : (b :: bs).drop need = [] := List.drop_of_length_le (by rw [hl]; omega)
            rw [this]; simp
          · simp only [List.length_append, hl]; omega

def LiGood (B : Nat) : List (List Byte) → Prop
  | [] => False
  | [b] => b.length ≤ B
  | b :: c :: rest => (∃ pre, b = pre ++ [10]) ∧ b.length ≤ B ∧ LiGood B (c :: rest)

theorem liRun_spec (orc : Nat → Nat) (B : Nat) : ∀ (f : Nat) (ch : Chain) (i : Nat) (carry : List Byte),
    carry.length < B → ch.flatten.length < f →
    match liRun orc B f ch i carry with
    | .ok blocks => blocks.flatten = carry ++ ch.flatten ∧ LiGood B blocks
    | .error .noNewline => ∃ buf, buf.length = B ∧ (∀ x ∈ buf, (x == 10) = false) ∧ buf <:+: carry ++ ch.flatten
    | .error .fuel => False := by
  intro f
  induction f with
  | zero => intro ch i carry _ h; omega
  | succ f ih =>
    intro ch i carry hc hf
    simp only [liRun]
    obtain ⟨h1, h2, h3⟩ := liFill_spec orc (B + 1) ch i (B - carry.length) (by omega)
    generalize liFill orc (B + 1) ch i (B - carry.length) = r at h1 h2 h3
    obtain ⟨got, ch', eof⟩ := r
    simp only at h1 h2 h3
    subst h1
    cases eof with
    | true =>
      have hl := h3.mp rfl
      simp only [↓reduceIte]
      have : ch.flatten.take (B - carry.length) = ch.flatten := List.take_of_length_le (by omega)
      rw [this]
      refine ⟨by simp, ?_⟩
      show (carry ++ ch.flatten).length ≤ B
      simp only [List.length_append]; omega
    | false =>
      have hl : ¬ ch.flatten.length < B - carry.length := fun hx => by have := h3.mpr hx; cases this
      simp only [Bool.false_eq_true, ↓reduceIte]
      have hbl : (carry ++ ch.flatten.take (B - carry.length)).length = B := by
        rw [List.length_append, List.length_take, Nat.min_eq_left (Nat.le_of_not_lt hl)]
        exact Nat.add_sub_cancel' (Nat.le_of_lt hc)
      have hsplit : carry ++ ch.flatten = (carry ++ ch.flatten.take (B - carry.length)) ++ ch.flatten.drop (B - carry.length) := by
        rw [List.append_assoc, List.take_append_drop]
      generalize hbuf : carry ++ ch.flatten.take (B - carry.length) = buf at hbl hsplit
      cases hk : lastNl1 buf with
      | zero =>
        dsimp only
        refine ⟨buf, hbl, lastIdx1_zero hk, ?_⟩
        rw [hsplit]
        exact ⟨[], ch.flatten.drop (B - carry.length), by simp⟩
      | succ k =>
        dsimp only
        obtain ⟨hk1, hk2, _⟩ := lastIdx1_pos hk
        have hx : buf.getD k 0 = 10 := by simpa using hk2
        have hih := ih ch' (i + (ch.flatten.take (B - carry.length)).length) (buf.drop (k + 1))
          (by simp only [List.length_drop]; omega)
          (by rw [h2]; simp only [List.length_drop]; omega)
        rw [h2] at hih
        have hall : carry ++ ch.flatten = buf.take (k + 1) ++ (buf.drop (k + 1) ++ ch.flatten.drop (B - carry.length)) := by
          rw [← List.append_assoc, List.take_append_drop]; exact hsplit
        cases hres : liRun orc B f ch' (i + (ch.flatten.take (B - carry.length)).length) (buf.drop (k + 1)) with
        | ok bl =>
          rw [hres] at hih
          dsimp only at hih ⊢
          obtain ⟨e1, e2⟩ := hih
          refine ⟨by rw [List.flatten_cons, e1, hall], ?_⟩
          cases bl with
          | nil => exact absurd e2 (by simp [LiGood])
          | cons c rest =>
            refine ⟨⟨buf.take k, take_succ_of_getD hk1 hx⟩, ?_, e2⟩
            exact Nat.le_trans (List.length_take_le' ..) (Nat.le_of_eq hbl)
        | error e =>
          rw [hres] at hih
          cases e with
          | fuel => exact hih
          | noNewline =>
            dsimp only at hih ⊢
            obtain ⟨b, hb1, hb2, hb3⟩ := hih
            refine ⟨b, hb1, hb2, ?_⟩
            rw [hall]
            exact List.IsInfix.trans hb3 ⟨buf.take (k + 1), [], by simp⟩

end KV.FilePiece
