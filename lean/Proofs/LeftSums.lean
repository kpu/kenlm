import Proofs.ScoreMain
/-! List and sum lemmas the chart-scoring proofs share: `rsum` (back-off sums, `Proofs/ScoreSpec.lean`) under a shift,
`dsum` (sums over the pointers of a fragment), `specSeq` over an append. -/
namespace KV.Left
open KV.Arpa KV.Table KV.State KV.Score

theorem rsum_shift (f : Nat → Rat) (i lo : Nat) : ∀ d, rsum f (i + lo) d = rsum (fun j => f (i + j)) lo d := by
  intro d
  induction d with
  | zero => rfl
  | succ d ih => simp only [rsum, ih, Nat.add_assoc]

theorem take_ne_nil {α} {h : List α} {k : Nat} (h1 : 1 ≤ k) (h2 : k ≤ h.length) : h.take k ≠ [] := by
  intro hn
  have := congrArg List.length hn
  simp only [List.length_take, List.length_nil] at this
  omega

theorem append_take_ne_nil {α} (X : List α) {h : List α} {k : Nat} (h1 : 1 ≤ k) (h2 : k ≤ h.length) : X ++ h.take k ≠ [] :=
  fun hn => take_ne_nil h1 h2 (List.append_eq_nil_iff.mp hn).2

theorem take_rev_add {α} (M bw : List α) (k : Nat) : (M.reverse ++ bw).take (M.length + k) = M.reverse ++ bw.take k := by
  have := List.take_length_add_append (l₁ := M.reverse) (l₂ := bw) k
  rwa [List.length_reverse] at this

theorem length_append_take {α} (M A : List α) {k : Nat} (h : k ≤ A.length) : (M ++ A.take k).length = M.length + k := by
  rw [List.length_append, List.length_take, Nat.min_eq_left h]

theorem append_take_succ {α} (M A : List α) (ka : Nat) (hka : ka < A.length) : M ++ A.take (ka+1) = (M ++ A.take ka) ++ [A[ka]] := by
  rw [List.take_succ_eq_append_getElem hka, List.append_assoc]

theorem specSeq_append (a : Arpa) : ∀ (l1 l2 h : List Word), specSeq a h (l1 ++ l2) = specSeq a h l1 + specSeq a (l1.reverse ++ h) l2 := by
  intro l1
  induction l1 with
  | nil => intro l2 h; simp only [specSeq, List.nil_append, List.reverse_nil]; exact (Rat.zero_add _).symm
  | cons w l1 ih =>
    intro l2 h
    simp only [List.cons_append, specSeq, ih, List.reverse_cons, List.append_assoc]
    grind

theorem sum_range_map (f : Nat → Rat) (n : Nat) : ((List.range n).map f).sum = rsum f 0 n := by
  have := sum_drop_range_map f n 0
  simpa using this

theorem range_add_map (f : Nat → Rat) (m n : Nat) :
    (List.range (m + n)).map f = (List.range m).map f ++ (List.range n).map (fun j => f (m + j)) := by
  rw [List.range_add, List.map_append, List.map_map]
  rfl

theorem range_drop_cons {i n : Nat} (h : i < n) : (List.range n).drop i = i :: (List.range n).drop (i+1) := by
  rw [List.drop_eq_getElem_cons (by simpa using h), List.getElem_range]

theorem map_range_drop {α} (f : Nat → α) (L i : Nat) (hi : i < L) :
    ((List.range L).map f).drop i = f i :: ((List.range L).map f).drop (i+1) := by
  rw [List.drop_eq_getElem_cons (by simpa using hi)]
  simp

theorem map_range_drop_nil {α} {f : Nat → α} {L i : Nat} (h : [] = ((List.range L).map f).drop i) (hi : i ≤ L) : i = L := by
  have := congrArg List.length h
  simp at this; omega

theorem map_range_drop_cons {α} {f : Nat → α} {L i : Nat} {p : α} {ps : List α} (h : p :: ps = ((List.range L).map f).drop i) :
    i < L ∧ p = f i ∧ ps = ((List.range L).map f).drop (i+1) := by
  have hiL : i < L := by
    apply Classical.byContradiction; intro hc
    rw [List.drop_eq_nil_of_le (by simp; omega)] at h; cases h
  rw [map_range_drop f L i hiL] at h
  injection h with hp hps
  exact ⟨hiL, hp, hps⟩

/-- Σ_{i ≤ i' < i+n} f i', peeling the first term as the pointer loops do (`rsum` of `Proofs/ScoreSpec.lean`, used for
back-off sums, peels the last; the two are the same sum, and no statement here needs both) -/
def dsum (f : Nat → Rat) : Nat → Nat → Rat
  | _, 0 => 0
  | i, n+1 => f i + dsum f (i+1) n

theorem dsum_cons (f : Nat → Rat) {i L : Nat} (h : i < L) : dsum f i (L - i) = f i + dsum f (i+1) (L - (i+1)) := by
  rw [show L - i = (L - (i+1)) + 1 by omega]; rfl

theorem dsum_add (f : Nat → Rat) : ∀ (n m i : Nat), dsum f i (n + m) = dsum f i n + dsum f (i + n) m := by
  intro n
  induction n with
  | zero => intro m i; simp [dsum]; exact (Rat.zero_add _).symm
  | succ n ih =>
    intro m i
    have : n + 1 + m = (n + m) + 1 := by omega
    rw [this]; simp only [dsum]
    rw [ih m (i+1)]
    have : i + 1 + n = i + (n + 1) := by omega
    rw [this]; exact (Rat.add_assoc _ _ _).symm

theorem dsum_congr {f g : Nat → Rat} : ∀ (n i : Nat), (∀ j, i ≤ j → j < i + n → f j = g j) → dsum f i n = dsum g i n := by
  intro n
  induction n with
  | zero => intro i _; rfl
  | succ n ih =>
    intro i h
    simp only [dsum]
    rw [h i (Nat.le_refl _) (by omega), ih (i+1) (fun j h1 h2 => h j (by omega) (by omega))]

theorem dsum_sub (f g : Nat → Rat) : ∀ (n i : Nat), dsum (fun j => f j - g j) i n = dsum f i n - dsum g i n := by
  intro n
  induction n with
  | zero => intro i; simp [dsum] <;> grind
  | succ n ih => intro i; simp only [dsum]; rw [ih (i+1)]; grind

theorem dsum_snoc (f : Nat → Rat) (L : Nat) : dsum f 0 (L+1) = dsum f 0 L + f L := by
  rw [dsum_add f L 1 0]
  simp only [Nat.zero_add, dsum]; rw [Rat.add_zero]

end KV.Left
