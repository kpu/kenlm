import Proofs.ProbingRestStep
/-! `MaxRestBuild` on blank chains, key level: the payloads `w3T … w5T` of a line with a chain written out (the spelling of
Properties/C03ProbingBuild.lean; numbered after the states `s3 … s5` of `addLine`, `want1T` being the state after insertion and
`FindLower`; each is the stage `afterFind … afterLine` of ProbingBuildLine at `rest = true`: `want1T_eq … w5T_eq`), what `MarkLower` relies on (`CH.lowOK`), and that all their fields except `rest` are those prescribed for the enlarged
key set (`CH.chain_sem_rest`).  Before that, what `fillUsT` and `markUsT` leave at one key and the `rest` the mark loop assigns
(`markUsT_rest_partial`): stated for the `rest` field on chains, which is not proved; nothing in the development uses them. -/
namespace KV.ProbingBuild
open KV.Arpa KV.Table KV.Score KV.ProbingLM

theorem fill_ctxT (want : Key → W) (p k : Key) : ∀ (c β : Nat) (prob : Rat) (want0 : Key → W) (i : Nat),
    i < c → k = (p.drop 1).take (β + i) → β + c ≤ p.length →
    (∀ j, j < c → k ≠ p.take (β + 1 + j)) →
    applyUpd want0 (fillUsT want p c β prob) k = setExtension (want0 k) := by
  intro c β prob want0 i hi hk hlen hnb
  rw [← fillUpd_true]
  refine fill_ctx true want p k (β + c) hlen (β + i) (Nat.add_lt_add_left hi β) hk β (fun j' h1 h2 => ?_) c β prob want0 rfl
    (Nat.le_refl β) (Nat.le_add_right β i)
  obtain ⟨d, rfl⟩ : ∃ d, j' = β + 1 + d := ⟨j' - (β + 1), by omega⟩
  exact hnb d (by omega)

theorem fill_blankT (want : Key → W) (p k : Key) : ∀ (c β : Nat) (prob : Rat) (want0 : Key → W) (i : Nat),
    i < c → k = p.take (β + 1 + i) → β + c ≤ p.length →
    (∀ j, j < c → k ≠ (p.drop 1).take (β + j)) →
    applyUpd want0 (fillUsT want p c β prob) k = setRest true (setProb (want0 k) (vAt want p (i + 1) β prob)) := by
  intro c β prob want0 i hi hk hlen hnc
  rw [← fillUpd_true]
  refine fill_blank true want p k (β + c) hlen β (fun j h1 h2 => ?_) c β prob want0 i rfl (Nat.le_refl β) hi
    (by rw [hk, Nat.add_right_comm])
  obtain ⟨d, rfl⟩ : ∃ d, j = β + d := ⟨j - β, by omega⟩
  exact hnc d (by omega)

theorem mark_otherT (want : Key → W) (k : Key) (keys : List Key) (lr : Rat) (want0 : Key → W) (hk : k ∉ keys) :
    applyUpd want0 (markUsT want keys lr) k = want0 k :=
  markUpd_true want keys lr ▸ mark_other true want k keys lr want0 hk

/-- the `longerRest` handed down the chain after the keys `pre` -/
def lrAfter (want : Key → W) (pre : List Key) (lr : Rat) : Rat :=
  pre.foldl (fun m k' => (markExtends true (want k') m).1.rest) lr

theorem mark_atT (want : Key → W) (k : Key) : ∀ (pre post : List Key) (lr : Rat) (want0 : Key → W),
    k ∉ pre → k ∉ post →
    applyUpd want0 (markUsT want (pre ++ k :: post) lr) k = (markExtends true (want0 k) (lrAfter want pre lr)).1 := by
  intro pre
  induction pre with
  | nil =>
    intro post lr want0 _ hpost
    simp only [List.nil_append, markUsT, applyUpd, lrAfter, List.foldl_nil]
    rw [mark_otherT want k post _ _ hpost]
    simp [updW]
  | cons k0 ks ih =>
    intro post lr want0 hpre hpost
    have hne : k ≠ k0 := fun he => hpre (he ▸ List.mem_cons_self)
    simp only [List.cons_append, markUsT, applyUpd, lrAfter, List.foldl_cons]
    rw [ih post _ _ (fun h => hpre (List.mem_cons_of_mem _ h)) hpost]
    simp only [updW, hne, if_false, lrAfter]

theorem lrAfter_eq_foldMax (want : Key → W) (pre : List Key) (lr : Rat) :
    lrAfter want pre lr = pre.foldl (fun m k' => if true then max m (want k').rest else m) lr := by
  unfold lrAfter
  congr 1
  funext m k'
  rw [markExtends_rest, if_pos rfl]
  exact rat_max_comm _ _

theorem markUsT_rest_at (want : Key → W) (k : Key) (pre post : List Key) (lr : Rat) (hpre : k ∉ pre) (hpost : k ∉ post) :
    (applyUpd want (markUsT want (pre ++ k :: post) lr) k).rest = max (want k).rest (lrAfter want pre lr) := by
  rw [mark_atT want k pre post lr want hpre hpost, markExtends_rest]

theorem markUsT_rest_partial (want0 : Key → W) : ∀ (keys : List Key) (lr : Rat), keys.Nodup →
    ∀ (i : Nat) (hi : i < keys.length),
      (want0 keys[i]).rest ≤ (applyUpd want0 (markUsT want0 keys lr) keys[i]).rest ∧
      lr ≤ (applyUpd want0 (markUsT want0 keys lr) keys[i]).rest ∧
      (∀ i' (hi' : i' < i), (want0 (keys[i']'(by omega))).rest ≤ (applyUpd want0 (markUsT want0 keys lr) keys[i]).rest) ∧
      (∀ B, (want0 keys[i]).rest ≤ B → lr ≤ B → (∀ i' (hi' : i' < i), (want0 (keys[i']'(by omega))).rest ≤ B) →
        (applyUpd want0 (markUsT want0 keys lr) keys[i]).rest ≤ B) := by
  intro keys lr hnd i hi
  have hsplit : keys.take i ++ keys[i] :: keys.drop (i + 1) = keys := by
    rw [List.getElem_cons_drop, List.take_append_drop]
  have hnd' := hnd
  rw [← hsplit, List.nodup_append] at hnd'
  have hval := markUsT_rest_at want0 keys[i] (keys.take i) (keys.drop (i + 1)) lr
    (fun hk => hnd'.2.2 _ hk _ List.mem_cons_self rfl) (List.nodup_cons.mp hnd'.2.1).1
  rw [hsplit, lrAfter_eq_foldMax] at hval
  rw [hval]
  have hmem : ∀ i' (hi' : i' < i), keys[i']'(by omega) ∈ keys.take i := fun i' hi' =>
    List.mem_take_iff_getElem.mpr ⟨i', by omega, rfl⟩
  refine ⟨rat_le_max_left _ _, Rat.le_trans (foldMax_ge_init _ _ _ _) (rat_le_max_right _ _),
    fun i' hi' => Rat.le_trans (foldMax_ge_mem (fun _ => true) (fun k' => (want0 k').rest) _ _ _ (hmem i' hi') rfl) (rat_le_max_right _ _),
    fun B h1 h2 h3 => rat_max_le h1 (foldMax_le (fun _ => true) (fun k' => (want0 k').rest) B _ _ h2 (fun k' hk' _ => ?_))⟩
  obtain ⟨j, hj, he⟩ := List.mem_take_iff_getElem.mp hk'
  rw [← he]
  exact h3 j (by omega)

section
variable {combine : Nat → Word → Nat} {a : Arpa} {nWords : Nat} {um : Rat} {caps : Nat → Nat} {S : List Key}
  {p : Key} {e : Entry} {b L : Nat}

/-- the payloads after insertion and `FindLower` in the `MaxRestBuild` run -/
def want1T (a : Arpa) (u0 : List W) (S : List Key) (p : Key) (e : Entry) (b L : Nat) : Key → W := fun k =>
  if b < k.length ∧ k.length ≤ b + L ∧ k = p.take k.length then blankW else updW (wantT a u0 S) p (lineW e) k

/-- … after `AdjustLower` -/
def w3T (a : Arpa) (u0 : List W) (S : List Key) (p : Key) (e : Entry) (b L : Nat) : Key → W :=
  applyUpd (applyUpd (want1T a u0 S p e b L) (fillUsT (want1T a u0 S p e b L) p L b (-(want1T a u0 S p e b L (p.take b)).mag)))
    (markUsT (applyUpd (want1T a u0 S p e b L) (fillUsT (want1T a u0 S p e b L) p L b (-(want1T a u0 S p e b L (p.take b)).mag)))
      (chainKeys p b L) (lineW e).rest)

/-- … after `MarkLower` -/
def w4T (a : Arpa) (u0 : List W) (S : List Key) (p : Key) (e : Entry) (b L : Nat) : Key → W := fun k =>
  if 1 ≤ k.length ∧ k.length ≤ b - 1 ∧ k = p.take k.length then
    (markExtends true (w3T a u0 S p e b L k) (w3T a u0 S p e b L (p.take b)).rest).1
  else w3T a u0 S p e b L k

/-- … after `activate`: the final payloads of the line -/
def w5T (a : Arpa) (u0 : List W) (S : List Key) (p : Key) (e : Entry) (b L : Nat) : Key → W :=
  updW (w4T a u0 S p e b L) (p.drop 1) (setExtension (w4T a u0 S p e b L (p.drop 1)))

theorem CH.pre_mem (ch : CH combine a nWords um caps S p e b L) (j : Nat) (h2 : 2 ≤ j) (hj : j ≤ b) : p.take j ∈ S :=
  ch.si.suffix_mem ch.blanks j h2 hj

theorem want1T_eq (a : Arpa) (u0 : List W) (S : List Key) (p : Key) (e : Entry) (b L : Nat) :
    want1T a u0 S p e b L = afterFind (wantT a u0 S) p (lineW e) b L := rfl

theorem w3T_eq (a : Arpa) (u0 : List W) (S : List Key) (p : Key) (e : Entry) (b L : Nat) :
    w3T a u0 S p e b L = afterAdjust true (afterFind (wantT a u0 S) p (lineW e) b L) p (lineW e).rest b L := by
  rw [afterAdjust_true, ← want1T_eq]
  rfl

theorem w4T_eq (a : Arpa) (u0 : List W) (S : List Key) (p : Key) (e : Entry) (b L : Nat) :
    w4T a u0 S p e b L = afterMark true (afterFind (wantT a u0 S) p (lineW e) b L) p (lineW e).rest b L := by
  rw [afterMark_true, ← w3T_eq]
  rfl

theorem w5T_eq (a : Arpa) (u0 : List W) (S : List Key) (p : Key) (e : Entry) (b L : Nat) :
    w5T a u0 S p e b L = afterLine true (afterFind (wantT a u0 S) p (lineW e) b L) p (lineW e).rest b L := by
  unfold afterLine
  rw [← w4T_eq]
  rfl

theorem CH.lowOK (ch : CH combine a nWords um caps S p e b L) :
    LowOK (initUni a nWords).length S (wantT a (initUni a nWords) S) p b :=
  lowOK_wantT a _ S p (ch.blanks.lt_len (Nat.le_add_right b L)) ch.pre_mem (ch.lc.words _ (headD_mem p (Nat.le_of_succ_le ch.lc.n2)))

theorem CH.chain_sem_rest (ch : CH combine a nWords um caps S p e b L) (k : Key) (hk : k ∈ addLineKeys S p ∨ k.length = 1) :
    er (w5T a (initUni a nWords) S p e b L k) = er (wantAll a (initUni a nWords) (addLineKeys S p) k) := by
  have hbase := baseAll_real a (initUni a nWords) p e ch.lc.n2 ch.lc.real
  rw [w5T_eq, ← hbase]
  exact ch.lineOK.toLineKeys.line_sem_rest a _ (initUni_ok a nWords) ch.lc.asc
    ch.noctx (hbase ▸ ch.blank_val) ch.lowOK.neg _ k hk

end

end KV.ProbingBuild
