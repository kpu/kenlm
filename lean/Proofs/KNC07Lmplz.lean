import Proofs.KNCount
/-!
`lmplz` as a composition, the object C07 speaks about: the modelling options `Opts`, the parts outside the `Writer` model as
an unconstrained `Impl`, the tool `lmplzOut`, its configuration-free specification `lmplzSpec`, and the one fact every theorem
about `lmplzOut` starts from (`lmplzOut_eq_post`: up to the first sort the tool computes the table of the corpus).
-/
namespace KV.C07
open KV.KN KV.KN.Count

/-- the modelling options (everything on the command line that is *meant* to change the model) -/
structure Opts where
  /-- order, pruning thresholds, `--limit_vocab_file` exclusions, `--interpolate_unigrams` -/
  cfg : Cfg
  pruneVocab : Bool
  /-- `--discount_fallback` -/
  fallback : Option Disc

/-- The parts of `lmplz` outside `Model/KNCount.lean`, *as executed* under a memory configuration
`m : Mem` (`-S`, `--sort_block`, `--minimum_block`, `--block_count`, `--vocab_estimate`, `-T`) and a
thread schedule `s : Sched`.  Nothing is assumed about them here; the theorems below take the facts
they need as hypotheses. -/
structure Impl (Mem Sched Text Out : Type) where
  /-- slots per block of the CorpusCount chain (`pipeline.cc` + `chain.cc:43`) -/
  cap : Mem → Nat
  /-- tokeniser + `GrowableVocab` (initial size from `--vocab_estimate`, doubling): the id sequences
  of the lines, special words skipped -/
  encode : Mem → Text → List (List Word)
  /-- `Sort<SuffixOrder, CombineCounts>`: block sort, spill to `-T`, multi-pass / lazy merge -/
  sortCombine : Mem → Sched → List (List Rec) → List Rec
  /-- AdjustCounts … Interpolate … PrintARPA / `--intermediate` writer, run as threads over chains
  (with further external sorts between them) -/
  post : Mem → Sched → Opts → List Rec → Out

def lmplzOut {Mem Sched Text Out : Type} (I : Impl Mem Sched Text Out) (m : Mem) (s : Sched) (opts : Opts)
    (text : Text) : Out :=
  I.post m s opts (I.sortCombine m s (corpusCount opts.cfg.order (I.cap m) (I.encode m text)))

/-- the configuration-free specification: C05's `estimate` on the ids by first occurrence, rendered -/
def lmplzSpec {Text Out : Type} (render : Except Err Model → Out) (ids : Text → List (List Word)) (opts : Opts)
    (text : Text) : Out :=
  render (estimate opts.cfg opts.pruneVocab opts.fallback (ids text))

theorem isSpecial_of_gt : ∀ {w : Nat}, 2 < w → isSpecial w = false
  | 0, h | 1, h | 2, h => absurd h (by decide)
  | _ + 3, _ => rfl

theorem three_le_of_not_special : ∀ {w : Nat}, isSpecial w = false → 3 ≤ w
  | 0, h | 1, h | 2, h => absurd h (by decide)
  | _ + 3, _ => Nat.le_add_left 3 _

theorem two_le_of_not_special {w : Nat} (h : isSpecial w = false) : 2 ≤ w :=
  Nat.le_of_succ_le (three_le_of_not_special h)

/-- Up to the first sort the tool computes the table that `estimate` starts from.  The sort hypothesis is
asked only for the blocks that actually leave CorpusCount: C16's external sort does *not* combine inside a
single block (that block is copied by `ReadSingle`), so "= combineSorted ∘ mergeSort" holds for
duplicate-free blocks, which CorpusCount's are, not for arbitrary ones. -/
theorem lmplzOut_eq_post {Mem Sched Text Out : Type} (I : Impl Mem Sched Text Out)
    (ids : Text → List (List Word)) (opts : Opts) (hN : 1 ≤ opts.cfg.order) (text : Text)
    (h_vocab : ∀ m, I.encode m text = ids text)
    (h_ids : ∀ s ∈ ids text, ∀ w ∈ s, isSpecial w = false)
    (h_sort : ∀ m s, I.sortCombine m s (corpusCount opts.cfg.order (I.cap m) (ids text)) =
      combineSorted ((corpusCount opts.cfg.order (I.cap m) (ids text)).flatten.mergeSort gramLe))
    (m : Mem) (s : Sched) :
    lmplzOut I m s opts text = I.post m s opts
      (if opts.cfg.order ≤ 1 then countFull1 (ids text) else countFull opts.cfg.order (ids text)) := by
  unfold lmplzOut
  rw [h_vocab, h_sort]
  by_cases h1 : opts.cfg.order ≤ 1
  · have e1 : opts.cfg.order = 1 := Nat.le_antisymm h1 hN
    rw [if_pos h1, e1, sortCombine_one _ _ fun l hl w hw => two_le_of_not_special (h_ids l hl w hw)]
  · rw [if_neg h1, sortCombine_ge2 (Nat.lt_of_not_le h1)]

end KV.C07
