import Model.KN
import Mathlib.Algebra.Order.Field.Rat
import Mathlib.Tactic.NormNum
/-!
The discounts (`Model/KN.lean` §3) read backwards: what a successful `chenGoodman`, `discountOf`,
`discountsFrom` returned (`chenGoodman_eq_some`, `discountOf_eq_some`, `discountsFrom_eq_ok`), and that the
discounts so obtained are within their ranges `0 ≤ Dⱼ ≤ j` (`DiscOK`, `discounts_ok`), so that a
discount never exceeds the count it is taken from.
-/
namespace KV.KN.Norm

open KV.KN

/-- the discounts are within their ranges (what `chenGoodman` checks before returning them) -/
def DiscOK (d : Disc) : Prop :=
  0 ≤ d.d1 ∧ d.d1 ≤ 1 ∧ 0 ≤ d.d2 ∧ d.d2 ≤ 2 ∧ 0 ≤ d.d3 ∧ d.d3 ≤ 3

theorem get_nonneg {d : Disc} (hd : DiscOK d) : ∀ c : Nat, 0 ≤ d.get c
  | 0 => Rat.le_refl
  | 1 => hd.1
  | 2 => hd.2.2.1
  | _ + 3 => hd.2.2.2.2.1

theorem get_le_count {d : Disc} (hd : DiscOK d) : ∀ c : Nat, d.get c ≤ (c : Rat)
  | 0 => Rat.le_refl
  | 1 => hd.2.1
  | 2 => hd.2.2.2.1
  | c + 3 => Rat.le_trans hd.2.2.2.2.2 (Rat.natCast_le_natCast.mpr (Nat.le_add_left 3 c))

theorem apply_nonneg {d : Disc} (hd : DiscOK d) (c : Nat) : 0 ≤ d.apply c :=
  sub_nonneg.mpr (get_le_count hd c)

theorem chenGoodman_eq_some {s : OrderStat} {d : Disc} (h : chenGoodman s = some d) :
    s.n1 ≠ 0 ∧ s.n2 ≠ 0 ∧ s.n3 ≠ 0 ∧
    d.d1 = 1 - 2 * ((s.n1 : Rat) / ((s.n1 : Rat) + 2 * (s.n2 : Rat))) * (s.n2 : Rat) / (s.n1 : Rat) ∧
    d.d2 = 2 - 3 * ((s.n1 : Rat) / ((s.n1 : Rat) + 2 * (s.n2 : Rat))) * (s.n3 : Rat) / (s.n2 : Rat) ∧
    d.d3 = 3 - 4 * ((s.n1 : Rat) / ((s.n1 : Rat) + 2 * (s.n2 : Rat))) * (s.n4 : Rat) / (s.n3 : Rat) ∧
    DiscOK d := by
  unfold chenGoodman at h
  split at h
  · cases h
  · rename_i hz
    simp only at h
    split at h
    · cases h
    · rename_i hr
      cases h
      simp only [not_or, Rat.not_lt] at hz hr
      exact ⟨hz.1, hz.2.1, hz.2.2, rfl, rfl, rfl, hr.1, hr.2.1, hr.2.2.1, hr.2.2.2.1, hr.2.2.2.2.1,
        hr.2.2.2.2.2⟩

theorem discountOf_eq_some {fallback : Option Disc} {s : OrderStat} {d : Disc × Bool}
    (h : discountOf fallback s = some d) :
    (chenGoodman s = some d.1 ∧ d.2 = false) ∨
      (chenGoodman s = none ∧ fallback = some d.1 ∧ d.2 = true) := by
  unfold discountOf at h
  cases hcg : chenGoodman s with
  | some d' =>
    rw [hcg] at h
    cases h
    exact Or.inl ⟨rfl, rfl⟩
  | none =>
    rw [hcg] at h
    cases hf : fallback with
    | some f => rw [hf] at h; cases h; exact Or.inr ⟨rfl, rfl, rfl⟩
    | none => rw [hf] at h; cases h

theorem discountsFrom_eq_ok {fallback : Option Disc} : ∀ (stats : List OrderStat) (k : Nat)
    (ds : List (Disc × Bool)), discountsFrom fallback k stats = .ok ds →
    ds.length = stats.length ∧
      ∀ i (hi : i < stats.length) (hj : i < ds.length), discountOf fallback stats[i] = some ds[i]
  | [], k, ds, h => by
    cases h
    exact ⟨rfl, fun i hi => absurd hi (Nat.not_lt_zero i)⟩
  | s :: t, k, ds, h => by
    rw [discountsFrom] at h
    cases hdo : discountOf fallback s with
    | none => rw [hdo] at h; cases h
    | some d0 =>
      rw [hdo] at h
      cases ht : discountsFrom fallback (k + 1) t with
      | error e => rw [ht] at h; cases h
      | ok ds' =>
        rw [ht] at h
        cases h
        obtain ⟨hl, hall⟩ := discountsFrom_eq_ok t (k + 1) ds' ht
        refine ⟨congrArg Nat.succ hl, fun i hi hj => ?_⟩
        cases i with
        | zero => exact hdo
        | succ j => exact hall j (Nat.lt_of_succ_lt_succ hi) (Nat.lt_of_succ_lt_succ hj)

theorem discounts_ok {fallback : Option Disc} {stats : List OrderStat} {discs : List (Disc × Bool)}
    (hfb : ∀ f, fallback = some f → DiscOK f) (h : discounts fallback stats = .ok discs) :
    ∀ d ∈ discs.map (·.1), DiscOK d := by
  intro d hd
  obtain ⟨d', hd', rfl⟩ := List.mem_map.mp hd
  obtain ⟨hl, hall⟩ := discountsFrom_eq_ok stats 0 discs h
  obtain ⟨i, hi, rfl⟩ := List.getElem_of_mem hd'
  rcases discountOf_eq_some (hall i (hl ▸ hi) hi) with ⟨hcg, _⟩ | ⟨_, hf, _⟩
  · exact (chenGoodman_eq_some hcg).2.2.2.2.2.2
  · exact hfb _ hf

example : DiscOK ⟨1/2, 1, 3/2⟩ := by unfold DiscOK; norm_num

end KV.KN.Norm
