import Proofs.SortOffsets
import Proofs.SortMerge
/-! C16: passes and the whole external sort. -/
namespace KV.Sort
open List

variable {α : Type} {lt : α → α → Bool} {comb : α → α → Option α} {pick : Pick α}

theorem mergeGroup_pairwise (h : StrictWeak lt) (hc : CombKeeps lt comb) {R : α → α → Prop}
    (hR : Separated lt comb R) (g : List (List α)) (hg : AllSorted lt g) : Pairwise R (mergeGroup lt comb pick g) :=
  combineAdj_pairwise h hc hR _ (kmerge_sorted h pick g hg)

theorem mergeGroup_combined (h : StrictWeak lt) (g : List (List α)) :
    Combined comb g.flatten (mergeGroup lt comb pick g) :=
  (Combined.perm (kmerge_perm h pick g)).trans (combineAdj_combined comb _)

/-- the invariant that makes the final output pairwise `R`: the runs are sorted and, unless at least two of
them are still to be merged, pairwise `R` already (a single run is only copied).  For `R = ≤` the second
part says nothing new; for `R = <` it is what the duplicate-free clause rests on. -/
structure MergeInv (lt : α → α → Bool) (R : α → α → Prop) (runs : List (List α)) : Prop where
  sorted : AllSorted lt runs
  strict : 2 ≤ runs.length ∨ ∀ r ∈ runs, Pairwise R r

theorem MergeInv.of_strict {R : α → α → Prop} {runs : List (List α)} (hs : AllSorted lt runs)
    (hr : ∀ r ∈ runs, Pairwise R r) : MergeInv lt R runs :=
  ⟨hs, Or.inr hr⟩

theorem MergeInv.of_sorted {runs : List (List α)} (hr : AllSorted lt runs) : MergeInv lt (Le lt) runs :=
  .of_strict hr hr

/-- What `pass` returns (`pass_eq`): fewer than two runs are copied, otherwise each group is merged; the data
file and its log only lose the empty runs. -/
def passOut (lt : α → α → Bool) (comb : α → α → Option α) (pick : Pick α) (sizes : List Nat)
    (runs : List (List α)) : List (List α) :=
  nonempties (if runs.length ≤ 1 then runs else (splitGroups sizes runs).map (mergeGroup lt comb pick))

theorem pass_eq (lt : α → α → Bool) (comb) (pick) (sizes) (runs : List (List α)) :
    pass lt comb pick sizes runs = some (passOut lt comb pick sizes runs) := by
  match runs with
  | [] => exact storeRuns_eq []
  | [r] => exact storeRuns_eq [r]
  | r1 :: r2 :: rs =>
    rw [passOut, if_neg (by simp)]
    simp only [pass, storeRunsLogged_merge, storeRuns_eq]

theorem groups_sorted {sizes} {runs : List (List α)} (hr : AllSorted lt runs) :
    ∀ g ∈ splitGroups sizes runs, AllSorted lt g :=
  fun _ hg r hrg => hr r (mem_of_mem_splitGroups hg hrg)

/-- what holds of every merged group holds of every run after a pass; the runs before it need it only
when there are fewer than two of them, since only then are they copied -/
theorem passOut_all {sizes} (P : List α → Prop) {runs : List (List α)} (hr : 2 ≤ runs.length ∨ ∀ r ∈ runs, P r)
    (hg : ∀ g ∈ splitGroups sizes runs, P (mergeGroup lt comb pick g)) :
    ∀ r ∈ passOut lt comb pick sizes runs, P r := by
  intro r hr'
  have hm := (mem_nonempties.mp hr').1
  split at hm
  · rename_i h1; exact hr.resolve_left (Nat.not_le.mpr (Nat.lt_succ_of_le h1)) r hm
  · obtain ⟨g, hg', rfl⟩ := mem_map.mp hm
    exact hg g hg'

theorem passOut_inv (h : StrictWeak lt) (hc : CombKeeps lt comb) {R : α → α → Prop} (hR : Separated lt comb R) (sizes)
    {runs : List (List α)} (hr : MergeInv lt R runs) : MergeInv lt R (passOut lt comb pick sizes runs) :=
  .of_strict
    (passOut_all _ (Or.inr hr.sorted)
      fun g hg => mergeGroup_pairwise h hc (separated_le h comb) g (groups_sorted hr.sorted g hg))
    (passOut_all _ hr.strict fun g hg => mergeGroup_pairwise h hc hR g (groups_sorted hr.sorted g hg))

theorem passOut_combined (h : StrictWeak lt) (sizes) (runs : List (List α)) :
    Combined comb runs.flatten (passOut lt comb pick sizes runs).flatten := by
  rw [passOut, flatten_nonempties]
  split
  · exact .refl comb _
  · have := Combined.flatten_map (splitGroups sizes runs) fun g _ => mergeGroup_combined (comb := comb) (pick := pick) h g
    rwa [← flatten_flatten, splitGroups_flatten] at this

def passesOut (lt : α → α → Bool) (comb : α → α → Option α) (pick : Pick α) (plan : List (List Nat))
    (runs : List (List α)) : List (List α) :=
  plan.foldl (fun runs sizes => passOut lt comb pick sizes runs) runs

theorem passes_eq (lt : α → α → Bool) (comb) (pick) : ∀ (plan : List (List Nat)) (runs : List (List α)),
    passes lt comb pick plan runs = some (passesOut lt comb pick plan runs)
  | [], _ => rfl
  | sizes :: plan, runs => by rw [passes, pass_eq]; exact passes_eq lt comb pick plan _

theorem passesOut_induct (P : List (List α) → Prop)
    (step : ∀ sizes runs, P runs → P (passOut lt comb pick sizes runs)) :
    ∀ (plan : List (List Nat)) (runs : List (List α)), P runs → P (passesOut lt comb pick plan runs)
  | [], _, hP => hP
  | sizes :: plan, runs, hP => passesOut_induct P step plan _ (step sizes runs hP)

theorem finalMerge_combined (h : StrictWeak lt) : ∀ (runs : List (List α)),
    Combined comb runs.flatten (finalMerge lt comb pick runs)
  | [] => .refl comb _
  | [r] => by simpa [finalMerge] using Combined.refl comb r
  | r1 :: r2 :: rs => mergeGroup_combined h _

theorem mergePhase_combined (h : StrictWeak lt) (plan) (runs : List (List α)) :
    Combined comb runs.flatten (finalMerge lt comb pick (passesOut lt comb pick plan runs)) :=
  (passesOut_induct (fun r => Combined comb runs.flatten r.flatten)
    (fun sizes r hP => hP.trans (passOut_combined h sizes r)) plan _ (.refl comb _)).trans (finalMerge_combined h _)

theorem mergePhase_pairwise (h : StrictWeak lt) (hc : CombKeeps lt comb) {R : α → α → Prop}
    (hR : Separated lt comb R) (plan) {runs : List (List α)} (hr : MergeInv lt R runs) :
    Pairwise R (finalMerge lt comb pick (passesOut lt comb pick plan runs)) := by
  have hr' := passesOut_induct (pick := pick) (MergeInv lt R) (fun sizes _ hP => passOut_inv h hc hR sizes hP) plan _ hr
  generalize passesOut lt comb pick plan runs = runs' at hr'
  match runs', hr' with
  | [], _ => simp [finalMerge]
  | [r], hr' => exact (hr'.strict.resolve_left (by simp)) r (by simp)
  | r1 :: r2 :: rs, hr' => exact mergeGroup_pairwise h hc hR _ hr'.sorted

theorem blockSort_sorted (h : StrictWeak lt) (b : List α) : Pairwise (Le lt) (blockSort lt b) := by
  have := pairwise_mergeSort (le := le lt) (fun a b c => h.le_trans a b c) (fun a b => h.le_total a b) b
  exact this.imp (fun hab => by simpa [le] using hab)

theorem blockSort_perm (lt : α → α → Bool) (b : List α) : blockSort lt b ~ b := mergeSort_perm b _

/-- the runs `BlockSorter` leaves in the data file -/
def initialRuns (lt : α → α → Bool) (blocks : List (List α)) : List (List α) :=
  nonempties (blocks.map (blockSort lt))

theorem initialRuns_eq (lt : α → α → Bool) (blocks : List (List α)) :
    initialRuns lt blocks = (nonempties blocks).map (blockSort lt) :=
  nonempties_map fun b _ => by rw [not_isEmpty_iff, (blockSort_perm lt b).length_eq]

theorem afterBlockSorter_eq (lt : α → α → Bool) (blocks : List (List α)) :
    afterBlockSorter lt blocks = some (initialRuns lt blocks) := by
  have hl : blocks.map List.length = (blocks.map (blockSort lt)).map List.length := by
    rw [List.map_map]
    exact List.map_congr_left (fun b _ => (blockSort_perm lt b).length_eq.symm)
  unfold afterBlockSorter
  rw [hl]
  exact storeRuns_eq _

def extSortOut (lt : α → α → Bool) (comb : α → α → Option α) (pick : Pick α) (blocks : List (List α))
    (plan : List (List Nat)) : List α :=
  finalMerge lt comb pick (passesOut lt comb pick plan (initialRuns lt blocks))

theorem extSort_eq (lt : α → α → Bool) (comb) (pick) (blocks : List (List α)) (plan) :
    extSort lt comb pick blocks plan = some (extSortOut lt comb pick blocks plan) := by
  simp only [extSort, afterBlockSorter_eq, passes_eq]; rfl

theorem initialRuns_sorted (h : StrictWeak lt) (blocks : List (List α)) :
    AllSorted lt (initialRuns lt blocks) := by
  intro r hr
  obtain ⟨b, _, rfl⟩ := mem_map.mp (mem_nonempties.mp hr).1
  exact blockSort_sorted h b

theorem initialRuns_strict {κ : Type} (key : α → κ) (h : StrictWeak lt)
    (hkey : ∀ a b, lt a b = false ∧ lt b a = false → key a = key b)
    (blocks : List (List α)) (hb : ∀ b ∈ blocks, (b.map key).Nodup) :
    ∀ r ∈ initialRuns lt blocks, Pairwise (fun a b => lt a b = true) r := by
  intro r hr
  obtain ⟨b, hbm, rfl⟩ := mem_map.mp (mem_nonempties.mp hr).1
  have hn : ((blockSort lt b).map key).Nodup := ((blockSort_perm lt b).map key).nodup_iff.mpr (hb b hbm)
  rw [Nodup, pairwise_map] at hn
  refine (blockSort_sorted h b).imp₂ (fun x y hle hne => ?_) hn
  cases hxy : lt x y with
  | true => rfl
  | false => exact absurd (hkey x y ⟨hxy, hle⟩) hne

theorem initialRuns_perm (lt : α → α → Bool) (blocks : List (List α)) :
    (initialRuns lt blocks).flatten ~ blocks.flatten := by
  rw [initialRuns, flatten_nonempties]
  induction blocks with
  | nil => exact .refl _
  | cons b bs ih => exact (blockSort_perm lt b).append ih

theorem extSort_out {blocks : List (List α)} {plan} {out} (ho : extSort lt comb pick blocks plan = some out) :
    out = extSortOut lt comb pick blocks plan :=
  Option.some.inj (ho.symm.trans (extSort_eq lt comb pick blocks plan))

theorem extSortOut_pairwise (h : StrictWeak lt) (hc : CombKeeps lt comb) {R : α → α → Prop}
    (hR : Separated lt comb R) (blocks : List (List α)) (plan) (hr : MergeInv lt R (initialRuns lt blocks)) :
    Pairwise R (extSortOut lt comb pick blocks plan) :=
  mergePhase_pairwise h hc hR plan hr

theorem extSortOut_combined (h : StrictWeak lt) (blocks : List (List α)) (plan) :
    Combined comb blocks.flatten (extSortOut lt comb pick blocks plan) :=
  (Combined.perm (initialRuns_perm lt blocks)).trans (mergePhase_combined h plan _)

theorem sortSpec_combined (lt : α → α → Bool) (comb) (blocks : List (List α)) :
    Combined comb blocks.flatten (sortSpec lt comb blocks) := by
  unfold sortSpec
  simp only
  split
  · exact .perm (mergeSort_perm _ _)
  · exact (Combined.perm (mergeSort_perm _ _)).trans (combineAdj_combined comb _)

theorem sorted_perm_unique {l₁ l₂ : List α}
    (htot : ∀ a b, a ∈ l₁ → b ∈ l₁ → lt a b = false → lt b a = false → a = b)
    (s1 : Pairwise (Le lt) l₁) (s2 : Pairwise (Le lt) l₂) (hp : l₁ ~ l₂) : l₁ = l₂ :=
  Perm.eq_of_pairwise (le := Le lt) (fun a b ha hb hab hba => htot a b ha (hp.symm.subset hb) hba hab) s1 s2 hp

end KV.Sort
