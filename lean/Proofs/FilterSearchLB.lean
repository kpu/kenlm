import Proofs.FilterSearchSpec
/-!
`Arc::LowerBound` and `Vertex::LowerBound` meet their contract (`VSpec`): the state stays `Good`
at the new low-water mark, arcs into higher vertices are untouched, and the value returned is a
lower bound of the accepted sentences `≥ to` that is exact when it equals `to`.
-/
namespace KV.Filter

/-- the contract of `Vertex::LowerBound(to)` at vertex `v` -/
def VSpec (arcs : List PArc) (rec : Nat → Nat → PState → Option Nat × PState) (v : Nat) : Prop :=
  ∀ σ L to, Good arcs σ L → L ≤ to →
    Good arcs (rec v to σ).2 to ∧
    (∀ j b, arcs[j]? = some b → v < b.to → restOf (rec v to σ).2 j = restOf σ j) ∧
    match (rec v to σ).1 with
    | none => ∀ s, to ≤ s → ¬ PAcc arcs v s
    | some c => to ≤ c ∧ (c = to → PAcc arcs v to) ∧ (∀ s, to ≤ s → s < c → ¬ PAcc arcs v s) ∧ (c = to ∨ c ≤ maxSent arcs)

variable {arcs : List PArc} {σ σ' : PState} {a : PArc} {i v to : Nat}
  {rec : Nat → Nat → PState → Option Nat × PState}

theorem good_set {r : List Nat} (hg : Good arcs σ to)
    (ha : arcs[i]? = some a) (hs : r <:+ a.sents) (hk : ∀ s, Valid arcs a s → to ≤ s → s ∈ r) :
    Good arcs (σ.set i r) to := by
  have hil : i < σ.length := hg.len ▸ (List.getElem?_eq_some_iff.mp ha).1
  refine ⟨by rw [List.length_set, hg.len], fun j b hb => ?_, fun j b hb s hv hle => ?_⟩ <;>
    by_cases hji : j = i
  · subst hji; rw [ha] at hb; injection hb with e; subst e
    rw [restOf_set_eq σ r hil]; exact hs
  · rw [restOf_set_ne σ r hji]; exact hg.suf j b hb
  · subst hji; rw [ha] at hb; injection hb with e; subst e
    rw [restOf_set_eq σ r hil]; exact hk s hv hle
  · rw [restOf_set_ne σ r hji]; exact hg.keep j b hb s hv hle

/-- what `Arc::LowerBound(to)` on arc `i` (= `a`) establishes, as a predicate on the final state
relative to the state `σ` at entry -/
structure ArcPost (arcs : List PArc) (σ : PState) (i : Nat) (a : PArc) (to : Nat) (σ' : PState) : Prop where
  good : Good arcs σ' to
  frame : ∀ j b, arcs[j]? = some b → a.to ≤ b.to → j ≠ i → restOf σ' j = restOf σ j
  ge : ∀ x ∈ restOf σ' i, to ≤ x
  valid : ∀ t, restOf σ' i = to :: t → Valid arcs a to

theorem ArcPost.set {r : List Nat} (hg : Good arcs σ' to)
    (ha : arcs[i]? = some a) (hfr : ∀ j b, arcs[j]? = some b → a.to ≤ b.to → j ≠ i → restOf σ' j = restOf σ j)
    (hs : r <:+ a.sents) (hk : ∀ s, Valid arcs a s → to ≤ s → s ∈ r) (hge : ∀ x ∈ r, to ≤ x)
    (hv : ∀ t, r = to :: t → Valid arcs a to) : ArcPost arcs σ i a to (σ'.set i r) := by
  have hil : i < σ'.length := hg.len ▸ (List.getElem?_eq_some_iff.mp ha).1
  refine ⟨good_set hg ha hs hk, fun j b hb hle hji => ?_, ?_, ?_⟩
  · rw [restOf_set_ne σ' r hji]; exact hfr j b hb hle hji
  · rw [restOf_set_eq σ' r hil]; exact hge
  · rw [restOf_set_eq σ' r hil]; exact hv

theorem arcLB_spec (hw : WFG arcs) (ha : arcs[i]? = some a) (hrec : ∀ u, u < a.to → VSpec arcs rec u)
    {L : Nat} (hg : Good arcs σ L) (hl : L ≤ to) :
    ArcPost arcs σ i a to (arcLB rec false arcs i to σ) := by
  have hil : i < σ.length := hg.len ▸ (List.getElem?_eq_some_iff.mp ha).1
  -- the first statement of `Arc::LowerBound`, and the result if it is also the last
  have hr_suf : lowerBound to (restOf σ i) <:+ a.sents := (lowerBound_suffix _ _).trans (hg.suf i a ha)
  have hr_ge : ∀ x ∈ lowerBound to (restOf σ i), to ≤ x := lowerBound_ge (hg.inc hw ha)
  have hr_keep : ∀ s, Valid arcs a s → to ≤ s → s ∈ lowerBound to (restOf σ i) := fun s hv hle =>
    mem_lowerBound (hg.keep i a ha s hv (Nat.le_trans hl hle)) (Nat.not_lt.mpr hle)
  have hstop : (∀ t, lowerBound to (restOf σ i) = to :: t → Valid arcs a to) →
      ArcPost arcs σ i a to (σ.set i (lowerBound to (restOf σ i))) :=
    ArcPost.set (hg.mono hl) ha (fun _ _ _ _ _ => rfl) hr_suf hr_keep hr_ge
  unfold arcLB
  simp only [ha]
  cases hf : a.from_ with
  | none => exact hstop fun t ht => ⟨hr_suf.subset (ht ▸ List.mem_cons_self), Or.inl hf⟩
  | some u =>
    have hu : u < a.to := hw.dag a (List.mem_of_getElem? ha) u hf
    cases hr : lowerBound to (restOf σ i) with
    | nil => rw [hr] at hstop; exact hstop nofun
    | cons c r' =>
      rw [hr] at hstop hr_suf hr_ge hr_keep
      have hcge : to ≤ c := hr_ge c List.mem_cons_self
      simp only [Bool.not_false, Bool.true_and, decide_eq_true_eq, Bool.false_eq_true, if_false]
      split
      · rename_i hlt
        exact hstop fun t ht => by injection ht with e _; exact absurd e (Nat.ne_of_gt hlt)
      · -- the candidate is `to`: ask the source vertex
        rename_i hlt
        have hc : c = to := Nat.le_antisymm (Nat.not_lt.mp hlt) hcge
        subst hc
        have hg1 : Good arcs (σ.set i (c :: r')) c := good_set (hg.mono hl) ha hr_suf hr_keep
        obtain ⟨hg2, hfr, hres⟩ := hrec u hu (σ.set i (c :: r')) c c hg1 (Nat.le_refl _)
        have hi2 : restOf (rec u c (σ.set i (c :: r'))).2 i = c :: r' := by
          rw [hfr i a ha hu, restOf_set_eq σ _ hil]
        have hframe : ∀ j b, arcs[j]? = some b → a.to ≤ b.to → j ≠ i →
            restOf (rec u c (σ.set i (c :: r'))).2 j = restOf σ j := fun j b hb hle hji => by
          rw [hfr j b hb (Nat.lt_of_lt_of_le hu hle), restOf_set_ne σ _ hji]
        have hacc : ∀ s, Valid arcs a s → PAcc arcs u s := fun s hv => by
          rcases hv.2 with h | ⟨u', h, hacc⟩
          · rw [hf] at h; cases h
          · rw [hf] at h; injection h with h; exact h ▸ hacc
        cases hres1 : (rec u c (σ.set i (c :: r'))).1 with
        | none =>
          rw [hres1] at hres
          exact ArcPost.set hg2 ha hframe List.nil_suffix (fun s hv hle => absurd (hacc s hv) (hres s hle)) nofun nofun
        | some fc =>
          rw [hres1] at hres
          obtain ⟨hfge, hfeq, hfno, _⟩ := hres
          dsimp only
          split
          · -- the source vertex is ahead: skip to its candidate
            rename_i hflt
            have hincr : Inc r' := (List.pairwise_cons.mp ((hw.inc a (List.mem_of_getElem? ha)).suffix hr_suf)).2
            have hge' : ∀ x ∈ lowerBound fc r', c < x := fun x hx => Nat.lt_of_lt_of_le hflt (lowerBound_ge hincr x hx)
            refine ArcPost.set hg2 ha hframe (((lowerBound_suffix fc r').trans (List.suffix_cons c r')).trans hr_suf)
              (fun s hv hle => ?_) (fun x hx => Nat.le_of_lt (hge' x hx))
              (fun t ht => absurd (hge' c (ht ▸ List.mem_cons_self)) (Nat.lt_irrefl c))
            have hsge : fc ≤ s := Nat.not_lt.mp fun h => hfno s hle h (hacc s hv)
            rcases List.mem_cons.mp (hi2 ▸ hg2.keep i a ha s hv hle) with h | h
            · omega
            · exact mem_lowerBound h (Nat.not_lt.mpr hsge)
          · rename_i hflt
            exact ⟨hg2, hframe, by rw [hi2]; exact hr_ge, fun t _ =>
              ⟨hr_suf.subset List.mem_cons_self, Or.inr ⟨u, hf, hfeq (Nat.le_antisymm (Nat.not_lt.mp hflt) hfge)⟩⟩⟩

/-- arc `j` is in the queue of `v` with a candidate not above `to` -/
def pend (arcs : List PArc) (σ : PState) (v to : Nat) (j : Nat) : Bool :=
  match key arcs σ v j with
  | some h => decide (h ≤ to)
  | none => false

def pendCount (arcs : List PArc) (σ : PState) (v to : Nat) : Nat :=
  (List.range arcs.length).countP (pend arcs σ v to)

theorem pendCount_le (arcs : List PArc) (σ : PState) (v to : Nat) : pendCount arcs σ v to ≤ arcs.length :=
  Nat.le_trans List.countP_le_length (Nat.le_of_eq List.length_range)

theorem countP_lt_of {l : List Nat} {p q : Nat → Bool} (hsub : ∀ j ∈ l, q j = true → p j = true) {i : Nat}
    (hi : i ∈ l) (hp : p i = true) (hq : q i = false) : l.countP q < l.countP p := by
  induction l with
  | nil => cases hi
  | cons x l ih =>
    have hle : l.countP q ≤ l.countP p := List.countP_mono_left fun j hj => hsub j (List.mem_cons_of_mem _ hj)
    rcases List.mem_cons.mp hi with rfl | hi'
    · rw [List.countP_cons_of_pos hp, List.countP_cons_of_neg (by rw [hq]; exact Bool.false_ne_true)]
      exact Nat.lt_succ_of_le hle
    · have := ih (fun j hj => hsub j (List.mem_cons_of_mem _ hj)) hi'
      rw [List.countP_cons, List.countP_cons]
      by_cases hqx : q x = true
      · rw [if_pos hqx, if_pos (hsub x List.mem_cons_self hqx)]; omega
      · rw [if_neg hqx]; split <;> omega

/-- the arc taken from the queue leaves it (its candidate is now above `to`), no other arc into
`v` has changed: fewer arcs are pending -/
theorem pendCount_lt {h : Nat} (ha : arcs[i]? = some a)
    (hato : a.to = v) (hk : key arcs σ v i = some h) (hh : h ≤ to)
    (hfr : ∀ j b, arcs[j]? = some b → b.to = v → j ≠ i → restOf σ' j = restOf σ j)
    (hgt : ∀ h' t', restOf σ' i = h' :: t' → to < h') : pendCount arcs σ' v to < pendCount arcs σ v to := by
  have hi : pend arcs σ v to i = true := by rw [pend, hk]; exact decide_eq_true hh
  refine countP_lt_of (fun j _ hq => ?_) (List.mem_range.mpr ((List.getElem?_eq_some_iff.mp ha).1)) hi ?_
  · by_cases hji : j = i
    · exact hji ▸ hi
    · have : key arcs σ' v j = key arcs σ v j := by
        unfold key
        split
        · rename_i b hb
          split
          · rename_i hbv; rw [hfr j b hb hbv hji]
          · rfl
        · rfl
      rwa [pend, this] at hq
  · rw [pend, key_of_arc ha, if_pos hato]
    cases hr : restOf σ' i with
    | nil => rfl
    | cons h' t' => exact decide_eq_false (Nat.not_le.mpr (hgt h' t' hr))

/-- What `vertexLoop` returns, as a predicate on (result, final state) relative to the state at entry.  `VSpec arcs rec v`
is `∀ σ L to, Good arcs σ L → L ≤ to → LoopPost arcs v to σ (rec v to σ)` written out; the last step of
`lowerBound_spec` uses that the two unfold to the same term.  The disjunct `c ≤ maxSent arcs` bounds the values the
`Evaluate` loops are sent on to: their fuel `maxSent arcs + 2` rests on it. -/
def LoopPost (arcs : List PArc) (v to : Nat) (σ : PState) (res : Option Nat × PState) : Prop :=
  Good arcs res.2 to ∧
  (∀ j b, arcs[j]? = some b → v < b.to → restOf res.2 j = restOf σ j) ∧
  match res.1 with
  | none => ∀ s, to ≤ s → ¬ PAcc arcs v s
  | some c => to ≤ c ∧ (c = to → PAcc arcs v to) ∧ (∀ s, to ≤ s → s < c → ¬ PAcc arcs v s) ∧ (c = to ∨ c ≤ maxSent arcs)

theorem acc_index {s : Nat} (h : PAcc arcs v s) :
    ∃ (j : Nat) (b : PArc), arcs[j]? = some b ∧ b.to = v ∧ Valid arcs b s := by
  obtain ⟨a, ha, hto, hv⟩ := acc_iff_valid.mp h
  obtain ⟨j, hj⟩ := List.getElem?_of_mem ha
  exact ⟨j, a, hj, hto, hv⟩

/-- the loop of `Vertex::LowerBound` (`vertexLoop`) meets `LoopPost`; fuel: the arcs still pending -/
theorem vertexLoop_spec (hw : WFG arcs) (hrec : ∀ u, u < v → VSpec arcs rec u) :
    ∀ (fuel : Nat) (σ : PState) (L : Nat), Good arcs σ L → L ≤ to → pendCount arcs σ v to < fuel →
      LoopPost arcs v to σ (vertexLoop rec false arcs v to fuel σ)
  | 0, _, _, _, _, hf => nomatch hf
  | f+1, σ, L, hg, hl, hf => by
    have htop := topArc_spec arcs σ v
    have hkey : ∀ s, L ≤ s → PAcc arcs v s → ∃ j h', key arcs σ v j = some h' ∧ h' ≤ s := by
      intro s hs hacc
      obtain ⟨j, b, hj, hbt, hv⟩ := acc_index hacc
      exact ⟨j, key_le_of_mem hj hbt (hg.inc hw hj) (hg.keep j b hj s hv hs)⟩
    rw [vertexLoop]
    cases ht : topArc arcs σ v with
    | none =>
      rw [ht] at htop
      refine ⟨hg.mono hl, fun _ _ _ _ => rfl, fun s hs hacc => ?_⟩
      obtain ⟨j, h', hk, _⟩ := hkey s (Nat.le_trans hl hs) hacc
      rw [htop j] at hk; cases hk
    | some p =>
      obtain ⟨i, h⟩ := p
      rw [ht] at htop
      obtain ⟨hk, hmin⟩ := htop
      obtain ⟨a, t, ha, hato, hri⟩ := key_eq_some hk
      dsimp only
      split
      · rename_i hlt
        have hmax : h ≤ maxSent arcs :=
          le_maxElem (List.mem_map.mpr ⟨a, List.mem_of_getElem? ha, rfl⟩) ((hg.suf i a ha).subset (hri ▸ List.mem_cons_self))
        refine ⟨hg.mono hl, fun _ _ _ _ => rfl, Nat.le_of_lt hlt, fun e => absurd e (Nat.ne_of_gt hlt), fun s hs hsh hacc => ?_, Or.inr hmax⟩
        obtain ⟨j, h', hk', hle⟩ := hkey s (Nat.le_trans hl hs) hacc
        exact Nat.lt_irrefl s (Nat.lt_of_lt_of_le hsh (Nat.le_trans (hmin j h' hk') hle))
      · rename_i hlt
        obtain ⟨hg', hfr, hge, hval⟩ := arcLB_spec hw ha (fun u hu => hrec u (hato ▸ hu)) hg hl
        have hfr' : ∀ j b, arcs[j]? = some b → v < b.to → restOf (arcLB rec false arcs i to σ) j = restOf σ j :=
          fun j b hj hvb => hfr j b hj (by omega) fun e => by subst e; rw [ha] at hj; injection hj with e; subst e; omega
        have hframe : ∀ (res : Option Nat × PState), LoopPost arcs v to (arcLB rec false arcs i to σ) res →
            LoopPost arcs v to σ res :=
          fun res ⟨r1, r2, r3⟩ => ⟨r1, fun j b hj hvb => (r2 j b hj hvb).trans (hfr' j b hj hvb), r3⟩
        -- the loop goes on with fewer pending arcs unless the arc has stopped at `to`
        have hnext : (∀ h' t', restOf (arcLB rec false arcs i to σ) i = h' :: t' → h' ≠ to) →
            LoopPost arcs v to σ (vertexLoop rec false arcs v to f (arcLB rec false arcs i to σ)) := fun hne => by
          refine hframe _ (vertexLoop_spec hw hrec f _ to hg' (Nat.le_refl _) ?_)
          have := pendCount_lt ha hato hk (Nat.not_lt.mp hlt) (fun j b hj hbv hji => hfr j b hj (by omega) hji)
            fun h' t' hr => Nat.lt_of_le_of_ne (hge h' (hr ▸ List.mem_cons_self)) (Ne.symm (hne h' t' hr))
          omega
        cases hr' : restOf (arcLB rec false arcs i to σ) i with
        | nil => exact hnext fun h' t' e => by rw [hr'] at e; cases e
        | cons h' t' =>
          dsimp only
          split
          · rename_i heq
            subst heq
            exact ⟨hg', hfr', Nat.le_refl _, fun _ => acc_iff_valid.mpr ⟨a, List.mem_of_getElem? ha, hato, hval t' hr'⟩,
              fun s h1 h2 => absurd h2 (Nat.not_lt.mpr h1), Or.inl rfl⟩
          · rename_i hne
            exact hnext fun h'' t'' e => by rw [hr'] at e; injection e with e _; exact e ▸ hne

/-- `vertexLB` (`Vertex::LowerBound`) meets `VSpec` when the nesting depth `d` exceeds the vertex -/
theorem lowerBound_spec {arcs : List PArc} (hw : WFG arcs) :
    ∀ (d v : Nat), v < d → VSpec arcs (vertexLB false arcs d) v
  | 0, _, h => nomatch h
  | d+1, v, hv => by
    intro σ L to hg hl
    have hrec : ∀ u, u < v → VSpec arcs (vertexLB false arcs d) u := fun u hu => lowerBound_spec hw d u (Nat.lt_of_lt_of_le hu (Nat.le_of_lt_succ hv))
    have := vertexLoop_spec hw hrec (arcs.length + 1) σ L hg hl (Nat.lt_succ_of_le (pendCount_le arcs σ v to))
    exact this

end KV.Filter
