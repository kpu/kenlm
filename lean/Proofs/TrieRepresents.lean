import Model.TrieLM
import Proofs.SearchSim
import Proofs.Search
/-! `Represents`: how a trie memory represents a table, and `trie_sim`: the bit-packed trie search over such a memory returns,
node for node, the records of the abstract table search (`C03Trie.trie_refines` is `fullScore_eq_of_rel` applied to it);
`TableAgree`: two tables with the same observable entries are represented by the same memory (`Represents.transfer`). -/
namespace KV.TrieLM
open KV.Arpa KV.Table KV.Score KV.State KV.Search

/-- the key array of a bit-packed order in the position convention of `bfind` -/
def keyPos (mem base wordBits totalBits : Nat) : Nat → Nat := fun pos => wordAt mem base wordBits totalBits (pos - 1)

theorem keyPos_eq (mem base wordBits totalBits : Nat) :
    keyPos mem base wordBits totalBits = fun pos => wordAt mem base wordBits totalBits (pos - 1) := rfl

theorem midKey_eq (M : Trie) (om2 : Nat) :
    midKey M om2 = wordAt M.mem (M.middle om2).base (M.middle om2).wordBits (M.middle om2).totalBits := rfl

/-- How a trie memory represents a table.  `rng g` (ghost) is the child range of the reversed n-gram `g`: the indices, in
the array of the next order, of the records `g ++ [w]`.  Every entry of the table (real n-gram or blank) is reached by the
chain `rng [w₁]`, `rng [w₁,w₂]`, …; within a child range the word fields are sorted (what `FindBitPacked` needs), every
record of the range is an entry of the table with these values and this child range, and every entry has a record.
`mid_bound` / `long_bound`: a valid word is `≤ max_vocab`, the upper bound `FindBitPacked` hands to the interpolation search. -/
structure Represents (fval : Nat → Rat) (M : Trie) (T : Table) (rng : List Word → Node) : Prop where
  order : M.order = T.order
  uni : ∀ w, w < M.bound → ∃ t, T.lookup [w] = some t ∧ toFound fval (unigramRec M w) = Score.toFound t ∧
    (unigramRec M w).range = rng [w]
  mid_bound : ∀ om2, om2 + 2 < T.order → M.bound ≤ (M.middle om2).maxVocab + 1
  mid_sorted : ∀ g om2, T.lookup g ≠ none → g.length = om2 + 1 → om2 + 2 < T.order →
    SortedIn (keyPos M.mem (M.middle om2).base (M.middle om2).wordBits (M.middle om2).totalBits) (rng g).1 ((rng g).2 + 1)
  mid_rec : ∀ g om2 i, T.lookup g ≠ none → g.length = om2 + 1 → om2 + 2 < T.order → (rng g).1 ≤ i → i < (rng g).2 →
    ∃ t, T.lookup (g ++ [wordAt M.mem (M.middle om2).base (M.middle om2).wordBits (M.middle om2).totalBits i]) = some t ∧
      toFound fval (middleRec M om2 i) = Score.toFound t ∧
      (middleRec M om2 i).range = rng (g ++ [wordAt M.mem (M.middle om2).base (M.middle om2).wordBits (M.middle om2).totalBits i])
  mid_all : ∀ g om2 w, T.lookup g ≠ none → g.length = om2 + 1 → om2 + 2 < T.order → T.lookup (g ++ [w]) ≠ none →
    ∃ i, (rng g).1 ≤ i ∧ i < (rng g).2 ∧ wordAt M.mem (M.middle om2).base (M.middle om2).wordBits (M.middle om2).totalBits i = w
  long_bound : M.bound ≤ M.longest.maxVocab + 1
  long_sorted : ∀ g, T.lookup g ≠ none → 1 ≤ g.length → g.length + 1 = T.order →
    SortedIn (keyPos M.mem M.longest.base M.longest.wordBits M.longest.totalBits) (rng g).1 ((rng g).2 + 1)
  long_rec : ∀ g i, T.lookup g ≠ none → 1 ≤ g.length → g.length + 1 = T.order → (rng g).1 ≤ i → i < (rng g).2 →
    ∃ t, T.lookup (g ++ [wordAt M.mem M.longest.base M.longest.wordBits M.longest.totalBits i]) = some t ∧
      fval (longestProbBits M i) = t.prob
  long_all : ∀ g w, T.lookup g ≠ none → 1 ≤ g.length → g.length + 1 = T.order → T.lookup (g ++ [w]) ≠ none →
    ∃ i, (rng g).1 ≤ i ∧ i < (rng g).2 ∧ wordAt M.mem M.longest.base M.longest.wordBits M.longest.totalBits i = w

/-- the child range `r` of the key `g` in the key array of the next order: sorted (what `FindBitPacked` needs), every record an
entry `g ++ [word]` of the table with `P`, every such entry a record.  `Represents` says this of the middle arrays and of the
longest array -/
structure ChildArray (T : Table) (g : List Word) (r : Node) (key : Nat → Nat) (P : Nat → TEntry → Prop) : Prop where
  sorted : SortedIn (fun pos => key (pos - 1)) r.1 (r.2 + 1)
  entry : ∀ i, r.1 ≤ i → i < r.2 → ∃ t, T.lookup (g ++ [key i]) = some t ∧ P i t
  complete : ∀ w, T.lookup (g ++ [w]) ≠ none → ∃ i, r.1 ≤ i ∧ i < r.2 ∧ key i = w

theorem ChildArray.imp {T : Table} {g : List Word} {r : Node} {key : Nat → Nat} {P P' : Nat → TEntry → Prop}
    (ca : ChildArray T g r key P) (h : ∀ i t, r.1 ≤ i → i < r.2 → T.lookup (g ++ [key i]) = some t → P i t → P' i t) :
    ChildArray T g r key P' :=
  ⟨ca.sorted, fun i h1 h2 => (ca.entry i h1 h2).imp fun t ht => ⟨ht.1, h i t h1 h2 ht.1 ht.2⟩, ca.complete⟩

section
variable {fval : Nat → Rat} {M : Trie} {T : Table} {rng : List Word → Node}

theorem Represents.mid_array (rep : Represents fval M T rng) {g : List Word} {om2 : Nat} (hg : T.lookup g ≠ none)
    (hl : g.length = om2 + 1) (hom : om2 + 2 < T.order) :
    ChildArray T g (rng g) (midKey M om2) fun i t =>
      toFound fval (middleRec M om2 i) = Score.toFound t ∧ (middleRec M om2 i).range = rng (g ++ [midKey M om2 i]) :=
  ⟨rep.mid_sorted g om2 hg hl hom, fun i => rep.mid_rec g om2 i hg hl hom, fun w => rep.mid_all g om2 w hg hl hom⟩

theorem Represents.long_array (rep : Represents fval M T rng) {g : List Word} (hg : T.lookup g ≠ none) (h1 : 1 ≤ g.length)
    (hl : g.length + 1 = T.order) : ChildArray T g (rng g) (longKey M) fun i t => fval (longestProbBits M i) = t.prob :=
  ⟨rep.long_sorted g hg h1 hl, fun i => rep.long_rec g i hg h1 hl, fun w => rep.long_all g w hg h1 hl⟩

theorem Represents.of_arrays (order : M.order = T.order)
    (uni : ∀ w, w < M.bound → ∃ t, T.lookup [w] = some t ∧ toFound fval (unigramRec M w) = Score.toFound t ∧
      (unigramRec M w).range = rng [w])
    (mid_bound : ∀ om2, om2 + 2 < T.order → M.bound ≤ (M.middle om2).maxVocab + 1)
    (mid : ∀ g om2, T.lookup g ≠ none → g.length = om2 + 1 → om2 + 2 < T.order →
      ChildArray T g (rng g) (midKey M om2) fun i t =>
        toFound fval (middleRec M om2 i) = Score.toFound t ∧ (middleRec M om2 i).range = rng (g ++ [midKey M om2 i]))
    (long_bound : M.bound ≤ M.longest.maxVocab + 1)
    (long : ∀ g, T.lookup g ≠ none → 1 ≤ g.length → g.length + 1 = T.order →
      ChildArray T g (rng g) (longKey M) fun i t => fval (longestProbBits M i) = t.prob) : Represents fval M T rng :=
  ⟨order, uni, mid_bound, fun g om2 hg hl hom => (mid g om2 hg hl hom).sorted, fun g om2 i hg hl hom => (mid g om2 hg hl hom).entry i,
    fun g om2 w hg hl hom => (mid g om2 hg hl hom).complete w, long_bound, fun g hg h1 hl => (long g hg h1 hl).sorted,
    fun g i hg h1 hl => (long g hg h1 hl).entry i, fun g w hg h1 hl => (long g hg h1 hl).complete w⟩

end

theorem find_child {T : Table} {g : List Word} {mem base wordBits totalBits maxVocab : Nat} {r : Node}
    {P : Nat → TEntry → Prop} (w : Word) (ca : ChildArray T g r (wordAt mem base wordBits totalBits) P) (hk : w ≤ maxVocab) :
    (findBitPacked mem base wordBits totalBits maxVocab w r = none ∧ T.lookup (g ++ [w]) = none) ∨
    ∃ i t, findBitPacked mem base wordBits totalBits maxVocab w r = some i ∧ T.lookup (g ++ [w]) = some t ∧
      wordAt mem base wordBits totalBits i = w ∧ P i t := by
  have hs := ca.sorted
  rw [← keyPos_eq] at hs
  have e : findBitPacked mem base wordBits totalBits maxVocab w r
      = (bfind (keyPos mem base wordBits totalBits) pivot32 w (r.2 + 1 - r.1) r.1 0 (r.2 + 1) maxVocab).map (· - 1) := rfl
  rw [e]
  cases hf : bfind (keyPos mem base wordBits totalBits) pivot32 w (r.2 + 1 - r.1) r.1 0 (r.2 + 1) maxVocab with
  | none =>
    refine .inl ⟨rfl, ?_⟩
    cases ht : T.lookup (g ++ [w]) with
    | none => rfl
    | some t =>
      obtain ⟨i, h1, h2, h3⟩ := ca.complete w (ht ▸ Option.some_ne_none t)
      obtain ⟨p, hp⟩ := bfind_complete _ pivot32 w pivot32_ok (r.2 + 1 - r.1) r.1 0 (r.2 + 1) maxVocab hs hk (by omega) ⟨i + 1, by omega, by omega, h3⟩
      rw [hf] at hp; cases hp
  | some p =>
    obtain ⟨ha, hlo, hhi⟩ := bfind_sound _ pivot32 w pivot32_ok _ _ 0 _ maxVocab p hk hf
    obtain ⟨t, ht, hP⟩ := ca.entry (p - 1) (by omega) (by omega)
    exact .inr ⟨p - 1, t, rfl, ha ▸ ht, ha, hP⟩

/-- the node relation: `n` is the child range `rng g` of a key `g` of length `d`; every lookup is `find_child` on the key array of
the next order, whose records `Represents` ties to the entries `g ++ [w]` -/
theorem trie_sim (fval : Nat → Rat) (M : Trie) (T : Table) (rng : List Word → Node) (rep : Represents fval M T rng)
    (hN : 2 ≤ T.order) :
    SimRel Eq Eq (fun w => w < M.bound) (search fval M) (tableSearch T)
      (fun d n g => d + 1 ≤ M.order ∧ g.length = d ∧ T.lookup g ≠ none ∧ n = rng g) := by
  have hN' : 2 ≤ M.order := rep.order ▸ hN
  refine .of_eq rep.order hN' ?_ ?_ ?_
  · intro w hw
    obtain ⟨t, ht, hf, hr⟩ := rep.uni w hw
    refine ⟨?_, rfl, ?_, ?_⟩
    · simp only [search, tableSearch, ht]; exact hf
    · simp [tableSearch, ht]
    · simp only [search, tableSearch]; exact hr
  · intro om2 w n g hw hom ⟨hl, hg, hn⟩
    have hom' : om2 + 2 < T.order := rep.order ▸ hom
    subst hn
    have hk : w ≤ (M.middle om2).maxVocab := Nat.le_of_lt_succ (Nat.lt_of_lt_of_le hw (rep.mid_bound om2 hom'))
    simp only [search, tableSearch, middleFind]
    rcases find_child w (rep.mid_array hg hl hom') hk with ⟨hf, ht⟩ | ⟨i, t, hf, ht, h3, hfound, hrange⟩
    · simp [hf, ht]
    · rw [midKey_eq, h3] at hrange
      rw [hf]
      exact ⟨by simp [ht, hfound], fun _ => ⟨by simp [hl], by simp [ht], hrange⟩⟩
  · intro w n g hw ⟨hl, hg, hn⟩
    subst hn
    have hl : g.length = M.order - 1 := hl
    have hl' : g.length + 1 = T.order := by rw [← rep.order]; omega
    have hk : w ≤ M.longest.maxVocab := Nat.le_of_lt_succ (Nat.lt_of_lt_of_le hw rep.long_bound)
    simp only [search, tableSearch, longestFind]
    rcases find_child w (rep.long_array hg (by omega) hl') hk with ⟨hf, ht⟩ | ⟨i, t, hf, ht, _, hp⟩
    · simp [hf, ht]
    · simp [hf, ht, hp]

/-- two tables with the same keys and, per key, the same observable entry (probability, back-off, both extension marks);
the ghost flag `blank` may differ -/
def TableAgree (T1 T2 : Table) : Prop :=
  T1.order = T2.order ∧ ∀ g, match T1.lookup g, T2.lookup g with
    | some t1, some t2 => Score.toFound t1 = Score.toFound t2
    | none, none => True
    | _, _ => False

theorem tableAgree_iff {T1 T2 : Table} :
    TableAgree T1 T2 ↔ TableRel (fun t1 t2 => Score.toFound t1 = Score.toFound t2) T1 T2 := by
  refine (and_congr_right fun _ => forall_congr' fun g => ?_).trans tableRel_iff.symm
  cases T1.lookup g <;> cases T2.lookup g <;> simp

theorem TableAgree.of_rel {T1 T2 : Table} (ho : T1.order = T2.order)
    (h : ∀ g, Option.Rel (fun t1 t2 => Score.toFound t1 = Score.toFound t2) (T1.lookup g) (T2.lookup g)) : TableAgree T1 T2 :=
  tableAgree_iff.2 ⟨ho, h⟩

theorem TableAgree.ne_none {T1 T2 : Table} (h : TableAgree T1 T2) (g : List Word) : T2.lookup g ≠ none → T1.lookup g ≠ none :=
  (tableAgree_iff.1 h).ne_none g

theorem TableAgree.some {T1 T2 : Table} (h : TableAgree T1 T2) (g : List Word) (t1 : TEntry) (h1 : T1.lookup g = some t1) :
    ∃ t2, T2.lookup g = some t2 ∧ Score.toFound t1 = Score.toFound t2 :=
  (tableAgree_iff.1 h).some g t1 h1

theorem toFound_prob {t1 t2 : TEntry} (h : Score.toFound t1 = Score.toFound t2) : t1.prob = t2.prob := by
  have := congrArg Found.prob h; simpa [Score.toFound] using this

theorem ChildArray.transfer {T1 T2 : Table} {g : List Word} {r : Node} {key : Nat → Nat} {P P' : Nat → TEntry → Prop}
    (ca : ChildArray T1 g r key P) (h : TableAgree T1 T2)
    (hP : ∀ i t1 t2, Score.toFound t1 = Score.toFound t2 → P i t1 → P' i t2) : ChildArray T2 g r key P' := by
  refine ⟨ca.sorted, fun i h1 h2 => ?_, fun w hw => ca.complete w (h.ne_none _ hw)⟩
  obtain ⟨t, ht, hp⟩ := ca.entry i h1 h2
  obtain ⟨t2, ht2, he⟩ := h.some _ t ht
  exact ⟨t2, ht2, hP i t t2 he hp⟩

theorem Represents.transfer {fval : Nat → Rat} {M : Trie} {T1 T2 : Table} {rng : List Word → Node}
    (rep : Represents fval M T1 rng) (h : TableAgree T1 T2) : Represents fval M T2 rng := by
  refine .of_arrays (by rw [rep.order, h.1]) (fun w hw => ?_) (fun om2 hom => rep.mid_bound om2 (by rw [h.1]; exact hom))
    (fun g om2 hg hl hom => (rep.mid_array (h.ne_none g hg) hl (by rw [h.1]; exact hom)).transfer h
      fun i t1 t2 he hp => ⟨hp.1.trans he, hp.2⟩)
    rep.long_bound
    (fun g hg h1 hl => (rep.long_array (h.ne_none g hg) h1 (by rw [h.1]; exact hl)).transfer h
      fun i t1 t2 he hp => hp.trans (toFound_prob he))
  obtain ⟨t, ht, hf, hr⟩ := rep.uni w hw
  obtain ⟨t2, ht2, he⟩ := h.some _ t ht
  exact ⟨t2, ht2, hf.trans he, hr⟩

end KV.TrieLM
