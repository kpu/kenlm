import Proofs.ProbingBuildLine
/-! One line of `ReadNGrams`, key level, either build mode (under `MaxRestBuild` up to the `rest` field, `upTo`): what the fill
updates, the marks along the chain and the mark on the context (`afterLine`) leave at an old key, at the line and at a blank
(`LineKeys.chain_old`, `Blanks.chain_line`, `LineKeys.chain_blank`), and that these are the payloads `wantAll` prescribes for the
enlarged key set (`LineKeys.line_sem`), given what the blanks are to hold.  Hence the per-line step for the general invariant
(`invG_step_line`: any `u0`, `N`, any number of blanks). -/
namespace KV.ProbingBuild
open KV.Arpa KV.Table KV.Score KV.ProbingLM

theorem clr_clr (w : W) : clr (clr w) = clr w := rfl

/-- a line at one key, up to `rest` under `MaxRestBuild`: the fill updates, then the sign cleared along the chain, then the mark on
the context; `MarkLower` changes nothing else, the signs below the basis being clear already -/
theorem afterLine_eval (rest : Bool) (w1 : Key → W) (p : Key) (lr : Rat) (b L : Nat) (hpl : b + L < p.length)
    (hneg : rest = true → ∀ j, 1 ≤ j → j < b → (w1 (p.take j)).neg = false) (k : Key) :
    upTo rest (afterLine rest w1 p lr b L k) = upTo rest
      (if k = p.drop 1 then
        setExtension (if k ∈ chainKeys p b L then clr (applyUpd w1 (fillUpd rest w1 p L b (-(w1 (p.take b)).mag)) k)
          else applyUpd w1 (fillUpd rest w1 p L b (-(w1 (p.take b)).mag)) k)
      else (if k ∈ chainKeys p b L then clr (applyUpd w1 (fillUpd rest w1 p L b (-(w1 (p.take b)).mag)) k)
          else applyUpd w1 (fillUpd rest w1 p L b (-(w1 (p.take b)).mag)) k)) := by
  have hA : ∀ x, upTo rest (afterAdjust rest w1 p lr b L x) = upTo rest
      (if x ∈ chainKeys p b L then clr (applyUpd w1 (fillUpd rest w1 p L b (-(w1 (p.take b)).mag)) x)
        else applyUpd w1 (fillUpd rest w1 p L b (-(w1 (p.take b)).mag)) x) := fun x => mark_eval rest _ _ _ _ x
  have h4 : ∀ x, upTo rest ((if rest then lowerMarked (afterAdjust rest w1 p lr b L) p (afterAdjust rest w1 p lr b L (p.take b)).rest (b - 1)
      else afterAdjust rest w1 p lr b L) x) = upTo rest (afterAdjust rest w1 p lr b L x) := fun x => by
    cases rest with
    | false => rfl
    | true =>
      rw [if_pos rfl, lowerMarked_apply]
      split
      · rename_i hc
        have hlt : x.length < b :=
          Nat.lt_of_le_of_lt hc.2.1 (Nat.sub_lt (Nat.lt_of_lt_of_le hc.1 (Nat.le_trans hc.2.1 (Nat.sub_le b 1))) Nat.one_pos)
        have hn : (afterAdjust true w1 p lr b L x).neg = false := by
          rw [afterAdjust_low true _ p _ b L hpl x hlt, hc.2.2]
          exact hneg rfl x.length hc.1 hlt
        exact er_of_fields _ _ rfl hn.symm rfl rfl
      · rfl
  unfold afterLine updW
  by_cases hk : k = p.drop 1
  · rw [if_pos hk, if_pos hk, ← hk]
    exact upTo_setExtension ((h4 k).trans (hA k))
  · rw [if_neg hk, if_neg hk]
    exact (h4 k).trans (hA k)

/-- `cX` splits into the contexts the blank-probability loop reads (`cF`: orders `b .. b+L-1`) and the line's own context (`cD`,
marked by `activate`) -/
def cF (p : Key) (b L : Nat) (k : Key) : Bool := decide (b ≤ k.length ∧ k.length < b + L ∧ k = (p.drop 1).take k.length)

def cD (p : Key) (k : Key) : Bool := decide (k = p.drop 1)

section
variable {S : List Key} {p : Key} {b L : Nat}

theorem Blanks.wantAll_new (bl : Blanks S p b L) (a : Arpa) (u0 : List W) (k : Key) :
    wantAll a u0 (addLineKeys S p) k = markW (wantAll a u0 S k) (cK p b L k) (cX p b L k) := by
  rw [wantAll_eq, wantAll_eq, bl.endsInK_new, bl.startsWithK_new, markW_markW]

theorem Blanks.cX_split (bl : Blanks S p b L) (k : Key) : cX p b L k = (cF p b L k || cD p k) := by
  apply Bool.eq_iff_iff.mpr
  simp only [cX, cF, cD, Bool.or_eq_true, decide_eq_true_eq]
  constructor
  · rintro ⟨h1, h2, he⟩
    rcases Nat.lt_or_eq_of_le h2 with hl | hl
    · exact Or.inl ⟨h1, hl, he⟩
    · rw [hl, bl.ctx_top] at he
      exact Or.inr he
  · rintro (⟨h1, h2, he⟩ | he)
    · exact ⟨h1, Nat.le_of_lt h2, he⟩
    · have hl : k.length = b + L := by rw [he, List.length_drop, bl.hpl]; rfl
      refine ⟨hl ▸ Nat.le_add_right _ _, Nat.le_of_eq hl, ?_⟩
      rw [hl, bl.ctx_top]; exact he

theorem Blanks.cK_iff (bl : Blanks S p b L) (k : Key) : cK p b L k = true ↔ k ∈ chainKeys p b L := by
  rw [mem_chainKeys, cK, decide_eq_true_iff, sufIn_iff (Nat.le_of_lt (bl.lt_len (Nat.le_refl _)))]

theorem Blanks.old_not_blank (bl : Blanks S p b L) (k : Key) (hk : k ∈ S ∨ k.length = 1) (j : Nat) (h1 : b < j) (h2 : j ≤ b + L) :
    k ≠ p.take j := by
  intro he
  rcases hk with h | h
  · exact bl.miss j h1 h2 (he ▸ h)
  · rw [he, bl.take_len (Nat.le_succ_of_le h2)] at h
    exact absurd (h ▸ bl.two_le h1) (by decide)

theorem LineKeys.afterFind_old (bl : LineKeys S p b L) (want0 : Key → W) (lw : W) (k : Key) (hk : k ∈ S ∨ k.length = 1) :
    afterFind want0 p lw b L k = want0 k := by
  unfold afterFind
  rw [if_neg fun c => bl.old_not_blank k hk _ c.1 c.2.1 c.2.2]
  refine if_neg fun he => ?_
  rcases hk with h | h
  · exact bl.new (he ▸ h)
  · rw [he, bl.hpl] at h
    exact absurd (Nat.succ.inj h) (Nat.ne_of_gt (Nat.lt_of_lt_of_le bl.hb (Nat.le_add_right b L)))

theorem LineKeys.blank_not_ctx (bl : LineKeys S p b L) {j j' : Nat}
    (h1 : b < j) (h2 : j ≤ b + L) (hj' : j' ≤ b + L) : p.take j ≠ (p.drop 1).take j' := by
  intro he
  have hl := bl.ctx_len hj'
  rw [← he, bl.take_len (Nat.le_succ_of_le h2)] at hl
  subst hl
  exact bl.miss j h1 h2 (he ▸ bl.ctx_above j h1 h2)

theorem Blanks.afterFind_neg (bl : Blanks S p b L) {rest : Bool} (want0 : Key → W) (lw : W)
    (hneg : rest = true → ∀ j, 1 ≤ j → j < b → (want0 (p.take j)).neg = false) :
    rest = true → ∀ j, 1 ≤ j → j < b → (afterFind want0 p lw b L (p.take j)).neg = false := fun hr j h1 hj => by
  have hbL := bl.lt_len (Nat.le_refl _)
  rw [afterFind_low want0 p lw b L hbL _ (by
    rw [List.length_take_of_le (Nat.le_of_lt (Nat.lt_trans (Nat.lt_of_lt_of_le hj (Nat.le_add_right b L)) hbL))]; exact Nat.le_of_lt hj)]
  exact hneg hr j h1 hj

theorem LineKeys.chain_old (bl : LineKeys S p b L) (rest : Bool) (want0 : Key → W)
    (hneg : rest = true → ∀ j, 1 ≤ j → j < b → (want0 (p.take j)).neg = false) (lw : W) (lr : Rat) (k : Key) (hx : XrOK (want0 k))
    (hk : k ∈ S ∨ k.length = 1) :
    upTo rest (afterLine rest (afterFind want0 p lw b L) p lr b L k) = upTo rest (markW (want0 k) (cK p b L k) (cX p b L k)) := by
  have hlen : b + L ≤ p.length := Nat.le_of_lt (bl.lt_len (Nat.le_refl _))
  have hnb : ∀ j, b < j → j ≤ b + L → k ≠ p.take j := bl.old_not_blank k hk
  have hw := bl.afterFind_old want0 lw k hk
  have hF : applyUpd (afterFind want0 p lw b L) (fillUpd rest (afterFind want0 p lw b L) p L b (-(afterFind want0 p lw b L (p.take b)).mag)) k =
      markW (want0 k) false (cF p b L k) := by
    by_cases hc : b ≤ k.length ∧ k.length < b + L ∧ k = (p.drop 1).take k.length
    · have hcf : cF p b L k = true := decide_eq_true hc
      rw [hcf, fill_ctx rest _ p k (b + L) hlen k.length hc.2.1 hc.2.2 b hnb L b _ _ rfl (Nat.le_refl _) hc.1, hw,
        setExtension_eq _ hx]
    · have hcf : cF p b L k = false := decide_eq_false hc
      rw [hcf, fill_other rest _ p k (b + L) L b _ _ rfl ?_ hnb, hw, markW_ff]
      intro j h1 h2 he
      have hl : k.length = j := by rw [he]; exact bl.ctx_len (Nat.le_of_lt h2)
      exact hc ⟨hl ▸ h1, hl ▸ h2, by rw [hl]; exact he⟩
  refine (afterLine_eval rest _ p lr b L (bl.lt_len (Nat.le_refl _)) (bl.afterFind_neg want0 lw hneg) k).trans (congrArg (upTo rest) ?_)
  rw [hF, bl.cX_split]
  have hM : (if k ∈ chainKeys p b L then clr (markW (want0 k) false (cF p b L k)) else markW (want0 k) false (cF p b L k)) =
      markW (want0 k) (cK p b L k) (cF p b L k) := by
    by_cases hm : k ∈ chainKeys p b L
    · rw [if_pos hm, (bl.cK_iff k).mpr hm, clr_eq, markW_markW, Bool.false_or, Bool.or_false]
    · rw [if_neg hm, Bool.eq_false_iff.mpr fun h => hm ((bl.cK_iff k).mp h)]
  rw [hM]
  by_cases hd : k = p.drop 1
  · have : cD p k = true := decide_eq_true hd
    rw [if_pos hd, this, setExtension_eq _ (xrOK_markW _ _ _ hx), markW_markW, Bool.or_false]
  · have : cD p k = false := decide_eq_false hd
    rw [if_neg hd, this, Bool.or_false]

/-- what `AdjustLower` leaves in the `i`-th blank above the basis: the probability the blank-probability loop has reached
there, the sign cleared by the marks -/
def blankAt (w1 : Key → W) (p : Key) (b i : Nat) : W := clr (setProb blankW (vAt w1 p (i + 1) b (-(w1 (p.take b)).mag)))

theorem vAt_congr (w w' : Key → W) (p : Key) (h : ∀ k, (w k).backoff = (w' k).backoff) :
    ∀ (i β : Nat) (prob : Rat), vAt w p i β prob = vAt w' p i β prob := by
  intro i
  induction i with
  | zero => intro _ _; rfl
  | succ i ih => intro β prob; unfold vAt; rw [setExtension_backoff, setExtension_backoff, h, ih]

theorem blankAt_congr (w w' : Key → W) (p : Key) (b i : Nat) (h : ∀ k, er (w k) = er (w' k)) : blankAt w p b i = blankAt w' p b i := by
  unfold blankAt
  rw [vAt_congr w w' p (fun k => (er_fields _ _ (h k)).2.2.1), (er_fields _ _ (h (p.take b))).1]

theorem afterFind_er (wT wF : Key → W) (h : ∀ k, er (wT k) = er (wF k)) (p : Key) (lw : W) (b L : Nat) (k : Key) :
    er (afterFind wT p lw b L k) = er (afterFind wF p lw b L k) := by
  unfold afterFind updW
  split
  · rfl
  · split
    · rfl
    · exact h k

theorem LineKeys.chain_blank (bl : LineKeys S p b L) (want0 : Key → W) (lw : W)
    (rest : Bool) (hneg : rest = true → ∀ j, 1 ≤ j → j < b → (want0 (p.take j)).neg = false) (lr : Rat) (i : Nat) (hi : i < L) :
    upTo rest (afterLine rest (afterFind want0 p lw b L) p lr b L (p.take (b + i + 1))) = upTo rest (blankAt (afterFind want0 p lw b L) p b i) := by
  have h1 : b < b + i + 1 := Nat.lt_succ_of_le (Nat.le_add_right b i)
  have h2 : b + i + 1 ≤ b + L := Nat.add_lt_add_left hi b
  have hl := bl.take_len (Nat.le_succ_of_le h2)
  have hw1 : afterFind want0 p lw b L (p.take (b + i + 1)) = blankW := if_pos ⟨hl.symm ▸ h1, hl.symm ▸ h2, by rw [hl]⟩
  have hK : p.take (b + i + 1) ∈ chainKeys p b L := (mem_chainKeys p b L _).mpr ⟨_, Nat.le_of_lt h1, h2, rfl⟩
  have hD : p.take (b + i + 1) ≠ p.drop 1 := fun he => bl.blank_not_ctx h1 h2 (Nat.le_refl _) (he.trans bl.ctx_top.symm)
  rw [afterLine_eval rest _ p lr b L (bl.lt_len (Nat.le_refl _)) (bl.afterFind_neg want0 lw hneg), if_neg hD, if_pos hK,
    fill_blank rest _ p _ (b + L) (Nat.le_of_lt (bl.lt_len (Nat.le_refl _))) b
      (fun j _ hj => bl.blank_not_ctx h1 h2 (Nat.le_of_lt hj)) L b _ _ i rfl (Nat.le_refl b) hi rfl, hw1]
  exact upTo_clr (upTo_setRest rest _)

theorem Blanks.chain_line (bl : Blanks S p b L) (rest : Bool) (want0 : Key → W)
    (hneg : rest = true → ∀ j, 1 ≤ j → j < b → (want0 (p.take j)).neg = false) (lw : W) (lr : Rat) :
    upTo rest (afterLine rest (afterFind want0 p lw b L) p lr b L p) = upTo rest lw := by
  have hlen : ¬ p.length ≤ b + L := Nat.not_le_of_gt (bl.lt_len (Nat.le_refl _))
  have hw1 : afterFind want0 p lw b L p = lw := (if_neg fun c => hlen c.2.1).trans (if_pos rfl)
  have hD : p ≠ p.drop 1 := fun he => by
    have := congrArg List.length he
    rw [List.length_drop, bl.hpl] at this
    exact Nat.succ_ne_self _ this
  have hm : p ∉ chainKeys p b L := fun h => by
    obtain ⟨j, _, h2, he⟩ := (mem_chainKeys p b L p).mp h
    exact hlen (by rw [congrArg List.length he, bl.take_len (Nat.le_succ_of_le h2)]; exact h2)
  rw [afterLine_eval rest _ p lr b L (bl.lt_len (Nat.le_refl _)) (bl.afterFind_neg want0 lw hneg), if_neg hD, if_neg hm,
    fill_other rest _ p p (b + L) L b _ _ rfl
      (fun j _ h2 he => hlen (by have := bl.ctx_len (Nat.le_of_lt h2); rw [← he] at this; exact this ▸ Nat.le_of_lt h2))
      (fun j _ h2 he => hlen (by have := bl.take_len (Nat.le_succ_of_le h2); rw [← he] at this; exact this ▸ h2)), hw1]

/-- **the key-level statement**, either build mode (up to `rest` under `MaxRestBuild`): after the line every stored key and every
unigram holds the payload prescribed for the enlarged key set — provided each blank gets what is prescribed for it (`hblank`; its
sign is cleared in any case, by the key above it) and is not yet the context of a stored key.  `want0` are the payloads before the
line: `wantAll a u0 S` up to `rest`. -/
theorem LineKeys.line_sem (bl : LineKeys S p b L) (rest : Bool) (a : Arpa) (u0 : List W) (want0 : Key → W)
    (hw : ∀ k, upTo rest (want0 k) = upTo rest (wantAll a u0 S k)) (hxr : ∀ k, XrOK (want0 k))
    (hneg : rest = true → ∀ j, 1 ≤ j → j < b → (want0 (p.take j)).neg = false)
    (hasc : ∀ k ∈ S, k.length ≤ p.length)
    (hnoctx : ∀ j, b < j → j ≤ b + L → startsWithK S (p.take j) = false)
    (hblank : ∀ i, i < L →
      blankAt (afterFind want0 p (baseAll a u0 p) b L) p b i = markW (baseAll a u0 (p.take (b + i + 1))) true false)
    (lr : Rat) (k : Key) (hk : k ∈ addLineKeys S p ∨ k.length = 1) :
    upTo rest (afterLine rest (afterFind want0 p (baseAll a u0 p) b L) p lr b L k) = upTo rest (wantAll a u0 (addLineKeys S p) k) := by
  have hold : ∀ k, k ∈ S ∨ k.length = 1 → upTo rest (afterLine rest (afterFind want0 p (baseAll a u0 p) b L) p lr b L k) =
      upTo rest (markW (wantAll a u0 S k) (cK p b L k) (cX p b L k)) := fun k hk =>
    (bl.chain_old rest want0 hneg _ lr k (hxr k) hk).trans (upTo_markW _ _ (hw k))
  rw [bl.wantAll_new]
  rcases hk with hk | hk
  · rcases (bl.mem_addLineKeys k).mp hk with h | ⟨j, h1, h2, he⟩
    · exact hold k (Or.inl h)
    · rcases Nat.lt_or_eq_of_le h2 with hj | hj
      · obtain ⟨i, rfl⟩ := Nat.exists_eq_add_of_lt h1
        have h2 := Nat.le_of_lt_succ hj
        have hi : i < L := Nat.lt_of_add_lt_add_left (Nat.lt_of_succ_le h2)
        have hl := bl.take_len (Nat.le_succ_of_le h2)
        have hK : cK p b L (p.take (b + i + 1)) = true := decide_eq_true ⟨hl.symm ▸ Nat.le_of_lt h1, hl.symm ▸ h2, by rw [hl]⟩
        have hX : cX p b L (p.take (b + i + 1)) = false :=
          decide_eq_false fun c => bl.blank_not_ctx h1 h2 (hl ▸ c.2.1) c.2.2
        rw [he]
        refine (bl.chain_blank want0 _ rest hneg lr i hi).trans ?_
        rw [hblank i hi, wantAll_eq, markW_markW, hK, hX, hnoctx _ h1 h2, Bool.or_true, Bool.or_false]
      · have hlen : ¬ p.length ≤ b + L := Nat.not_le_of_gt (bl.lt_len (Nat.le_refl _))
        rw [he, hj, bl.take_top]
        refine (bl.chain_line rest want0 hneg _ lr).trans ?_
        rw [show cK p b L p = false from decide_eq_false fun c => hlen c.2.1,
          show cX p b L p = false from decide_eq_false fun c => hlen c.2.1, markW_ff, wantAll_top a u0 S p hasc]
  · exact hold k (Or.inr hk)

end

/-- **the per-line step for the general invariant**: a line with `L ≥ 0` blanks over a basis of order `b`, from any state
satisfying `InvG` (any `u0`, `N`).  What a blank is to hold is a hypothesis here; `CH.blank_val` discharges it for a proper
ARPA file. -/
theorem invG_step_line {combine : Nat → Word → Nat} {a : Arpa} {u0 : List W} {N : Nat} {caps : Nat → Nat} {S : List Key} {s : St}
    {p : Key} {b L : Nat} (hu : UniOK u0) (inv : InvG combine a u0 N caps S s) (lo : LineOK combine N caps u0.length S p b L)
    (e : Entry) (hreal : a.gram p = some e) (hasc : ∀ k ∈ S, k.length ≤ p.length)
    (hnoctx : ∀ j, b < j → j ≤ b + L → startsWithK S (p.take j) = false)
    (hblank : ∀ i, i < L →
      blankAt (afterFind (wantAll a u0 S) p (lineW e) b L) p b i = markW (baseAll a u0 (p.take (b + i + 1))) true false) :
    ∃ s', addLine combine false N s p e = .ok s' ∧ InvG combine a u0 N caps (addLineKeys S p) s' := by
  have hbase := baseAll_real a u0 p e (lo.hpl ▸ Nat.succ_le_succ (Nat.le_trans lo.hb (Nat.le_add_right b L))) hreal
  obtain ⟨s', hadd, hP⟩ := addLine_run false (stP_of_invG inv) lo e (fun h => nomatch h)
  rw [← lo.keysOf_addLineKeys, ← hbase] at hP
  rw [← hbase] at hblank
  have hsem := lo.toLineKeys.line_sem false a u0 _ (fun _ => rfl) (xrOK_wantAll a u0 hu S) (fun h => nomatch h) hasc hnoctx hblank (baseAll a u0 p).rest
  exact ⟨s', hadd, invG_of_stP (stP_congr_on hP (fun m k hk => hsem k (Or.inl (keysOf_mem _ _ _ hk))) fun w => hsem [w] (Or.inr rfl))⟩

end KV.ProbingBuild
