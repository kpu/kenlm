import Proofs.TrieRepresents
import Proofs.Basics
/-! Soundness of the decidable checker `TrieLM.check`: it implies `Represents` for the finite table. -/
namespace KV.TrieLM
open KV.Arpa KV.Table KV.Score KV.Search

theorem mem_idxs (r : Node) (i : Nat) : i ∈ idxs r ↔ r.1 ≤ i ∧ i < r.2 := by
  simp only [idxs, List.mem_range'_1]; omega

theorem sortedCheck_sound (key : Nat → Nat) (r : Node) (h : sortedCheck key r = true) :
    SortedIn (fun pos => key (pos - 1)) r.1 (r.2 + 1) := by
  intro i j hi hij hj
  simp only [sortedCheck, List.all_eq_true, decide_eq_true_eq] at h
  exact h (i - 1) ((mem_idxs r _).mpr (by omega)) (j - 1) ((mem_idxs r _).mpr (by omega)) (by omega)

section
variable {fval : Nat → Rat} {M : Trie} {ft : FT} {order : Nat} {rng : List Word → Node} {g : List Word}

theorem all_lookup {key : Nat → Nat} {chk : Nat → TEntry → Bool} {r : Node}
    (h : ((idxs r).all fun i => match ft.lookup (g ++ [key i]) with | some t => chk i t | none => false) = true) (i : Nat)
    (h1 : r.1 ≤ i) (h2 : i < r.2) : ∃ t, ft.lookup (g ++ [key i]) = some t ∧ chk i t = true := by
  have hi := List.all_eq_true.mp h i ((mem_idxs _ _).mpr ⟨h1, h2⟩)
  cases hlk : ft.lookup (g ++ [key i]) with
  | none => rw [hlk] at hi; cases hi
  | some t => rw [hlk] at hi; exact ⟨t, rfl, hi⟩

theorem any_key {key : Nat → Nat} {r : Node} {w : Word} (h : ((idxs r).any fun i => decide (key i = w)) = true) :
    ∃ i, r.1 ≤ i ∧ i < r.2 ∧ key i = w := by
  obtain ⟨i, hi, hw⟩ := List.any_eq_true.mp h
  exact ⟨i, ((mem_idxs _ _).mp hi).1, ((mem_idxs _ _).mp hi).2, of_decide_eq_true hw⟩

theorem chk_mid (h : chkChildren fval M ft order rng g = true)
    (hc : ∀ w, (tableOf ft order).lookup (g ++ [w]) ≠ none → chkComplete M order rng (g ++ [w]) = true)
    {om2 : Nat} (hl : g.length = om2 + 1) (hom : om2 + 2 < order) :
    ChildArray (tableOf ft order) g (rng g) (midKey M om2) fun i t =>
      toFound fval (middleRec M om2 i) = Score.toFound t ∧ (middleRec M om2 i).range = rng (g ++ [midKey M om2 i]) := by
  unfold chkChildren at h
  rw [if_pos ⟨by omega, by omega⟩, show g.length - 1 = om2 by omega, Bool.and_eq_true] at h
  refine ⟨sortedCheck_sound _ _ h.1, fun i h1 h2 => ?_, fun w hw => ?_⟩
  · obtain ⟨t, ht, hp⟩ := all_lookup h.2 i h1 h2
    simp only [Bool.and_eq_true, decide_eq_true_eq] at hp
    exact ⟨t, ht, hp⟩
  · have := hc w hw
    unfold chkComplete at this
    simp only [List.length_append, List.length_singleton, hl, List.dropLast_concat, List.getLast?_concat, Option.getD_some] at this
    rw [if_pos (by omega), if_pos (by omega)] at this
    exact any_key this

theorem chk_long (h : chkChildren fval M ft order rng g = true)
    (hc : ∀ w, (tableOf ft order).lookup (g ++ [w]) ≠ none → chkComplete M order rng (g ++ [w]) = true)
    (h1g : 1 ≤ g.length) (hl : g.length + 1 = order) :
    ChildArray (tableOf ft order) g (rng g) (longKey M) fun i t => fval (longestProbBits M i) = t.prob := by
  unfold chkChildren at h
  rw [if_neg (by omega), if_pos ⟨h1g, hl⟩, Bool.and_eq_true] at h
  refine ⟨sortedCheck_sound _ _ h.1, fun i h1 h2 => ?_, fun w hw => ?_⟩
  · obtain ⟨t, ht, hp⟩ := all_lookup h.2 i h1 h2
    exact ⟨t, ht, of_decide_eq_true hp⟩
  · have := hc w hw
    unfold chkComplete at this
    simp only [List.length_append, List.length_singleton, hl, List.dropLast_concat, List.getLast?_concat, Option.getD_some] at this
    rw [if_pos (by omega), if_neg (Nat.lt_irrefl _), if_pos trivial] at this
    exact any_key this

end

theorem check_sound (fval : Nat → Rat) (M : Trie) (ft : FT) (order : Nat) (rng : List Word → Node)
    (h : check fval M ft order rng = true) : Represents fval M (tableOf ft order) rng := by
  simp only [check, Bool.and_eq_true, decide_eq_true_eq, List.all_eq_true] at h
  obtain ⟨⟨⟨⟨hord, huni⟩, hbounds⟩, hchild⟩, hcomp⟩ := h
  simp only [chkBounds, Bool.and_eq_true, decide_eq_true_eq, List.all_eq_true, List.mem_range] at hbounds
  have key : ∀ (c : List Word → Bool), (∀ p ∈ ft, c p.1 = true) → ∀ g, (tableOf ft order).lookup g ≠ none → c g = true := by
    intro c hc g hg
    obtain ⟨p, hp, hp1⟩ := (lookup_ne_none ft g).mp hg
    exact hp1 ▸ hc p hp
  refine .of_arrays hord ?_ (fun om2 hom => hbounds.1 om2 (Nat.lt_sub_of_add_lt hom))
    (fun g om2 hg hl hom => chk_mid (key _ hchild g hg) (fun w => key _ hcomp _) hl hom) hbounds.2
    (fun g hg h1 hl => chk_long (key _ hchild g hg) (fun w => key _ hcomp _) h1 hl)
  intro w hw
  simp only [chkUni, List.all_eq_true, List.mem_range] at huni
  have hw' := huni w hw
  cases hl : ft.lookup [w] with
  | none => rw [hl] at hw'; cases hw'
  | some t =>
    simp only [hl, Bool.and_eq_true, decide_eq_true_eq] at hw'
    exact ⟨t, hl, hw'⟩

end KV.TrieLM
