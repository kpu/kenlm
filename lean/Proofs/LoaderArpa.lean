import Model.LoaderArpa
import Proofs.Basics
/-! Lemmas about the ARPA loader model (`KV.LoaderArpa`): what every accepted file looks like.
Core-only (no Mathlib). -/
namespace KV.LoaderArpa
open KV.Arpa

def PVal.nonPos : PVal → Prop
  | .fin q _ => q ≤ 0
  | .negInf => True

theorem probOf_nonPos (n : Num) : (probOf n).nonPos := by
  cases n with
  | fin q neg =>
    unfold probOf
    by_cases h : q > 0
    · simp [h, PVal.nonPos]
    · simp only [h, ↓reduceIte, PVal.nonPos]
      exact Rat.not_lt.mp h
  | inf neg => cases neg <;> simp [probOf, PVal.nonPos]
  | nan => simp [probOf, PVal.nonPos]

structure EntryOK (bound n : Nat) (top : Bool) (e : LE) : Prop where
  len : e.1.length = n
  ids : ∀ w ∈ e.1, w < bound
  prob : e.2.1.nonPos
  topbo : top = true → e.2.2 = 0

theorem readBackoff_top (s : Bytes) (b : Rat) (s' : Bytes) (h : readBackoff true s = .ok (b, s')) : b = 0 := by
  unfold readBackoff at h
  split at h
  · simp at h
  · split at h
    · simp at h
    · simp only [↓reduceIte] at h
      split at h
      · split at h
        · simp at h
        · simp only [Except.ok.injEq, Prod.mk.injEq] at h; exact h.1.symm
      · simp at h
  · simp only [Except.ok.injEq, Prod.mk.injEq] at h; exact h.1.symm
  · simp only [Except.ok.injEq, Prod.mk.injEq] at h; exact h.1.symm
  · simp at h
  · simp at h

theorem read1Gram_ok (s : Bytes) (v v' : Vocab) (e : LE) (s' : Bytes) (h : read1Gram s v = .ok (v', e, s')) :
    e.2.1.nonPos ∧
    ((e.1 = [0] ∧ v'.words.length = v.words.length ∧ v'.sawUnk = true) ∨
     (e.1 = [v.words.length] ∧ v'.words.length = v.words.length + 1 ∧ v'.sawUnk = v.sawUnk)) := by
  unfold read1Gram at h
  split at h
  · cases h
  split at h
  · cases h
  · split at h
    · cases h
    split at h
    · cases h
    split at h <;> cases h
    · exact ⟨probOf_nonPos _, Or.inl ⟨rfl, rfl, rfl⟩⟩
    · exact ⟨probOf_nonPos _, Or.inr ⟨rfl, by simp, rfl⟩⟩
  · cases h

/-- `k` unigram lines: `k` entries, each a well-formed unigram over the final vocabulary; the vocabulary grows by at most one
word per line (ids stay below `count + 1`, the size of the unigram arrays: `Unigram::Size(count) = (count + 1) * sizeof(Weights)`,
`(count + 2)` for the trie); every id handed out has a unigram entry, and `sawUnk` is set only by an entry `[0]` -/
theorem read1Grams_spec : ∀ (k : Nat) (s : Bytes) (v v' : Vocab) (es : List LE) (s' : Bytes), v.words ≠ [] →
    read1Grams k s v = .ok (v', es, s') →
    es.length = k ∧ (∀ e ∈ es, EntryOK v'.words.length 1 false e) ∧
    v.words.length ≤ v'.words.length ∧ v'.words.length ≤ v.words.length + k ∧
    (∀ id, v.words.length ≤ id → id < v'.words.length → [id] ∈ es.map (·.1)) ∧
    (v'.sawUnk = true → v.sawUnk = true ∨ [0] ∈ es.map (·.1)) := by
  intro k
  induction k with
  | zero =>
    intro s v v' es s' hv h
    cases h
    exact ⟨rfl, nofun, Nat.le_refl _, Nat.le_refl _, fun id h1 h2 => absurd h2 (Nat.not_lt.mpr h1), Or.inl⟩
  | succ k ih =>
    intro s v v' es s' hv h
    unfold read1Grams at h
    split at h
    · cases h
    rename_i v1 e1 s1 h1
    split at h
    · cases h
    rename_i v2 es2 s2 h2
    cases h
    have hpos : 0 < v.words.length := List.length_pos_iff.mpr hv
    obtain ⟨hp, c⟩ := read1Gram_ok s v v1 e1 s1 h1
    have hv1 : v.words.length ≤ v1.words.length ∧ v1.words.length ≤ v.words.length + 1 := by
      rcases c with ⟨_, hw, _⟩ | ⟨_, hl, _⟩ <;> omega
    obtain ⟨b1, b2, b3, b4, b5, b6⟩ := ih s1 v1 v' es2 s' (List.length_pos_iff.mp (Nat.lt_of_lt_of_le hpos hv1.1)) h2
    have ok1 : ∀ n : Nat, e1.1 = [n] → n < v'.words.length → EntryOK v'.words.length 1 false e1 := fun n hk hn =>
      ⟨by rw [hk]; rfl, by rw [hk]; intro w hw; cases List.mem_singleton.mp hw; exact hn, hp, nofun⟩
    refine ⟨by rw [List.length_cons, b1], ?_, Nat.le_trans hv1.1 b3, Nat.le_trans b4 (by omega), ?_, ?_⟩
    · intro e he
      rcases List.mem_cons.mp he with rfl | he
      · rcases c with ⟨hk, _, _⟩ | ⟨hk, hl, _⟩
        · exact ok1 0 hk (Nat.lt_of_lt_of_le hpos (Nat.le_trans hv1.1 b3))
        · exact ok1 _ hk (Nat.lt_of_lt_of_le (by rw [hl]; exact Nat.lt_succ_self _) b3)
      · exact b2 e he
    · intro id hlo hhi
      simp only [List.map_cons, List.mem_cons]
      rcases c with ⟨_, hw, _⟩ | ⟨hk, hl, _⟩
      · exact Or.inr (b5 id (hw ▸ hlo) hhi)
      · by_cases hid : id = v.words.length
        · left; rw [hk, hid]
        · exact Or.inr (b5 id (by omega) hhi)
    · intro hs
      simp only [List.map_cons, List.mem_cons]
      rcases b6 hs with h1s | hmem
      · rcases c with ⟨hk, _, _⟩ | ⟨_, _, hsu⟩
        · exact Or.inr (Or.inl hk.symm)
        · exact Or.inl (hsu ▸ h1s)
      · exact Or.inr (Or.inr hmem)

theorem posOf_le (w : Bytes) : ∀ ws : List Bytes, posOf w ws ≤ ws.length
  | [] => by simp [posOf]
  | x :: xs => by
    unfold posOf
    split
    · simp
    · have := posOf_le w xs
      simp only [List.length_cons]; omega

theorem wordId_lt (words : List Bytes) (w : Bytes) (h : words ≠ []) : wordId words w < words.length := by
  unfold wordId
  have hp : 0 < words.length := List.length_pos_iff.mpr h
  split
  · exact hp
  · simp only
    split
    · assumption
    · exact hp

theorem readWords_spec (words : List Bytes) (hw : words ≠ []) : ∀ (k : Nat) (s : Bytes) (acc g : List Word) (s' : Bytes),
    readWords words k s acc = .ok (g, s') → (∀ w ∈ acc, w < words.length) →
    g.length = acc.length + k ∧ ∀ w ∈ g, w < words.length := by
  intro k
  induction k with
  | zero =>
    intro s acc g s' h ha
    cases h
    exact ⟨rfl, ha⟩
  | succ k ih =>
    intro s acc g s' h ha
    unfold readWords at h
    split at h
    · cases h
    rename_i w s1 _
    obtain ⟨_, h⟩ := of_ite_eq h nofun
    have := ih s1 (wordId words w :: acc) g s' h (by
      intro x hx
      rcases List.mem_cons.mp hx with rfl | hx
      · exact wordId_lt words w hw
      · exact ha x hx)
    exact ⟨by rw [this.1, List.length_cons]; omega, this.2⟩

theorem readNGram_spec (words : List Bytes) (hw : words ≠ []) (n : Nat) (top : Bool) (s : Bytes) (e : LE) (s' : Bytes)
    (h : readNGram words n top s = .ok (e, s')) : EntryOK words.length n top e := by
  unfold readNGram at h
  split at h
  · cases h
  split at h
  · cases h
  rename_i g s2 hg
  split at h
  · cases h
  rename_i b s3 hb
  cases h
  have := readWords_spec words hw n _ [] g s2 hg nofun
  refine ⟨by simpa using this.1, this.2, probOf_nonPos _, ?_⟩
  intro ht
  subst ht
  exact readBackoff_top _ _ _ hb

theorem readNGrams_spec (words : List Bytes) (hw : words ≠ []) (n : Nat) (top : Bool) :
    ∀ (k : Nat) (s : Bytes) (es : List LE) (s' : Bytes), readNGrams words n top k s = .ok (es, s') →
      es.length = k ∧ ∀ e ∈ es, EntryOK words.length n top e := by
  intro k
  induction k with
  | zero =>
    intro s es s' h
    cases h
    exact ⟨rfl, nofun⟩
  | succ k ih =>
    intro s es s' h
    unfold readNGrams at h
    split at h
    · cases h
    rename_i e1 s1 h1
    split at h
    · cases h
    rename_i es2 s2 h2
    cases h
    have b := ih s1 es2 _ h2
    refine ⟨by rw [List.length_cons, b.1], fun e he => ?_⟩
    rcases List.mem_cons.mp he with rfl | he
    · exact readNGram_spec words hw n top s e s1 h1
    · exact b.2 e he

theorem readOrders_spec (words : List Bytes) (hw : words ≠ []) (order : Nat) :
    ∀ (cs : List Nat) (n : Nat) (s : Bytes) (ess : List (List LE)) (s' : Bytes),
      readOrders words order cs n s = .ok (ess, s') →
      ess.map List.length = cs ∧
      ∀ i es, ess[i]? = some es → ∀ e ∈ es, EntryOK words.length (n + i) (n + i == order) e := by
  intro cs
  induction cs with
  | nil =>
    intro n s ess s' h
    cases h
    exact ⟨rfl, nofun⟩
  | cons c cs ih =>
    intro n s ess s' h
    unfold readOrders at h
    split at h
    · cases h
    rename_i s1 _
    split at h
    · cases h
    rename_i es s2 h2
    split at h
    · cases h
    rename_i ess2 s3 h3
    cases h
    have a := readNGrams_spec words hw n (n == order) c s1 es s2 h2
    have b := ih (n + 1) s2 ess2 _ h3
    refine ⟨by rw [List.map_cons, a.1, b.1], ?_⟩
    intro i es' hi e he
    cases i with
    | zero =>
      cases hi
      exact a.2 e he
    | succ i =>
      have := b.2 i es' hi e he
      rwa [show n + 1 + i = n + (i + 1) by omega] at this

theorem parse_ok (maxO : Nat) (multOk : Bool) (s : Bytes) (p : LParsed) (h : parse maxO multOk s = .ok p) :
    ∃ c1 cs s3 v uni s4 rest s5, (c1 :: cs).length ≤ maxO ∧ 2 ≤ (c1 :: cs).length ∧
      read1Grams c1 s3 {} = .ok (v, uni, s4) ∧ readOrders v.words (c1 :: cs).length cs 2 s4 = .ok (rest, s5) ∧
      p = { order := (c1 :: cs).length, counts := c1 :: cs, vocab := v.words, sawUnk := v.sawUnk, grams := uni :: rest } := by
  unfold parse at h
  split at h
  · cases h
  obtain ⟨_, h⟩ := of_ite_eq h nofun
  split at h
  · cases h
  rename_i counts s2 _
  obtain ⟨hmax, h⟩ := of_ite_eq h nofun
  obtain ⟨hmin, h⟩ := of_ite_eq h nofun
  obtain ⟨_, h⟩ := of_ite_eq h nofun
  cases counts with
  | nil => cases h
  | cons c1 cs =>
    dsimp only at h
    split at h
    · cases h
    rename_i s3 _
    split at h
    · cases h
    rename_i v uni s4 hu
    split at h
    · cases h
    rename_i rest s5 hr
    split at h
    · cases h
    cases h
    exact ⟨c1, cs, s3, v, uni, s4, rest, s5, Nat.le_of_not_lt hmax, Nat.le_of_not_lt hmin, hu, hr, rfl⟩

structure Accepted (maxO : Nat) (p : LParsed) : Prop where
  order_ge : 2 ≤ p.order
  order_le : p.order ≤ maxO
  counts_len : p.counts.length = p.order
  grams_len : p.grams.map List.length = p.counts
  vocab_ne : p.vocab ≠ []
  vocab_le : p.vocab.length ≤ p.counts.headD 0 + 1
  entry : ∀ i es, p.grams[i]? = some es → ∀ e ∈ es, EntryOK p.vocab.length (i + 1) (i + 1 == p.order) e
  unigrams : ∃ uni rest, p.grams = uni :: rest ∧
    (∀ id, 1 ≤ id → id < p.vocab.length → [id] ∈ uni.map (·.1)) ∧ (p.sawUnk = true → [0] ∈ uni.map (·.1))

theorem parse_accepted (maxO : Nat) (multOk : Bool) (s : Bytes) (p : LParsed) (h : parse maxO multOk s = .ok p) :
    Accepted maxO p := by
  obtain ⟨c1, cs, s3, v, uni, s4, rest, s5, hmax, hmin, hu, hr, rfl⟩ := parse_ok maxO multOk s p h
  have h1 : ({} : Vocab).words.length = 1 := rfl
  obtain ⟨u1, u2, u3, u4, u5, u6⟩ := read1Grams_spec c1 s3 {} v uni s4 (by simp) hu
  have hv : v.words ≠ [] := List.length_pos_iff.mp (by omega)
  obtain ⟨r1, r2⟩ := readOrders_spec v.words hv (c1 :: cs).length cs 2 s4 rest s5 hr
  refine ⟨hmin, hmax, rfl, by simp [u1, r1], hv, by simp only [List.headD_cons]; omega, ?_,
    uni, rest, rfl, fun id h1 h2 => u5 id h1 h2, fun hs => (u6 hs).resolve_left (by simp)⟩
  intro i es hi e he
  cases i with
  | zero =>
    cases hi
    have hne : (0 + 1 == (c1 :: cs).length) = false := by
      simp only [beq_eq_false_iff_ne, ne_eq]; omega
    rw [hne]; exact u2 e he
  | succ i =>
    have := r2 i es hi e he
    rwa [show 2 + i = i + 1 + 1 by omega] at this

theorem Accepted.grams_length {maxO : Nat} {p : LParsed} (w : Accepted maxO p) : p.grams.length = p.order := by
  simpa [w.counts_len] using congrArg List.length w.grams_len

theorem trieContextsOk_iff (p : LParsed) :
    trieContextsOk p = true ↔ ∀ e ∈ p.entries, 3 ≤ e.1.length → e.1.tail ∈ p.keys := by
  unfold trieContextsOk
  simp only [List.all_eq_true, Bool.or_eq_true, decide_eq_true_eq, List.contains_eq_mem]
  exact ⟨fun h e he h3 => (h e he).resolve_left (Nat.not_lt.mpr h3),
    fun h e he => (Nat.lt_or_ge e.1.length 3).imp_right (h e he)⟩

theorem load_ok (k : Kind) (maxO : Nat) (multOk : Bool) (b : Nat → Nat) (s : Bytes) (mem : Nat) (p : LParsed)
    (h : load k maxO multOk b s mem = .ok p) : parse maxO multOk s = .ok p ∧ buildCheck k b p = .ok () := by
  unfold load at h
  split at h
  · cases h
  rename_i p' hp
  split at h
  · cases h
  rename_i hb
  obtain ⟨_, h⟩ := of_ite_eq h nofun
  cases h
  exact ⟨hp, hb⟩

end KV.LoaderArpa
