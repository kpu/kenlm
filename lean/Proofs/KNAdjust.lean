import Proofs.KNSpecRecords
/-!
C05, central refinement theorem: the streaming adjusted-counts algorithm (`adjustStream`,
transcribed from `AdjustCounts::Run`) produces, for every lower order, exactly the records of
the set-based specification `Spec.ents` (core Lean only).  `firstBos_le_length` and
`getElem?_ne_bos_of_lt_firstBos` have no user.
-/
namespace KV.KN.Adjust

open KV.KN KV.KN.Spec KV.KN.Norm

/-! The numbers the algorithm computes (`commonPrefix`, `firstBos`, `regLen`, `sameOf`) are described
by their lower sets, `n ≤ f … ↔ …`: that is the form in which they meet `List.take n`, and it keeps
`min` and truncated subtraction out of the later proofs. -/

theorem le_commonPrefix : ∀ (g h : Gram) (n : Nat),
    n ≤ commonPrefix g h ↔ n ≤ g.length ∧ n ≤ h.length ∧ g.take n = h.take n
  | _, _, 0 => by simp
  | [], h, n + 1 => by simp [commonPrefix]
  | a :: as, [], n + 1 => by simp [commonPrefix]
  | a :: as, b :: bs, n + 1 => by
    unfold commonPrefix
    by_cases hab : a = b
    · subst hab
      have := le_commonPrefix as bs n
      simp only [if_true, Nat.add_le_add_iff_right, List.length_cons, List.take_succ_cons,
        List.cons.injEq, true_and]
      exact this
    · simp [hab]

def firstBos : List Nat → Nat
  | [] => 0
  | a :: t => if a = bos then 0 else firstBos t + 1

theorem le_firstBos : ∀ (l : List Nat) (m : Nat), m ≤ firstBos l ↔ m ≤ l.length ∧ bos ∉ l.take m
  | _, 0 => by simp
  | [], m + 1 => by simp [firstBos]
  | a :: t, m + 1 => by
    unfold firstBos
    by_cases ha : a = bos
    · simp [ha]
    · have := le_firstBos t m
      simp only [ha, if_false, Nat.add_le_add_iff_right, List.length_cons, List.take_succ_cons,
        List.mem_cons, not_or]
      rw [this]
      constructor
      · rintro ⟨h1, h2⟩; exact ⟨h1, fun h => ha h.symm, h2⟩
      · rintro ⟨h1, _, h2⟩; exact ⟨h1, h2⟩

theorem firstBos_le_length (l : List Nat) : firstBos l ≤ l.length :=
  ((le_firstBos l (firstBos l)).mp (Nat.le_refl _)).1

theorem firstBos_drop : ∀ (g : List Nat) (s : Nat), s ≤ firstBos g →
    firstBos (g.drop s) = firstBos g - s
  | _, 0, _ => rfl
  | [], s + 1, h => absurd h (Nat.not_succ_le_zero s)
  | a :: t, s + 1, h => by
    rw [firstBos] at h ⊢
    split at h
    · exact absurd h (Nat.not_succ_le_zero s)
    · rename_i ha
      rw [if_neg ha, List.drop_succ_cons, firstBos_drop t s (Nat.le_of_succ_le_succ h),
        Nat.add_sub_add_right]

theorem getElem?_ne_bos_of_lt_firstBos (l : List Nat) (i : Nat) (h : i < firstBos l) :
    l[i]? ≠ some bos := by
  have := ((le_firstBos l (i + 1)).mp h)
  intro hb
  apply this.2
  rw [List.mem_take_iff_getElem]
  have hi : i < l.length := by omega
  refine ⟨i, by omega, ?_⟩
  rw [List.getElem?_eq_getElem hi] at hb
  exact Option.some.inj hb

/-- number of registers that are valid after a row `l` of an order-`N` table: one per lower order,
up to and including the suffix that *starts* with `<s>` (STEP 3 stops there) -/
def regLen (N : Nat) (l : Gram) : Nat := min (N - 1) (firstBos l + 1)

theorem le_regLen {N : Nat} {l : Gram} (hl : l.length = N) {n : Nat} (h1 : 1 ≤ n) :
    n ≤ regLen N l ↔ n ≤ N - 1 ∧ validAt n l = true := by
  rw [validAt_iff, regLen, Nat.le_min, ← Nat.sub_le_iff_le_add, le_firstBos]
  exact ⟨fun h => ⟨h.1, h.2.2⟩, fun h => ⟨h.1, by omega, h.2⟩⟩

theorem row_eq_of_bos {N : Nat} {l g : Gram} (hl : RowOK N l) (hg : RowOK N g) (n : Nat)
    (h1 : 1 ≤ n) (ht : g.take n = l.take n) (hb : l[n - 1]? = some bos) : g = l := by
  have key : ∀ i, i < n → g[i]? = l[i]? := by
    intro i hi
    have := congrArg (·[i]?) ht
    rwa [List.getElem?_take, List.getElem?_take, if_pos hi, if_pos hi] at this
  have hgb : g[n - 1]? = some bos := by rw [key (n - 1) (Nat.sub_lt h1 Nat.one_pos)]; exact hb
  apply List.ext_getElem?
  intro i
  by_cases hi : i < n
  · exact key i hi
  · have hle : n - 1 ≤ i := Nat.le_trans (Nat.sub_le n 1) (Nat.le_of_not_lt hi)
    by_cases hiN : i < N
    · rw [hl.run (n - 1) i hle hiN hb, hg.run (n - 1) i hle hiN hgb]
    · rw [List.getElem?_eq_none (by rw [hg.len]; exact Nat.le_of_not_lt hiN),
        List.getElem?_eq_none (by rw [hl.len]; exact Nat.le_of_not_lt hiN)]

theorem rowsOf_snoc (pre : Table) (g : Gram) (c : Nat) (k : Gram) :
    rowsOf (pre ++ [(g, c)]) k = rowsOf pre k ++ (if g.take k.length = k then [(g, c)] else []) := by
  unfold rowsOf
  rw [List.filter_append]
  by_cases h : g.take k.length = k <;> simp [h]

theorem rowsOf_snoc_miss (pre : Table) (g : Gram) (c : Nat) (k : Gram) (h : g.take k.length ≠ k) :
    rowsOf (pre ++ [(g, c)]) k = rowsOf pre k := by
  rw [rowsOf_snoc, if_neg h, List.append_nil]

theorem trueCount_snoc_hit (pre : Table) (g : Gram) (c : Nat) (k : Gram) (h : g.take k.length = k) :
    trueCount (pre ++ [(g, c)]) k = trueCount pre k + c := by
  unfold trueCount
  rw [rowsOf_snoc, if_pos h]
  simp

theorem leftExts_snoc_hit (pre : Table) (g : Gram) (c : Nat) (k : Gram) (h : g.take k.length = k) :
    leftExts (pre ++ [(g, c)]) k = leftExts pre k +
      (if g.take (k.length + 1) ∈ (rowsOf pre k).map (fun x => x.1.take (k.length + 1)) then 0 else 1) := by
  unfold leftExts
  rw [rowsOf_snoc, if_pos h, List.map_append, List.map_cons, List.map_nil, dedup_snoc]
  split <;> simp

theorem markOf_eq_pruned (cfg : Cfg) (hk : cfg.keepSpecials = true) (full : Table) (k : Gram) :
    markOf cfg (trueCount full k) k = pruned cfg full k := by
  unfold markOf pruned
  rw [hk, Bool.true_and, special_iff]

def specReg (N : Nat) (full : Table) (k : Gram) : Reg := ⟨k, adjCount N full k, trueCount full k⟩

theorem emit_specReg (cfg : Cfg) (hk : cfg.keepSpecials = true) (full : Table) (k : Gram)
    (h1 : k ≠ [unk]) (h2 : k ≠ [bos]) :
    (specReg cfg.order full k).emit cfg = recOf cfg full k := by
  unfold Reg.emit specReg recOf
  simp only [markOf_eq_pruned cfg hk]
  simp [h1, h2]

def pending (cfg : Cfg) (regs : List Reg) (n : Nat) : List Emit :=
  ((regs.filter fun r => r.gram.length == n).map (Reg.emit cfg))

/-! ### The equations of one iteration and of the final flush

`same = sameOf s.regs g` registers survive a row `g`; the others are written (newest state last in
`out`, so the highest order comes first in stream order) and logged. -/

section
variable (cfg : Cfg) (s : AState) (g : Gram) (c : Nat)

theorem adjustStep_regs : (adjustStep cfg s (g, c)).regs =
    bump c (s.regs.take (sameOf s.regs g)) ++
      (newRegs g c (sameOf s.regs g + 1) (g.drop (sameOf s.regs g))).1 := rfl

theorem adjustStep_out : (adjustStep cfg s (g, c)).out =
    (s.regs.drop (sameOf s.regs g)).map (Reg.emit cfg) ++ s.out := by
  simp only [adjustStep, List.map_reverse, List.reverse_reverse]

theorem adjustStep_adds : (adjustStep cfg s (g, c)).adds =
    (if (newRegs g c (sameOf s.regs g + 1) (g.drop (sameOf s.regs g))).2 then
        [(⟨g.length - 1, c, markOf cfg c g⟩ : AddCall)] else []) ++
      ((s.regs.drop (sameOf s.regs g)).map (Reg.addCall cfg) ++ s.adds) := by
  simp only [adjustStep, List.map_reverse, List.reverse_reverse]

theorem adjustFlush_regs : (adjustFlush cfg s).regs = [] := rfl

theorem adjustFlush_out : (adjustFlush cfg s).out = (s.regs.map (Reg.emit cfg)).reverse ++ s.out := rfl

/-- the flush logs every register under the index of its order; with the repaired flush
(`flushAdjusted`) the call is the one STEP 1 makes -/
theorem adjustFlush_adds : ∃ f : Reg → AddCall, (∀ r, (f r).idx = r.gram.length - 1) ∧
    (cfg.flushAdjusted = true → f = Reg.addCall cfg) ∧
    (adjustFlush cfg s).adds = (s.regs.map f).reverse ++ s.adds :=
  ⟨_, fun _ => rfl, fun h => by funext r; simp only [h, if_true]; rfl, rfl⟩

end

theorem stream_step (cfg : Cfg) (s : AState) (e : Gram × Nat) (n : Nat) :
    (adjustStep cfg s e).stream n = s.stream n ++
      (((s.regs.drop (sameOf s.regs e.1)).filter fun r => r.gram.length == n).map (Reg.emit cfg)).reverse := by
  rw [AState.stream, adjustStep_out]
  simp only [List.reverse_append, List.filter_append, ← List.map_reverse, List.filter_reverse,
    List.filter_map, AState.stream]
  rfl

theorem stream_flush (cfg : Cfg) (s : AState) (n : Nat) :
    (adjustFlush cfg s).stream n = s.stream n ++ pending cfg s.regs n := by
  rw [AState.stream, adjustFlush_out, List.reverse_append, List.reverse_reverse, List.filter_append,
    List.filter_map]
  rfl

/-- the registers `f 1, …, f m`, listed by the length of their n-gram (the index is 1-based: position
`i` holds `f (i + 1)`) -/
def regsOf (f : Nat → Reg) (m : Nat) : List Reg := (List.range m).map fun i => f (i + 1)

theorem regsOf_length (f : Nat → Reg) (m : Nat) : (regsOf f m).length = m := by simp [regsOf]

theorem regsOf_one (f : Nat → Reg) : regsOf f 1 = [f 1] := rfl

theorem regsOf_succ (f : Nat → Reg) (m : Nat) : regsOf f (m + 1) = regsOf f m ++ [f (m + 1)] := by
  simp [regsOf, List.range_succ]

theorem regsOf_add (f : Nat → Reg) (a b : Nat) :
    regsOf f (a + b) = regsOf f a ++ regsOf (fun n => f (a + n)) b := by
  simp only [regsOf, List.range_add, List.map_append, List.map_map]
  rfl

theorem regsOf_congr {f f' : Nat → Reg} {m : Nat} (h : ∀ n, 1 ≤ n → n ≤ m → f n = f' n) :
    regsOf f m = regsOf f' m :=
  List.map_congr_left fun i hi => h (i + 1) (Nat.le_add_left 1 i) (List.mem_range.mp hi)

theorem regsOf_take (f : Nat → Reg) {s m : Nat} (h : s ≤ m) : (regsOf f m).take s = regsOf f s := by
  rw [regsOf, ← List.map_take, List.take_range, Nat.min_eq_left h]
  rfl

theorem regsOf_drop_filter {f : Nat → Reg} {m : Nat}
    (hf : ∀ k, 1 ≤ k → k ≤ m → (f k).gram.length = k) (s n : Nat) (h1 : 1 ≤ n) :
    ((regsOf f m).drop s).filter (fun r => r.gram.length == n) =
      if s < n ∧ n ≤ m then [f n] else [] := by
  induction m with
  | zero =>
    rw [if_neg fun h => Nat.not_succ_le_zero 0 (Nat.le_trans h1 h.2)]
    show List.filter _ (List.drop s []) = []
    rw [List.drop_nil]; rfl
  | succ m ih =>
    have ih := ih fun k hk hkm => hf k hk (Nat.le_succ_of_le hkm)
    have hlen := hf (m + 1) (Nat.le_add_left 1 m) (Nat.le_refl _)
    rw [regsOf_succ, List.drop_append, regsOf_length, List.filter_append, ih]
    by_cases hn : n = m + 1
    · subst hn
      rw [if_neg fun h => Nat.not_succ_le_self m h.2]
      by_cases hs : s ≤ m
      · rw [Nat.sub_eq_zero_of_le hs, if_pos ⟨Nat.lt_succ_of_le hs, Nat.le_refl _⟩]
        simp [hlen]
      · rw [List.drop_of_length_le (Nat.le_sub_of_add_le' (Nat.lt_of_not_le hs)),
          if_neg fun h => hs (Nat.le_of_lt_succ h.1)]
        rfl
    · have hlast : ([f (m + 1)].drop (s - m)).filter (fun r => r.gram.length == n) = [] := by
        rw [List.filter_eq_nil_iff]
        intro r hr
        have hr' : r = f (m + 1) := by simpa using List.mem_of_mem_drop hr
        rw [hr', hlen]
        simpa using fun h => hn h.symm
      rw [hlast, List.append_nil]
      by_cases h : s < n ∧ n ≤ m
      · rw [if_pos h, if_pos ⟨h.1, Nat.le_succ_of_le h.2⟩]
      · rw [if_neg h,
          if_neg fun h' => h ⟨h'.1, Nat.le_of_lt_succ (Nat.lt_of_le_of_ne h'.2 hn)⟩]

theorem sameOf_regsOf (f : Nat → Reg) {m : Nat} (hm : 1 ≤ m) (g : Gram) :
    sameOf (regsOf f m) g = commonPrefix g (f m).gram := by
  obtain ⟨k, rfl⟩ : ∃ k, m = k + 1 := ⟨m - 1, (Nat.sub_add_cancel hm).symm⟩
  simp [sameOf, regsOf_succ]

theorem bump_snoc (c : Nat) : ∀ (L : List Reg) (r : Reg),
    bump c (L ++ [r]) = L.map (fun x => { x with actual := x.actual + c }) ++
      [{ r with adj := r.adj + 1, actual := r.actual + c }]
  | [], r => rfl
  | a :: t, r => by
    have ih := bump_snoc c t r
    cases t with
    | nil => rfl
    | cons b t' =>
      simp only [List.cons_append, bump, List.map_cons] at ih ⊢
      rw [ih]

theorem bump_regsOf (c : Nat) {f f' : Nat → Reg} {s : Nat}
    (hmid : ∀ n, 1 ≤ n → n < s → f' n = { f n with actual := (f n).actual + c })
    (hlast : 1 ≤ s → f' s = { f s with adj := (f s).adj + 1, actual := (f s).actual + c }) :
    bump c (regsOf f s) = regsOf f' s := by
  cases s with
  | zero => rfl
  | succ m =>
    rw [regsOf_succ, regsOf_succ, bump_snoc, hlast (Nat.le_add_left 1 m)]
    congr 1
    rw [regsOf, List.map_map]
    exact List.map_congr_left fun i hi =>
      (hmid (i + 1) (Nat.le_add_left 1 i) (Nat.succ_lt_succ (List.mem_range.mp hi))).symm

/-- STEP 3 from position `s`: the new registers have lengths `s + 1, s + 2, …`, up to the first
`<s>` (whose register gets the full count) and below the full length; the loop reaches the full
n-gram iff no `<s>` stands before the last of the remaining words -/
theorem newRegs_eq (g : Gram) (c : Nat) : ∀ (ws : List Word) (s : Nat), g.drop s = ws →
    newRegs g c (s + 1) ws =
      (regsOf (fun j => ⟨g.take (s + j), if g[s + j - 1]? = some bos then c else 1, c⟩)
        (min (ws.length - 1) (firstBos ws + 1)), decide (ws.length - 1 ≤ firstBos ws))
  | [], s, _ => rfl
  | [_], s, _ => rfl
  | w :: w2 :: rest, s, h => by
    have hw : g[s]? = some w := by
      have := congrArg List.head? h
      rwa [List.head?_drop, List.head?_cons] at this
    have hd : g.drop (s + 1) = w2 :: rest := by
      rw [← List.drop_drop, h]; rfl
    unfold newRegs
    by_cases hb : w = bos
    · subst hb
      have hf : firstBos (bos :: w2 :: rest) = 0 := by rw [firstBos, if_pos rfl]
      have : min ((bos :: w2 :: rest).length - 1) (0 + 1) = 1 :=
        Nat.min_eq_right (Nat.succ_le_succ (Nat.zero_le rest.length))
      rw [hf, this, if_pos rfl, regsOf_one]
      simp only [Nat.add_sub_cancel, hw, ↓reduceIte]
      rfl
    · have hf : firstBos (w :: w2 :: rest) = firstBos (w2 :: rest) + 1 := by rw [firstBos, if_neg hb]
      have e : min ((w :: w2 :: rest).length - 1) (firstBos (w2 :: rest) + 1 + 1) =
          1 + min ((w2 :: rest).length - 1) (firstBos (w2 :: rest) + 1) := by
        show min (rest.length + 1) (firstBos (w2 :: rest) + 1 + 1) = _
        rw [Nat.add_min_add_right, Nat.add_comm]
        rfl
      rw [if_neg hb]
      dsimp only
      rw [hf, e, regsOf_add, newRegs_eq g c (w2 :: rest) (s + 1) hd, regsOf_one]
      simp only [show (w :: w2 :: rest).length - 1 = (w2 :: rest).length - 1 + 1 from rfl,
        Nat.add_le_add_iff_right]
      simp only [Nat.add_sub_cancel, hw, Option.some.injEq, hb, ↓reduceIte, List.singleton_append,
        Nat.add_assoc]

abbrev specRegs (N : Nat) (full : Table) (l : Gram) : List Reg :=
  regsOf (fun n => specReg N full (l.take n)) (regLen N l)

theorem regLen_le (N : Nat) (l : Gram) : regLen N l ≤ N - 1 := Nat.min_le_left _ _

theorem regLen_pos {N : Nat} (h2 : 2 ≤ N) (l : Gram) : 1 ≤ regLen N l := by
  unfold regLen; omega

theorem specReg_length {N : Nat} (full : Table) {l : Gram} (hl : l.length = N) :
    ∀ k, 1 ≤ k → k ≤ regLen N l → (specReg N full (l.take k)).gram.length = k := by
  intro k _ hk
  have := regLen_le N l
  show (l.take k).length = k
  rw [List.length_take, hl]; omega

theorem le_sameOf_specRegs {N : Nat} (h2 : 2 ≤ N) (full : Table) {l g : Gram} (hl : l.length = N)
    (hg : g.length = N) (n : Nat) :
    n ≤ sameOf (specRegs N full l) g ↔ n ≤ regLen N l ∧ g.take n = l.take n := by
  have hle : regLen N l ≤ N := Nat.le_trans (regLen_le N l) (Nat.sub_le _ _)
  have hlen : (l.take (regLen N l)).length = regLen N l := by
    rw [List.length_take, hl, Nat.min_eq_left hle]
  rw [sameOf_regsOf _ (regLen_pos h2 l), le_commonPrefix]
  show n ≤ g.length ∧ n ≤ (l.take (regLen N l)).length ∧ g.take n = (l.take (regLen N l)).take n ↔ _
  rw [hlen, hg, List.take_take]
  constructor
  · rintro ⟨_, hb, hc⟩
    exact ⟨hb, by rwa [Nat.min_eq_left hb] at hc⟩
  · rintro ⟨ha, hb⟩
    exact ⟨Nat.le_trans ha hle, ha, by rwa [Nat.min_eq_left ha]⟩

/-- the situation of one step: `P` is the processed prefix, `l` its last row, `g` the next row -/
structure Ctx (N : Nat) (P : Table) (l g : Gram) : Prop where
  h2 : 2 ≤ N
  lmem : ∃ cl, (l, cl) ∈ P
  rows : ∀ x ∈ P, RowOK N x.1
  lmax : ∀ x ∈ P, ¬ l < x.1
  glt : ∀ x ∈ P, x.1 < g
  grow : RowOK N g

namespace Ctx

variable {N : Nat} {P : Table} {l g : Gram} (X : Ctx N P l g)
include X

theorem lrow : RowOK N l := by
  obtain ⟨cl, h⟩ := X.lmem
  exact X.rows _ h

theorem l_lt_g : l < g := by
  obtain ⟨cl, h⟩ := X.lmem
  exact X.glt _ h

theorem g_ne_l : g ≠ l := by
  intro h
  have := X.l_lt_g
  rw [h] at this
  exact List.lt_irrefl _ this

/-- contiguity: a suffix that `g` shares with some earlier row is shared with the last row -/
theorem contig {x : Gram × Nat} (hx : x ∈ P) (m : Nat) (h : x.1.take m = g.take m) :
    l.take m = g.take m := by
  rw [take_sandwich m x.1 l g (X.lmax x hx) (List.lt_asymm X.l_lt_g) h, h]

theorem shared_no_bos (n : Nat) (h1 : 1 ≤ n) (ht : g.take n = l.take n) : l[n - 1]? ≠ some bos :=
  fun hb => X.g_ne_l (row_eq_of_bos X.lrow X.grow n h1 ht hb)

theorem absent (n : Nat) (h1 : 1 ≤ n) (hng : n ≤ regLen N g)
    (hns : ¬ (n ≤ regLen N l ∧ g.take n = l.take n)) : rowsOf P (g.take n) = [] := by
  unfold rowsOf
  rw [List.filter_eq_nil_iff]
  intro x hx hh
  have hle := regLen_le N g
  have hlen : (g.take n).length = n := by rw [List.length_take, X.grow.len]; omega
  rw [hlen] at hh
  have hxg : x.1.take n = g.take n := by simpa using hh
  have hlg := X.contig hx n hxg
  apply hns
  refine ⟨?_, hlg.symm⟩
  rw [le_regLen X.lrow.len h1]
  have := (le_regLen X.grow.len h1).mp hng
  exact ⟨this.1, by rw [validAt_of_take hlg]; exact this.2⟩

end Ctx

theorem specReg_new {N : Nat} (P : Table) {g : Gram} (c : Nat) (hg : g.length = N) (n : Nat)
    (h1 : 1 ≤ n) (hn : n < N) (habs : rowsOf P (g.take n) = []) :
    specReg N (P ++ [(g, c)]) (g.take n) = ⟨g.take n, if g[n - 1]? = some bos then c else 1, c⟩ := by
  have hlen : (g.take n).length = n := by
    rw [List.length_take, hg, Nat.min_eq_left (Nat.le_of_lt hn)]
  have hrows : rowsOf (P ++ [(g, c)]) (g.take n) = [(g, c)] := by
    rw [rowsOf_snoc, habs, hlen, if_pos rfl]; rfl
  unfold specReg adjCount trueCount leftExts
  rw [hrows, hlen, getLast?_take_row h1 (hg ▸ Nat.le_of_lt hn)]
  have hN : ¬ n = N := Nat.ne_of_lt hn
  by_cases hb : g[n - 1]? = some bos
  · simp [hN, hb]
  · simp [hN, hb, List.eraseDups_cons]

theorem newRegs_spec {N : Nat} (P : Table) {g : Gram} (c : Nat) (hg : g.length = N) (same : Nat)
    (hs : same ≤ firstBos g)
    (habs : ∀ n, same < n → n ≤ regLen N g → rowsOf P (g.take n) = []) :
    (newRegs g c (same + 1) (g.drop same)).1 =
      regsOf (fun j => specReg N (P ++ [(g, c)]) (g.take (same + j))) (regLen N g - same) := by
  have e : min ((g.drop same).length - 1) (firstBos (g.drop same) + 1) = regLen N g - same := by
    rw [firstBos_drop g same hs, List.length_drop, hg, Nat.sub_right_comm, ← Nat.sub_add_comm hs,
      Nat.sub_min_sub_right, regLen]
  rw [newRegs_eq g c _ same rfl, e]
  clear e
  dsimp only
  have hle := regLen_le N g
  apply regsOf_congr
  intro j h1 hj
  have hj' : same + j ≤ regLen N g := by omega
  exact (specReg_new P c hg (same + j) (Nat.le_add_left_of_le h1) (by omega)
    (habs _ (Nat.lt_add_of_pos_right h1) hj')).symm

/-! In this section `same` stands for `sameOf (specRegs N P l) g`, given by its lower set `hs`
(`le_sameOf_specRegs`): the suffixes that `g` shares with `l` and that have a register. -/

section
variable {N : Nat} {P : Table} {l g : Gram} (X : Ctx N P l g) (c : Nat) (same : Nat)
  (hs : ∀ n, n ≤ same ↔ n ≤ regLen N l ∧ g.take n = l.take n)
include X hs

theorem specReg_shared (n : Nat) (h1 : 1 ≤ n) (hn : n ≤ same) :
    specReg N (P ++ [(g, c)]) (g.take n) =
      ⟨l.take n, adjCount N P (l.take n) + (if n = same then 1 else 0), trueCount P (l.take n) + c⟩ := by
  obtain ⟨hnl, ht⟩ := (hs n).mp hn
  obtain ⟨hnN, hv⟩ := (le_regLen X.lrow.len h1).mp hnl
  have hN := X.h2
  have hnN' : n ≤ N := Nat.le_trans hnN (Nat.sub_le _ _)
  have hlenl : (l.take n).length = n := by rw [List.length_take, X.lrow.len, Nat.min_eq_left hnN']
  have hhit : g.take (l.take n).length = l.take n := by rw [hlenl, ht]
  have hnb := X.shared_no_bos n h1 ht
  have hcond : ¬ ((l.take n).length = N ∨ (l.take n).getLast? = some bos) := by
    rw [hlenl, getLast?_take_row h1 (X.lrow.len ▸ hnN')]
    exact fun h => h.elim (by omega) hnb
  -- the left extension by `g` is new unless the next longer suffix is shared too
  have hext : g.take (n + 1) ∈ (rowsOf P (l.take n)).map (fun x => x.1.take (n + 1)) ↔ n + 1 ≤ same := by
    constructor
    · intro hm
      obtain ⟨x, hx, hxe⟩ := List.mem_map.mp hm
      have hlg := X.contig (mem_rowsOf.mp hx).1 (n + 1) hxe
      rw [hs, le_regLen X.lrow.len (Nat.le_add_left 1 n)]
      refine ⟨⟨?_, validAt_succ h1 hv hnb⟩, hlg.symm⟩
      -- a shared suffix of full length would make the rows equal
      by_cases hN1 : n + 1 ≤ N - 1
      · exact hN1
      · have e : n + 1 = N := by omega
        rw [e, List.take_of_length_le (Nat.le_of_eq X.lrow.len),
          List.take_of_length_le (Nat.le_of_eq X.grow.len)] at hlg
        exact absurd hlg.symm X.g_ne_l
    · intro hn1
      obtain ⟨cl, hcl⟩ := X.lmem
      exact List.mem_map.mpr ⟨(l, cl), mem_rowsOf.mpr ⟨hcl, by rw [hlenl]⟩, ((hs (n + 1)).mp hn1).2.symm⟩
  rw [ht]
  unfold specReg adjCount
  rw [if_neg hcond, if_neg hcond, trueCount_snoc_hit P g c _ hhit, leftExts_snoc_hit P g c _ hhit, hlenl]
  by_cases hsame : n = same
  · rw [if_neg (fun h => Nat.not_succ_le_self n (hsame ▸ hext.mp h)), if_pos hsame]
  · rw [if_pos (hext.mpr (Nat.lt_of_le_of_ne hn hsame)), if_neg hsame]

theorem same_le_firstBos : same ≤ firstBos g := by
  have hsl := (hs same).mp (Nat.le_refl _)
  have hle := regLen_le N l
  rw [le_firstBos]
  refine ⟨by rw [X.grow.len]; omega, ?_⟩
  by_cases h0 : same = 0
  · rw [h0]; exact List.not_mem_nil
  · -- the shared suffix is valid in `l` and does not start with `<s>`
    have h1 : 1 ≤ same := Nat.pos_of_ne_zero h0
    have hv := validAt_succ h1 ((le_regLen X.lrow.len h1).mp hsl.1).2 (X.shared_no_bos same h1 hsl.2)
    rwa [validAt_iff, Nat.add_sub_cancel, ← hsl.2] at hv

theorem regs_step :
    bump c ((specRegs N P l).take same) ++ (newRegs g c (same + 1) (g.drop same)).1 =
      specRegs N (P ++ [(g, c)]) g := by
  have hsl := (hs same).mp (Nat.le_refl _)
  have hle := regLen_le N l
  have hfb := same_le_firstBos X same hs
  have hsg : same ≤ regLen N g := Nat.le_min.mpr ⟨Nat.le_trans hsl.1 hle, Nat.le_succ_of_le hfb⟩
  obtain ⟨d, hd⟩ : ∃ d, regLen N g = same + d := ⟨_, (Nat.add_sub_cancel' hsg).symm⟩
  unfold specRegs
  rw [newRegs_spec P c X.grow.len same hfb
      (fun n h1 h2 => X.absent n (Nat.lt_of_le_of_lt (Nat.zero_le _) h1) h2
        (by rw [← hs]; exact Nat.not_le.mpr h1)),
    regsOf_take _ hsl.1, hd, regsOf_add, Nat.add_sub_cancel_left]
  congr 1
  exact bump_regsOf c
    (fun n h1 hn => (specReg_shared X c same hs n h1 (Nat.le_of_lt hn)).trans
      (by rw [if_neg (Nat.ne_of_lt hn)]; rfl))
    (fun h1 => (specReg_shared X c same hs same h1 (Nat.le_refl _)).trans (by rw [if_pos rfl]; rfl))

end

theorem keys_snoc (n : Nat) (pre : Table) (g : Gram) (c : Nat) :
    keys n (pre ++ [(g, c)]) =
      keys n pre ++ if validAt n g = true ∧ g.take n ∉ keys n pre then [g.take n] else [] := by
  unfold keys
  rw [List.map_append, List.filter_append, List.map_append]
  show (_ ++ List.map (·.take n) (List.filter (validAt n) [g])).eraseDups = _
  by_cases hv : validAt n g = true
  · rw [List.filter_cons_of_pos hv, List.filter_nil, List.map_singleton, dedup_snoc]
    by_cases hm : g.take n ∈ ((pre.map (·.1)).filter (validAt n)).map (·.take n)
    · rw [if_pos hm, if_neg (fun h => h.2 (List.mem_eraseDups.mpr hm)), List.append_nil]
    · rw [if_neg hm, if_pos ⟨hv, fun h => hm (List.mem_eraseDups.mp h)⟩]
  · rw [List.filter_cons_of_neg hv, List.filter_nil, List.map_nil, List.append_nil,
      if_neg (fun h => hv h.1), List.append_nil]

theorem ksOf_snoc {cfg : Cfg} (P : Table) (g : Gram) (c : Nat) {n : Nat} (hn : n < cfg.order) :
    ksOf cfg (P ++ [(g, c)]) n =
      ksOf cfg P n ++ if validAt n g = true ∧ g.take n ∉ keys n P then [g.take n] else [] := by
  rw [ksOf_lower _ hn, ksOf_lower _ hn, keys_snoc, List.append_assoc]

theorem ents_snoc_new (cfg : Cfg) (P : Table) (g : Gram) (c : Nat) (n : Nat) (hn : n < cfg.order)
    (hgl : n ≤ g.length) (hlen : ∀ k ∈ ksOf cfg P n, k.length = n)
    (hg1 : g.take n ≠ [unk] ∧ g.take n ≠ [bos])
    (habs : validAt n g = true → rowsOf P (g.take n) = []) :
    ents cfg (P ++ [(g, c)]) n = ents cfg P n ++
      (if validAt n g = true then [recOf cfg (P ++ [(g, c)]) (g.take n)] else []) := by
  have hnk : g.take n ∉ keys n P := by
    intro hk
    obtain ⟨x, hx, hv, hxe⟩ := mem_keys.mp hk
    have : x ∈ rowsOf P (g.take n) :=
      mem_rowsOf.mpr ⟨hx, by rw [List.length_take, Nat.min_eq_left hgl]; exact hxe⟩
    rw [habs (by rw [← validAt_of_take hxe]; exact hv)] at this
    cases this
  have hnE : g.take n ∉ ksOf cfg P n := fun h =>
    ((mem_ksOf_lower hn).mp h).elim (fun h => h.2.elim hg1.1 hg1.2) hnk
  rw [ents_eq, ents_eq, ksOf_snoc P g c hn, List.map_append]
  congr 1
  · apply List.map_congr_left
    intro k hk
    apply recOf_congr
    apply rowsOf_snoc_miss
    rw [hlen k hk]
    exact fun h => hnE (h ▸ hk)
  · by_cases hv : validAt n g = true
    · rw [if_pos ⟨hv, hnk⟩, if_pos hv]; rfl
    · rw [if_neg (fun h => hv h.1), if_neg hv]; rfl

theorem specRegs_filter {N : Nat} (full : Table) {l : Gram} (hl : l.length = N) {n : Nat} (h1 : 1 ≤ n) :
    (specRegs N full l).filter (fun r => r.gram.length == n) =
      if n ≤ regLen N l then [specReg N full (l.take n)] else [] := by
  have h0 := regsOf_drop_filter (specReg_length full hl) 0 n h1
  simp only [List.drop_zero, show 0 < n from h1, true_and] at h0
  exact h0

theorem pending_specRegs (cfg : Cfg) (hk : cfg.keepSpecials = true) (full : Table) {l : Gram}
    (hl : RowOK cfg.order l) {n : Nat} (h1 : 1 ≤ n) (hn : n < cfg.order) :
    pending cfg (specRegs cfg.order full l) n =
      if validAt n l = true then [recOf cfg full (l.take n)] else [] := by
  have hne := take_ne_special hl.head n h1
  rw [pending, specRegs_filter full hl.len h1]
  by_cases hv : validAt n l = true
  · rw [if_pos ((le_regLen hl.len h1).mpr ⟨Nat.le_sub_one_of_lt hn, hv⟩), if_pos hv]
    exact congrArg (fun x => [x]) (emit_specReg cfg hk full _ hne.1 hne.2)
  · rw [if_neg (fun h => hv ((le_regLen hl.len h1).mp h).2), if_neg hv]
    rfl

theorem dropped_specRegs (cfg : Cfg) {N : Nat} (full : Table) {l : Gram} (hl : l.length = N)
    (s n : Nat) (h1 : 1 ≤ n) :
    ((((specRegs N full l).drop s).filter fun r => r.gram.length == n).map (Reg.emit cfg)).reverse =
      if s < n then pending cfg (specRegs N full l) n else [] := by
  rw [pending, specRegs_filter full hl h1, regsOf_drop_filter (specReg_length full hl) s n h1]
  by_cases hs : s < n <;> by_cases hm : n ≤ regLen N l <;> simp [hs, hm]

/-- Two cases.  The suffix of length `n` is shared with the last row: its record is the last one
written for that order and is the only one that changes (`map_update_last`).  Otherwise no earlier row
has it (`Ctx.absent`) and a new key is appended (`ents_snoc_new`). -/
theorem stream_step_inv (cfg : Cfg) {P : Table} {l g : Gram} (X : Ctx cfg.order P l g) (c : Nat)
    (hk : cfg.keepSpecials = true) (s : AState) (hregs : s.regs = specRegs cfg.order P l)
    (n : Nat) (h1 : 1 ≤ n) (hn : n < cfg.order)
    (ih : s.stream n ++ pending cfg (specRegs cfg.order P l) n = ents cfg P n) :
    (adjustStep cfg s (g, c)).stream n ++ pending cfg (specRegs cfg.order (P ++ [(g, c)]) g) n =
      ents cfg (P ++ [(g, c)]) n := by
  have hs := le_sameOf_specRegs X.h2 P X.lrow.len X.grow.len
  have hklen := ksOf_lower_length (fun x hx => (X.rows x hx).len) hn
  have hgl : n ≤ g.length := by rw [X.grow.len]; omega
  rw [stream_step, hregs, dropped_specRegs cfg P X.lrow.len _ n h1,
    pending_specRegs cfg hk _ X.grow h1 hn]
  by_cases hns : n ≤ sameOf (specRegs cfg.order P l) g
  · -- the suffix is shared with the last row: its record is the last one written, and changes
    obtain ⟨hnl, ht⟩ := (hs n).mp hns
    have hvl := ((le_regLen X.lrow.len h1).mp hnl).2
    obtain ⟨cl, hcl⟩ := X.lmem
    have hkey : g.take n ∈ keys n P := mem_keys.mpr ⟨(l, cl), hcl, hvl, ht.symm⟩
    rw [pending_specRegs cfg hk _ X.lrow h1 hn, if_pos hvl, ents_eq] at ih
    rw [if_neg (Nat.not_lt.mpr hns), List.append_nil,
      if_pos (by rw [validAt_of_take ht]; exact hvl), ents_eq, ksOf_snoc P g c hn,
      if_neg (fun h => h.2 hkey), List.append_nil, ht]
    have := map_update_last Emit.gram (ksOf cfg P n) (recOf cfg P) (recOf cfg (P ++ [(g, c)]))
      (recOf_gram cfg P) (ksOf_lower_nodup (fun x hx => (X.rows x hx).head) hn) (s.stream n)
      (recOf cfg P (l.take n)) ih.symm (by
        intro k hk' hne
        rw [recOf_gram] at hne
        apply recOf_congr
        apply rowsOf_snoc_miss
        rw [hklen k hk', ht]
        exact fun h => hne h.symm)
    rw [recOf_gram] at this
    exact this.symm
  · have hnot : ¬ (n ≤ regLen cfg.order l ∧ g.take n = l.take n) := by rw [← hs]; exact hns
    rw [if_pos (Nat.lt_of_not_le hns), ih]
    exact (ents_snoc_new cfg P g c n hn hgl hklen (take_ne_special X.grow.head n h1) (fun hv =>
      X.absent n h1 ((le_regLen X.grow.len h1).mpr ⟨Nat.le_sub_one_of_lt hn, hv⟩) hnot)).symm

structure FullWF (N : Nat) (full : List (Gram × Nat)) : Prop where
  len : ∀ e ∈ full, e.1.length = N
  sorted : full.Pairwise (fun a b => a.1 < b.1)
  headOK : ∀ e ∈ full, e.1.head? ≠ some bos ∧ e.1.head? ≠ some unk
  bosRun : ∀ e ∈ full, ∀ i j, i ≤ j → j < N → e.1[i]? = some bos → e.1[j]? = some bos

theorem FullWF.row {N : Nat} {full : List (Gram × Nat)} (hw : FullWF N full) (e : Gram × Nat)
    (he : e ∈ full) : RowOK N e.1 := ⟨hw.len e he, hw.headOK e he, hw.bosRun e he⟩

/-- `FullWF` says: sorted by key, and every row is `RowOK`. -/
theorem fullWF_iff {N : Nat} {full : List (Gram × Nat)} :
    FullWF N full ↔ full.Pairwise (fun a b => a.1 < b.1) ∧ ∀ e ∈ full, RowOK N e.1 :=
  ⟨fun h => ⟨h.sorted, h.row⟩, fun ⟨hs, hr⟩ =>
    ⟨fun e he => (hr e he).len, hs, fun e he => (hr e he).head, fun e he => (hr e he).run⟩⟩

/-- after a non-empty prefix `P` with last row `l`: the registers are the specification's
registers of the suffixes of `l`, and emitted ++ pending records are the specification of `P` -/
structure Inv (cfg : Cfg) (P : Table) (l : Gram) (s : AState) : Prop where
  regs : s.regs = specRegs cfg.order P l
  strm : ∀ n, 1 ≤ n → n < cfg.order →
    s.stream n ++ pending cfg (specRegs cfg.order P l) n = ents cfg P n

theorem inv_step (cfg : Cfg) {P : Table} {l g : Gram} (X : Ctx cfg.order P l g) (c : Nat)
    (hk : cfg.keepSpecials = true) (s : AState) (inv : Inv cfg P l s) :
    Inv cfg (P ++ [(g, c)]) g (adjustStep cfg s (g, c)) := by
  constructor
  · rw [adjustStep_regs, inv.regs]
    exact regs_step X c _ (le_sameOf_specRegs X.h2 P X.lrow.len X.grow.len)
  · intro n h1 hn
    exact stream_step_inv cfg X c hk s inv.regs n h1 hn (inv.strm n h1 hn)

/-- before the first row: `<unk>` is written, `<s>` is pending (and will not be marked) -/
theorem init_stream (cfg : Cfg) (hk : cfg.keepSpecials = true) (n : Nat) (h1 : 1 ≤ n)
    (hn : n < cfg.order) :
    adjustInit.stream n ++ pending cfg adjustInit.regs n = ents cfg [] n := by
  rw [ents_eq, ksOf_lower _ hn]
  unfold keys AState.stream adjustInit pending
  by_cases h : n = 1
  · subst h
    simp [Reg.emit, markOf, hk, isSpecial, recOf]
  · have e1 : ((1 : Nat) == n) = false := beq_false_of_ne fun h' => h h'.symm
    simp [e1, h]

theorem sameOf_init {N : Nat} {g : Gram} (hg : RowOK N g) : sameOf adjustInit.regs g = 0 := by
  have hh := hg.head.1
  unfold sameOf adjustInit
  cases g with
  | nil => rfl
  | cons a t =>
    simp only [List.head?_cons, ne_eq, Option.some.injEq] at hh
    simp [commonPrefix, hh]

theorem inv_first (cfg : Cfg) (hk : cfg.keepSpecials = true) (g : Gram) (c : Nat)
    (hg : RowOK cfg.order g) : Inv cfg [(g, c)] g (adjustStep cfg adjustInit (g, c)) := by
  have hsame := sameOf_init hg
  constructor
  · rw [adjustStep_regs, hsame, newRegs_spec [] c hg.len 0 (Nat.zero_le _) (fun _ _ _ => rfl)]
    simp only [List.take_zero, bump, List.nil_append, Nat.sub_zero, Nat.zero_add]
  · intro n h1 hn
    have hi := init_stream cfg hk n h1 hn
    unfold pending at hi
    rw [stream_step, hsame, List.drop_zero, pending_specRegs cfg hk _ hg h1 hn, reverse_short, hi]
    · exact (ents_snoc_new cfg [] g c n hn (by rw [hg.len]; omega)
        (ksOf_lower_length (by intro x hx; cases hx) hn) (take_ne_special hg.head n h1)
        (fun _ => rfl)).symm
    · rw [List.length_map]
      exact Nat.le_trans (List.length_filter_le _ _) (by simp [adjustInit])

/-- the invariant holds along the remaining rows, and with it any predicate on the processed prefix
and the state that every step preserves -/
theorem inv_fold_with (cfg : Cfg) (h2 : 2 ≤ cfg.order) (hk : cfg.keepSpecials = true)
    (Q : Table → AState → Prop)
    (hstep : ∀ (P : Table) (l g : Gram) (c : Nat) (s : AState), Ctx cfg.order P l g → Inv cfg P l s →
      Q P s → Q (P ++ [(g, c)]) (adjustStep cfg s (g, c))) :
    ∀ (rest P : Table) (l : Gram) (cl : Nat) (s : AState),
      (l, cl) ∈ P → (∀ x ∈ P, ¬ l < x.1) → FullWF cfg.order (P ++ rest) → Inv cfg P l s → Q P s →
      ∃ l', Inv cfg (P ++ rest) l' (rest.foldl (adjustStep cfg) s) ∧
        Q (P ++ rest) (rest.foldl (adjustStep cfg) s)
  | [], P, l, _, s, _, _, _, inv, hq => by
    rw [List.append_nil]
    exact ⟨l, inv, hq⟩
  | (g, c) :: rest, P, l, cl, s, hl, hmax, hw, inv, hq => by
    have hsort := List.pairwise_append.mp hw.sorted
    have X : Ctx cfg.order P l g :=
      { h2 := h2
        lmem := ⟨cl, hl⟩
        rows := fun x hx => hw.row x (List.mem_append_left _ hx)
        lmax := hmax
        glt := fun x hx => hsort.2.2 x hx (g, c) List.mem_cons_self
        grow := hw.row (g, c) (List.mem_append_right _ List.mem_cons_self) }
    have hassoc : P ++ (g, c) :: rest = (P ++ [(g, c)]) ++ rest := by simp
    rw [List.foldl_cons, hassoc]
    refine inv_fold_with cfg h2 hk Q hstep rest (P ++ [(g, c)]) g c _ (by simp) ?_ (hassoc ▸ hw)
      (inv_step cfg X c hk s inv) (hstep P l g c s X inv hq)
    -- the new row is the largest so far
    intro x hx
    rcases List.mem_append.mp hx with hx | hx
    · exact List.lt_asymm (X.glt x hx)
    · rw [List.mem_singleton.mp hx]
      exact List.lt_irrefl _

theorem specRegs_len_le (N : Nat) (P : Table) (l : Gram) :
    ∀ r ∈ specRegs N P l, r.gram.length ≤ N - 1 := by
  intro r hr
  obtain ⟨i, hi, rfl⟩ := List.mem_map.mp hr
  have h1 := List.mem_range.mp hi
  have h2 := regLen_le N l
  simp only [specReg, List.length_take]
  omega

theorem adjustInit_regs_len (cfg : Cfg) (h2 : 2 ≤ cfg.order) :
    ∀ r ∈ adjustInit.regs, r.gram.length ≤ cfg.order - 1 := by
  intro r hr
  cases List.mem_singleton.mp hr
  show 1 ≤ cfg.order - 1
  omega

/-- the whole fold from `adjustInit`, the empty table included.  At the end `Q` holds, if it holds of
`adjustInit`, after a first row, and every later step preserves it; no register is of the highest
order; and the flush leaves the specification's records in every stream below the highest order.
The first row is not an instance of `inv_step`: `adjustInit` holds the register
`⟨[<s>], 0, UINT64_MAX⟩`, which is no register of the specification (`inv_first`). -/
theorem inv_fold_all (cfg : Cfg) (h2 : 2 ≤ cfg.order) (hk : cfg.keepSpecials = true)
    (Q : Table → AState → Prop)
    (hstep : ∀ (P : Table) (l g : Gram) (c : Nat) (s : AState), Ctx cfg.order P l g → Inv cfg P l s →
      Q P s → Q (P ++ [(g, c)]) (adjustStep cfg s (g, c)))
    {full : Table} (hw : FullWF cfg.order full) (h0 : Q [] adjustInit)
    (hfirst : ∀ g c, RowOK cfg.order g → Q [(g, c)] (adjustStep cfg adjustInit (g, c))) :
    Q full (full.foldl (adjustStep cfg) adjustInit) ∧
      (∀ r ∈ (full.foldl (adjustStep cfg) adjustInit).regs, r.gram.length ≤ cfg.order - 1) ∧
      ∀ n, 1 ≤ n → n < cfg.order →
        (adjustFlush cfg (full.foldl (adjustStep cfg) adjustInit)).stream n = ents cfg full n := by
  cases full with
  | nil =>
    exact ⟨h0, adjustInit_regs_len cfg h2, fun n h1 hn => by
      rw [List.foldl_nil, stream_flush]; exact init_stream cfg hk n h1 hn⟩
  | cons e rest =>
    obtain ⟨g, c⟩ := e
    have hg := hw.row (g, c) List.mem_cons_self
    rw [List.foldl_cons]
    obtain ⟨l, inv, hQ⟩ := inv_fold_with cfg h2 hk Q hstep rest [(g, c)] g c _ List.mem_cons_self
      (fun x hx => by rw [List.mem_singleton.mp hx]; exact List.lt_irrefl _) hw
      (inv_first cfg hk g c hg) (hfirst g c hg)
    exact ⟨hQ, by rw [inv.regs]; exact specRegs_len_le _ _ _, fun n h1 hn => by
      rw [stream_flush, inv.regs]; exact inv.strm n h1 hn⟩

theorem adjust_stream_eq (cfg : Cfg) (full : List (Gram × Nat)) (h2 : 2 ≤ cfg.order)
    (hw : FullWF cfg.order full) (hk : cfg.keepSpecials = true) (n : Nat) (h1 : 1 ≤ n)
    (hn : n < cfg.order) :
    (adjustStream cfg full).stream n = ents cfg full n :=
  (inv_fold_all cfg h2 hk (fun _ _ => True) (fun _ _ _ _ _ _ _ _ => trivial) hw trivial
    fun _ _ _ => trivial).2.2 n h1 hn

theorem prune_exact (cfg : Cfg) (full : List (Gram × Nat)) (h2 : 2 ≤ cfg.order)
    (hw : FullWF cfg.order full) (hk : cfg.keepSpecials = true) (n : Nat) (h1 : 1 ≤ n)
    (hn : n < cfg.order) :
    ∀ e ∈ (adjustStream cfg full).stream n, e.marked = pruned cfg full e.gram := by
  intro e he
  rw [adjust_stream_eq cfg full h2 hw hk n h1 hn, ents_eq] at he
  obtain ⟨k, _, rfl⟩ := List.mem_map.mp he
  rw [recOf_gram]
  exact recOf_marked cfg full k

/-- the checker of `FullWF`; its last conjunct bounds both indices (`i < N`, `j < N`) so that `decide`
sees bounded quantifiers -/
def fullWFb (N : Nat) (full : List (Gram × Nat)) : Bool :=
  decide (∀ e ∈ full, e.1.length = N)
  && decide (full.Pairwise (fun a b => a.1 < b.1))
  && decide (∀ e ∈ full, e.1.head? ≠ some bos ∧ e.1.head? ≠ some unk)
  && decide (∀ e ∈ full, ∀ i, i < N → ∀ j, j < N → i ≤ j → e.1[i]? = some bos → e.1[j]? = some bos)

theorem fullWFb_sound (N : Nat) (full : List (Gram × Nat)) (h : fullWFb N full = true) :
    FullWF N full := by
  simp only [fullWFb, Bool.and_eq_true, decide_eq_true_eq] at h
  obtain ⟨⟨⟨h1, h2⟩, h3⟩, h4⟩ := h
  exact ⟨h1, h2, h3, fun e he i j hij hj hb => h4 e he i (Nat.lt_of_le_of_lt hij hj) j hj hij hb⟩

/-- the trigram table of the corpus `3 4 / 3 3 4 / 5 / 3 4` (`countFull 3`) is well-formed -/
theorem exFull_wf : FullWF 3
    [([2, 4, 3], 3), ([2, 5, 1], 1), ([3, 1, 1], 3), ([3, 3, 1], 1), ([4, 3, 1], 2), ([4, 3, 3], 1),
      ([5, 1, 1], 1)] :=
  fullWFb_sound _ _ (by decide)

end KV.KN.Adjust
