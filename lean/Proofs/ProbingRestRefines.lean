import Model.Left
import Proofs.ProbingRefines
/-! The probing structure with separate rest costs (`HashedSearch<RestValue>`) refines `KV.Left.restSearch T R`, the
search over the abstract table whose `Rest()` returns `R` — the search C08's theorems are stated for. -/
namespace KV.ProbingLM
open KV.Arpa KV.Table KV.Score KV.State KV.Left

variable (combine : Nat → Word → Nat)

/-- as `Represents`, the payloads carrying `rest = R g`: the name under which the builder theorems cite `RepresentsRest` -/
abbrev RepresentsR (P : PLM) (T : Table) (R : List Word → Rat) (Mmid : Nat → Nat → Option Nat) (Mlong : Nat → Option Nat) : Prop :=
  RepresentsRest combine P T R Mmid Mlong

theorem probing_simR (P : PLM) (T : Table) (R : List Word → Rat) (Mmid : Nat → Nat → Option Nat) (Mlong : Nat → Option Nat)
    (rep : RepresentsR combine P T R Mmid Mlong) (inj : HashInjective combine T) (hN : 2 ≤ T.order) :
    Sim (search combine P) (restSearch T R) (fun d n g => g.length = d ∧ n = hashOf combine g ∧ g ≠ []) :=
  probing_sim_rest combine P T R Mmid Mlong rep inj hN

end KV.ProbingLM
