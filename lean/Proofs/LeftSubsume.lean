import Proofs.LeftJoin
/-! `Subsume` (`lm/partial.hh:135-161`, `between_length = 0`): joining two finished fragments gives the canonical
chart state of the concatenation, and the returned adjustment is exactly whole − parts. -/
namespace KV.Left
open KV.Arpa KV.Table KV.State KV.Score

variable {a : Arpa} {T : Table}

theorem subsume_frag_aux (H : Hyp a T) (R : Ptr → Rat) {ws1 ws2 : List Word} {L1 L2 : Nat} {c1 c2 : Chart} {p1 p2 : Rat}
    (G1 : FragC a T R ws1 L1 c1 p1) (G2 : FragC a T R ws2 L2 c2 p2) :
    ∃ L', FragC a T R (ws1 ++ ws2) L'
      { left := (subsume T R c1.left c1.right c2.left c2.right 0).2.1, right := (subsume T R c1.left c1.right c2.left c2.right 0).2.2 }
      (p1 + p2 + (subsume T R c1.left c1.right c2.left c2.right 0).1) := by
  have hord : T.order = a.order := H.tf.order_eq
  have sf := G1.right_for
  have hn1h : c1.right.length ≤ ws1.reverse.length := sf.len_le_h
  have haddl : (ws1.reverse.take c1.right.length).length = c1.right.length := by
    rw [List.length_take]; exact Nat.min_eq_left hn1h
  unfold subsume
  dsimp only
  rw [sf.words, extendLoop_eq, haddl]
  generalize hv : loopFrom T R 0 (ws1.reverse.take c1.right.length) c1.right.length c2.left.pointers
    { nextUse := c1.right.length, backIn := (c1.right.backoff.take c1.right.length).take c1.right.length } (!c1.left.full) = v
  obtain ⟨Lw, J⟩ := join_loop H R G2 sf (fun _ hj => take_take_of_le hj) rfl
    (by show ((c1.right.backoff.take c1.right.length).take c1.right.length).take c1.right.length = _
        rw [List.take_take, Nat.min_self, List.take_take, Nat.min_self])
    (!c1.left.full) (fun hw => ⟨by rw [(G1.open_ (by simpa using hw)).2, List.length_reverse], rfl⟩) v hv
  obtain ⟨tf1, tf2⟩ := tail_sem H R G2 hn1h J.inv
  have hwr : v.written = (List.range Lw).map (fun i => pre ws2 i ++ ws1.reverse) := J.written_nil
  have hb : 0 < Lw → Lw + ws1.length ≤ a.order - 1 := fun hp => by simpa using J.bound_nil hp
  -- the four combinations of complete / open left states differ in the pieces put together
  have key : ∀ (left' : LeftSt) (right' : State) (adj tail : Rat),
      left'.pointers = c1.left.pointers ++ (List.range Lw).map (fun i => pre ws2 i ++ ws1.reverse) →
      specSeq a (gm1 ws2 L2) (ws2.drop L2) + tail = specSeq a (gm1 ws2 L2 ++ ws1.reverse) (ws2.drop L2) →
      adj = v.adjust + tail → StateFor a (ws2.reverse ++ ws1.reverse) right' → NormS right' →
      (left'.full = false → c1.left.full = false ∧ Lw = ws2.length ∧ right'.length = ws2.length + ws1.length) →
      (c1.left.full = true → left'.full = true) →
      (left'.full = true → c1.left.full = false → Closed T (ws1 ++ ws2) (ws1.length + Lw)) →
      ∃ L', FragC a T R (ws1 ++ ws2) L' { left := left', right := right' } (p1 + p2 + adj) := by
    intro left' right' adj tail hptr htail hadj hsf hnm hop hfull hcl
    obtain ⟨L', F'⟩ := assemble H R G1.toFrag G2 (beginNonTerminal { left := left', right := right' } (p1 + p2 + adj)) J.Lw_le hptr J.xl_nil hb
      (fun hf => J.use_only (by rw [show c1.left.full = true from hf]; rfl)) rfl htail
      (by show p1 + p2 + adj = p1 + p2 + _; rw [hadj, J.adjust_nil, Rat.zero_add]) hsf hnm hop hfull hcl
    exact ⟨L', FragC.ofFrag F'⟩
  have hcn : CNL T ws2 [] ws1.reverse L2 Lw → Closed T (ws1 ++ ws2) (ws1.length + Lw) :=
    fun c => Closed.concat (closedP_of_cn H ws2 [] ws1.reverse Lw (Nat.le_trans J.Lw_le G2.L_le) c.toCN)
  by_cases hfull1 : c1.left.full = true
  · -- the first fragment's left state is complete: it is the result's
    have hLw : Lw = 0 := J.use_only (by simp [hfull1])
    subst hLw
    have hno : c1.left.full = false → False := fun hc => by rw [hfull1] at hc; cases hc
    by_cases hf2 : c2.left.full = true
    · simp only [hf2, if_true, hfull1]
      exact key _ _ _ _ (List.append_nil _).symm (tf1 hf2).1 rfl (tf1 hf2).2 G2.right_norm (fun hc => (hno hc).elim)
        (fun hc => hc) (fun _ hc => (hno hc).elim)
    · have hf2' : c2.left.full = false := by simpa using hf2
      obtain ⟨_, _, e3, e4⟩ := tf2 hf2'
      simp only [hf2', Bool.false_eq_true, if_false, hfull1, if_true]
      rw [take_take_of_le J.inv.nu_le]
      exact key _ _ _ 0 (List.append_nil _).symm (G2.tail_open hf2' _) (Rat.add_zero _).symm e3 e4 (fun hc => (hno hc).elim)
        (fun hc => hc) (fun _ hc => (hno hc).elim)
  · -- the first fragment is open: the rewritten pointers are appended to its left state
    have hfull1' : c1.left.full = false := by simpa using hfull1
    obtain ⟨hL1, hrl⟩ := G1.open_ hfull1'
    have hw : (!c1.left.full) = true := by simp [hfull1']
    have hno : c1.left.full = true → False := fun hc => hfull1 hc
    by_cases hf2 : c2.left.full = true
    · simp only [hf2, if_true, hfull1', Bool.false_eq_true, if_false, Bool.or_true, Bool.true_or]
      refine key _ _ _ _ (by rw [hwr]) (tf1 hf2).1 rfl (tf1 hf2).2 G2.right_norm (fun hc => by cases hc) (fun _ => rfl) (fun _ _ => ?_)
      -- either the write loop closed it, or the second fragment's closure carries over
      rcases J.write_cases hw with ⟨_, hLw, _⟩ | ⟨_, hstop⟩
      · rw [hLw]
        refine G2.closed_concat H hf2 ws1 ?_
        by_cases hpos : 0 < Lw
        · rw [← hLw]; exact hb hpos
        · have := G1.L_lt; omega
      · exact hcn hstop
    · have hf2' : c2.left.full = false := by simpa using hf2
      obtain ⟨e1, e2, e3, e4⟩ := tf2 hf2'
      simp only [hf2', Bool.false_eq_true, if_false, hfull1', Bool.or_false]
      rw [take_take_of_le J.inv.nu_le]
      refine key _ _ _ 0 (by rw [hwr]) (G2.tail_open hf2' _) (Rat.add_zero _).symm e3 e4 (fun hc => ?_) (fun hc => (hno hc).elim) (fun hc _ => ?_)
      · simp only [Bool.or_eq_false_iff] at hc
        obtain ⟨⟨hc1, _⟩, _⟩ := hc
        obtain ⟨hLw, hnu⟩ := J.through hw hc1
        exact ⟨hfull1', by rw [hLw, e1], by show c2.right.length + v.nextUse = _; rw [e2, hnu, hrl]⟩
      · rcases J.write_cases hw with ⟨hsame, hLw, hnu⟩ | ⟨_, hstop⟩
        · -- open through, but full because of its length: reason (c)
          right; right
          have hlen : (ws1 ++ ws2).length = ws1.length + Lw := by rw [List.length_append, hLw, e1]
          refine ⟨hlen.symm, ?_⟩
          rw [hsame, hwr, G1.ptrs] at hc
          simp only [Bool.false_or, Bool.or_eq_true, beq_iff_eq, List.length_append, List.length_map, List.length_range] at hc
          rcases hc with hc | hc
          · have : c2.right.length + v.nextUse = T.order - 1 := hc
            rw [hnu, e2, hrl] at this
            omega
          · omega
        · exact hcn hstop

end KV.Left
