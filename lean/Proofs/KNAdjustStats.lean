import Proofs.KNAdjust
import Model.KNTable
/-!
The statistics `AdjustCounts` collects, and with them everything it hands on (core Lean only).

* For every lower order the log of `stats.Add(order_minus_1, count, pruned)` calls is, call by
  call, the list of records written to that order's stream — provided the final flush passes the
  *adjusted* count (`cfg.flushAdjusted`); no sortedness is needed (`StatsInv`, `stats_eq_stream`).
* For the highest order the `AddFull` calls are the rows that survive `CollapseStream` (`TopLog`,
  carried along the invariant `Adjust.Inv` by `inv_fold_all`), and those rows are the records of the
  specification (`collapse_eq_ents`).
* Hence `adjust` hands on `specRecords` and their `Spec.stats` (`adjust_streams`, `adjust_stats`;
  `adjust1` for the order-1 branch).
-/
namespace KV.KN

open KV.KN.Adjust

def AddCall.pair (a : AddCall) : Nat × Bool := (a.count, a.pruned)

def Emit.pair (e : Emit) : Nat × Bool := (e.count, e.marked)

theorem filter_pairs_regs (cfg : Cfg) (i : Nat) (d : List Reg) (h : ∀ r ∈ d, 1 ≤ r.gram.length) :
    ((d.map (Reg.addCall cfg)).filter (fun a => a.idx == i)).map AddCall.pair =
    ((d.map (Reg.emit cfg)).filter (fun e => e.gram.length == i + 1)).map Emit.pair := by
  have hsel : d.filter ((fun a => a.idx == i) ∘ Reg.addCall cfg) =
      d.filter ((fun e => e.gram.length == i + 1) ∘ Reg.emit cfg) :=
    List.filter_congr fun r hr => by
      have := h r hr
      show (r.gram.length - 1 == i) = (r.gram.length == i + 1)
      rw [Bool.eq_iff_iff, beq_iff_eq, beq_iff_eq]
      omega
  rw [List.filter_map, List.filter_map, List.map_map, List.map_map, hsel]
  rfl

theorem newRegs_len (g : Gram) (c : Nat) (hg : 1 ≤ g.length) (s : Nat) :
    ∀ r ∈ (newRegs g c (s + 1) (g.drop s)).1, 1 ≤ r.gram.length := by
  rw [newRegs_eq g c _ s rfl]
  intro r hr
  obtain ⟨i, _, rfl⟩ := List.mem_map.mp hr
  show 1 ≤ (g.take (s + (i + 1))).length
  rw [List.length_take]
  exact Nat.le_min.mpr ⟨Nat.le_add_left 1 (s + i), hg⟩

theorem bump_grams (c : Nat) (l : List Reg) : (bump c l).map (·.gram) = l.map (·.gram) := by
  induction l with
  | nil => rfl
  | cons r t ih =>
    cases t with
    | nil => rfl
    | cons r2 t2 => simp only [bump, List.map_cons] at ih ⊢; rw [ih]

theorem bump_len (c : Nat) (l : List Reg) (h : ∀ r ∈ l, 1 ≤ r.gram.length) :
    ∀ r ∈ bump c l, 1 ≤ r.gram.length := by
  intro r hr
  have : r.gram ∈ (bump c l).map (·.gram) := List.mem_map_of_mem hr
  rw [bump_grams] at this
  obtain ⟨r', hr', e⟩ := List.mem_map.mp this
  rw [← e]; exact h r' hr'

/-- `log`: for every lower order the `Add` calls and the records written, both newest first, agree
call by call in what `OrderStat.add` reads (`AddCall.pair`, `Emit.pair`). -/
structure StatsInv (N : Nat) (s : AState) : Prop where
  regs_len : ∀ r ∈ s.regs, 1 ≤ r.gram.length
  log : ∀ i, i + 1 < N →
    (s.adds.filter (fun a => a.idx == i)).map AddCall.pair =
    (s.out.filter (fun e => e.gram.length == i + 1)).map Emit.pair

theorem statsInv_init (N : Nat) : StatsInv N adjustInit := by
  constructor
  · intro r hr; simp [adjustInit] at hr; subst hr; simp
  · intro i _
    by_cases h0 : i = 0
    · subst h0; rfl
    · have h1 : ((0 : Nat) == i) = false := beq_false_of_ne (Ne.symm h0)
      have h2 : ((1 : Nat) == i + 1) = false := beq_false_of_ne (by omega)
      simp [adjustInit, h1, h2]

theorem statsInv_step (cfg : Cfg) (N : Nat) (s : AState) (e : Gram × Nat)
    (he : e.1.length = N) (hN : 1 ≤ N) (inv : StatsInv N s) : StatsInv N (adjustStep cfg s e) := by
  obtain ⟨g, c⟩ := e
  simp only at he
  constructor
  · intro r hr
    rw [adjustStep_regs, List.mem_append] at hr
    rcases hr with hr | hr
    · exact bump_len c _ (fun x hx => inv.regs_len x (List.mem_of_mem_take hx)) r hr
    · exact newRegs_len g c (by rw [he]; exact hN) _ r hr
  · intro i hi
    have key := filter_pairs_regs cfg i (s.regs.drop (sameOf s.regs g)) fun r hr =>
      inv.regs_len r (List.mem_of_mem_drop hr)
    -- the `AddFull` call of the highest order is not in the log of a lower order
    have htop : ∀ (b : Bool) (x : AddCall), x.idx = g.length - 1 →
        (if b = true then [x] else []).filter (fun a => a.idx == i) = [] := by
      intro b x hx
      cases b
      · rfl
      · have : (x.idx == i) = false := by rw [hx]; exact beq_false_of_ne (by omega)
        simp [this]
    rw [adjustStep_adds, adjustStep_out]
    simp only [List.filter_append, List.map_append]
    rw [inv.log i hi, key, htop _ _ rfl]
    rfl

theorem statsInv_fold (cfg : Cfg) (N : Nat) (hN : 1 ≤ N) (full : List (Gram × Nat))
    (hfull : ∀ e ∈ full, e.1.length = N) (s : AState) (inv : StatsInv N s) :
    StatsInv N (full.foldl (adjustStep cfg) s) := by
  induction full generalizing s with
  | nil => exact inv
  | cons e t ih =>
    simp only [List.foldl_cons]
    exact ih (fun x hx => hfull x (List.mem_cons_of_mem _ hx)) _
      (statsInv_step cfg N s e (hfull e List.mem_cons_self) hN inv)

theorem statsInv_flush (cfg : Cfg) (N : Nat) (s : AState) (hfix : cfg.flushAdjusted = true)
    (inv : StatsInv N s) : StatsInv N (adjustFlush cfg s) := by
  constructor
  · intro r hr; rw [adjustFlush_regs] at hr; cases hr
  · intro i hi
    obtain ⟨f, _, hf, hadds⟩ := adjustFlush_adds cfg s
    rw [hadds, hf hfix, adjustFlush_out]
    simp only [List.filter_append, List.map_append, List.filter_reverse, List.map_reverse]
    rw [inv.log i hi, filter_pairs_regs cfg i s.regs inv.regs_len]

theorem foldl_add_pairs (l : List AddCall) (s : OrderStat) :
    l.foldl (fun s a => s.add a.count a.pruned) s = (l.map AddCall.pair).foldl (fun s p => s.add p.1 p.2) s := by
  rw [List.foldl_map]; rfl

theorem foldl_emit_pairs (l : List Emit) (s : OrderStat) :
    l.foldl (fun s e => s.add e.count e.marked) s = (l.map Emit.pair).foldl (fun s p => s.add p.1 p.2) s := by
  rw [List.foldl_map]; rfl

/-- the statistics of an order are the counts-of-counts of a list of records as soon as the log of
that order (newest first) is, call by call, that list -/
theorem statsOf_of_pairs {adds : List AddCall} {i : Nat} {es : List Emit}
    (h : (adds.filter fun a => a.idx == i).map AddCall.pair = (es.map Emit.pair).reverse) :
    statsOf adds.reverse i = countsOfCounts es := by
  unfold statsOf countsOfCounts
  rw [foldl_add_pairs, foldl_emit_pairs, List.filter_reverse, List.map_reverse, h, List.reverse_reverse]

theorem stats_eq_stream (cfg : Cfg) (N : Nat) (hN : 1 ≤ N) (full : List (Gram × Nat))
    (hfull : ∀ e ∈ full, e.1.length = N) (hfix : cfg.flushAdjusted = true) (i : Nat) (hi : i + 1 < N) :
    statsOf (adjustStream cfg full).adds.reverse i = countsOfCounts ((adjustStream cfg full).stream (i + 1)) := by
  have inv := statsInv_flush cfg N _ hfix (statsInv_fold cfg N hN full hfull _ (statsInv_init N))
  refine statsOf_of_pairs ?_
  rw [AState.stream, List.filter_reverse, List.map_reverse, List.reverse_reverse]
  exact inv.log i hi

theorem OrderStat.add_eq (s : OrderStat) (c : Nat) (p : Bool) :
    s.add c p =
      { n0 := s.n0 + (if c == 0 then 1 else 0), n1 := s.n1 + (if c == 1 then 1 else 0),
        n2 := s.n2 + (if c == 2 then 1 else 0), n3 := s.n3 + (if c == 3 then 1 else 0),
        n4 := s.n4 + (if c == 4 then 1 else 0), count := s.count + 1,
        countPruned := s.countPruned + (if !p then 1 else 0) } := by
  match c with
  | 0 | 1 | 2 | 3 | 4 => cases p <;> rfl
  | n + 5 => cases p <;> rfl

theorem foldl_add_countP (es : List Emit) (s : OrderStat) :
    es.foldl (fun s e => s.add e.count e.marked) s =
      { n0 := s.n0 + es.countP (·.count == 0), n1 := s.n1 + es.countP (·.count == 1),
        n2 := s.n2 + es.countP (·.count == 2), n3 := s.n3 + es.countP (·.count == 3),
        n4 := s.n4 + es.countP (·.count == 4), count := s.count + es.length,
        countPruned := s.countPruned + es.countP (!·.marked) } := by
  induction es generalizing s with
  | nil => rfl
  | cons e t ih =>
    rw [List.foldl_cons, ih, OrderStat.add_eq]
    simp only [List.countP_cons, List.length_cons, Nat.add_assoc, Nat.add_comm (List.countP _ t),
      Nat.add_comm 1 t.length]

theorem countsOfCounts_eq_stats (es : List Emit) : countsOfCounts es = Spec.stats es := by
  unfold countsOfCounts Spec.stats
  rw [foldl_add_countP]
  simp

end KV.KN

namespace KV.KN.Adjust

open KV.KN KV.KN.Spec KV.KN.Norm

theorem stats_eq (cfg : Cfg) (full : List (Gram × Nat)) (h2 : 2 ≤ cfg.order)
    (hw : FullWF cfg.order full) (hk : cfg.keepSpecials = true) (hfix : cfg.flushAdjusted = true)
    (i : Nat) (hi : i + 1 < cfg.order) :
    statsOf (adjustStream cfg full).adds.reverse i = countsOfCounts (ents cfg full (i + 1)) := by
  rw [stats_eq_stream cfg cfg.order (Nat.le_of_succ_le h2) full hw.len hfix i hi,
    adjust_stream_eq cfg full h2 hw hk (i + 1) (Nat.le_add_left 1 i) hi]

theorem fullWF_nodup {N : Nat} {full : Table} (hF : FullWF N full) : (full.map (·.1)).Nodup :=
  Interp.nodup_of_sorted_key Prod.fst hF.sorted

theorem keepTop_iff {N : Nat} {g : Gram} (hg : RowOK N g) (h2 : 2 ≤ N) :
    keepTop g = true ↔ N - 1 ≤ firstBos g := by
  obtain ⟨M, rfl⟩ : ∃ M, N = M + 2 := ⟨N - 2, by omega⟩
  have hlen := hg.len
  have hM : M < g.length := by omega
  have hget : g.getD (g.length - 2) unk = g[M] := by
    rw [hlen, List.getD_eq_getElem?_getD, Nat.add_sub_cancel, List.getElem?_eq_getElem hM]; rfl
  unfold keepTop
  rw [hget, hlen, decide_eq_true h2, Bool.true_and, le_firstBos, hlen]
  simp only [Bool.not_eq_eq_eq_not, Bool.not_true, beq_eq_false_iff_ne, ne_eq]
  show g[M] ≠ bos ↔ M + 1 ≤ M + 2 ∧ bos ∉ g.take (M + 1)
  constructor
  · intro h
    refine ⟨Nat.le_succ _, fun hmem => ?_⟩
    obtain ⟨i, hi, hib⟩ := List.mem_take_iff_getElem.mp hmem
    have hiM : i ≤ M := Nat.le_of_lt_succ (Nat.lt_of_lt_of_le hi (Nat.min_le_left _ _))
    have h1 : g[i]? = some bos := by rw [List.getElem?_eq_getElem (Nat.lt_of_le_of_lt hiM hM), hib]
    have := hg.run i M hiM (Nat.lt_succ_of_lt (Nat.lt_succ_self M)) h1
    rw [List.getElem?_eq_getElem hM] at this
    exact h (Option.some.inj this)
  · rintro ⟨_, hno⟩ hb
    exact hno (List.mem_take_iff_getElem.mpr ⟨M, Nat.lt_min.mpr ⟨Nat.lt_succ_self M, hM⟩, hb⟩)

theorem collapse_snoc (cfg : Cfg) (P : Table) (g : Gram) (c : Nat) :
    collapse cfg (P ++ [(g, c)]) =
      collapse cfg P ++ (if keepTop g then [⟨g, c, markOf cfg c g⟩] else []) := by
  show ((P ++ [(g, c)]).filter fun e => keepTop e.1).map _ = _
  rw [List.filter_append, List.map_append]
  congr 1
  cases h : keepTop g
  · rw [List.filter_cons_of_neg (by rw [h]; decide)]; rfl
  · rw [List.filter_cons_of_pos (by exact h)]; rfl

/-- the `AddFull` part of the log is the surviving rows so far -/
def TopLog (cfg : Cfg) (P : Table) (s : AState) : Prop :=
  (s.adds.filter fun a => a.idx == cfg.order - 1).map AddCall.pair
    = ((collapse cfg P).map Emit.pair).reverse

section
variable (cfg : Cfg) (h2 : 2 ≤ cfg.order)
include h2

theorem filter_regCalls_nil (f : Reg → AddCall) (hf : ∀ r, (f r).idx = r.gram.length - 1)
    (d : List Reg) (hd : ∀ r ∈ d, r.gram.length ≤ cfg.order - 1) :
    (d.map f).filter (fun a => a.idx == cfg.order - 1) = [] := by
  rw [List.filter_eq_nil_iff]
  intro a ha
  obtain ⟨r, hr, rfl⟩ := List.mem_map.mp ha
  have := hd r hr
  rw [hf, beq_iff_eq]
  omega

theorem topLog_step (P : Table) (s : AState) (g : Gram) (c : Nat)
    (hg : RowOK cfg.order g) (hregs : ∀ r ∈ s.regs, r.gram.length ≤ cfg.order - 1)
    (hs1 : sameOf s.regs g ≤ firstBos g) (hs2 : sameOf s.regs g ≤ cfg.order - 1)
    (hlog : TopLog cfg P s) : TopLog cfg (P ++ [(g, c)]) (adjustStep cfg s (g, c)) := by
  unfold TopLog at *
  have hsnd : (newRegs g c (sameOf s.regs g + 1) (g.drop (sameOf s.regs g))).2 = keepTop g := by
    rw [newRegs_eq g c _ _ rfl, firstBos_drop g _ hs1, List.length_drop, hg.len]
    rw [Bool.eq_iff_iff, keepTop_iff hg h2]
    simp only [decide_eq_true_eq]
    omega
  have hdrop := filter_regCalls_nil cfg h2 (Reg.addCall cfg) (fun _ => rfl)
    (s.regs.drop (sameOf s.regs g)) fun r hr => hregs r (List.mem_of_mem_drop hr)
  rw [adjustStep_adds]
  simp only [List.filter_append, List.map_append, hdrop, List.nil_append,
    hlog, hsnd, collapse_snoc, List.reverse_append]
  congr 1
  cases hk : keepTop g
  · rfl
  · rw [if_pos rfl, if_pos rfl, List.filter_cons_of_pos (by simp [hg.len])]; rfl

theorem topLog_flush (P : Table) (s : AState)
    (hregs : ∀ r ∈ s.regs, r.gram.length ≤ cfg.order - 1) (hlog : TopLog cfg P s) :
    TopLog cfg P (adjustFlush cfg s) := by
  unfold TopLog at *
  obtain ⟨f, hf, _, hadds⟩ := adjustFlush_adds cfg s
  rw [hadds, List.filter_append, List.filter_reverse, filter_regCalls_nil cfg h2 f hf _ hregs]
  exact hlog

/-- the step along the invariant of `AdjustCounts` (`Adjust.Inv`): the registers are the
specification's, which bounds their length and the number of words shared with the next row -/
theorem topLog_step_inv (P : Table) (l g : Gram) (c : Nat)
    (s : AState) (X : Adjust.Ctx cfg.order P l g) (inv : Inv cfg P l s) (hlog : TopLog cfg P s) :
    TopLog cfg (P ++ [(g, c)]) (adjustStep cfg s (g, c)) := by
  have hs : ∀ n, n ≤ sameOf s.regs g ↔ n ≤ regLen cfg.order l ∧ g.take n = l.take n := by
    intro n; rw [inv.regs]; exact le_sameOf_specRegs h2 P X.lrow.len X.grow.len n
  exact topLog_step cfg h2 P s g c X.grow (by rw [inv.regs]; exact specRegs_len_le _ _ _)
    (same_le_firstBos X _ hs) (Nat.le_trans ((hs _).mp (Nat.le_refl _)).1 (regLen_le _ _)) hlog

theorem topLog_init : TopLog cfg [] adjustInit := by
  have : ((0 : Nat) == cfg.order - 1) = false := beq_false_of_ne (by omega)
  unfold TopLog adjustInit
  rw [List.filter_cons_of_neg (by rw [this]; decide)]
  rfl

end

section
variable (cfg : Cfg) (full : Table) (h2 : 2 ≤ cfg.order) (hF : FullWF cfg.order full)
  (hk : cfg.keepSpecials = true)
include h2 hF hk

theorem collapse_eq_ents :
    collapse cfg full = ents cfg full cfg.order := by
  rw [Norm.ents_eq, ksOf_top h2 hF.len, List.filter_map, List.map_map]
  show (full.filter fun e => keepTop e.1).map _ = _
  apply List.map_congr_left
  intro e he
  have he' := (List.mem_filter.mp he).1
  have hl := hF.len e he'
  have hadj : adjCount cfg.order full e.1 = e.2 := by
    unfold adjCount; rw [if_pos (Or.inl hl)]; exact trueCount_row (fullWF_nodup hF) hF.len he'
  show _ = recOf cfg full e.1
  rw [recOf_hi cfg full (by omega), hadj, ← markOf_eq_pruned cfg hk full e.1,
    trueCount_row (fullWF_nodup hF) hF.len he']

theorem topLog_all : TopLog cfg full (adjustStream cfg full) := by
  obtain ⟨hlog, hlen, _⟩ := inv_fold_all cfg h2 hk (TopLog cfg)
    (fun P l g c s => topLog_step_inv cfg h2 P l g c s) hF (topLog_init cfg h2) fun g c hg => by
      have hsame := sameOf_init hg
      simpa using topLog_step cfg h2 [] adjustInit g c hg (adjustInit_regs_len cfg h2)
        (by rw [hsame]; omega) (by rw [hsame]; omega) (topLog_init cfg h2)
  exact topLog_flush cfg h2 _ _ hlen hlog

theorem stats_top :
    statsOf (adjustStream cfg full).adds.reverse (cfg.order - 1) = countsOfCounts (collapse cfg full) :=
  statsOf_of_pairs (topLog_all cfg full h2 hF hk)

theorem adjust_streams : (adjust cfg full).streams = specRecords cfg full := by
  have h1 : ¬ cfg.order ≤ 1 := by omega
  unfold adjust specRecords
  simp only [if_neg h1]
  obtain ⟨M, hM⟩ : ∃ M, cfg.order = M + 1 := ⟨cfg.order - 1, by omega⟩
  rw [hM, Nat.add_sub_cancel, List.range_succ, List.map_append, List.map_cons, List.map_nil]
  congr 1
  · apply List.map_congr_left
    intro i hi
    have := List.mem_range.mp hi
    exact adjust_stream_eq cfg full h2 hF hk (i + 1) (by omega) (by omega)
  · rw [collapse_eq_ents cfg full h2 hF hk, hM]

theorem adjust_stats (hfix : cfg.flushAdjusted = true) :
    (adjust cfg full).stats = (specRecords cfg full).map Spec.stats := by
  have h1 : ¬ cfg.order ≤ 1 := by omega
  unfold adjust specRecords
  simp only [if_neg h1, List.map_map]
  apply List.map_congr_left
  intro i hi
  have hi' := List.mem_range.mp hi
  simp only [Function.comp]
  rw [← countsOfCounts_eq_stats]
  by_cases hlt : i + 1 < cfg.order
  · exact stats_eq cfg full h2 hF hk hfix i hlt
  · have : i = cfg.order - 1 := by omega
    rw [this, stats_top cfg full h2 hF hk, collapse_eq_ents cfg full h2 hF hk]
    congr 2; omega

end

section
variable {cfg : Cfg} {full : Table}

/-- the special test of the order-1 branch is that of the specification -/
theorem le_two_iff_special :
    ∀ w : Word, decide (w ≤ 2) = ([w] == [unk] || [w] == [bos] || [w] == [eos])
  | 0 | 1 | 2 => rfl
  | _ + 3 => rfl

theorem adjustUnigramOnly_eq (hw : TableWF1 cfg full) :
    adjustUnigramOnly cfg (([unk], 0) :: ([bos], 0) :: full) = ents1 cfg full := by
  refine List.map_congr_left fun e he => ?_
  have hlen : e.1.length = 1 := by
    rcases List.mem_cons.mp he with rfl | he
    · rfl
    · rcases List.mem_cons.mp he with rfl | he
      · rfl
      · exact hw.len e he
  obtain ⟨w, hw'⟩ := List.length_eq_one_iff.mp hlen
  obtain ⟨g, c⟩ := e
  cases hw'
  simp only [le_two_iff_special]

theorem adjust1 (hw : TableWF1 cfg full) :
    (adjust cfg (([unk], 0) :: ([bos], 0) :: full)).streams = specRecords cfg full ∧
    (adjust cfg (([unk], 0) :: ([bos], 0) :: full)).stats = (specRecords cfg full).map Spec.stats := by
  have h1 : cfg.order ≤ 1 := Nat.le_of_eq hw.order1
  unfold adjust specRecords
  simp only [if_pos h1, adjustUnigramOnly_eq hw, countsOfCounts_eq_stats, List.map_cons, List.map_nil,
    and_self]

end

end KV.KN.Adjust
