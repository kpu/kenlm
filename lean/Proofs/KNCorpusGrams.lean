import Proofs.KNCorpus
/-!
The specification in textbook form, on the corpus (property C05).  The n-grams of order `n` of
the model are exactly the length-`n` windows of the sentences delimited by one `<s>` and one
`</s>`, without the bare `<s>` (which, like `<unk>`, is added explicitly at order 1): `keys_corpus`,
`ngram_set_ents`.  True counts are occurrence counts in those sentences (`trueCount_padded1`), and
`N₁₊(•g)` is the number of distinct (n+1)-grams that extend `g` on the left (`leftExts_corpus`;
`adjCount_textbook` in `Properties/C05.lean` combines the two).
-/
namespace KV.KN.Norm

open KV.KN KV.KN.Spec

/-- a sentence delimited by one `<s>` and one `</s>` -/
def padded1 (s : List Word) : List Word := bos :: s ++ [eos]

theorem padded1_length (s : List Word) : (padded1 s).length = s.length + 2 := by
  simp [padded1]

theorem padded1_eq (s : List Word) : padded1 s = paddedN 2 s := rfl

theorem paddedN_eq (N : Nat) (h2 : 2 ≤ N) (s : List Word) :
    paddedN N s = List.replicate (N - 2) bos ++ padded1 s := by
  obtain ⟨M, rfl⟩ : ∃ M, N = M + 2 := ⟨N - 2, by omega⟩
  unfold paddedN padded1
  rw [show M + 2 - 1 = M + 1 by omega, show M + 2 - 2 = M by omega, List.replicate_succ']
  simp

theorem first_window_ne {n : Nat} (h2 : 2 ≤ n) {g : Gram} (hv : bos ∉ g.take (n - 1))
    (L : List Word) (hlen : n ≤ (bos :: bos :: L).length) :
    ((bos :: bos :: L).take n).reverse ≠ g := by
  intro h
  apply hv
  apply List.mem_of_getElem? (i := n - 2)
  have := win_get (N := n) (P := bos :: bos :: L) (i := 0) (j := n - 2)
    (by rw [Nat.zero_add]; exact hlen) (by omega)
  rw [List.drop_zero, h, show 0 + (n - 1 - (n - 2)) = 1 by omega] at this
  rw [List.getElem?_take, if_pos (by omega), this]
  rfl

theorem count_windows_bos {n : Nat} (h2 : 2 ≤ n) {g : Gram} (hv : bos ∉ g.take (n - 1))
    (L : List Word) (hL : L.head? = some bos) :
    (windows n (bos :: L)).count g = (windows n L).count g := by
  cases L with
  | nil => simp at hL
  | cons b L' =>
    have hb : b = bos := by simpa using hL
    subst hb
    rw [windows_cons n bos (bos :: L')]
    split
    · rename_i hlen
      rw [List.count_cons, beq_false_of_ne (first_window_ne h2 hv L' hlen), if_neg Bool.false_ne_true,
        Nat.add_zero]
    · rename_i hlen
      rw [windows_cons, if_neg fun h => hlen (Nat.le_succ_of_le h)]

theorem count_windows_rep {n : Nat} (h2 : 2 ≤ n) {g : Gram} (hv : bos ∉ g.take (n - 1))
    (s : List Word) (k : Nat) :
    (windows n (List.replicate k bos ++ padded1 s)).count g = (windows n (padded1 s)).count g := by
  induction k with
  | zero => rfl
  | succ k ih =>
    rw [List.replicate_succ, List.cons_append, count_windows_bos h2 hv _ ?_, ih]
    cases k with
    | zero => rfl
    | succ k => rfl

theorem count_padded {n : Nat} (h1 : 1 ≤ n) (s : List Word) {g : Gram} (hv : bos ∉ g.take (n - 1))
    (hb : g ≠ [bos]) : (windows n (paddedN n s)).count g = (windows n (padded1 s)).count g := by
  by_cases hn1 : n = 1
  · subst hn1
    have hp : padded1 s = bos :: paddedN 1 s := by simp [padded1, paddedN]
    rw [hp, windows_cons, if_pos (by simp), List.count_cons]
    show _ = _ + if ([bos] == g) = true then 1 else 0
    rw [beq_false_of_ne (fun h => hb h.symm), if_neg Bool.false_ne_true, Nat.add_zero]
  · have h2 : 2 ≤ n := Nat.lt_of_le_of_ne h1 (Ne.symm hn1)
    rw [paddedN_eq n h2]
    exact count_windows_rep h2 hv s _

theorem valid_of_window1 {s : List Word} (hs : ∀ w ∈ s, 3 ≤ w) {n : Nat} {g : Gram}
    (hg : g ∈ windows n (padded1 s)) : bos ∉ g.take (n - 1) := by
  obtain ⟨j, hj, rfl⟩ := mem_windows hg
  intro hmem
  obtain ⟨a, ha⟩ := List.mem_iff_getElem?.mp hmem
  rw [List.getElem?_take] at ha
  split at ha
  · rename_i han
    rw [win_get hj (Nat.lt_of_lt_of_le han (Nat.sub_le n 1)), padded1_eq] at ha
    exact (not_special_of_mem hs (pad_get_hi (by omega) ha)).1 rfl
  · cases ha

theorem mem_keys_countFull {N : Nat} (corpus : List (List Word)) {n : Nat} (h1 : 1 ≤ n) (hn : n ≤ N)
    {g : Gram} :
    g ∈ Spec.keys n (countFull N corpus) ↔ validAt n g = true ∧ g ∈ occurrences n corpus := by
  have hval : ∀ r : Gram, validAt n (r.take n) = validAt n r := fun r =>
    validAt_of_take (by rw [List.take_take, Nat.min_self])
  rw [mem_keys, ← occurrences_take h1 hn, List.mem_map]
  constructor
  · rintro ⟨e, he, hv, rfl⟩
    exact ⟨(hval _).trans hv, e.1,
      (mem_countFull_keys N corpus e.1).mp (List.mem_map.mpr ⟨e, he, rfl⟩), rfl⟩
  · rintro ⟨hv, r, hr, rfl⟩
    obtain ⟨e, he, rfl⟩ := List.mem_map.mp ((mem_countFull_keys N corpus r).mpr hr)
    exact ⟨e, he, (hval _).symm.trans hv, rfl⟩

/-- The n-gram set (first clause of C05): for `1 ≤ n ≤ N`, the n-grams of order `n` that
the estimation sees are exactly the length-`n` windows of the `<s>`/`</s>`-delimited sentences,
except the bare `<s>`. -/
theorem keys_corpus (N : Nat) (corpus : List (List Word))
    (hw : ∀ s ∈ corpus, ∀ w ∈ s, 3 ≤ w) (n : Nat) (h1 : 1 ≤ n) (hn : n ≤ N) (g : Gram) :
    g ∈ Spec.keys n (countFull N corpus) ↔
      (∃ s ∈ corpus, g ∈ windows n (padded1 s)) ∧ g ≠ [bos] := by
  rw [mem_keys_countFull corpus h1 hn]
  unfold occurrences
  rw [List.mem_flatMap]
  constructor
  · rintro ⟨hv, s, hs, hg⟩
    -- the newest word of a window of the padded sentence is never `<s>`
    have hb : g ≠ [bos] := by
      obtain ⟨i, hi, rfl⟩ := mem_windows hg
      intro h
      exact (win_head (hw s hs) hi h1).1 (by rw [h]; rfl)
    refine ⟨⟨s, hs, List.count_pos_iff.mp ?_⟩, hb⟩
    rw [← count_padded h1 s (validAt_iff.mp hv) hb]
    exact List.count_pos_iff.mpr hg
  · rintro ⟨⟨s, hs, hg⟩, hb⟩
    have hv := valid_of_window1 (hw s hs) hg
    refine ⟨validAt_iff.mpr hv, s, hs, List.count_pos_iff.mp ?_⟩
    rw [count_padded h1 s hv hb]
    exact List.count_pos_iff.mpr hg

/-- `keys_corpus` under the hypothesis `2 ≤ N` of the C05 clause, which it does not use -/
theorem ngram_set (N : Nat) (corpus : List (List Word)) (h2 : 2 ≤ N)
    (hw : ∀ s ∈ corpus, ∀ w ∈ s, 3 ≤ w) (n : Nat) (h1 : 1 ≤ n) (hn : n ≤ N) (g : Gram) :
    g ∈ Spec.keys n (countFull N corpus) ↔
      (∃ s ∈ corpus, g ∈ windows n (padded1 s)) ∧ g ≠ [bos] :=
  keys_corpus N corpus hw n h1 hn g

/-- at the highest order the records are the rows whose natural position 1 is not `<s>`; for the
table of a corpus these are exactly the keys of order `N` -/
theorem top_keys (cfg : Cfg) (corpus : List (List Word)) (h2 : 2 ≤ cfg.order)
    (hw : ∀ s ∈ corpus, ∀ w ∈ s, 3 ≤ w) (g : Gram) :
    g ∈ ksOf cfg (countFull cfg.order corpus) cfg.order ↔
      g ∈ Spec.keys cfg.order (countFull cfg.order corpus) := by
  have hF := fullWF_countFull cfg.order corpus h2 hw
  rw [mem_ksOf_top h2 hF.len, mem_keys]
  constructor
  · rintro ⟨e, he, rfl, hc⟩
    exact ⟨e, he, topValid_of_bosRun (hF.len e he) h2 (hF.bosRun e he) hc,
      List.take_of_length_le (Nat.le_of_eq (hF.len e he))⟩
  · rintro ⟨e, he, hv, rfl⟩
    have hlen := hF.len e he
    rw [List.take_of_length_le (Nat.le_of_eq hlen)]
    refine ⟨e, he, rfl, fun hb => validAt_iff.mp hv ?_⟩
    -- natural position 1 is among the `N - 1` newest words
    apply List.mem_of_getElem? (i := cfg.order - 2)
    rw [List.getElem?_take, if_pos (by omega), ← hb, List.getD_eq_getElem?_getD,
      List.getElem?_eq_getElem (by omega)]
    rfl

/-- The n-gram set of the records (`Spec.ents`, all orders `1 ≤ n ≤ N`): the windows of the
`<s>`/`</s>`-delimited sentences other than the bare `<s>`, plus `<unk>` and `<s>` at order 1. -/
theorem ngram_set_ents (cfg : Cfg) (corpus : List (List Word))
    (hw : ∀ s ∈ corpus, ∀ w ∈ s, 3 ≤ w) (n : Nat) (h1 : 1 ≤ n) (hn : n ≤ cfg.order) (g : Gram) :
    g ∈ (Spec.ents cfg (countFull cfg.order corpus) n).map (·.gram) ↔
      (n = 1 ∧ (g = [unk] ∨ g = [bos])) ∨
      ((∃ s ∈ corpus, g ∈ windows n (padded1 s)) ∧ g ≠ [bos]) := by
  rw [ents_grams, ← keys_corpus cfg.order corpus hw n h1 hn g]
  by_cases hn1 : n = 1
  · subst hn1
    rw [mem_ksOf_one, ← or_assoc, and_iff_right rfl]
  · have h2 : 2 ≤ n := Nat.lt_of_le_of_ne h1 (Ne.symm hn1)
    rw [or_iff_right fun h => hn1 h.1]
    by_cases hnN : n = cfg.order
    · rw [hnN]; exact top_keys cfg corpus (hnN ▸ h2) hw g
    · rw [mem_ksOf_lower (Nat.lt_of_le_of_ne hn hnN), or_iff_right fun h => hn1 h.1]

/-- True counts on the corpus: the true count of an n-gram `g` (`1 ≤ n ≤ N`, no `<s>` except
possibly as its oldest word, not the bare `<s>`) is the number of its occurrences in the
sentences delimited by one `<s>` and one `</s>`. -/
theorem trueCount_padded1 (N : Nat) (corpus : List (List Word)) (g : Gram)
    (h1 : 1 ≤ g.length) (hn : g.length ≤ N) (hv : validAt g.length g = true) (hb : g ≠ [bos]) :
    Spec.trueCount (countFull N corpus) g =
      (corpus.flatMap fun s => windows g.length (padded1 s)).count g := by
  rw [trueCount_occurrences corpus h1 hn]
  unfold occurrences
  rw [List.count_flatMap, List.count_flatMap]
  exact congrArg List.sum
    (List.map_congr_left fun s _ => count_padded h1 s (validAt_iff.mp hv) hb)

/-- `N₁₊(•g)`: for an n-gram without `<s>`, the number of distinct left extensions is the number
of (n+1)-grams of the model that extend `g` on the left (no assumption on the table) -/
theorem leftExts_textbook (full : Table) (g : Gram) (hg : bos ∉ g) :
    Spec.leftExts full g =
      ((Spec.keys (g.length + 1) full).filter fun h => h.take g.length == g).length := by
  unfold Spec.leftExts
  have hk : ((Spec.keys (g.length + 1) full).filter fun h => h.take g.length == g).Nodup :=
    (show (Spec.keys (g.length + 1) full).Nodup from nodup_dedup _).filter _
  apply length_eq_of_nodup_mem (nodup_dedup _) hk
  intro h
  rw [List.mem_eraseDups, List.mem_map, List.mem_filter, mem_keys]
  constructor
  · rintro ⟨e, he, rfl⟩
    obtain ⟨he1, he2⟩ := mem_rowsOf.mp he
    have ht : (e.1.take (g.length + 1)).take g.length = g := by
      rw [List.take_take, Nat.min_eq_left (Nat.le_succ _)]; exact he2
    refine ⟨⟨e, he1, ?_, rfl⟩, by simp [ht]⟩
    rw [validAt_iff, Nat.add_sub_cancel, he2]; exact hg
  · rintro ⟨⟨e, he, _, rfl⟩, ht⟩
    have ht' : (e.1.take (g.length + 1)).take g.length = g := by simpa using ht
    rw [List.take_take, Nat.min_eq_left (Nat.le_succ _)] at ht'
    exact ⟨e, mem_rowsOf.mpr ⟨he, ht'⟩, rfl⟩

theorem bos_not_mem_of_valid {g : Gram} (hv : validAt g.length g = true)
    (hl : g.getLast? ≠ some bos) : bos ∉ g := by
  intro hmem
  obtain ⟨i, hi⟩ := List.mem_iff_getElem?.mp hmem
  have hlt : i < g.length := by
    by_contra h
    rw [List.getElem?_eq_none (Nat.le_of_not_lt h)] at hi; cases hi
  by_cases h1 : i < g.length - 1
  · apply validAt_iff.mp hv
    apply List.mem_of_getElem? (i := i)
    rw [List.getElem?_take, if_pos h1]; exact hi
  · apply hl
    rw [List.getLast?_eq_getElem?, show g.length - 1 = i by omega]; exact hi

theorem leftExts_corpus (N : Nat) (corpus : List (List Word)) (h2 : 2 ≤ N)
    (hw : ∀ s ∈ corpus, ∀ w ∈ s, 3 ≤ w) (g : Gram) (hg : bos ∉ g) (h1 : 1 ≤ g.length)
    (hn : g.length < N) :
    Spec.leftExts (countFull N corpus) g =
      (((corpus.flatMap fun s => windows (g.length + 1) (padded1 s)).eraseDups).filter
        fun h => h.take g.length == g).length := by
  rw [leftExts_textbook _ g hg]
  have hk : ((Spec.keys (g.length + 1) (countFull N corpus)).filter
      fun h => h.take g.length == g).Nodup :=
    (show (Spec.keys (g.length + 1) (countFull N corpus)).Nodup from nodup_dedup _).filter _
  apply length_eq_of_nodup_mem hk ((nodup_dedup _).filter _)
  intro h
  rw [List.mem_filter, List.mem_filter, List.mem_eraseDups, List.mem_flatMap,
    ngram_set N corpus h2 hw (g.length + 1) (Nat.le_add_left 1 _) hn h]
  constructor
  · rintro ⟨⟨hs, _⟩, ht⟩; exact ⟨hs, ht⟩
  · rintro ⟨hs, ht⟩
    refine ⟨⟨hs, ?_⟩, ht⟩
    intro hb
    have : h.take g.length = g := by simpa using ht
    rw [hb, List.take_of_length_le h1] at this
    exact hg (this ▸ List.mem_singleton.mpr rfl)

theorem rev_take_succ_tail (L : List Word) (n : Nat) (h : n + 1 ≤ L.length) :
    ((L.take (n + 1)).reverse).tail = (L.take n).reverse := by
  rw [List.take_succ_eq_append_getElem h, List.reverse_append]; rfl

theorem window_extend {s : List Word} {n : Nat} (h1 : 1 ≤ n) {k : Gram}
    (hk : k ∈ windows n (padded1 s)) (hwb : wantsBackoff k = true) :
    ∃ k' ∈ windows (n + 1) (padded1 s), k'.tail = k := by
  obtain ⟨j, hj, rfl⟩ := mem_windows hk
  -- the newest word of the window is not the final `</s>`
  have hlast : j + n < (padded1 s).length := by
    refine Nat.lt_of_le_of_ne hj fun hjn => ?_
    have hget := win_get (j := 0) hj h1
    rw [show j + (n - 1 - 0) = s.length + 1 by rw [padded1_length] at hjn; omega] at hget
    have hP : (padded1 s)[s.length + 1]? = some eos :=
      (List.getElem?_cons_succ).trans
        ((List.getElem?_append_right (Nat.le_refl _)).trans (by rw [Nat.sub_self]; rfl))
    rw [hP] at hget
    generalize (((padded1 s).drop j).take n).reverse = g at hget hwb
    cases g with
    | nil => cases hget
    | cons a t => cases hget; cases hwb
  refine ⟨_, window_mem (Nat.le_add_left 1 n) j hlast, rev_take_succ_tail _ n ?_⟩
  rw [List.length_drop]
  exact Nat.le_sub_of_add_le (Nat.add_comm j (n + 1) ▸ hlast)

theorem ctx_complete_corpus (cfg : Cfg) (corpus : List (List Word))
    (hne : corpus ≠ []) (hw : ∀ s ∈ corpus, ∀ w ∈ s, 3 ≤ w) :
    CtxComplete cfg (countFull cfg.order corpus) := by
  intro n h1 hn k hk hwb
  have hmem := (ngram_set_ents cfg corpus hw n h1 (Nat.le_of_lt hn) k).mp
    (by rw [ents_grams]; exact hk)
  have hext : ∀ s ∈ corpus, k ∈ windows n (padded1 s) →
      ∃ k' ∈ ksOf cfg (countFull cfg.order corpus) (n + 1), k'.tail = k := by
    intro s hs hkw
    obtain ⟨k', hk', ht⟩ := window_extend h1 hkw hwb
    refine ⟨k', ?_, ht⟩
    rw [← ents_grams]
    refine (ngram_set_ents cfg corpus hw (n + 1) (Nat.le_add_left 1 n) hn k').mpr
      (Or.inr ⟨⟨s, hs, hk'⟩, fun hb => ?_⟩)
    obtain ⟨i, hi, rfl⟩ := mem_windows hk'
    have := congrArg List.length hb
    rw [List.length_reverse, List.length_take, List.length_drop,
      Nat.min_eq_left (Nat.le_sub_of_add_le (Nat.add_comm _ _ ▸ hi))] at this
    exact absurd (Nat.succ.inj this) (Nat.ne_of_gt h1)
  rcases hmem with ⟨hn1, hub⟩ | ⟨⟨s, hs, hkw⟩, _⟩
  · rcases hub with rfl | rfl
    · cases hwb
    · -- `<s>` is the first window of any sentence
      subst hn1
      obtain ⟨s, hs⟩ := List.exists_mem_of_ne_nil corpus hne
      exact hext s hs (window_mem (n := 1) (Nat.le_refl 1) (l := padded1 s) 0 (by rw [padded1_length]; omega))
  · exact hext s hs hkw

example : [4, 3] ∈ Spec.keys 2 (countFull 3 [[3, 4], [3], [4, 3, 5]]) :=
  (ngram_set 3 _ (by decide) (by decide) 2 (by decide) (by decide) _).mpr
    ⟨⟨[3, 4], by decide, by decide⟩, by decide⟩

example : Spec.trueCount (countFull 3 [[3, 4], [3], [4, 3, 5]]) [3, 1] = 2 := by
  rw [trueCount_padded1 3 _ [3, 1] (by decide) (by decide) (by decide) (by decide)]
  decide

end KV.KN.Norm
