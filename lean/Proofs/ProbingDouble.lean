import Proofs.ProbingInv
/-!
`Double`: the three loops (roll the occupied prefix into a buffer, re-insert the old buckets under the
doubled bucket count, put the buffer back) terminate, keep the buckets well-formed and the stored pairs
unchanged, and write nothing beyond bucket `2 N`.
-/
namespace KV.Probing

variable (h : Nat → Nat)

section Loops
variable {h : Nat → Nat} {N' n i : Nat} {s : Slots} {k v : Nat} {rest : List Entry}

theorem reinsert_skip (hsi : s i = none) : reinsert h N' (n + 1) i s = reinsert h N' n (i + 1) s := by
  simp only [reinsert, hsi]

theorem reinsert_move (hsi : s i = some (k, v)) :
    reinsert h N' (n + 1) i s = (firstEmpty (set s i none) N' N' (ideal h N' k)).bind fun q =>
      reinsert h N' n (i + 1) (set (set s i none) q (some (k, v))) := by
  simp only [reinsert, hsi]
  cases firstEmpty (set s i none) N' N' (ideal h N' k) <;> rfl

theorem insertAll_cons :
    insertAll h N' ((k, v) :: rest) s = (firstEmpty s N' N' (ideal h N' k)).bind fun q =>
      insertAll h N' rest (set s q (some (k, v))) := by
  simp only [insertAll]
  cases firstEmpty s N' N' (ideal h N' k) <;> rfl

theorem double_eq (t : Table) :
    double h t = (reinsert h (2 * t.N) t.N 0 (rollPrefix (clearRange t.s t.N (2 * t.N)) t.N 0).1).bind fun s2 =>
      (insertAll h (2 * t.N) (rollPrefix (clearRange t.s t.N (2 * t.N)) t.N 0).2 s2).map fun s3 =>
        { s := s3, N := 2 * t.N, entries := t.entries } := by
  unfold double
  dsimp only
  cases h2 : reinsert h (2 * t.N) t.N 0 (rollPrefix (clearRange t.s t.N (2 * t.N)) t.N 0).1 with
  | none => rfl
  | some s2 => cases h3 : insertAll h (2 * t.N) (rollPrefix (clearRange t.s t.N (2 * t.N)) t.N 0).2 s2 <;> simp [h3]
end Loops

/-- what the first loop, started at bucket `i` and allowed to go up to bucket `e`, has done when it returns `res`
having stopped at bucket `j`: the buckets `[i, j)` were occupied and are now in the buffer, in order.
(The end `j` and the bound `e` stay the same along the recursion, the number of steps does not.) -/
structure Rolled (s : Slots) (i e : Nat) (res : Slots × List Entry) (j : Nat) : Prop where
  ge : i ≤ j
  le : j ≤ e
  length : res.2.length + i = j
  slots : ∀ x, res.1 x = if i ≤ x ∧ x < j then none else s x
  mem : ∀ en, en ∈ res.2 ↔ ∃ x, i ≤ x ∧ x < j ∧ s x = some en
  stop : j < e → s j = none
  occ_eq : ∀ m, e ≤ m → occ res.1 m + res.2.length = occ s m
  distinct : (∀ x y k v w, i ≤ x → x < e → i ≤ y → y < e → s x = some (k, v) → s y = some (k, w) → x = y) →
    res.2.Pairwise (fun a b => a.1 ≠ b.1)

theorem rollPrefix_spec (s : Slots) (e n i : Nat) (hin : i + n = e) : ∃ j, Rolled s i e (rollPrefix s n i) j := by
  -- the loop stops at once (`j = i`) on an empty bucket or when no step is left
  have stop : ∀ (s : Slots) (i : Nat), i ≤ e → (i < e → s i = none) → Rolled s i e (s, []) i := fun s i hie hs =>
    ⟨Nat.le_refl i, hie, Nat.zero_add i, fun x => (if_neg fun c => Nat.lt_irrefl x (Nat.lt_of_lt_of_le c.2 c.1)).symm,
      fun en => ⟨(fun hm => nomatch hm), fun ⟨x, h1, h2, _⟩ => absurd (Nat.lt_of_lt_of_le h2 h1) (Nat.lt_irrefl x)⟩,
      hs, fun _ _ => rfl, fun _ => List.Pairwise.nil⟩
  fun_induction rollPrefix s n i with
  | case1 s i => exact ⟨i, stop s i (Nat.le_of_eq hin) fun hlt => absurd hin (Nat.ne_of_lt hlt)⟩
  | case2 s n i hsi => exact ⟨i, stop s i (hin ▸ Nat.le_add_right ..) fun _ => hsi⟩
  | case3 s n i e0 hsi rest ih =>
    have hie : i < e := hin ▸ Nat.lt_add_of_pos_right (Nat.succ_pos n)
    obtain ⟨j, ro⟩ := ih ((Nat.succ_add_eq_add_succ i n).trans hin)
    have hset : ∀ x, x ≠ i → set s i none x = s x := fun x hx => set_ne s none hx
    refine ⟨j, Nat.le_of_succ_le ro.ge, ro.le, ?_, ?_, ?_, ?_, ?_, ?_⟩
    · show rest.2.length + 1 + i = j
      rw [Nat.add_assoc, Nat.add_comm 1 i]; exact ro.length
    · intro x
      show rest.1 x = _
      rw [ro.slots x]
      by_cases hx : x = i
      · subst hx
        rw [if_neg (fun c => Nat.not_succ_le_self x c.1), if_pos ⟨Nat.le_refl x, ro.ge⟩, set_self]
      · rw [hset x hx]
        by_cases c : i + 1 ≤ x ∧ x < j
        · rw [if_pos c, if_pos ⟨Nat.le_of_succ_le c.1, c.2⟩]
        · rw [if_neg c, if_neg fun c' => c ⟨Nat.lt_of_le_of_ne c'.1 (Ne.symm hx), c'.2⟩]
    · intro en
      show en ∈ e0 :: rest.2 ↔ _
      rw [List.mem_cons, ro.mem en]
      constructor
      · rintro (rfl | ⟨x, h1, h2, h3⟩)
        · exact ⟨i, Nat.le_refl _, ro.ge, hsi⟩
        · exact ⟨x, Nat.le_of_succ_le h1, h2, hset x (Nat.ne_of_gt h1) ▸ h3⟩
      · rintro ⟨x, h1, h2, h3⟩
        by_cases hx : x = i
        · subst hx; rw [hsi] at h3; exact Or.inl (Option.some.inj h3).symm
        · exact Or.inr ⟨x, Nat.lt_of_le_of_ne h1 (Ne.symm hx), h2, (hset x hx).symm ▸ h3⟩
    · intro hlt
      exact hset j (Nat.ne_of_gt ro.ge) ▸ ro.stop hlt
    · intro m hm
      show occ rest.1 m + (rest.2.length + 1) = occ s m
      rw [← Nat.add_assoc, ro.occ_eq m hm, occ_set_none s i e0 m (Nat.lt_of_lt_of_le hie hm) hsi]
    · intro hd
      show (e0 :: rest.2).Pairwise _
      rw [List.pairwise_cons]
      refine ⟨?_, ro.distinct ?_⟩
      · intro b hb heq
        obtain ⟨x, h1, h2, h3⟩ := (ro.mem b).1 hb
        rw [hset x (Nat.ne_of_gt h1)] at h3
        obtain ⟨k0, v0⟩ := e0
        obtain ⟨kb, vb⟩ := b
        have : x = i := hd x i kb vb v0 (Nat.le_of_succ_le h1) (Nat.lt_of_lt_of_le h2 ro.le) (Nat.le_refl i) hie h3
          (by rw [hsi, show k0 = kb from heq])
        exact Nat.lt_irrefl i (this ▸ h1)
      · intro x y k v w hx1 hx2 hy1 hy2 h1 h2
        rw [hset x (Nat.ne_of_gt hx1)] at h1
        rw [hset y (Nat.ne_of_gt hy1)] at h2
        exact hd x y k v w (Nat.le_of_succ_le hx1) hx2 (Nat.le_of_succ_le hy1) hy2 h1 h2

theorem clearRange_below (s : Slots) {a b x : Nat} (hx : x < a) : clearRange s a b x = s x :=
  if_neg (fun h => Nat.lt_irrefl x (Nat.lt_of_lt_of_le hx h.1))

theorem clearRange_above (s : Slots) {a b x : Nat} (hx : b ≤ x) : clearRange s a b x = s x :=
  if_neg (fun h => Nat.lt_irrefl x (Nat.lt_of_lt_of_le h.2 hx))

theorem clearRange_inside (s : Slots) {a b x : Nat} (h1 : a ≤ x) (h2 : x < b) : clearRange s a b x = none :=
  if_pos ⟨h1, h2⟩

/-- the state `(s1, buf)` of `Double` on the buckets `s` after the new half was cleared and the occupied
prefix `[0, r)` rolled into the buffer: the buckets hold what `[r, N)` held, the buffer what `[0, r)` held -/
structure FirstLoop (s : Slots) (N : Nat) (s1 : Slots) (buf : List Entry) (r : Nat) : Prop where
  le : r ≤ N
  stop : r < N → s r = none
  sub : ∀ x e, x < 2 * N → s1 x = some e → r ≤ x ∧ x < N ∧ s x = some e
  keep : ∀ x, r ≤ x → x < N → s1 x = s x
  mem : ∀ e, e ∈ buf ↔ ∃ x, x < r ∧ s x = some e
  occ_eq : occ s1 (2 * N) + r = occ s N
  length : buf.length = r
  distinct : buf.Pairwise (fun a b => a.1 ≠ b.1)

theorem double_firstLoop (s : Slots) (N : Nat) (hd : KeysDistinct s N) (s1 : Slots) (buf : List Entry)
    (hrp : rollPrefix (clearRange s N (2 * N)) N 0 = (s1, buf)) : ∃ r, FirstLoop s N s1 buf r := by
  obtain ⟨r, ro⟩ := rollPrefix_spec (clearRange s N (2 * N)) N N 0 (Nat.zero_add N)
  rw [hrp] at ro
  have hr := ro.le
  have hlen := ro.length; have hsl := ro.slots; have hmem := ro.mem; have hstop := ro.stop; have hocc := ro.occ_eq
  have hpw := ro.distinct
  simp only [Nat.add_zero, Nat.zero_le, true_and, true_implies] at hlen hsl hmem hstop hocc hpw
  refine ⟨r, hr, ?_, ?_, ?_, ?_, ?_, hlen, ?_⟩
  · intro h
    have := hstop h
    rwa [clearRange_below s h] at this
  · intro x e hx hs
    rw [hsl x] at hs
    by_cases c : x < r
    · rw [if_pos c] at hs; cases hs
    · rw [if_neg c] at hs
      by_cases hxN : x < N
      · rw [clearRange_below s hxN] at hs; exact ⟨Nat.le_of_not_lt c, hxN, hs⟩
      · rw [clearRange_inside s (Nat.le_of_not_lt hxN) hx] at hs; cases hs
  · intro x h1 h2
    rw [hsl x, if_neg (Nat.not_lt_of_le h1), clearRange_below s h2]
  · intro e
    rw [hmem e]
    constructor
    · rintro ⟨x, h2, h3⟩
      rw [clearRange_below s (Nat.lt_of_lt_of_le h2 hr)] at h3
      exact ⟨x, h2, h3⟩
    · rintro ⟨x, h2, h3⟩
      exact ⟨x, h2, by rw [clearRange_below s (Nat.lt_of_lt_of_le h2 hr)]; exact h3⟩
  · have hc0 : occ (clearRange s N (2 * N)) (2 * N) = occ s N := by
      rw [occ_extend _ N (2 * N) (by omega) (fun x a b => clearRange_inside s a b)]
      exact occ_congr _ _ _ (fun i hi => clearRange_below s hi)
    have := hocc (2 * N) (by omega); omega
  · apply hpw
    intro x y k v w hx hy h1 h2
    rw [clearRange_below s hx] at h1
    rw [clearRange_below s hy] at h2
    exact hd x y k v w hx hy h1 h2

/-! ### second loop: re-insert the old buckets `[0, N)` under the doubled bucket count

Loop invariant `J i`: entries at `[i, N)` are *pending* (only `ideal ≤ position` is known — their old
probe path does not wrap), entries below `i` or in the new half are *settled*: their new probe path
is occupied and avoids `[i, N)`, so vacating a pending bucket never breaks it. -/

structure J (h : Nat → Nat) (N i : Nat) (s : Slots) : Prop where
  distinct : ∀ p q k v w, p < 2 * N → q < 2 * N → s p = some (k, v) → s q = some (k, w) → p = q
  pending : ∀ p k v, i ≤ p → p < N → s p = some (k, v) → ideal h N k ≤ p
  settled : ∀ p k v, (p < i ∨ N ≤ p) → p < 2 * N → s p = some (k, v) →
    PathOK s (2 * N) (ideal h (2 * N) k) p ∧
    ∀ x, onPath (2 * N) (ideal h (2 * N) k) p x → ¬ (i ≤ x ∧ x < N)

theorem J.keysDistinct {h : Nat → Nat} {N i : Nat} {s : Slots} (j : J h N i s) : KeysDistinct s (2 * N) := j.distinct

theorem J_init {s s1 : Slots} {N r : Nat} {buf : List Entry} (wf : WF h s N) (f : FirstLoop s N s1 buf r) :
    J h N 0 s1 := by
  refine ⟨?_, ?_, ?_⟩
  · intro p q k v w hp hq h1 h2
    obtain ⟨_, a2, a3⟩ := f.sub p _ hp h1
    obtain ⟨_, b2, b3⟩ := f.sub q _ hq h2
    exact wf.distinct p q k v w a2 b2 a3 b3
  · -- an entry at `p ≥ r` whose old path wrapped would have passed the empty bucket `r`
    intro p k v _ hp h1
    obtain ⟨a1, _, a3⟩ := f.sub p _ (by omega) h1
    apply Classical.byContradiction
    intro hc
    have hr0 : s r = none := f.stop (by omega)
    by_cases e : r = p
    · subst e; rw [hr0] at a3; cases a3
    · exact wf.path p k v hp a3 r (by unfold onPath; omega) hr0
  · intro p k v h1 h2 h3
    obtain ⟨_, a2, _⟩ := f.sub p _ h2 h3
    omega

theorem J_skip (N i : Nat) (s : Slots) (j : J h N i s) (hsi : s i = none) :
    J h N (i + 1) s := by
  refine ⟨j.distinct, ?_, ?_⟩
  · intro p k v h1 h2 h3
    exact j.pending p k v (by omega) h2 h3
  · intro p k v h1 h2 h3
    have hp : p < i ∨ N ≤ p := by
      rcases h1 with h1 | h1
      · by_cases e : p = i
        · subst e; rw [hsi] at h3; cases h3
        · left; omega
      · right; exact h1
    obtain ⟨a, b⟩ := j.settled p k v hp h2 h3
    exact ⟨a, fun x hx hc => b x hx (by omega)⟩

theorem ideal_double (N k : Nat) (hN : 0 < N) :
    ideal h (2 * N) k = ideal h N k ∨ ideal h (2 * N) k = ideal h N k + N := by
  unfold ideal
  have h1 : h k % (2 * N) < 2 * N := Nat.mod_lt _ (by omega)
  have h2 : h k % N = h k % (2 * N) % N := (Nat.mod_mul_left_mod _ _ _).symm
  rw [h2]
  generalize h k % (2 * N) = a at *
  by_cases hlt : a < N
  · left; exact (Nat.mod_eq_of_lt hlt).symm
  · right
    rw [Nat.mod_eq_sub_mod (by omega), Nat.mod_eq_of_lt (by omega)]
    omega

/-- the geometry of one move: the entry of bucket `i` has its old ideal bucket `a ≤ i` and the new
one `a'` (`a` or `a + N`); if bucket `i` is not on the new probe path from `a'` to `q`, then `q` is not
a pending bucket and the path avoids all pending buckets `[i, N)` -/
theorem move_avoids_pending (N i a a' q : Nat) (ha : a ≤ i) (hdbl : a' = a ∨ a' = a + N)
    (hnot : ¬ onPath (2 * N) a' q i) :
    (q ≤ i ∨ N ≤ q) ∧ ∀ x, onPath (2 * N) a' q x → ¬ (i ≤ x ∧ x < N) := by
  unfold onPath at hnot ⊢
  rcases hdbl with rfl | rfl
  · refine ⟨by omega, fun x hx => ?_⟩; omega
  · refine ⟨by omega, fun x hx => ?_⟩; omega

theorem J_move (N i : Nat) (s : Slots) (k v : Nat) (j : J h N i s) (hi : i < N)
    (hsi : s i = some (k, v)) :
    ∃ q, firstEmpty (set s i none) (2 * N) (2 * N) (ideal h (2 * N) k) = some q ∧
      J h N (i + 1) (set (set s i none) q (some (k, v))) ∧
      occ (set (set s i none) q (some (k, v))) (2 * N) = occ s (2 * N) ∧
      ∀ k' v', Stored (set (set s i none) q (some (k, v))) (2 * N) k' v' ↔ Stored s (2 * N) k' v' := by
  have hsci : set s i none i = none := set_self ..
  have hi2 : i < 2 * N := by omega
  have hN : 0 < N := Nat.lt_of_le_of_lt (Nat.zero_le i) hi
  have ha' : ideal h (2 * N) k < 2 * N := ideal_lt h (2 * N) k (Nat.lt_of_le_of_lt (Nat.zero_le i) hi2)
  obtain ⟨q, hq, hqN, hqs, hpath⟩ :=
    firstEmpty_total (set s i none) (2 * N) i (ideal h (2 * N) k) hi2 hsci ha'
  obtain ⟨hQ, hD⟩ := move_avoids_pending N i (ideal h N k) (ideal h (2 * N) k) q
    (j.pending i k v (Nat.le_refl _) hi hsi) (ideal_double h N k hN) (fun hon => hpath i hon hsci)
  have hcases : ∀ p e, set (set s i none) q (some (k, v)) p = some e →
      (p = q ∧ e = (k, v)) ∨ (p ≠ q ∧ p ≠ i ∧ s p = some e) := by
    intro p e h
    rw [set_eq_some_iff, set_eq_some_iff] at h
    rcases h with ⟨e1, e2⟩ | ⟨n1, ⟨_, e2⟩ | ⟨n2, h⟩⟩
    · exact Or.inl ⟨e1, (Option.some.inj e2).symm⟩
    · cases e2
    · exact Or.inr ⟨n1, n2, h⟩
  have hdist := j.keysDistinct
  refine ⟨q, hq, ⟨?_, ?_, ?_⟩, ?_, ?_⟩
  · exact (hdist.erase i).fill (hdist.erase_fresh hi2 hsi) q v
  · intro p k1 v1 h1 h2 h3
    rcases hcases p _ h3 with ⟨e, _⟩ | ⟨_, _, h3⟩
    · omega
    · exact j.pending p k1 v1 (Nat.le_of_succ_le h1) h2 h3
  · intro p k1 v1 h1 h2 h3
    rcases hcases p _ h3 with ⟨rfl, e⟩ | ⟨_, e2, h3'⟩
    · cases e
      exact ⟨PathOK_mono _ _ _ _ _ (set_mono _ p _) hpath, fun x hx hc => hD x hx ⟨Nat.le_of_succ_le hc.1, hc.2⟩⟩
    · obtain ⟨a, b⟩ := j.settled p k1 v1
        (h1.imp (fun h => Nat.lt_of_le_of_ne (Nat.le_of_lt_succ h) e2) id) h2 h3'
      refine ⟨fun x hx => ?_, fun x hx hc => b x hx ⟨Nat.le_of_succ_le hc.1, hc.2⟩⟩
      have hxi : x ≠ i := fun e => b x hx (by subst e; exact ⟨Nat.le_refl _, hi⟩)
      apply set_mono
      rw [set_ne _ _ hxi]
      exact a x hx
  · have h1 := occ_set_some (set s i none) q (k, v) (2 * N) hqN hqs
    have h2 := occ_set_none s i (k, v) (2 * N) hi2 hsi
    omega
  · exact Stored_move s (2 * N) i q k v hi2 hsi hqN hqs

theorem reinsert_spec (N : Nat) : ∀ (n i : Nat) (s : Slots), i + n = N → J h N i s →
    ∃ s2, reinsert h (2 * N) n i s = some s2 ∧ J h N N s2 ∧ occ s2 (2 * N) = occ s (2 * N) ∧
      ∀ k v, Stored s2 (2 * N) k v ↔ Stored s (2 * N) k v := by
  intro n
  induction n with
  | zero =>
    intro i s hi j
    have : i = N := by omega
    subst this
    exact ⟨s, rfl, j, rfl, fun _ _ => Iff.rfl⟩
  | succ n ih =>
    intro i s hi j
    cases hsi : s i with
    | none =>
      obtain ⟨s2, h2, j2, hocc, hst⟩ := ih (i + 1) s (by omega) (J_skip h N i s j hsi)
      exact ⟨s2, by rw [reinsert_skip hsi, h2], j2, hocc, hst⟩
    | some e =>
      obtain ⟨k, v⟩ := e
      obtain ⟨q, hq, j', hocc', hst'⟩ := J_move h N i s k v j (by omega) hsi
      obtain ⟨s2, h2, j2, hocc, hst⟩ := ih (i + 1) _ (by omega) j'
      refine ⟨s2, by rw [reinsert_move hsi, hq]; exact h2, j2, by omega, ?_⟩
      intro k' v'
      rw [hst k' v', hst' k' v']

theorem J_final (N : Nat) (s : Slots) (hN : 0 < N) (j : J h N N s) : WF h s (2 * N) :=
  ⟨by omega, j.distinct, fun p k v hp hs => (j.settled p k v (by omega) hp hs).1⟩

theorem insertAll_spec (N' : Nat) : ∀ (buf : List Entry) (s : Slots),
    WF h s N' → occ s N' + buf.length < N' →
    (∀ e, e ∈ buf → Fresh s N' e.1) →
    buf.Pairwise (fun a b => a.1 ≠ b.1) →
    ∃ s3, insertAll h N' buf s = some s3 ∧ WF h s3 N' ∧ occ s3 N' = occ s N' + buf.length ∧
      ∀ k v, Stored s3 N' k v ↔ Stored s N' k v ∨ (k, v) ∈ buf := by
  intro buf
  induction buf with
  | nil =>
    intro s wf _ _ _
    exact ⟨s, rfl, wf, by simp, by intro k v; simp⟩
  | cons e rest ih =>
    intro s wf hc hfresh hpw
    obtain ⟨k, v⟩ := e
    rw [List.pairwise_cons] at hpw
    obtain ⟨hk, hpw'⟩ := hpw
    simp only [List.length_cons] at hc
    obtain ⟨q, hq, hqN, hqs, hp⟩ := firstEmpty_room s N' _ (by omega) (ideal_lt h N' k wf.pos)
    have wf' := WF_fill h s N' k v q wf hp (hfresh (k, v) (List.mem_cons_self ..))
    have hocc := occ_set_some s q (k, v) N' hqN hqs
    have hfresh' : ∀ e, e ∈ rest → Fresh (set s q (some (k, v))) N' e.1 := fun e he =>
      (hfresh e (List.mem_cons_of_mem _ he)).fill (hk e he) q v
    obtain ⟨s3, h3, wf3, hocc3, hst⟩ := ih (set s q (some (k, v))) wf' (by omega) hfresh' hpw'
    refine ⟨s3, by rw [insertAll_cons, hq]; exact h3, wf3, by simp only [List.length_cons]; omega, ?_⟩
    intro k' v'
    rw [hst k' v', Stored_fill s N' k v q hqN hqs k' v', List.mem_cons, Prod.mk.injEq, or_assoc]

/-- `Double` on well-formed buckets (even a completely full table): the result is well-formed
for `2 * N`, stores the same pairs and occupies the same number of buckets -/
theorem double_wf (t : Table) (wf : WF h t.s t.N) :
    ∃ t', double h t = some t' ∧ WF h t'.s t'.N ∧ t'.N = 2 * t.N ∧ t'.entries = t.entries ∧
      occ t'.s t'.N = occ t.s t.N ∧ ∀ k v, Stored t'.s t'.N k v ↔ Stored t.s t.N k v := by
  have hN := wf.pos
  cases hrp : rollPrefix (clearRange t.s t.N (2 * t.N)) t.N 0 with
  | mk s1 buf =>
  obtain ⟨r, f⟩ := double_firstLoop t.s t.N wf.keysDistinct s1 buf hrp
  have hr := f.le; have hc1 := f.occ_eq; have hlen := f.length
  obtain ⟨s2, h2, j2, hocc2, hst2⟩ := reinsert_spec h t.N t.N 0 s1 (Nat.zero_add _) (J_init h wf f)
  have wf2 := J_final h t.N s2 hN j2
  have hle := occ_le t.s t.N
  have hfresh : ∀ e, e ∈ buf → Fresh s2 (2 * t.N) e.1 := by
    intro e he p w hp hs
    obtain ⟨p', hp', hs'⟩ := (hst2 e.1 w).1 ⟨p, hp, hs⟩
    obtain ⟨a1, a2, a3⟩ := f.sub p' _ hp' hs'
    obtain ⟨x, hx, hxs⟩ := (f.mem e).1 he
    have := wf.distinct x p' e.1 e.2 w (Nat.lt_of_lt_of_le hx hr) a2 hxs a3
    exact Nat.lt_irrefl _ (Nat.lt_of_lt_of_le (this ▸ hx) a1)
  obtain ⟨s3, h3, wf3, hocc3, hst3⟩ :=
    insertAll_spec h (2 * t.N) buf s2 wf2 (by omega) hfresh f.distinct
  refine ⟨{ s := s3, N := 2 * t.N, entries := t.entries }, ?_, wf3, rfl, rfl, ?_, ?_⟩
  · rw [double_eq, hrp, h2, Option.bind_some, h3]; rfl
  · show occ s3 (2 * t.N) = occ t.s t.N; omega
  · intro k v
    show Stored s3 (2 * t.N) k v ↔ _
    rw [hst3 k v, hst2 k v, f.mem (k, v)]
    constructor
    · rintro (⟨p, hp, hs⟩ | ⟨x, hx, hs⟩)
      · obtain ⟨_, a2, a3⟩ := f.sub p _ hp hs
        exact ⟨p, a2, a3⟩
      · exact ⟨x, Nat.lt_of_lt_of_le hx hr, hs⟩
    · rintro ⟨p, hp, hs⟩
      by_cases c : p < r
      · right; exact ⟨p, c, hs⟩
      · left; exact ⟨p, by omega, by rw [f.keep p (Nat.le_of_not_lt c) hp]; exact hs⟩

/-- what `Double` leaves of a table `t` that holds the map `M` -/
structure Doubled (h : Nat → Nat) (t : Table) (M : Nat → Option Nat) (t' : Table) : Prop where
  inv : Inv h t'
  abs : Abs t' M
  N : t'.N = 2 * t.N
  entries : t'.entries = t.entries
  occ_eq : occ t'.s t'.N = occ t.s t.N

theorem double_preserves (t : Table) (M : Nat → Option Nat) (inv : Inv h t) (abs : Abs t M) :
    ∃ t', double h t = some t' ∧ Doubled h t M t' := by
  obtain ⟨t', hd, wf', hN', hE', hocc', hst'⟩ := double_wf h t inv.wf
  have hle := occ_le t.s t.N
  have hpos := inv.wf.pos
  have hcnt := inv.cnt
  exact ⟨t', hd, ⟨wf', exists_hole _ _ (by omega), by omega⟩, fun k v => (hst' k v).trans (abs k v), hN', hE', hocc'⟩

theorem place_frame {s : Slots} {N' fuel i q : Nat} (e : Option Entry) (hi : i < N')
    (hq : firstEmpty s N' fuel i = some q) {x : Nat} (hx : N' ≤ x) : set s q e x = s x :=
  set_ne s e (Nat.ne_of_gt (Nat.lt_of_lt_of_le (firstEmpty_sound s N' fuel i q hi hq).1 hx))

theorem reinsert_frame (N' : Nat) (hN : 0 < N') : ∀ (n i : Nat) (s s2 : Slots), i + n ≤ N' →
    reinsert h N' n i s = some s2 → ∀ x, N' ≤ x → s2 x = s x := by
  intro n
  induction n with
  | zero => intro i s s2 _ hr x _; cases hr; rfl
  | succ n ih =>
    intro i s s2 hin hr x hx
    cases hsi : s i with
    | none =>
      rw [reinsert_skip hsi] at hr
      exact ih (i + 1) s s2 (by omega) hr x hx
    | some e =>
      obtain ⟨k, v⟩ := e
      rw [reinsert_move hsi] at hr
      obtain ⟨q, hq, hr⟩ := Option.bind_eq_some_iff.1 hr
      rw [ih (i + 1) _ s2 (by omega) hr x hx, place_frame _ (ideal_lt h N' k hN) hq hx,
        set_ne s none (show x ≠ i by omega)]

theorem insertAll_frame (N' : Nat) (hN : 0 < N') : ∀ (buf : List Entry) (s s3 : Slots),
    insertAll h N' buf s = some s3 → ∀ x, N' ≤ x → s3 x = s x := by
  intro buf
  induction buf with
  | nil => intro s s3 hr x _; cases hr; rfl
  | cons e rest ih =>
    intro s s3 hr x hx
    obtain ⟨k, v⟩ := e
    rw [insertAll_cons] at hr
    obtain ⟨q, hq, hr⟩ := Option.bind_eq_some_iff.1 hr
    rw [ih _ s3 hr x hx, place_frame _ (ideal_lt h N' k hN) hq hx]

theorem double_N (t t' : Table) (hd : double h t = some t') : t'.N = 2 * t.N := by
  rw [double_eq] at hd
  obtain ⟨s2, _, hd⟩ := Option.bind_eq_some_iff.1 hd
  obtain ⟨s3, _, rfl⟩ := Option.map_eq_some_iff.1 hd
  rfl

theorem double_frame (t t' : Table) (hN : 0 < t.N) (hd : double h t = some t') :
    ∀ x, 2 * t.N ≤ x → t'.s x = t.s x := by
  intro x hx
  obtain ⟨r, ro⟩ := rollPrefix_spec (clearRange t.s t.N (2 * t.N)) t.N t.N 0 (Nat.zero_add _)
  have hr := ro.le
  rw [double_eq] at hd
  obtain ⟨s2, h2, hd⟩ := Option.bind_eq_some_iff.1 hd
  obtain ⟨s3, h3, rfl⟩ := Option.map_eq_some_iff.1 hd
  show s3 x = t.s x
  rw [insertAll_frame h (2 * t.N) (by omega) _ s2 s3 h3 x hx,
    reinsert_frame h (2 * t.N) (by omega) t.N 0 _ s2 (by omega) h2 x hx, ro.slots x,
    if_neg (fun c => by omega), clearRange_above _ hx]

theorem doubleIfNeeded_below {θ : Nat → Nat} {a : Auto} (hc : a.t.entries < a.thr) :
    doubleIfNeeded h θ a = some a := if_pos hc

theorem doubleIfNeeded_at {θ : Nat → Nat} {a : Auto} (hc : ¬ a.t.entries < a.thr) :
    doubleIfNeeded h θ a = (double h a.t).map fun t' => { t := t', thr := θ t'.N } := by
  unfold doubleIfNeeded
  rw [if_neg hc]
  cases double h a.t <;> rfl

end KV.Probing
