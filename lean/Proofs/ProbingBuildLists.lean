import Model.ProbingBuild
/-! Facts about lists, appending to a list indexed through `KV.Probing.upd`, `Rat`'s `max` and folds of `max` that the
probing-builder proofs use and core does not state in this form.  A key (`List Word`) is a list of words with the newest word
first, so `p.take j` and `(p.drop 1).take j` below are the suffixes of order `j` of an n-gram and of its context (as lists: prefixes). -/
namespace KV.ProbingBuild
open KV.Arpa

theorem getD_set {α} (l : List α) (x w : Nat) (v d : α) :
    (l.set x v).getD w d = if w = x ∧ x < l.length then v else l.getD w d := by
  simp only [List.getD_eq_getElem?_getD, List.getElem?_set]
  by_cases h : x = w
  · subst h
    by_cases hl : x < l.length
    · simp [hl]
    · simp [hl]
  · have : ¬ w = x := fun e => h e.symm
    simp [h, this]

theorem mem_ite_append {α} (c : Prop) [Decidable c] (X : List α) (y x : α) (h : x ∈ X) : x ∈ (if c then X ++ [y] else X) := by
  split
  · exact List.mem_append_left _ h
  · exact h

theorem length_ctx_take (p : List Word) (j : Nat) (hj : j < p.length) : ((p.drop 1).take j).length = j :=
  List.length_take_of_le (by rw [List.length_drop]; exact Nat.le_sub_one_of_lt hj)

theorem take_one_headD (p : List Word) (hp : 1 ≤ p.length) : p.take 1 = [p.headD 0] := by
  cases p with
  | nil => simp at hp
  | cons x xs => simp

theorem headD_mem (p : List Word) (h : 1 ≤ p.length) : p.headD 0 ∈ p := by
  cases p with
  | nil => simp at h
  | cons x xs => simp

theorem ctx_take_one (p : List Word) (h : 2 ≤ p.length) : (p.drop 1).take 1 = [p.getD 1 0] ∧ p.getD 1 0 ∈ p :=
  match p, h with
  | _ :: y :: _, _ => ⟨rfl, by simp⟩

theorem getLastD_eq {α} (l : List α) (d : α) (hl : 0 < l.length) : l.getLastD d = l[l.length - 1] := by
  cases l with
  | nil => simp at hl
  | cons x xs => simp [List.getLastD_eq_getLast?, List.getLast?_eq_getElem?]

theorem getLastD_of_length {α} (l : List α) (d : α) {n : Nat} (hl : l.length = n + 1) : l.getLastD d = l[n] := by
  rw [getLastD_eq l d (by omega)]; simp [hl]

theorem isPrefixOf_eq_take (k p : List Word) : k.isPrefixOf p = decide (k = p.take k.length) := by
  rw [Bool.eq_iff_iff, List.isPrefixOf_iff_prefix, List.prefix_iff_eq_take, decide_eq_true_iff]

theorem length_lt_of_take (k p : List Word) (h : k = p.take k.length) (hne : k ≠ p) : k.length < p.length := by
  have hle : k.length ≤ p.length := by
    have := congrArg List.length h
    rw [List.length_take] at this; omega
  have : k.length ≠ p.length := fun hl => hne (by rw [h, hl, List.take_length])
  omega

theorem foldl_congr_mem {α β} (f g : β → α → β) : ∀ (l : List α) (init : β), (∀ m, ∀ x ∈ l, f m x = g m x) →
    l.foldl f init = l.foldl g init := by
  intro l
  induction l with
  | nil => intro init _; rfl
  | cons x xs ih =>
    intro init h
    simp only [List.foldl_cons]
    rw [h init x (by simp)]
    exact ih _ (fun m y hy => h m y (List.mem_cons_of_mem _ hy))

theorem interval_succ {b m J : Nat} (hm : m ≠ J + 1) : (b < m ∧ m ≤ J) ↔ (b < m ∧ m ≤ J + 1) :=
  and_congr_right fun _ => ⟨Nat.le_succ_of_le, fun h => Nat.le_of_lt_succ (Nat.lt_of_le_of_ne h hm)⟩

/-- `k` is the suffix of `p` of an order between `lo` and `hi`: the keys a line touches are given this way (the chain: `b .. b+L`,
the blanks: `b+1 .. b+L`, what `MarkLower` passes: `1 .. b-1`) -/
abbrev SufIn (p : List Word) (lo hi : Nat) (k : List Word) : Prop := lo ≤ k.length ∧ k.length ≤ hi ∧ k = p.take k.length

theorem sufIn_iff {p k : List Word} {lo hi : Nat} (h : hi ≤ p.length) : SufIn p lo hi k ↔ ∃ j, lo ≤ j ∧ j ≤ hi ∧ k = p.take j :=
  ⟨fun c => ⟨k.length, c.1, c.2.1, c.2.2⟩, fun ⟨j, h1, h2, he⟩ => by
    have hl : k.length = j := he ▸ List.length_take_of_le (Nat.le_trans h2 h)
    exact ⟨hl ▸ h1, hl ▸ h2, hl ▸ he⟩⟩

theorem sufIn_succ {p k : List Word} {lo hi : Nat} (hk : k ≠ p.take (hi + 1)) : SufIn p lo hi k ↔ SufIn p lo (hi + 1) k :=
  and_congr_right fun _ => ⟨fun c => ⟨Nat.le_succ_of_le c.1, c.2⟩, fun c =>
    ⟨Nat.le_of_lt_succ (Nat.lt_of_le_of_ne c.1 fun hl => hk (c.2.trans (congrArg (p.take ·) hl))), c.2⟩⟩

theorem rat_le_max_left (x y : Rat) : x ≤ max x y := by
  show x ≤ if x ≤ y then y else x
  split
  · assumption
  · exact Rat.le_refl

theorem rat_le_max_right (x y : Rat) : y ≤ max x y := by
  show y ≤ if x ≤ y then y else x
  split
  · exact Rat.le_refl
  · rename_i h; exact Rat.le_of_lt (Rat.not_le.mp h)

theorem rat_max_le {x y B : Rat} (hx : x ≤ B) (hy : y ≤ B) : max x y ≤ B := by
  show (if x ≤ y then y else x) ≤ B
  split <;> assumption

theorem rat_max_comm (x y : Rat) : max x y = max y x :=
  Rat.le_antisymm (rat_max_le (rat_le_max_right y x) (rat_le_max_left y x))
    (rat_max_le (rat_le_max_right x y) (rat_le_max_left x y))

theorem rat_max_eq_left {x y : Rat} (h : y ≤ x) : max x y = x :=
  Rat.le_antisymm (rat_max_le Rat.le_refl h) (rat_le_max_left x y)

theorem rat_max_eq_ite_lt (x y : Rat) : max x y = if x < y then y else x := by
  by_cases h : x < y
  · rw [if_pos h, rat_max_comm, rat_max_eq_left (Rat.le_of_lt h)]
  · rw [if_neg h, rat_max_eq_left (Rat.not_lt.mp h)]

theorem rat_max_absorb {x r v : Rat} (h : r ≤ x) : max x (max r v) = max x v :=
  Rat.le_antisymm
    (rat_max_le (rat_le_max_left x v) (rat_max_le (Rat.le_trans h (rat_le_max_left x v)) (rat_le_max_right x v)))
    (rat_max_le (rat_le_max_left _ _) (Rat.le_trans (rat_le_max_right r v) (rat_le_max_right _ _)))

theorem le_of_antitone_steps (r : Nat → Rat) (n : Nat) (h : ∀ j, 1 ≤ j → j < n → r (j + 1) ≤ r j) :
    ∀ d j, j + d = n → 1 ≤ j → r n ≤ r j
  | 0, j, hj, _ => by rw [show j = n by omega]; exact Rat.le_refl
  | d + 1, j, hj, h1 => Rat.le_trans (le_of_antitone_steps r n h d (j + 1) (by omega) (by omega)) (h j h1 (by omega))

theorem neg_abs_of_nonpos (q : Rat) (h : q ≤ 0) : -q.abs = q := by
  rw [Rat.abs_of_nonpos h]; simp

section append
open KV.Probing
variable {α : Type} (l : List α) (x : α)

/-- a list `l` and the payloads of its elements, appended to in step: a relation `P` between element and payload carries over -/
theorem pay_append {β : Type} [Inhabited β] (pay : List β) (hn : pay.length = l.length) (w : β) (P : α → β → Prop)
    (hpay : ∀ j (hj : j < l.length), P l[j] (pay.getD j default)) (hw : P x w) :
    ∀ j (hj : j < (l ++ [x]).length), P (l ++ [x])[j] ((pay ++ [w]).getD j default) := by
  intro j hj
  simp only [List.length_append, List.length_cons, List.length_nil] at hj
  by_cases hjl : j < l.length
  · rw [List.getElem_append_left hjl, List.getD_eq_getElem?_getD, List.getElem?_append_left (by rw [hn]; exact hjl),
      ← List.getD_eq_getElem?_getD]
    exact hpay j hjl
  · have hje : j = l.length := Nat.le_antisymm (Nat.le_of_lt_succ hj) (Nat.not_lt.mp hjl)
    subst hje
    rw [List.getD_eq_getElem?_getD, List.getElem?_append_right (by rw [hn]; exact Nat.le_refl _)]
    simpa [hn] using hw

variable (f : α → Nat) {M : Nat → Option Nat}

theorem none_of_fresh (honly : ∀ k i, M k = some i → ∃ (hj : i < l.length), k = f l[i]) (hfresh : ∀ y ∈ l, f y ≠ f x) :
    M (f x) = none := by
  cases hm : M (f x) with
  | none => rfl
  | some i =>
    obtain ⟨hj, hk⟩ := honly _ i hm
    exact absurd hk.symm (hfresh _ (List.getElem_mem hj))

variable {n : Nat} (hn : n = l.length)
include hn

/-- a table whose indices are the positions in `l` (`f y` the hash of `y`), after `x` with a fresh hash is inserted at the
end: every element of `l ++ [x]` is found at its position -/
theorem upd_key_append (hkey : ∀ j (hj : j < l.length), M (f l[j]) = some j) (hfresh : ∀ y ∈ l, f y ≠ f x) :
    ∀ j (hj : j < (l ++ [x]).length), upd M (f x) n (f (l ++ [x])[j]) = some j := by
  intro j hj
  subst hn
  simp only [List.length_append, List.length_cons, List.length_nil] at hj
  by_cases hjl : j < l.length
  · rw [List.getElem_append_left hjl]
    simp [upd, hfresh _ (List.getElem_mem hjl), hkey j hjl]
  · have hje : j = l.length := Nat.le_antisymm (Nat.le_of_lt_succ hj) (Nat.not_lt.mp hjl)
    subst hje
    simp [upd]

theorem upd_only_append (honly : ∀ k i, M k = some i → ∃ (hj : i < l.length), k = f l[i]) :
    ∀ k i, upd M (f x) n k = some i → ∃ (hj : i < (l ++ [x]).length), k = f (l ++ [x])[i] := by
  intro k i hk
  subst hn
  unfold upd at hk
  split at hk
  · cases hk
    rename_i hkk
    exact ⟨by simp, by simp [hkk]⟩
  · obtain ⟨hj, hkk⟩ := honly k i hk
    exact ⟨by rw [List.length_append]; exact Nat.lt_add_right _ hj, by rw [List.getElem_append_left hj]; exact hkk⟩

end append

section foldMax
variable {α : Type} (c : α → Bool) (v : α → Rat)

theorem foldMax_ge_init : ∀ (S : List α) (init : Rat),
    init ≤ S.foldl (fun m x => if c x then max m (v x) else m) init
  | [], _ => Rat.le_refl
  | x :: xs, init => by
    refine Rat.le_trans ?_ (foldMax_ge_init xs _)
    dsimp only
    split
    · exact rat_le_max_left _ _
    · exact Rat.le_refl

theorem foldMax_ge_mem : ∀ (S : List α) (init : Rat) (x : α), x ∈ S → c x = true →
    v x ≤ S.foldl (fun m x => if c x then max m (v x) else m) init
  | y :: ys, init, x, hx, hc => by
    rcases List.mem_cons.mp hx with h | h
    · subst h
      refine Rat.le_trans ?_ (foldMax_ge_init c v ys _)
      dsimp only
      rw [if_pos hc]
      exact rat_le_max_right _ _
    · exact foldMax_ge_mem ys _ x h hc

theorem foldMax_le (B : Rat) : ∀ (S : List α) (init : Rat), init ≤ B → (∀ x ∈ S, c x = true → v x ≤ B) →
    S.foldl (fun m x => if c x then max m (v x) else m) init ≤ B
  | [], _, h, _ => h
  | x :: xs, init, h, hS => by
    refine foldMax_le B xs _ ?_ (fun y hy => hS y (List.mem_cons_of_mem _ hy))
    dsimp only
    split
    · rename_i hc; exact rat_max_le h (hS x List.mem_cons_self hc)
    · exact h

end foldMax

end KV.ProbingBuild
