import Model.Score
import Proofs.Basics
import Proofs.WellFormed
/-! L0 ↔ L1, what is stated about a model and a table: sums of back-offs (`rsum`), lemmas about the textbook
recursions, the n-grams a state must keep (`live`), the accessors `Table.bo`/`xr`/`xl` (back-off, extends-right and
extends-left mark of a key, `0`/`false` when absent), the shape a table must have for the generic algorithm (`TableOK`) and
the interface `TableFor` between a model and a table.  The accepted models (`WellFormed`) are in Proofs/WellFormed. -/
namespace KV.Score
open KV.Arpa KV.Table KV.State

/-- Σ_{i<d} f (lo+i) -/
def rsum (f : Nat → Rat) (lo : Nat) : Nat → Rat
  | 0 => 0
  | d+1 => rsum f lo d + f (lo + d)

theorem rsum_congr {f g : Nat → Rat} {lo d : Nat} (h : ∀ i, lo ≤ i → i < lo + d → f i = g i) :
    rsum f lo d = rsum g lo d := by
  induction d with
  | zero => rfl
  | succ d ih =>
    simp only [rsum]
    rw [ih (fun i h1 h2 => h i h1 (by omega)), h (lo + d) (by omega) (by omega)]

theorem rsum_zero_tail {f : Nat → Rat} {lo d e : Nat} (h : ∀ i, lo + d ≤ i → i < lo + d + e → f i = 0) :
    rsum f lo (d + e) = rsum f lo d := by
  induction e with
  | zero => rfl
  | succ e ih =>
    show rsum f lo (d + e) + f (lo + (d + e)) = rsum f lo d
    rw [ih (fun i h1 h2 => h i h1 (by omega)), h (lo + (d + e)) (by omega) (by omega), Rat.add_zero]

theorem rsum_zero {f : Nat → Rat} {lo e : Nat} (h : ∀ i, lo ≤ i → i < lo + e → f i = 0) : rsum f lo e = 0 := by
  have := rsum_zero_tail (f := f) (lo := lo) (d := 0) (e := e) (by intro i h1 h2; exact h i (by omega) (by omega))
  simpa [rsum] using this

theorem rsum_split {f : Nat → Rat} {lo d : Nat} : rsum f lo (d + 1) = f lo + rsum f (lo + 1) d := by
  induction d with
  | zero => show (0 : Rat) + f (lo + 0) = f lo + 0; rw [Rat.zero_add, Rat.add_zero]; rfl
  | succ d ih =>
    show rsum f lo (d + 1) + f (lo + (d + 1)) = f lo + (rsum f (lo + 1) d + f (lo + 1 + d))
    rw [ih, Rat.add_assoc, Nat.add_right_comm lo 1 d]; rfl

theorem rsum_eq_sum (f : Nat → Rat) (lo : Nat) : ∀ d, rsum f lo d = ((List.range' lo d).map f).sum
  | 0 => rfl
  | d + 1 => by
    rw [List.range'_concat, List.map_append, List.sum_append, ← rsum_eq_sum f lo d]
    simp only [rsum, List.map_cons, List.map_nil, List.sum_cons, List.sum_nil, Nat.one_mul, Rat.add_zero]

theorem sum_drop_range_map (f : Nat → Rat) (len c0 : Nat) :
    (((List.range len).map f).drop c0).sum = rsum f c0 (len - c0) := by
  rw [rsum_eq_sum, ← List.map_drop, List.range_eq_range', List.drop_range', Nat.mul_one, Nat.zero_add]

theorem scoreAt_take (a : Arpa) (h : List Word) (w : Word) (k : Nat) :
    ∀ j, j ≤ k → scoreAt a (h.take k) w j = scoreAt a h w j := by
  intro j
  induction j with
  | zero => intro _; rfl
  | succ j ih =>
    intro hj
    simp only [scoreAt, take_take_of_le hj, ih (Nat.le_of_succ_le hj)]

/-- at a context length where the n-gram is in the model the recursion returns its probability -/
theorem scoreAt_real {a : Arpa} {h : List Word} {w : Word} {e : Entry} :
    ∀ c, a.gram (w :: h.take c) = some e → scoreAt a h w c = e.prob
  | 0, hg => by rw [List.take_zero] at hg; simp only [scoreAt, Arpa.uniProb, hg]
  | c + 1, hg => by simp only [scoreAt, hg]

/-- skipping context lengths at which no n-gram matches charges exactly their back-offs -/
theorem scoreAt_skip (a : Arpa) (h : List Word) (w : Word) (c0 : Nat) :
    ∀ d, (∀ c, c0 < c → c ≤ c0 + d → a.gram (w :: h.take c) = none) →
      scoreAt a h w (c0 + d) = scoreAt a h w c0 + rsum (fun c => a.boW (h.take (c+1))) c0 d := by
  intro d
  induction d with
  | zero => intro _; exact (Rat.add_zero _).symm
  | succ d ih =>
    intro hnone
    show scoreAt a h w (c0 + d + 1) = _ + (rsum _ c0 d + a.boW (h.take (c0 + d + 1)))
    rw [scoreAt, hnone (c0 + d + 1) (by omega) (by omega)]
    show a.boW (h.take (c0 + d + 1)) + scoreAt a h w (c0 + d) = _
    rw [ih (fun c hc1 hc2 => hnone c hc1 (by omega)), Rat.add_comm, Rat.add_assoc]

theorem score_take (a : Arpa) (h : List Word) (w : Word) :
    score a (h.take (a.order - 1)) w = score a h w := by
  unfold score
  rw [List.length_take, Nat.min_comm (a.order - 1), Nat.min_assoc, Nat.min_self,
    scoreAt_take a h w (a.order - 1) _ (Nat.min_le_right _ _)]

/-- the textbook score from the maximal matching context length `c0`: the entry's probability plus the back-offs
of the longer contexts -/
theorem score_of_max (a : Arpa) (h : List Word) (w : Word) (c0 : Nat) (hc : c0 ≤ min h.length (a.order - 1))
    (hnone : ∀ c, c0 < c → c ≤ h.length → a.gram (w :: h.take c) = none) :
    score a h w = scoreAt a h w c0 + rsum (fun c => a.boW (h.take (c+1))) c0 (min h.length (a.order - 1) - c0) := by
  have := scoreAt_skip a h w c0 (min h.length (a.order - 1) - c0) (fun c h1 h2 => hnone c h1 (by omega))
  rwa [Nat.add_sub_cancel' hc] at this

theorem longestMatch_of_max (a : Arpa) (h : List Word) (w : Word) (c0 : Nat) (hc : c0 ≤ min h.length (a.order - 1))
    (hreal : a.gram (w :: h.take c0) ≠ none)
    (hnone : ∀ c, c0 < c → c ≤ h.length → a.gram (w :: h.take c) = none) : longestMatch a h w = c0 + 1 := by
  have key : ∀ d, c0 + d ≤ h.length → longestMatchAt a h w (c0 + d) = c0 + 1 := by
    intro d
    induction d with
    | zero =>
      intro _
      cases c0 with
      | zero => rfl
      | succ c => rw [Nat.add_zero, longestMatchAt, Arpa.isReal, Option.isSome_iff_ne_none.mpr hreal, if_pos rfl]
    | succ d ih =>
      intro hd
      rw [← Nat.add_assoc, longestMatchAt, Arpa.isReal, hnone (c0 + d + 1) (by omega) hd]
      exact ih (Nat.le_of_succ_le hd)
  have := key (min h.length (a.order - 1) - c0) (by omega)
  rwa [Nat.add_sub_cancel' hc] at this

theorem longestMatchAt_take (a : Arpa) (h : List Word) (w : Word) (k : Nat) :
    ∀ j, j ≤ k → longestMatchAt a (h.take k) w j = longestMatchAt a h w j := by
  intro j
  induction j with
  | zero => intro _; rfl
  | succ j ih => intro hj; simp only [longestMatchAt, take_take_of_le hj, ih (Nat.le_of_succ_le hj)]

theorem longestMatch_take (a : Arpa) (h : List Word) (w : Word) :
    longestMatch a (h.take (a.order - 1)) w = longestMatch a h w := by
  unfold longestMatch
  rw [List.length_take, Nat.min_comm (a.order - 1), Nat.min_assoc, Nat.min_self,
    longestMatchAt_take a h w (a.order - 1) _ (Nat.min_le_right _ _)]

/-- `g` (reversed) is an n-gram of the model whose words must be kept in the state: non-zero
back-off, or context of some n-gram of the model -/
def live (a : Arpa) (g : List Word) : Prop :=
  ∃ e, a.gram g = some e ∧ (e.backoff ≠ 0 ∨ ∃ x, a.gram (x :: g) ≠ none)

/-- back-off, extends-right mark and extends-left mark of the key `g`; `0` resp. `false` when `g` is not in the table -/
def _root_.KV.Table.Table.bo (T : Table) (g : List Word) : Rat :=
  match T.lookup g with | some t => t.backoff | none => 0
def _root_.KV.Table.Table.xr (T : Table) (g : List Word) : Bool :=
  match T.lookup g with | some t => t.extendsRight | none => false
def _root_.KV.Table.Table.xl (T : Table) (g : List Word) : Bool :=
  match T.lookup g with | some t => t.extendsLeft | none => false

/-- shape properties of a table that the generic algorithm relies on.  `xl_sound` is what lets `ResumeScore` stop without
a lookup when the entry it stands on has `independent_left` set: nothing in the table extends that entry to the left.
`prefix_closed` holds of a table although a pruned model lacks suffixes: the table has a blank for every missing reversed prefix. -/
structure TableOK (T : Table) : Prop where
  order_ge : 2 ≤ T.order
  prefix_closed : ∀ g x, g ≠ [] → T.lookup (g ++ [x]) ≠ none → T.lookup g ≠ none
  xl_sound : ∀ g x t, T.lookup g = some t → t.extendsLeft = false → T.lookup (g ++ [x]) = none
  len_le : ∀ g, T.lookup g ≠ none → g.length ≤ T.order

theorem _root_.KV.Table.Table.bo_of_lookup {T : Table} {g : List Word} {t : TEntry} (h : T.lookup g = some t) :
    T.bo g = t.backoff := by simp only [Table.bo, h]
theorem _root_.KV.Table.Table.xr_of_lookup {T : Table} {g : List Word} {t : TEntry} (h : T.lookup g = some t) :
    T.xr g = t.extendsRight := by simp only [Table.xr, h]
theorem _root_.KV.Table.Table.xl_of_lookup {T : Table} {g : List Word} {t : TEntry} (h : T.lookup g = some t) :
    T.xl g = t.extendsLeft := by simp only [Table.xl, h]

theorem lookup_none_extend {T : Table} (ok : TableOK T) (ys g : List Word) (hg : g ≠ []) (hn : T.lookup g = none) :
    T.lookup (g ++ ys) = none :=
  Classical.byContradiction fun h => prefix_of_snoc (P := fun g => T.lookup g ≠ none) ok.prefix_closed ys g hg h hn

theorem lookup_none_take' {T : Table} (ok : TableOK T) (l : List Word) (j c : Nat) (hjc : j ≤ c)
    (hne : l.take j ≠ []) (hn : T.lookup (l.take j) = none) : T.lookup (l.take c) = none := by
  obtain ⟨d, rfl⟩ := Nat.exists_eq_add_of_le hjc
  rw [List.take_add]
  exact lookup_none_extend ok _ (l.take j) hne hn

theorem lookup_none_take {T : Table} (ok : TableOK T) (w : Word) (l : List Word) (j c : Nat) (hjc : j ≤ c)
    (hn : T.lookup (w :: l.take j) = none) : T.lookup (w :: l.take c) = none :=
  lookup_none_take' ok (w :: l) (j+1) (c+1) (Nat.succ_le_succ hjc) (List.cons_ne_nil _ _) hn

/-- `T` represents the model `a` (real entries with their values, blanks with backed-off probability,
sound marks).  Satisfied by `Table.build a unmarked` for every `unmarked` (theorem `build_tableFor`). -/
structure TableFor (a : Arpa) (T : Table) : Prop extends TableOK T where
  order_eq : T.order = a.order
  real : ∀ g e, a.gram g = some e → ∃ t, T.lookup g = some t ∧ t.prob = e.prob ∧ t.backoff = e.backoff
  blank : ∀ w ctx t, T.lookup (w :: ctx) = some t → a.gram (w :: ctx) = none → t.prob = score a ctx w ∧ t.backoff = 0
  xr_live : ∀ g t, T.lookup g = some t → live a g → t.extendsRight = true
  nil_none : T.lookup [] = none

theorem TableFor.bo_eq {a : Arpa} {T : Table} (tf : TableFor a T) (g : List Word) :
    T.bo g = a.boW g := by
  unfold Table.bo Arpa.boW
  cases hg : a.gram g with
  | some e =>
    obtain ⟨t, ht, _, hb⟩ := tf.real g e hg
    simp [ht, hb]
  | none =>
    cases ht : T.lookup g with
    | none => rfl
    | some t =>
      cases g with
      | nil => rw [tf.nil_none] at ht; cases ht
      | cons w ctx => simp [(tf.blank w ctx t ht hg).2]

theorem TableFor.unigram {a : Arpa} {T : Table} (tf : TableFor a T) {w : Word} (hw : a.gram [w] ≠ none) :
    ∃ u, T.lookup [w] = some u := by
  obtain ⟨e, he⟩ := Option.ne_none_iff_exists'.mp hw
  obtain ⟨u, hu, _⟩ := tf.real [w] e he
  exact ⟨u, hu⟩

end KV.Score
