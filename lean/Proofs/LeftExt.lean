import Proofs.LeftSem
import Proofs.LeftSums
/-! What a resumed score means: context beyond the longest matching n-gram only contributes back-offs (`score_local`),
so the probability of the entry reached plus the charged back-offs is the textbook score given the fragment-internal
context `c'` followed by the outside history `h` (`ext_score`), and dead contexts do not matter at all (`score_dead`);
what one call of `ExtendLeft` means (`ExtStep`). -/
namespace KV.Left
open KV.Arpa KV.Table KV.State KV.Score

variable {a : Arpa} {T : Table}

theorem entry_score (tf : TableFor a T) (u : Word) (ctx : List Word) (hlen : ctx.length ≤ a.order - 1) {t : TEntry}
    (ht : T.lookup (u :: ctx) = some t) : t.prob = score a ctx u := by
  rw [entry_prob_eq tf ctx u ctx.length (Nat.le_refl _) hlen t (by rw [List.take_of_length_le (Nat.le_refl _)]; exact ht)]
  unfold score
  rw [Nat.min_eq_left hlen]

theorem score_local (w : Word) (h1 c : List Word) (hlen : h1.length ≤ a.order - 1)
    (hnone : ∀ k, 1 ≤ k → k ≤ c.length → a.gram (w :: h1 ++ c.take k) = none) :
    score a (h1 ++ c) w = score a h1 w +
      rsum (fun j => a.boW (h1 ++ c.take (j+1))) 0 (min c.length (a.order - 1 - h1.length)) := by
  let hh := h1 ++ c
  let i := h1.length
  let d := min c.length (a.order - 1 - i)
  have hn : min hh.length (a.order - 1) = i + d := by simp only [hh, List.length_append, d, i]; omega
  have htk : ∀ k, hh.take (i + k) = h1 ++ c.take k := fun k => List.take_length_add_append k
  have hskip := scoreAt_skip a hh w i d (by
    intro cc h1' h2'
    obtain ⟨k, rfl⟩ : ∃ k, cc = i + k := ⟨cc - i, by omega⟩
    rw [htk k]
    exact hnone k (by omega) (by simp only [d] at h2'; omega))
  have h0 : scoreAt a hh w i = score a h1 w := by
    have := scoreAt_take a hh w i i (Nat.le_refl _)
    have e : hh.take i = h1 := by simpa using htk 0
    rw [e] at this
    unfold score
    rw [Nat.min_eq_left hlen]
    exact this.symm
  show scoreAt a hh w (min hh.length (a.order - 1)) = _
  rw [hn, hskip, h0]
  congr 1
  have := rsum_shift (fun cc => a.boW (hh.take (cc+1))) i 0 d
  simp only [Nat.add_zero] at this
  rw [this]
  apply rsum_congr
  intro j _ _
  show a.boW (hh.take (i + j + 1)) = _
  have e : i + j + 1 = i + (j + 1) := by omega
  rw [e, htk (j+1)]

theorem score_dead (wf : WellFormed a) (w : Word) (h1 c : List Word)
    (hdead : ∀ k, 1 ≤ k → k ≤ c.length → ¬ live a (h1 ++ c.take k)) :
    score a (h1 ++ c) w = score a h1 w := by
  by_cases hlen : h1.length ≤ a.order - 1
  · have hnone : ∀ k, 1 ≤ k → k ≤ c.length → a.gram (w :: h1 ++ c.take k) = none := by
      intro k hk1 hk2
      apply Classical.byContradiction; intro hreal
      have hne := append_take_ne_nil h1 hk1 hk2
      have hctx := wf.ctx_present w _ hne hreal
      obtain ⟨e, he⟩ := Option.ne_none_iff_exists'.mp hctx
      exact hdead k hk1 hk2 ⟨e, he, Or.inr ⟨w, hreal⟩⟩
    rw [score_local w h1 c hlen hnone]
    have : rsum (fun j => a.boW (h1 ++ c.take (j+1))) 0 (min c.length (a.order - 1 - h1.length)) = 0 := by
      apply rsum_zero
      intro j _ hj
      exact boW_zero_of_dead (hdead (j+1) (by omega) (by omega))
    rw [this]; exact Rat.add_zero _
  · rw [← score_take a (h1 ++ c) w, ← score_take a h1 w]
    congr 1
    rw [List.take_append_of_le_length (by omega)]

theorem specSeq_dead (wf : WellFormed a) (c : List Word) :
    ∀ (ws h1 : List Word), (∀ k, 1 ≤ k → k ≤ c.length → ¬ live a (h1 ++ c.take k)) →
      specSeq a (h1 ++ c) ws = specSeq a h1 ws := by
  intro ws
  induction ws with
  | nil => intro h1 _; rfl
  | cons w ws ih =>
    intro h1 hd
    simp only [specSeq]
    rw [score_dead wf w h1 c hd]
    have := ih (w :: h1) (by
      intro k hk1 hk2
      have hne := append_take_ne_nil h1 hk1 hk2
      exact dead_cons wf [w] _ hne (hd k hk1 hk2))
    rw [← this]; rfl

/-- **score of one extension.**  `u` was matched with fragment-internal context `c'`; `nu` words of the outside
history `h` are offered (the longer contexts are dead); `c0` of them matched (`t` is the entry reached).
Then entry probability + back-offs of the offered but unmatched contexts = textbook score given `c' ++ h`. -/
theorem ext_score (H : Hyp a T) (u : Word) (c' h : List Word) (nu c0 : Nat) (t : TEntry)
    (hnu : nu ≤ h.length) (hN : c'.length + nu ≤ a.order - 1)
    (hD : ∀ k, nu < k → k ≤ h.length → ¬ live a (c' ++ h.take k))
    (hc0 : c0 ≤ nu)
    (hfound : T.lookup (u :: c' ++ h.take c0) = some t)
    (hstop : c0 < nu → T.lookup (u :: c' ++ h.take (c0+1)) = none) :
    t.prob + rsum (fun j => a.boW (c' ++ h.take (j+1))) c0 (nu - c0) = score a (c' ++ h) u := by
  -- the matched context, then the rest of the history; `f` more words were offered, `e` more fit into the order
  obtain ⟨f, rfl⟩ := Nat.le.dest hc0
  have hc0h : c0 ≤ h.length := Nat.le_trans hc0 hnu
  have hl1 : (c' ++ h.take c0).length = c'.length + c0 := by rw [List.length_append, List.length_take, Nat.min_eq_left hc0h]
  have htk : ∀ k, c' ++ h.take c0 ++ (h.drop c0).take k = c' ++ h.take (c0 + k) := fun k => by
    rw [List.append_assoc, ← List.take_add]
  obtain ⟨d, hd⟩ := Nat.le.dest hc0h
  have hdl : (h.drop c0).length = d := by rw [List.length_drop, ← hd]; exact Nat.add_sub_cancel_left _ _
  obtain ⟨e, he⟩ := Nat.le.dest (show f ≤ min (h.drop c0).length (a.order - 1 - (c' ++ h.take c0).length) from
    Nat.le_min.mpr ⟨by rw [hdl]; omega, by rw [hl1]; exact Nat.le_sub_of_add_le (by omega)⟩)
  have hed : f + e ≤ d := hdl ▸ he ▸ Nat.min_le_left _ _
  have hloc := score_local (a := a) u (c' ++ h.take c0) (h.drop c0) (by rw [hl1]; omega) (by
    -- nothing longer than the matched context is in the model
    intro k hk1 hk2
    rw [hdl] at hk2
    rw [List.cons_append, htk k]
    apply Classical.byContradiction; intro hreal
    by_cases hlt : 0 < f
    · have h0 := lookup_none_take H.ok u (c' ++ h) (c'.length + (c0+1)) (c'.length + (c0 + k)) (by omega)
        (by rw [List.take_length_add_append]; exact hstop (Nat.lt_add_of_pos_right hlt))
      rw [List.take_length_add_append] at h0
      exact H.real_in hreal h0
    · have hne := append_take_ne_nil c' (h := h) (k := c0 + k) (by omega) (by omega)
      obtain ⟨e', he'⟩ := Option.ne_none_iff_exists'.mp (H.wf.ctx_present u _ hne hreal)
      exact hD (c0 + k) (by omega) (by omega) ⟨e', he', Or.inr ⟨u, hreal⟩⟩)
  rw [List.append_assoc, List.take_append_drop] at hloc
  rw [hloc, ← entry_score H.tf u (c' ++ h.take c0) (by rw [hl1]; omega) hfound, ← he, Nat.add_sub_cancel_left]
  congr 1
  -- the back-offs of the contexts that were not offered vanish: those contexts are dead
  rw [rsum_zero_tail (lo := 0) (d := f) (e := e) (by
      intro j h1 h2
      show a.boW (c' ++ h.take c0 ++ (h.drop c0).take (j+1)) = 0
      rw [htk]
      exact boW_zero_of_dead (hD _ (by omega) (by omega)))]
  show rsum _ (c0 + 0) f = _
  rw [rsum_shift]
  apply rsum_congr
  intro j _ _
  show a.boW (c' ++ h.take (c0 + j + 1)) = a.boW (c' ++ h.take c0 ++ (h.drop c0).take (j+1))
  rw [htk, Nat.add_assoc]

/-- what one `ExtendLeft` call means, in the terms the loop invariants of `NonTerminal` / `ExtendLoop` use.
`g = u :: c'` is the pointer (the fragment's n-gram ending in `u`), `h` the outside history of which `nu` words
are offered, `c0` the number of them that matched.  `nu_le`, `back`, `dead` describe the buffer the call leaves for the
next pointer (`back`, `dead` are `hback`, `hD` of its `extendLeft_step`, the second half of `nu_le` gives its `hN`); `marked`, `unmarked` say where `next_use` ends. -/
structure ExtStep (a : Arpa) (T : Table) (R : Ptr → Rat) (u : Word) (c' h : List Word) (nu : Nat) (r : ExtRet) (c0 : Nat) : Prop where
  c0_le : c0 ≤ nu
  len_le : c'.length + 1 + c0 ≤ T.order
  found : T.lookup (u :: c' ++ h.take c0) ≠ none
  prob : r.prob + R (u :: c') = score a (c' ++ h) u
  len : r.ngramLength = c'.length + 1 + c0
  indep : r.independentLeft = (decide (c'.length + 1 + c0 = T.order) || decide (c0 < nu) || !T.xl (u :: c' ++ h.take c0))
  stop : c0 < nu → c'.length + 1 + c0 < T.order → T.lookup (u :: c' ++ h.take (c0+1)) = none
  rest : c'.length + 1 + c0 < T.order → r.rest + R (u :: c') = R (u :: c' ++ h.take c0)
  ptr : c'.length + 1 + c0 < T.order → r.extendLeft = u :: c' ++ h.take c0
  nu_le : r.nextUse ≤ c0 ∧ c'.length + 1 + r.nextUse ≤ T.order - 1
  back : r.backoffOut.take r.nextUse = (List.range r.nextUse).map (fun j => a.boW (u :: c' ++ h.take (j+1)))
  dead : ∀ k, r.nextUse < k → k ≤ h.length → ¬ live a (u :: c' ++ h.take k)
  marked : 0 < r.nextUse → T.xr (u :: c' ++ h.take r.nextUse) = true
  unmarked : ∀ k, r.nextUse < k → k ≤ c0 → c'.length + 1 + k ≤ T.order - 1 → T.xr (u :: c' ++ h.take k) = false

theorem extendLeft_found (R : Ptr → Rat) {g : Ptr} {tg : TEntry} (hg : T.lookup g = some tg) (hxl : tg.extendsLeft = true)
    (add : List Word) (back : List Rat) (n : Nat) (hn : g.length = n) :
    extendLeft T R add back g n =
      (let acc := resumeScore (restSearch T R) add (n - 1) g (startAcc R g tg [] n)
       { prob := acc.ret.prob + ((back.take add.length).drop (acc.ret.ngramLength - n)).sum - R g,
         rest := acc.ret.rest - R g, ngramLength := acc.ret.ngramLength, independentLeft := acc.ret.independentLeft,
         extendLeft := acc.ret.extendLeft, backoffOut := acc.backoffOut, nextUse := acc.nextUse - n }) := by
  subst hn
  have hf : (foundOf T R g).getD notFound = { toFound tg with rest := R g } := by simp [foundOf, hg]
  unfold extendLeft
  simp only [hf, toFound, hxl, startAcc]
  by_cases h1 : (g.length == 1) = true <;> simp [h1]

/-- after a call that matched `c0` of the `nu` offered words and left `next_use = nx`, no context longer than `nx`
words is live: it lacks the extends-right mark, is a highest-order n-gram, is not in the table, or was dead before -/
theorem ext_dead (H : Hyp a T) (u : Word) (c' h : List Word) (nu c0 nx : Nat)
    (hc0 : c0 ≤ nu) (hlen : c'.length + 1 + c0 ≤ T.order)
    (hD : ∀ k, nu < k → k ≤ h.length → ¬ live a (c' ++ h.take k))
    (hstop : c0 < nu → c'.length + 1 + c0 < T.order → T.lookup (u :: c' ++ h.take (c0+1)) = none)
    (hun : ∀ k, nx < k → k ≤ c0 → c'.length + 1 + k ≤ T.order - 1 → T.xr (u :: c' ++ h.take k) = false) :
    ∀ k, nx < k → k ≤ h.length → ¬ live a (u :: c' ++ h.take k) := by
  intro k hk1 hk2 hl
  have hlk : (u :: c' ++ h.take k).length = c'.length + 1 + k := by
    simp only [List.length_cons, List.length_append, List.length_take]; omega
  have hr := live_real hl
  have hle := H.wf.len_le _ hr
  rw [hlk, ← H.tf.order_eq] at hle
  by_cases hkc : k ≤ c0
  · by_cases hkm : c'.length + 1 + k ≤ T.order - 1
    · have := H.xr_of_live hl
      rw [hun k hk1 hkc hkm] at this; cases this
    · have := live_length_lt H.wf hl
      rw [hlk, ← H.tf.order_eq] at this
      omega
  · by_cases hlt : c0 < nu
    · have h0 := hstop hlt (by omega)
      have e : u :: c' ++ h.take k = (u :: c' ++ h.take (c0+1)) ++ (h.drop (c0+1)).take (k - (c0+1)) := by
        have : k = (c0 + 1) + (k - (c0+1)) := by omega
        conv => lhs; rw [this, List.take_add]
        simp
      rw [e] at hr
      exact H.real_in hr (lookup_none_extend H.ok _ _ (by simp) h0)
    · have hne := append_take_ne_nil c' (h := h) (k := k) (by omega) hk2
      exact dead_cons H.wf [u] _ hne (hD k (by omega) hk2) hl

/-- **one `ExtendLeft` call** on the pointer `u :: c'` with `nu` words of `h` on offer, given the buffer of the previous call
(`hback`, `hD`).  `hN` says pointer and offered words fit an n-gram (`≤ a.order`); `hgN` that the pointer itself is below the
highest order (`≤ a.order - 1`), as every left pointer is. -/
theorem extendLeft_step (H : Hyp a T) (R : Ptr → Rat) (u : Word) (c' h : List Word) (nu : Nat) (back : List Rat)
    (tg : TEntry) (hg : T.lookup (u :: c') = some tg) (hxl : tg.extendsLeft = true)
    (hnu : nu ≤ h.length) (hN : c'.length + 1 + nu ≤ a.order)
    (hgN : c'.length + 1 ≤ a.order - 1)
    (hback : back.take nu = (List.range nu).map (fun j => a.boW (c' ++ h.take (j+1))))
    (hD : ∀ k, nu < k → k ≤ h.length → ¬ live a (c' ++ h.take k)) :
    ∃ c0, ExtStep a T R u c' h nu (extendLeft T R (h.take nu) back (u :: c') (c'.length + 1)) c0 := by
  have hgl : (u :: c').length = c'.length + 1 := rfl
  -- the bounds over `T.order`, without truncated subtraction
  have hgN' : c'.length + 2 ≤ T.order := by have := H.wf.order_ge; rw [H.tf.order_eq]; omega
  have hN' : c'.length + 1 + nu ≤ T.order := by rw [H.tf.order_eq]; exact hN
  have haddl : (h.take nu).length = nu := by rw [List.length_take]; exact Nat.min_eq_left hnu
  have hgt : ∀ j, j ≤ nu → u :: c' ++ (h.take nu).take j = u :: c' ++ h.take j := fun j hj => by rw [take_take_of_le (l := h) hj]
  obtain ⟨c0, post⟩ := resume_start H.ok R (g := u :: c') (Nat.le_add_left 1 _) hg (by rw [hgl]; omega)
    (h.take nu) [] (c'.length + 1)
  rw [extendLeft_found R hg hxl (h.take nu) back (c'.length + 1) rfl]
  rw [hgl] at post
  generalize resumeScore (restSearch T R) (h.take nu) (c'.length + 1 - 1) (u :: c') (startAcc R (u :: c') tg [] (c'.length + 1)) = acc at post
  obtain ⟨nx, hnx, hnxm, hun, hma⟩ := post.nextUse_spec rfl
  rw [hgl] at hnx hnxm hun
  have hnx' : acc.nextUse - (c'.length + 1) = nx := by rw [hnx]; exact Nat.add_sub_cancel_left _ _
  have hnxc : nx ≤ c0 := Nat.le_trans hnxm (Nat.min_le_left _ _)
  have hnxN : c'.length + 2 + nx ≤ T.order := by have := Nat.le_trans hnxm (Nat.min_le_right _ _); omega
  clear hnxm hN hgN
  have hc0 : c0 ≤ nu := by have := post.c0_le; rwa [haddl] at this
  have hlenle : c'.length + 1 + c0 ≤ T.order := post.len_le
  have hstop : c0 < nu → c'.length + 1 + c0 < T.order → T.lookup (u :: c' ++ h.take (c0+1)) = none := by
    intro h1 h2
    have := post.stop (by rw [haddl]; exact h1) h2
    rwa [hgt (c0+1) h1] at this
  have hun' : ∀ k, nx < k → k ≤ c0 → c'.length + 1 + k ≤ T.order - 1 → T.xr (u :: c' ++ h.take k) = false := by
    intro k h1 h2 h3
    have := hun k h1 (Nat.le_min.mpr ⟨h2, by omega⟩)
    rwa [hgt k (Nat.le_trans h2 hc0)] at this
  obtain ⟨t, ht, hp⟩ := post.found
  rw [hgt c0 hc0] at ht
  refine ⟨c0, ⟨hc0, hlenle, by rw [ht]; simp, ?_, post.len, ?_, hstop, ?_, ?_, ?_, ?_, ?_, ?_, ?_⟩⟩
  · show acc.ret.prob + ((back.take (h.take nu).length).drop (acc.ret.ngramLength - (c'.length + 1))).sum - R (u :: c') +
      R (u :: c') = _
    rw [post.len, hgl, haddl, hp, hback, Nat.add_sub_cancel_left, sum_drop_range_map,
      ← ext_score H u c' h nu c0 t hnu (by rw [← H.tf.order_eq]; omega) hD hc0 ht (fun hlt => hstop hlt (by omega))]
    exact Rat.sub_add_cancel
  · show acc.ret.independentLeft = _
    rw [post.indep, hgl, haddl, hgt c0 hc0]
  · intro h1
    show acc.ret.rest - R (u :: c') + R (u :: c') = _
    rw [post.rest, hgl, if_neg (Nat.ne_of_lt h1), hgt c0 hc0]
    exact Rat.sub_add_cancel
  · intro h1
    show acc.ret.extendLeft = _
    rw [post.ptr h1, hgt c0 hc0]
  · show acc.nextUse - (c'.length + 1) ≤ c0 ∧ c'.length + 1 + (acc.nextUse - (c'.length + 1)) ≤ T.order - 1
    rw [hnx']; omega
  · show acc.backoffOut.take (acc.nextUse - (c'.length + 1)) = (List.range (acc.nextUse - (c'.length + 1))).map _
    rw [hnx', post.bo, hgl]
    show ([] ++ (List.range _).map _).take nx = _
    rw [List.nil_append, ← List.map_take, List.take_range, Nat.min_eq_left (Nat.le_min.mpr ⟨hnxc, by omega⟩)]
    apply List.map_congr_left
    intro j hj
    have hj' : j < nx := by simpa using hj
    rw [hgt (j+1) (by omega), H.tf.bo_eq]
  · show ∀ k, acc.nextUse - (c'.length + 1) < k → k ≤ h.length → ¬ live a (u :: c' ++ h.take k)
    rw [hnx']
    exact ext_dead H u c' h nu c0 nx hc0 hlenle hD hstop hun'
  · show 0 < acc.nextUse - (c'.length + 1) → T.xr (u :: c' ++ h.take (acc.nextUse - (c'.length + 1))) = true
    rw [hnx']
    intro h1
    have := hma h1
    rwa [hgt nx (by omega)] at this
  · show ∀ k, acc.nextUse - (c'.length + 1) < k → k ≤ c0 → c'.length + 1 + k ≤ T.order - 1 → _
    rw [hnx']; exact hun'

theorem ExtStep.no_ext_of_indep (H : Hyp a T) {R : Ptr → Rat} {u : Word} {c' h : List Word} {r : ExtRet} {c0 : Nat}
    (hs : ExtStep a T R u c' h h.length r c0) (hind : r.independentLeft = true) (x : Word) :
    T.lookup (u :: c' ++ h ++ [x]) = none :=
  KV.Left.no_ext_of_indep H.ok (List.cons_ne_nil u c') hs.c0_le hs.stop hs.found (hs.indep ▸ hind) x

theorem ExtStep.pushed {R : Ptr → Rat} {u : Word} {c' h : List Word} {r : ExtRet} {c0 : Nat}
    (hs : ExtStep a T R u c' h h.length r c0) (hind : r.independentLeft = false) :
    c'.length + 1 + h.length < T.order ∧ T.xl (u :: c' ++ h) = true ∧ r.extendLeft = u :: c' ++ h ∧
    r.rest + R (u :: c') = R (u :: c' ++ h) ∧ (r.nextUse ≠ h.length → T.xr (u :: c' ++ h) = false) := by
  obtain ⟨hc, hlt, hi3⟩ := pushed_of_indep (hs.indep.symm.trans hind) hs.c0_le hs.len_le
  have hptr := hs.ptr hlt
  have hrest := hs.rest hlt
  rw [hc, List.take_of_length_le (Nat.le_refl _)] at hi3 hptr hrest
  refine ⟨by omega, hi3, hptr, hrest, fun hne => ?_⟩
  have := hs.unmarked h.length (by have := hs.nu_le.1; omega) (by omega) (by omega)
  rwa [List.take_of_length_le (Nat.le_refl _)] at this

end KV.Left
