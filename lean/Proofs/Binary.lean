import Model.Binary
import Proofs.Basics
/-! Lemmas for C04 about `Model/Binary.lean`: the header bytes read back, `Size` against `SetupMemory`, the regions a search
hands out, the parameters stored inside the search area; closed forms of the quantiser tables' and a middle block's positions
(`quantTables_getD`, `mkMiddle_pos`), which the trie layout proofs use. -/
namespace KV.Binary
open KV.Gen.C04 KV.Bits

theorem length_leBytes (w v : Nat) : (leBytes w v).length = w := by
  induction w generalizing v with
  | zero => rfl
  | succ n ih => simp [leBytes, ih]

theorem ofLe_leBytes (w v : Nat) (h : v < 256^w) : ofLe (leBytes w v) = v := by
  induction w generalizing v with
  | zero => simp at h; simp [leBytes, ofLe, h]
  | succ n ih =>
    simp only [leBytes, ofLe]
    have : v / 256 < 256^n := by
      rw [Nat.div_lt_iff_lt_mul (by decide)]; rw [Nat.pow_succ] at h; exact h
    rw [ih _ this]; exact Nat.mod_add_div v 256

/-- the fields fit the widths `FixedWidthParameters` gives them: `unsigned char order`, 32-bit multiplier pattern, model type and
search version -/
structure FixedWF (f : Fixed) : Prop where
  order : f.order < 256
  mult : f.multBits < 2^32
  ty : f.modelType < 2^32
  ver : f.searchVersion < 2^32

theorem length_fixedBytes (f : Fixed) : (fixedBytes f).length = sizeofFixed := by
  simp [fixedBytes, length_leBytes, zeros, sizeofFixed, offMultiplier, sizeofModelType, offSearchVersion, offHasVocab, sizeofSearchVersion]

theorem readFixed_fixedBytes (f : Fixed) (h : FixedWF f) (tail : List Nat) :
    readFixed (fixedBytes f ++ tail) = some f := by
  obtain ⟨o, m, t, hv, v⟩ := f
  obtain ⟨ho, hm, ht, hver⟩ := h
  have hl : ¬ (fixedBytes ⟨o, m, t, hv, v⟩ ++ tail).length < sizeofFixed := by simp [length_fixedBytes]
  rw [readFixed, if_neg hl]
  -- every field is found by skipping the segments in front of it, whose lengths add up to its offset
  simp only [fixedBytes, List.append_assoc, offOrder, offMultiplier, offModelType, offHasVocab, offSearchVersion,
    sizeofModelType, sizeofSearchVersion, zeros, drop_append_of_length_le, length_leBytes, List.length_replicate,
    List.drop_zero, List.take_left', Nat.reduceSub, Nat.reduceLeDiff]
  rw [ofLe_leBytes 1 o ho, ofLe_leBytes 4 m hm, ofLe_leBytes 4 t ht, ofLe_leBytes 4 v hver]
  cases hv <;> simp [leBytes, ofLe]

theorem readCounts_countsBytes (cs : List Nat) (h : ∀ c ∈ cs, c < 2^64) (tail : List Nat) :
    readCounts cs.length (countsBytes cs ++ tail) = some cs := by
  induction cs with
  | nil => simp [readCounts]
  | cons c cs ih =>
    have hl : ¬ (leBytes 8 c ++ (countsBytes cs ++ tail)).length < 8 := by simp [length_leBytes]
    rw [show countsBytes (c :: cs) ++ tail = leBytes 8 c ++ (countsBytes cs ++ tail) by simp [countsBytes],
      List.length_cons, readCounts, if_neg hl, List.drop_left' (length_leBytes 8 c), List.take_left' (length_leBytes 8 c),
      ih fun x hx => h x (List.mem_cons_of_mem _ hx), ofLe_leBytes 8 c (h c List.mem_cons_self)]

theorem length_countsBytes (cs : List Nat) : (countsBytes cs).length = sizeofCount * cs.length := by
  induction cs with
  | nil => rfl
  | cons c cs ih =>
    rw [countsBytes, List.flatMap_cons, List.length_append, length_leBytes, ← countsBytes, ih, List.length_cons,
      Nat.mul_succ, Nat.add_comm]
    rfl

structure ParamsWF (p : Params) : Prop where
  fixed : FixedWF p.fixed
  len : p.counts.length = p.fixed.order
  counts : ∀ c ∈ p.counts, c < 2^64
  mult : floatNotGeOne p.fixed.multBits = false

theorem sanity_eq_ref : sanityBytes = sanityRef := by decide +kernel
theorem sanity_length : sanityBytes.length = sizeofSanity := sanity_eq_ref ▸ (by decide : sanityRef.length = sizeofSanity)

theorem align8_ge (a : Nat) : a ≤ align8 a := by unfold align8; omega
theorem align8_mod (a : Nat) : align8 a % 8 = 0 := Nat.mul_mod_left _ 8
-- stated for its own sake: nothing uses it
theorem align8_lt (a : Nat) (h : 1 ≤ a) : align8 a < a + 8 := by unfold align8; omega

theorem totalHeaderSize_ge (order : Nat) : sizeofSanity + sizeofFixed + sizeofCount * order ≤ totalHeaderSize order :=
  align8_ge _

theorem magicIncomplete_not_prefix : ¬ magicIncomplete <+: sanityRef := by decide +kernel

theorem length_incompleteHeader (order : Nat) : (incompleteHeader order).length = totalHeaderSize order := by
  have h : magicIncomplete.length ≤ totalHeaderSize order :=
    Nat.le_trans (Nat.le_trans (by decide : magicIncomplete.length ≤ sizeofSanity + sizeofFixed) (Nat.le_add_right _ _))
      (totalHeaderSize_ge order)
  rw [incompleteHeader, List.length_append, zeros, List.length_replicate, Nat.add_sub_cancel' h]

theorem recognize_incomplete (order : Nat) (rest : List Nat) :
    recognize (incompleteHeader order ++ rest) = .errFormat := by
  have hp : magicIncomplete <+: incompleteHeader order ++ rest :=
    (List.prefix_append magicIncomplete _).trans (List.prefix_append _ rest)
  have h1 : ¬ (incompleteHeader order ++ rest).length ≤ sizeofSanity := by
    rw [List.length_append, length_incompleteHeader]
    exact Nat.not_le.mpr (Nat.lt_of_lt_of_le (Nat.lt_of_lt_of_le
      (Nat.lt_of_lt_of_le (by decide : sizeofSanity < sizeofSanity + sizeofFixed) (Nat.le_add_right _ _))
      (totalHeaderSize_ge order)) (Nat.le_add_right _ _))
  have h2 : ¬ (incompleteHeader order ++ rest).take sizeofSanity = sanityRef := fun hc =>
    magicIncomplete_not_prefix (hc ▸ List.prefix_take_iff.mpr ⟨hp, by decide⟩)
  rw [recognize, if_neg h1, if_neg h2, if_pos (List.isPrefixOf_iff_prefix.mpr hp)]

theorem kind_numbers (k : Kind) : Kind.ofNum k.typeNum = some k ∧ k.typeNum < numModelNames ∧ k.searchVersion < 2^32 := by
  cases k with
  | probing r => cases r <;> decide
  | trie q a => cases q <;> cases a <;> decide

/-- the blocks a `SetupMemory` loop hands out: the block of `n` begins where the one before it ended -/
def allocs {β} (size : Nat → Nat) (mk : Nat → Nat → β) : List Nat → Nat → List β
  | [], _ => []
  | n :: ns, s => mk n s :: allocs size mk ns (s + size n)

theorem allocs_range' {β} (size : Nat → Nat) (mk : Nat → Nat → β) : ∀ m s0 s,
    allocs size mk (List.range' s0 m) s = (List.range m).map fun t => mk (s0 + t) (s + ((List.range' s0 t).map size).sum) := by
  intro m
  induction m with
  | zero => intro s0 s; rfl
  | succ m ih =>
    intro s0 s
    rw [List.range'_succ, allocs, ih, List.range_succ_eq_map, List.map_cons, List.map_map]
    refine congrArg (mk s0 s :: ·) (List.map_congr_left fun t _ => ?_)
    show mk (s0 + 1 + t) (s + size s0 + _) = mk (s0 + (t + 1)) (s + ((List.range' s0 (t + 1)).map size).sum)
    rw [List.range'_succ, List.map_cons, List.sum_cons, Nat.add_assoc s0, Nat.add_comm 1, Nat.add_assoc s]

theorem hashedMiddleLoop_eq (rest : Bool) (cfg : Config) (counts : List Nat) (ns : List Nat) : ∀ s acc,
    hashedMiddleLoop rest cfg counts ns s acc =
      (s + (ns.map fun n => probingTableSize (hashedMiddleEntry rest) cfg.multBits (cnt counts (n - 1))).sum,
       acc.reverse ++ allocs (fun n => probingTableSize (hashedMiddleEntry rest) cfg.multBits (cnt counts (n - 1)))
         (fun n s => (s, probingBuckets cfg.multBits (cnt counts (n - 1)))) ns s) := by
  induction ns with
  | nil => intro s acc; simp [hashedMiddleLoop, allocs]
  | cons n ns ih => intro s acc; simp [hashedMiddleLoop, allocs, ih, Nat.add_assoc]

theorem hashed_size_eq_setup (rest : Bool) (cfg : Config) (counts : List Nat) (start : Nat) :
    (hashedSetup rest cfg counts start).stop = start + hashedSize rest cfg counts := by
  unfold hashedSetup hashedSize
  dsimp only
  rw [hashedMiddleLoop_eq]
  rw [map_pred_range' (fun n _ => probingTableSize (hashedMiddleEntry rest) cfg.multBits (cnt counts n)) (counts.length - 2) 1]
  simp only [Nat.add_assoc]

theorem trieMiddleLoop_eq (quant array : Bool) (cfg : Config) (counts : List Nat) (is : List Nat) : ∀ s acc,
    trieMiddleLoop quant array cfg counts is s acc =
      (s + (is.map fun i => middleSize array cfg (middleBits quant cfg) (cnt counts (i - 1)) (cnt counts 0) (cnt counts i)).sum,
       acc.reverse ++ allocs (fun i => middleSize array cfg (middleBits quant cfg) (cnt counts (i - 1)) (cnt counts 0) (cnt counts i))
         (fun i s => mkMiddle array cfg (middleBits quant cfg) (cnt counts (i - 1)) (cnt counts 0) (cnt counts i) s) is s) := by
  induction is with
  | nil => intro s acc; simp [trieMiddleLoop, allocs]
  | cons n ns ih => intro s acc; simp [trieMiddleLoop, allocs, ih, Nat.add_assoc]

theorem trie_size_eq_setup (quant array : Bool) (cfg : Config) (counts : List Nat) (start : Nat) :
    (trieSetup quant array cfg counts start).stop = start + trieSize quant array cfg counts := by
  unfold trieSetup trieSize
  dsimp only
  rw [trieMiddleLoop_eq]
  rw [map_pred_range' (fun a b => middleSize array cfg (middleBits quant cfg) (cnt counts a) (cnt counts 0) (cnt counts b))
    (counts.length - 2) 1]
  simp only [Nat.add_assoc]

theorem search_size_eq_setup (k : Kind) (cfg : Config) (counts : List Nat) (start : Nat) :
    searchSetupEnd k cfg counts start = start + searchSize k cfg counts := by
  cases k with
  | probing r => exact hashed_size_eq_setup r cfg counts start
  | trie q a => exact trie_size_eq_setup q a cfg counts start

/-- regions `(start, size)` tile `[s, e)` in the given order, without gaps or overlaps -/
def Consecutive : Nat → List (Nat × Nat) → Nat → Prop
  | s, [], e => s = e
  | s, (a, n) :: r, e => a = s ∧ Consecutive (s + n) r e

theorem Consecutive_append {s m e : Nat} {l1 l2 : List (Nat × Nat)} :
    Consecutive s l1 m → Consecutive m l2 e → Consecutive s (l1 ++ l2) e := by
  induction l1 generalizing s with
  | nil => intro h1 h2; simp [Consecutive] at h1; subst h1; simpa using h2
  | cons x l ih =>
    obtain ⟨a, n⟩ := x
    intro h1 h2
    simp only [Consecutive, List.cons_append] at h1 ⊢
    exact ⟨h1.1, ih h1.2 h2⟩

theorem Consecutive_single (s n : Nat) : Consecutive s [(s, n)] (s + n) := by simp [Consecutive]

theorem Consecutive_allocs {β} {size : Nat → Nat} {mk : Nat → Nat → β} {regions : β → List (Nat × Nat)}
    (h : ∀ n a, Consecutive a (regions (mk n a)) (a + size n)) :
    ∀ ns s, Consecutive s ((allocs size mk ns s).flatMap regions) (s + (ns.map size).sum)
  | [], _ => rfl
  | n :: ns, s => by
    rw [allocs, List.flatMap_cons, List.map_cons, List.sum_cons, ← Nat.add_assoc]
    exact Consecutive_append (h n s) (Consecutive_allocs h ns _)

def hashedRegionList (rest : Bool) (counts : List Nat) (r : HashedRegions) : List (Nat × Nat) :=
  [(r.unigram, hashedUnigramSize rest (cnt counts 0))]
    ++ r.middles.map (fun m => (m.1, m.2 * hashedMiddleEntry rest))
    ++ [(r.longest.1, r.longest.2 * sizeofProbEntry)]

def trieRegionList (quant : Bool) (cfg : Config) (counts : List Nat) (r : TrieRegions) : List (Nat × Nat) :=
  [(r.quant, quantSize quant counts.length cfg), (r.unigram, trieUnigramSize (cnt counts 0))]
    ++ r.middles.flatMap (fun m => [(m.start, m.bhikshaBytes), (m.packed, m.packedBytes)])
    ++ [(r.longest.1, longestSize (longestBits quant cfg) (cnt counts (counts.length - 1)) (cnt counts 0))]

theorem alignTo8_spec (a : Nat) : a ≤ alignTo8 a ∧ alignTo8 a < a + 8 ∧ alignTo8 a % 8 = 0 := by
  unfold alignTo8
  split
  · next h => exact ⟨Nat.le_refl a, Nat.lt_add_of_pos_right (Nat.succ_pos 7), h⟩
  · omega

/-- the ArrayBhiksha offset table (8-byte header word, then `count` aligned 64-bit entries) lies inside its block for
every alignment of the block start: the `+ 7` in `ArrayBhiksha::Size` is enough. -/
theorem array_table_fits (cfg : Config) (qb entries maxVocab maxNext start : Nat) :
    let m := mkMiddle true cfg qb entries maxVocab maxNext start
    m.start + sizeofUint64 ≤ m.offBegin ∧ m.offBegin % 8 = 0 ∧ m.offEnd ≤ m.packed
      ∧ m.offEnd = m.offBegin + sizeofUint64 * arrayCount (entries + 1) maxNext cfg.bhikshaBits := by
  obtain ⟨h1, h2, h3⟩ := alignTo8_spec start
  refine ⟨Nat.add_le_add_right h1 _, (Nat.add_mod_right _ _).trans h3, ?_, rfl⟩
  show alignTo8 start + sizeofUint64 + sizeofUint64 * arrayCount (entries + 1) maxNext cfg.bhikshaBits
    ≤ start + (sizeofUint64 * (1 + arrayCount (entries + 1) maxNext cfg.bhikshaBits) + arrayBhikshaSlack)
  simp only [sizeofUint64, arrayBhikshaSlack]
  omega

theorem chopLoop_mem (maxOffset maxNext required : Nat) (l : List Nat) : ∀ best : Nat × Int,
    (chopLoop maxOffset maxNext required l best).1 = best.1 ∨ (chopLoop maxOffset maxNext required l best).1 ∈ l := by
  induction l with
  | nil => intro best; simp [chopLoop]
  | cons c l ih =>
    intro best
    simp only [chopLoop]
    by_cases hc : chopChange maxOffset maxNext required c < best.2
    · rw [if_pos hc]
      rcases ih (c, chopChange maxOffset maxNext required c) with h | h
      · right; rw [h]; simp
      · right; exact List.mem_cons_of_mem _ h
    · rw [if_neg hc]
      rcases ih best with h | h
      · left; exact h
      · right; exact List.mem_cons_of_mem _ h

theorem inlineBits_le (array : Bool) (maxOffset maxNext bhikshaBits : Nat) :
    inlineBits array maxOffset maxNext bhikshaBits ≤ requiredBits maxNext := by
  unfold inlineBits
  split
  · exact Nat.sub_le _ _
  · exact Nat.le_refl _

theorem sortedVocabSize_succ (n : Nat) : sortedVocabSize (n + 1) = sortedVocabSize n + sizeofUint64 := by
  rw [sortedVocabSize, sortedVocabSize, Nat.mul_succ, Nat.add_assoc]

theorem sortedVocabSize_mod (n : Nat) : sortedVocabSize n % 8 = 0 := by
  simp [sortedVocabSize, sizeofUint64]

theorem totalHeaderSize_mod (o : Nat) : totalHeaderSize o % 8 = 0 := align8_mod _

/-- the trie search structure starts 8-aligned in the file (so `AlignTo8` on addresses of a page-aligned mapping or of a
separately allocated aligned search block agrees with `AlignTo8` on file offsets, and the unigram `uint64` fields are aligned) -/
theorem trie_search_aligned (q a : Bool) (cfg : Config) (arpa fixed : List Nat) (sawUnk includeVocab : Bool) (stringsLen : Nat) :
    (writeLayout (.trie q a) cfg arpa fixed sawUnk includeVocab stringsLen).search % 8 = 0 := by
  have h3 : unkPadding (.trie q a) sawUnk % 8 = 0 := by cases sawUnk <;> simp [unkPadding, Kind.isTrie, sizeofUint64]
  exact Nat.mod_eq_zero_of_dvd (Nat.dvd_add (Nat.dvd_add (Nat.dvd_of_mod_eq_zero (totalHeaderSize_mod arpa.length))
    (Nat.dvd_of_mod_eq_zero (sortedVocabSize_mod (cnt arpa 0)))) (Nat.dvd_of_mod_eq_zero h3))

theorem length_storedCounts (k : Kind) {arpa fixed : List Nat} (hlen : fixed.length = arpa.length) :
    (storedCounts k arpa fixed).length = arpa.length := by
  cases k with
  | probing r => rfl
  | trie q a => exact hlen

/-- the vocabulary lookup sized from the stored counts is the writer's lookup plus its padding: the trie's fixed counts
count `<unk>`, which the ARPA header counts may lack -/
theorem vocabSize_stored (k : Kind) (cfg : Config) (arpa fixed : List Nat) (sawUnk : Bool)
    (h0 : k.isTrie = true → cnt fixed 0 = cnt arpa 0 + (if sawUnk then 0 else 1)) :
    vocabSize k cfg (cnt (storedCounts k arpa fixed) 0) = vocabSize k cfg (cnt arpa 0) + unkPadding k sawUnk := by
  cases k with
  | probing r => rfl
  | trie q a =>
    show sortedVocabSize (cnt fixed 0) = sortedVocabSize (cnt arpa 0) + unkPadding (.trie q a) sawUnk
    rw [h0 rfl]
    cases sawUnk with
    | true => rfl
    | false => exact sortedVocabSize_succ _

/-- two configurations agree on everything the layout of a `TrieSearch<quant, array>` of `len` orders reads (a trie of at most
two orders has no middle array, so no Bhiksha header is stored or read) -/
def CfgAgree (q a : Bool) (len : Nat) (c1 c2 : Config) : Prop :=
  (q = true → c1.probBits = c2.probBits ∧ c1.backoffBits = c2.backoffBits) ∧
  (a = true → len > 2 → c1.bhikshaBits = c2.bhikshaBits)

section
variable {q : Bool} {c1 c2 : Config} (hq : q = true → c1.probBits = c2.probBits ∧ c1.backoffBits = c2.backoffBits)
include hq

theorem quantSize_congr (o : Nat) : quantSize q o c1 = quantSize q o c2 := by
  cases q with
  | false => rfl
  | true => obtain ⟨h1, h2⟩ := hq rfl; simp [quantSize, h1, h2]

theorem middleBits_congr : middleBits q c1 = middleBits q c2 := by
  cases q with
  | false => rfl
  | true => obtain ⟨h1, h2⟩ := hq rfl; simp [middleBits, h1, h2]

theorem longestBits_congr : longestBits q c1 = longestBits q c2 := by
  cases q with
  | false => rfl
  | true => exact (hq rfl).1

omit hq in
theorem quantTableLoop_congr (h1 : c1.probBits = c2.probBits) (h2 : c1.backoffBits = c2.backoffBits) (n : Nat) :
    ∀ s acc, quantTableLoop c1 n s acc = quantTableLoop c2 n s acc := by
  induction n with
  | zero => intro s acc; rfl
  | succ n ih => intro s acc; simp [quantTableLoop, h1, h2, ih]

theorem quantTables_congr (o s : Nat) : quantTables q o c1 s = quantTables q o c2 s := by
  cases q with
  | false => rfl
  | true => simp [quantTables, quantTableLoop_congr (hq rfl).1 (hq rfl).2]

end

section
variable {a : Bool} {c1 c2 : Config} (ha : a = true → c1.bhikshaBits = c2.bhikshaBits)
include ha

theorem mkMiddle_congr (quantBits entries maxVocab maxNext start : Nat) :
    mkMiddle a c1 quantBits entries maxVocab maxNext start = mkMiddle a c2 quantBits entries maxVocab maxNext start := by
  cases a with
  | false => simp [mkMiddle, inlineBits, bhikshaSize]
  | true => simp [mkMiddle, ha rfl]

theorem middleSize_congr (quantBits entries maxVocab maxNext : Nat) :
    middleSize a c1 quantBits entries maxVocab maxNext = middleSize a c2 quantBits entries maxVocab maxNext := by
  cases a with
  | false => simp [middleSize, inlineBits, bhikshaSize]
  | true => simp [middleSize, ha rfl]

end

theorem trieSetup_congr {q a : Bool} {counts : List Nat} {c1 c2 : Config} (h : CfgAgree q a counts.length c1 c2) (s : Nat) :
    trieSetup q a c1 counts s = trieSetup q a c2 counts s := by
  unfold trieSetup
  dsimp only
  rw [quantSize_congr h.1, quantTables_congr h.1, longestBits_congr h.1]
  by_cases hl : counts.length > 2
  · simp only [trieMiddleLoop_eq, middleBits_congr h.1, middleSize_congr fun ha => h.2 ha hl, mkMiddle_congr fun ha => h.2 ha hl]
  · have : counts.length - 2 = 0 := by omega
    simp [this, trieMiddleLoop]

theorem trieSize_congr {q a : Bool} {counts : List Nat} {c1 c2 : Config} (h : CfgAgree q a counts.length c1 c2) :
    trieSize q a c1 counts = trieSize q a c2 counts := by
  have h1 := trie_size_eq_setup q a c1 counts 0
  have h2 := trie_size_eq_setup q a c2 counts 0
  rw [trieSetup_congr h] at h1
  exact Nat.add_left_cancel (h1.symm.trans h2)

/-- first middle region of a trie with more than two orders: where `Bhiksha::UpdateConfigFromBinary` must read -/
theorem trieSetup_first_middle (q a : Bool) (cfg : Config) (counts : List Nat) (s : Nat) (hl : counts.length > 2) :
    ∃ m ms, (trieSetup q a cfg counts s).middles = m :: ms ∧
      m.start = s + quantSize q counts.length cfg + trieUnigramSize (cnt counts 0) := by
  obtain ⟨k, hk⟩ : ∃ k, counts.length - 2 = k + 1 := ⟨counts.length - 3, by omega⟩
  simp only [trieSetup, hk, List.range'_succ, trieMiddleLoop_eq, allocs]
  exact ⟨_, _, rfl, rfl⟩

theorem quantHeader_stored (a : Bool) (cfg : Config) (counts : List Nat) (s : Nat) :
    ∀ p ∈ [(s, separatelyQuantizeVersion), (s + 1, cfg.probBits % 256), (s + 2, cfg.backoffBits % 256)],
      p ∈ storedParamBytes (.trie true a) cfg counts s :=
  fun _ hp => List.mem_append_left _ hp

theorem bhikshaHeader_stored (q : Bool) (cfg : Config) (counts : List Nat) (s : Nat) (hl : counts.length > 2) :
    ∀ p ∈ [(s + quantSize q counts.length cfg + trieUnigramSize (cnt counts 0), arrayBhikshaVersion),
           (s + quantSize q counts.length cfg + trieUnigramSize (cnt counts 0) + 1, cfg.bhikshaBits % 256)],
      p ∈ storedParamBytes (.trie q true) cfg counts s := by
  obtain ⟨m, ms, hm, hs⟩ := trieSetup_first_middle q true cfg counts s hl
  intro p hp
  refine List.mem_append_right _ ?_
  simp only [if_true, hm, List.flatMap_cons, hs]
  exact List.mem_append_left _ hp

/-- `UpdateConfigFromBinary` re-reads exactly the parameters that `FinishedLoading` stored: for a file whose bytes at the
positions of `storedParamBytes` are the written ones, a loader starting from any configuration `cfg0` ends with a
configuration that agrees with the builder's on everything the layout depends on. -/
theorem stored_params_agree (q a : Bool) (cfg cfg0 : Config) (stored : List Nat) (rd : Nat → Nat)
    (hp : cfg.probBits < 256) (hb : cfg.backoffBits < 256) (hh : cfg.bhikshaBits < 256)
    (hrd : ∀ p ∈ storedParamBytes (.trie q a) cfg stored
        (totalHeaderSize stored.length + vocabSize (.trie q a) cfg (cnt stored 0)), rd p.1 = p.2) :
    ∃ cfg', updateConfigFromBinary (.trie q a) rd stored cfg0 = .ok cfg' ∧ CfgAgree q a stored.length cfg' cfg := by
  have hv : ∀ c : Config, vocabSize (.trie q a) c (cnt stored 0) = sortedVocabSize (cnt stored 0) := fun _ => rfl
  simp only [updateConfigFromBinary, hv] at hrd ⊢
  generalize totalHeaderSize stored.length + sortedVocabSize (cnt stored 0) = off at hrd ⊢
  obtain ⟨c1, hc1, hq⟩ : ∃ c1, (if q = true then
        if rd off ≠ separatelyQuantizeVersion then Except.error LoadErr.quantVersion
        else .ok { cfg0 with probBits := rd (off + 1), backoffBits := rd (off + 2) }
      else .ok cfg0) = .ok c1 ∧ (q = true → c1.probBits = cfg.probBits ∧ c1.backoffBits = cfg.backoffBits) := by
    cases q with
    | false => exact ⟨cfg0, rfl, fun h => nomatch h⟩
    | true =>
      have h := fun p hp => hrd p (quantHeader_stored a cfg stored off p hp)
      simp only [List.forall_mem_cons, Nat.mod_eq_of_lt hp, Nat.mod_eq_of_lt hb] at h
      exact ⟨_, by rw [if_pos rfl, if_neg (fun hne => hne h.1)], fun _ => ⟨h.2.1, h.2.2.1⟩⟩
  rw [hc1]
  dsimp only
  by_cases hc : a = true ∧ stored.length > 2
  · -- the Bhiksha header is read where the builder put it, since the quantiser block has the builder's size
    obtain ⟨rfl, hl⟩ := hc
    have h := fun p hp => hrd p (bhikshaHeader_stored q cfg stored off hl p hp)
    simp only [List.forall_mem_cons, Nat.mod_eq_of_lt hh] at h
    have hqs : quantSize q stored.length c1 = quantSize q stored.length cfg := quantSize_congr hq _
    simp only [hl, and_self, if_true, hqs, h.1, ne_eq, not_true_eq_false, if_false]
    exact ⟨_, rfl, hq, fun _ _ => h.2.1⟩
  · rw [if_neg hc]
    exact ⟨c1, rfl, hq, fun ha hl => absurd ⟨ha, hl⟩ hc⟩

def probTabBytes (cfg : Config) : Nat := 2^cfg.probBits * Gen.C04.sizeofFloat
def orderTabsBytes (cfg : Config) : Nat := probTabBytes cfg + 2^cfg.backoffBits * Gen.C04.sizeofFloat

theorem quantTableLoop_closed (cfg : Config) : ∀ n s acc,
    quantTableLoop cfg n s acc =
      (s + n * orderTabsBytes cfg, acc.reverse ++ (List.range n).flatMap (fun t => [s + t * orderTabsBytes cfg, s + t * orderTabsBytes cfg + probTabBytes cfg])) := by
  intro n
  induction n with
  | zero => intro s acc; simp [quantTableLoop]
  | succ n ih =>
    intro s acc
    simp only [quantTableLoop]
    rw [ih]
    have key : ∀ x, s + 2 ^ cfg.probBits * Gen.C04.sizeofFloat + 2 ^ cfg.backoffBits * Gen.C04.sizeofFloat + x = s + orderTabsBytes cfg + x := by
      intro x; simp only [orderTabsBytes, probTabBytes]; omega
    have hA : 2 ^ cfg.probBits * Gen.C04.sizeofFloat = probTabBytes cfg := rfl
    refine Prod.ext ?_ ?_
    · simp only [key]; rw [Nat.succ_mul]; omega
    · have hfun : (fun t => [s + orderTabsBytes cfg + t * orderTabsBytes cfg, s + orderTabsBytes cfg + t * orderTabsBytes cfg + probTabBytes cfg])
          = (fun t => [s + Nat.succ t * orderTabsBytes cfg, s + Nat.succ t * orderTabsBytes cfg + probTabBytes cfg]) := by
        funext t
        have : s + orderTabsBytes cfg + t * orderTabsBytes cfg = s + Nat.succ t * orderTabsBytes cfg := by rw [Nat.succ_mul]; omega
        rw [this]
      simp only [key]
      simp only [hA, hfun, List.reverse_cons, List.append_assoc, List.range_succ_eq_map, List.flatMap_cons, List.flatMap_map,
        List.cons_append, List.nil_append, Nat.zero_mul, Nat.add_zero]

theorem pairs_getD (a b : Nat → Nat) : ∀ n,
    ((List.range n).flatMap fun t => [a t, b t]).length = 2 * n ∧
    ∀ t, t < n → ((List.range n).flatMap fun t => [a t, b t])[2 * t]? = some (a t) ∧
      ((List.range n).flatMap fun t => [a t, b t])[2 * t + 1]? = some (b t) := by
  intro n
  induction n with
  | zero => simp
  | succ n ih =>
    obtain ⟨hl, hg⟩ := ih
    rw [List.range_succ, List.flatMap_append]
    simp only [List.flatMap_cons, List.flatMap_nil, List.append_nil]
    refine ⟨by simp [hl]; omega, ?_⟩
    intro t ht
    by_cases h : t < n
    · obtain ⟨g1, g2⟩ := hg t h
      rw [List.getElem?_append_left (by omega), List.getElem?_append_left (by omega)]
      exact ⟨g1, g2⟩
    · have : t = n := by omega
      subst this
      rw [List.getElem?_append_right (by omega), List.getElem?_append_right (by omega), hl]
      simp

/-- `8` is `Gen.C04.quantHeaderBytes` -/
theorem quantTables_getD (order : Nat) (cfg : Config) (start : Nat) :
    (∀ t, t + 2 < order → (quantTables true order cfg start).getD (2 * t) 0 = start + 8 + t * orderTabsBytes cfg ∧
      (quantTables true order cfg start).getD (2 * t + 1) 0 = start + 8 + t * orderTabsBytes cfg + probTabBytes cfg) ∧
    (quantTables true order cfg start).getD (2 * (order - 2)) 0 = start + 8 + (order - 2) * orderTabsBytes cfg := by
  simp only [quantTables, if_true, quantTableLoop_closed, List.reverse_nil, List.nil_append, Gen.C04.quantHeaderBytes]
  obtain ⟨hl, hg⟩ := pairs_getD (fun t => start + 8 + t * orderTabsBytes cfg) (fun t => start + 8 + t * orderTabsBytes cfg + probTabBytes cfg) (order - 2)
  refine ⟨?_, ?_⟩
  · intro t ht
    obtain ⟨g1, g2⟩ := hg t (by omega)
    rw [List.getD_eq_getElem?_getD, List.getD_eq_getElem?_getD, List.getElem?_append_left (by omega),
      List.getElem?_append_left (by omega), g1, g2]
    simp
  · rw [List.getD_eq_getElem?_getD, List.getElem?_append_right (by omega), hl]
    simp

theorem mkMiddle_pos (array : Bool) (cfg : Config) (qb n maxVocab n' st : Nat) :
    (mkMiddle array cfg qb n maxVocab n' st).start = st ∧
    st ≤ (mkMiddle array cfg qb n maxVocab n' st).packed ∧
    8 * (mkMiddle array cfg qb n maxVocab n' st).packed + (n + 1) * (mkMiddle array cfg qb n maxVocab n' st).totalBits
      ≤ 8 * (st + middleSize array cfg qb n maxVocab n') ∧
    (array = true →
      st + 8 ≤ (mkMiddle array cfg qb n maxVocab n' st).offBegin ∧
      (mkMiddle array cfg qb n maxVocab n' st).offEnd ≤ (mkMiddle array cfg qb n maxVocab n' st).packed ∧
      (mkMiddle array cfg qb n maxVocab n' st).offBegin ≤ (mkMiddle array cfg qb n maxVocab n' st).offEnd ∧
      ((mkMiddle array cfg qb n maxVocab n' st).offEnd - (mkMiddle array cfg qb n maxVocab n' st).offBegin) % 8 = 0) := by
  refine ⟨rfl, ?_, ?_, ?_⟩
  · simp only [mkMiddle]; omega
  · simp only [mkMiddle, middleSize, baseSize, Gen.C04.bitPackedSlack]
    rw [Nat.add_comm 1 _]
    generalize (n + 1) * _ = x
    omega
  · intro ha
    subst ha
    have := array_table_fits cfg qb n maxVocab n' st
    simp only [Gen.C04.sizeofUint64] at this
    obtain ⟨h1, _, h3, h4⟩ := this
    have hs : (mkMiddle true cfg qb n maxVocab n' st).start = st := rfl
    rw [hs] at h1
    exact ⟨h1, h3, by omega, by rw [h4]; omega⟩

end KV.Binary
