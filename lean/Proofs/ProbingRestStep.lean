import Proofs.ProbingBuildStep
/-! `MaxRestBuild` (`rest = true`, RestProbingModel): the rest cost of a key is the maximum of the values of the stored keys it
is a suffix of (as lists: a prefix) — "max over left extensions" (`restOf`); the invariant `InvT` (payloads `wantT` = `wantAll` with
`rest = restOf`).  All fields but `rest` after a line are `LineKeys.line_sem` at `rest = true` (`LineKeys.line_sem_rest`, any number of
blanks); for a line without blanks the `rest` field is `restOf` of the enlarged key set (`afterLine_stored`, `stored_rest`): the
per-line step `step_storedT`.  The initial state satisfies `InvT` (`invT_init`). -/
namespace KV.ProbingBuild
open KV.Arpa KV.Table KV.Score KV.ProbingLM

/-- `rest(k)` given the stored keys: the maximum of `val` over `k` and the stored keys having `k` as suffix (as lists: prefix)
(= the n-grams, real or blank, that extend `k` to the left, transitively); on the keys of the table it is
`KV.Left.maxRest (Table.build a) S`, C08's rest function (`probing_rest_is_maxRest`) -/
def restOf (a : Arpa) (S : List Key) (k : Key) : Rat :=
  S.foldl (fun m k' => if k.isPrefixOf k' then max m (val a k') else m) (val a k)

theorem restOf_append (a : Arpa) (S : List Key) (g k : Key) :
    restOf a (S ++ [g]) k = if k.isPrefixOf g then max (restOf a S k) (val a g) else restOf a S k := by
  simp [restOf, List.foldl_append]

theorem restOf_ge_self (a : Arpa) (S : List Key) (k : Key) : val a k ≤ restOf a S k := foldMax_ge_init _ _ S _

theorem restOf_ge_mem (a : Arpa) (S : List Key) (k k' : Key) (hk : k' ∈ S) (hp : k <+: k') : val a k' ≤ restOf a S k :=
  foldMax_ge_mem _ _ S _ k' hk (List.isPrefixOf_iff_prefix.mpr hp)

theorem restOf_le (a : Arpa) (S : List Key) (k : Key) (B : Rat) (h0 : val a k ≤ B)
    (h : ∀ k' ∈ S, k <+: k' → val a k' ≤ B) : restOf a S k ≤ B :=
  foldMax_le _ _ B S _ h0 (fun k' hk hc => h k' hk (List.isPrefixOf_iff_prefix.mp hc))

theorem restOf_mono (a : Arpa) (S : List Key) (k : Key) (j : Nat) (hk : k ∈ S) : restOf a S k ≤ restOf a S (k.take j) :=
  restOf_le a S k _ (restOf_ge_mem a S _ k hk (List.take_prefix j k))
    fun k' hk' hp => restOf_ge_mem a S _ k' hk' ((List.take_prefix j k).trans hp)

theorem restOf_take_succ_le (a : Arpa) (S : List Key) (p : Key) (j : Nat) (h : p.take (j + 1) ∈ S) :
    restOf a S (p.take (j + 1)) ≤ restOf a S (p.take j) := by
  have := restOf_mono a S (p.take (j + 1)) j h
  rwa [KV.take_take_of_le (Nat.le_succ j)] at this

def wantT (a : Arpa) (u0 : List W) (S : List Key) (k : Key) : W := { (wantAll a u0 S k) with rest := restOf a S k }

def InvT (combine : Nat → Word → Nat) (a : Arpa) (nWords : Nat) (caps : Nat → Nat) (S : List Key) (s : St) : Prop :=
  StP combine a.order caps (initUni a nWords).length s (keysOf S) (wantT a (initUni a nWords) S)

theorem er_wantT (a : Arpa) (u0 : List W) (S : List Key) (k : Key) : er (wantT a u0 S k) = er (wantAll a u0 S k) := rfl

theorem LineKeys.line_sem_rest {S : List Key} {p : Key} {b L : Nat} (bl : LineKeys S p b L) (a : Arpa) (u0 : List W) (hu : UniOK u0)
    (hasc : ∀ k ∈ S, k.length ≤ p.length)
    (hnoctx : ∀ j, b < j → j ≤ b + L → startsWithK S (p.take j) = false)
    (hblank : ∀ i, i < L →
      blankAt (afterFind (wantAll a u0 S) p (baseAll a u0 p) b L) p b i = markW (baseAll a u0 (p.take (b + i + 1))) true false)
    (hneg : ∀ j, 1 ≤ j → j < b → (wantAll a u0 S (p.take j)).neg = false) (lr : Rat) (k : Key)
    (hk : k ∈ addLineKeys S p ∨ k.length = 1) :
    er (afterLine true (afterFind (wantT a u0 S) p (baseAll a u0 p) b L) p lr b L k) = er (wantAll a u0 (addLineKeys S p) k) :=
  bl.line_sem true a u0 (wantT a u0 S) (fun _ => rfl) (xrOK_wantAll a u0 hu S) (fun _ => hneg) hasc hnoctx
    (fun i hi => (blankAt_congr _ _ p b i (afterFind_er _ _ (er_wantT a u0 S) p _ b L)).trans (hblank i hi)) lr k hk

theorem restOf_self_top (a : Arpa) (S : List Key) (p : Key) (hasc : ∀ k ∈ S, k.length ≤ p.length) : restOf a S p = val a p := by
  apply Rat.le_antisymm
  · apply restOf_le
    · exact Rat.le_refl
    · intro k' hk' hp
      have hl := hasc k' hk'
      have : k' = p := by
        have h1 := List.prefix_iff_eq_take.mp hp
        have h2 := hp.length_le
        rw [h1]; symm; apply List.take_of_length_le; omega
      rw [this]; exact Rat.le_refl
  · exact restOf_ge_self a S p

/-- a line without blanks under `MaxRestBuild`, key level: the mark on the suffix and `MarkLower` below it amount to marking every
proper suffix with the line's `rest` — the value `MarkLower` hands down is the maximum of that and the suffix's `rest`, which is
no more than what the shorter suffixes hold already -/
theorem afterLine_stored (want0 : Key → W) (p : Key) (lw : W) (lr : Rat) (k0 : Nat) (hk0 : p.length = k0 + 2)
    (hmono : ∀ j, 1 ≤ j → j ≤ k0 → (want0 (p.take (j + 1))).rest ≤ (want0 (p.take j)).rest) :
    afterLine true (afterFind want0 p lw (k0 + 1) 0) p lr (k0 + 1) 0 =
      updW (lowerMarked (updW want0 p lw) p lr (k0 + 1)) (p.drop 1)
        (setExtension (lowerMarked (updW want0 p lw) p lr (k0 + 1) (p.drop 1))) := by
  have htl : ∀ j, j ≤ k0 + 2 → (p.take j).length = j := fun j hj => List.length_take_of_le (hk0 ▸ hj)
  have hw1 : afterFind want0 p lw (k0 + 1) 0 = updW want0 p lw :=
    funext fun k => if_neg fun c => Nat.lt_irrefl _ (Nat.lt_of_lt_of_le c.1 c.2.1)
  have hadj : afterAdjust true (updW want0 p lw) p lr (k0 + 1) 0 =
      updW (updW want0 p lw) (p.take (k0 + 1)) (markExtends true (updW want0 p lw (p.take (k0 + 1))) lr).1 := rfl
  have hlow : ∀ j, j ≤ k0 + 1 → updW want0 p lw (p.take j) = want0 (p.take j) := fun j hj =>
    updW_of_length_ne _ (by rw [htl j (Nat.le_succ_of_le hj), hk0]; exact Nat.ne_of_lt (Nat.lt_succ_of_le hj))
  have hlow3 : ∀ j, j ≤ k0 → afterAdjust true (updW want0 p lw) p lr (k0 + 1) 0 (p.take j) = want0 (p.take j) := fun j hj => by
    rw [hadj, updW_of_length_ne _ (by
      rw [htl j (Nat.le_trans hj (Nat.le_add_right k0 2)), htl _ (Nat.le_succ _)]; exact Nat.ne_of_lt (Nat.lt_succ_of_le hj)),
      hlow j (Nat.le_succ_of_le hj)]
  have hlr : (afterAdjust true (updW want0 p lw) p lr (k0 + 1) 0 (p.take (k0 + 1))).rest = max (want0 (p.take (k0 + 1))).rest lr := by
    rw [hadj, updW, if_pos rfl, markExtends_rest, hlow _ (Nat.le_refl _)]
  unfold afterLine
  rw [hw1, afterMark_true, hlr, Nat.add_sub_cancel,
    lowerMarked_congr_lr _ p _ lr k0 (fun j h1 hj => by
      rw [hlow3 j hj]
      exact rat_max_absorb (le_of_antitone_steps (fun j => (want0 (p.take j)).rest) (k0 + 1)
        (fun j h1 hj => hmono j h1 (Nat.le_of_lt_succ hj)) (k0 + 1 - j) j (Nat.add_sub_of_le (Nat.le_succ_of_le hj)) h1)),
    hadj, ← lowerMarked_succ _ p _ k0 (hk0 ▸ Nat.le_succ _)]

/-- the `rest` such a line leaves at `k` is `restOf` of the enlarged key set: `lowerMarked_apply` against `restOf_append`, by the cases
`k = p`, `k` a proper suffix of `p`, any other key -/
theorem stored_rest (a : Arpa) (u0 : List W) (S : List Key) (p : Key) (lw : W) (k0 : Nat) (hk0 : p.length = k0 + 2)
    (hasc : ∀ k ∈ S, k.length ≤ p.length) (hlw : lw.rest = val a p) (k : Key) (hk1 : 1 ≤ k.length) :
    (updW (lowerMarked (updW (wantT a u0 S) p lw) p (val a p) (k0 + 1)) (p.drop 1)
      (setExtension (lowerMarked (updW (wantT a u0 S) p lw) p (val a p) (k0 + 1) (p.drop 1))) k).rest = restOf a (S ++ [p]) k := by
  have hupd : ∀ F : Key → W, (updW F (p.drop 1) (setExtension (F (p.drop 1))) k).rest = (F k).rest := fun F => by
    unfold updW
    split
    · rename_i he; rw [setExtension_rest, he]
    · rfl
  rw [hupd, lowerMarked_apply, restOf_append, isPrefixOf_eq_take]
  by_cases hkp : k = p
  · rw [if_neg fun c => Nat.not_succ_le_self _ (hk0 ▸ hkp ▸ c.2.1), hkp, updW, if_pos rfl,
      decide_eq_true (List.take_length (l := p)).symm, if_pos rfl, restOf_self_top a S p hasc, hlw, rat_max_eq_left Rat.le_refl]
  · by_cases hc : k = p.take k.length
    · have hlt := length_lt_of_take k p hc hkp
      rw [if_pos ⟨hk1, by rw [hk0] at hlt; exact Nat.le_of_lt_succ hlt, hc⟩, decide_eq_true hc, if_pos rfl, updW, if_neg hkp]
      rfl
    · rw [if_neg fun c => hc c.2.2, decide_eq_false hc, if_neg Bool.false_ne_true, updW, if_neg hkp]
      rfl

/-- what `MarkLower` relies on holds of the payloads `wantT` once the suffixes up to the basis are stored -/
theorem lowOK_wantT {U : Nat} (a : Arpa) (u0 : List W) (S : List Key) (p : Key) {b : Nat} (hb : b < p.length)
    (hpre : ∀ j, 2 ≤ j → j ≤ b → p.take j ∈ S) (hd : p.headD 0 < U) : LowOK U S (wantT a u0 S) p b :=
  ⟨fun j h2 hj => hpre j h2 (Nat.le_of_lt hj), hd,
    fun j h1 hj => restOf_take_succ_le a S p j (hpre (j + 1) (Nat.succ_le_succ h1) (Nat.le_of_lt hj)),
    fun j h1 hj => wantAll_take_neg a _ S p j (Nat.le_of_lt (Nat.lt_of_le_of_lt (Nat.succ_le_of_lt hj) hb))
      (hpre (j + 1) (Nat.succ_le_succ h1) (Nat.succ_le_of_lt hj))⟩

/-- **the per-line step under `MaxRestBuild`** for a line whose immediate suffix is stored: the line is inserted with
`rest = prob`; `MarkExtends` clears the sign of the suffix and raises its `rest`; `MarkLower` propagates the raise down
to the unigram (early exit justified by monotonicity); the context gets its extension bit -/
theorem step_storedT (combine : Nat → Word → Nat) (a : Arpa) (nWords : Nat) (um : Rat) (ok : ArpaOK' a nWords um) (caps : Nat → Nat)
    (S : List Key) (s : St) (p : Key) (e : Entry) (h : InvT combine a nWords caps S s) (si : SInv a S)
    (lc : LC combine a (initUni a nWords) a.order caps S p e) (hcl : 3 ≤ p.length → p.take (p.length - 1) ∈ S) :
    ∃ s', addLine combine true a.order s p e = .ok s' ∧ InvT combine a nWords caps (addLineKeys S p) s' := by
  obtain ⟨k0, hk0⟩ : ∃ k0, p.length = k0 + 2 := ⟨p.length - 2, by have := lc.n2; omega⟩
  have hS : addLineKeys S p = S ++ [p] := addLineKeys_of_stored S p ((Nat.lt_or_ge p.length 3).imp_right hcl)
  have bl : Blanks S p (k0 + 1) 0 := ⟨Nat.succ_pos k0, hk0,
    (Nat.eq_zero_or_pos k0).imp (congrArg (· + 1)) fun h0 => by have := hcl (by omega); rwa [hk0] at this,
    fun j h1 h2 => absurd h1 (Nat.not_lt_of_le h2)⟩
  have hpre : ∀ j, 2 ≤ j → j ≤ k0 + 1 → p.take j ∈ S := si.suffix_mem bl
  have low : LowOK (initUni a nWords).length S (wantT a (initUni a nWords) S) p (k0 + 1) :=
    lowOK_wantT a _ S p (hk0 ▸ Nat.lt_succ_self _) hpre (lc.words _ (headD_mem p (Nat.le_of_succ_le lc.n2)))
  have lo := LineOK.of_lc si lc bl
  obtain ⟨s', hadd, h5⟩ := addLine_run true h lo e fun _ => low
  rw [← bl.keysOf_addLineKeys] at h5
  have hval : (lineW e).rest = val a p := by
    rw [val_real a p e lc.n2 lc.nN lc.real]
    exact neg_abs_of_nonpos _ (ok.nonpos _ e lc.real)
  have hbase := baseAll_real a (initUni a nWords) p e lc.n2 lc.real
  have hmain : ∀ k, k ∈ addLineKeys S p ∨ k.length = 1 →
      afterLine true (afterFind (wantT a (initUni a nWords) S) p (lineW e) (k0 + 1) 0) p (lineW e).rest (k0 + 1) 0 k =
        wantT a (initUni a nWords) (addLineKeys S p) k := fun k hk => by
    apply W.ext_er
    · rw [er_wantT, ← hbase]
      exact lo.toLineKeys.line_sem_rest a _ (initUni_ok a nWords) lc.asc
        (fun _ h1 h2 => absurd h1 (Nat.not_lt_of_le h2)) (fun i hi => absurd hi (Nat.not_lt_zero i))
        low.neg _ k hk
    · rw [afterLine_stored (wantT a (initUni a nWords) S) p _ _ k0 hk0 fun j h1 hj =>
        restOf_take_succ_le a S p j (hpre (j + 1) (Nat.succ_le_succ h1) (Nat.succ_le_succ hj)), hval, hS]
      refine stored_rest a _ S p _ k0 hk0 lc.asc hval k ?_
      rcases hk with hk | hk
      · rcases List.mem_append.mp (hS ▸ hk) with h' | h'
        · exact Nat.le_of_succ_le (si.len2 k h')
        · rw [List.mem_singleton.mp h']; exact Nat.le_of_succ_le lc.n2
      · exact Nat.le_of_eq hk.symm
  exact ⟨s', hadd, stP_congr_on h5 (fun m k hk => hmain k (Or.inl (keysOf_mem _ _ _ hk))) fun w => hmain [w] (Or.inr rfl)⟩

/-- the class for which the `MaxRestBuild` run is proved: every n-gram of order ≥ 3 has its immediate suffix in the model
(no blank is hallucinated; by induction this is suffix-closure) -/
def ClsC (a : Arpa) (p : Key) : Prop := 3 ≤ p.length → a.gram (p.take (p.length - 1)) ≠ none

theorem invT_init (combine : Nat → Word → Nat) (a : Arpa) (nWords : Nat) (buckets : List Nat) (um : Rat) (ok : ArpaOK' a nWords um)
    (hu : a.unkHallucinated = false) (hcount : nWords ≤ (a.entries.filter fun p => p.1.length == 1).length)
    (hcaps : ∀ m, 0 < capOf buckets m) :
    InvT combine a nWords (capOf buckets) [] (initSt a nWords buckets) := by
  have inv0 := invG_init combine a nWords buckets ok.wf.order_ge hcaps
  refine stP_congr_on (stP_of_invG inv0) (fun m k hk => by simp [keysOf] at hk) (fun w => ?_)
  apply W.ext' <;> try rfl
  show (wantAll a (initUni a nWords) [] [w]).rest = restOf a [] [w]
  have hr : restOf a [] [w] = a.uniProb w := by simp [restOf, val_uni]
  rw [hr]
  rw [wantAll_uni]
  show ((initUni a nWords).getD w default).rest = a.uniProb w
  unfold Arpa.uniProb
  have hsl := initUni_slot ok w
  generalize (initUni a nWords).getD w default = sl at hsl ⊢
  cases hsl with
  | oov hg => rw [hg]; rfl
  | unk e _ hu' _ _ _ => rw [hu] at hu'; cases hu'
  | real e he _ hp =>
    have hw : w < nWords := (ok.vocab w).mpr (by rw [he]; simp)
    have hlt : w < (a.entries.filter fun p => p.1.length == 1).length - 0 := Nat.lt_of_lt_of_le hw hcount
    simp only [he, hu, Bool.false_eq_true, if_false, if_pos hlt]
    exact neg_abs_of_nonpos _ hp

end KV.ProbingBuild
