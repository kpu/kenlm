import Proofs.KNC07Lmplz
import Proofs.KNSorters
import Proofs.VocabIds
import Proofs.SortCanon
/-!
The hypotheses of `lmplzOut_eq_post` from C20 (vocabulary) and C16 (external sort), for an implementation whose vocabulary is
`GrowableVocab` and whose first sort is a run of `extSort` (`GrowableImpl`, `lmplzOut_growable`); and the later sorts of the
pipeline as arbitrary correct sorts (`lmplz_eq_spec_sorters`).

For the sort, KN records `(reversed gram, count)` are translated to `KV.Sort.Rec` (`toRec`), on which `SuffixOrder` is the order
`gramLe` sorts by (`suffixLt_toRec`); the translated `combineSorted ∘ mergeSort` table is C16's canonical form `Canon` of the
translated records (`canon_combineSorted`), which every run of `extSort` on duplicate-free blocks returns
(`extSort_combineSorted`).
-/
namespace KV.C07
open KV.KN KV.KN.Count KV.KN.Interp

section vocab
open KV.Vocab
variable {W : Type} [DecidableEq W]

theorem specLine_ids_gt (l : List W) : ∀ (seen : List W), ∀ w ∈ (specLine seen l).1, 2 < w := by
  induction l with
  | nil => intro seen w hw; simp [specLine] at hw
  | cons k ks ih =>
    intro seen w hw
    simp only [specLine] at hw
    split at hw
    · exact ih _ w hw
    · rcases List.mem_cons.1 hw with rfl | hw
      · omega
      · exact ih _ w hw

theorem specLines_ids_gt (text : List (List W)) : ∀ (seen : List W), ∀ s ∈ (specLines seen text).1, ∀ w ∈ s, 2 < w := by
  induction text with
  | nil => intro seen s hs; simp [specLines] at hs
  | cons l ls ih =>
    intro seen s hs
    simp only [specLines] at hs
    rcases List.mem_cons.1 hs with rfl | hs
    · exact specLine_ids_gt l seen
    · exact ih _ s hs

/-- `h_ids` is a property of the specification: the three special words are dropped, every other word
has an id ≥ 3 -/
theorem firstOccurrenceIds_not_special (unk bos eos : W) (text : List (List W)) :
    ∀ s ∈ firstOccurrenceIds unk bos eos text, ∀ w ∈ s, isSpecial w = false := by
  intro s hs w hw
  exact isSpecial_of_gt (specLines_ids_gt text [unk, bos, eos] s hs w hw)

end vocab

/-- a KN record (reversed n-gram, count) as a record of C16's model (key in natural word order) -/
def toRec (e : Count.Rec) : KV.Sort.Rec := ⟨e.1.reverse, e.2⟩
def ofRec (r : KV.Sort.Rec) : Count.Rec := (r.key.reverse, r.payload)
def toBlocks (blocks : List (List Count.Rec)) : List (List KV.Sort.Rec) := blocks.map (·.map toRec)

@[simp] theorem ofRec_toRec (e : Count.Rec) : ofRec (toRec e) = e := by
  simp [ofRec, toRec]

theorem map_ofRec_toRec (l : List Count.Rec) : (l.map toRec).map ofRec = l := by
  simp [List.map_map, Function.comp_def]

theorem toBlocks_flatten (blocks : List (List Count.Rec)) : (toBlocks blocks).flatten = blocks.flatten.map toRec := by
  simp [toBlocks, List.map_flatten]

theorem suffixLt_toRec (a b : Count.Rec) : KV.Sort.suffixLt (toRec a) (toRec b) = true ↔ a.1 < b.1 := by
  simp [KV.Sort.suffixLt, toRec, KV.Sort.lexLt_iff]

theorem tot_toRec (k : List Nat) (l : List Count.Rec) :
    KV.Sort.tot KV.Sort.Rec.key KV.Sort.Rec.payload k (l.map toRec) = total k.reverse l := by
  unfold KV.Sort.tot total
  rw [List.map_map]
  congr 1
  apply List.map_congr_left
  intro e _
  have : ((toRec e).key = k) ↔ (e.1 = k.reverse) := by
    show e.1.reverse = k ↔ _
    constructor
    · intro h; rw [← h, List.reverse_reverse]
    · intro h; rw [h, List.reverse_reverse]
  simp only [Function.comp_apply]
  by_cases h : e.1 = k.reverse
  · rw [if_pos h, if_pos (this.2 h)]; rfl
  · rw [if_neg h, if_neg (fun h' => h (this.1 h'))]

theorem canon_combineSorted (recs : List Count.Rec) :
    KV.Sort.Canon KV.Sort.suffixLt KV.Sort.Rec.key KV.Sort.Rec.payload (recs.map toRec)
      ((combineSorted (recs.mergeSort gramLe)).map toRec) := by
  obtain ⟨hs, hk, ht⟩ := combine_sort_spec recs
  refine ⟨?_, ⟨?_, ?_⟩, ?_⟩
  · rw [List.pairwise_map]
    exact hs.imp (fun h => (suffixLt_toRec _ _).2 h)
  · intro x hx
    obtain ⟨e, he, rfl⟩ := List.mem_map.1 hx
    have : e.1 ∈ (combineSorted (recs.mergeSort gramLe)).map (·.1) := (hk e.1).2 (List.mem_map_of_mem he)
    obtain ⟨f, hf, hfe⟩ := List.mem_map.1 this
    exact ⟨toRec f, List.mem_map_of_mem hf, by simp [toRec, hfe]⟩
  · intro z hz
    obtain ⟨f, hf, rfl⟩ := List.mem_map.1 hz
    have : f.1 ∈ recs.map (·.1) := (hk f.1).1 (List.mem_map_of_mem hf)
    obtain ⟨e, he, hef⟩ := List.mem_map.1 this
    exact ⟨toRec e, List.mem_map_of_mem he, by simp [toRec, hef]⟩
  · intro k
    rw [tot_toRec, tot_toRec, ht]

theorem toBlocks_nodup {blocks : List (List Count.Rec)} (hnd : ∀ b ∈ blocks, (b.map (·.1)).Nodup) :
    ∀ b ∈ toBlocks blocks, (b.map KV.Sort.Rec.key).Nodup := by
  intro b hb
  obtain ⟨b0, hb0, rfl⟩ := List.mem_map.1 hb
  have : (b0.map toRec).map KV.Sort.Rec.key = (b0.map (·.1)).map List.reverse := by
    simp [List.map_map, Function.comp_def, toRec]
  rw [this]
  exact List.Pairwise.map List.reverse (fun a b hne h => hne (List.reverse_inj.1 h)) (hnd b0 hb0)

/-- every run of C16's `extSort` with `CombineCounts` on duplicate-free blocks returns the sorted, combined table
(`extSortOut_canon`, `Canon.unique`): every tie-break policy, every merge plan, any number of blocks including none and one -/
theorem extSort_combineSorted (blocks : List (List Count.Rec)) (hnd : ∀ b ∈ blocks, (b.map (·.1)).Nodup)
    (pick : KV.Sort.Pick KV.Sort.Rec) (plan : List (List Nat)) :
    KV.Sort.extSort KV.Sort.suffixLt KV.Sort.combineCounts pick (toBlocks blocks) plan =
      some ((combineSorted (blocks.flatten.mergeSort gramLe)).map toRec) := by
  rw [KV.Sort.extSort_eq]
  congr 1
  have c1 := KV.Sort.extSortOut_canon KV.Sort.counting_suffixLt pick (toBlocks blocks) (Or.inl (toBlocks_nodup hnd)) plan
  rw [toBlocks_flatten] at c1
  exact KV.Sort.Canon.unique KV.Sort.counting_suffixLt c1 (canon_combineSorted blocks.flatten) (List.Perm.refl _)

section final
open KV.Vocab
variable {W : Type} [DecidableEq W]

/-- What `lmplzOut_growable` asks of an implementation: its vocabulary is C20's `GrowableVocab` and its first sort is a run of
C16's `extSort`. -/
structure GrowableImpl {Mem Sched Out : Type} (I : Impl Mem Sched (List (List W)) Out) (text : List (List W))
    (hash : W → Nat) (unk bos eos : W) (unkCapHash : Nat) (xOf : Mem → Nat) : Prop where
  size : ∀ m, 1 ≤ xOf m ∧ xOf m ≤ 2^63
  enc : ∀ m t, I.encode m t = growableIds hash unk bos eos unkCapHash (xOf m) t
  specials : unk ≠ bos ∧ unk ≠ eos ∧ bos ≠ eos
  /-- 64-bit MurmurHash is injective on the words of the text and the three specials … -/
  inj : InjOn hash ([unk, bos, eos] ++ text.flatten)
  /-- … and non-zero on them (part of C20's contract for `vocab_ids_indep`) -/
  nonzero : ∀ w, w ∈ [unk, bos, eos] ++ text.flatten → hash w ≠ 0
  types : (specEncode unk bos eos text).2 < kWordIndexMax
  /-- the table that leaves the first sort, translated record by record, is the result of C16's external-sort model on the
  translated chain blocks for *some* tie-break policy and *some* merge plan (both may depend on the memory configuration,
  the schedule and the data in any way) -/
  sort : ∀ m s blocks, ∃ pick plan,
    KV.Sort.extSort KV.Sort.suffixLt KV.Sort.combineCounts pick (toBlocks blocks) plan =
      some ((I.sortCombine m s blocks).map toRec)

theorem lmplzOut_growable {Mem Sched Out : Type} {I : Impl Mem Sched (List (List W)) Out} {text : List (List W)}
    {hash : W → Nat} {unk bos eos : W} {unkCapHash : Nat} {xOf : Mem → Nat}
    (G : GrowableImpl I text hash unk bos eos unkCapHash xOf) (opts : Opts) (hN : 1 ≤ opts.cfg.order)
    (m : Mem) (s : Sched) :
    lmplzOut I m s opts text = I.post m s opts
      (if opts.cfg.order ≤ 1 then countFull1 (firstOccurrenceIds unk bos eos text)
        else countFull opts.cfg.order (firstOccurrenceIds unk bos eos text)) := by
  have hids := firstOccurrenceIds_not_special unk bos eos text
  refine lmplzOut_eq_post I (firstOccurrenceIds unk bos eos) opts hN text
    (fun m => (G.enc m text).trans
      (vocab_ids_indep hash unk bos eos unkCapHash xOf G.size text G.specials G.inj G.nonzero G.types m))
    hids (fun m s => ?_) m s
  obtain ⟨pick, plan, hp⟩ := G.sort m s (corpusCount opts.cfg.order (I.cap m) (firstOccurrenceIds unk bos eos text))
  have hnd := blocks_nodup hN (I.cap m) (firstOccurrenceIds unk bos eos text)
    (fun _ l hl w hw => two_le_of_not_special (hids l hl w hw))
  rw [extSort_combineSorted _ hnd pick plan] at hp
  have := congrArg (List.map ofRec) (Option.some.inj hp)
  rw [map_ofRec_toRec, map_ofRec_toRec] at this
  exact this.symm

/-- **The tool equals the configuration-free specification** when the stages after the first sort compute
the composition of C05's stage functions with context / suffix sorts that are *any* correct sorts
(`SortsOK`: sorted permutation — C16 `extSort_sorted` + `extSort_perm`, `codeSort_sorted_perm` — they may
differ with the memory configuration, the schedule and the order).  `estimateFromWith = estimateFrom` is
only needed — and only true in general — for the table of the corpus.  `hout` is what `lmplzOut_eq_post` /
`lmplzOut_growable` provide; assumed about the later stages: `h_stages` (the threads over the chains compute that
composition; `render` arbitrary) and `keepSpecials` (special unigrams are never count-pruned). -/
theorem lmplz_eq_spec_sorters {Mem Sched Text Out : Type} (I : Impl Mem Sched Text Out)
    (render : Except Err Model → Out) (ids : Text → List (List Word)) (opts : Opts) (hN : 1 ≤ opts.cfg.order)
    (text : Text)
    (h_ids : ∀ s ∈ ids text, ∀ w ∈ s, isSpecial w = false)
    (hout : ∀ m s, lmplzOut I m s opts text = I.post m s opts
      (if opts.cfg.order ≤ 1 then countFull1 (ids text) else countFull opts.cfg.order (ids text)))
    (sorters : Mem → Sched → Nat → Sorters)
    (h_stages : ∀ m s full, I.post m s opts full =
      render (estimateFromWith (sorters m s) opts.cfg opts.pruneVocab opts.fallback full))
    (h_sorters : ∀ m s n, SortsOK (sorters m s n))
    (hk : opts.cfg.keepSpecials = true)
    (m : Mem) (s : Sched) :
    lmplzOut I m s opts text = lmplzSpec render ids opts text := by
  rw [hout, h_stages, estimateFromWith_eq_corpus _ (h_sorters m s) _ _ _ _ hN
    (fun l hl w hw => three_le_of_not_special (h_ids l hl w hw)) hk]
  rfl

end final

open KV.Vocab in
/-- nothing in the development uses this (`lmplz_indep_vocab` in Properties/C07.lean is the same without `h_ids`, which
`firstOccurrenceIds_not_special` proves) -/
theorem lmplz_indep_growable {Mem Sched Out W : Type} [DecidableEq W]
    (I : Impl Mem Sched (List (List W)) Out) (render : Except KV.KN.Err KV.KN.Model → Out) (opts : Opts)
    (hN : 1 ≤ opts.cfg.order) (text : List (List W))
    (hash : W → Nat) (unk bos eos : W) (unkCapHash : Nat) (xOf : Mem → Nat)
    (hx : ∀ m, 1 ≤ xOf m ∧ xOf m ≤ 2^63)
    (h_enc : ∀ m t, I.encode m t = growableIds hash unk bos eos unkCapHash (xOf m) t)
    (hsp : unk ≠ bos ∧ unk ≠ eos ∧ bos ≠ eos)
    (hinj : InjOn hash ([unk, bos, eos] ++ text.flatten))
    (hnz : ∀ w, w ∈ [unk, bos, eos] ++ text.flatten → hash w ≠ 0)
    (hmax : (specEncode unk bos eos text).2 < kWordIndexMax)
    (h_ids : ∀ s ∈ firstOccurrenceIds unk bos eos text, ∀ w ∈ s, KV.KN.isSpecial w = false)
    (h_sort : ∀ m s blocks, I.sortCombine m s blocks = KV.KN.combineSorted (blocks.flatten.mergeSort KV.KN.gramLe))
    (h_chain : ∀ m s full, I.post m s opts full = render (KV.KN.estimateFrom opts.cfg opts.pruneVocab opts.fallback full))
    (m₁ m₂ : Mem) (s₁ s₂ : Sched) :
    lmplzOut I m₁ s₁ opts text = lmplzOut I m₂ s₂ opts text := by
  have h := fun m s => (lmplzOut_eq_post I (firstOccurrenceIds unk bos eos) opts hN text
    (fun m => (h_enc m text).trans (vocab_ids_indep hash unk bos eos unkCapHash xOf hx text hsp hinj hnz hmax m))
    h_ids (fun m s => h_sort m s _) m s).trans (h_chain m s _)
  exact (h m₁ s₁).trans (h m₂ s₂).symm

end KV.C07
