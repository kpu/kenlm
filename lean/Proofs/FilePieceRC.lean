import Proofs.FilePieceBasic
/-! `util::ReadCompressed`: member chaining (reads of any sizes yield the concatenation of the members) and the
concrete readers. -/
namespace KV.FilePiece

theorem rcRead_contract (orc : Nat → Nat) : ∀ (ch : Chain) (i a : Nat),
    ∃ n, (rcRead orc ch i a).1 = ch.flatten.take n ∧ (rcRead orc ch i a).2.flatten = ch.flatten.drop n ∧
      n ≤ a ∧ n ≤ ch.flatten.length ∧ (n = 0 ↔ (a = 0 ∨ ch.flatten = [])) := by
  intro ch
  induction ch with
  | nil => intro i a; exact ⟨0, rfl, rfl, Nat.zero_le _, Nat.zero_le _, by simp⟩
  | cons m ms ih =>
    intro i a
    cases m with
    | nil => exact ih i a
    | cons c r =>
      obtain ⟨hle, hle'⟩ := chunk_le orc i a (r.length + 1)
      refine ⟨chunk orc i a (r.length + 1), ?_, ?_, hle, ?_, ?_⟩
      · exact (List.take_append_of_le_length hle').symm
      · show (c :: r).drop _ ++ ms.flatten = _
        exact (List.drop_append_of_le_length hle').symm
      · exact Nat.le_trans hle' (by simp)
      · rw [chunk_eq_zero_iff]; simp [Or.comm]

theorem rcRead_append (orc : Nat → Nat) (ch : Chain) (i : Nat) {a : Nat} (ha : 0 < a) :
    (rcRead orc ch i a).1 ++ (rcRead orc ch i a).2.flatten = ch.flatten ∧
    (rcRead orc ch i a).1.length ≤ a ∧ ((rcRead orc ch i a).1 = [] ↔ ch.flatten = []) :=
  let ⟨_, h1, h2, hna, _, h0⟩ := rcRead_contract orc ch i a
  read_contract h1 h2 hna fun hz => (h0.mp hz).resolve_left (Nat.ne_of_gt ha)

theorem rcReadAll_eq (orc amt : Nat → Nat) (hamt : ∀ i, 0 < amt i) :
    ∀ (f : Nat) (ch : Chain) (i : Nat), ch.flatten.length < f → rcReadAll orc amt f ch i = ch.flatten := by
  intro f
  induction f with
  | zero => intro ch i h; omega
  | succ f ih =>
    intro ch i hf
    simp only [rcReadAll]
    obtain ⟨h1, h2, h3⟩ := rcRead_append orc ch i (hamt i)
    cases hr : rcRead orc ch i (amt i) with
    | mk out ch' =>
      rw [hr] at h1 h2 h3
      cases out with
      | nil => exact (h3.mp rfl).symm
      | cons b bs =>
        dsimp only at h1 ⊢
        have hl := congrArg List.length h1
        simp only [List.length_append, List.length_cons] at hl
        rw [ih ch' _ (by omega)]
        exact h1

/-! ### the concrete readers

ReadFactory / Complete / Uncompressed / UncompressedWithHeader / StreamCompressed with its input buffer and the
hand-over of left-over input to the next member meet the same contract as the abstract `rcRead`. -/

/-- what the model assumes about the third-party codecs: a member is at least `kMagicSize` bytes long, lies inside
the raw bytes it was parsed from, and starts with a magic that `DetectMagic` recognises in any header of at least
`kMagicSize` bytes -/
structure CodecsOK (C : Codecs) : Prop where
  member_len : ∀ raw len plain, C.member raw = some (len, plain) → kMagicSize ≤ len ∧ len ≤ raw.length
  member_magic : ∀ raw len plain k, C.member raw = some (len, plain) → kMagicSize ≤ k → C.magic (raw.take k) = true

inductive Members (C : Codecs) : List Byte → Chain → Prop
  | nil : Members C [] []
  | cons {raw : List Byte} {len : Nat} {plain : List Byte} {ch : Chain} :
      C.member raw = some (len, plain) → Members C (raw.drop len) ch → Members C raw (plain :: ch)

/-- the abstract state (plain bytes still owed, per member) of a concrete reader -/
inductive Abs (C : Codecs) : RcSt → Chain → Prop
  | complete : Abs C ⟨[], .complete⟩ []
  | uncompressed (fd : List Byte) : Abs C ⟨fd, .uncompressed⟩ [fd]
  | withHeader (fd buf : List Byte) : buf ≠ [] → Abs C ⟨fd, .withHeader buf⟩ [buf ++ fd]
  | stream (fd inbuf : List Byte) (rawLeft : Nat) (plainLeft : List Byte) (ch : Chain) :
      rawLeft ≤ (inbuf ++ fd).length → (0 < rawLeft ∨ plainLeft ≠ []) →
      Members C ((inbuf ++ fd).drop rawLeft) ch → Abs C ⟨fd, .stream inbuf rawLeft plainLeft⟩ (plainLeft :: ch)

/-- The fuel `rcRead2` needs from `s`.  Only a stream reader calls itself again, after a `Process()` that handed out
nothing; such a call has consumed a raw byte of the input buffer or the descriptor, or ended the member, whose successor
is built from what is left (`stream_step`, `readFactory_next`). -/
def rcMeasure (s : RcSt) : Nat :=
  match s.rd with
  | .stream inbuf _ _ => inbuf.length + s.fd.length + 1
  | _ => 1

theorem decStep_spec (dorc : Nat → Nat → Nat → Nat → Nat × Nat) (inLen rawLeft plainLen availOut : Nat) :
    ((decStep dorc inLen rawLeft plainLen availOut).1 ≤ inLen ∧
      (decStep dorc inLen rawLeft plainLen availOut).1 ≤ rawLeft) ∧
    ((decStep dorc inLen rawLeft plainLen availOut).2 ≤ availOut ∧
      (decStep dorc inLen rawLeft plainLen availOut).2 ≤ plainLen) ∧
    ((decStep dorc inLen rawLeft plainLen availOut).1 = 0 → (decStep dorc inLen rawLeft plainLen availOut).2 = 0 →
      (availOut = 0 ∨ plainLen = 0) ∧ (inLen = 0 ∨ rawLeft = 0)) := by
  unfold decStep
  dsimp only
  split
  · -- the oracle proposes no progress: one byte is produced if possible, else one consumed if possible
    split
    · rename_i h
      exact ⟨⟨Nat.zero_le _, Nat.zero_le _⟩, Nat.lt_min.mp h, fun _ h2 => absurd h2 (by decide)⟩
    · split
      · rename_i h
        exact ⟨Nat.lt_min.mp h, ⟨Nat.zero_le _, Nat.zero_le _⟩, fun h1 _ => absurd h1 (by decide)⟩
      · rename_i h1 h2
        exact ⟨⟨Nat.zero_le _, Nat.zero_le _⟩, ⟨Nat.zero_le _, Nat.zero_le _⟩, fun _ _ => ⟨by omega, by omega⟩⟩
  · rename_i h
    exact ⟨min_min_le .., min_min_le .., fun h1 h2 => absurd ⟨h1, h2⟩ h⟩

/-- `ReadFactory` on input that is a chain of members (the left-over input of a finished member followed by the
descriptor; at `Reset`, nothing followed by the descriptor) owes exactly that chain; `require_compressed` is never
consulted -/
theorem readFactory_next (C : Codecs) (hC : CodecsOK C) (fd leftover : List Byte) (rc : Bool) (ch : Chain)
    (hm : Members C (leftover ++ fd) ch) :
    ∃ s', readFactory C fd leftover rc = .ok s' ∧ Abs C s' ch ∧ rcMeasure s' ≤ (leftover ++ fd).length + 1 := by
  unfold readFactory
  have hsplit : (leftover ++ fd.take (kMagicSize - leftover.length)) ++ fd.drop (kMagicSize - leftover.length) = leftover ++ fd := by
    rw [List.append_assoc, List.take_append_drop]
  generalize hr : leftover ++ fd = rest at hm hsplit ⊢
  cases hm with
  | nil =>
    have h1 : leftover = [] := (List.append_eq_nil_iff.mp hr).1
    have h2 : fd = [] := (List.append_eq_nil_iff.mp hr).2
    subst h1 h2
    exact ⟨⟨[], .complete⟩, by simp, Abs.complete, by simp [rcMeasure]⟩
  | cons hmem hrest =>
    rename_i len plain ch0
    obtain ⟨hl1, hl2⟩ := hC.member_len _ _ _ hmem
    generalize hhdr : leftover ++ fd.take (kMagicSize - leftover.length) = header at hsplit
    have hhlen : kMagicSize ≤ header.length := by
      rw [← hhdr]
      have := congrArg List.length hr
      simp only [List.length_append, List.length_take] at this hl2 ⊢
      omega
    have hne : header.isEmpty = false := by
      cases header with
      | nil => simp [kMagicSize] at hhlen
      | cons a t => rfl
    have hpre : header = rest.take header.length := by
      rw [← hsplit]; simp
    have hmagic : C.magic header = true := by
      rw [hpre]; exact hC.member_magic _ _ _ _ hmem hhlen
    simp only [hne, Bool.false_eq_true, ↓reduceIte, hmagic, hsplit, hmem]
    refine ⟨_, rfl, ?_, ?_⟩
    · refine Abs.stream _ _ _ _ _ ?_ (Or.inl (by simp [kMagicSize] at hl1; omega)) ?_
      · rw [hsplit]; exact hl2
      · rw [hsplit]; exact hrest
    · simp only [rcMeasure]
      have := congrArg List.length hsplit
      simp only [List.length_append] at this ⊢
      omega

/-- `ReadInput`: an empty input buffer is refilled from the descriptor -/
theorem refill_spec (inbuf fd : List Byte) :
    (if inbuf.isEmpty then fd.take kInputBuffer else inbuf) ++ (if inbuf.isEmpty then fd.drop kInputBuffer else fd) =
      inbuf ++ fd ∧
    ((if inbuf.isEmpty then fd.take kInputBuffer else inbuf) = [] → inbuf ++ fd = []) := by
  cases inbuf with
  | nil => simp [kInputBuffer]
  | cons a t => simp

/-- One `Process()` of a stream reader that owes `plainLeft :: ch0`, having consumed `ci` raw bytes of the
(refilled) input buffer `inbuf1` and produced `po` plain bytes: a step without output consumes input; the raw
bytes still unread shrink by `ci`; if the member's raw bytes are used up the next member starts right there;
unless the member is finished the reader goes on owing the rest. -/
theorem stream_step (C : Codecs) {fd inbuf : List Byte} {rawLeft : Nat} {plainLeft : List Byte} {ch0 : Chain}
    (hrl : rawLeft ≤ (inbuf ++ fd).length) (hnf : 0 < rawLeft ∨ plainLeft ≠ [])
    (hmem : Members C ((inbuf ++ fd).drop rawLeft) ch0)
    {inbuf1 fd1 : List Byte} (hcat : inbuf1 ++ fd1 = inbuf ++ fd) (hin1 : inbuf1 = [] → inbuf ++ fd = [])
    {amount ci po : Nat} (hamt : 0 < amount) (d1 : ci ≤ inbuf1.length ∧ ci ≤ rawLeft)
    (d2 : po ≤ amount ∧ po ≤ plainLeft.length)
    (d3 : ci = 0 → po = 0 → (amount = 0 ∨ plainLeft.length = 0) ∧ (inbuf1.length = 0 ∨ rawLeft = 0)) :
    (plainLeft.take po = [] → 0 < ci) ∧
    (inbuf1.drop ci ++ fd1).length + ci = (inbuf ++ fd).length ∧
    (rawLeft - ci = 0 → Members C (inbuf1.drop ci ++ fd1) ch0) ∧
    (¬ (rawLeft - ci = 0 ∧ plainLeft.drop po = []) →
      Abs C ⟨fd1, .stream (inbuf1.drop ci) (rawLeft - ci) (plainLeft.drop po)⟩ (plainLeft.drop po :: ch0)) := by
  have hraw : inbuf1.drop ci ++ fd1 = (inbuf ++ fd).drop ci := by
    rw [← hcat, List.drop_append_of_le_length (by omega)]
  have hdrop : (inbuf1.drop ci ++ fd1).drop (rawLeft - ci) = (inbuf ++ fd).drop rawLeft := by
    rw [hraw, List.drop_drop]; congr 1; omega
  have hlen : (inbuf1.drop ci ++ fd1).length + ci = (inbuf ++ fd).length := by
    have := congrArg List.length hcat
    rw [List.length_append] at this
    rw [hraw, List.length_drop]; omega
  refine ⟨fun ho => ?_, hlen, fun he => ?_, fun hend => Abs.stream _ _ _ _ _ (by omega) ?_ (by rw [hdrop]; exact hmem)⟩
  · rcases Nat.eq_zero_or_pos ci with hc0 | hc
    · exfalso
      have hpo : po = 0 := by
        rcases List.take_eq_nil_iff.mp ho with h | h
        · exact h
        · subst h; exact Nat.le_zero.mp d2.2
      obtain ⟨p1, p2⟩ := d3 hc0 hpo
      have hpl : plainLeft = [] := List.length_eq_zero_iff.mp (by omega)
      have hraw0 : 0 < rawLeft := hnf.resolve_right (fun h => h hpl)
      have := congrArg List.length (hin1 (List.length_eq_zero_iff.mp (by omega)))
      rw [List.length_nil] at this
      omega
    · exact hc
  · rw [he, List.drop_zero] at hdrop; rw [hdrop]; exact hmem
  · by_cases h1 : rawLeft - ci = 0
    · exact Or.inr fun h2 => hend ⟨h1, h2⟩
    · exact Or.inl (Nat.pos_of_ne_zero h1)

/-- Plan: by cases on the reader (`Abs`).  `complete`, `uncompressed`, `withHeader` answer at once (`read_contract`).  A stream
reader refills its buffer and does one `Process()` (`decStep_spec`, `stream_step`); then it hands out what was produced
(`read_contract` with `k = po`), or, nothing produced, calls itself on the rest of the member or on its successor
(`readFactory_next`), which is at least one raw byte shorter (`ih`). -/
theorem rcRead2_contract (C : Codecs) (hC : CodecsOK C) (os : Nat → Nat) (dorc : Nat → Nat → Nat → Nat → Nat × Nat) :
    ∀ (f : Nat) (s : RcSt) (amount : Nat) (ch : Chain), Abs C s ch → 0 < amount → rcMeasure s ≤ f →
      ∃ out s' ch', rcRead2 C os dorc f s amount = .ok (out, s') ∧ Abs C s' ch' ∧
        out ++ ch'.flatten = ch.flatten ∧ out.length ≤ amount ∧ (out = [] ↔ ch.flatten = []) := by
  intro f
  induction f with
  | zero => intro s amount ch _ _ hm; unfold rcMeasure at hm; split at hm <;> omega
  | succ f ih =>
    intro s amount ch habs hamt hmeas
    cases habs with
    | complete => exact ⟨[], _, [], rfl, Abs.complete, rfl, Nat.zero_le _, by simp⟩
    | uncompressed fd =>
      simp only [rcRead2]
      generalize hn : chunk os fd.length amount fd.length = n
      refine ⟨_, _, [fd.drop n], rfl, Abs.uncompressed _,
        read_contract (k := n) (by simp) (by simp) (hn ▸ (chunk_le ..).1) ?_⟩
      intro h0
      rcases (chunk_eq_zero_iff ..).mp (hn.trans h0) with h | h
      · simpa using h
      · omega
    | withHeader fd buf hne =>
      simp only [rcRead2]
      have hbl : 0 < buf.length := List.length_pos_iff.mpr hne
      have hn : min amount buf.length ≤ buf.length := Nat.min_le_right ..
      -- whichever reader is left owes the rest of the header and the descriptor
      have hc := fun (ch' : Chain) (h : ch'.flatten = buf.drop (min amount buf.length) ++ fd) =>
        read_contract (l := [buf ++ fd].flatten) (out := buf.take (min amount buf.length)) (rest := ch'.flatten)
          (k := min amount buf.length) (amount := amount) (by simp [List.take_append_of_le_length hn])
          (by simp [h, List.drop_append_of_le_length hn]) (Nat.min_le_left ..) (by omega)
      by_cases hfull : min amount buf.length = buf.length
      · rw [if_pos hfull]
        exact ⟨_, _, [fd], rfl, Abs.uncompressed _, hc [fd] (by simp [hfull])⟩
      · rw [if_neg hfull]
        refine ⟨_, _, [buf.drop (min amount buf.length) ++ fd], rfl, Abs.withHeader _ _ ?_, hc _ (by simp)⟩
        intro hd
        have := congrArg List.length hd
        simp only [List.length_drop, List.length_nil] at this
        omega
    | stream fd inbuf rawLeft plainLeft ch0 hrl hnf hmem =>
      simp only [rcRead2]
      rw [if_neg (by omega)]
      obtain ⟨hcat, hin1⟩ := refill_spec inbuf fd
      generalize (if inbuf.isEmpty then fd.take kInputBuffer else inbuf) = inbuf1 at hcat hin1 ⊢
      generalize (if inbuf.isEmpty then fd.drop kInputBuffer else fd) = fd1 at hcat ⊢
      obtain ⟨d1, d2, d3⟩ := decStep_spec dorc inbuf1.length rawLeft plainLeft.length amount
      generalize decStep dorc inbuf1.length rawLeft plainLeft.length amount = st at d1 d2 d3
      obtain ⟨ci, po⟩ := st
      simp only at d1 d2 d3 ⊢
      obtain ⟨hprog, hlen1, hnext, hcont⟩ := stream_step C hrl hnf hmem hcat hin1 hamt d1 d2 d3
      have hmeas : inbuf.length + fd.length + 1 ≤ f + 1 := hmeas
      rw [List.length_append, List.length_append] at hlen1
      have hpre : plainLeft.take po = (plainLeft :: ch0).flatten.take po :=
        (List.take_append_of_le_length (by omega)).symm
      have hsplit := List.take_append_drop po plainLeft
      clear d1 d3 hcat hin1 hmem hnf hrl
      by_cases hend : rawLeft - ci = 0 ∧ plainLeft.drop po = []
      · rw [if_pos hend]
        obtain ⟨s', hs', habs', hms'⟩ := readFactory_next C hC fd1 (inbuf1.drop ci) true ch0 (hnext hend.1)
        rw [List.length_append] at hms'
        rw [hs']
        dsimp only
        by_cases hoe : plainLeft.take po = []
        · -- the member ended without output: the call is forwarded to the reader of the next member
          have hci := hprog hoe
          rw [hoe, hend.2] at hsplit
          subst hsplit
          rw [hoe, if_pos List.isEmpty_nil]
          exact ih s' amount ch0 habs' hamt (by omega)
        · rw [if_neg (by simpa using hoe)]
          exact ⟨_, s', ch0, rfl, habs', read_contract (k := po) hpre
            (by rw [List.flatten_cons, List.drop_append_of_le_length (by omega), hend.2, List.nil_append])
            (by omega) (fun h0 => absurd (by rw [h0, List.take_zero]) hoe)⟩
      · rw [if_neg hend]
        have habs' := hcont hend
        by_cases hoe : plainLeft.take po = []
        · -- nothing produced yet: decode on
          have hci := hprog hoe
          rw [hoe, List.nil_append] at hsplit
          rw [hsplit] at habs'
          rw [hoe, hsplit, if_neg (by decide), if_neg (by omega)]
          exact ih _ amount _ habs' hamt (by show (inbuf1.drop ci).length + fd1.length + 1 ≤ f; omega)
        · rw [if_pos (by simpa using hoe)]
          exact ⟨_, _, _, rfl, habs', read_contract (k := po) hpre
            (by rw [List.flatten_cons, List.flatten_cons, List.drop_append_of_le_length (by omega)])
            (by omega) (fun h0 => absurd (by rw [h0, List.take_zero]) hoe)⟩

end KV.FilePiece
