import Proofs.ProbingRestStep
import Proofs.ProbingBuildRepresents
import Proofs.ProbingRestRefines
/-! From the invariant `InvT` at the end of the file to `RepresentsR` with `R := restOf a Sf`. -/
namespace KV.ProbingBuild
open KV.Arpa KV.Table KV.Score KV.ProbingLM KV.Left

theorem wFound_true_rest (w : W) (r : Rat) : wFound true { w with rest := r } = { (wFound false w) with rest := r } := by
  simp [wFound]

theorem restOf_unknown {a : Arpa} {Sf : List Key} (f : Final a Sf) (w : Word) (hg : a.gram [w] = none)
    (hx : extendsLeft a [w] = false) : restOf a Sf [w] = 0 := by
  have hv : val a [w] = 0 := by rw [val_uni]; simp [Arpa.uniProb, hg]
  apply Rat.le_antisymm
  · apply restOf_le
    · rw [hv]; exact Rat.le_refl
    · intro k' hk' hp
      exfalso
      have hkey := f.si.keys k' hk'
      have h2 := f.si.len2 k' hk'
      have : extendsLeft a [w] = true := by
        rw [extendsLeft_iff]
        rcases hkey.2 with hr | he
        · exact ⟨k', hr, by simp; omega, hp⟩
        · obtain ⟨p, hpr, hl, hpp⟩ := (extendsLeft_iff a k').mp he
          exact ⟨p, hpr, by simp; omega, hp.trans hpp⟩
      rw [hx] at this; cases this
  · rw [← hv]; exact restOf_ge_self a Sf [w]

theorem representsR_of_invT (combine : Nat → Word → Nat) (a : Arpa) (nWords : Nat) (um : Rat) (ok : ArpaOK' a nWords um)
    (hu : a.unkHallucinated = false) (caps : Nat → Nat) (Sf : List Key) (f : Final a Sf) (s : St)
    (inv : InvT combine a nWords caps Sf s) :
    ∃ Mmid Mlong, RepresentsR combine (toPLM true a.order s) (KV.Table.build a) (restOf a Sf) Mmid Mlong := by
  obtain ⟨Mmid, Mlong, hmid, hlong, hms, hmo, hls, hlo⟩ := stP_final inv f ok.wf.order_ge
  have hkey : ∀ g t, 2 ≤ g.length → (KV.Table.build a).lookup g = some t →
      wFound true (wantT a (initUni a nWords) Sf g) = { toFound t with rest := restOf a Sf g } := fun g t h2 ht => by
    rw [wantT, wFound_true_rest, wantAll_key _ _ _ h2, wantW_final ok f g t h2 ht]
  refine ⟨Mmid, Mlong, ⟨rfl, fun w => ?_, hmid, hlong, fun om2 g t hl hlt ht => ?_, hmo, fun g t hl ht => ?_, hlo⟩⟩
  · show wFound true (s.uni.getD w default) = _
    have hfix : fixW a um w (expU Sf w ((initUni a nWords).getD w default)) = wantAll a (initUni a nWords) Sf [w] :=
      fixW_other a um _ fun c => by rw [hu] at c; exact Bool.false_ne_true c.2
    rw [inv.uni w, wantT, wFound_true_rest, ← hfix, uni_final ok f w]
    simp only [restSearch, tableSearch, foundOf]
    cases hl : (KV.Table.build a).lookup [w] with
    | some t => rfl
    | none =>
      have hnk : ¬ IsKey a [w] := fun hk => (build_lookup_ne_none a _ [w]).mpr hk hl
      have hg : a.gram [w] = none := Classical.byContradiction fun h => hnk ⟨by simp, Or.inl h⟩
      have hx : extendsLeft a [w] = false := Bool.eq_false_iff.mpr fun h => hnk ⟨by simp, Or.inr h⟩
      simp [notFound, restOf_unknown f w hg hx]
  · obtain ⟨v, hv, hp⟩ := hms om2 g t hl hlt ht
    exact ⟨v, hv, (congrArg (wFound true) hp).trans (hkey g t (hl ▸ Nat.le_add_left 2 om2) ht)⟩
  · obtain ⟨v, hv, hp⟩ := hls g t hl ht
    refine ⟨v, hv, ?_⟩
    show -(s.longest.pay.getD v default).mag = t.prob
    exact congrArg Found.prob ((congrArg (wFound true) hp).trans (hkey g t (hl ▸ ok.wf.order_ge) ht))

end KV.ProbingBuild
