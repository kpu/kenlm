import Proofs.TrieOfTableG
import Proofs.Binary
/-! `ShapeG` from the C04 layout model: the shape `Binary.trieSetup quant array` gives to a bit table has the bit widths the
read-back lemmas use, no `uint8` wrap, offset tables of `ArrayCount` entries inside their blocks, float tables after the quant
header, and all regions follow one another in the file. -/
namespace KV.TrieLM
open KV.Bits KV.Binary

/-- size hypotheses: what "counts below 2^57" means for a bit table -/
structure SmallOK (bt : BT) (bound order : Nat) : Prop where
  order2 : 2 ≤ order
  boundLt : bound < 2^57
  levels : ∀ k, k ≤ order → (level bt bound k).length < 2^57

structure SmallG (bt : BT) (bound order : Nat) (q : Option QSpec) : Prop where
  small : SmallOK bt bound order
  qbits : ∀ qs, q = some qs → qs.probBits ≤ 25 ∧ qs.backoffBits ≤ 25

def cfgq (q : Option QSpec) (bh : Nat) : Config := cfgG q bh

/-- size of the block of the middle order with index `n` in `counts` (`SetupMemory`'s loop variable `i = 2, 3, …`: the n-grams of
length `n`, `counts[n - 1]` of them, middle number `n - 2`; `counts[n]` only sizes their pointers) -/
def midBlockSize (bt : BT) (bound order : Nat) (q : Option QSpec) (array : Bool) (bh : Nat) (n : Nat) : Nat :=
  middleSize array (cfgG q bh) (middleBits q.isSome (cfgG q bh)) (cnt (countsOf bt bound order) (n - 1))
    (cnt (countsOf bt bound order) 0) (cnt (countsOf bt bound order) n)

/-- start of the unigram array: after the quantiser block -/
def unigramStart (order start : Nat) (q : Option QSpec) (bh : Nat) : Nat := start + quantSize q.isSome order (cfgG q bh)
/-- start of middle block number `j`: block 0 follows the unigram array, the loop variable starts at 2 (hence `List.range' 2 j`).
`Binary.trieSetup_first_middle` gives the start of block 0 for any counts; `setupG_closed` needs every block's, at `setupG`'s arguments -/
def midBlockStart (bt : BT) (bound order start : Nat) (q : Option QSpec) (array : Bool) (bh : Nat) (j : Nat) : Nat :=
  unigramStart order start q bh + trieUnigramSize (cnt (countsOf bt bound order) 0)
    + ((List.range' 2 j).map (midBlockSize bt bound order q array bh)).sum

variable {bt : BT} {bound order start : Nat} {q : Option QSpec} {array : Bool} {bh : Nat}

theorem setupG_closed :
    (setupG bt bound order start q array bh).middles =
      (List.range (order - 2)).map (fun t =>
        mkMiddle array (cfgG q bh) (middleBits q.isSome (cfgG q bh)) (cnt (countsOf bt bound order) (2 + t - 1))
          (cnt (countsOf bt bound order) 0) (cnt (countsOf bt bound order) (2 + t))
          (midBlockStart bt bound order start q array bh t)) ∧
    (setupG bt bound order start q array bh).longest.1 = midBlockStart bt bound order start q array bh (order - 2) ∧
    (setupG bt bound order start q array bh).unigram = unigramStart order start q bh := by
  unfold setupG trieSetup
  simp only [countsOf_length]
  rw [trieMiddleLoop_eq, allocs_range']
  exact ⟨rfl, rfl, rfl⟩

/-- the counts `Middle::Size` and the constructor of middle `j` are called with -/
theorem cnt_mid (bt : BT) (bound order j : Nat) (hj : j + 2 < order) :
    cnt (countsOf bt bound order) 0 = bound ∧
    cnt (countsOf bt bound order) (2 + j - 1) = (level bt bound (j + 2)).length ∧
    cnt (countsOf bt bound order) (2 + j) = (level bt bound (j + 3)).length := by
  have h1 : 1 ≤ order := Nat.le_trans (Nat.le_add_left 1 (j + 1)) (Nat.le_of_lt hj)
  refine ⟨countsOf_cnt_zero bt bound order h1, ?_, ?_⟩
  · rw [show 2 + j - 1 = j + 1 by omega, countsOf_cnt _ _ _ _ (Nat.lt_of_succ_lt hj)]
  · rw [countsOf_cnt _ _ _ _ (Nat.add_comm 2 j ▸ hj), Nat.add_comm 2 j]

theorem midG_eq (j : Nat) (hj : j + 2 < order) :
    midG bt bound order start q array bh j =
      mkMiddle array (cfgG q bh) (middleBits q.isSome (cfgG q bh)) (level bt bound (j + 2)).length bound (level bt bound (j + 3)).length
        (midBlockStart bt bound order start q array bh j) := by
  obtain ⟨c0, c1, c2⟩ := cnt_mid bt bound order j hj
  unfold midG
  rw [setupG_closed.1, List.getD_eq_getElem?_getD, List.getElem?_map,
    List.getElem?_range (Nat.lt_sub_of_add_lt hj), Option.map_some, Option.getD_some, c0, c1, c2]

theorem midG_inline_plain (j : Nat) (hj : j + 2 < order) :
    (midG bt bound order start q false bh j).inline = requiredBits (level bt bound (j + 3)).length := by
  rw [midG_eq j hj]
  simp only [mkMiddle, inlineBits, Bool.false_eq_true, if_false]

theorem midBlockSize_eq (j : Nat) (hj : j + 2 < order) :
    midBlockSize bt bound order q array bh (2 + j) =
      middleSize array (cfgG q bh) (middleBits q.isSome (cfgG q bh)) (level bt bound (j + 2)).length bound (level bt bound (j + 3)).length := by
  obtain ⟨c0, c1, c2⟩ := cnt_mid bt bound order j hj
  rw [midBlockSize, c0, c1, c2]

theorem middleBits_G (q : Option QSpec) (bh : Nat) (hq : ∀ qs, q = some qs → qs.probBits ≤ 25 ∧ qs.backoffBits ≤ 25) :
    middleBits q.isSome (cfgG q bh) = QB q := by
  cases q with
  | none => rfl
  | some qs =>
    obtain ⟨h1, h2⟩ := hq qs rfl
    simp only [middleBits, cfgG, QB, Option.isSome_some, if_true]
    rw [Nat.mod_eq_of_lt (by omega)]; omega

theorem longestBits_G (q : Option QSpec) (bh : Nat) : longestBits q.isSome (cfgG q bh) = LB q := by
  cases q <;> rfl

theorem QB_LB_le (q : Option QSpec) (hq : ∀ qs, q = some qs → qs.probBits ≤ 25 ∧ qs.backoffBits ≤ 25) : QB q ≤ 63 ∧ LB q ≤ 31 := by
  cases q with
  | none => exact ⟨Nat.le_refl _, Nat.le_refl _⟩
  | some qs => obtain ⟨h1, h2⟩ := hq qs rfl; simp only [QB, LB]; omega

theorem midG_offCount (j : Nat) (hj : j + 2 < order) :
    ((midG bt bound order start q true bh j).offEnd - (midG bt bound order start q true bh j).offBegin) / 8
      = ((level bt bound (j + 3)).length >>> (midG bt bound order start q true bh j).inline) + 1 := by
  rw [midG_eq j hj]
  simp only [mkMiddle, inlineBits, arrayCount, if_true, Gen.C04.sizeofUint64]
  rw [Nat.add_sub_cancel_left, Nat.mul_div_cancel_left _ (by decide)]

/-- everything in `ShapeG` but the file order of the regions: the fields of `mkMiddle` and of the longest order for sizes below
2^57 (bit widths ≤ 57, so no `uint8` wrap in `total_bits`) and code widths ≤ 25 -/
theorem shapeG_of_ord
    (sm : SmallOK bt bound order) (qk : QOK' order q) (hord : (regionsG bt bound order start q array bh).Pairwise RegionSpec.Before) :
    ShapeG bt bound order start q array bh := by
  have ho := sm.order2
  have hW : requiredBits bound ≤ 57 := requiredBits_le_of_lt _ 57 (by decide) sm.boundLt
  have hqb := middleBits_G q bh qk.bits
  obtain ⟨hqle, hl⟩ := QB_LB_le q qk.bits
  have c0 := countsOf_cnt_zero bt bound order (Nat.le_of_succ_le ho)
  refine ⟨by rw [setupG_closed.1]; simp, fun j hj => ?_, ?_, hord, hW,
    ⟨Nat.lt_trans sm.boundLt (by decide), fun k hk => Nat.lt_trans (sm.levels k hk) (by decide)⟩⟩
  · have hN57 := sm.levels (j + 3) hj
    have hRN : requiredBits (level bt bound (j + 3)).length ≤ 57 := requiredBits_le_of_lt _ 57 (by decide) hN57
    have hI := inlineBits_le array ((level bt bound (j + 2)).length + 1) (level bt bound (j + 3)).length (cfgG q bh).bhikshaBits
    refine ⟨?_, ?_, ?_, ?_, ?_, fun ha => ha ▸ midG_offCount j hj⟩
    all_goals rw [midG_eq j hj]
    · rfl
    · exact hqb
    · simp only [mkMiddle, Binary.totalBits, hqb]
      rw [Nat.mod_eq_of_lt (by omega), Nat.mod_eq_of_lt (by omega)]; omega
    · simp only [mkMiddle]; omega
    · intro ha
      subst ha
      simp only [mkMiddle, inlineBits, Bool.false_eq_true, if_false]
      exact requiredBits_fits _ _ (Nat.lt_trans hN57 (by decide)) (Nat.le_refl _)
  · unfold setupG trieSetup
    simp only [c0, Binary.totalBits, longestBits_G]
    exact ⟨trivial, Nat.mod_eq_of_lt (by omega)⟩

theorem middle_block (j : Nat) (hj : j + 2 < order) :
    Packed (middleRegionsG bt bound q array bh j (midG bt bound order start q array bh j))
      (midBlockStart bt bound order start q array bh j) (midBlockStart bt bound order start q array bh (j + 1)) := by
  obtain ⟨hst, hpk, hend, harr⟩ := mkMiddle_pos array (cfgG q bh) (middleBits q.isSome (cfgG q bh))
    (level bt bound (j + 2)).length bound (level bt bound (j + 3)).length (midBlockStart bt bound order start q array bh j)
  have hstep : midBlockStart bt bound order start q array bh (j + 1)
      = midBlockStart bt bound order start q array bh j + midBlockSize bt bound order q array bh (2 + j) := by
    unfold midBlockStart
    rw [List.range'_1_concat, List.map_append, List.sum_append, List.map_singleton, List.sum_singleton]
    exact (Nat.add_assoc _ _ _).symm
  rw [← midBlockSize_eq j hj] at hend
  rw [← midG_eq j hj] at hst hpk hend harr
  rw [hstep, ← hst] at *
  have hrec : Inside (midRegionG bt bound (j + 2) (midG bt bound order start q array bh j) q)
      (midG bt bound order start q array bh j).packed
      ((midG bt bound order start q array bh j).start + midBlockSize bt bound order q array bh (2 + j)) := ⟨Nat.le_refl _, hend⟩
  cases array with
  | false => exact (Packed.single hrec).mono hpk (Nat.le_refl _)
  | true =>
    obtain ⟨h1, h2, h3, h4⟩ := harr rfl
    have hlen := (bhikTable_spec (midG bt bound order start q true bh j).inline (childStarts bt (level bt bound (j + 2)))
      (childStarts_ne bt _) (childStarts_mono bt _)).1
    rw [← offCount_eq bt bound (j + 1) _ _ (midG_offCount j hj)] at hlen
    generalize midG bt bound order start q true bh j = m at *
    have hhdr : Inside (bytesRegion m.start [0, bh]) m.start m.offBegin :=
      ⟨Nat.le_refl _, by show 8 * m.start + 2 * 8 ≤ 8 * m.offBegin; omega⟩
    have hoff : Inside (offRegion m.offBegin (bhikTable m.inline ((m.offEnd - m.offBegin) / 8) (childStarts bt (level bt bound (j + 2)))))
        m.offBegin m.packed := by
      refine ⟨Nat.le_refl _, ?_⟩
      show 8 * m.offBegin + (bhikTable m.inline ((m.offEnd - m.offBegin) / 8) (childStarts bt (level bt bound (j + 2)))).length * 64 ≤ _
      rw [hlen]; omega
    exact ((Packed.single hhdr).append (Packed.single hoff)).append (Packed.single hrec)

theorem tabRegion_inside (off : Nat) (tab : List Nat) (hi : Nat) (h : off + tab.length * 4 ≤ hi) :
    Inside (tabRegion off tab) off hi :=
  ⟨Nat.le_refl _, by show 8 * off + tab.length * 32 ≤ _; omega⟩

/-- `8` is `Gen.C04.quantHeaderBytes` (three of the bytes are written), `4` is `Gen.C04.sizeofFloat` -/
theorem quant_block {qs : QSpec} (qk : QOK order qs) :
    Packed (quantRegionsG order (setupG bt bound order start (some qs) array bh) (some qs))
      start (unigramStart order start (some qs) bh) := by
  have hqt : (setupG bt bound order start (some qs) array bh).quantTables = quantTables true order (cfgG (some qs) bh) start := by
    unfold setupG trieSetup; simp [countsOf_length]
  obtain ⟨hT, hTl⟩ := quantTables_getD order (cfgG (some qs) bh) start
  have hA : probTabBytes (cfgG (some qs) bh) = 2^qs.probBits * 4 := rfl
  have hM : orderTabsBytes (cfgG (some qs) bh) = 2^qs.probBits * 4 + 2^qs.backoffBits * 4 := rfl
  have hS1 : unigramStart order start (some qs) bh = start + 8 + (order - 2) * orderTabsBytes (cfgG (some qs) bh) + 2^qs.probBits * 4 := by
    show start + ((order - 2) * (2 ^ qs.backoffBits * 4 + 2 ^ qs.probBits * 4) + 2 ^ qs.probBits * 4 + 8) = _
    rw [hM, Nat.add_comm (2 ^ qs.backoffBits * 4) _]; omega
  show Packed ([bytesRegion start [2, qs.probBits, qs.backoffBits]]
    ++ (List.range (order - 2)).flatMap (fun t =>
        [tabRegion ((setupG bt bound order start (some qs) array bh).quantTables.getD (2 * t) 0) (qs.ptab t),
         tabRegion ((setupG bt bound order start (some qs) array bh).quantTables.getD (2 * t + 1) 0) (qs.btab t)])
    ++ [tabRegion ((setupG bt bound order start (some qs) array bh).quantTables.getD (2 * (order - 2)) 0) (qs.ptab (order - 2))]) _ _
  rw [hqt, hTl, hS1]
  generalize orderTabsBytes (cfgG (some qs) bh) = M at *
  have hhdr : Inside (bytesRegion start [2, qs.probBits, qs.backoffBits]) start (start + 8 + 0 * M) :=
    ⟨Nat.le_refl _, by show 8 * start + 3 * 8 ≤ _; omega⟩
  refine ((Packed.single hhdr).append (Packed.range _ (fun t => start + 8 + t * M) _ fun t ht => ?_)).append
    (Packed.single (tabRegion_inside _ _ _ (by rw [qk.plen]; exact Nat.le_refl _)))
  obtain ⟨g1, g2⟩ := hT t (Nat.add_lt_of_lt_sub ht)
  show Packed [_, _] (start + 8 + t * M) (start + 8 + (t + 1) * M)
  rw [g1, g2, hA, Nat.succ_mul]
  exact (Packed.single (tabRegion_inside _ _ (start + 8 + t * M + 2 ^ qs.probBits * 4) (by rw [qk.plen]; exact Nat.le_refl _))).append
    (Packed.single (tabRegion_inside _ _ _ (by rw [qk.blen]; omega)))

/-- the regions are the quantiser block, the unigram array, one block per middle order, and the longest array where the last block ends -/
theorem shapeG_of_small (bt : BT) (bound order start : Nat) (q : Option QSpec) (array : Bool) (bh : Nat)
    (sm : SmallOK bt bound order) (qk : QOK' order q) : ShapeG bt bound order start q array bh := by
  refine shapeG_of_ord sm qk ?_
  have ho := sm.order2
  obtain ⟨hmidsC, hlongC, huniC⟩ := @setupG_closed bt bound order start q array bh
  have hnmid : (setupG bt bound order start q array bh).middles.length = order - 2 := by rw [hmidsC]; simp
  have hQ : Packed (quantRegionsG order (setupG bt bound order start q array bh) q) start (unigramStart order start q bh) := by
    cases q with
    | none => exact Packed.nil (Nat.le_add_right _ _)
    | some qs => exact quant_block (qk qs rfl)
  have hUni : Inside (uniRegion bt bound (setupG bt bound order start q array bh).unigram) (unigramStart order start q bh)
      (midBlockStart bt bound order start q array bh 0) := by
    rw [huniC]
    refine ⟨Nat.le_refl _, ?_⟩
    show 8 * unigramStart order start q bh + (bound + 1) * (8 * Gen.C04.sizeofTrieUnigramValue)
      ≤ 8 * (unigramStart order start q bh + trieUnigramSize (cnt (countsOf bt bound order) 0))
    simp only [trieUnigramSize, countsOf_cnt_zero bt bound order (Nat.le_of_succ_le ho), Gen.C04.sizeofTrieUnigramValue]; omega
  have hM := Packed.range (fun j => middleRegionsG bt bound q array bh j (midG bt bound order start q array bh j))
    (midBlockStart bt bound order start q array bh) (order - 2) (fun j hj => middle_block j (Nat.add_lt_of_lt_sub hj))
  show (quantRegionsG order (setupG bt bound order start q array bh) q
      ++ [uniRegion bt bound (setupG bt bound order start q array bh).unigram]
      ++ ((setupG bt bound order start q array bh).middles.zip (List.range (setupG bt bound order start q array bh).middles.length)).flatMap
          (fun mi => middleRegionsG bt bound q array bh mi.2 mi.1)
      ++ [longRegionG bt bound order (setupG bt bound order start q array bh).longest.1 (setupG bt bound order start q array bh).longest.2.1
          (setupG bt bound order start q array bh).longest.2.2 q]).Pairwise RegionSpec.Before
  rw [zip_range_flatMap, hnmid]
  refine ((hQ.append (Packed.single hUni)).append hM).pairwise_concat ?_
  show 8 * _ ≤ 8 * (setupG bt bound order start q array bh).longest.1
  rw [hlongC]
  exact Nat.le_refl _

end KV.TrieLM
