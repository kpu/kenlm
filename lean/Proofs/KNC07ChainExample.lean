import Proofs.KNC07Chain
/-!
A concrete chain: the stage `idxStage` (drops records, numbers the kept ones across block boundaries) as the worker of a
two-block chain, run under two schedules on two block partitions of the same stream.  `natsCode` is a concrete `BlockCode`
(blocks of numbers ↔ `Nat`, `enc (a :: l) = (2·enc l + 1)·2^a`); `reach_of_fold` turns a schedule that runs through into the
`Chain.Reach` that `stage_on_chain` asks for.
-/
namespace KV.C07
open KV.KN KV.KN.ChainStages KV.Chain

theorem foldl_step_none (sched : List Nat) :
    sched.foldl (fun (o : Option Chain) t => o.bind (·.step t)) none = none := by
  induction sched with
  | nil => rfl
  | cons t ts ih => simpa using ih

theorem reach_of_fold (c0 : Chain) (sched : List Nat) (c : Chain)
    (h : sched.foldl (fun (o : Option Chain) t => o.bind (·.step t)) (some c0) = some c) : Chain.Reach c0 c := by
  suffices H : ∀ (sched : List Nat) (c1 : Chain), Chain.Reach c0 c1 →
      sched.foldl (fun (o : Option Chain) t => o.bind (·.step t)) (some c1) = some c → Chain.Reach c0 c from
    H sched c0 .init h
  intro sched
  induction sched with
  | nil => intro c1 h1 h; simp only [List.foldl_nil, Option.some.injEq] at h; subst h; exact h1
  | cons t ts ih =>
    intro c1 h1 h
    simp only [List.foldl_cons, Option.bind_some] at h
    cases hs : c1.step t with
    | none => rw [hs, foldl_step_none] at h; cases h
    | some c2 => rw [hs] at h; exact ih c2 (.step h1 hs) h

theorem tz_pow {o : Nat} (ho : o % 2 = 1) (a f : Nat) (h : a ≤ f) : tz f (o * 2 ^ a) = a := by
  induction a generalizing f with
  | zero =>
    cases f with
    | zero => rfl
    | succ f => rw [Nat.pow_zero, Nat.mul_one, tz, if_neg fun h => Nat.one_ne_zero (ho.symm.trans h.1)]
  | succ a ih =>
    cases f with
    | zero => exact absurd h (Nat.not_succ_le_zero a)
    | succ f =>
      have e : o * 2 ^ (a + 1) = 2 * (o * 2 ^ a) := by rw [Nat.pow_succ, ← Nat.mul_assoc, Nat.mul_comm]
      have hpos : o * 2 ^ a ≠ 0 :=
        Nat.mul_ne_zero (fun h => absurd ho (by rw [h]; decide)) (Nat.ne_of_gt (Nat.two_pow_pos a))
      rw [e, tz, if_pos ⟨Nat.mul_mod_right 2 _, Nat.mul_ne_zero (by decide) hpos⟩,
        Nat.mul_div_cancel_left _ (by decide), ih f (Nat.le_of_succ_le_succ h), Nat.add_comm]

theorem decNatsF_enc (l : List Nat) (f : Nat) (hf : encNats l ≤ f) : decNatsF f (encNats l) = l := by
  induction l generalizing f with
  | nil => cases f <;> rfl
  | cons a l ih =>
    have hpos : 0 < 2 ^ a := Nat.two_pow_pos a
    have hge : 2 ^ a ≤ encNats (a :: l) := Nat.le_mul_of_pos_left _ (Nat.succ_pos _)
    have hge2 : 2 * encNats l + 1 ≤ encNats (a :: l) := Nat.le_mul_of_pos_right _ hpos
    have hlt : a < 2 ^ a := Nat.lt_two_pow_self
    cases f with
    | zero => exact absurd (Nat.le_trans hge hf) (Nat.not_le_of_gt hpos)
    | succ f =>
      have htz : tz f (encNats (a :: l)) = a :=
        tz_pow (Nat.mul_add_mod ..) a f (Nat.le_of_lt_succ (Nat.lt_of_lt_of_le hlt (Nat.le_trans hge hf)))
      rw [decNatsF, if_neg (Nat.ne_of_gt (Nat.lt_of_lt_of_le hpos hge))]
      dsimp only
      rw [htz, show encNats (a :: l) / 2 ^ a = 2 * encNats l + 1 from Nat.mul_div_cancel _ hpos,
        Nat.add_sub_cancel, Nat.mul_div_cancel_left _ (by decide),
        ih f (Nat.le_of_lt_succ (Nat.lt_of_lt_of_le (by omega) (Nat.le_trans hge2 hf)))]

def natsCode : BlockCode Nat := ⟨encNats, decNats, fun b => decNatsF_enc b _ (Nat.le_refl _)⟩

/-- drops the zero records (compaction, like `PruneNGramStream`) and adds to every kept record its
position in the whole stream (state = number of records seen so far, like a running context) -/
def idxStage : Stage Nat Nat Nat :=
  fun s b => (s + b.length, (b.zipIdx.filter (fun p => p.1 != 0)).map (fun p => p.1 + s + p.2))

def exChain (blocks : List (List Nat)) : Chain :=
  Chain.initT 2 2 (blocks.map natsCode.enc) (liftStage natsCode natsCode idxStage 0).toStageFn.tr

def exSched₁ : List Nat :=
  [0, 0, 1, 1, 1, 1, 1, 2, 2, 2, 2, 2, 3, 3, 3, 1, 1, 2, 2, 3, 3, 1, 1, 0, 2, 2, 0, 3, 3, 3, 3, 0, 0, 0]
def exSched₂ : List Nat :=
  [0, 0, 3, 2, 1, 1, 1, 2, 2, 3, 3, 1, 1, 2, 2, 3, 3, 1, 1, 2, 2, 3, 3, 1, 1, 2, 2, 3, 3, 0, 0, 0, 0, 0]

/-- two block partitions of the stream `1 0 2 3 0 4`, two schedules (2 chain blocks, source + worker +
recycler): both runs finish; the worker's blocks differ, their concatenation does not -/
example :
    ((exSched₁.foldl (fun (o : Option Chain) t => o.bind (·.step t)) (some (exChain [[1, 0, 2], [3], [0, 4]]))).map
      fun c => (c.main, (valsOf (c.st 1).out).map natsCode.dec)) = some (.finished, [[1, 4], [6], [9]])
    ∧ ((exSched₂.foldl (fun (o : Option Chain) t => o.bind (·.step t)) (some (exChain [[1], [0, 2, 3, 0], [4]]))).map
      fun c => (c.main, (valsOf (c.st 1).out).map natsCode.dec)) = some (.finished, [[1], [4, 6], [9]]) := by
  decide

/-- `stage_on_chain` applies: its hypotheses are met by these runs -/
example (c : Chain)
    (h : exSched₂.foldl (fun (o : Option Chain) t => o.bind (·.step t)) (some (exChain [[1], [0, 2, 3, 0], [4]])) = some c)
    (hfin : c.main = .finished) :
    (valsOf (c.st 1).out).map natsCode.dec = runBlocks idxStage 0 [[1], [0, 2, 3, 0], [4]] :=
  (stage_on_chain natsCode natsCode idxStage 0 _ (by decide) (by decide) (reach_of_fold _ _ _ h) hfin).1

example : (runBlocks idxStage 0 [[1, 0, 2], [3], [0, 4]]).flatten = (runBlocks idxStage 0 [[1], [0, 2, 3, 0], [4]]).flatten := by
  decide

end KV.C07
