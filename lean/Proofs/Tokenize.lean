import Model.Tokenize
/-! `TokenIter<BoolCharacter, SkipEmpty>` (`Model/Tokenize.lean`, property C18) enumerates exactly the delimiter-free pieces.
`Model/PyTokenize.lean` (C14) models the same class a second time, as its `SkipEmpty = true` instance with a specification of
its own (`pieces` there is `splitAll` here); the two models are not related by a theorem. -/
namespace KV.Tokenize

variable (d : Byte → Bool) (skip : Bool)

theorem splitAll_findSplit (a : List Byte) :
    splitAll d a = (findSplit d a).1 ::
      (match (findSplit d a).2 with | none => [] | some r => splitAll d r) := by
  induction a with
  | nil => simp [splitAll, findSplit]
  | cons b bs ih =>
    by_cases hb : d b
    · simp [splitAll, findSplit, hb]
    · simp only [splitAll, findSplit, hb, Bool.false_eq_true, ↓reduceIte]
      rw [ih]

theorem splitAll_ne_nil (a : List Byte) : splitAll d a ≠ [] := by
  rw [splitAll_findSplit]; exact List.cons_ne_nil _ _

def pending (d : Byte → Bool) (it : Iter) : List (List Byte) :=
  match it.after with | none => [] | some a => splitAll d a

def keep (skip : Bool) (l : List (List Byte)) : List (List Byte) :=
  if skip then l.filter (fun t => !t.isEmpty) else l

/-- what `drain` hands out from `it` on -/
def view (d : Byte → Bool) (skip : Bool) (it : Iter) : List (List Byte) :=
  match it.current with
  | none => []
  | some t => t :: keep skip (pending d it)

theorem advance_spec (it : Iter) :
    match pending d it with
    | [] => advance d it = ⟨none, none⟩
    | t :: ts => (advance d it).current = some t ∧ pending d (advance d it) = ts := by
  unfold pending advance
  cases it.after with
  | none => rfl
  | some a => dsimp only; rw [splitAll_findSplit]; exact ⟨rfl, rfl⟩

theorem next_of_stop {f : Nat} {it : Iter} (h : (skip && (advance d it).current == some []) = false) :
    next d skip f it = advance d it := by
  cases f with
  | zero => rfl
  | succ f => simp only [next, h, Bool.false_eq_true, ↓reduceIte]

/-- `operator++` moves on to the kept pieces among the pending ones, and uses one up unless it ends.  Fuel: each pass of the
`do` body uses up one pending piece, so `pending.length` passes suffice; `drain` gives `afterLen it + 1`, which is at least
that (`pending_length_le`). -/
theorem next_view : ∀ (f : Nat) (it : Iter), (pending d it).length ≤ f →
    view d skip (next d skip f it) = keep skip (pending d it) ∧
    ((next d skip f it).current = none ∨ (pending d (next d skip f it)).length < (pending d it).length) := by
  intro f it
  generalize hl : pending d it = l
  induction l generalizing f it with
  | nil =>
    intro _
    have ha := advance_spec d it
    rw [hl] at ha
    rw [next_of_stop d skip (by rw [ha]; exact Bool.and_false _), ha]
    exact ⟨by cases skip <;> rfl, Or.inl rfl⟩
  | cons t ts ih =>
    intro h
    have ha := advance_spec d it
    rw [hl] at ha
    by_cases hs : skip = true ∧ t = []
    · obtain ⟨rfl, rfl⟩ := hs
      cases f with
      | zero => exact absurd h (Nat.not_succ_le_zero _)
      | succ f =>
        simp only [next, ha.1, Bool.true_and, beq_self_eq_true, ↓reduceIte]
        obtain ⟨hv, hlt⟩ := ih f (advance d it) ha.2 (Nat.le_of_succ_le_succ h)
        exact ⟨hv, hlt.imp_right Nat.lt_succ_of_lt⟩
    · have hc : (skip && (advance d it).current == some []) = false := by
        rw [ha.1]; cases skip with
        | false => rfl
        | true => simpa using fun e => hs ⟨rfl, e⟩
      have hk : keep skip (t :: ts) = t :: keep skip ts := by
        cases skip with
        | false => rfl
        | true => cases t with
          | nil => exact absurd ⟨rfl, rfl⟩ hs
          | cons => rfl
      rw [next_of_stop d skip hc, hk]
      unfold view
      rw [ha.1, ha.2]
      exact ⟨rfl, Or.inr (Nat.lt_succ_self _)⟩

theorem splitAll_length_le (a : List Byte) : (splitAll d a).length ≤ a.length + 1 := by
  induction a with
  | nil => simp [splitAll]
  | cons b bs ih =>
    simp only [splitAll]
    split
    · simp; omega
    · split
      · simp
      · rename_i h; rw [h] at ih; simp at ih ⊢; omega

theorem pending_length_le (it : Iter) : (pending d it).length ≤ afterLen it + 1 := by
  unfold pending afterLen
  cases it.after with
  | none => simp
  | some a => have := splitAll_length_le d a; simp only; omega

theorem drain_spec : ∀ (f : Nat) (it : Iter),
    it.current = none ∨ (pending d it).length < f → drain d skip f it = view d skip it := by
  intro f
  induction f with
  | zero =>
    intro it h
    rcases h with h | h
    · unfold view; rw [h]; rfl
    · exact absurd h (Nat.not_lt_zero _)
  | succ f ih =>
    intro it h
    unfold view
    simp only [drain]
    cases hc : it.current with
    | none => rfl
    | some t =>
      obtain ⟨hv, hlt⟩ := next_view d skip (afterLen it + 1) it (pending_length_le d it)
      have hf : (pending d it).length < f + 1 := h.resolve_left fun hn => by rw [hc] at hn; cases hn
      dsimp only
      rw [← hv, ih _ (hlt.imp_right fun hlt => by omega)]

theorem tokens_eq_splitSpec (s : List Byte) :
    tokens d skip s = splitSpec d skip s := by
  have hsl := splitAll_length_le d s
  obtain ⟨hv, hlt⟩ := next_view d skip (s.length + 2) { current := none, after := some s } (Nat.le_succ_of_le hsl)
  unfold tokens start
  rw [drain_spec d skip _ _ (hlt.imp_right fun hlt => Nat.lt_of_lt_of_le hlt (Nat.le_succ_of_le hsl)), hv]
  rfl

end KV.Tokenize
