import Proofs.LeftRevealB
/-! Two-sided revelation: `RevealBefore` and `RevealAfter` calls interleaved in any order on the same fragment
(the protocol of `lm/partial_test.cc`): invariant `PT` and its preservation by either kind of call.  `PT` has two halves:
the description of the words incorporated so far relative to the words revealed so far (`PBw`, which only `RevealBefore`
and the pushing of a pointer change) and the residual right state (`Resid`, the buffer of the pointer loop between the calls).
Revealing on one side only is the case of an empty fragment on the other side. -/
namespace KV.Left
open KV.Arpa KV.Table KV.State KV.Score

variable {a : Arpa} {T : Table}

/-- invariant after `kb` words of the preceding right state (`bw = B.reverse`) and `ka` pointers of the following left
state have been revealed to `M`; `M ++ A.take ka` are the words incorporated so far -/
structure PT (a : Arpa) (T : Table) (R : Ptr → Rat) (M A : List Word) (pM : Rat) (bw : List Word) (kb ka Lk : Nat)
    (left : LeftSt) (right : State) (acc : Rat) : Prop where
  ka_le : ka ≤ A.length
  ptrs : left.pointers = (List.range Lk).map (fun i => pre (M ++ A.take ka) i ++ bw.take kb)
  xl : ∀ i, i < Lk → T.xl (pre (M ++ A.take ka) i ++ bw.take kb) = true
  Lk_le : Lk ≤ (M ++ A.take ka).length
  bound : Lk + kb ≤ a.order - 1
  score : pM + psum R A [] ka + acc = psum R (M ++ A.take ka) (bw.take kb) Lk +
    specSeq a (gm1 (M ++ A.take ka) Lk ++ bw.take kb) ((M ++ A.take ka).drop Lk)
  nu_le : right.length ≤ M.length + kb
  words : right.words.take right.length = (M.reverse ++ bw).take right.length
  hN : ka + 1 + right.length ≤ a.order
  back : right.backoff.take right.length =
    (List.range right.length).map (fun j => a.boW (gm1 A ka ++ (M.reverse ++ bw).take (j+1)))
  open_ : left.full = false → Lk = (M ++ A.take ka).length ∧ right.length = M.length + kb
  closed : left.full = true → ClosedP T (M ++ A.take ka) (bw.take kb) Lk ∧
    ∀ kk, right.length < kk → kk ≤ (M.reverse ++ bw).length → ¬ live a (gm1 A ka ++ (M.reverse ++ bw).take kk)

/-- the residual right state: what of the history `Hh`, of which `n` words have been revealed, can still matter to
pointer `ka` of the following fragment `A`; `full` is the flag of the left state -/
structure Resid (a : Arpa) (A Hh : List Word) (n ka : Nat) (full : Bool) (right : State) : Prop where
  nu_le : right.length ≤ n
  words : right.words.take right.length = Hh.take right.length
  hN : ka + 1 + right.length ≤ a.order
  back : right.backoff.take right.length = (List.range right.length).map (fun j => a.boW (gm1 A ka ++ Hh.take (j+1)))
  open_ : full = false → right.length = n
  dead : full = true → ∀ kk, right.length < kk → kk ≤ Hh.length → ¬ live a (gm1 A ka ++ Hh.take kk)

section
variable {R : Ptr → Rat} {M A : List Word} {pM : Rat} {bw : List Word} {kb ka Lk : Nat} {left : LeftSt} {right : State} {acc : Rat}

theorem PT.canon (I : PT a T R M A pM bw kb ka Lk left right acc) :
    PBw a T R (M ++ A.take ka) (pM + psum R A [] ka) bw kb Lk left acc :=
  ⟨I.ptrs, I.xl, I.Lk_le, I.bound, I.score, fun h => (I.open_ h).1, fun h => (I.closed h).1⟩

theorem PT.resid (I : PT a T R M A pM bw kb ka Lk left right acc) :
    Resid a A (M.reverse ++ bw) (M.length + kb) ka left.full right :=
  ⟨I.nu_le, I.words, I.hN, I.back, fun h => (I.open_ h).2, fun h => (I.closed h).2⟩

theorem PT.of (hka : ka ≤ A.length) (C : PBw a T R (M ++ A.take ka) (pM + psum R A [] ka) bw kb Lk left acc)
    (B : Resid a A (M.reverse ++ bw) (M.length + kb) ka left.full right) : PT a T R M A pM bw kb ka Lk left right acc :=
  ⟨hka, C.ptrs, C.xl, C.Lk_le, C.bound, C.score, B.nu_le, B.words, B.hN, B.back, fun h => ⟨C.open_w h, B.open_ h⟩,
    fun h => ⟨C.closed h, B.dead h⟩⟩
end

theorem PT.init (H : Hyp a T) (R : Ptr → Rat) {M : List Word} {Lm : Nat} {cM : Chart} {pM : Rat} (GM : FragC a T R M Lm cM pM)
    (A bw : List Word) : PT a T R M A pM bw 0 0 Lm cM.left cM.right 0 := by
  have sf := GM.right_for
  have hle : cM.right.length ≤ M.reverse.length := sf.len_le_h
  have hM : M ++ A.take 0 = M := List.append_nil M
  refine PT.of (Nat.zero_le _) ?_ ⟨by simpa using hle, ?_, by have := sf.len_le_N; have := H.wf.order_ge; omega, ?_,
    fun hf => (GM.open_ hf).2, fun hf kk hk1 hk2 => ?_⟩
  · rw [hM]
    refine ⟨by rw [GM.ptrs]; simp, fun i hi => by simpa using GM.ptr_xl i hi, GM.L_le, GM.L_lt, ?_, fun hf => (GM.open_ hf).1,
      fun hf => by simpa using (GM.closed hf).toP⟩
    rw [List.take_zero, List.append_nil, psum_nil R M, GM.prob_eq]
    show _ + 0 + 0 = _
    rw [Rat.add_zero, Rat.add_zero]; rfl
  · rw [sf.words, List.take_append_of_le_length hle]
  · rw [sf.backoff]
    apply List.map_congr_left
    intro j hj
    have hj' : j < cM.right.length := by simpa using hj
    rw [List.take_append_of_le_length (by omega)]
    rfl
  · show ¬ live a ([] ++ (M.reverse ++ bw).take kk)
    rw [List.nil_append]
    by_cases hle' : kk ≤ M.reverse.length
    · rw [List.take_append_of_le_length hle']
      exact sf.dead kk hk1 hle'
    · have e : kk = M.reverse.length + (kk - M.reverse.length) := by omega
      rw [e, List.take_length_add_append]
      simp only [List.length_append] at hk2
      simpa using closedP_dead H (GM.closed hf).toP _ (take_ne_nil (h := bw) (k := kk - M.reverse.length) (by omega) (by omega))

/-- the residual right state after a `RevealBefore` call: untouched if the left state was complete, else extended by the
new word `x` if it can still matter (`v` is the loop state after all pointers of the open fragment `F`).  One word is
revealed per call, so `v.nextUse` is 0 or 1, and that is the whole case analysis. -/
theorem Resid.before {A M bw : List Word} {kb ka : Nat} {full : Bool} {right : State}
    (B : Resid a A (M.reverse ++ bw) (M.length + kb) ka full right) {x : Word} (hkb : kb < bw.length)
    (hP' : bw.take (kb+1) = bw.take kb ++ [x]) {F : List Word} {Lk : Nat} {v : ExtendReturn}
    (hloop : LoopInv a F (bw.take kb) [x] 1 Lk v.nextUse v.backIn) (hg : full = false → gm1 F Lk = gm1 A ka ++ M.reverse ∧ Lk = M.length + ka)
    {full' : Bool} (hfl : full = true → full' = true) (hnu : full' = false → v.nextUse = 1)
    (hcl : full' = true → ∀ kk, M.length + (kb+1) < kk → kk ≤ (M.reverse ++ bw).length →
      ¬ live a (gm1 A ka ++ (M.reverse ++ bw).take kk)) :
    Resid a A (M.reverse ++ bw) (M.length + (kb+1)) ka full' (if full then right else mergedState right [x] v) := by
  cases full with
  | true =>
    rw [if_pos rfl]
    exact ⟨Nat.le_succ_of_le B.nu_le, B.words, B.hN, B.back, (fun hc => by rw [hfl rfl] at hc; cases hc), fun _ => B.dead rfl⟩
  | false =>
    rw [if_neg Bool.false_ne_true]
    obtain ⟨hgF, hLk⟩ := hg rfl
    have o2 := B.open_ rfl
    have hPl : (bw.take kb).length = kb := by rw [List.length_take]; exact Nat.min_eq_left (Nat.le_of_lt hkb)
    have hnu1 : v.nextUse ≤ 1 := hloop.nu_le
    have hn01 : v.nextUse = 1 ∨ v.nextUse = 0 := by omega
    have hlenR : (M.reverse ++ bw).length = M.length + bw.length := by simp
    have hgetx : (M.reverse ++ bw).take (M.length + kb + 1) = (M.reverse ++ bw).take (M.length + kb) ++ [x] := by
      rw [Nat.add_assoc, take_rev_add, take_rev_add, hP', List.append_assoc]
    have hl0 : ((M.reverse ++ bw).take (M.length + kb)).length = M.length + kb := by rw [List.length_take, hlenR]; omega
    refine ⟨by show right.length + v.nextUse ≤ _; omega, ?_, ?_, ?_, fun hc => by show right.length + v.nextUse = _; rw [hnu hc, o2]; rfl,
      fun hc kk hk1 hk2 => ?_⟩
    · show (right.words.take right.length ++ [x].take v.nextUse).take (right.length + v.nextUse) =
        (M.reverse ++ bw).take (right.length + v.nextUse)
      rw [B.words, o2]
      rcases hn01 with hn | hn
      · rw [hn, hgetx]
        exact List.take_of_length_le (by simp only [List.length_append, hl0]; simp)
      · rw [hn]; simp only [List.take_zero, List.append_nil, Nat.add_zero]
        exact List.take_of_length_le (by omega)
    · have := hloop.hN; rw [hPl, hLk] at this
      show ka + 1 + (right.length + v.nextUse) ≤ a.order
      omega
    · show (right.backoff.take right.length ++ v.backIn.take v.nextUse).take (right.length + v.nextUse) =
        (List.range (right.length + v.nextUse)).map _
      rw [B.back, o2]
      rcases hn01 with hn | hn
      · have hb1 : v.backIn.take 1 = [a.boW (gm1 A ka ++ (M.reverse ++ bw).take (M.length + kb + 1))] := by
          have := hloop.back
          rw [hn, hgF] at this
          rw [this]
          simp only [List.range_one, List.map_cons, List.map_nil, List.take_succ_cons, List.take_zero]
          rw [hgetx, take_rev_add]
          simp only [List.append_assoc]
        rw [hn, hb1, List.take_of_length_le (by simp), List.range_succ, List.map_append]
        rfl
      · rw [hn]; simp only [List.take_zero, List.append_nil, Nat.add_zero]
        exact List.take_of_length_le (by simp)
    · have hk1' : right.length + v.nextUse < kk := hk1
      by_cases hkk : kk = M.length + kb + 1
      · -- the word just revealed: dead by the loop invariant
        have hn0 : v.nextUse = 0 := by omega
        have := hloop.dead 1 (by omega) (by simp)
        rw [hgF] at this
        rw [hkk, hgetx, take_rev_add]
        simpa only [List.append_assoc, List.take_succ_cons, List.take_zero] using this
      · exact hcl hc kk (by omega) hk2

theorem revealBefore_stepT (H : Hyp a T) (R : Ptr → Rat) {B M A : List Word} {Lb : Nat} {cB : Chart} {pB pM : Rat}
    (GB : FragC a T R B Lb cB pB) {kb ka Lk : Nat} {left : LeftSt} {right : State} {acc : Rat}
    (I : PT a T R M A pM B.reverse kb ka Lk left right acc) (hk : kb < cB.right.length) :
    ∃ Lk', PT a T R M A pM B.reverse (kb+1) ka Lk'
      (revealBefore T R { cB.right with length := kb + 1 } kb false left right).2.1
      (revealBefore T R { cB.right with length := kb + 1 } kb false left right).2.2
      (acc + (revealBefore T R { cB.right with length := kb + 1 } kb false left right).1) := by
  have hkb : kb < B.reverse.length := Nat.lt_of_lt_of_le hk GB.right_for.len_le_h
  have hFrev := reverse_append_take M A ka
  have hFl := length_append_take M A I.ka_le
  obtain ⟨x, v, Lk', hP', C', hloop, hr, hfl, hnu⟩ := revealBefore_step H R GB.right_for I.canon hk right
    (by have := I.nu_le; omega)
  refine ⟨Lk', PT.of I.ka_le C' ?_⟩
  rw [hr]
  refine I.resid.before hkb hP' hloop (fun hf => ?_) hfl hnu fun hc kk hk1 hk2 => ?_
  · have o1 := (I.open_ hf).1
    exact ⟨by rw [o1, gm1_full]; exact hFrev, o1.trans hFl⟩
  · exact closedP_dead_beyond H (C'.closed hc) hFrev hk1 (by simpa using hk2)

theorem revealAfter_eqs (R : Ptr → Rat) (left : LeftSt) (right : State) (ptrs : List Ptr) (seen : Nat) :
    ∃ v, extendLoop T R seen (right.words.take right.length) (right.backoff.take right.length) (ptrs.drop seen) (!left.full) = v ∧
      (revealAfter T R left right { pointers := ptrs, full := false } seen).1 = v.adjust ∧
      (revealAfter T R left right { pointers := ptrs, full := false } seen).2.2 =
        { length := v.nextUse, words := (right.words.take right.length).take v.nextUse, backoff := v.backIn.take v.nextUse } ∧
      (revealAfter T R left right { pointers := ptrs, full := false } seen).2.1.pointers =
        left.pointers ++ (if left.full then [] else v.written) ∧
      (revealAfter T R left right { pointers := ptrs, full := false } seen).2.1.full =
        (left.full || ((v.makeFull || v.nextUse == T.order - 1) || (left.pointers ++ v.written).length == T.order - 1)) := by
  refine ⟨_, rfl, ?_⟩
  unfold revealAfter
  cases hl : left.full <;> simp [hl]

/-- words are appended to the description of `F` and scored with everything before them (`q` of that score is credited
to the fragment, `tail` to the adjustments); the left state is complete -/
theorem PBw.append_closed {R : Ptr → Rat} {F bw : List Word} {pF : Rat} {k Lk : Nat} {left : LeftSt} {acc : Rat}
    (C : PBw a T R F pF bw k Lk left acc) (l : List Word) {left' : LeftSt} {q tail : Rat} (hptr : left'.pointers = left.pointers)
    (hfull : left'.full = true) (hcl : ClosedP T (F ++ l) (bw.take k) Lk) (hq : q + tail = specSeq a (F.reverse ++ bw.take k) l) :
    PBw a T R (F ++ l) (pF + q) bw k Lk left' (acc + tail) := by
  have hLk := C.Lk_le
  refine ⟨?_, fun i hi => ?_, by rw [List.length_append]; omega, C.bound, ?_, (fun hc => by rw [hfull] at hc; cases hc), fun _ => hcl⟩
  · rw [hptr, C.ptrs]
    apply List.map_congr_left
    intro i hi
    rw [pre_append F l (Nat.lt_of_lt_of_le (by simpa using hi) hLk)]
  · rw [pre_append F l (Nat.lt_of_lt_of_le hi hLk)]; exact C.xl i hi
  · rw [canon_append R F l (bw.take k) hLk, ← C.score, ← hq]
    ac_rfl

/-- … or its pointer, which includes everything before it, is pushed to the open left state -/
theorem PBw.push {R : Ptr → Rat} {F bw : List Word} {pF : Rat} {k Lk : Nat} {left : LeftSt} {acc : Rat}
    (C : PBw a T R F pF bw k Lk left acc) (hopen : left.full = false) (x : Word) {left' : LeftSt} {adj r : Rat}
    (hptr : left'.pointers = left.pointers ++ [x :: (F.reverse ++ bw.take k)])
    (hxl : T.xl (x :: (F.reverse ++ bw.take k)) = true) (hb : F.length + 1 + k ≤ a.order - 1)
    (hadj : adj + r = R (x :: (F.reverse ++ bw.take k)))
    (hcl : left'.full = true → ClosedP T (F ++ [x]) (bw.take k) (F.length + 1)) :
    PBw a T R (F ++ [x]) (pF + r) bw k (F.length + 1) left' (acc + adj) := by
  have o1 := C.open_w hopen
  have hpf : pre (F ++ [x]) F.length ++ bw.take k = x :: (F.reverse ++ bw.take k) := by rw [pre_full]; rfl
  have hpre : ∀ i, i < F.length → pre (F ++ [x]) i = pre F i := fun i hi => pre_append F [x] hi
  refine ⟨?_, fun i hi => ?_, by rw [List.length_append]; exact Nat.le_refl _, hb, ?_, fun _ => by rw [List.length_append]; rfl, hcl⟩
  · rw [hptr, C.ptrs, o1, List.range_succ, List.map_append, List.map_cons, List.map_nil, hpf]
    congr 1
    apply List.map_congr_left
    intro i hi
    rw [hpre i (by simpa using hi)]
  · by_cases hlt : i < F.length
    · rw [hpre i hlt]; exact C.xl i (by omega)
    · rw [show i = F.length by omega, hpf]; exact hxl
  · have hsc := C.score
    rw [o1, List.drop_eq_nil_of_le (Nat.le_refl _)] at hsc
    rw [List.drop_eq_nil_of_le (by rw [List.length_append]; exact Nat.le_refl _)]
    unfold psum at hsc ⊢
    rw [dsum_snoc, hpf, ← hadj, dsum_congr (g := fun i => R (pre F i ++ bw.take k)) F.length 0
      (fun j _ hj => by rw [hpre j (by omega)])]
    simp only [specSeq, Rat.add_zero] at hsc ⊢
    rw [← hsc]
    ac_rfl

theorem Resid.loopInv {A Hh : List Word} {n ka : Nat} {full : Bool} {right : State} (B : Resid a A Hh n ka full right)
    (hn : n ≤ Hh.length) :
    LoopInv a A [] (Hh.take n) right.length ka right.length ((right.backoff.take right.length).take right.length) := by
  refine ⟨Nat.le_refl _, by have := B.hN; show ka + 0 + 1 + right.length ≤ a.order; omega, ?_, fun kk h1 h2 => ?_⟩
  · show ((right.backoff.take right.length).take right.length).take right.length = _
    rw [List.take_take, Nat.min_self, List.take_take, Nat.min_self, B.back]
    apply List.map_congr_left
    intro j hj
    have hj' : j < right.length := by simpa using hj
    rw [take_take_of_le (l := Hh) (Nat.le_trans hj' B.nu_le), List.append_nil]
  · have h1' : right.length < kk := h1
    rw [List.length_take, Nat.min_eq_left hn] at h2
    cases full with
    | true => rw [take_take_of_le (l := Hh) h2, List.append_nil]; exact B.dead rfl kk h1 (Nat.le_trans h2 hn)
    | false => have := B.open_ rfl; omega

theorem Resid.after {A Hh : List Word} {n ka : Nat} {full : Bool} {right : State} (B : Resid a A Hh n ka full right)
    (hn : n ≤ Hh.length) {v : ExtendReturn} (hloop : LoopInv a A [] (Hh.take n) right.length (ka+1) v.nextUse v.backIn) {full' : Bool}
    (hop : full' = false → v.nextUse = n)
    (hcl : full' = true → ∀ kk, n < kk → kk ≤ Hh.length → ¬ live a (gm1 A (ka+1) ++ Hh.take kk)) :
    Resid a A Hh n (ka+1) full'
      { length := v.nextUse, words := (right.words.take right.length).take v.nextUse, backoff := v.backIn.take v.nextUse } := by
  have hnu' : v.nextUse ≤ right.length := hloop.nu_le
  have hnu := B.nu_le
  refine ⟨Nat.le_trans hnu' hnu, ?_, by have := hloop.hN; simpa using this, ?_, hop, fun hc kk hk1 hk2 => ?_⟩
  · show ((right.words.take right.length).take v.nextUse).take v.nextUse = _
    rw [List.take_take, Nat.min_self, B.words, List.take_take, Nat.min_eq_left hnu']
  · show (v.backIn.take v.nextUse).take v.nextUse = _
    rw [List.take_take, Nat.min_self, hloop.back]
    apply List.map_congr_left
    intro j hj
    have hj' : j < v.nextUse := by simpa using hj
    rw [take_take_of_le (l := Hh) (Nat.le_trans hj' (Nat.le_trans hnu' hnu)), List.append_nil]
  · by_cases hle : kk ≤ n
    · have := hloop.dead kk hk1 (by rw [List.length_take, Nat.min_eq_left hn]; exact hle)
      rwa [take_take_of_le (l := Hh) hle, List.append_nil] at this
    · exact hcl hc kk (by omega) hk2

/-- **one `RevealAfter` call in the two-sided protocol** (pointer `ka` of `A`).  The history offered to the pointer is what
has been revealed so far, `M.reverse ++ bw.take kb` (as much of it as the residual right state still holds); the pointer is
either finalised (the left state is or becomes complete) or pushed to the left state. -/
theorem revealAfter_stepT (H : Hyp a T) (R : Ptr → Rat) {M A : List Word} {La : Nat} {cA : Chart} {pA pM : Rat}
    (GA : FragC a T R A La cA pA) {bw : List Word} {kb ka Lk : Nat} {left : LeftSt} {right : State} {acc : Rat}
    (hkb : kb ≤ bw.length)
    (I : PT a T R M A pM bw kb ka Lk left right acc) (hk : ka < La) :
    ∃ Lk', PT a T R M A pM bw kb (ka+1) Lk'
      (revealAfter T R left right { pointers := cA.left.pointers.take (ka+1), full := false } ka).2.1
      (revealAfter T R left right { pointers := cA.left.pointers.take (ka+1), full := false } ka).2.2
      (acc + (revealAfter T R left right { pointers := cA.left.pointers.take (ka+1), full := false } ka).1) := by
  have hord : T.order = a.order := H.tf.order_eq
  have hkaA : ka < A.length := Nat.lt_of_lt_of_le hk GA.L_le
  have hFl := length_append_take M A (Nat.le_of_lt hkaA)
  have hFrev := reverse_append_take M A ka
  have hFrev' := reverse_append_take M A (ka+1)
  have hFs := append_take_succ M A ka hkaA
  have hPl : (bw.take kb).length = kb := by rw [List.length_take, Nat.min_eq_left hkb]
  have hn : M.length + kb ≤ (M.reverse ++ bw).length := by simp; omega
  have hhc := take_rev_add M bw kb
  have hcl : ((M.reverse ++ bw).take (M.length + kb)).length = M.length + kb := by rw [List.length_take, Nat.min_eq_left hn]
  have B := I.resid
  have C := I.canon
  obtain ⟨v, hv, r1, r2, r3, r4⟩ := revealAfter_eqs (T := T) R left right (cA.left.pointers.take (ka+1)) ka
  have hps : (cA.left.pointers.take (ka+1)).drop ka = ((List.range (ka+1)).map (fun i => pre A i ++ [])).drop ka := by
    rw [GA.ptrs, ← List.map_take, List.take_range, Nat.min_eq_left hk]
    simp
  rw [B.words, ← take_take_of_le B.nu_le, hps] at hv
  have Cx : LoopCtx a T A [] ((M.reverse ++ bw).take (M.length + kb)) (ka+1) right.length :=
    ⟨hkaA, fun i hi => by simpa using GA.ptr_xl i (Nat.lt_of_lt_of_le hi hk), by have := GA.L_lt; simp; omega,
      by rw [hcl]; exact B.nu_le⟩
  obtain ⟨Lw, O⟩ := extendLoop_sem H R Cx ka ka (by simp) (Nat.le_succ _) _ (B.loopInv hn) _
    (fun hw => by rw [hcl]; exact B.open_ (by simpa using hw)) v hv
  have hwr := O.written₀ rfl
  have hxlw := O.xl
  have hadjv := O.adjust₀ rfl
  have hstop := O.write_cases
  generalize revealAfter T R left right { pointers := cA.left.pointers.take (ka+1), full := false } ka = res at r1 r2 r3 r4
  obtain ⟨acc', left', right'⟩ := res
  simp only at r1 r2 r3 r4
  subst r1 r2
  rw [hhc] at hwr hxlw hadjv hstop
  simp only [List.append_nil] at hwr hxlw
  have hptr : pre A ka ++ (M.reverse ++ bw.take kb) = A[ka] :: ((M ++ A.take ka).reverse ++ bw.take kb) := by
    rw [pre_eq_cons A ka hkaA, hFrev]; simp
  have hpsumA : pM + psum R A [] (ka+1) = pM + psum R A [] ka + R (pre A ka) := by
    unfold psum; rw [dsum_snoc, List.append_nil]; exact (Rat.add_assoc _ _ _).symm
  have hone : ka + 1 - ka = 1 := Nat.add_sub_cancel_left ka 1
  -- the new invariant from the new description: beyond the residual right state everything is dead once the left state is
  -- complete, by the loop and, for what was never offered, by the closure
  have fin : ∀ Lk', PBw a T R (M ++ A.take ka ++ [A[ka]]) (pM + psum R A [] ka + R (pre A ka)) bw kb Lk' left' (acc + v.adjust) →
      (left'.full = false → v.nextUse = M.length + kb) →
      ∃ Lk', PT a T R M A pM bw kb (ka+1) Lk' left'
        { length := v.nextUse, words := (right.words.take right.length).take v.nextUse, backoff := v.backIn.take v.nextUse }
        (acc + v.adjust) := by
    intro Lk' C' hop
    rw [← hFs, ← hpsumA] at C'
    exact ⟨Lk', PT.of hkaA C' (B.after hn O.inv hop fun hc kk hk1 hk2 =>
      closedP_dead_beyond H (C'.closed hc) hFrev' hk1 (by simpa using hk2))⟩
  have hLwk : Lw = ka ∨ Lw = ka + 1 := by have := O.le_Lw; have := O.Lw_le; omega
  rcases hLwk with hLw | hLw
  · -- finalised: the word is scored with everything incorporated and revealed so far; the left state is complete
    subst hLw
    have hfull' : left'.full = true ∧ ClosedP T (M ++ A.take Lw ++ [A[Lw]]) (bw.take kb) Lk := by
      rw [r4]
      by_cases hf : left.full = true
      · exact ⟨by rw [hf]; rfl, (C.closed hf).append_word H A[Lw]⟩
      · have hopen : left.full = false := by simpa using hf
        rcases hstop (by rw [hopen]; rfl) with ⟨_, hall, _⟩ | ⟨hset, hcn⟩
        · omega
        · refine ⟨by rw [hset]; simp, ?_⟩
          rw [C.open_w hopen, hFl, ← hFs]
          exact ClosedP.concat (closedP_of_cn H (A.take (Lw+1)) [] _ Lw (by simp; omega) (hcn.take hkaA (Nat.le_succ _)))
    refine fin Lk (C.append_closed [A[Lw]] (by rw [r3, hwr, List.drop_eq_nil_of_le (by simp)]; simp) hfull'.1 hfull'.2 ?_)
      (fun hc => by rw [hfull'.1] at hc; cases hc)
    rw [hadjv, Nat.sub_self, hone]
    simp only [dsum, doneTerm, specSeq, List.append_nil, Rat.zero_add, Rat.add_zero]
    rw [← List.getElem_eq_getD (h := hkaA) 0, hFrev, List.append_assoc, Rat.add_comm, Rat.sub_add_cancel]
  · -- pushed: the left state was open and the pointer is extended by the whole history
    subst hLw
    have hopen : left.full = false := by
      cases hf : left.full with
      | false => rfl
      | true => have := O.use_only (by rw [hf]; rfl); omega
    have hw : (!left.full) = true := by rw [hopen]; rfl
    rw [hopen] at r3 r4
    simp only [Bool.false_eq_true, if_false, Bool.false_or] at r3 r4
    have hw1 : ((List.range (ka+1)).drop ka) = [ka] := by rw [range_drop_cons (Nat.lt_succ_self ka), List.drop_eq_nil_of_le (by simp)]
    have hb' : (M ++ A.take ka).length + 1 + kb ≤ a.order - 1 := by
      have := O.bound (by omega); rw [hcl] at this; simp only [List.length_nil, Nat.add_zero] at this; omega
    have C' := C.push hopen A[ka] (left' := left') (adj := v.adjust) (r := R (pre A ka))
      (by rw [r3, hwr, hw1, List.map_cons, List.map_nil, hptr])
      (by rw [← hptr]; exact hxlw ka (Nat.le_refl _) (Nat.lt_succ_self _)) hb'
      (by rw [hadjv, hone, Nat.sub_self]; simp only [dsum, openTerm, List.append_nil, Rat.add_zero]; rw [Rat.sub_add_cancel, hptr])
      (fun hcc => ?_)
    · refine fin _ C' fun hcc => ?_
      rw [r4] at hcc
      simp only [Bool.or_eq_false_iff] at hcc
      rw [(O.through hw hcc.1.1).2]; exact B.open_ hopen
    · rw [r4] at hcc
      rcases hstop hw with ⟨hsame, _, hnu⟩ | ⟨_, hcn⟩
      · -- nothing stopped the loop: the fragment has become an (N-1)-gram
        right; right
        refine ⟨by rw [List.length_append (bs := [A[ka]]), List.length_singleton], ?_⟩
        have o1 := C.open_w hopen
        have o2 := B.open_ hopen
        rw [hsame, C.ptrs, hwr, hw1, hnu] at hcc
        simp only [Bool.false_or, Bool.or_eq_true, beq_iff_eq, List.length_append, List.length_map, List.length_range,
          List.length_cons, List.length_nil] at hcc
        rw [hPl]
        omega
      · rw [hFl, ← hFs]
        exact ClosedP.concat (closedP_of_cn H (A.take (ka+1)) [] _ (ka+1) (by simp; omega) (hcn.take hkaA (Nat.le_refl _)))

theorem revealAfter_final (R : Ptr → Rat) (l : LeftSt) (r : State) (ptrs : List Ptr) (La : Nat) (hp : ptrs.length = La)
    (hal : (r.words.take r.length).length = r.length) :
    (revealAfter T R l r { pointers := ptrs, full := true } La).1 = (r.backoff.take r.length).sum ∧
    (revealAfter T R l r { pointers := ptrs, full := true } La).2.1.pointers = l.pointers ∧
    (revealAfter T R l r { pointers := ptrs, full := true } La).2.1.full = true := by
  have hps : ptrs.drop La = [] := List.drop_eq_nil_of_le (by omega)
  have hv : ∀ w, extendLoop T R La (r.words.take r.length) (r.backoff.take r.length) [] w =
      { adjust := 0 + unRest T R [] (0 + La + 1), nextUse := r.length, backIn := (r.backoff.take r.length).take r.length } := by
    intro w
    unfold extendLoop
    cases w <;> simp [extendLoopWrite, extendLoopUse, hal]
  unfold revealAfter
  dsimp only
  rw [hps, hv]
  simp only [unRest, List.map_nil, List.sum_nil, List.take_take, Nat.min_self]
  cases hl : l.full <;> simp <;> grind

/-- what the back-offs still in the residual right state are, once all pointers of `A` have been revealed: what the
first word after `A`'s complete left state receives from everything before it -/
theorem Resid.tail (H : Hyp a T) {M A bw : List Word} {kb La : Nat} {full : Bool} {r : State}
    (B : Resid a A (M.reverse ++ bw) (M.length + kb) La full r) (hcA : ClosedP T A [] La) (hkb : kb ≤ bw.length)
    (hBdead : ∀ k, kb < k → k ≤ bw.length → ¬ live a (bw.take k)) :
    specSeq a (gm1 A La) (A.drop La) + (r.backoff.take r.length).sum =
      specSeq a (gm1 A La ++ M.reverse ++ bw.take kb) (A.drop La) := by
  have hRl : (M.reverse ++ bw).length = M.length + bw.length := by simp
  have hnuR : r.length ≤ (M.reverse ++ bw).length := by have := B.nu_le; omega
  have hD : ∀ kk, r.length < kk → kk ≤ (M.reverse ++ bw).length → ¬ live a (gm1 A La ++ (M.reverse ++ bw).take kk) := by
    intro kk h1 h2
    cases full with
    | true => exact B.dead rfl kk h1 h2
    | false =>
      have o2 := B.open_ rfl
      obtain ⟨d, rfl⟩ : ∃ d, kk = M.length + d := ⟨kk - M.length, by omega⟩
      rw [take_rev_add, ← List.append_assoc]
      exact dead_cons H.wf _ _ (take_ne_nil (by omega) (by omega)) (hBdead _ (by omega) (by omega))
  -- the before-words that were never offered do not matter
  have hcutR : specSeq a (gm1 A La ++ (M.reverse ++ bw)) (A.drop La) =
      specSeq a (gm1 A La ++ M.reverse ++ bw.take kb) (A.drop La) := by
    have e : gm1 A La ++ (M.reverse ++ bw) = (gm1 A La ++ M.reverse ++ bw.take kb) ++ bw.drop kb := by
      simp only [List.append_assoc, List.take_append_drop]
    rw [e]
    apply specSeq_dead H.wf
    intro k hk1 hk2
    rw [List.append_assoc, ← List.take_add]
    simp only [List.length_drop] at hk2
    exact dead_cons H.wf _ _ (take_ne_nil (by omega) (by omega)) (hBdead _ (by omega) (by omega))
  rw [← hcutR, B.back, sum_range_map]
  have ht := closedP_tail H hcA (M.reverse ++ bw) r.length (by have := B.hN; simp; omega) hnuR (by simpa using hD)
  simp only [List.append_nil] at ht
  exact ht.symm

/-- **the final `RevealAfter` call** (`after.full`) and the passage to the fragment `M ++ A` -/
theorem finalA (H : Hyp a T) (R : Ptr → Rat) {M A : List Word} {La : Nat} {cA : Chart} {pA pM : Rat}
    (GA : FragC a T R A La cA pA) {bw : List Word} {kb Lk : Nat} {l : LeftSt} {r : State} {acc : Rat}
    (hkb : kb ≤ bw.length) (hBdead : ∀ k, kb < k → k ≤ bw.length → ¬ live a (bw.take k))
    (I : PT a T R M A pM bw kb La Lk l r acc) :
    PBw a T R (M ++ A) (pM + pA) bw kb Lk
      (if cA.left.full then (revealAfter T R l r { pointers := cA.left.pointers, full := true } La).2.1 else l)
      (if cA.left.full then acc + (revealAfter T R l r { pointers := cA.left.pointers, full := true } La).1 else acc) := by
  have hLa := GA.L_le
  have hFl := length_append_take M A hLa
  have hFrev := reverse_append_take M A La
  have hsplitF : M ++ A = (M ++ A.take La) ++ A.drop La := by rw [List.append_assoc, List.take_append_drop]
  have hpA : pM + pA = pM + psum R A [] La + specSeq a (gm1 A La) (A.drop La) := by
    rw [GA.prob_eq, psum_nil, Rat.add_assoc]; rfl
  have C := I.canon
  by_cases hfA : cA.left.full = true
  · rw [if_pos hfA, if_pos hfA, hsplitF, hpA]
    have hal : (r.words.take r.length).length = r.length := by
      rw [I.words, List.length_take]
      have := I.nu_le
      simp only [List.length_append, List.length_reverse]; omega
    obtain ⟨f1, f2, f3⟩ := revealAfter_final (T := T) R l r cA.left.pointers La (by rw [GA.ptrs]; simp) hal
    refine C.append_closed (A.drop La) f2 f3 ?_ (by rw [f1, hFrev]; exact I.resid.tail H (GA.closed hfA).toP hkb hBdead)
    by_cases hl : l.full = true
    · exact ClosedP.append_words H _ _ (C.closed hl)
    · -- all pointers of `A` were extended by everything before: its reason carries over
      have o1 := C.open_w (by simpa using hl)
      rw [← hsplitF, o1, hFl]
      refine ClosedP.concat ((GA.closed hfA).toP.more_ctx H (M.reverse ++ bw.take kb) ?_)
      have := C.bound
      rw [H.tf.order_eq]
      simp only [List.length_nil, List.length_append, List.length_reverse, List.length_take, Nat.min_eq_left hkb]
      omega
  · rw [if_neg hfA, if_neg hfA]
    obtain ⟨h1, _⟩ := GA.open_ (by simpa using hfA)
    have hAt : A.take La = A := by rw [h1]; exact List.take_of_length_le (Nat.le_refl _)
    rw [hpA, h1, List.drop_eq_nil_of_le (Nat.le_refl _), ← h1]
    rw [hAt] at C
    exact ⟨C.ptrs, C.xl, C.Lk_le, C.bound, by rw [← C.score]; exact congrArg (· + acc) (Rat.add_zero _), C.open_w, C.closed⟩

theorem revealSteps_inv (H : Hyp a T) (R : Ptr → Rat) {B M A : List Word} {Lb La : Nat} {cB cA : Chart} {pB pA pM : Rat}
    (GB : FragC a T R B Lb cB pB) (GA : FragC a T R A La cA pA) :
    ∀ (steps : List Bool) (kb ka Lk : Nat) (l : LeftSt) (r : State) (acc : Rat),
      kb ≤ cB.right.length → ka ≤ La → PT a T R M A pM B.reverse kb ka Lk l r acc →
      ∃ Lk', (revealSteps T R cB cA steps (kb, ka, l, r, acc)).1 ≤ cB.right.length ∧
        (revealSteps T R cB cA steps (kb, ka, l, r, acc)).2.1 ≤ La ∧
        PT a T R M A pM B.reverse (revealSteps T R cB cA steps (kb, ka, l, r, acc)).1
          (revealSteps T R cB cA steps (kb, ka, l, r, acc)).2.1 Lk'
          (revealSteps T R cB cA steps (kb, ka, l, r, acc)).2.2.1
          (revealSteps T R cB cA steps (kb, ka, l, r, acc)).2.2.2.1
          (revealSteps T R cB cA steps (kb, ka, l, r, acc)).2.2.2.2 := by
  have hlenA := GA.left_length
  have hnb : cB.right.length ≤ B.reverse.length := GB.right_for.len_le_h
  intro steps
  induction steps with
  | nil => intro kb ka Lk l r acc h1 h2 I; exact ⟨Lk, h1, h2, I⟩
  | cons b rest ih =>
    intro kb ka Lk l r acc h1 h2 I
    cases b with
    | true =>
      simp only [revealSteps]
      by_cases hk : kb < cB.right.length
      · simp only [hk, if_true]
        obtain ⟨Lk', I'⟩ := revealBefore_stepT H R GB I hk
        exact ih (kb+1) ka Lk' _ _ _ (by omega) h2 I'
      · simp only [hk, if_false]
        exact ih kb ka Lk l r acc h1 h2 I
    | false =>
      simp only [revealSteps, hlenA]
      by_cases hk : ka < La
      · simp only [hk, if_true]
        obtain ⟨Lk', I'⟩ := revealAfter_stepT H R GA (by omega) I hk
        exact ih kb (ka+1) Lk' _ _ _ h1 (by omega) I'
      · simp only [hk, if_false]
        exact ih kb ka Lk l r acc h1 h2 I

theorem revealBoth_frag (H : Hyp a T) (R : Ptr → Rat) {B M A : List Word} {Lb Lm La : Nat} {cB cM cA : Chart} {pB pM pA : Rat}
    (GB : FragC a T R B Lb cB pB) (GM : FragC a T R M Lm cM pM) (GA : FragC a T R A La cA pA) (steps : List Bool)
    (hall : (revealSteps T R cB cA steps (0, 0, cM.left, cM.right, 0)).1 = cB.right.length ∧
            (revealSteps T R cB cA steps (0, 0, cM.left, cM.right, 0)).2.1 = cA.left.length) :
    ∃ L' c', c'.left.pointers = cB.left.pointers ++ (revealBoth T R cB cM cA steps).1.pointers ∧
      (cB.left.full = false → c'.left.full = (revealBoth T R cB cM cA steps).1.full) ∧
      FragC a T R (B ++ (M ++ A)) L' c' (pB + (pM + pA) + (revealBoth T R cB cM cA steps).2.2) := by
  have hlenA := GA.left_length
  have sfB := GB.right_for
  have hnb : cB.right.length ≤ B.reverse.length := sfB.len_le_h
  obtain ⟨Lk, _, _, I⟩ := revealSteps_inv H R GB GA (M := M) (pM := pM) steps 0 0 Lm cM.left cM.right 0 (Nat.zero_le _) (Nat.zero_le _)
    (PT.init H R GM A B.reverse)
  obtain ⟨hb, ha⟩ := hall
  unfold revealBoth
  generalize revealSteps T R cB cA steps (0, 0, cM.left, cM.right, 0) = st at I hb ha
  obtain ⟨kb, ka, l, r, acc⟩ := st
  simp only at I hb ha
  subst hb
  rw [hlenA] at ha
  subst ha
  have IA := finalA H R GA hnb (fun k h1 h2 => sfB.dead k h1 h2) I
  rw [hlenA]
  by_cases hfA : cA.left.full = true
  · simp only [hfA, if_true] at IA ⊢
    have fb := finish_before H R GB (revealAfter T R l r { pointers := cA.left.pointers, full := true } ka).2.2 IA
    by_cases hfB : cB.left.full = true
    · simp only [hfB, if_true] at fb ⊢
      obtain ⟨L', c', h1, _, G⟩ := fb
      exact ⟨L', c', h1, (fun hc => by cases hc), G⟩
    · have hfB' : cB.left.full = false := by simpa using hfB
      simp only [hfB', Bool.false_eq_true, if_false] at fb ⊢; exact fb
  · have hfA' : cA.left.full = false := by simpa using hfA
    simp only [hfA', Bool.false_eq_true, if_false] at IA ⊢
    have fb := finish_before H R GB r IA
    by_cases hfB : cB.left.full = true
    · simp only [hfB, if_true] at fb ⊢
      obtain ⟨L', c', h1, _, G⟩ := fb
      exact ⟨L', c', h1, (fun hc => by cases hc), G⟩
    · have hfB' : cB.left.full = false := by simpa using hfB
      simp only [hfB', Bool.false_eq_true, if_false] at fb ⊢; exact fb

theorem revealSteps_after (R : Ptr → Rat) (cB cA : Chart) :
    ∀ (n kb ka : Nat) (l : LeftSt) (r : State) (acc : Rat), ka + n ≤ cA.left.length →
      revealSteps T R cB cA (List.replicate n false) (kb, ka, l, r, acc) =
        (kb, ka + n, revealAfterLoop T R cA.left.pointers n ka (l, r, acc)) := by
  intro n
  induction n with
  | zero => intro kb ka l r acc _; rfl
  | succ n ih =>
    intro kb ka l r acc h
    have hlt : ka < cA.left.length := by omega
    simp only [List.replicate_succ, revealSteps, hlt, if_true, revealAfterLoop]
    rw [ih _ _ _ _ _ (by omega)]
    have e : ka + 1 + n = ka + (n + 1) := by omega
    rw [e]

theorem revealAfterAll_frag (H : Hyp a T) (R : Ptr → Rat) {M A : List Word} {Lm La : Nat} {cM cA : Chart} {pM pA : Rat}
    (GM : FragC a T R M Lm cM pM) (GA : FragC a T R A La cA pA) :
    ∃ L' right', FragC a T R (M ++ A) L' { left := (revealAfterAll T R cM cA).1, right := right' }
      (pM + pA + (revealAfterAll T R cM cA).2.2) := by
  have hsteps := revealSteps_after (T := T) R {} cA cA.left.length 0 0 cM.left cM.right 0 (by omega)
  have hboth : revealBoth T R {} cM cA (List.replicate cA.left.length false) = revealAfterAll T R cM cA := by
    unfold revealBoth revealAfterAll
    rw [hsteps]
    rfl
  obtain ⟨L', ⟨⟨ptrs, full⟩, right'⟩, h1, h2, G⟩ := revealBoth_frag H R (fragC_nil R) GM GA (List.replicate cA.left.length false)
    (by rw [hsteps]; exact ⟨rfl, by simp⟩)
  rw [hboth] at h1 h2 G
  have h2' := h2 rfl
  simp only [List.nil_append] at h1 h2' G
  subst h1 h2'
  rw [Rat.zero_add] at G
  exact ⟨L', right', G⟩

theorem revealSteps_before (R : Ptr → Rat) (cB cA : Chart) :
    ∀ (n kb ka : Nat) (l : LeftSt) (r : State) (acc : Rat), kb + n ≤ cB.right.length →
      revealSteps T R cB cA (List.replicate n true) (kb, ka, l, r, acc) =
        (kb + n, ka, revealBeforeLoop T R cB.right n kb (l, r, acc)) := by
  intro n
  induction n with
  | zero => intro kb ka l r acc _; rfl
  | succ n ih =>
    intro kb ka l r acc h
    have hlt : kb < cB.right.length := by omega
    simp only [List.replicate_succ, revealSteps, hlt, if_true, revealBeforeLoop]
    rw [ih _ _ _ _ _ (by omega)]
    have e : kb + 1 + n = kb + (n + 1) := by omega
    rw [e]

theorem revealBeforeAll_frag (H : Hyp a T) (R : Ptr → Rat) {B M : List Word} {Lb Lm : Nat} {cB cM : Chart} {pB pM : Rat}
    (GB : FragC a T R B Lb cB pB) (GM : FragC a T R M Lm cM pM) :
    ∃ L' c', c'.left.pointers = cB.left.pointers ++ (revealBeforeAll T R cB cM).1.pointers ∧
      FragC a T R (B ++ M) L' c' (pB + pM + (revealBeforeAll T R cB cM).2.2) := by
  have hsteps := revealSteps_before (T := T) R cB {} cB.right.length 0 0 cM.left cM.right 0 (by omega)
  have hboth : revealBoth T R cB cM {} (List.replicate cB.right.length true) = revealBeforeAll T R cB cM := by
    unfold revealBoth revealBeforeAll
    rw [hsteps]
    rfl
  obtain ⟨L', c', h1, _, G⟩ := revealBoth_frag H R GB GM (fragC_nil R) (List.replicate cB.right.length true)
    (by rw [hsteps]; exact ⟨by simp, rfl⟩)
  rw [hboth] at h1 G
  rw [List.append_nil, Rat.add_zero] at G
  exact ⟨L', c', h1, G⟩

/-! Nothing in the development uses the following three declarations. -/

structure PB (a : Arpa) (T : Table) (R : Ptr → Rat) (M : List Word) (pM : Rat) (bw : List Word) (k Lk : Nat)
    (left : LeftSt) (right : State) (acc : Rat) : Prop where
  ptrs : left.pointers = (List.range Lk).map (fun i => pre M i ++ bw.take k)
  xl : ∀ i, i < Lk → T.xl (pre M i ++ bw.take k) = true
  Lk_le : Lk ≤ M.length
  bound : Lk + k ≤ a.order - 1
  score : pM + acc = psum R M (bw.take k) Lk + specSeq a (gm1 M Lk ++ bw.take k) (M.drop Lk)
  open_ : left.full = false → Lk = M.length ∧ right.length = M.length + k ∧
    right.words.take right.length = M.reverse ++ bw.take k ∧
    right.backoff.take right.length = (List.range (M.length + k)).map (fun j => a.boW ((M.reverse ++ bw.take k).take (j+1)))
  closed : left.full = true → ClosedP T M (bw.take k) Lk

structure PA (a : Arpa) (T : Table) (R : Ptr → Rat) (M A : List Word) (cM : Chart) (k Lp : Nat)
    (left : LeftSt) (right : State) (acc : Rat) : Prop where
  nu_le : right.length ≤ cM.right.length
  words : right.words.take right.length = M.reverse.take right.length
  hN : k + 1 + right.length ≤ a.order
  back : right.backoff.take right.length = (List.range right.length).map (fun j => a.boW (gm1 A k ++ M.reverse.take (j+1)))
  dead : ∀ kk, right.length < kk → kk ≤ M.reverse.length → ¬ live a (gm1 A k ++ M.reverse.take kk)
  Lp_le : Lp ≤ k
  ptrs : left.pointers = cM.left.pointers ++ (List.range Lp).map (fun i => pre A i ++ M.reverse)
  xl : ∀ i, i < Lp → T.xl (pre A i ++ M.reverse) = true
  bound : 0 < Lp → Lp + M.length ≤ a.order - 1
  acc_eq : acc = dsum (openTerm R A [] M.reverse) 0 Lp + dsum (doneTerm a R A [] M.reverse) Lp (k - Lp)
  open_ : left.full = false → cM.left.full = false ∧ Lp = k ∧ right.length = M.length
  closed : left.full = true → (cM.left.full = true ∧ Lp = 0) ∨
    (cM.left.full = false ∧ (CN T A [] M.reverse Lp ∨ Lp + M.length = a.order - 1))

theorem take_succ_getElem' (l : List Word) (n : Nat) (h : n < l.length) : l.take (n+1) = l.take n ++ [l[n]] :=
  List.take_succ_eq_append_getElem h

end KV.Left
