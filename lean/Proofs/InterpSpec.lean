import Proofs.InterpUnion
/-!
The score the tool computes on universal ids (`LM.rawScore`: n-gram lookups on the raw ids, `<unk>`
only when the unigram is missing) equals the *specified* component score (`LM.score`: every word
first mapped into the component's vocabulary, "a word missing from a component counts as its
`<unk>`"), for components in which `<unk>` occurs only as a unigram without back-off and every
word of an n-gram has a unigram (lmplz output; checked per generated model).
-/
namespace KV.Interp
variable {W : Type} [DecidableEq W]

def UnkOnlyUnigram (m : LM W) : Prop :=
  ∀ e ∈ m.entries, e.ctx ≠ [] → m.unk ∉ e.ctx ∧ e.word ≠ m.unk

def WordsKnown (m : LM W) : Prop :=
  ∀ e ∈ m.entries, (∀ x ∈ e.ctx, m.known x = true) ∧ m.known e.word = true

/-- the conditions under which looking n-grams up by raw id and first mapping unknown words to `<unk>` agree -/
structure UnkClean (m : LM W) : Prop where
  only : UnkOnlyUnigram m
  nobo : m.boOf [m.unk] = 0
  words : WordsKnown m

theorem norm_of_known {m : LM W} {w : W} (h : m.known w = true) : m.norm w = w := by
  simp [LM.norm, h]

theorem norm_of_unknown {m : LM W} {w : W} (h : m.known w = false) : m.norm w = m.unk := by
  simp [LM.norm, h]

theorem map_norm_of_allKnown {m : LM W} : ∀ {c : List W}, (∀ x ∈ c, m.known x = true) → c.map m.norm = c
  | [], _ => rfl
  | y :: c, h => by
    rw [List.map_cons, norm_of_known (h y List.mem_cons_self),
      map_norm_of_allKnown (fun x hx => h x (List.mem_cons_of_mem _ hx))]

theorem unk_mem_map_norm {m : LM W} {c : List W} {x : W} (hx : x ∈ c) (hk : m.known x = false) :
    m.unk ∈ c.map m.norm :=
  List.mem_map.2 ⟨x, hx, norm_of_unknown hk⟩

theorem known_of_find {m : LM W} (hw : WordsKnown m) {c : List W} {w : W} {e : Entry W}
    (hf : m.find c w = some e) : (∀ x ∈ c, m.known x = true) ∧ m.known w = true := by
  obtain ⟨_, he, h1, h2⟩ := mem_ext_of_find m c w e hf
  exact h1 ▸ h2 ▸ hw e he

theorem unk_free_of_find {m : LM W} (hu : UnkOnlyUnigram m) {c : List W} {w : W} {e : Entry W}
    (hf : m.find c w = some e) (hc : c ≠ []) : m.unk ∉ c ∧ w ≠ m.unk := by
  obtain ⟨_, he, h1, h2⟩ := mem_ext_of_find m c w e hf
  exact h1 ▸ h2 ▸ hu e he (h1 ▸ hc)

theorem boOf_zero_of_findGram_none {m : LM W} {g : List W} (h : m.findGram g = none) : m.boOf g = 0 := by
  unfold LM.boOf
  rw [h]
  split <;> rfl

theorem boOf_zero_of_unknown {m : LM W} (hw : WordsKnown m) (g : List W) (x : W) (hx : x ∈ g)
    (h : m.known x = false) : m.boOf g = 0 := by
  apply boOf_zero_of_findGram_none
  cases hf : m.findGram g with
  | none => rfl
  | some e =>
    obtain ⟨he, hg⟩ := findGram_some hf
    rw [← hg, Entry.gram, List.mem_append, List.mem_singleton] at hx
    have hk : m.known x = true := hx.elim ((hw e he).1 x) (fun hx => hx ▸ (hw e he).2)
    rw [h] at hk
    exact Bool.noConfusion hk

theorem boOf_zero_of_unk_mem {m : LM W} (hc : UnkClean m) (g : List W) (h : m.unk ∈ g) : m.boOf g = 0 := by
  cases hf : m.findGram g with
  | none => exact boOf_zero_of_findGram_none hf
  | some e =>
    obtain ⟨he, hg⟩ := findGram_some hf
    by_cases hctx : e.ctx = []
    · -- a unigram: g = [unk]
      rw [Entry.gram, hctx, List.nil_append] at hg
      rw [← hg, List.mem_singleton] at h
      rw [← hg, ← h]
      exact hc.nobo
    · rw [← hg, Entry.gram, List.mem_append, List.mem_singleton] at h
      exact h.elim (fun h => absurd h (hc.only e he hctx).1) (fun h => absurd h.symm (hc.only e he hctx).2)

theorem rawScore_eq_score (m : LM W) (hc : UnkClean m) : ∀ (c : List W) (w : W),
    m.rawScore c w = m.score c w := by
  intro c
  induction c with
  | nil =>
    intro w
    unfold LM.score
    rw [List.map_nil]
    cases hk : m.known w with
    | true => rw [norm_of_known hk]
    | false =>
      rw [norm_of_unknown hk]
      have hf : m.find [] w = none := by
        unfold LM.known at hk
        cases h : m.find [] w with
        | none => rfl
        | some e => rw [h] at hk; exact Bool.noConfusion hk
      rw [LM.rawScore, hf, LM.rawScore]
      unfold LM.unkProb
      cases m.find [] m.unk <;> rfl
  | cons y c ih =>
    intro w
    unfold LM.score at ih ⊢
    by_cases hall : (∀ x ∈ y :: c, m.known x = true) ∧ m.known w = true
    · rw [map_norm_of_allKnown hall.1, norm_of_known hall.2]
    · -- some word is unknown: neither the n-gram nor its image under `norm` is there, both back off
      have hL : m.find (y :: c) w = none := by
        cases hf : m.find (y :: c) w with
        | none => rfl
        | some e => exact absurd (known_of_find hc.words hf) hall
      have hR : m.find ((y :: c).map m.norm) (m.norm w) = none := by
        cases hf : m.find ((y :: c).map m.norm) (m.norm w) with
        | none => rfl
        | some e =>
          obtain ⟨h1, h2⟩ := unk_free_of_find hc.only hf (by simp)
          refine absurd ⟨fun x hx => ?_, ?_⟩ hall
          · exact Decidable.byContradiction
              (fun hk => h1 (unk_mem_map_norm hx (Bool.eq_false_iff.2 hk)))
          · exact Decidable.byContradiction (fun hk => h2 (norm_of_unknown (Bool.eq_false_iff.2 hk)))
      have hB : m.boOf (y :: c) = m.boOf ((y :: c).map m.norm) := by
        by_cases hctx : ∀ x ∈ y :: c, m.known x = true
        · rw [map_norm_of_allKnown hctx]
        · push Not at hctx
          obtain ⟨x, hx, hk⟩ := hctx
          have hk' : m.known x = false := Bool.eq_false_iff.2 hk
          rw [boOf_zero_of_unknown hc.words _ x hx hk',
            boOf_zero_of_unk_mem hc _ (unk_mem_map_norm hx hk')]
      rw [LM.rawScore, hL]
      rw [List.map_cons] at hR hB ⊢
      rw [LM.rawScore, hR]
      simp only
      rw [hB, ih w]

end KV.Interp
