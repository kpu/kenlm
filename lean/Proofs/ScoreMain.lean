import Proofs.ScoreLoop
/-! The state invariant `StateFor`, what `FullScore` computes from a state satisfying it (`fullScore_char`), and the step
lemma: it returns the textbook probability and a state satisfying `StateFor` for the extended history. -/
namespace KV.Score
open KV.Arpa KV.Table KV.State

/-- "`s` is a correct minimised state for the reversed history `h`" — the invariant produced by
left-to-right scoring (and by `GetState`). -/
structure StateFor (a : Arpa) (h : List Word) (s : State) : Prop where
  len_le_h : s.length ≤ h.length
  len_le_N : s.length ≤ a.order - 1
  words : s.words.take s.length = h.take s.length
  backoff : s.backoff.take s.length = (List.range s.length).map (fun j => a.boW (h.take (j+1)))
  /-- dropped context words cannot matter: the longer contexts are not live -/
  dead : ∀ k, s.length < k → k ≤ h.length → ¬ live a (h.take k)

/-- probability of the entry reached after matching `c0` context words = the recursion restricted to `c0` words -/
theorem entry_prob_eq {a : Arpa} {T : Table} (tf : TableFor a T) (h : List Word) (w : Word) (c0 : Nat)
    (hc : c0 ≤ h.length) (hN : c0 ≤ a.order - 1) (t : TEntry) (ht : T.lookup (w :: h.take c0) = some t) :
    t.prob = scoreAt a h w c0 := by
  cases hg : a.gram (w :: h.take c0) with
  | some e =>
    obtain ⟨t', ht', hp, _⟩ := tf.real _ e hg
    rw [ht] at ht'; cases ht'
    rw [scoreAt_real c0 hg, hp]
  | none =>
    have := (tf.blank w (h.take c0) t ht hg).1
    rw [this]; unfold score
    have hl : (h.take c0).length = c0 := by rw [List.length_take]; omega
    rw [hl, Nat.min_eq_left hN]
    exact scoreAt_take a h w c0 c0 (Nat.le_refl _)

theorem AccPost.gram_none {a : Arpa} {T : Table} (tf : TableFor a T) {ctx : List Word} {w : Word}
    {acc : Acc (List Word)} {c0 : Nat} (post : AccPost T ctx w acc c0) :
    ∀ k, c0 < k → k ≤ ctx.length → a.gram (w :: ctx.take k) = none := by
  intro k h1 h2
  cases hg : a.gram (w :: ctx.take k) with
  | none => rfl
  | some e =>
    obtain ⟨t, ht, _⟩ := tf.real _ e hg
    by_cases hN : c0 < T.order - 1
    · rw [lookup_none_take tf.toTableOK w ctx (c0+1) k h1 (post.stop (by omega) hN)] at ht; cases ht
    · have := tf.len_le _ (by rw [ht]; exact Option.some_ne_none t)
      rw [List.length_cons, List.length_take, Nat.min_eq_left h2] at this
      omega

/-- what `FullScore` computes from a state for the history `h`: the loop post-condition over the words the state
kept, the returned pair in terms of the final loop state, and "no n-gram of the model matches more words of the
whole history than were matched" -/
theorem fullScore_char {a : Arpa} {T : Table} (wf : WellFormed a) (tf : TableFor a T) {h : List Word} {s : State}
    (sf : StateFor a h s) {w : Word} (hw : a.gram [w] ≠ none) :
    ∃ c0 acc, AccPost T (h.take s.length) w acc c0 ∧
      fullScore (tableSearch T) s w =
        ({ acc.ret with prob := acc.ret.prob + ((s.backoff.take s.length).drop c0).sum },
         { length := acc.nextUse, words := w :: h.take (acc.nextUse - 1), backoff := acc.backoffOut }) ∧
      c0 ≤ s.length ∧ (∀ c, c0 < c → c ≤ h.length → a.gram (w :: h.take c) = none) := by
  obtain ⟨u, hu⟩ := tf.unigram hw
  obtain ⟨c0, acc, post, hsxb⟩ := scoreExceptBackoff_post tf.toTableOK (h.take s.length) w hu
  have hlen : (h.take s.length).length = s.length := by rw [List.length_take]; exact Nat.min_eq_left sf.len_le_h
  have hc0 : c0 ≤ s.length := hlen ▸ post.c0_le
  have hnu : acc.nextUse - 1 ≤ s.length := by have := post.olen_le; omega
  refine ⟨c0, acc, post, ?_, hc0, fun c h1 h2 => ?_⟩
  · rw [fullScore, sf.words, hsxb]
    simp only [post.len, Nat.add_sub_cancel, List.take_take, Nat.min_eq_left hnu]
  · by_cases hcs : c ≤ s.length
    · have := post.gram_none tf c h1 (hlen.symm ▸ hcs)
      rwa [take_take_of_le hcs] at this
    · -- a longer match would make the dropped context `h.take c` live
      cases hg : a.gram (w :: h.take c) with
      | none => rfl
      | some e' =>
        have hreal : a.gram (w :: h.take c) ≠ none := by rw [hg]; exact Option.some_ne_none e'
        have hne : h.take c ≠ [] := by
          intro hnil; have := congrArg List.length hnil
          rw [List.length_take, List.length_nil] at this; omega
        obtain ⟨ec, hec⟩ := Option.ne_none_iff_exists'.mp (wf.ctx_present w _ hne hreal)
        exact absurd ⟨ec, hec, Or.inr ⟨w, hreal⟩⟩ (sf.dead c (by omega) h2)

/-- **The step of C01** (`C01.fullScore_prob_table` and `C01.stateFor_step` are its two halves):
from a state that satisfies `StateFor` for the history `h`, `FullScore` over any table representing the model returns the
textbook score of `w` given all of `h`, and a state that satisfies `StateFor` for `w :: h`.
Probability: the entry reached after `c0` matched words carries `scoreAt … c0` (`entry_prob_eq`), the stored back-offs
beyond `c0` are those of the recursion, and the contexts the state dropped are not live, so their back-offs are zero.
State, field `dead` (a context `(w :: h).take (k+1)` longer than the new length is not live), by the position of `k`:
`k ≤ c0` below the highest order — its entry is not marked as extending right, so it is not live; `k` at the highest order —
no back-off and no extension there; `k > c0` — no such n-gram. -/
theorem step {a : Arpa} {T : Table} (wf : WellFormed a) (tf : TableFor a T) {h : List Word} {s : State}
    (sf : StateFor a h s) {w : Word} (hw : a.gram [w] ≠ none) :
    (fullScore (tableSearch T) s w).1.prob = score a h w ∧ StateFor a (w :: h) (fullScore (tableSearch T) s w).2 := by
  obtain ⟨c0, acc, post, hfs, hc0s, hmax⟩ := fullScore_char wf tf sf hw
  rw [hfs]
  have hsh := sf.len_le_h
  have hsN := sf.len_le_N
  have hc0N : c0 ≤ a.order - 1 := tf.order_eq ▸ post.c0_lt
  have holen := post.olen_le
  have hnu : acc.nextUse ≤ c0 + 1 := Nat.le_trans holen (Nat.min_le_left _ _)
  have htake : ∀ c, c ≤ s.length → (h.take s.length).take c = h.take c := fun c hc => take_take_of_le hc
  refine ⟨?_, ?_⟩
  · obtain ⟨t, ht, hp⟩ := post.found
    rw [htake c0 hc0s] at ht
    have hns : s.length ≤ min h.length (a.order - 1) := Nat.le_min.mpr ⟨hsh, hsN⟩
    show acc.ret.prob + ((s.backoff.take s.length).drop c0).sum = score a h w
    rw [hp, entry_prob_eq tf h w c0 (Nat.le_trans hc0s hsh) hc0N t ht, sf.backoff, sum_drop_range_map,
      score_of_max a h w c0 (Nat.le_trans hc0s hns) hmax]
    congr 1
    -- the back-offs of the contexts the state dropped are zero: those contexts are not live
    obtain ⟨e, he⟩ := Nat.exists_eq_add_of_le (Nat.sub_le_sub_right hns c0)
    rw [he]
    refine (rsum_zero_tail fun i h1 h2 => ?_).symm
    show a.boW (h.take (i+1)) = 0
    unfold Arpa.boW
    cases hg : a.gram (h.take (i+1)) with
    | none => rfl
    | some e' =>
      apply Classical.byContradiction; intro hb
      have hi : i < min h.length (a.order - 1) := by omega
      exact sf.dead (i+1) (by omega) (Nat.le_trans hi (Nat.min_le_left _ _)) ⟨e', hg, Or.inl hb⟩
  · refine ⟨?_, ?_, ?_, ?_, ?_⟩
    · exact Nat.le_trans hnu (Nat.succ_le_succ (Nat.le_trans hc0s hsh))
    · exact tf.order_eq ▸ Nat.le_trans holen (Nat.min_le_right _ _)
    · show (w :: h.take (acc.nextUse - 1)).take acc.nextUse = (w :: h).take acc.nextUse
      cases acc.nextUse with
      | zero => rfl
      | succ l => rw [List.take_succ_cons, List.take_succ_cons, Nat.add_sub_cancel, List.take_take, Nat.min_self]
    · show acc.backoffOut.take acc.nextUse = (List.range acc.nextUse).map (fun j => a.boW ((w :: h).take (j+1)))
      rw [post.bo, ← List.map_take, List.take_range, Nat.min_eq_left holen]
      apply List.map_congr_left
      intro j hj
      rw [tf.bo_eq, htake j (Nat.le_trans (Nat.le_of_lt_succ (Nat.lt_of_lt_of_le (List.mem_range.mp hj) hnu)) hc0s)]
      rfl
    · intro k hk1 hk2 hlive
      have hk1 : acc.nextUse < k := hk1
      obtain ⟨e', he', hor⟩ := hlive
      cases k with
      | zero => exact absurd hk1 (Nat.not_lt_zero _)
      | succ k' =>
        have hk2' : k' ≤ h.length := Nat.le_of_succ_le_succ hk2
        have hkey : (w :: h).take (k'+1) = w :: h.take k' := rfl
        rw [hkey] at he' hor
        by_cases hkc : k' ≤ c0
        · by_cases hkN : k' + 1 ≤ T.order - 1
          · -- matched and below the highest order: the entry is not marked, so it is not live
            have hun := post.unmarked k' (Nat.le_of_lt_succ hk1) (Nat.lt_min.mpr ⟨Nat.lt_succ_of_le hkc, hkN⟩)
            rw [htake k' (Nat.le_trans hkc hc0s)] at hun
            obtain ⟨t', ht', _⟩ := tf.real _ e' he'
            rw [Table.xr_of_lookup ht', tf.xr_live _ t' ht' ⟨e', he', hor⟩] at hun
            cases hun
          · -- the highest order: no back-off, no extension
            have hk' : k' = a.order - 1 :=
              Nat.le_antisymm (Nat.le_trans hkc hc0N) (tf.order_eq ▸ Nat.le_of_lt_succ (Nat.lt_of_not_le hkN))
            have hlen : (w :: h.take k').length = a.order := by
              rw [List.length_cons, List.length_take, Nat.min_eq_left hk2', hk',
                Nat.sub_add_cancel (Nat.le_trans (by decide) wf.order_ge)]
            rcases hor with hb | ⟨x, hx⟩
            · exact hb (wf.top_bo _ e' he' hlen)
            · have := wf.len_le _ hx
              rw [List.length_cons, hlen] at this
              exact absurd this (Nat.not_succ_le_self _)
        · rw [hmax k' (Nat.lt_of_not_le hkc) hk2'] at he'; cases he'

/-- `step` along a word sequence (`C01.scoreSeq_spec` is the instance `Table.build a unmarked`) -/
theorem scoreSeq_table {a : Arpa} {T : Table} (wf : WellFormed a) (tf : TableFor a T) :
    ∀ (ws : List Word) (h : List Word) (s : State), StateFor a h s → (∀ w ∈ ws, a.gram [w] ≠ none) →
      (scoreSeq (tableSearch T) s ws).1 = specSeq a h ws ∧
      StateFor a (ws.reverse ++ h) (scoreSeq (tableSearch T) s ws).2 := by
  intro ws
  induction ws with
  | nil => intro h s sf _; exact ⟨rfl, sf⟩
  | cons w ws ih =>
    intro h s sf hv
    have st := step wf tf sf (hv w List.mem_cons_self)
    have := ih (w :: h) _ st.2 (fun x hx => hv x (List.mem_cons_of_mem _ hx))
    rw [List.reverse_cons, List.append_assoc]
    exact ⟨by rw [scoreSeq, specSeq, st.1, this.1], this.2⟩

end KV.Score
