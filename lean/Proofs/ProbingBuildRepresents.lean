import Proofs.ProbingBuildFold
import Proofs.ProbingRefines
import Proofs.ScoreClosed
/-! From the end of the file to `Represents (Table.build a)`.  A state seen through `StP` answers every key of the table with its
payload (`stP_final`, either build mode); with the payloads of the general invariant those are the entries of `Table.build a`
(`wantW_final`, `uni_final`), which is `Represents` (`represents_of_invG`); hence the builder represents the table for every file
whose lines admit a per-line step (`build_represents_of_lines`).  Models without blanks (suffix-closed, `ArpaOK`) as the case in
which the stored keys are the lines (`foldKeys_of_stored`). -/
namespace KV.ProbingBuild
open KV.Arpa KV.Table KV.Score KV.ProbingLM

/-- the payload prescribed for a key of order ≥ 2 at the end of the file is the entry of `Table.build a`.  Field by field: the
probability is `-mag` because probabilities (`nonpos`) and backed-off products (`proper`) are ≤ 0; the sign bit is `endsInK_final`, the
extension bit `startsWithK_final` or a non-zero back-off. -/
theorem wantW_final {a : Arpa} {nWords : Nat} {um : Rat} (ok : ArpaOK' a nWords um) {Sf : List Key} (f : Final a Sf)
    (g : List Word) (t : TEntry) (h2 : 2 ≤ g.length) (ht : (KV.Table.build a).lookup g = some t) :
    wFound false (wantW a Sf g) = toFound t := by
  have hkey : IsKey a g := (build_lookup_ne_none a _ g).mp (by rw [ht]; simp)
  have hE := endsInK_final f g hkey.1
  have hS := startsWithK_final f g hkey.1
  match g, h2 with
  | w :: x :: ctx, _ =>
    have hne0 : ((w :: x :: ctx) == [0]) = false := by simp
    cases hg : a.gram (w :: x :: ctx) with
    | some e =>
      simp only [KV.Table.build, hg] at ht
      injection ht with ht
      subst ht
      simp only [wFound, toFound, wantW, baseW, hg, lineW, hE, hS, neg_abs_of_nonpos _ (ok.nonpos _ e hg), hne0,
        Bool.and_false, Bool.or_false, Bool.true_and, Bool.false_eq_true, if_false]
      simp
      by_cases hb : e.backoff = 0 <;> simp [hb]
    | none =>
      have hx : extendsLeft a (w :: x :: ctx) = true := hkey.2.resolve_left fun h => h hg
      simp only [KV.Table.build, hg, hx, if_true] at ht
      injection ht with ht
      subst ht
      have hsc := ok.proper _ hkey hg
      simp only [List.tail_cons, List.headD_cons] at hsc
      simp only [wFound, toFound, wantW, baseW, hg, hE, hS, hx, List.tail_cons, List.headD_cons,
        neg_abs_of_nonpos _ hsc, Bool.true_and, Bool.not_true, Bool.false_or, Bool.false_eq_true, if_false, Bool.not_false,
        Bool.and_true]

/-- what the `<unk>` fix-up at the end of `build` makes of the unigram slot `x` of `w` (`fixUnk_uni`): slot 0 of a model without
`<unk>` gets the probability `um` and the back-off +0.0 -/
def fixW (a : Arpa) (um : Rat) (w : Word) (x : W) : W :=
  if w = 0 ∧ a.unkHallucinated = true then { x with backoff := 0, xr := true, mag := um.abs } else x

theorem fixW_unk (a : Arpa) (um : Rat) (x : W) (hu : a.unkHallucinated = true) :
    fixW a um 0 x = { x with backoff := 0, xr := true, mag := um.abs } := if_pos ⟨rfl, hu⟩

theorem fixW_other (a : Arpa) (um : Rat) {w : Word} (x : W) (h : ¬ (w = 0 ∧ a.unkHallucinated = true)) : fixW a um w x = x :=
  if_neg h

theorem fixUnk_uni (a : Arpa) (um : Rat) (s : St) (w : Word) (hl : a.unkHallucinated = true → 0 < s.uni.length) :
    (fixUnk a um s).uni.getD w default = fixW a um w (s.uni.getD w default) := by
  unfold fixUnk fixW
  by_cases hu : a.unkHallucinated = true
  · simp only [hu, if_true, St.modify, getD_set, and_true, hl hu]
    by_cases hw : w = 0
    · rw [if_pos hw, if_pos hw, hw]
    · rw [if_neg hw, if_neg hw]
  · rw [if_neg hu, if_neg fun c => hu c.2]

def realT (a : Arpa) (g : List Word) (e : Entry) : TEntry :=
  ⟨e.prob, e.backoff, extendsLeft a g, e.backoff != 0 || isContext a g || (a.unkHallucinated && g == [0]), false⟩

/-- the unigram slot of a word after the fix-up answers like the table: as `wantW_final`, with the two cases of a word outside the
vocabulary (slot of zeroed memory, not a key) and of the hallucinated `<unk>` (slot 0, written by the fix-up) -/
theorem uni_final {a : Arpa} {nWords : Nat} {um : Rat} (ok : ArpaOK' a nWords um) {Sf : List Key} (f : Final a Sf) (w : Word) :
    wFound false (fixW a um w (expU Sf w ((initUni a nWords).getD w default))) =
      ((tableSearch (KV.Table.build a)).lookupUnigram w).1 := by
  have hE1 := endsInK_final f [w] (by simp)
  have hE2 := startsWithK_final f [w] (by simp)
  have hsl := initUni_slot ok w
  generalize (initUni a nWords).getD w default = sl at hsl ⊢
  cases hsl with
  | oov hg =>
    have hxl : extendsLeft a [w] = false := Bool.eq_false_iff.mpr fun hx => by
      obtain ⟨p, hp, _, ⟨ys, hys⟩⟩ := (extendsLeft_iff _ _).mp hx
      exact absurd hg (ok.words p hp w (by rw [← hys]; simp))
    have hic : isContext a [w] = false := Bool.eq_false_iff.mpr fun hx => by
      obtain ⟨x, q, hq, ⟨ys, hys⟩⟩ := (isContext_iff_key _ _).mp hx
      exact absurd hg (ok.words q hq w (by rw [← hys]; simp))
    have hw0 : ¬ (w = 0 ∧ a.unkHallucinated = true) := fun ⟨h0, hu⟩ => by
      obtain ⟨e, he, _⟩ := ok.unk hu
      rw [h0, he] at hg; cases hg
    have hl : (KV.Table.build a).lookup [w] = none := by simp [KV.Table.build, hg, hxl]
    rw [fixW_other a um _ hw0]
    simp only [tableSearch, hl, expU, hE1, hE2, hxl, hic, wFound]
    simp [default]
  | unk e h0 hu he hp hb =>
    subst h0
    have hl : (KV.Table.build a).lookup [0] = some (realT a [0] e) := by simp [KV.Table.build, he, realT]
    simp only [tableSearch, hl, toFound, realT]
    rw [fixW_unk a um _ hu]
    simp only [hu, wFound, expU, hE1, hE2, hp, hb, neg_abs_of_nonpos _ ok.umle, Bool.true_and, Bool.true_or, Bool.false_eq_true, if_false]
    simp
  | real e he hu0 hnp =>
    have hl : (KV.Table.build a).lookup [w] = some (realT a [w] e) := by simp [KV.Table.build, he, realT]
    have hcond2 : (a.unkHallucinated && ([w] == [0])) = false := by
      cases hu : a.unkHallucinated <;> simp_all
    simp only [tableSearch, hl, toFound, realT]
    rw [fixW_other a um _ hu0]
    simp only [Bool.false_eq_true, if_false, wFound, expU, hE1, hE2, hcond2, Bool.or_false, neg_abs_of_nonpos _ hnp, Bool.true_and]
    simp
    by_cases hb : e.backoff = 0 <;> simp [hb]

/-- one index map per order for a state whose tables satisfy `Q`: the middle tables by order minus two (the empty map
beyond the model's order, where `mid` has nothing), and the table of the highest order -/
theorem exists_maps {N : Nat} (s : St) (Q : Nat → Ord → (Nat → Option Nat) → Prop) (hinv : ∀ m o M, Q m o M → OrdInv o M)
    (hml : s.mid.length = N - 2) (hN : 2 ≤ N) (tabs : ∀ m, 2 ≤ m → m ≤ N → ∃ M, Q m (tbl N s m) M) :
    ∃ (Mmid : Nat → Nat → Option Nat) (Mlong : Nat → Option Nat),
      (∀ om2, om2 + 2 < N → Q (om2 + 2) (s.mid.getD om2 default) (Mmid om2)) ∧
      (∀ om2, ¬ om2 + 2 < N → Mmid om2 = fun _ => none) ∧ Q N s.longest Mlong ∧
      ∀ om2, KV.Probing.Inv id (s.mid.getD om2 default).t ∧ KV.Probing.Abs (s.mid.getD om2 default).t (Mmid om2) := by
  have hex : ∀ om2, om2 + 2 < N → ∃ M, Q (om2 + 2) (s.mid.getD om2 default) M := by
    intro om2 h
    obtain ⟨M, sem⟩ := tabs (om2 + 2) (by omega) (by omega)
    rw [tbl_mid N s (om2 + 2) (by omega), Nat.add_sub_cancel] at sem
    exact ⟨M, sem⟩
  obtain ⟨Mlong, semL⟩ := tabs N hN (Nat.le_refl _)
  have hlong : tbl N s N = s.longest := by unfold tbl; simp
  rw [hlong] at semL
  refine ⟨fun om2 => if h : om2 + 2 < N then Classical.choose (hex om2 h) else fun _ => none, Mlong,
    fun om2 h => by simp only [dif_pos h]; exact Classical.choose_spec (hex om2 h), fun om2 h => by simp only [dif_neg h], semL,
    fun om2 => ?_⟩
  by_cases h : om2 + 2 < N
  · simp only [dif_pos h]
    exact ⟨(hinv _ _ _ (Classical.choose_spec (hex om2 h))).inv, (hinv _ _ _ (Classical.choose_spec (hex om2 h))).abs⟩
  · have hd : s.mid.getD om2 default = default := by
      rw [List.getD_eq_getElem?_getD, List.getElem?_eq_none (by rw [hml]; omega)]; rfl
    simp only [dif_neg h, hd]
    exact ⟨KV.Probing.Inv_empty id 1 (by decide), KV.Probing.Abs_empty 1⟩

/-- **a state seen through `StP` at the end of the file answers every key of `Table.build a`** (order ≥ 2) at an index holding its
payload `want`, and answers nothing else — in either build mode -/
theorem stP_final {combine : Nat → Word → Nat} {a : Arpa} {caps : Nat → Nat} {U : Nat} {s : St} {Sf : List Key} {want : Key → W}
    (h : StP combine a.order caps U s (keysOf Sf) want) (f : Final a Sf) (hN : 2 ≤ a.order) :
    ∃ (Mmid : Nat → Nat → Option Nat) (Mlong : Nat → Option Nat),
      (∀ om2, KV.Probing.Inv id (s.mid.getD om2 default).t ∧ KV.Probing.Abs (s.mid.getD om2 default).t (Mmid om2)) ∧
      (KV.Probing.Inv id s.longest.t ∧ KV.Probing.Abs s.longest.t Mlong) ∧
      (∀ om2 g t, g.length = om2 + 2 → om2 + 2 < a.order → (KV.Table.build a).lookup g = some t →
        ∃ v, Mmid om2 (hashOf combine g) = some v ∧ (s.mid.getD om2 default).pay.getD v default = want g) ∧
      (∀ om2 k v, Mmid om2 k = some v → ∃ g, g.length = om2 + 2 ∧ hashOf combine g = k ∧ (KV.Table.build a).lookup g ≠ none) ∧
      (∀ g t, g.length = a.order → (KV.Table.build a).lookup g = some t →
        ∃ v, Mlong (hashOf combine g) = some v ∧ s.longest.pay.getD v default = want g) ∧
      (∀ k v, Mlong k = some v → ∃ g, g.length = a.order ∧ hashOf combine g = k ∧ (KV.Table.build a).lookup g ≠ none) := by
  obtain ⟨Mmid, Mlong, hMmid, hnone, semL, hmidinv⟩ := exists_maps s
    (fun m o M => OrdP combine (keysOf Sf m) (caps m) o M want) (fun _ _ _ h => h.inv) h.midlen hN h.tabs
  have stored : ∀ {m cap o M}, OrdP combine (keysOf Sf m) cap o M want → ∀ g t, g.length = m → 2 ≤ m →
      (KV.Table.build a).lookup g = some t → ∃ v, M (hashOf combine g) = some v ∧ o.pay.getD v default = want g :=
    fun hP g t hl h2 ht => hP.lookup g ((mem_keysOf Sf _ g).mpr
      ⟨f.key_mem g ((build_lookup_ne_none a _ g).mp (by rw [ht]; simp)) (hl ▸ h2), hl⟩)
  have only : ∀ {m cap o M}, OrdP combine (keysOf Sf m) cap o M want → ∀ k v, M k = some v →
      ∃ g, g.length = m ∧ hashOf combine g = k ∧ (KV.Table.build a).lookup g ≠ none := fun hP k v hM => by
    obtain ⟨hj, hk⟩ := hP.only k v hM
    have hmem := List.getElem_mem hj
    exact ⟨_, keysOf_len _ _ _ hmem, hk.symm, (build_lookup_ne_none a _ _).mpr (f.si.keys _ (keysOf_mem _ _ _ hmem))⟩
  refine ⟨Mmid, Mlong, hmidinv, ⟨semL.inv.inv, semL.inv.abs⟩,
    fun om2 g t hl hlt ht => stored (hMmid om2 hlt) g t hl (Nat.le_add_left 2 om2) ht, fun om2 k v hM => ?_,
    fun g t hl ht => stored semL g t hl hN ht, only semL⟩
  by_cases hlt : om2 + 2 < a.order
  · exact only (hMmid om2 hlt) k v hM
  · rw [hnone om2 hlt] at hM
    cases hM

theorem represents_of_invG (combine : Nat → Word → Nat) (a : Arpa) (nWords : Nat) (um : Rat) (ok : ArpaOK' a nWords um)
    (caps : Nat → Nat) (Sf : List Key) (f : Final a Sf) (s : St)
    (inv : InvG combine a (initUni a nWords) a.order caps Sf s) :
    ∃ Mmid Mlong, Represents combine (toPLM false a.order (fixUnk a um s)) (KV.Table.build a) Mmid Mlong := by
  have h := stP_of_invG inv
  obtain ⟨Mmid, Mlong, hmid, hlong, hms, hmo, hls, hlo⟩ := stP_final h f ok.wf.order_ge
  have hkey : ∀ g t, 2 ≤ g.length → (KV.Table.build a).lookup g = some t →
      wFound false (wantAll a (initUni a nWords) Sf g) = toFound t := fun g t h2 ht => by
    rw [wantAll_key _ _ _ h2]; exact wantW_final ok f g t h2 ht
  refine ⟨Mmid, Mlong, ⟨rfl, fun w => ?_, fun om2 => ?_, ?_, fun om2 g t hl hlt ht => ?_, hmo, fun g t hl ht => ?_, hlo⟩⟩
  · show wFound false ((fixUnk a um s).uni.getD w default) = _
    rw [fixUnk_uni a um s w fun hu => by
      obtain ⟨e, he, _⟩ := ok.unk hu
      rw [h.ulen, initUni_length]; exact (ok.vocab 0).mpr (by rw [he]; simp), h.uni w]
    exact uni_final ok f w
  · show KV.Probing.Inv id ((fixUnk a um s).mid.getD om2 default).t ∧ KV.Probing.Abs ((fixUnk a um s).mid.getD om2 default).t (Mmid om2)
    rw [fixUnk_mid]; exact hmid om2
  · show KV.Probing.Inv id (fixUnk a um s).longest.t ∧ KV.Probing.Abs (fixUnk a um s).longest.t Mlong
    rw [fixUnk_longest]; exact hlong
  · obtain ⟨v, hv, hp⟩ := hms om2 g t hl hlt ht
    refine ⟨v, hv, ?_⟩
    show wFound false (((fixUnk a um s).mid.getD om2 default).pay.getD v default) = toFound t
    rw [fixUnk_mid, hp]; exact hkey g t (hl ▸ Nat.le_add_left 2 om2) ht
  · obtain ⟨v, hv, hp⟩ := hls g t hl ht
    refine ⟨v, hv, ?_⟩
    show -((fixUnk a um s).longest.pay.getD v default).mag = t.prob
    rw [fixUnk_longest, hp]
    have := congrArg Found.prob (hkey g t (hl ▸ ok.wf.order_ge) ht)
    simpa [wFound, toFound] using this

theorem build_represents_of_lines (combine : Nat → Word → Nat) (a : Arpa) (nWords : Nat) (buckets : List Nat) (um : Rat)
    (ok : ArpaOK' a nWords um) (Cls : Key → Prop)
    (step : StepOK combine a (initUni a nWords) a.order (capOf buckets) false (InvG combine a (initUni a nWords) a.order (capOf buckets)) Cls)
    (hcls : ∀ q ∈ ngramLines a, Cls q.1)
    (hsorted : (ngramLines a).Pairwise (fun p q => p.1.length ≤ q.1.length))
    (hnd : ((ngramLines a).map (·.1)).Nodup) (hgram : ∀ q ∈ ngramLines a, a.gram q.1 = some q.2)
    (hinj : ∀ k k', IsKey a k → IsKey a k' → 2 ≤ k.length → k.length = k'.length → hashOf combine k = hashOf combine k' →
      k = k')
    (hcaps : ∀ m, (keysOf (foldKeys [] (ngramLines a)) m).length < capOf buckets m) :
    ∃ s Mmid Mlong, build combine false a nWords buckets um = .ok s ∧
      Represents combine (toPLM false a.order s) (KV.Table.build a) Mmid Mlong := by
  obtain ⟨s, hb, inv, ffin⟩ := build_fold combine a nWords buckets um ok Cls false _ step
    (invG_init combine a nWords buckets ok.wf.order_ge fun m => Nat.lt_of_le_of_lt (Nat.zero_le _) (hcaps m))
    hcls hsorted hnd hgram hinj hcaps
  obtain ⟨Mmid, Mlong, rep⟩ := represents_of_invG combine a nWords um ok (capOf buckets) _ ffin s inv
  exact ⟨_, Mmid, Mlong, hb, rep⟩

theorem build_represents_of_step (combine : Nat → Word → Nat) (a : Arpa) (nWords : Nat) (buckets : List Nat) (um : Rat)
    (ok : ArpaOK' a nWords um) (Cls : Key → Prop)
    (step : StepOK combine a (initUni a nWords) a.order (capOf buckets) false (InvG combine a (initUni a nWords) a.order (capOf buckets)) Cls)
    (hcls : ∀ q ∈ ngramLines a, Cls q.1)
    (hsorted : (ngramLines a).Pairwise (fun p q => p.1.length ≤ q.1.length))
    (hdist : (a.entries.map (·.1)).Nodup)
    (hinj : ∀ k k', IsKey a k → IsKey a k' → k.length = k'.length → hashOf combine k = hashOf combine k' → k = k')
    (hcaps : ∀ m, (keysOf (foldKeys [] (ngramLines a)) m).length < capOf buckets m) :
    ∃ s Mmid Mlong, build combine false a nWords buckets um = .ok s ∧
      Represents combine (toPLM false a.order s) (KV.Table.build a) Mmid Mlong :=
  build_represents_of_lines combine a nWords buckets um ok Cls step hcls hsorted
    (ngramLines_of_nodup a hdist).1 (ngramLines_of_nodup a hdist).2
    (fun k k' hk hk' _ => hinj k k' hk hk') hcaps

/-- what a loaded, suffix-closed ARPA satisfies: `ArpaOK'` without the clauses about blanks, which a suffix-closed model has none of
(`ArpaOK.toOK'`) -/
structure ArpaOK (a : Arpa) (nWords : Nat) (um : Rat) : Prop where
  wf : WellFormed a
  sc : SuffixClosed a
  nonpos : ∀ g e, a.gram g = some e → e.prob ≤ 0
  vocab : ∀ w, w < nWords ↔ a.gram [w] ≠ none
  unk : a.unkHallucinated = true → ∃ e, a.gram [0] = some e ∧ e.prob = um ∧ e.backoff = 0
  umle : um ≤ 0

theorem real_words {a : Arpa} (wf : WellFormed a) (sc : SuffixClosed a) :
    ∀ p, a.gram p ≠ none → ∀ x ∈ p, a.gram [x] ≠ none := by
  intro p
  induction p with
  | nil => intro _ x hx; cases hx
  | cons w ctx ih =>
    intro hp x hx
    rcases List.mem_cons.mp hx with rfl | hx
    · exact closed_prefix_real sc ctx [x] (by simp) hp
    · exact ih (wf.ctx_present w ctx (List.ne_nil_of_mem hx) hp) x hx

theorem ArpaOK.toOK' {a : Arpa} {nWords : Nat} {um : Rat} (ok : ArpaOK a nWords um) : ArpaOK' a nWords um :=
  ⟨ok.wf, ok.nonpos, ok.vocab, ok.unk, ok.umle, real_words ok.wf ok.sc,
   fun k hk hn => absurd hn (closed_key_real ok.sc hk), fun _ k hk hn => absurd hn (closed_key_real ok.sc hk)⟩

theorem foldKeys_of_stored (L : List Line) : ∀ S : List Key,
    (∀ l1 p l2, L = l1 ++ p :: l2 → p.1.length < 3 ∨ p.1.take (p.1.length - 1) ∈ S ++ l1.map (·.1)) →
    foldKeys S L = S ++ L.map (·.1) := by
  induction L with
  | nil => intro S _; simp [foldKeys]
  | cons p L ih =>
    intro S h
    have hS : addLineKeys S p.1 = S ++ [p.1] := addLineKeys_of_stored S p.1 (by simpa using h [] p L rfl)
    have := ih (S ++ [p.1]) fun l1 q l2 hL => by
      have := h (p :: l1) q l2 (by rw [hL]; rfl)
      simpa using this
    simp only [foldKeys, List.foldl_cons, hS] at this ⊢
    rw [this]; simp

end KV.ProbingBuild
