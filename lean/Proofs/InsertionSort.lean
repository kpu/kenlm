/-! Insertion sort by a Boolean relation `r` ("`x` goes before `y`"), in the shape the models write it (`TrieLM.insertNat`,
`TrieBuild.insertGram`, `Quant.insertSorted`, `Filter.insertBySize`): the result is a permutation of the input, and it is sorted for every relation `S`
that `r` decides (`r x y → S x y`, `¬ r x y → S y x`) and that is transitive — `S = r` for a total `r` such as `≤`, `S a b = ¬ r b a`
for a strict order.  Core imports only. -/
namespace KV

def insertBy {α} (r : α → α → Bool) (x : α) : List α → List α
  | [] => [x]
  | y :: ys => if r x y then x :: y :: ys else y :: insertBy r x ys

def insertionSort {α} (r : α → α → Bool) (l : List α) : List α := l.foldr (insertBy r) []

/-- the step of `insertBy` for a relation given as a decidable proposition, as the models write it -/
theorem insertBy_decide {α} (R : α → α → Prop) [DecidableRel R] (x y : α) (ys : List α) :
    insertBy (fun a b => decide (R a b)) x (y :: ys) =
      if R x y then x :: y :: ys else y :: insertBy (fun a b => decide (R a b)) x ys := by
  rw [insertBy]; exact ite_congr decide_eq_true_eq (fun _ => rfl) (fun _ => rfl)

/-- a model's sort, a `foldr` of its insertion, is `insertionSort` once the insertion is `insertBy` -/
theorem foldr_eq_insertionSort {α} {r : α → α → Bool} {ins : α → List α → List α} (h : ∀ x l, ins x l = insertBy r x l) (l : List α) :
    l.foldr ins [] = insertionSort r l :=
  congrArg (fun f => l.foldr f []) (funext fun x => funext (h x))

theorem insertBy_perm {α} (r : α → α → Bool) (x : α) : ∀ l : List α, (insertBy r x l).Perm (x :: l)
  | [] => List.Perm.refl _
  | y :: ys => by
    unfold insertBy
    split
    · exact List.Perm.refl _
    · exact ((insertBy_perm r x ys).cons y).trans (List.Perm.swap x y ys)

theorem insertionSort_perm {α} (r : α → α → Bool) : ∀ l : List α, (insertionSort r l).Perm l
  | [] => List.Perm.refl _
  | x :: l => (insertBy_perm r x _).trans ((insertionSort_perm r l).cons x)

theorem insertBy_sorted {α} {r : α → α → Bool} {S : α → α → Prop} (h1 : ∀ x y, r x y = true → S x y)
    (h2 : ∀ x y, r x y = false → S y x) (ht : ∀ a b c, S a b → S b c → S a c) (x : α) :
    ∀ l : List α, l.Pairwise S → (insertBy r x l).Pairwise S
  | [], _ => List.pairwise_singleton S x
  | y :: ys, hs => by
    have hp := List.pairwise_cons.mp hs
    unfold insertBy
    cases hr : r x y with
    | true =>
      rw [if_pos rfl]
      refine List.pairwise_cons.mpr ⟨fun z hz => ?_, hs⟩
      rcases List.mem_cons.mp hz with rfl | hz
      · exact h1 x z hr
      · exact ht x y z (h1 x y hr) (hp.1 z hz)
    | false =>
      rw [if_neg Bool.false_ne_true]
      refine List.pairwise_cons.mpr ⟨fun z hz => ?_, insertBy_sorted h1 h2 ht x ys hp.2⟩
      rcases List.mem_cons.mp ((insertBy_perm r x ys).mem_iff.mp hz) with rfl | hz
      · exact h2 z y hr
      · exact hp.1 z hz

theorem insertionSort_sorted {α} {r : α → α → Bool} {S : α → α → Prop} (h1 : ∀ x y, r x y = true → S x y)
    (h2 : ∀ x y, r x y = false → S y x) (ht : ∀ a b c, S a b → S b c → S a c) :
    ∀ l : List α, (insertionSort r l).Pairwise S
  | [] => List.Pairwise.nil
  | x :: l => insertBy_sorted h1 h2 ht x _ (insertionSort_sorted h1 h2 ht l)

end KV
