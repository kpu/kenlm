import Model.PCQueue
/-!
The inductive invariant of the PCQueue model, with the sums and the cursor arithmetic it speaks of, and what is read
off it (occupancy, room for a producer, the oldest unread value for a consumer); its preservation by every step of
every thread is in `Proofs/PCQueueStep.lean`.  Core Lean only.
-/
namespace KV

theorem mod_ne_of_lt {cap i W : Nat} (h1 : i < W) (h2 : W - i < cap) : i % cap ≠ W % cap := by
  intro h
  have h3 := Nat.sub_mod_eq_zero_of_mod_eq h.symm
  rw [Nat.mod_eq_of_lt h2] at h3
  omega

end KV

namespace KV.PCQueue

/-- the base case beside `sumBy_cons`; the proofs below go through `sumBy_cons` and `sumBy_append` only -/
theorem sumBy_nil (f : Thread → Nat) : sumBy f [] = 0 := rfl

theorem sumBy_cons (f : Thread → Nat) (x : Thread) (l : List Thread) :
    sumBy f (x :: l) = f x + sumBy f l := by simp [sumBy]

theorem sumBy_append (f : Thread → Nat) (l₁ l₂ : List Thread) :
    sumBy f (l₁ ++ l₂) = sumBy f l₁ + sumBy f l₂ := by simp [sumBy]

theorem sumBy_map {α : Type} (f : Thread → Nat) (g : α → Thread) (l : List α) :
    sumBy f (l.map g) = (l.map fun a => f (g a)).sum := by
  simp [sumBy, Function.comp_def]

theorem sumBy_set {f : Thread → Nat} {l : List Thread} {i : Nat} {x : Thread}
    (h : l[i]? = some x) (y : Thread) : sumBy f (l.set i y) + f x = sumBy f l + f y := by
  induction l generalizing i with
  | nil => simp at h
  | cons a l ih =>
    cases i with
    | zero =>
      simp at h; subst h
      simp [sumBy_cons]; omega
    | succ i =>
      simp at h
      have := ih h
      simp [sumBy_cons]; omega

theorem sumBy_le {f : Thread → Nat} {l : List Thread} {i : Nat} {x : Thread}
    (h : l[i]? = some x) : f x ≤ sumBy f l := by
  induction l generalizing i with
  | nil => simp at h
  | cons a l ih =>
    cases i with
    | zero => simp at h; subst h; simp [sumBy_cons]
    | succ i => simp at h; have := ih h; simp [sumBy_cons]; omega

theorem sumBy_eq_zero {f : Thread → Nat} {l : List Thread}
    (h : ∀ (i : Nat) x, l[i]? = some x → f x = 0) : sumBy f l = 0 := by
  induction l with
  | nil => rfl
  | cons a l ih =>
    have h0 := h 0 a (by simp)
    have := ih (fun i x hx => h (i + 1) x (by simpa using hx))
    simp [sumBy_cons, h0, this]

theorem wrap_mod {cap W : Nat} (hc : 0 < cap) : wrap cap (W % cap) = (W + 1) % cap := by
  unfold wrap
  have hlt : W % cap < cap := Nat.mod_lt _ hc
  have hW : W = cap * (W / cap) + W % cap := (Nat.div_add_mod W cap).symm
  by_cases h : W % cap + 1 = cap
  · rw [if_pos h]
    have : W + 1 = cap * (W / cap + 1) := by rw [Nat.mul_add, Nat.mul_one]; omega
    rw [this, Nat.mul_mod_right]
  · rw [if_neg h]
    have : W + 1 = cap * (W / cap) + (W % cap + 1) := by omega
    rw [this, Nat.mul_add_mod]
    exact (Nat.mod_eq_of_lt (by omega)).symm

/-- the values of thread `t` in a ghost history of (thread, value) pairs: of `writes`, and of `reads` as well -/
def writesOf (w : List (Nat × Nat)) (t : Nat) : List Nat := (w.filter (fun x => x.1 == t)).map (·.2)

theorem writesOf_append_self (w : List (Nat × Nat)) (t v : Nat) :
    writesOf (w ++ [(t, v)]) t = writesOf w t ++ [v] := by simp [writesOf, List.filter_append]

theorem writesOf_append_other (w : List (Nat × Nat)) {t u : Nat} (v : Nat) (h : u ≠ t) :
    writesOf (w ++ [(u, v)]) t = writesOf w t := by
  simp [writesOf, List.filter_append, h]

structure ThreadOK (s : State) (t : Nat) (th : Thread) : Prop where
  p_nonempty : th.role = .prod → (th.pc = .wait ∨ th.pc = .lock ∨ th.pc = .body) → th.items ≠ []
  p_done : th.role = .prod → th.pc = .done → th.items = []
  p_orig : th.role = .prod → th.orig = writesOf s.writes t ++ th.items
  c_pos : th.role = .cons → (th.pc = .wait ∨ th.pc = .lock ∨ th.pc = .body) → 0 < th.quota
  c_done : th.role = .cons → th.pc = .done → th.quota = 0
  c_got : th.role = .cons → th.got = writesOf s.reads t

def holdsP (th : Thread) : Prop := th.role = .prod ∧ (th.pc = .body ∨ th.pc = .unlock)
def holdsC (th : Thread) : Prop := th.role = .cons ∧ (th.pc = .body ∨ th.pc = .unlock)

def MutexOK (m : Option Nat) (l : List Thread) (H : Thread → Prop) : Prop :=
  (∀ t, m = some t → ∃ th, l[t]? = some th ∧ H th) ∧ (∀ (t : Nat) th, l[t]? = some th → H th → m = some t)

structure Inv (dP dC : Nat) (s : State) : Prop where
  cap_pos : 0 < s.cap
  /-- every one of the `cap` tokens is in exactly one place -/
  acct : s.empty + sumBy isA s.threads + sumBy isB s.threads + s.used
          + sumBy isC s.threads + sumBy isD s.threads = s.cap
  /-- written and not yet read = posted or about to be posted or about to be read -/
  occ : s.writes.length = s.reads.length + sumBy isB s.threads + s.used + sumBy isC s.threads
  pat : s.produceAt = s.writes.length % s.cap
  cat : s.consumeAt = s.reads.length % s.cap
  ringv : ∀ i, s.reads.length ≤ i → i < s.writes.length →
            (s.writes[i]?).map (·.2) = some (s.ring (i % s.cap))
  fifo : s.reads.map (·.2) = (s.writes.map (·.2)).take s.reads.length
  pm : MutexOK s.pmutex s.threads holdsP
  cm : MutexOK s.cmutex s.threads holdsC
  /-- `dP`, `dC`: constants of the configuration (total values given to producers / total `Consume` calls) -/
  balance : sumBy remP s.threads + s.writes.length + dC = sumBy remC s.threads + s.reads.length + dP
  thr : ∀ t th, s.threads[t]? = some th → ThreadOK s t th

/-- `Inv` without `balance`: what holds of a queue whatever calls its threads are still given.  Everything but deadlock
freedom and final delivery of a closed configuration rests on this part alone; in the composed system, where calls
arrive one at a time, it is the invariant of each queue. -/
structure Core (s : State) : Prop where
  cap_pos : 0 < s.cap
  acct : s.empty + sumBy isA s.threads + sumBy isB s.threads + s.used
          + sumBy isC s.threads + sumBy isD s.threads = s.cap
  occ : s.writes.length = s.reads.length + sumBy isB s.threads + s.used + sumBy isC s.threads
  pat : s.produceAt = s.writes.length % s.cap
  cat : s.consumeAt = s.reads.length % s.cap
  ringv : ∀ i, s.reads.length ≤ i → i < s.writes.length →
            (s.writes[i]?).map (·.2) = some (s.ring (i % s.cap))
  fifo : s.reads.map (·.2) = (s.writes.map (·.2)).take s.reads.length
  pm : MutexOK s.pmutex s.threads holdsP
  cm : MutexOK s.cmutex s.threads holdsC
  thr : ∀ t th, s.threads[t]? = some th → ThreadOK s t th

variable {dP dC : Nat} {s : State} {tid : Nat} {th : Thread}

theorem Inv.core (h : Inv dP dC s) : Core s :=
  ⟨h.cap_pos, h.acct, h.occ, h.pat, h.cat, h.ringv, h.fifo, h.pm, h.cm, h.thr⟩

/-- `balance` is one equation in which the two conservation laws of a closed configuration — values still to write +
values written = `dP`, calls still to make + values read = `dC` — are added crosswise; it is all deadlock freedom needs
(`dP = dC`), and any state satisfies it for some `dP`, `dC`. -/
theorem Core.inv (h : Core s)
    (hb : sumBy remP s.threads + s.writes.length + dC = sumBy remC s.threads + s.reads.length + dP) : Inv dP dC s :=
  ⟨h.cap_pos, h.acct, h.occ, h.pat, h.cat, h.ringv, h.fifo, h.pm, h.cm, hb, h.thr⟩

theorem Core.exists_inv (h : Core s) : ∃ dP dC, Inv dP dC s :=
  ⟨sumBy remP s.threads + s.writes.length, sumBy remC s.threads + s.reads.length, h.inv (Nat.add_comm _ _)⟩

theorem tokens (th : Thread) :
    isA th = (if th.role = .prod ∧ (th.pc = .lock ∨ th.pc = .body) then 1 else 0)
    ∧ isB th = (if th.role = .prod ∧ (th.pc = .unlock ∨ th.pc = .post) then 1 else 0)
    ∧ isC th = (if th.role = .cons ∧ (th.pc = .lock ∨ th.pc = .body) then 1 else 0)
    ∧ isD th = (if th.role = .cons ∧ (th.pc = .unlock ∨ th.pc = .post) then 1 else 0) := by
  simp [isA, isB, isC, isD, b2n]

theorem Core.reads_le (h : Core s) : s.reads.length ≤ s.writes.length := by
  have := h.occ
  omega

theorem Core.occupied_le (h : Core s) : occupied s ≤ s.cap := by
  unfold occupied
  have := h.acct
  have := h.occ
  omega

theorem Core.token_count (h : Core s) : s.empty + s.used + inFlightProducers s + inFlightConsumers s = s.cap := by
  have := h.acct
  unfold inFlightProducers inFlightConsumers
  omega

/-- a producer at its body holds an `empty_` token: the ring is not full -/
theorem room_of_producer (h : Core s) (hth : s.threads[tid]? = some th)
    (hr : th.role = .prod) (hp : th.pc = .body) :
    s.reads.length ≤ s.writes.length ∧ s.writes.length - s.reads.length < s.cap := by
  have hA : 1 ≤ sumBy isA s.threads := by
    have := sumBy_le (f := isA) hth
    simpa [tokens, hr, hp] using this
  have := h.acct
  have := h.occ
  omega

/-- a consumer at its body holds a `used_` token: the slot at `consumeAt` holds the oldest unread value -/
theorem unread_of_consumer (h : Core s) (hth : s.threads[tid]? = some th)
    (hr : th.role = .cons) (hp : th.pc = .body) :
    s.reads.length < s.writes.length ∧ (s.writes[s.reads.length]?).map (·.2) = some (s.ring s.consumeAt) := by
  have hC : 1 ≤ sumBy isC s.threads := by
    have := sumBy_le (f := isC) hth
    simpa [tokens, hr, hp] using this
  have hlt : s.reads.length < s.writes.length := by have := h.occ; omega
  exact ⟨hlt, h.cat ▸ h.ringv _ (Nat.le_refl _) hlt⟩

theorem Core.slot_free (h : Core s) (hroom : s.writes.length - s.reads.length < s.cap) (i : Nat)
    (h1 : s.reads.length ≤ i) (h2 : i < s.writes.length) : i % s.cap ≠ s.produceAt := by
  rw [h.pat]
  exact mod_ne_of_lt h2 (Nat.lt_of_le_of_lt (Nat.sub_le_sub_left h1 _) hroom)

end KV.PCQueue
