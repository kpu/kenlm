import Proofs.LeftJoin
/-! **NonTerminal preserves the fragment invariant**: its pointer loop is an `ExtendLoop` (`nonTerminal_loop`), so the
analysis of that loop (`join_loop`), of the code after it (`joinOut_sem`) and the assembly (`assemble`) give both the
done-mode statement (`nonTerminal_done`, also used after `BeginSentence`) and the fragment invariant. -/
namespace KV.Left
open KV.Arpa KV.Table KV.State KV.Score

variable {a : Arpa} {T : Table}

/-- **the code of `NonTerminal` after its pointer loop**: `tail` is what the first word after the incoming fragment's left
state receives -/
theorem joinOut_sem (H : Hyp a T) (R : Ptr → Rat) {ws2 : List Word} {L2 : Nat} {c : Chart} {p2 : Rat} (G : FragC a T R ws2 L2 c p2)
    {h : List Word} {rs : RS} (sf : StateFor a h rs.out.right) (nm : NormS rs.out.right) {v : ExtendReturn}
    (I : LoopInv a ws2 [] h rs.out.right.length L2 v.nextUse v.backIn) :
    ∃ tail, (joinOut c rs v).prob = v.adjust + tail ∧
      specSeq a (gm1 ws2 L2) (ws2.drop L2) + tail = specSeq a (gm1 ws2 L2 ++ h) (ws2.drop L2) ∧
      StateFor a (ws2.reverse ++ h) (joinOut c rs v).out.right ∧ NormS (joinOut c rs v).out.right ∧
      (c.left.full = false → (joinOut c rs v).out.right.length = ws2.length + v.nextUse) := by
  obtain ⟨tf1, tf2⟩ := tail_sem H R G sf.len_le_h I
  have hno : c.left.full = true → c.left.full = false → False := fun h1 h2 => by rw [h1] at h2; cases h2
  rcases joinOut_cases c rs v with ⟨hz, e⟩ | ⟨_, hf, e⟩ | ⟨_, hf, hlt, e⟩ | ⟨_, hf, _, e⟩ <;> rw [e]
  · cases hf : c.left.full with
    | true =>
      obtain ⟨t1, t2⟩ := tf1 hf
      rw [hz] at t1
      exact ⟨0, (Rat.add_zero _).symm, t1, t2, G.right_norm, fun hc => by cases hc⟩
    | false =>
      -- early exit: nothing beyond the incoming fragment can matter
      obtain ⟨h1, h2, _⟩ := tf2 hf
      refine ⟨0, (Rat.add_zero _).symm, G.tail_open hf h, stateFor_extend G.right_for h fun k hk1 hk2 => ?_, G.right_norm,
        fun _ => by rw [hz]; exact h2⟩
      have := I.dead k (by omega) hk2
      rwa [h1, gm1_full, List.append_nil] at this
  · obtain ⟨t1, t2⟩ := tf1 hf
    exact ⟨_, rfl, t1, t2, G.right_norm, fun hc => (hno hf hc).elim⟩
  · have := (tf2 hf).2.1; have := (tf2 hf).1; have := G.left_length; omega
  · obtain ⟨_, h2, t3, t4⟩ := tf2 hf
    show ∃ tail, v.adjust = v.adjust + tail ∧ _ ∧ StateFor a _ (mergedState c.right rs.out.right.words v) ∧
      NormS (mergedState c.right rs.out.right.words v) ∧ (_ → c.right.length + v.nextUse = _)
    rw [mergedState_congr c.right (state_words_take sf nm I.nu_le)]
    exact ⟨0, (Rat.add_zero _).symm, G.tail_open hf h, t3, t4, fun _ => by rw [h2]⟩

theorem nonTerminal_loop_sem (H : Hyp a T) (R : Ptr → Rat) {ws2 : List Word} {L2 : Nat} {c : Chart} {p2 : Rat}
    (G : FragC a T R ws2 L2 c p2) {h : List Word} {rs : RS} (sf : StateFor a h rs.out.right) (nm : NormS rs.out.right)
    (hall : rs.leftDone = false → rs.out.right.length = h.length) :
    ∃ v Lw, loopFrom T R 0 rs.out.right.words rs.out.right.length c.left.pointers (loopStart rs p2) (!rs.leftDone) = v ∧
      LoopOut a T R ws2 [] h L2 rs.out.right.length 0 (!rs.leftDone) (loopStart rs p2) v Lw := by
  obtain ⟨Lw, J⟩ := join_loop H R G sf (fun _ hj => state_words_take sf nm hj) (v0 := loopStart rs p2) rfl
    (by show (rs.out.right.backoff.take rs.out.right.length).take rs.out.right.length = _; rw [List.take_take, Nat.min_self])
    (!rs.leftDone) (fun hw => ⟨hall (by simpa using hw), show rs.leftDone = false by simpa using hw⟩) _ rfl
  exact ⟨_, Lw, rfl, J⟩

theorem nil_full_tail (H : Hyp a T) (R : Ptr → Rat) {ws2 : List Word} {c : Chart} {p2 : Rat} (G : FragC a T R ws2 0 c p2)
    (hf : c.left.full = true) {h : List Word} {s0 : State} (sf : StateFor a h s0) :
    specSeq a (gm1 ws2 0) (ws2.drop 0) + (s0.backoff.take s0.length).sum = specSeq a (gm1 ws2 0 ++ h) (ws2.drop 0) ∧
      StateFor a (ws2.reverse ++ h) c.right :=
  (tail_sem H R G sf.len_le_h (LoopInv.start H sf (v0 := { nextUse := s0.length, backIn := s0.backoff }) rfl rfl)).1 hf

/-- the done-mode invariant: the left state is complete and stays `left0`; after the history `h0` and score `p0` the words
`ws` have been scored left to right (after `BeginSentence`: `h0 = [<s>]`) -/
structure FragB (a : Arpa) (h0 ws : List Word) (p0 : Rat) (left0 : LeftSt) (rs : RS) : Prop where
  done : rs.leftDone = true
  left_eq : rs.out.left = left0
  right_for : StateFor a (ws.reverse ++ h0) rs.out.right
  right_norm : NormS rs.out.right
  prob_eq : rs.prob = p0 + specSeq a h0 ws

theorem nonTerminal_done (H : Hyp a T) (R : Ptr → Rat) {ws2 : List Word} {L2 : Nat} {c : Chart} {p2 : Rat}
    (G : FragC a T R ws2 L2 c p2) {h : List Word} {rs : RS} (hd : rs.leftDone = true)
    (sf : StateFor a h rs.out.right) (nm : NormS rs.out.right) :
    FragB a h ws2 rs.prob rs.out.left (nonTerminal T R rs c p2) := by
  have hL := G.L_le
  -- the score of the incoming fragment, what the loop adds and what the word after its left state receives make up its
  -- score after `h`
  have hsum : ∀ {adj tail : Rat}, adj = dsum (openTerm R ws2 [] h) 0 0 + dsum (doneTerm a R ws2 [] h) 0 (L2 - 0) →
      specSeq a (gm1 ws2 L2) (ws2.drop L2) + tail = specSeq a (gm1 ws2 L2 ++ h) (ws2.drop L2) →
      rs.prob + p2 + adj + tail = rs.prob + specSeq a h ws2 := by
    intro adj tail hadj htail
    have := score_after_loop_nil R ws2 h (Nat.zero_le L2) hL G.prob_eq hadj htail
    rw [Rat.add_assoc, Rat.add_assoc, this]
    exact congrArg _ (Rat.zero_add _)
  rcases nonTerminal_cases (T := T) R rs c p2 with ⟨h1, hf, e⟩ | ⟨h1, hf, e⟩ | ⟨_, hn0, e⟩ | ⟨_, _, e⟩ <;> rw [e]
  · -- no pointers, the first word is independent of left context: only the back-offs are charged
    have hz : L2 = 0 := G.left_length.symm.trans h1
    subst hz
    obtain ⟨t1, t2⟩ := nil_full_tail H R G hf sf
    refine ⟨rfl, rfl, t2, G.right_norm, ?_⟩
    show rs.prob + p2 + _ = _
    rw [← hsum (adj := 0 + 0) rfl t1, Rat.add_zero, Rat.add_zero]
  · obtain ⟨hnil, hp⟩ := G.empty h1 hf
    subst hnil hp
    exact ⟨hd, rfl, sf, nm, rfl⟩
  · -- the history is irrelevant: UnRest of all pointers
    rw [if_pos hd]
    have hdead0 : ∀ k, 1 ≤ k → k ≤ h.length → ¬ live a (gm1 ws2 0 ++ [] ++ h.take k) := by
      intro k hk1 hk2
      simpa [gm1] using sf.dead k (by omega) hk2
    obtain ⟨hun, hdeadL⟩ := unrest_done H R (⟨hL, by simpa using G.ptr_xl, by simpa using G.L_lt, Nat.zero_le _⟩ :
      LoopCtx a T ws2 [] h L2 0) L2 0 1 rfl (Nat.zero_le _) hdead0
    refine ⟨hd, rfl, ?_, G.right_norm, ?_⟩
    · apply stateFor_extend G.right_for h
      intro k hk1 hk2
      exact dead_cons H.wf ws2.reverse _ (take_ne_nil hk1 hk2) (by simpa [gm1] using hdead0 k hk1 hk2)
    · show rs.prob + p2 + unRest T R c.left.pointers 1 = _
      rw [G.ptrs, ptrs_nil ws2 L2, hun,
        ← hsum (adj := 0 + dsum (doneTerm a R ws2 [] h) 0 (L2 - 0)) (tail := 0) rfl
          (by rw [Rat.add_zero]; exact (specSeq_dead H.wf h _ _ (by simpa using hdeadL)).symm),
        Rat.add_zero, Rat.zero_add]
  · obtain ⟨v, Lw, hv, J⟩ := nonTerminal_loop_sem H R G sf nm (p2 := p2) (fun hc => by rw [hd] at hc; cases hc)
    rw [hv]
    have hw : (!rs.leftDone) = false := by rw [hd]; rfl
    have hmf : v.makeFull = true := by
      rcases J.stop with ⟨hsame, _⟩ | ⟨_, hwrite, _⟩
      · exact hsame.trans hd
      · rw [hw] at hwrite; cases hwrite
    obtain ⟨tail, j1, j2, j3, j4, _⟩ := joinOut_sem H R G sf nm J.inv
    have hLw := J.use_only hw
    subst hLw
    refine ⟨by rw [joinOut_done, hmf, Bool.or_true], by rw [joinOut_left, J.written_nil]; simp [loopStart], j3, j4, ?_⟩
    rw [j1, J.adjust_nil, ← hsum rfl j2]
    rfl

theorem nonTerminal_frag_aux (H : Hyp a T) (R : Ptr → Rat) {ws1 : List Word} {L1 : Nat} {rs : RS}
    (F : Frag a T R ws1 L1 rs) {ws2 : List Word} {L2 : Nat} {c : Chart} {p2 : Rat} (G : FragC a T R ws2 L2 c p2) :
    ∃ L', Frag a T R (ws1 ++ ws2) L' (nonTerminal T R rs c p2) := by
  have hL2 := G.L_le
  by_cases hd : rs.leftDone = true
  · have B := nonTerminal_done H R G hd F.right_for F.right_norm
    exact ⟨L1, F.append_done ((F.closed hd).append H ws2) B.done (congrArg _ B.left_eq) B.right_for B.right_norm B.prob_eq⟩
  have hopen : rs.leftDone = false := by simpa using hd
  have hno : rs.leftDone = true → False := fun hc => hd hc
  obtain ⟨hL1, hrl⟩ := F.open_ hopen
  rcases nonTerminal_cases (T := T) R rs c p2 with ⟨h1, hf, e⟩ | ⟨h1, hf, e⟩ | ⟨_, hn0, e⟩ | ⟨h1, hn, e⟩ <;> rw [e]
  · -- an incoming fragment whose first word is independent of left context
    have hz : L2 = 0 := G.left_length.symm.trans h1
    subst hz
    obtain ⟨t1, t2⟩ := nil_full_tail H R G hf F.right_for
    exact assemble H R F G _ (Nat.le_refl 0) (List.append_nil _).symm (fun i hi => absurd hi (Nat.not_lt_zero i))
      (fun hc => absurd hc (Nat.lt_irrefl 0)) (fun _ => rfl) rfl t1
      (by show rs.prob + p2 + _ = rs.prob + p2 + (0 + 0 + _); rw [Rat.add_zero, Rat.zero_add])
      t2 G.right_norm (fun hc => by cases hc) (fun _ => rfl)
      (fun _ _ => G.closed_concat H hf ws1 (by have := F.L_lt; omega))
  · obtain ⟨hnil, hp⟩ := G.empty h1 hf
    subst hnil hp
    rw [List.append_nil]
    exact ⟨L1, F.congr rfl rfl (Rat.add_zero _)⟩
  · -- nothing scored so far: the result is the incoming fragment
    have hnil : ws1 = [] := List.eq_nil_of_length_eq_zero (by omega)
    subst hnil
    have hl0 : (rs.out.left.length != 0) = false := by simp [LeftSt.length, F.ptrs, hL1]
    rw [if_neg hd, hl0, if_neg Bool.false_ne_true, List.nil_append]
    refine ⟨L2, G.toFrag.congr rfl rfl ?_⟩
    show rs.prob + p2 = p2
    rw [F.prob_eq, hL1]; exact (congrArg (· + p2) (Rat.add_zero 0)).trans (Rat.zero_add _)
  · -- the pointer loop in open mode
    obtain ⟨v, Lw, hv, J⟩ := nonTerminal_loop_sem H R G F.right_for F.right_norm (p2 := p2)
      (fun _ => by rw [hrl, List.length_reverse])
    rw [hv]
    obtain ⟨tail, j1, j2, j3, j4, j5⟩ := joinOut_sem H R G F.right_for F.right_norm J.inv
    have hb : 0 < Lw → Lw + ws1.length ≤ a.order - 1 := fun hp => by simpa using J.bound_nil hp
    have hw : (!rs.leftDone) = true := by rw [hopen]; rfl
    refine assemble H R F G _ J.Lw_le (by rw [joinOut_left, J.written_nil]; rfl) J.xl_nil hb (fun hc => (hno hc).elim) rfl j2
      (by rw [j1, J.adjust_nil, Rat.add_assoc]; rfl) j3 j4 (fun hc => ?_) (fun hc => (hno hc).elim) (fun hc _ => ?_)
    · rw [joinOut_done] at hc
      simp only [Bool.or_eq_false_iff] at hc
      obtain ⟨⟨_, hc2⟩, hc3⟩ := hc
      obtain ⟨hLw, hnu⟩ := J.through hw hc3
      exact ⟨hopen, by rw [hLw]; exact (G.open_ hc2).1, by rw [j5 hc2, hnu, hrl]⟩
    · rcases J.write_cases hw with ⟨hsame, hLw, hnu⟩ | ⟨_, hcn⟩
      · -- the loop went through in write mode: the incoming left state was complete, its reason carries over
        rw [joinOut_done, hsame, hnu] at hc
        have hf : c.left.full = true := by simpa [hn, loopStart, hopen] using hc
        rw [hLw]
        exact G.closed_concat H hf ws1 (by rw [← hLw]; exact hb (by have := G.left_length; omega))
      · exact Closed.concat (closedP_of_cn H ws2 [] ws1.reverse Lw (Nat.le_trans J.Lw_le hL2) hcn.toCN)

end KV.Left
