/-
Model of the lmplz estimation pipeline (lm/builder), exact `Rat` arithmetic, Mathlib-free.

Two descriptions of every stage:
* the **streaming algorithms** transcribed from the C++ (`adjustStream` = `AdjustCounts::Run`,
  `addRight`/`mergeRight` = `initial_probabilities.cc`, `interpOrder`/`takeBackoffsSeq`/`takeBackoffsHash` =
  `interpolate.cc` + `joint_order.hh`), which the native driver `drv_C05` executes on real
  corpora, and
* the **set-based specification** (`Spec` namespace, `Model/KNSpec.lean`: padded n-gram windows, adjusted
  count = number of distinct left extensions, counts-of-counts, Chen–Goodman discounts,
  `u`, `γ`, interpolation by look-up), which the theorems of `Properties/C05.lean` /
  `C06.lean` relate to the streams.

Conventions: a word is a `Nat` (`0 = <unk>`, `1 = <s>`, `2 = </s>`); an n-gram is stored
**reversed** (head = newest word), so "suffix order" (`lm/common/compare.hh` `SuffixOrder`)
is the lexicographic order `<` of `List Nat`, the suffix of length `n` is `List.take n`, the
context is `List.tail`, the back-off n-gram (drop the oldest word) is `List.dropLast`.
-/
namespace KV.KN

abbrev Word := Nat
abbrev Gram := List Word

def unk : Word := 0
def bos : Word := 1
def eos : Word := 2

def isSpecial (w : Word) : Bool := w == unk || w == bos || w == eos

/-! ## 1. Counting (`corpus_count.cc`) -/

/-- all windows of length `n` of `l` (natural order in, reversed n-grams out) -/
def windows (n : Nat) : List Word → List Gram
  | [] => []
  | a :: t => if n ≤ (a :: t).length then ((a :: t).take n).reverse :: windows n t else []

/-- what `Writer::StartSentence`/`Append` see for one sentence: `N-1` times `<s>`, the words, `</s>` -/
def paddedN (N : Nat) (s : List Word) : List Word := List.replicate (N - 1) bos ++ s ++ [eos]

/-- all order-`N` occurrences (reversed), in corpus order -/
def occurrences (N : Nat) (corpus : List (List Word)) : List Gram :=
  corpus.flatMap fun s => windows N (paddedN N s)

/-- run-length combine of a sorted list (`CombineCounts`) -/
def combineSorted : List (Gram × Nat) → List (Gram × Nat)
  | [] => []
  | (g, c) :: t =>
    match combineSorted t with
    | (h, d) :: r => if g = h then (h, c + d) :: r else (g, c) :: (h, d) :: r
    | [] => [(g, c)]

def gramLe (a b : Gram × Nat) : Bool := decide (a.1 ≤ b.1)

/-- the sorted, combined order-`N` counts that `AdjustCounts` reads -/
def countFull (N : Nat) (corpus : List (List Word)) : List (Gram × Nat) :=
  combineSorted (((occurrences N corpus).map fun g => (g, 1)).mergeSort gramLe)

/-! ## 2. Adjusted counts, streaming (`adjust_counts.cc`) -/

structure Cfg where
  order : Nat
  /-- prune threshold of order `i+1` (already padded with the last value, as `ParsePruning` does) -/
  thr : Nat → Nat
  /-- `prune_words_[w]` (false when `--limit_vocab_file` is absent; never true on specials) -/
  excl : Word → Bool
  interpUni : Bool := true
  /-- the tree's final flush passes the adjusted count (fixed) or the true count (unfixed) to `stats.Add` -/
  flushAdjusted : Bool := true
  /-- the tree never marks the special unigrams in the lower-order paths (fixed) -/
  keepSpecials : Bool := true

/-- a lower-order register: `streams[i]` current record plus `actual_counts[i]` -/
structure Reg where
  gram : Gram
  adj : Nat
  actual : Nat
deriving Repr, DecidableEq

/-- an output record of order `gram.length`: adjusted count and the prune mark (top bit of `count`) -/
structure Emit where
  gram : Gram
  count : Nat
  marked : Bool
deriving Repr, DecidableEq

/-- one call `stats.Add(order_minus_1, count, pruned)` / `AddFull` -/
structure AddCall where
  idx : Nat
  count : Nat
  pruned : Bool
deriving Repr, DecidableEq

structure AState where
  regs : List Reg := []
  out : List Emit := []       -- newest first
  adds : List AddCall := []   -- newest first
deriving Repr

def u64max : Nat := 2 ^ 64 - 1

/-- the mark decision of STEP 1 / the final flush / CollapseStream:
`actual <= prune_thresholds_[i]` or some word is excluded.  `keepSpecials` is the repaired
behaviour (special unigrams are never marked, like the order-1 branch does). -/
def markOf (cfg : Cfg) (actual : Nat) (g : Gram) : Bool :=
  if cfg.keepSpecials && g.length == 1 && g.all isSpecial then false
  else decide (actual ≤ cfg.thr (g.length - 1)) || g.any cfg.excl

def Reg.emit (cfg : Cfg) (r : Reg) : Emit :=
  { gram := r.gram, count := r.adj, marked := markOf cfg r.actual r.gram }

/-- `FindDifference`: number of equal words counted from the end, at most the lower order -/
def commonPrefix : Gram → Gram → Nat
  | a :: as, b :: bs => if a = b then commonPrefix as bs + 1 else 0
  | _, _ => 0

/-- STEP 2: every still-matching register gets the full count added to its actual count; the
longest match gets one more distinct left extension -/
def bump (c : Nat) : List Reg → List Reg
  | [] => []
  | [r] => [{ r with adj := r.adj + 1, actual := r.actual + c }]
  | r :: rs => { r with actual := r.actual + c } :: bump c rs

/-- STEP 3: new registers for the suffixes of length `n, n+1, …` of `g` (`ws = g.drop (n-1)`),
up to and including the first one that starts with `<s>` (which gets the full count);
returns `true` when the loop reached the full n-gram (`bos == full->begin()` ⇒ `AddFull`). -/
def newRegs (g : Gram) (c : Nat) : Nat → List Word → List Reg × Bool
  | _, [] => ([], true)
  | _, [_] => ([], true)
  | n, w :: rest =>
    if w = bos then ([⟨g.take n, c, c⟩], false)
    else
      let r := newRegs g c (n + 1) rest
      (⟨g.take n, 1, c⟩ :: r.1, r.2)

/-- the `stats.Add` call that accompanies the emission of a register in STEP 1 -/
def Reg.addCall (cfg : Cfg) (r : Reg) : AddCall :=
  ⟨r.gram.length - 1, (r.emit cfg).count, (r.emit cfg).marked⟩

/-- `same`: how many words (from the end) the full n-gram shares with the longest valid register -/
def sameOf (regs : List Reg) (g : Gram) : Nat :=
  match regs.getLast? with
  | some r => commonPrefix g r.gram
  | none => 0

/-- one iteration of `for (; full; ++full)` -/
def adjustStep (cfg : Cfg) (s : AState) (e : Gram × Nat) : AState :=
  let same := sameOf s.regs e.1
  -- STEP 1 (highest order first)
  let dropped := (s.regs.drop same).reverse
  -- STEP 3
  let nr := newRegs e.1 e.2 (same + 1) (e.1.drop same)
  { -- STEP 2 on the registers that still match, then the new ones
    regs := bump e.2 (s.regs.take same) ++ nr.1,
    out := (dropped.map (Reg.emit cfg)).reverse ++ s.out,
    adds := (if nr.2 then [(⟨e.1.length - 1, e.2, markOf cfg e.2 e.1⟩ : AddCall)] else []) ++
            ((dropped.map (Reg.addCall cfg)).reverse ++ s.adds) }

/-- the final flush loop (lowest order first) -/
def adjustFlush (cfg : Cfg) (s : AState) : AState :=
  { regs := [],
    out := (s.regs.map (Reg.emit cfg)).reverse ++ s.out,
    adds := (s.regs.map fun r =>
      (⟨r.gram.length - 1, if cfg.flushAdjusted then r.adj else r.actual,
        markOf cfg r.actual r.gram⟩ : AddCall)).reverse ++ s.adds }

/-- initialisation: `<unk>` is written with count 0 and `stats.Add(0, 0)`; `<s>` is the first
valid register with count 0 and actual count `UINT64_MAX` ("don't prune `<s>`") -/
def adjustInit : AState :=
  { regs := [⟨[bos], 0, u64max⟩],
    out := [⟨[unk], 0, false⟩],
    adds := [⟨0, 0, false⟩] }

/-- `AdjustCounts::Run` for order ≥ 2 -/
def adjustStream (cfg : Cfg) (full : List (Gram × Nat)) : AState :=
  adjustFlush cfg (full.foldl (adjustStep cfg) adjustInit)

/-- the lower-order output stream of order `n` (in emission order) -/
def AState.stream (s : AState) (n : Nat) : List Emit :=
  (s.out.reverse).filter fun e => e.gram.length == n

/-- `CollapseStream`: the order-N stream that leaves AdjustCounts: everything except the
records with `<s>` in natural position 1, marked by count ≤ threshold or excluded word.
(The in-block compaction permutes the survivors; the stream is sorted again afterwards.) -/
def collapse (cfg : Cfg) (full : List (Gram × Nat)) : List Emit :=
  (full.filter fun e => !(decide (2 ≤ e.1.length) && e.1.getD (e.1.length - 2) unk == bos)).map
    fun e => ⟨e.1, e.2, markOf cfg e.2 e.1⟩

/-- the order-1 special path of `AdjustCounts::Run` (`order == 1`): the unigram stream
(`<unk>`, `<s>` with count 0 first, as `Writer` adds them) is marked; specials never -/
def adjustUnigramOnly (cfg : Cfg) (full : List (Gram × Nat)) : List Emit :=
  full.map fun e =>
    let special := match e.1 with
      | [w] => decide (w ≤ 2)
      | _ => false
    ⟨e.1, e.2, if special then false else decide (e.2 ≤ cfg.thr 0) || e.1.any cfg.excl⟩

/-- per-order statistics `OrderStat` -/
structure OrderStat where
  n0 : Nat := 0
  n1 : Nat := 0
  n2 : Nat := 0
  n3 : Nat := 0
  n4 : Nat := 0
  count : Nat := 0
  countPruned : Nat := 0
deriving Repr, DecidableEq

def OrderStat.add (s : OrderStat) (count : Nat) (pruned : Bool) : OrderStat :=
  let s := { s with count := s.count + 1, countPruned := if pruned then s.countPruned else s.countPruned + 1 }
  match count with
  | 0 => { s with n0 := s.n0 + 1 }
  | 1 => { s with n1 := s.n1 + 1 }
  | 2 => { s with n2 := s.n2 + 1 }
  | 3 => { s with n3 := s.n3 + 1 }
  | 4 => { s with n4 := s.n4 + 1 }
  | _ => s

/-- statistics of order `i+1` from the log of `Add` calls (oldest first) -/
def statsOf (adds : List AddCall) (i : Nat) : OrderStat :=
  (adds.filter fun a => a.idx == i).foldl (fun s a => s.add a.count a.pruned) {}

/-- counts-of-counts of a list of output records (what `stats_eq` compares with) -/
def countsOfCounts (es : List Emit) : OrderStat :=
  es.foldl (fun s e => s.add e.count e.marked) {}

/-- everything AdjustCounts hands on: per-order streams (index `i` = order `i+1`) and statistics -/
structure Adjusted where
  streams : List (List Emit)
  stats : List OrderStat
deriving Repr

def adjust (cfg : Cfg) (full : List (Gram × Nat)) : Adjusted :=
  if cfg.order ≤ 1 then
    let es := adjustUnigramOnly cfg full
    { streams := [es], stats := [countsOfCounts es] }
  else
    let s := adjustStream cfg full
    let adds := s.adds.reverse
    { streams := ((List.range (cfg.order - 1)).map fun i => s.stream (i + 1)) ++ [collapse cfg full],
      stats := (List.range cfg.order).map fun i => statsOf adds i }

/-! ## 3. Discounts (`StatCollector::CalculateDiscounts`) -/

structure Disc where
  d1 : Rat
  d2 : Rat
  d3 : Rat
deriving Repr, DecidableEq

def Disc.get (d : Disc) (c : Nat) : Rat :=
  match c with
  | 0 => 0
  | 1 => d.d1
  | 2 => d.d2
  | _ => d.d3

/-- `Discount::Apply` -/
def Disc.apply (d : Disc) (c : Nat) : Rat := (c : Rat) - d.get c

/-- the Chen–Goodman closed form (equation 26); `none` = `BadDiscountException` -/
def chenGoodman (s : OrderStat) : Option Disc :=
  if s.n1 = 0 ∨ s.n2 = 0 ∨ s.n3 = 0 then none
  else
    let y : Rat := (s.n1 : Rat) / ((s.n1 : Rat) + 2 * (s.n2 : Rat))
    let d1 : Rat := 1 - 2 * y * (s.n2 : Rat) / (s.n1 : Rat)
    let d2 : Rat := 2 - 3 * y * (s.n3 : Rat) / (s.n2 : Rat)
    let d3 : Rat := 3 - 4 * y * (s.n4 : Rat) / (s.n3 : Rat)
    if d1 < 0 ∨ 1 < d1 ∨ d2 < 0 ∨ 2 < d2 ∨ d3 < 0 ∨ 3 < d3 then none
    else some ⟨d1, d2, d3⟩

inductive Err where
  | badDiscount (order : Nat)
  | noMatchingSuffix (order : Nat)
  | backoffMismatch (order : Nat)
  | specialSymbol
deriving Repr, DecidableEq

/-- the discounts of one order: closed form, else the user's fallback (flag `true`), else `none` = `THROW_UP` -/
def discountOf (fallback : Option Disc) (s : OrderStat) : Option (Disc × Bool) :=
  match chenGoodman s with
  | some d => some (d, false)
  | none => fallback.map fun f => (f, true)

def discountsFrom (fallback : Option Disc) : Nat → List OrderStat → Except Err (List (Disc × Bool))
  | _, [] => .ok []
  | i, s :: t =>
    match discountOf fallback s with
    | none => .error (Err.badDiscount (i + 1))
    | some d =>
      match discountsFrom fallback (i + 1) t with
      | .error e => .error e
      | .ok ds => .ok (d :: ds)

/-- per-order discounts (`CalculateDiscounts`) -/
def discounts (fallback : Option Disc) (stats : List OrderStat) : Except Err (List (Disc × Bool)) :=
  discountsFrom fallback 0 stats

/-! ## 4. Initial probabilities (`initial_probabilities.cc`) -/

def Emit.cutoff (e : Emit) : Nat := if e.marked then 0 else e.count

/-- `ContextOrder`: by context (tail of the reversed n-gram), then by the last word -/
def ctxLe (a b : Emit) : Bool :=
  decide (a.gram.tail < b.gram.tail) || (a.gram.tail == b.gram.tail && decide (a.gram.headD 0 ≤ b.gram.headD 0))

/-- split a context-sorted list into runs with equal context (`do … while (!memcmp(previous…))`) -/
def ctxRuns : List Emit → List (List Emit)
  | [] => []
  | e :: t =>
    match ctxRuns t with
    | (f :: r) :: rs => if e.gram.tail = f.gram.tail then (e :: f :: r) :: rs else [e] :: (f :: r) :: rs
    | _ => [[e]]

/-- `BufferEntry` of one context -/
structure Gam where
  ctx : Gram
  den : Nat
  gamma : Rat
deriving Repr

/-- `AddRight` for one run -/
def addRight (d : Disc) (run : List Emit) : Gam :=
  let den : Nat := (run.map (·.count)).sum
  let norm : Nat := (run.map fun e => e.count - e.cutoff).sum
  let dsum : Rat := (run.map fun e => if e.cutoff > 0 then d.get e.cutoff else 0).sum
  { ctx := (run.head?.map (·.gram.tail)).getD [], den := den, gamma := (dsum + (norm : Rat)) / (den : Rat) }

/-- a record after `MergeRight` (uninterpolated probability and interpolation weight) -/
structure Uninterp where
  gram : Gram
  u : Rat
  gamma : Rat
  keep : Bool          -- survives `PruneNGramStream`
deriving Repr

/-- `PruneNGramStream`: keep special unigrams, else keep iff `CutoffCount() > 0` -/
def keptBy (e : Emit) : Bool :=
  (e.gram.length == 1 && e.gram.all isSpecial) || decide (e.cutoff > 0)

/-- the value `grams->Value().count` that the unigram branch of `MergeRight` reads: the raw
64-bit word including the mark bit -/
def Emit.rawCount (e : Emit) : Nat := if e.marked then e.count + 2 ^ 63 else e.count

/-- `MergeRight` for one run of order ≥ 2 -/
def mergeRight (d : Disc) (run : List Emit) : List Uninterp :=
  let g := addRight d run
  run.map fun e => ⟨e.gram, d.apply e.count / (g.den : Rat), g.gamma, keptBy e⟩

/-- `MergeRight`, unigram branch -/
def mergeRightUnigram (interpUni : Bool) (d : Disc) (run : List Emit) : List Uninterp :=
  let g := addRight d run
  let gammaAssign : Rat := if interpUni then g.gamma else 0
  run.map fun e =>
    if e.gram = [unk] then ⟨e.gram, if interpUni then 0 else g.gamma, gammaAssign, keptBy e⟩
    else if e.gram = [bos] then ⟨e.gram, 1, 0, keptBy e⟩
    else ⟨e.gram, d.apply e.rawCount / (g.den : Rat), gammaAssign, keptBy e⟩

def uninterpLe (a b : Uninterp) : Bool := decide (a.gram ≤ b.gram)

/-- stage 3 for one order: context sort, `AddRight`, `MergeRight`, prune, suffix sort.
Returns the surviving records in suffix order and the gammas in context order. -/
def initialOrder (interpUni : Bool) (n : Nat) (d : Disc) (es : List Emit) : List Uninterp × List Gam :=
  let runs := ctxRuns (es.mergeSort ctxLe)
  let gams := runs.map (addRight d)
  let us := if n == 1 then runs.flatMap (mergeRightUnigram interpUni d) else runs.flatMap (mergeRight d)
  ((us.filter (·.keep)).mergeSort uninterpLe, gams)

/-! ## 5. Interpolation (`interpolate.cc`, `joint_order.hh`) -/

/-- a finished record: linear probability and back-off (before `log10`) -/
structure Entry where
  gram : Gram
  p : Rat
  bo : Rat
deriving Repr

/-- the suffix-order join of `JointOrder`: every order-`n` record is entered while the
order-`n-1` stream stands on its suffix (`dropLast` of the reversed n-gram); the lower
stream only moves forward.  `lower` = (n-gram, interpolated probability), strictly sorted. -/
def joinLower : List Uninterp → List (Gram × Rat) → Nat → Except Err (List (Uninterp × Rat))
  | [], _, _ => pure []
  | _ :: _, [], n => throw (Err.noMatchingSuffix n)
  | x :: xs, (k, p) :: ys, n =>
    if x.gram.dropLast = k then do
      let r ← joinLower xs ((k, p) :: ys) n
      pure ((x, p) :: r)
    else joinLower (x :: xs) ys n
termination_by xs ys _ => xs.length + ys.length

/-- `Callback::Enter`, probability part -/
def interpProb (x : Uninterp) (lower : Rat) : Rat := x.u + x.gamma * lower

/-- does the record ask the back-off stream for a value? -/
def wantsBackoff (g : Gram) : Bool :=
  match g with
  | w :: _ => w != unk && w != eos
  | [] => false

/-- `Callback::Enter`, back-off part, when the next order is *not* pruned: the gammas are
consumed strictly in sequence -/
def takeBackoffsSeq : List Gram → List Gam → List Rat
  | [], _ => []
  | g :: gs, gam :: gams => if wantsBackoff g then gam.gamma :: takeBackoffsSeq gs gams
                            else 1 :: takeBackoffsSeq gs (gam :: gams)
  | _ :: gs, [] => 1 :: takeBackoffsSeq gs []

/-- leftover gammas (⇒ "Backoffs do not match" abort in `~Callback`) -/
def leftoverSeq : List Gram → List Gam → Nat
  | [], gams => gams.length
  | g :: gs, gam :: gams => if wantsBackoff g then leftoverSeq gs gams else leftoverSeq gs (gam :: gams)
  | _ :: _, [] => 0

/-- skip gammas until the context matches (`while(current_hash != hashed_backoff->hash_value && ++backoffs_)`);
`none` when the stream runs out -/
def skipTo (g : Gram) : List Gam → Option (Rat × List Gam)
  | [] => none
  | gam :: gams => if gam.ctx = g then some (gam.gamma, gams) else skipTo g gams

/-- the same when the next order *is* pruned (hash-matched gammas; a 64-bit hash collision is
outside the model) -/
def takeBackoffsHash : List Gram → List Gam → List Rat
  | [], _ => []
  | g :: gs, gams =>
    if wantsBackoff g && !gams.isEmpty then
      match skipTo g gams with
      | some (v, rest) => v :: takeBackoffsHash gs rest
      | none => 1 :: takeBackoffsHash gs []
    else 1 :: takeBackoffsHash gs gams

/-- one order of stage 4: probabilities by the join with the lower order, back-offs from the
gammas of the next order (`none` for the highest order) -/
def interpOrder (n : Nat) (us : List Uninterp) (lower : Option (List (Gram × Rat))) (uniform : Rat)
    (nextGams : Option (List Gam × Bool)) : Except Err (List Entry) := do
  let ps ← match lower with
    | none => pure (us.map fun x => (x, uniform))
    | some l => joinLower us l n
  let bos := match nextGams with
    | none => ps.map fun _ => (1 : Rat)
    | some (gams, pruned) =>
      if pruned then takeBackoffsHash (ps.map (·.1.gram)) gams
      else takeBackoffsSeq (ps.map (·.1.gram)) gams
  if let some (gams, false) := nextGams then
    if leftoverSeq (ps.map (·.1.gram)) gams ≠ 0 then throw (Err.backoffMismatch n)
  pure ((ps.zip bos).map fun ((x, lo), b) => ⟨x.gram, interpProb x lo, b⟩)

/-- all orders, lowest first; `stage3[i]` = result of `initialOrder` for order `i+1` -/
def interpAll (pruned : Nat → Bool) (uniform : Rat) : Nat → List (List Uninterp × List Gam) → Option (List (Gram × Rat)) →
    Except Err (List (List Entry))
  | _, [], _ => pure []
  | n, (us, _) :: rest, lower => do
    let next := match rest with
      | (_, gams) :: _ => some (gams, pruned n)
      | [] => none
    let es ← interpOrder n us lower uniform next
    let tl ← interpAll pruned uniform (n + 1) rest (some (es.map fun e => (e.gram, e.p)))
    pure (es :: tl)

/-! ## 6. The whole pipeline -/

structure Model where
  stats : List OrderStat
  discs : List (Disc × Bool)
  /-- header counts (`counts_pruned`) -/
  header : List Nat
  uniform : Rat
  orders : List (List Entry)
deriving Repr

/-- `pruneVocab` = `--limit_vocab_file` given (switches every order to hash-matched gammas) -/
def estimateFrom (cfg : Cfg) (pruneVocab : Bool) (fallback : Option Disc) (full : List (Gram × Nat)) :
    Except Err Model := do
  let adj := adjust cfg full
  let discs ← discounts fallback adj.stats
  let header := adj.stats.map (·.countPruned)
  let uniform : Rat := 1 / ((header.headD 0 - 1 : Nat) : Rat)
  let stage3 := (adj.streams.zip discs).zipIdx.map fun ((es, d), i) => initialOrder cfg.interpUni (i + 1) d.1 es
  -- `prune_vocab_ || prune_thresholds_[order_minus_1 + 1] > 0`
  let orders ← interpAll (fun n => pruneVocab || decide (cfg.thr n > 0)) uniform 1 stage3 none
  pure { stats := adj.stats, discs := discs, header := header, uniform := uniform, orders := orders }

/-- order-1 counting: `Writer` puts `<unk>` and `<s>` (count 0) in front of the unigram counts -/
def countFull1 (corpus : List (List Word)) : List (Gram × Nat) :=
  ([unk], 0) :: ([bos], 0) :: countFull 1 corpus

def estimate (cfg : Cfg) (pruneVocab : Bool) (fallback : Option Disc) (corpus : List (List Word)) :
    Except Err Model :=
  estimateFrom cfg pruneVocab fallback (if cfg.order ≤ 1 then countFull1 corpus else countFull cfg.order corpus)

end KV.KN

namespace KV.KN

/-! ## 0. Text (`CorpusCount::RunWithVocab` reading loop) -/

/-- the delimiter table built from `"\0\t\n\r "` -/
def isDelim (b : UInt8) : Bool := b == 0 || b == 9 || b == 10 || b == 13 || b == 32

/-- pieces between separators (empties included; `#pieces = #separators + 1`) -/
def splitAtSep (p : UInt8 → Bool) (bs : List UInt8) : List (List UInt8) :=
  bs.foldr (fun b acc => if p b then [] :: acc else
    match acc with
    | h :: t => (b :: h) :: t
    | [] => [[b]]) [[]]

/-- complete (newline-terminated) lines, and the unterminated rest -/
def corpusLines (bs : List UInt8) : List (List UInt8) × List UInt8 :=
  let ps := splitAtSep (· == 10) bs
  (ps.dropLast, ps.getLast?.getD [])

/-- `ReadWordSameLine` repeatedly: the non-empty pieces between delimiters -/
def lineTokens (l : List UInt8) : List (List UInt8) :=
  (splitAtSep isDelim l).filter (fun w => !w.isEmpty)

end KV.KN

namespace KV.KN

/-! ## 7. The `--prune` option vector (`ParsePruning`, lmplz_main.cc) -/

inductive PruneErr where
  | badThreshold     -- "Bad pruning threshold x"  (boost::lexical_cast<uint64_t> fails)
  | tooMany          -- "You specified pruning thresholds for orders 1 through k but the model only has order n"
  | decreasing       -- "Pruning thresholds should be in non-decreasing order."
deriving Repr, DecidableEq

/-- `boost::lexical_cast<uint64_t>`: an optional sign and decimal digits; the magnitude must fit
64 bits; a leading `-` negates modulo 2^64 (so `-1` is `UINT64_MAX`) -/
def parseU64 (s : String) : Option Nat :=
  let cs := s.toList
  let (neg, ds) := match cs with
    | '-' :: r => (true, r)
    | '+' :: r => (false, r)
    | r => (false, r)
  if ds.isEmpty || !ds.all Char.isDigit then none
  else
    let v := ds.foldl (fun a c => a * 10 + (c.toNat - '0'.toNat)) 0
    if v ≥ 2 ^ 64 then none
    else some (if neg then (2 ^ 64 - v) % 2 ^ 64 else v)

/-- the check `lower_threshold > *it` over the whole vector, starting from 0 -/
def nonDecreasing : List Nat → Bool
  | a :: b :: t => decide (a ≤ b) && nonDecreasing (b :: t)
  | _ => true

/-- **the option-vector predicate**: at most one value per order, never decreasing -/
def pruneVectorOK (vals : List Nat) (order : Nat) : Bool :=
  decide (vals.length ≤ order) && nonDecreasing vals

/-- padding "to all orders using the last value" (all 0 when the option is absent) -/
def padPrune (vals : List Nat) (i : Nat) : Nat :=
  match vals.getLast? with
  | none => 0
  | some l => vals.getD i l

/-- `ParsePruning`: the threshold of order `i+1`, or the refusal -/
def parsePruning (toks : List String) (order : Nat) : Except PruneErr (Nat → Nat) :=
  match toks.mapM parseU64 with
  | none => .error .badThreshold
  | some vals =>
    if vals.isEmpty then .ok (fun _ => 0)
    else if vals.length > order then .error .tooMany
    else if !nonDecreasing vals then .error .decreasing
    else .ok (padPrune vals)

end KV.KN
