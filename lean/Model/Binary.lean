import Model.Bits
import Generated.C04
/-!
Model of the binary file format arithmetic (lm/binary_format.{hh,cc}, lm/model.cc Size /
SetupMemory, lm/vocab.cc sizes, lm/search_hashed.{hh,cc}, lm/search_trie.{hh,cc},
lm/trie.{hh,cc}, lm/bhiksha.cc sizes, lm/quantize.hh sizes).

Everything is a natural number: file offsets, byte values, bit widths.  Every struct size,
field offset, magic string and version byte comes from `Generated/C04.lean` (the constant
probe `tools/probe_C04.cc` prints them from the real headers and .cc files).

File layout (binary_format.cc):
  header = Sanity | FixedWidthParameters | counts[order] | zero pad to ALIGN8
  | vocabulary lookup | pad (8 bytes iff trie and the ARPA had no <unk>) | search | vocab strings
-/
namespace KV.Binary
open KV.Gen.C04 KV.Bits

/-! ## bytes -/

/-- `ALIGN8(a) = ((a-1)/8+1)*8` (used with `a ≥ 1` only). -/
def align8 (a : Nat) : Nat := ((a - 1) / 8 + 1) * 8

/-- `w` little-endian bytes of `v` (what a `memcpy` of a `w`-byte integer writes on x86-64). -/
def leBytes : Nat → Nat → List Nat
  | 0, _ => []
  | w+1, v => (v % 256) :: leBytes w (v / 256)

/-- little-endian bytes → value -/
def ofLe : List Nat → Nat
  | [] => 0
  | b :: bs => b + 256 * ofLe bs

def zeros (n : Nat) : List Nat := List.replicate n 0

/-! ## header -/

/-- `FixedWidthParameters` (floats as their bit pattern). -/
structure Fixed where
  order : Nat
  multBits : Nat
  modelType : Nat
  hasVocab : Bool
  searchVersion : Nat
  deriving DecidableEq, Repr

/-- `Parameters` -/
structure Params where
  fixed : Fixed
  counts : List Nat
  deriving DecidableEq, Repr

/-- `Sanity::SetToReference()` as bytes: `memset 0`, `memcpy(magic, kMagicBytes, sizeof kMagicBytes)`,
then the test values.  `sanity_eq_ref` (Proofs/Binary.lean) checks this against the bytes dumped by the probe. -/
def sanityBytes : List Nat :=
  magicBytes ++ zeros (sanityMagicField - magicBytes.length)
    ++ leBytes 4 0 ++ leBytes 4 bitsOneF ++ leBytes 4 bitsMinusHalfF
    ++ leBytes sizeofWordIndex 1 ++ leBytes sizeofWordIndex (2^(8*sizeofWordIndex) - 1) ++ leBytes sizeofWordIndex 0
    ++ leBytes 8 1

/-- `*reinterpret_cast<FixedWidthParameters*>(out) = params.fixed` after `memset(&params, 0, …)`:
fields at their offsets, padding bytes zero. -/
def fixedBytes (f : Fixed) : List Nat :=
  leBytes 1 f.order ++ zeros (offMultiplier - 1)
    ++ leBytes 4 f.multBits
    ++ leBytes sizeofModelType f.modelType
    ++ leBytes 1 (if f.hasVocab then 1 else 0) ++ zeros (offSearchVersion - offHasVocab - 1)
    ++ leBytes sizeofSearchVersion f.searchVersion

def countsBytes (counts : List Nat) : List Nat := counts.flatMap (leBytes 8)

/-- `TotalHeaderSize(order)` -/
def totalHeaderSize (order : Nat) : Nat := align8 (sizeofSanity + sizeofFixed + sizeofCount * order)

/-- `WriteHeader` into a zeroed buffer of `TotalHeaderSize(counts.size())` bytes. -/
def headerBytes (p : Params) : List Nat :=
  let body := sanityBytes ++ fixedBytes p.fixed ++ countsBytes p.counts
  body ++ zeros (totalHeaderSize p.counts.length - body.length)

/-- what `SetupJustVocab` puts at the start of a file under construction:
`strncpy(base, kMagicIncomplete, header_size_)` (zero padded). -/
def incompleteHeader (order : Nat) : List Nat :=
  magicIncomplete ++ zeros (totalHeaderSize order - magicIncomplete.length)

/-- float32 bit pattern for which `!(x >= 1.0)` holds (the `ReadHeader` check, written so that NaN is rejected too) -/
def floatNotGeOne (bits : Nat) : Bool :=
  let isNaN := (bits / 2^23) % 256 = 255 ∧ bits % 2^23 ≠ 0
  if isNaN then true
  else if bits / 2^31 % 2 = 1 then true      -- negative (incl. -0.0)
  else bits < bitsOneF

inductive Recognized where
  | notBinary
  | binary (p : Params)
  | errFormat        -- FormatLoadException (incomplete / version / old 32-bit / sanity / multiplier)
  | errEof           -- file ends inside the fixed parameters or the counts
  deriving DecidableEq, Repr

def readCounts : Nat → List Nat → Option (List Nat)
  | 0, _ => some []
  | n+1, bs =>
    if bs.length < 8 then none
    else match readCounts n (bs.drop 8) with
      | none => none
      | some cs => some (ofLe (bs.take 8) :: cs)

/-- `ReadHeader` on the bytes after the Sanity block. -/
def readFixed (bs : List Nat) : Option Fixed :=
  if bs.length < sizeofFixed then none
  else some {
    order := ofLe ((bs.drop offOrder).take 1)
    multBits := ofLe ((bs.drop offMultiplier).take 4)
    modelType := ofLe ((bs.drop offModelType).take sizeofModelType)
    hasVocab := ofLe ((bs.drop offHasVocab).take 1) ≠ 0
    searchVersion := ofLe ((bs.drop offSearchVersion).take sizeofSearchVersion) }

/-- `IsBinaryFormat` followed by `ReadHeader` (what `RecognizeBinary` and the model constructor do). -/
def recognize (file : List Nat) : Recognized :=
  if file.length ≤ sizeofSanity then .notBinary
  else if file.take sizeofSanity = sanityRef then
    match readFixed (file.drop sizeofSanity) with
    | none => .errEof
    | some f =>
      if floatNotGeOne f.multBits then .errFormat
      else match readCounts f.order (file.drop (sizeofSanity + sizeofFixed)) with
        | none => .errEof
        | some cs => .binary { fixed := f, counts := cs }
  else if magicIncomplete.isPrefixOf file then .errFormat
  else if magicBeforeVersion.isPrefixOf file then .errFormat
  else .notBinary

/-! ## model types -/

inductive Kind where
  | probing (rest : Bool)
  | trie (quant array : Bool)
  deriving DecidableEq, Repr

/-- `kModelType` of the six model classes. -/
def Kind.typeNum : Kind → Nat
  | .probing false => tProbing
  | .probing true => tRestProbing
  | .trie q a => tTrie + (if q then quantAdd else 0) + (if a then arrayAdd else 0)

def Kind.searchVersion : Kind → Nat
  | .probing false => hashedSearchVersion
  | .probing true => restHashedSearchVersion
  | .trie _ _ => trieSearchVersion

def Kind.ofNum (n : Nat) : Option Kind :=
  [Kind.probing false, .probing true, .trie false false, .trie true false, .trie false true, .trie true true].find?
    (fun k => k.typeNum = n)

def Kind.isTrie : Kind → Bool
  | .trie _ _ => true
  | _ => false

/-- the part of `lm::ngram::Config` that decides the layout -/
structure Config where
  multBits : Nat        -- probing_multiplier (float bits)
  probBits : Nat        -- uint8
  backoffBits : Nat     -- uint8
  bhikshaBits : Nat     -- pointer_bhiksha_bits, uint8
  deriving DecidableEq, Repr

/-! ## float32 product of `ProbingHashTable::Size`

`static_cast<uint64_t>(multiplier * static_cast<float>(entries))`: `entries` is rounded to
float32 (round to nearest even, 24 significant bits), the product of two float32 is rounded
the same way, the conversion to `uint64_t` truncates.  For a normal positive multiplier
`M·2^(E-150)` (`M` the 24-bit significand, `E` the biased exponent) all of this is exact
integer arithmetic.  (`Driver/C04.lean` cross-checks this against core `Float32` on every
case, and the harness against the real code.) -/

/-- number of binary digits -/
def bitLen (n : Nat) : Nat := Nat.log2 n + (if n = 0 then 0 else 1)

/-- round `n` to 24 significant bits, ties to even (value, not a mantissa/exponent pair). -/
def rne24 (n : Nat) : Nat :=
  let l := bitLen n
  if l ≤ 24 then n
  else
    let k := l - 24
    let q := n / 2^k
    let r := n % 2^k
    let half := 2^(k-1)
    let q' := if r > half ∨ (r = half ∧ q % 2 = 1) then q + 1 else q
    q' * 2^k

/-- `(uint64_t)(multiplier * (float)entries)` for a normal, positive, finite multiplier. -/
def f32MulTrunc (multBits entries : Nat) : Nat :=
  let e := (multBits / 2^23) % 256
  let m := 2^23 + multBits % 2^23
  let prod := rne24 (rne24 entries * m)
  if e ≥ 150 then prod * 2^(e - 150) else prod / 2^(150 - e)

/-- `Mod::RoundBuckets(std::max(entries + 1, (uint64_t)(multiplier * (float)entries)))` (DivMod: identity) -/
def probingBuckets (multBits entries : Nat) : Nat := max (entries + 1) (f32MulTrunc multBits entries)

/-- `ProbingHashTable<Entry,…>::Size(entries, multiplier)` -/
def probingTableSize (entrySize multBits entries : Nat) : Nat := probingBuckets multBits entries * entrySize

/-! ## vocabulary lookup sizes -/

/-- `SortedVocabulary::Size` -/
def sortedVocabSize (entries : Nat) : Nat := sizeofUint64 + sizeofUint64 * entries

/-- `ProbingVocabulary::Size` -/
def probingVocabSize (multBits entries : Nat) : Nat :=
  align8 sizeofProbingVocabHeader + probingTableSize sizeofProbingVocabEntry multBits entries

def vocabSize (k : Kind) (cfg : Config) (entries : Nat) : Nat :=
  if k.isTrie then sortedVocabSize entries else probingVocabSize cfg.multBits entries

/-- `UnkCountChangePadding()` -/
def unkPadding (k : Kind) (sawUnk : Bool) : Nat :=
  if k.isTrie ∧ !sawUnk then sizeofUint64 else 0

/-! ## hashed search -/

def hashedWeights (rest : Bool) : Nat := if rest then sizeofRestWeights else sizeofProbBackoff
def hashedMiddleEntry (rest : Bool) : Nat := if rest then sizeofRestProbingEntry else sizeofBackoffProbingEntry

/-- `HashedSearch::Unigram::Size` -/
def hashedUnigramSize (rest : Bool) (count : Nat) : Nat := (count + 1) * hashedWeights rest

def cnt (counts : List Nat) (i : Nat) : Nat := counts.getD i 0

/-- `HashedSearch::Size`: `for (n = 1; n < counts.size() - 1; ++n) ret += Middle::Size(counts[n], …)` -/
def hashedSize (rest : Bool) (cfg : Config) (counts : List Nat) : Nat :=
  hashedUnigramSize rest (cnt counts 0)
    + ((List.range' 1 (counts.length - 2)).map
        (fun n => probingTableSize (hashedMiddleEntry rest) cfg.multBits (cnt counts n))).sum
    + probingTableSize sizeofProbEntry cfg.multBits (cnt counts (counts.length - 1))

/-- regions produced by a `SetupMemory`: named start offsets and the end. -/
structure HashedRegions where
  unigram : Nat
  middles : List (Nat × Nat)     -- (start, buckets)
  longest : Nat × Nat
  stop : Nat
  deriving DecidableEq, Repr

/-- the middle loop of `HashedSearch::SetupMemory`:
`for (n = 2; n < counts.size(); ++n) { allocated = Middle::Size(counts[n-1], …); middle_.push_back(Middle(start, allocated)); start += allocated; }` -/
def hashedMiddleLoop (rest : Bool) (cfg : Config) (counts : List Nat) :
    List Nat → Nat → List (Nat × Nat) → Nat × List (Nat × Nat)
  | [], start, acc => (start, acc.reverse)
  | n :: ns, start, acc =>
    let allocated := probingTableSize (hashedMiddleEntry rest) cfg.multBits (cnt counts (n - 1))
    hashedMiddleLoop rest cfg counts ns (start + allocated)
      ((start, probingBuckets cfg.multBits (cnt counts (n - 1))) :: acc)

/-- `HashedSearch::SetupMemory(start, counts, config)` -/
def hashedSetup (rest : Bool) (cfg : Config) (counts : List Nat) (start : Nat) : HashedRegions :=
  let s1 := start + hashedUnigramSize rest (cnt counts 0)
  let r := hashedMiddleLoop rest cfg counts (List.range' 2 (counts.length - 2)) s1 []
  let last := cnt counts (counts.length - 1)
  { unigram := start, middles := r.2, longest := (r.1, probingBuckets cfg.multBits last),
    stop := r.1 + probingTableSize sizeofProbEntry cfg.multBits last }

/-! ## trie search -/

/-- `ChopBits`: `argmin_{chop ∈ [0, min(required, bits)]} (max_next >> (required-chop))*64 - max_offset*chop`,
first minimum wins (`<`).  The C++ computes the difference in wrapping 64-bit arithmetic and reads it
as `int64_t`; for counts below 2^56 that is the exact integer. -/
def chopChange (maxOffset maxNext required chop : Nat) : Int :=
  (((maxNext >>> (required - chop)) * 64 : Nat) : Int) - ((maxOffset * chop : Nat) : Int)

def chopLoop (maxOffset maxNext required : Nat) : List Nat → Nat × Int → Nat × Int
  | [], best => best
  | chop :: rest, best =>
    let change := chopChange maxOffset maxNext required chop
    chopLoop maxOffset maxNext required rest (if change < best.2 then (chop, change) else best)

def chopBits (maxOffset maxNext bhikshaBits : Nat) : Nat :=
  let required := requiredBits maxNext
  (chopLoop maxOffset maxNext required (List.range (min required bhikshaBits + 1)) (0, 2^63 - 1)).1

/-- `ArrayCount` -/
def arrayCount (maxOffset maxNext bhikshaBits : Nat) : Nat :=
  (maxNext >>> (requiredBits maxNext - chopBits maxOffset maxNext bhikshaBits)) + 1

/-- `Bhiksha::Size(max_offset, max_next, config)` -/
def bhikshaSize (array : Bool) (maxOffset maxNext bhikshaBits : Nat) : Nat :=
  if array then sizeofUint64 * (1 + arrayCount maxOffset maxNext bhikshaBits) + arrayBhikshaSlack else 0

/-- `Bhiksha::InlineBits(max_offset, max_next, config)` -/
def inlineBits (array : Bool) (maxOffset maxNext bhikshaBits : Nat) : Nat :=
  if array then requiredBits maxNext - chopBits maxOffset maxNext bhikshaBits else requiredBits maxNext

/-- `AlignTo8` on an address that is congruent to the file offset mod 8 -/
def alignTo8 (a : Nat) : Nat := if a % 8 = 0 then a else a + 8 - a % 8

/-- `Quant::Size(order, config)` -/
def quantSize (quant : Bool) (order : Nat) (cfg : Config) : Nat :=
  if quant then
    let longestTable := 2^cfg.probBits * sizeofFloat
    let middleTable := 2^cfg.backoffBits * sizeofFloat + longestTable
    (order - 2) * middleTable + longestTable + quantHeaderBytes
  else 0

/-- `Quant::MiddleBits(config)` (uint8 sum) -/
def middleBits (quant : Bool) (cfg : Config) : Nat :=
  if quant then (cfg.probBits + cfg.backoffBits) % 256 else dontQuantMiddleBits
/-- `Quant::LongestBits(config)` -/
def longestBits (quant : Bool) (cfg : Config) : Nat :=
  if quant then cfg.probBits else dontQuantLongestBits

/-- `trie::Unigram::Size` -/
def trieUnigramSize (count : Nat) : Nat := (count + 2) * sizeofTrieUnigramValue

/-- `uint8_t total_bits = RequiredBits(max_vocab) + remaining_bits` -/
def totalBits (maxVocab remaining : Nat) : Nat := (requiredBits maxVocab + remaining) % 256

/-- `BitPacked::BaseSize` -/
def baseSize (entries maxVocab remaining : Nat) : Nat :=
  ((1 + entries) * totalBits maxVocab remaining + 7) / 8 + bitPackedSlack

/-- `BitPackedMiddle<Bhiksha>::Size(quant_bits, entries, max_vocab, max_next, config)` -/
def middleSize (array : Bool) (cfg : Config) (quantBits entries maxVocab maxNext : Nat) : Nat :=
  bhikshaSize array (entries + 1) maxNext cfg.bhikshaBits
    + baseSize entries maxVocab ((quantBits + inlineBits array (entries + 1) maxNext cfg.bhikshaBits) % 256)

/-- `BitPackedLongest::Size` -/
def longestSize (quantBits entries maxVocab : Nat) : Nat := baseSize entries maxVocab quantBits

/-- `TrieSearch::Size`: `for (i = 1; i < counts.size() - 1; ++i) ret += Middle::Size(MiddleBits, counts[i], counts[0], counts[i+1], config)` -/
def trieSize (quant array : Bool) (cfg : Config) (counts : List Nat) : Nat :=
  quantSize quant counts.length cfg + trieUnigramSize (cnt counts 0)
    + ((List.range' 1 (counts.length - 2)).map
        (fun i => middleSize array cfg (middleBits quant cfg) (cnt counts i) (cnt counts 0) (cnt counts (i + 1)))).sum
    + longestSize (longestBits quant cfg) (cnt counts (counts.length - 1)) (cnt counts 0)

/-- what the constructor of one `BitPackedMiddle` derives from its base -/
structure MiddleRegion where
  start : Nat            -- `base` handed to the constructor (= Bhiksha header: version, configured bits)
  offBegin : Nat         -- `offset_begin_` (ArrayBhiksha only; 0 otherwise)
  offEnd : Nat           -- `offset_end_`
  inline : Nat           -- bits of the next pointer stored inline
  packed : Nat           -- `base_` of the bit-packed records
  wordBits : Nat
  totalBits : Nat
  quantBits : Nat
  bhikshaBytes : Nat     -- `Bhiksha::Size(entries + 1, max_next, config)`: header + offset table + alignment slack
  packedBytes : Nat      -- `BaseSize(entries, max_vocab, quant_bits + inline bits)`
  deriving DecidableEq, Repr

def mkMiddle (array : Bool) (cfg : Config) (quantBits entries maxVocab maxNext start : Nat) : MiddleRegion :=
  let inl := inlineBits array (entries + 1) maxNext cfg.bhikshaBits
  let ob := if array then alignTo8 start + sizeofUint64 else 0
  { start := start
    offBegin := ob
    offEnd := if array then ob + sizeofUint64 * arrayCount (entries + 1) maxNext cfg.bhikshaBits else 0
    inline := inl
    packed := start + bhikshaSize array (entries + 1) maxNext cfg.bhikshaBits
    wordBits := requiredBits maxVocab
    totalBits := totalBits maxVocab ((quantBits + inl) % 256)
    quantBits := quantBits
    bhikshaBytes := bhikshaSize array (entries + 1) maxNext cfg.bhikshaBits
    packedBytes := baseSize entries maxVocab ((quantBits + inl) % 256) }

structure TrieRegions where
  quant : Nat
  quantTables : List Nat       -- starts of the float tables (prob, backoff per middle order; longest prob)
  unigram : Nat
  middles : List MiddleRegion
  longest : Nat × Nat × Nat    -- base, word bits, total bits
  stop : Nat
  deriving DecidableEq, Repr

/-- `SeparatelyQuantize::SetupMemory`: tables after an 8-byte header -/
def quantTableLoop (cfg : Config) : Nat → Nat → List Nat → Nat × List Nat
  | 0, start, acc => (start, acc.reverse)
  | n+1, start, acc =>
    let s1 := start + 2^cfg.probBits * sizeofFloat
    quantTableLoop cfg n (s1 + 2^cfg.backoffBits * sizeofFloat) (s1 :: start :: acc)

def quantTables (quant : Bool) (order : Nat) (cfg : Config) (start : Nat) : List Nat :=
  if quant then
    let r := quantTableLoop cfg (order - 2) (start + quantHeaderBytes) []
    r.2 ++ [r.1]
  else []

/-- the first loop of `TrieSearch::SetupMemory`:
`for (i = 2; i < counts.size(); ++i) { middle_starts[i-2] = start; start += Middle::Size(MiddleBits, counts[i-1], counts[0], counts[i], config); }`
(the constructors are run afterwards on `middle_starts`; what they compute is `mkMiddle`). -/
def trieMiddleLoop (quant array : Bool) (cfg : Config) (counts : List Nat) :
    List Nat → Nat → List MiddleRegion → Nat × List MiddleRegion
  | [], start, acc => (start, acc.reverse)
  | i :: is, start, acc =>
    let qb := middleBits quant cfg
    trieMiddleLoop quant array cfg counts is
      (start + middleSize array cfg qb (cnt counts (i - 1)) (cnt counts 0) (cnt counts i))
      (mkMiddle array cfg qb (cnt counts (i - 1)) (cnt counts 0) (cnt counts i) start :: acc)

/-- `TrieSearch::SetupMemory(start, counts, config)` -/
def trieSetup (quant array : Bool) (cfg : Config) (counts : List Nat) (start : Nat) : TrieRegions :=
  let s1 := start + quantSize quant counts.length cfg
  let s2 := s1 + trieUnigramSize (cnt counts 0)
  let r := trieMiddleLoop quant array cfg counts (List.range' 2 (counts.length - 2)) s2 []
  let lb := longestBits quant cfg
  { quant := start, quantTables := quantTables quant counts.length cfg start, unigram := s1, middles := r.2,
    longest := (r.1, requiredBits (cnt counts 0), totalBits (cnt counts 0) lb),
    stop := r.1 + longestSize lb (cnt counts (counts.length - 1)) (cnt counts 0) }

/-! ## whole model: `GenericModel::Size`, `SetupMemory`, the writer and the loader -/

/-- `Search::Size(counts, config)` -/
def searchSize (k : Kind) (cfg : Config) (counts : List Nat) : Nat :=
  match k with
  | .probing rest => hashedSize rest cfg counts
  | .trie q a => trieSize q a cfg counts

/-- end of `search_.SetupMemory(start, counts, config)` -/
def searchSetupEnd (k : Kind) (cfg : Config) (counts : List Nat) (start : Nat) : Nat :=
  match k with
  | .probing rest => (hashedSetup rest cfg counts start).stop
  | .trie q a => (trieSetup q a cfg counts start).stop

/-- `GenericModel::Size(counts, config)` -/
def modelSize (k : Kind) (cfg : Config) (counts : List Nat) : Nat :=
  vocabSize k cfg (cnt counts 0) + searchSize k cfg counts

/-- offsets in the file -/
structure FileLayout where
  header : Nat        -- size of the header = offset of the vocabulary lookup
  vocab : Nat         -- size of the vocabulary lookup as the writer allocated it
  pad : Nat
  search : Nat        -- offset of the search structure
  strings : Nat       -- offset of the vocabulary strings = end of search
  fileSize : Nat
  storedCounts : List Nat
  deriving DecidableEq, Repr

/-- counts the writer passes to `FinishFile`: the trie replaces them by the fixed counts
(`<unk>` added, blanks added), the probing model keeps the ARPA header counts. -/
def storedCounts (k : Kind) (arpaCounts fixedCounts : List Nat) : List Nat :=
  if k.isTrie then fixedCounts else arpaCounts

/-- The writer: `SetupJustVocab(VocabularyT::Size(counts[0]), order)` from the ARPA header counts, then
`GrowForSearch(Search::Size(fixed counts), UnkCountChangePadding())`, then `WriteVocabWords`. -/
def writeLayout (k : Kind) (cfg : Config) (arpaCounts fixedCounts : List Nat) (sawUnk includeVocab : Bool)
    (stringsLen : Nat) : FileLayout :=
  let sc := storedCounts k arpaCounts fixedCounts
  let h := totalHeaderSize arpaCounts.length
  let v := vocabSize k cfg (cnt arpaCounts 0)
  let p := unkPadding k sawUnk
  let s := h + v + p
  let e := s + searchSize k cfg sc
  { header := h, vocab := v, pad := p, search := s, strings := e,
    fileSize := e + (if includeVocab then stringsLen else 0), storedCounts := sc }

/-- The loader (`GenericModel` constructor, binary branch): header size from the stored order,
`SetupMemory(LoadBinary(Size(counts, config)), counts, config)` with the *stored* counts, vocabulary
strings at `header + Size`. -/
structure LoadLayout where
  header : Nat
  vocabSize : Nat
  search : Nat
  mapped : Nat         -- total_map = header + Size = VocabStringReadingOffset
  deriving DecidableEq, Repr

def loadLayout (k : Kind) (cfg : Config) (stored : List Nat) : LoadLayout :=
  let h := totalHeaderSize stored.length
  let v := vocabSize k cfg (cnt stored 0)
  { header := h, vocabSize := v, search := h + v, mapped := h + modelSize k cfg stored }

/-! ## parameters stored inside the search area -/

/-- bytes `FinishedLoading` writes at the start of the quantiser block and of every
ArrayBhiksha block: (file offset, byte). -/
def storedParamBytes (k : Kind) (cfg : Config) (counts : List Nat) (searchStart : Nat) : List (Nat × Nat) :=
  match k with
  | .probing _ => []
  | .trie q a =>
    let r := trieSetup q a cfg counts searchStart
    (if q then [(r.quant, separatelyQuantizeVersion), (r.quant + 1, cfg.probBits % 256), (r.quant + 2, cfg.backoffBits % 256)] else [])
    ++ (if a then r.middles.flatMap (fun m => [(m.start, arrayBhikshaVersion), (m.start + 1, cfg.bhikshaBits % 256)]) else [])

inductive LoadErr where
  | quantVersion | bhikshaVersion
  deriving DecidableEq, Repr

/-- `TrieSearch::UpdateConfigFromBinary(file, counts, offset = VocabularyT::Size(counts[0]), config)`
reading bytes of the file through `rd` (absolute file offsets = `header_size_ + offset_excluding_header`). -/
def updateConfigFromBinary (k : Kind) (rd : Nat → Nat) (stored : List Nat) (cfg : Config) : Except LoadErr Config :=
  match k with
  | .probing _ => .ok cfg
  | .trie q a =>
    let off := totalHeaderSize stored.length + vocabSize k cfg (cnt stored 0)
    let c1 : Except LoadErr Config :=
      if q then
        if rd off ≠ separatelyQuantizeVersion then .error .quantVersion
        else .ok { cfg with probBits := rd (off + 1), backoffBits := rd (off + 2) }
      else .ok cfg
    match c1 with
    | .error e => .error e
    | .ok c =>
      if a ∧ stored.length > 2 then
        let boff := off + quantSize q stored.length c + trieUnigramSize (cnt stored 0)
        if rd boff ≠ arrayBhikshaVersion then .error .bhikshaVersion
        else .ok { c with bhikshaBits := rd (boff + 1) }
      else .ok c

end KV.Binary
