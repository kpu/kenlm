/-
Model of lm/filter (kpu/kenlm): what `bin/filter` keeps and what it writes.

Mirrors, function by function:
* util/tokenize_piece.hh  `TokenIter<SingleCharacter,false/true>`      → `splitOn`, `words`
* util/file_piece.cc      `FilePiece::ReadLine('\n', strip_cr=true)`   → `fileLines`
* lm/filter/vocab.hh      `IsTag`, `Single`, `Union`, `Multiple`       → `isTag`, `passSingle`, `passUnion`, `multiVerdict`
* lm/filter/vocab.cc      `ReadSingle`, `ReadMultiple`                → `readSingle`, `readSentences`, `postings`
* util/multi_intersection.hh `FirstIntersectionSorted`, `AllIntersection` → `firstInter`, `allInter`
* lm/filter/wrapper.hh    `ContextFilter`                             → `contextOf`
* lm/filter/arpa_io.{hh,cc}, lm/read_arpa.cc (the part the filter uses) → `parseArpa`, `arpaFile`
* lm/filter/count_io.hh   `ReadCount`, `CountOutput`                  → `rawItems`, `rawFile`
* lm/filter/phrase.{hh,cc} at specification level                    → `tilesB`, `graphAccept` (`Tiles`: Proofs/FilterPhrase.lean; the lazy search: Model/FilterPhraseSearch.lean)

Lines are byte strings (`List UInt8`).  Mathlib-free, executable.
-/
namespace KV.Filter

abbrev Bytes := List UInt8

def bytesOfString (s : String) : Bytes := s.toUTF8.toList

/-! ## tokenisation -/

/-- split at every byte satisfying `p`; empty tokens are kept, the empty string yields one
empty token -/
def splitBy (p : UInt8 → Bool) : Bytes → List Bytes
  | [] => [[]]
  | c :: cs =>
    if p c then [] :: splitBy p cs
    else match splitBy p cs with
      | [] => [[c]]
      | t :: ts => (c :: t) :: ts

/-- `TokenIter<SingleCharacter,false>(s, d)`: split on every occurrence of one byte; empty
tokens are kept, the empty string yields one empty token (non-null data pointer). -/
def splitOn (d : UInt8) (s : Bytes) : List Bytes := splitBy (· == d) s

/-- `TokenIter<SingleCharacter,true>(ngram, ' ')`: empty tokens skipped. -/
def words (g : Bytes) : List Bytes := (splitOn 32 g).filter (· ≠ [])

/-- C `isspace` in the "C" locale: \t \n \v \f \r and space. -/
def isSpace (c : UInt8) : Bool := c = 9 || c = 10 || c = 11 || c = 12 || c = 13 || c = 32

def allSpace (l : Bytes) : Bool := l.all isSpace

/-- split on any `isspace` byte, dropping empty tokens (`std::istream >> std::string`). -/
def spaceTokens (s : Bytes) : List Bytes := (splitBy isSpace s).filter (· ≠ [])

def stripCR (l : Bytes) : Bytes :=
  match l.getLast? with
  | some 13 => l.dropLast
  | _ => l

/-- the successive results of `FilePiece::ReadLine()` until `EndOfFileException`:
newline-terminated lines lose one trailing CR; an unterminated last line is returned as is. -/
def fileLines (bs : Bytes) : List Bytes :=
  let segs := splitOn 10 bs
  let body := segs.dropLast.map stripCR
  match segs.getLast? with
  | some [] => body
  | some l => body ++ [l]
  | none => body

/-! ## lm/filter/vocab.hh -/

/-- `IsTag`: first byte `<` and last byte `>` (a one-byte token is never a tag). -/
def isTag (w : Bytes) : Bool :=
  match w.head?, w.getLast? with
  | some 60, some 62 => true
  | _, _ => false

/-- `ReadSingle`: the set of whitespace-separated tokens of the vocabulary file. -/
def readSingle (v : Bytes) : List Bytes := spaceTokens v

/-- `ReadMultiple`: one sentence per line; lines without a token do not get an id. -/
def readSentences (v : Bytes) : List (List Bytes) :=
  ((splitOn 10 v).map spaceTokens).filter (· ≠ [])

/-- posting list of a word: increasing sentence ids whose line contains it (none = word unknown). -/
def postingFrom (w : Bytes) : Nat → List (List Bytes) → List Nat
  | _, [] => []
  | i, s :: ss => if s.contains w then i :: postingFrom w (i+1) ss else postingFrom w (i+1) ss

def posting (sents : List (List Bytes)) (w : Bytes) : Option (List Nat) :=
  match postingFrom w 0 sents with
  | [] => none
  | l => some l

/-- `vocab::Single::PassNGram` -/
def passSingle (V : List Bytes) (ws : List Bytes) : Bool :=
  ws.all fun w => isTag w || V.contains w

/-- the `sets_` vector built by Union / Multiple: `none` when a non-tag word is unknown. -/
def gatherSets (sents : List (List Bytes)) : List Bytes → Option (List (List Nat))
  | [] => some []
  | w :: ws =>
    if isTag w then gatherSets sents ws
    else match posting sents w with
      | none => none
      | some p => (gatherSets sents ws).map (p :: ·)

/-! ## util/multi_intersection.hh -/

/-- `std::lower_bound` on an increasing list, returning the remaining range -/
def lowerBound (h : Nat) (l : List Nat) : List Nat := l.dropWhile (· < h)

inductive Pass where
  | exhausted                                   -- some range became empty
  | same (sets : List (List Nat))               -- every front equals `highest`
  | higher (h : Nat) (sets : List (List Nat))   -- a front above `highest` was found: start over
  deriving Repr

/-- one left-to-right pass of the `for` loop of `FirstIntersectionSorted` with the current
`highest`; the ranges visited are advanced in place (as `advance_begin` does). -/
def pass (h : Nat) : List (List Nat) → Pass
  | [] => .same []
  | s :: rest =>
    match lowerBound h s with
    | [] => .exhausted
    | x :: s' =>
      if h < x then .higher x ((x :: s') :: rest)
      else match pass h rest with
        | .exhausted => .exhausted
        | .same r => .same ((x :: s') :: r)
        | .higher h' r => .higher h' ((x :: s') :: r)

/-- the restart loop; every restart strictly raises `highest` to an element of some range, so
`fuel` = largest element + 1 suffices (`Proofs/FilterInter.lean: firstInterFuel_complete`). -/
def firstInterFuel : Nat → Nat → List (List Nat) → Option (Option (Nat × List (List Nat)))
  | 0, _, _ => none
  | fuel+1, h, sets =>
    match pass h sets with
    | .exhausted => some none
    | .same r => some (some (h, r))
    | .higher h' r => firstInterFuel fuel h' r

def totalLen (sets : List (List Nat)) : Nat := (sets.map List.length).foldr (· + ·) 0

def maxElem (sets : List (List Nat)) : Nat := sets.flatten.foldr max 0

/-- `detail::FirstIntersectionSorted(sets)` (precondition `sets ≠ []`): lowest common element
and the advanced ranges. -/
def firstInterSets (sets : List (List Nat)) : Option (Nat × List (List Nat)) :=
  match sets with
  | [] => none
  | [] :: _ => none
  | (x :: s) :: rest =>
    match firstInterFuel (maxElem sets + 1) x ((x :: s) :: rest) with
    | some r => r
    | none => none

def firstInter (sets : List (List Nat)) : Option Nat := (firstInterSets sets).map (·.1)

/-- `AllIntersection`: repeat `FirstIntersectionSorted`, then `sets.front().advance_begin(1)`. -/
def allInterFuel : Nat → List (List Nat) → List Nat
  | 0, _ => []
  | fuel+1, sets =>
    match firstInterSets sets with
    | none => []
    | some (m, r) =>
      match r with
      | (_ :: s) :: rest => m :: allInterFuel fuel (s :: rest)
      | _ => [m]

def allInter (sets : List (List Nat)) : List Nat := allInterFuel (totalLen sets + 1) sets

/-- insertion sort by size: one admissible result of `std::sort(.., RangeLessBySize)`; the
theorems hold for *every* order of `sets`, this one is used by the driver. -/
def insertBySize (s : List Nat) : List (List Nat) → List (List Nat)
  | [] => [s]
  | t :: ts => if s.length ≤ t.length then s :: t :: ts else t :: insertBySize s ts

def sortBySize (sets : List (List Nat)) : List (List Nat) := sets.foldr insertBySize []

/-- `vocab::Union::PassNGram` -/
def passUnion (sents : List (List Bytes)) (ws : List Bytes) : Bool :=
  match gatherSets sents ws with
  | none => false
  | some [] => true
  | some sets => (firstInter (sortBySize sets)).isSome

/-- what a filter does with one n-gram: `all` = `output.AddNGram(line)`, `only ks` = one
`output.SingleAddNGram(k, line)` per `k` in order (`only []` = dropped). -/
inductive Verdict where
  | all
  | only (ks : List Nat)
  deriving Repr, DecidableEq

/-- `vocab::Multiple::AddNGram` -/
def multiVerdict (sents : List (List Bytes)) (ws : List Bytes) : Verdict :=
  match gatherSets sents ws with
  | none => .only []
  | some [] => .all
  | some sets => .only (allInter (sortBySize sets))

/-! ## lm/filter/wrapper.hh -/

/-- index of the last space at a position `> 0`, else 0 (the `for` loop of `ContextFilter`) -/
def lastSpaceIdx (g : Bytes) : Nat :=
  let rec go (i : Nat) (l : Bytes) (best : Nat) : Nat :=
    match l with
    | [] => best
    | c :: cs => go (i+1) cs (if c = 32 ∧ i > 0 then i else best)
  go 0 g 0

/-- `ContextFilter::AddNGram`: the n-gram up to (not including) its last space; precondition
`g ≠ []` (the C++ reads `g[-1]` and builds a piece of length −1 otherwise). -/
def contextOf (g : Bytes) : Bytes := g.take (lastSpaceIdx g)


/-! ## lm/filter/phrase.{hh,cc} at specification level

`phrase` mode: the vocabulary file has one sentence per line, phrases separated by tab (or VT),
words by spaces.  An n-gram must be kept for sentence `s` when it can be read off a
concatenation of phrases of `s`: it is a substring of one phrase, or a non-empty suffix of a
phrase, then whole phrases, then a non-empty prefix of a phrase (`BuildGraph`: `SetRight` arcs,
`SetPhrase` arcs between word positions, `FindLeft` for the last segment, `FindSubstring` for
the whole n-gram).  The lazy graph search itself (`Vertex::LowerBound` / `Arc::LowerBound`) is
modelled in `Model/FilterPhraseSearch.lean`; the 64-bit hashing (collisions make the tool more
permissive) is not modelled: `tilesB` is the lower bound the tool must respect. -/

def isLineBreak (c : UInt8) : Bool := c = 10 || c = 12 || c = 13
def isPhraseSep (c : UInt8) : Bool := c = 9 || c = 11

/-- `phrase::ReadMultiple`: sentences (lines with at least one phrase) of phrases of words -/
def readPhraseSentences (v : Bytes) : List (List (List Bytes)) :=
  ((splitBy isLineBreak v).map fun ln =>
    ((splitBy isPhraseSep ln).map words).filter (· ≠ [])).filter (· ≠ [])

def bEos : Bytes := [60, 47, 115, 62]   -- "</s>"

/-- `detail::MakeHashes`: a tag in first position is skipped, everything from `</s>` on is ignored -/
def phraseWords (ws : List Bytes) : List Bytes :=
  let r := match ws with
    | [] => []
    | w :: r => if isTag w then r else w :: r
  r.takeWhile (· ≠ bEos)

/-- `g` is a contiguous part of `p` -/
def isSubstr (g : List Bytes) : List Bytes → Bool
  | [] => g.isPrefixOf []
  | x :: p => g.isPrefixOf (x :: p) || isSubstr g p

def isSuffixOfAny (phrases : List (List Bytes)) (g : List Bytes) : Bool := phrases.any fun p => g.isSuffixOf p
def isPrefixOfAny (phrases : List (List Bytes)) (g : List Bytes) : Bool := phrases.any fun p => g.isPrefixOf p

/-- the rest after the first segment: whole phrases, then a non-empty prefix of a phrase -/
def tilesRest (phrases : List (List Bytes)) : Nat → List Bytes → Bool
  | 0, _ => false
  | fuel+1, r =>
    (r ≠ [] && isPrefixOfAny phrases r) ||
    phrases.any fun p => p ≠ [] && p.isPrefixOf r && tilesRest phrases fuel (r.drop p.length)

/-- all ways to cut `g` into a non-empty head and a non-empty tail -/
def cuts (g : List Bytes) : List (List Bytes × List Bytes) :=
  (List.range (g.length - 1)).map fun i => (g.take (i+1), g.drop (i+1))

/-- executable `Tiles` for one sentence -/
def tilesB (phrases : List (List Bytes)) (g : List Bytes) : Bool :=
  phrases.any (isSubstr g) ||
  (cuts g).any fun c => isSuffixOfAny phrases c.1 && tilesRest phrases (c.2.length + 1) c.2

/-- the sentences for which the n-gram (already tokenised) must be kept; `.all` when
no word is left after `MakeHashes` -/
def phraseMust (sents : List (List (List Bytes))) (ws : List Bytes) : Verdict :=
  let g := phraseWords ws
  if g = [] then .all
  else .only ((List.range sents.length).filter fun s => tilesB (sents.getD s []) g)

def phraseMustUnion (sents : List (List (List Bytes))) (ws : List Bytes) : Verdict :=
  match phraseMust sents ws with
  | .all => .all
  | .only [] => .only []
  | .only _ => .all


/-! ### the search graph of `BuildGraph` (semantic tables, no hashing, no lazy evaluation)

`Substrings::AddPhrase` enters every contiguous part of every phrase as a key; `FindX(key)`
fails only when the key is no part of any phrase of any sentence, and then the loops of
`BuildGraph` `break`.  `graphAccept sents s g` = "there is a path of arcs that all contain
sentence `s` into the last vertex" — what `Vertex::LowerBound` computes lazily for all `s` at
once (that lazy evaluation is `Model/FilterPhraseSearch.lean`; `KV.C11.phrase_search_eq_graph`). -/

/-- the key is in the hash table -/
def present (sents : List (List (List Bytes))) (k : List Bytes) : Bool :=
  sents.any fun ph => ph.any (isSubstr k)

/-- the loop reached this key without `break`: every non-empty prefix is in the table -/
def prefixesPresent (sents : List (List (List Bytes))) (k : List Bytes) : Bool :=
  (List.range k.length).all fun i => present sents (k.take (i+1))

/-- arcs from the vertex before `r` to the last vertex: `SetPhrase` arcs over whole phrases,
the last one over a left-aligned part (`FindLeft`) -/
def graphRest (sents : List (List (List Bytes))) (phrases : List (List Bytes)) : Nat → List Bytes → Bool
  | 0, _ => false
  | fuel+1, r =>
    (r ≠ [] && prefixesPresent sents r.dropLast && isPrefixOfAny phrases r) ||
    (cuts r).any fun c => prefixesPresent sents c.1 && phrases.contains c.1 && graphRest sents phrases fuel c.2

def graphAccept (sents : List (List (List Bytes))) (s : Nat) (g : List Bytes) : Bool :=
  let phrases := sents.getD s []
  (prefixesPresent sents g.dropLast && phrases.any (isSubstr g)) ||
  (cuts g).any fun c => prefixesPresent sents c.1 && isSuffixOfAny phrases c.1 &&
    graphRest sents phrases (c.2.length + 1) c.2

/-- what `phrase::Multiple` / `phrase::Union` do with an n-gram, absent hash collisions -/
def phraseVerdict (sents : List (List (List Bytes))) (ws : List Bytes) : Verdict :=
  let g := phraseWords ws
  if g = [] then .all
  else .only ((List.range sents.length).filter fun s => graphAccept sents s g)

def phraseVerdictUnion (sents : List (List (List Bytes))) (ws : List Bytes) : Verdict :=
  match phraseVerdict sents ws with
  | .all => .all
  | .only [] => .only []
  | .only _ => .all

/-! ## modes -/

inductive Mode where
  | copy
  | single (V : List Bytes)
  | union (sents : List (List Bytes))
  | multiple (sents : List (List Bytes))

structure Opts where
  context : Bool := false

/-- verdict for one n-gram field (before the `context` wrapper) -/
def verdictWords (m : Mode) (ws : List Bytes) : Verdict :=
  match m with
  | .copy => .all
  | .single V => if passSingle V ws then .all else .only []
  | .union s => if passUnion s ws then .all else .only []
  | .multiple s => multiVerdict s ws

def verdict (m : Mode) (o : Opts) (ngram : Bytes) : Verdict :=
  match m with
  | .copy => .all
  | _ => verdictWords m (words (if o.context then contextOf ngram else ngram))

/-- number of output files -/
def Mode.outputs : Mode → Nat
  | .multiple s => s.length
  | _ => 1

/-- does output file `k` receive an n-gram with this verdict? -/
def Verdict.hits (v : Verdict) (k : Nat) : Bool :=
  match v with
  | .all => true
  | .only ks => ks.contains k

/-- how many times output `k` receives the line (1 or 0 once `ks` is known duplicate-free) -/
def Verdict.copies (v : Verdict) (k : Nat) : Nat :=
  match v with
  | .all => 1
  | .only ks => ks.count k

/-! ## input formats -/

/-- an item handed to `AddNGram(ngram, line)` -/
structure Item where
  ngram : Bytes
  line : Bytes
  deriving Repr, DecidableEq

inductive Err where
  | eof | format | noTab
  deriving Repr, DecidableEq

def startsWith (p l : Bytes) : Bool := l.take p.length == p

def digitsPrefix : Bytes → Bytes
  | [] => []
  | c :: cs => if 48 ≤ c ∧ c ≤ 57 then c :: digitsPrefix cs else []

def natOfDigits (ds : Bytes) : Nat := ds.foldl (fun a c => 10 * a + (c.toNat - 48)) 0

def natToDigits (n : Nat) : Bytes := (toString n).toUTF8.toList

def bData : Bytes := bytesOfString "\\data\\"
def bEnd : Bytes := bytesOfString "\\end\\"
def bNgram : Bytes := bytesOfString "ngram "
def gramsHeader (n : Nat) : Bytes := [92] ++ natToDigits n ++ bytesOfString "-grams:"

/-- `ReadARPACounts` after `\data\`: returns the counts and the remaining lines -/
def readCountLines : List Bytes → List Nat → Except Err (List Nat × List Bytes)
  | [], _ => .error .eof
  | l :: rest, acc =>
    if allSpace l then .ok (acc.reverse, rest)
    else if !(startsWith bNgram l) then .error .format
    else
      let rem := l.drop 6
      let d := digitsPrefix rem
      if d = [] ∨ natOfDigits d ≠ acc.length + 1 then .error .format
      else match rem.drop d.length with
        | 61 :: cnt =>
          let cnt := cnt.dropWhile isSpace
          let c := digitsPrefix cnt
          if c = [] then .error .format else readCountLines rest (natOfDigits c :: acc)
        | _ => .error .format

def skipBlank : List Bytes → List Bytes
  | [] => []
  | l :: rest => if allSpace l then skipBlank rest else l :: rest

def skipBlankOrComment : List Bytes → List Bytes
  | [] => []
  | l :: rest => if allSpace l || startsWith [35] l then skipBlankOrComment rest else l :: rest

/-- the loop of `ReadNGrams`: `number` lines, each must contain a tab; the n-gram is the
second tab-separated field -/
def readNGramLines : Nat → List Bytes → List Item → Except Err (List Item × List Bytes)
  | 0, ls, acc => .ok (acc.reverse, ls)
  | _+1, [], _ => .error .eof
  | n+1, l :: rest, acc =>
    match splitOn 9 l with
    | _ :: g :: _ => readNGramLines n rest (⟨g, l⟩ :: acc)
    | _ => .error .noTab

def readOrders : Nat → List Nat → List Bytes → List (List Item) → Except Err (List (List Item) × List Bytes)
  | _, [], ls, acc => .ok (acc.reverse, ls)
  | k, n :: ns, ls, acc =>
    match skipBlank ls with
    | [] => .error .eof
    | h :: rest =>
      if h ≠ gramsHeader k then .error .format
      else match readNGramLines n rest [] with
        | .error e => .error e
        | .ok (items, rest') => readOrders (k+1) ns rest' (items :: acc)

structure Arpa where
  counts : List Nat            -- the header counts of the input
  orders : List (List Item)    -- the n-gram lines per order, as handed to the filter
  deriving Repr

/-- `ReadARPA` as used by the filter -/
def parseArpa (bs : Bytes) : Except Err Arpa :=
  match skipBlankOrComment (fileLines bs) with
  | [] => .error .eof
  | d :: rest =>
    if d ≠ bData then .error .format
    else match readCountLines rest [] with
      | .error e => .error e
      | .ok (counts, rest) =>
        match readOrders 1 counts rest [] with
        | .error e => .error e
        | .ok (orders, rest) =>
          match skipBlank rest with
          | [] => .error .eof
          | e :: tail =>
            if e ≠ bEnd then .error .format
            else if tail.all allSpace then .ok ⟨counts, orders⟩ else .error .format

/-- `WriteCounts` -/
def countsHeader (counts : List Nat) : Bytes :=
  let rec go (i : Nat) : List Nat → Bytes
    | [] => []
    | c :: cs => bNgram ++ natToDigits i ++ [61] ++ natToDigits c ++ [10] ++ go (i+1) cs
  [10] ++ bData ++ [10] ++ go 1 counts ++ [10]

def keptLines (vs : Item → Verdict) (k : Nat) (items : List Item) : List Bytes :=
  items.flatMap fun it => List.replicate ((vs it).copies k) it.line

def joinLines (ls : List Bytes) : Bytes := ls.flatMap (· ++ [10])

def sectionsBody (k : Nat) : List (List Bytes) → Bytes
  | [] => []
  | ls :: rest => gramsHeader k ++ [10] ++ joinLines ls ++ [10] ++ sectionsBody (k+1) rest

/-- the bytes of ARPA output file `k`: rewritten header, padding newlines left from the
reservation made with the *input* counts, sections, `\end\`. -/
def arpaFile (a : Arpa) (vs : Item → Verdict) (k : Nat) : Bytes :=
  let kept := a.orders.map (keptLines vs k)
  let hdr := countsHeader (kept.map List.length)
  let reserve := (countsHeader a.counts).length
  hdr ++ List.replicate (reserve - hdr.length) 10 ++ sectionsBody 1 kept ++ bEnd ++ [10]

/-- `ReadCount`: every line; the n-gram is the first tab-separated field -/
def rawItems (bs : Bytes) : List Item :=
  (fileLines bs).map fun l => ⟨(splitOn 9 l).headD [], l⟩

def rawFile (items : List Item) (vs : Item → Verdict) (k : Nat) : Bytes :=
  joinLines (keptLines vs k items)

/-- precondition of the C++ (`ContextFilter` on an empty n-gram field is undefined) -/
def itemsOk (items : List Item) : Bool := items.all (·.ngram ≠ [])

end KV.Filter
