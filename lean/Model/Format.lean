/-
Model of kenlm's number formatting and number reading (property C19), Mathlib-free.

What is transcribed (file:function → definition here)
* util/double-conversion/double-to-string.cc
    DoubleToStringConverter::CreateExponentialRepresentation → `expRep`
    DoubleToStringConverter::CreateDecimalRepresentation     → `decRep`
    DoubleToStringConverter::ToShortestIeeeNumber            → `fmtShortest` (finite values, after DoubleToAscii)
    DoubleToStringConverter::HandleSpecialValues             → `fmtValue` (inf / NaN)
  for an arbitrary converter configuration `Conv`; the configuration used by
  util/float_to_string.cc is regenerated from the source (Generated/C19.lean).
* util/integer_to_string.cc  ToString(uint32_t/uint64_t/int32_t/int64_t/uint16_t/int16_t/const void*)
    → `fmtNat`, `fmtInt`, `fmtPtr`, and the number of bytes the x86 code path stores (`footprintU64`, …).
* util/file_piece.cc ParseNumber(long / unsigned long) = strtol/strtoul(base 10) + errno test
    → `readULong`, `readLong`;  ParseNumber(float/double) = StringToDoubleConverter::StringToIeee
    with ALLOW_TRAILING_JUNK | ALLOW_LEADING_SPACES, "inf", "NaN" → `readDecimal` (the grammar and
    the exact decimal value; the correctly rounded conversion of that value to binary is
    double-conversion's Strtod and is not modelled).

Not modelled (trusted third-party algorithms, see DESIGN §5 C19): shortest digit generation
(Grisu3 / Bignum) — the formatter takes `(neg, digits, point)` as produced by `DoubleToAscii`;
`value = 0.d₁d₂…dₙ × 10^point`.
-/
namespace KV.Format

/-! ## configuration of a `DoubleToStringConverter` -/

structure Conv where
  emitPositiveExponentSign : Bool    -- flag 1
  emitTrailingDecimalPoint : Bool    -- flag 2
  emitTrailingZeroAfterPoint : Bool  -- flag 4
  uniqueZero : Bool                  -- flag 8
  infSym : List Char
  nanSym : List Char
  expChar : Char
  low : Int          -- decimal_in_shortest_low
  high : Int         -- decimal_in_shortest_high
  minExpWidth : Nat  -- min_exponent_width (clamped to kMaxExponentLength = 5 where used)
  deriving Repr

/-- Build a `Conv` from the raw constructor arguments (as regenerated by the constant probe). -/
def Conv.ofRaw (flags : Nat) (inf nan : String) (expChar : Nat) (low high : Int) (minExpWidth : Nat) : Conv :=
  { emitPositiveExponentSign := flags.testBit 0
    emitTrailingDecimalPoint := flags.testBit 1
    emitTrailingZeroAfterPoint := flags.testBit 2
    uniqueZero := flags.testBit 3
    infSym := inf.toList, nanSym := nan.toList, expChar := Char.ofNat expChar
    low := low, high := high, minExpWidth := minExpWidth }

/-! ## digits -/

/-- characters of a digit list (values 0…9; `Nat.digitChar` also covers hex a…f). -/
def digitChars (ds : List Nat) : List Char := ds.map Nat.digitChar

/-- `StringBuilder::AddPadding(c, count)`: nothing for a non-positive count. -/
def pad (c : Char) (count : Int) : List Char := List.replicate count.toNat c

/-- decimal text of a natural number (no sign, no leading zeros, "0" for zero). -/
def fmtNat (n : Nat) : List Char := Nat.toDigits 10 n

/-! ## double-to-string.cc -/

/-- `CreateExponentialRepresentation(decimal_digits, length, exponent, builder)`. -/
def expRep (c : Conv) (digits : List Nat) (exponent : Int) : List Char :=
  let ds := digitChars digits
  let e := fmtNat exponent.natAbs
  ds.take 1
    ++ (if digits.length ≠ 1 then '.' :: ds.drop 1 else [])
    ++ [c.expChar]
    ++ (if exponent < 0 then ['-'] else if c.emitPositiveExponentSign then ['+'] else [])
    ++ List.replicate (min c.minExpWidth 5 - e.length) '0' ++ e

/-- `CreateDecimalRepresentation(decimal_digits, length, decimal_point, digits_after_point, builder)`. -/
def decRep (c : Conv) (digits : List Nat) (point after : Int) : List Char :=
  let ds := digitChars digits
  let len : Int := digits.length
  (if point ≤ 0 then
      '0' :: (if after > 0 then '.' :: (pad '0' (-point) ++ ds ++ pad '0' (after - (-point) - len)) else [])
    else if point ≥ len then
      ds ++ pad '0' (point - len) ++ (if after > 0 then '.' :: pad '0' after else [])
    else
      ds.take point.toNat ++ '.' :: (ds.drop point.toNat ++ pad '0' (after - (len - point))))
  ++ (if after = 0 then
        (if c.emitTrailingDecimalPoint then ['.'] else []) ++ (if c.emitTrailingZeroAfterPoint then ['0'] else [])
      else [])

/-- `ToShortestIeeeNumber` for a finite value whose `DoubleToAscii` result is `(neg, digits, point)`. -/
def fmtShortest (c : Conv) (neg : Bool) (digits : List Nat) (point : Int) : List Char :=
  let isZero := digits.all (· == 0)
  let len : Int := digits.length
  let exponent := point - 1
  (if neg && (!isZero || !c.uniqueZero) then ['-'] else [])
  ++ (if c.low ≤ exponent ∧ exponent < c.high then decRep c digits point (max 0 (len - point))
      else expRep c digits exponent)

/-- what `ToShortest` / `ToShortestSingle` is given. -/
inductive FVal where
  | inf (neg : Bool)
  | nan
  | fin (neg : Bool) (digits : List Nat) (point : Int)
  deriving Repr

/-- `ToShortestIeeeNumber` including `HandleSpecialValues` (symbols are non-NULL for util::kConverter). -/
def fmtValue (c : Conv) : FVal → List Char
  | .inf neg => (if neg then ['-'] else []) ++ c.infSym
  | .nan => c.nanSym
  | .fin neg digits point => fmtShortest c neg digits point

/-- closed form of the text length of `fmtShortest` when no trailing-point flags are set
(proved equal in `Proofs/Format.lean`): depends only on the sign, the digit *count* and the point. -/
def shortestLen (c : Conv) (neg : Bool) (isZero : Bool) (n : Nat) (point : Int) : Nat :=
  let exponent := point - 1
  (if neg && (!isZero || !c.uniqueZero) then 1 else 0)
  + (if c.low ≤ exponent ∧ exponent < c.high then
       (if point ≤ 0 then (if (n : Int) - point > 0 then 2 + (-point).toNat + n else 1)
        else if point ≥ n then point.toNat
        else n + 1)
     else
       (min 1 n) + (if n ≠ 1 then 1 + (n - 1) else 0) + 1
        + (if exponent < 0 then 1 else if c.emitPositiveExponentSign then 1 else 0)
        + (min c.minExpWidth 5 - (fmtNat exponent.natAbs).length) + (fmtNat exponent.natAbs).length)

/-! ## integer_to_string.cc -/

def fmtInt (i : Int) : List Char :=
  if i < 0 then '-' :: fmtNat i.natAbs else fmtNat i.natAbs

/-- `ToString(const void*)`: "0x" + lower-case hex without leading zeros, "0x0" for NULL. -/
def fmtPtr (v : Nat) : List Char := '0' :: 'x' :: Nat.toDigits 16 v

/-- bytes stored by `ToString(uint64_t)` on the x86/SSE2 path: values in [10⁸, 10¹⁶) are written with
one unconditional 16-byte store (`_mm_storeu_si128`), everything else stores exactly the text. -/
def footprintU64 (sse2 : Bool) (n : Nat) : Nat :=
  if sse2 && decide (100000000 ≤ n) && decide (n < 10000000000000000) then 16 else (fmtNat n).length

def footprintI64 (sse2 : Bool) (i : Int) : Nat :=
  (if i < 0 then 1 else 0) + footprintU64 sse2 i.natAbs

/-! ## the reader: strtoul / strtol as used by ParseNumber -/

/-- C `isspace` in the "C" locale. -/
def isSpaceC (c : Char) : Bool :=
  c == ' ' || c == '\t' || c == '\n' || c == Char.ofNat 11 || c == Char.ofNat 12 || c == '\r'

/-- longest prefix of decimal digits, and the rest. -/
def spanDigits : List Char → List Char × List Char
  | [] => ([], [])
  | c :: cs => if c.isDigit then let r := spanDigits cs; (c :: r.1, r.2) else ([], c :: cs)

inductive ReadErr where
  | noDigits   -- end == str.data(): nothing converted
  | range      -- errno = ERANGE
  deriving Repr, DecidableEq

/-- optional sign: (negative?, rest) -/
def takeSign : List Char → Bool × List Char
  | '-' :: t => (true, t)
  | '+' :: t => (false, t)
  | s => (false, s)

/-- `ParseNumber(StringPiece, unsigned long&)`: strtoul(…, 10), error iff errno ≠ 0 or nothing consumed.
Returns the value and the unconsumed rest. -/
def readULong (s : List Char) : Except ReadErr (Nat × List Char) :=
  let s := s.dropWhile isSpaceC
  let (neg, s) := takeSign s
  let (ds, rest) := spanDigits s
  if ds.isEmpty then .error .noDigits
  else
    let v := Nat.ofDigitChars 10 ds 0
    if v ≥ 2 ^ 64 then .error .range
    else .ok ((if neg then (2 ^ 64 - v) % 2 ^ 64 else v), rest)

/-- `ParseNumber(StringPiece, long&)`: strtol(…, 10). -/
def readLong (s : List Char) : Except ReadErr (Int × List Char) :=
  let s := s.dropWhile isSpaceC
  let (neg, s) := takeSign s
  let (ds, rest) := spanDigits s
  if ds.isEmpty then .error .noDigits
  else
    let v := Nat.ofDigitChars 10 ds 0
    if neg then (if v > 2 ^ 63 then .error .range else .ok (-(v : Int), rest))
    else (if v ≥ 2 ^ 63 then .error .range else .ok ((v : Int), rest))

/-! ## the reader: StringToDoubleConverter::StringToIeee (ALLOW_TRAILING_JUNK | ALLOW_LEADING_SPACES) -/

/-- result of reading a floating-point token: what was recognised and what is left. -/
inductive DRes where
  | empty                                        -- only spaces: empty_string_value_ (NaN here)
  | junk                                         -- junk_string_value_ (NaN here), nothing consumed
  | inf (neg : Bool) (rest : List Char)
  | nan (rest : List Char)
  | num (neg : Bool) (mant : Nat) (exp : Int) (rest : List Char)   -- value = (−1)^neg · mant · 10^exp
  deriving Repr

/-- double-conversion's `isWhitespace` restricted to ASCII. -/
def isWhitespaceDC (c : Char) : Bool := isSpaceC c

def stripPrefix? : List Char → List Char → Option (List Char)
  | [], s => some s
  | _ :: _, [] => none
  | p :: ps, c :: cs => if p == c then stripPrefix? ps cs else none

/-- the optional exponent part; returns (exponent, rest). With trailing junk allowed an incomplete
exponent ("e", "e+", "ex") is junk that starts at the 'e'. -/
def readExponent (s : List Char) : Int × List Char :=
  match s with
  | c :: t =>
    if c == 'e' || c == 'E' then
      let (eneg, t') := takeSign t
      let (ds, rest) := spanDigits t'
      if ds.isEmpty then (0, s)
      else
        let num := Nat.ofDigitChars 10 ds 0
        -- the code saturates at INT_MAX/2; any such value already means 0 or infinity
        let num := min num 1073741823
        ((if eneg then -(num : Int) else (num : Int)), rest)
    else (0, s)
  | [] => (0, s)

/-- the optional fraction: '.' followed by digits (possibly none); returns (fraction digits, rest). -/
def readFraction : List Char → List Char × List Char
  | '.' :: t => spanDigits t
  | s => ([], s)

/-- digits [ '.' digits ] [ exponent ] after the sign and the special symbols have been dealt with:
`mant` collects the integer and fraction digits, every fraction digit lowers the exponent by one.
(The code drops leading zeros and digits beyond 772 significant ones while adjusting the exponent and
setting a sticky digit; that is value-preserving up to the correctly rounded result and is not modelled.
"0", "000", "0.000" return SignedZero as soon as the input ends: same value, same consumed prefix.) -/
def readMantissa (neg : Bool) (s1 : List Char) : DRes :=
  let (ip, s2) := spanDigits s1
  let (fp, s3) := readFraction s2
  if ip.isEmpty && fp.isEmpty then .junk
  else
    let (e, rest) := readExponent s3
    .num neg (Nat.ofDigitChars 10 (ip ++ fp) 0) (e - fp.length) rest

/-- does the (non-NULL, non-empty) symbol start with `c`?  (`ConsumeFirstCharacter`) -/
def startsWith (sym : List Char) (c : Char) : Bool := sym.head? == some c

/-- `StringToIeee` up to (not including) the binary rounding: grammar, consumed prefix, exact value. -/
def readDecimal (infSym nanSym : List Char) (s : List Char) : DRes :=
  if s.isEmpty then .empty else
  match s.dropWhile isWhitespaceDC with
  | [] => .empty
  | c0 :: t0 =>
    let signed := c0 == '+' || c0 == '-'
    let neg := c0 == '-'
    let s1 := if signed then t0 else c0 :: t0
    match s1 with
    | [] => .junk
    | c1 :: _ =>
      if signed && isWhitespaceDC c1 then .junk
      else if startsWith infSym c1 then
        (match stripPrefix? infSym s1 with
         | some rest => .inf neg rest
         | none => .junk)
      else if startsWith nanSym c1 then
        (match stripPrefix? nanSym s1 with
         | some rest => .nan rest
         | none => .junk)
      else readMantissa neg s1

/-- what `ParseNumber(StringPiece str, float/double&)` returns: it throws iff the converter
returned NaN and the characters it consumed (`StringPiece(str.data(), count)`) are not exactly "NaN".  So junk and
the empty string (NaN with nothing / only spaces consumed), "nan", "-NaN", "+NaN" are rejected; "NaN" followed by
anything ("NaNx", "NaN 1.5", a tab and the next token of the window) gives NaN with 3 characters consumed. -/
inductive FRead where
  | err                                   -- ParseNumberException
  | nan (consumed : Nat)
  | val (neg : Bool) (consumed : Nat)     -- ±inf or a decimal value
  deriving Repr, DecidableEq

def parseNumberF (infSym nanSym : List Char) (s : List Char) : FRead :=
  match readDecimal infSym nanSym s with
  | .empty => .err
  | .junk => .err                                   -- processed_characters_count stays 0
  | .nan rest =>
    let consumed := s.length - rest.length          -- includes leading spaces and a sign, if any
    if s.take consumed == ['N', 'a', 'N'] then .nan consumed else .err
  | .inf neg rest => .val neg (s.length - rest.length)
  | .num neg _ _ rest => .val neg (s.length - rest.length)

/-- `FilePiece::ReadFloat/ReadDouble`: `SkipSpaces()` (kSpaces = C isspace), then `ParseNumber` on the window;
`consumed` counts the skipped spaces too. -/
def filePieceReadF (infSym nanSym : List Char) (s : List Char) : FRead :=
  let t := s.dropWhile isSpaceC
  let skipped := s.length - t.length
  match parseNumberF infSym nanSym t with
  | .err => .err
  | .nan c => .nan (skipped + c)
  | .val neg c => .val neg (skipped + c)

end KV.Format
