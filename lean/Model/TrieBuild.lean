import Model.TrieLM
/-!
The trie *builder* of lm/search_trie.cc between the parsed ARPA n-grams and the fold `TrieLM.ofTable`:

* `SortedFiles` / `RecursiveInsert`: the n-grams of all orders, keyed by their reversed id sequence, are visited in
  lexicographic order with a prefix before its extensions (priority queue over the per-order sorted streams);
  a duplicate key is `FormatLoadException` (`ThrowCombine`).
* `BlankManager::Visit`: compares the key with the previously visited one; every proper reversed prefix that was not on the
  previous path is a *blank*; its probability basis is the probability of the nearest lower order on the path that is not
  itself a blank (`basis_`, every blank order is set to `kBadProb`); a missing unigram is `FormatLoadException`.
* `SRISucks::Send` / `BackoffMessages::Apply` / `ObtainBackoffs`: a blank of order `b` based on order `j` asks the
  contexts `to[1..1+i)`, `i = j … b-1`, for their back-off; a context that is a real n-gram of order `i` answers (its
  back-off is added in float arithmetic, in increasing `i`, and a `-0.0` "no extension" back-off is turned into `+0.0`); a
  context that is not a real n-gram is a blank that thereby "extends right" (also when the message sorts after the last
  record of the order — the repaired leftover loop).
* `WriteEntries`: real entries whose key is the context of a real entry of the next order get `SetExtension`; a context that
  is no real entry is `FormatLoadException` ("… so this context must appear in the model …").

* `<unk>`: when the ARPA has no `<unk>` unigram the builder runs on the zeroed slot 0 of the unigram file (`unkSlot`,
  prob `+0.0`); `unknown_missing_logprob` is written only afterwards (`fixUnk`), so a blank whose newest word is `<unk>` is
  computed from 0, not from −100 (the code's behaviour; deviation from the ARPA recursion = known finding
  `blank-based-on-hallucinated-unk`).

The merge/sort machinery is modelled by its result (the sorted, duplicate-free visit order; C16 `extSort_unique` is the
theorem that any batching / merge order yields it); `Apply`'s sorted merge by set semantics (message ↦ record lookup).
Float addition on bit patterns is the parameter `fadd` (driver: core `Float32`).
-/
namespace KV.TrieBuild
open KV.Arpa KV.TrieLM

structure Gram where
  key : List Word        -- reversed ids: newest word first
  prob : Nat             -- float bits as parsed (positive clamped to 0)
  backoff : Nat          -- float bits as parsed; `-0.0` when absent or zero (`ReadBackoff`)
  deriving Repr, DecidableEq, Inhabited

inductive BuildErr where
  | duplicate          -- "Duplicate n-gram detected"
  | missingUnigram     -- "Missing a unigram that appears as context."
  | missingContext     -- "A k-gram has context … so this context must appear in the model as a (k-1)-gram but it does not"
  deriving Repr, DecidableEq

def plusZero : Nat := 0
def minusZero : Nat := noExtensionBits

/-- `Compare(order, first, second)` extended over orders as `Gram::operator<` does (prefix first) -/
def keyLt : List Word → List Word → Bool
  | [], [] => false
  | [], _ :: _ => true
  | _ :: _, [] => false
  | a :: as, b :: bs => if a < b then true else if b < a then false else keyLt as bs

def insertGram (g : Gram) : List Gram → List Gram
  | [] => [g]
  | h :: t => if keyLt g.key h.key then g :: h :: t else h :: insertGram g t

/-- the visit order of `RecursiveInsert` -/
def visitOrder (gs : List Gram) : List Gram := gs.foldr insertGram []

def hasDuplicate : List Gram → Bool
  | [] => false
  | [_] => false
  | a :: b :: t => a.key == b.key || hasDuplicate (b :: t)

def commonPrefix : List Word → List Word → Nat
  | a :: as, b :: bs => if a = b then commonPrefix as bs + 1 else 0
  | _, _ => 0

/-- a blank found by `Visit`: its key, the order it is based on and the basis probability (the contexts asked for back-offs: `messageKeys`) -/
structure Blank where
  key : List Word
  basedOn : Nat
  basis : Nat
  deriving Repr, DecidableEq, Inhabited

/-- state of `BlankManager`: the previously visited key (`been_[0..been_length_)`) and `basis_` (`none` = `kBadProb`) -/
structure VisitState where
  been : List Word := []
  basis : List (Option Nat) := []
  blanks : List Blank := []      -- in visit order
  deriving Repr

def setAt {α} (l : List α) (i : Nat) (v : α) (dflt : α) : List α :=
  if i < l.length then l.set i v else l ++ List.replicate (i - l.length) dflt ++ [v]

/-- nearest index `≤ i` with a valid basis: `for (lower_basis = basis_ + blank - 2; *lower_basis == kBadProb; --lower_basis)` -/
def lowerBasis (basis : List (Option Nat)) : Nat → Option (Nat × Nat)
  | 0 => match basis.getD 0 none with | some p => some (0, p) | none => none
  | i+1 => match basis.getD (i+1) none with | some p => some (i+1, p) | none => lowerBasis basis i

/-- `BlankManager::Visit(to, length, prob)` -/
def visit (st : VisitState) (g : Gram) : Except BuildErr VisitState :=
  let len := g.key.length
  let basis := setAt st.basis (len - 1) (some g.prob) none
  let cur := commonPrefix st.been (g.key.take (len - 1))
  if cur = len - 1 then .ok { st with been := g.key, basis := basis }
  else
    let blank := cur + 1
    if blank = 1 then .error .missingUnigram
    else match lowerBasis basis (blank - 2) with
      | none => .error .missingUnigram
      | some (idx, p) =>
        let orders := List.range' blank (len - blank)          -- blank … len-1
        let newBlanks := orders.map fun b => { key := g.key.take b, basedOn := idx + 1, basis := p : Blank }
        let basis' := orders.foldl (fun bs b => setAt bs (b - 1) none none) basis
        .ok { been := g.key, basis := basis', blanks := st.blanks ++ newBlanks }

def visitAll (gs : List Gram) : Except BuildErr VisitState :=
  gs.foldlM visit {}

def realOf (gs : List Gram) (k : List Word) : Option Gram := gs.find? (fun g => g.key == k)

/-- the contexts a blank sends messages to: `to[1..1+i)`, `i = basedOn … order-1` -/
def messageKeys (b : Blank) : List (List Word) :=
  (List.range' b.basedOn (b.key.length - b.basedOn)).map fun i => (b.key.drop 1).take i

/-- `messageKeys` unfolded.  (`to + 1` is the full visited key without its first word; a blank's key is a prefix of it and
`i < order`, so `(b.key.drop 1).take i = (to.drop 1).take i`: the definition may take the blank's own key.) -/
theorem messageKeys_def (b : Blank) : messageKeys b =
    (List.range' b.basedOn (b.key.length - b.basedOn)).map fun i => (b.key.drop 1).take i := rfl

/-- probability of a blank: basis, then the back-offs of the real contexts in increasing length (`-0.0` counts as `+0.0`) -/
def blankProb (fadd : Nat → Nat → Nat) (gs : List Gram) (b : Blank) : Nat :=
  (messageKeys b).foldl (fun acc k =>
    match realOf gs k with
    | some r => fadd acc (if r.backoff = minusZero then plusZero else r.backoff)
    | none => acc) b.basis

structure Built where
  table : BT            -- the bit table handed to the fold `ofTable`: real entries and blanks, extension marks applied
  blanks : List Blank
  counts : List Nat
  deriving Repr

/-- the builder up to the bit table -/
def buildTable (fadd : Nat → Nat → Nat) (order : Nat) (gs : List Gram) : Except BuildErr Built :=
  let sorted := visitOrder gs
  if hasDuplicate sorted then .error .duplicate
  else match visitAll sorted with
    | .error e => .error e
    | .ok st =>
      -- contexts of real entries of order ≥ 2 must be real entries
      if sorted.any (fun g => g.key.length ≥ 2 && (realOf sorted (g.key.drop 1)).isNone) then .error .missingContext
      else
        let msgs := st.blanks.flatMap messageKeys
        let ctxs := sorted.filterMap fun g => if g.key.length ≥ 2 then some (g.key.drop 1) else none
        let real : BT := sorted.map fun g =>
          (g.key, (g.prob,
            if g.key.length = order then 0
            else if g.backoff = minusZero ∧ (ctxs.contains g.key ∨ msgs.contains g.key) then plusZero else g.backoff))
        let blank : BT := st.blanks.map fun b =>
          (b.key, (blankProb fadd sorted b, if msgs.contains b.key then plusZero else minusZero))
        let table := real ++ blank
        .ok { table := table, blanks := st.blanks,
              counts := (List.range order).map fun k => (table.filter fun p => p.1.length = k + 1).length }

/-- the record `SortedFiles` leaves for `<unk>` when the ARPA has no `<unk>` unigram: the unigram file is `MapZeroedWrite` with
one extra slot ("In case <unk> appears", trie_sort.cc:207-213), so slot 0 stays all-zero bytes: prob `+0.0`, back-off `+0.0`.
This is what `FindBlanks::UnigramProb(0)` and the unigram `BackoffMessages::Apply` read while the builder runs. -/
def unkSlot : Gram := ⟨[0], 0, 0⟩

/-- `SortedFiles` on the n-grams of the ARPA file: slot 0 exists whether or not `<unk>` is listed; `(records, SawUnk())` -/
def withUnkSlot (gs : List Gram) : List Gram × Bool :=
  if gs.any (fun g => g.key == [0]) then (gs, true) else (unkSlot :: gs, false)

/-- `GenericModel::InitializeFromARPA` *after* `search_.InitializeFromARPA` returned (model.cc:122-131):
`if (!vocab_.SawUnk()) { unk.backoff = 0.0; unk.prob = config.unknown_missing_logprob; }` — `unk = some bits` in that case.
The blanks were computed before, from the zeroed slot (known finding `blank-based-on-hallucinated-unk`). -/
def fixUnk (unk : Option Nat) (T : BT) : BT :=
  match unk with
  | none => T
  | some u => T.map fun e => if e.1 = [0] then (e.1, (u, plusZero)) else e

/-- builder pass on the records of `SortedFiles` (slot 0 included), then the `<unk>` fix-up -/
def buildTableU (fadd : Nat → Nat → Nat) (order : Nat) (gs : List Gram) (unk : Option Nat) : Except BuildErr Built :=
  match buildTable fadd order gs with
  | .error e => .error e
  | .ok b => .ok { b with table := fixUnk unk b.table }

/-- the whole builder: search region of a `TrieModel` file at byte offset `start`; `gs` are the records of `SortedFiles`
(with the zeroed slot 0 if `<unk>` is missing, and then `unk = some unknown_missing_logprob`) -/
def buildTrie (fadd : Nat → Nat → Nat) (order bound start : Nat) (gs : List Gram) (unk : Option Nat) : Except BuildErr Trie :=
  match buildTableU fadd order gs unk with
  | .error e => .error e
  | .ok b => .ok (ofTable b.table bound order start)

/-- from the n-grams of the ARPA file (no `<unk>` record unless the file lists it) -/
def buildTableArpa (fadd : Nat → Nat → Nat) (order : Nat) (gs : List Gram) (unkMissing : Nat) : Except BuildErr Built :=
  let r := withUnkSlot gs
  buildTableU fadd order r.1 (if r.2 then none else some unkMissing)

/-- IEEE single addition on bit patterns (what `base[array][index] += backoff` does) -/
def f32add (a b : Nat) : Nat := (Float32.ofBits a.toUInt32 + Float32.ofBits b.toUInt32).toBits.toNat

end KV.TrieBuild
