/-
C14 — model of the two tokenisers and the sentence-scoring folds of the Python module
(python/kenlm.pyx, python/score_sentence.cc) and of the void* facade (lm/facade.hh).

Self-contained (core only): the language model is an abstract per-word scoring function, so
nothing here depends on the query-algorithm models.

Bytes are `Nat`s (a byte is `< 256`; the delimiter table lookup of an out-of-range value is
`false`, and Python's `Py_ISSPACE` is false there too, so all theorems hold for every list).
-/
namespace KV.PyTokenize

abbrev Bytes := List Nat

/-! ## util::TokenIter<BoolCharacter, /*SkipEmpty=*/true>  (util/tokenize_piece.hh) -/

/-- `BoolCharacter::Find`'s test `delimiter_[static_cast<unsigned char>(*i)]` -/
def isDelim (tbl : List Bool) (b : Nat) : Bool := tbl.getD b false

/-- `BoolCharacter::Find(in)`: the bytes before the first delimiter, and — when a delimiter
was found — the bytes after it (`none` = `found.data() == in.data() + in.size()`). -/
def find (p : Nat → Bool) : Bytes → Bytes × Option Bytes
  | [] => ([], none)
  | b :: bs => if p b then ([], some bs) else ((b :: (find p bs).1), (find p bs).2)

/-- measure for the two loops: a null `after_` is 0, a non-null one is its size + 1 -/
def meas : Option Bytes → Nat
  | none => 0
  | some a => a.length + 1

theorem find_meas (p : Nat → Bool) (s : Bytes) : meas (find p s).2 < meas (some s) := by
  induction s with
  | nil => exact Nat.zero_lt_one
  | cons b bs ih =>
    unfold find
    split
    · exact Nat.lt_succ_self _
    · exact Nat.lt_trans ih (Nat.lt_succ_self _)

/-- iterator state: `current_` and `after_`; `none` is a null `data()` pointer -/
structure Iter where
  current : Option Bytes
  after : Option Bytes
deriving Repr, DecidableEq

/-- `TokenIter::operator++` with `SkipEmpty = true`:
```
do { found = Find(after_); current_ = [after_.begin, found);
     after_ = (found at end) ? NULL : after found;
} while (current_.data() && current_.empty());
```
On a null `after_`, `Find` returns `(NULL+0, 0)`, so `current_` becomes null and the loop stops. -/
def advance (p : Nat → Bool) : Option Bytes → Iter
  | none => ⟨none, none⟩
  | some a =>
    if (find p a).1.isEmpty then advance p (find p a).2 else ⟨some (find p a).1, (find p a).2⟩
termination_by a => meas a
decreasing_by exact find_meas p a

theorem advance_meas (p : Nat → Bool) (a : Option Bytes) (tok : Bytes) (h : (advance p a).current = some tok) :
    meas (advance p a).after < meas a := by
  induction a using advance.induct p with
  | case1 => simp [advance] at h
  | case2 a hemp ih =>
    rw [advance, if_pos hemp] at h ⊢
    exact Nat.lt_trans (ih h) (find_meas p a)
  | case3 a hemp =>
    rw [advance, if_neg hemp]
    exact find_meas p a

/-- the tokens visited by `for (TokenIter i(str, delims); i; ++i)` where the constructor has
set `after_ = str` and performs the first `++`. -/
def collect (p : Nat → Bool) (after : Option Bytes) : List Bytes :=
  match h : (advance p after).current with
  | none => []
  | some tok => tok :: collect p (advance p after).after
termination_by meas after
decreasing_by exact advance_meas p after tok h

/-- `StringPiece(const char*)`: `strlen` — the bytes up to the first NUL -/
def truncNul (s : Bytes) : Bytes := s.takeWhile (· != 0)

/-- tokens seen by `lm::base::ScoreSentence(model, const char *sentence)` -/
def splitSpaces (tbl : List Bool) (s : Bytes) : List Bytes :=
  collect (isDelim tbl) (some (truncNul s))

/-! ## Python `bytes.split()`  (CPython stringlib `split_whitespace`) -/

/-- `Py_ISSPACE(c)` for a byte: `' \t\n\v\f\r'` -/
def pySpace (b : Nat) : Bool := b == 32 || (9 ≤ b && b ≤ 13)

theorem length_dropWhile_le (q : Nat → Bool) (s : Bytes) : (s.dropWhile q).length ≤ s.length :=
  (List.dropWhile_suffix q).length_le

/-- ```
while (1) { while (i < len && ISSPACE(s[i])) i++;
            if (i == len) break;
            j = i; i++;
            while (i < len && !ISSPACE(s[i])) i++;
            append(s[j:i]); }
``` -/
def pySplit (s : Bytes) : List Bytes :=
  match h : s.dropWhile pySpace with
  | [] => []
  | b :: bs => (b :: bs.takeWhile (fun c => !pySpace c)) :: pySplit (bs.dropWhile (fun c => !pySpace c))
termination_by s.length
decreasing_by
  have h1 := length_dropWhile_le pySpace s
  have h2 := length_dropWhile_le (fun c => !pySpace c) bs
  rw [h] at h1; simp at h1; omega

/-! ## bin/query's reader (util/file_piece.hh, lm/ngram_query.hh) -/

/-- `FilePiece::ReadWordSameLine(word, kSpaces)` on the unread bytes: skips delimiters other than `'\n'`;
at `'\n'` or end of input returns `none` (the `'\n'` stays unread); otherwise consumes and returns the bytes up
to the next delimiter (or EOF), leaving the delimiter unread. -/
def readWordSameLine (p : Nat → Bool) : Bytes → Option (Bytes × Bytes)
  | [] => none
  | b :: bs =>
    if p b then (if b == 10 then none else readWordSameLine p bs)
    else some ((b :: bs).takeWhile (fun c => !p c), (b :: bs).dropWhile (fun c => !p c))

theorem readWord_rest_lt (p : Nat → Bool) (s w r : Bytes) (h : readWordSameLine p s = some (w, r)) :
    r.length < s.length := by
  induction s with
  | nil => simp [readWordSameLine] at h
  | cons b bs ih =>
    rw [readWordSameLine] at h
    split at h
    · split at h
      · cases h
      · exact Nat.lt_succ_of_lt (ih h)
    · next hb =>
      cases h
      rw [List.dropWhile_cons_of_pos (by simpa using hb)]
      exact Nat.lt_succ_of_le (length_dropWhile_le _ bs)

/-- the words `lm::ngram::Query` reads from one line (`while (in.ReadWordSameLine(word))`) -/
def queryWords (p : Nat → Bool) (s : Bytes) : List Bytes :=
  match h : readWordSameLine p s with
  | none => []
  | some (w, r) => w :: queryWords p r
termination_by s.length
decreasing_by exact readWord_rest_lt p s w r h

/-! ## the specification all are compared with: split at every delimiter, drop empty pieces -/

/-- split at *every* delimiter (pieces may be empty; always at least one piece) -/
def pieces (p : Nat → Bool) : Bytes → List Bytes
  | [] => [[]]
  | b :: bs =>
    if p b then [] :: pieces p bs
    else match pieces p bs with
      | t :: ts => (b :: t) :: ts
      | [] => [[b]]

/-- maximal runs of non-delimiters -/
def splitSpec (p : Nat → Bool) (s : Bytes) : List Bytes := (pieces p s).filter (fun t => !t.isEmpty)

/-- the sentence rebuilt from a token list with single delimiters -/
def joinWith (d : Nat) : List Bytes → Bytes
  | [] => []
  | [t] => t
  | t :: u :: rest => t ++ d :: joinWith d (u :: rest)

/-! ## the language model seen through the virtual interface -/

/-- `lm::FullScoreReturn` as far as the Python module reads it -/
structure Ret (α : Type) where
  prob : α
  ngramLength : Nat
deriving Repr, DecidableEq

/-- An abstract model: `σ` = state, `α` = log-probability values with the accumulation
operation `add` (float32 `+` in the code: *no algebraic law is assumed*, every fold below
adds in exactly the order the code does). -/
structure LM (σ α : Type) where
  beginState : σ
  nullState : σ
  /-- `Vocabulary::Index(StringPiece)`; `0` is `<unk>` / `NotFound()` -/
  index : Bytes → Nat
  /-- `Vocabulary::EndSentence()` -/
  eos : Nat
  /-- `Model::BaseFullScore(in_state, word, out_state)` -/
  fullScore : σ → Nat → Ret α × σ
  /-- `Model::BaseScore(in_state, word, out_state)` -/
  score : σ → Nat → α × σ
  add : α → α → α
  zero : α

namespace LM
variable {σ α : Type} (M : LM σ α)

/-- the facade law (`ModelFacade::Score` calls `FullScore` and returns `.prob`) -/
def Coherent : Prop := ∀ st w, M.score st w = ((M.fullScore st w).1.prob, (M.fullScore st w).2)

/-- Cython's `self.vocab.Index(word)`: the `.pxd` declares `Index(char*)`, so a Python
`bytes` word is passed as a C string — looked up *up to its first NUL*. -/
def indexC (w : Bytes) : Nat := M.index (truncNul w)

/-- `total += BaseScore(state, w, out); state = out` over a list of word ids -/
def foldScore : σ → α → List Nat → α × σ
  | st, acc, [] => (acc, st)
  | st, acc, w :: ws => foldScore (M.score st w).2 (M.add acc (M.score st w).1) ws

/-- the per-word results of `BaseFullScore` along a list of word ids, and the final state -/
def foldFull : σ → List Nat → List (Ret α × Bool) × σ
  | st, [] => ([], st)
  | st, w :: ws =>
    let r := M.fullScore st w
    let rest := foldFull r.2 ws
    ((r.1, w == 0) :: rest.1, rest.2)

def start (bos : Bool) : σ := if bos then M.beginState else M.nullState

/-- `lm::base::ScoreSentence(model, sentence)` (python/score_sentence.cc): the word ids it scores -/
def fastIds (tbl : List Bool) (s : Bytes) : List Nat := (splitSpaces tbl s).map M.index

def scoreFast (tbl : List Bool) (s : Bytes) : α :=
  let r := M.foldScore M.beginState M.zero (M.fastIds tbl s)
  M.add r.1 (M.score r.2 M.eos).1

/-- word ids of the slow paths: `as_str(sentence).split()` then `vocab.Index(word)` -/
def slowIds (s : Bytes) : List Nat := (pySplit s).map M.indexC

/-- `Model.score` when `not (bos and eos)` (kenlm.pyx) — defined for all four combinations -/
def scoreSlow (s : Bytes) (bos eos : Bool) : α :=
  let r := M.foldScore (M.start bos) M.zero (M.slowIds s)
  if eos then M.add r.1 (M.score r.2 M.eos).1 else r.1

/-- `Model.score(sentence, bos, eos)` -/
def pyScore (tbl : List Bool) (s : Bytes) (bos eos : Bool) : α :=
  if bos && eos then M.scoreFast tbl s else M.scoreSlow s bos eos

/-- `Model.full_scores(sentence, bos, eos)`: `(prob, ngram_length, oov)`;
the `</s>` entry has `oov = False` hard-coded -/
def fullScores (s : Bytes) (bos eos : Bool) : List (Ret α × Bool) :=
  let r := M.foldFull (M.start bos) (M.slowIds s)
  if eos then r.1 ++ [((M.fullScore r.2 M.eos).1, false)] else r.1

/-- left-to-right accumulation `total = 0; for p in probs: total += p` -/
def sumProbs (ps : List α) : α := ps.foldl M.add M.zero

/-- `Model.perplexity(sentence)`: `10.0 ** (-self.score(sentence) / words)`; returned as the
pair (score, words) that determines the exponent -/
def perplexityArgs (tbl : List Bool) (s : Bytes) : α × Nat :=
  (M.pyScore tbl s true true, (pySplit s).length + 1)

/-! ### the stateful API as a client uses it
`BeginSentenceWrite(st)` / `NullContextWrite(st)`, then for each word
`p = BaseScore(st, word, out); st, out = out, st`. `BaseScore(State, str word, State)` converts
the word with `as_str` and passes it as `char*`. -/

def pyBaseScore (st : σ) (w : Bytes) : α × σ := M.score st (M.indexC w)
def pyBaseFullScore (st : σ) (w : Bytes) : (Ret α × Bool) × σ :=
  let r := M.fullScore st (M.indexC w)
  ((r.1, M.indexC w == 0), r.2)

def statefulScores : σ → List Bytes → List α × σ
  | st, [] => ([], st)
  | st, w :: ws =>
    let r := M.pyBaseScore st w
    let rest := statefulScores r.2 ws
    (r.1 :: rest.1, rest.2)

def statefulFull : σ → List Bytes → List (Ret α × Bool) × σ
  | st, [] => ([], st)
  | st, w :: ws =>
    let r := M.pyBaseFullScore st w
    let rest := statefulFull r.2 ws
    (r.1 :: rest.1, rest.2)

/-- the client's total: words of `sentence.split()`, then `</s>` if wanted -/
def statefulTotal (s : Bytes) (bos eos : Bool) : α :=
  let r := M.statefulScores (M.start bos) (pySplit s)
  let t := M.sumProbs r.1
  if eos then M.add t (M.pyBaseScore r.2 [60, 47, 115, 62]).1 else t   -- "</s>"

/-! ### bin/query -/

/-- `lm::ngram::Query` on one line: the typed `FullScore` per word read (looked up with its full length),
from `BeginSentenceState()` plus a final `</s>` when `sentence_context`, else from `NullContextState()`;
the flag is `vocab == NotFound()` -/
def queryFull (tbl : List Bool) (line : Bytes) (ctx : Bool) : List (Ret α × Bool) :=
  let r := M.foldFull (M.start ctx) ((queryWords (isDelim tbl) line).map M.index)
  if ctx then r.1 ++ [((M.fullScore r.2 M.eos).1, M.eos == 0)] else r.1

/-- `float total = 0.0; total += ret.prob;` -/
def queryTotal (tbl : List Bool) (line : Bytes) (ctx : Bool) : α :=
  M.sumProbs ((M.queryFull tbl line ctx).map (·.1.prob))

/-- `word in model` -/
def contains (w : Bytes) : Bool := M.indexC w != 0

end LM

/-! ## lm::base::ModelFacade  (lm/facade.hh): void* states over the typed child class -/

/-- the typed model class (`Child`) -/
structure Typed (σ α : Type) where
  beginState : σ
  nullState : σ
  index : Bytes → Nat
  eos : Nat
  fullScore : σ → Nat → Ret α × σ
  /-- `FullScoreForgotState(context_rbegin, context_rend, new_word, out_state)` -/
  fullScoreForgotState : List Nat → Nat → Ret α × σ
  add : α → α → α
  zero : α

/-- how a `State` lies in raw memory (`reinterpret_cast`); states are POD of `size` bytes -/
structure Layout (σ : Type) where
  size : Nat
  enc : σ → Bytes
  dec : Bytes → σ
  dec_enc : ∀ s, dec (enc s) = s
  enc_len : ∀ s, (enc s).length = size

/-- the untyped object handed out by `LoadVirtual` -/
structure Virtual (α : Type) where
  stateSize : Nat
  beginMemory : Bytes
  nullMemory : Bytes
  index : Bytes → Nat
  eos : Nat
  baseFullScore : Bytes → Nat → Ret α × Bytes
  baseScore : Bytes → Nat → α × Bytes
  baseFullScoreForgotState : List Nat → Nat → Ret α × Bytes
  add : α → α → α
  zero : α

/-- `memcpy(to, from, StateSize())` -/
def memcpyState {α : Type} (V : Virtual α) (src : Bytes) : Bytes := src.take V.stateSize

/-- `ModelFacade<Child,State,Vocabulary>` after `Init(begin_sentence, null_context, vocab, order)`:
`Model(sizeof(State))`, `BaseFullScore` / `BaseFullScoreForgotState` cast and forward,
`Score` = `FullScore(...).prob`, `BaseScore` casts and forwards to `Score`. -/
def facade {σ α : Type} (T : Typed σ α) (L : Layout σ) : Virtual α where
  stateSize := L.size
  beginMemory := L.enc T.beginState
  nullMemory := L.enc T.nullState
  index := T.index
  eos := T.eos
  baseFullScore m w := ((T.fullScore (L.dec m) w).1, L.enc (T.fullScore (L.dec m) w).2)
  baseScore m w := ((T.fullScore (L.dec m) w).1.prob, L.enc (T.fullScore (L.dec m) w).2)
  baseFullScoreForgotState ctx w := ((T.fullScoreForgotState ctx w).1, L.enc (T.fullScoreForgotState ctx w).2)
  add := T.add
  zero := T.zero

/-- the virtual object as the Python module uses it (states are raw memory,
`BeginSentenceWrite`/`NullContextWrite` are `memcpy`s of `StateSize()` bytes) -/
def Virtual.toLM {α : Type} (V : Virtual α) : LM Bytes α where
  beginState := memcpyState V V.beginMemory
  nullState := memcpyState V V.nullMemory
  index := V.index
  eos := V.eos
  fullScore := V.baseFullScore
  score := V.baseScore
  add := V.add
  zero := V.zero

/-- the typed class used directly (`Score` is the facade's default) -/
def Typed.toLM {σ α : Type} (T : Typed σ α) : LM σ α where
  beginState := T.beginState
  nullState := T.nullState
  index := T.index
  eos := T.eos
  fullScore := T.fullScore
  score st w := ((T.fullScore st w).1.prob, (T.fullScore st w).2)
  add := T.add
  zero := T.zero

/-! ## the free model used by the driver: the state is the whole history, a "probability" is
the list of (context, word) queries made — so a fold's value *is* its structure. -/

/-- injective code of a byte string as a word id: `codeWord w ≥ 1` for every `w`, so id 0 (`freeLM.eos`) is never the
code of a word -/
def codeWord (w : Bytes) : Nat := w.foldl (fun acc b => acc * 256 + b % 256) 1

/-- inverse of `codeWord` on its image (fuel = the number itself suffices) -/
def decodeWord (n : Nat) : Bytes :=
  let rec go : Nat → Nat → Bytes → Bytes
    | 0, _, acc => acc
    | fuel+1, n, acc => if n ≤ 1 then acc else go fuel (n / 256) ((n % 256) :: acc)
  go n n []

/-- one recorded query: start-kind/history marker and the word id -/
abbrev Trace := List (List Nat × Nat)

def freeLM : LM (List Nat) Trace where
  beginState := [1]        -- history marker "B"
  nullState := [2]         -- history marker "N"
  index := codeWord
  eos := 0
  fullScore st w := (⟨[(st, w)], st.length⟩, w :: st)
  score st w := ([(st, w)], w :: st)
  add := (· ++ ·)
  zero := []

end KV.PyTokenize
