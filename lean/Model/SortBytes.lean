import Model.Sort
/-!
Byte level of the external sort (C16): util/sized_iterator.hh, util/proxy_iterator.hh and the
temp-file I/O of util/stream/io.cc + sort.hh.

* A chain block / the data file is a flat byte buffer (`Buf = List Nat`, every element a byte);
  a record of size `s` is the byte range `[i*s, i*s + s)`.
* `swapRanges` is `std::swap_ranges` over bytes, `sizedSwap` is
  `swap(SizedProxy, SizedProxy)` (sized_iterator.hh:120-125) — byte-wise, for every size.
  `SortOp.assign` is `SizedProxy::operator=(const SizedProxy&)` (memcpy of one record, `writeRec`), `SortOp.save` /
  `SortOp.restore` are the `ValueBlock` temporaries `std::sort` creates (`value_type tmp = *it; … ;
  *it = tmp`); the `JustPOD<Size>` specialisations of `SizedSort` (sizes 4,8,12,16,17,20,24,28,32)
  move whole structs, which are the same three operations.
* `std::sort` itself is not modelled: it is *any* sequence `ops` of these operations
  (`execBytes`); what libstdc++ guarantees is a hypothesis on the same sequence run on an abstract
  array of records (`execRecs`): a sorted permutation.
* `wordSwap` is the seeded mutant C16-3 (32-bit words, the last `s % 4` bytes stay behind).
* the temp file: `writeAndRecycle` appends `ValidSize` bytes of each block (io.cc:60-66),
  `blockSorterLog` is what `BlockSorter` appends to `Offsets` (bytes, before sorting),
  `readRunsBytes` reads `[TotalOffset(), +NextSize())` (sort.hh:251-253, 276-278).
-/
namespace KV.Sort

abbrev Buf := List Nat

/-- swap two bytes; outside the buffer (undefined behaviour in C++) nothing happens -/
def swapByte (buf : Buf) (a b : Nat) : Buf :=
  match buf[a]?, buf[b]? with
  | some x, some y => (buf.set a y).set b x
  | _, _ => buf

/-- `std::swap_ranges(first, first + n, second)` over bytes at offsets `a`, `b` -/
def swapRanges : Nat → Buf → Nat → Nat → Buf
  | 0, buf, _, _ => buf
  | n + 1, buf, a, b => swapRanges n (swapByte buf a b) (a + 1) (b + 1)

/-- `swap(SizedProxy first, SizedProxy second)`: byte-wise over `EntrySize()` bytes -/
def sizedSwap (s : Nat) (buf : Buf) (i j : Nat) : Buf := swapRanges s buf (i * s) (j * s)

/-- record `i` of a buffer of `s`-byte records -/
def recAt (s : Nat) (buf : Buf) (i : Nat) : List Nat := (buf.drop (i * s)).take s

/-- `memcpy(inner_.Data(), from, EntrySize())`: overwrite record `i` -/
def writeRec (s : Nat) (buf : Buf) (i : Nat) (v : List Nat) : Buf :=
  buf.take (i * s) ++ v ++ buf.drop (i * s + s)

/-- the mutant of seeded/C16-3: swap 32-bit words, `s / 4` of them -/
def wordSwap (s : Nat) (buf : Buf) (i j : Nat) : Buf := swapRanges (s / 4 * 4) buf (i * s) (j * s)

/-- what `std::sort` may do to the block -/
inductive SortOp where
  | swap (i j : Nat)        -- iter_swap → swap(SizedProxy, SizedProxy)
  | assign (i j : Nat)      -- *it_i = *it_j   (SizedProxy::operator=(const SizedProxy&))
  | save (i : Nat)          -- value_type tmp = *it_i   (ValueBlock, pushed on a stack of temporaries)
  | restore (i t : Nat)     -- *it_i = tmp_t   (SizedProxy::operator=(const ValueBlock&))
  deriving Repr, DecidableEq

/-- state at byte level: the block and the temporaries (each `s` bytes) -/
def stepBytes (s : Nat) (st : Buf × List (List Nat)) : SortOp → Buf × List (List Nat)
  | .swap i j => (sizedSwap s st.1 i j, st.2)
  | .assign i j => (writeRec s st.1 i (recAt s st.1 j), st.2)
  | .save i => (st.1, st.2 ++ [recAt s st.1 i])
  | .restore i t => (writeRec s st.1 i (st.2.getD t []), st.2)

def execBytes (s : Nat) (ops : List SortOp) (buf : Buf) : Buf × List (List Nat) :=
  ops.foldl (stepBytes s) (buf, [])

/-- the same operations on an abstract array of records (index ↦ record) -/
def stepRecs (st : (Nat → List Nat) × List (List Nat)) : SortOp → (Nat → List Nat) × List (List Nat)
  | .swap i j => (fun k => if k = i then st.1 j else if k = j then st.1 i else st.1 k, st.2)
  | .assign i j => (fun k => if k = i then st.1 j else st.1 k, st.2)
  | .save i => (st.1, st.2 ++ [st.1 i])
  | .restore i t => (fun k => if k = i then st.2.getD t [] else st.1 k, st.2)

def execRecs (ops : List SortOp) (a : Nat → List Nat) : (Nat → List Nat) × List (List Nat) :=
  ops.foldl stepRecs (a, [])

/-- all record indices an operation touches are inside the block of `n` records, and a restored
temporary exists -/
def opValid (n : Nat) (ntemps : Nat) : SortOp → Bool
  | .swap i j => decide (i < n) && decide (j < n)
  | .assign i j => decide (i < n) && decide (j < n)
  | .save i => decide (i < n)
  | .restore i t => decide (i < n) && decide (t < ntemps)

/-- validity of a whole sequence (the number of temporaries grows with every `save`) -/
def opsValid (n : Nat) : Nat → List SortOp → Bool
  | _, [] => true
  | nt, op :: ops =>
    opValid n nt op && opsValid n (match op with | .save _ => nt + 1 | _ => nt) ops

/-- the records of a buffer -/
def recsOf (s n : Nat) (buf : Buf) : List (List Nat) := (List.range n).map (recAt s buf)

/-! ### the temp file -/

/-- a chain block: its memory (`block_size` bytes) and `ValidSize()` -/
structure Block where
  mem : Buf
  valid : Nat
  deriving Repr, DecidableEq

/-- `WriteAndRecycle::Run` (io.cc:60-66): append `ValidSize()` bytes of every block -/
def writeAndRecycle (file : Buf) (blocks : List Block) : Buf :=
  blocks.foldl (fun f b => f ++ b.mem.take b.valid) file

/-- the seeded mutant m8: writes `block_size` bytes of every non-empty block -/
def writeAndRecycleM8 (file : Buf) (blocks : List Block) : Buf :=
  blocks.foldl (fun f b => f ++ (if b.valid = 0 then [] else b.mem)) file

/-- what `BlockSorter::Run` logs: `ValidSize()` of every block, in bytes -/
def blockSorterLog (blocks : List Block) : List Nat := blocks.map (·.valid)

/-- read back every run at `(TotalOffset(), NextSize())` from the byte file -/
def readRunsBytes (file : Buf) (lens : List Nat) : Option (List Buf) :=
  match offsetsEncode lens with
  | none => none
  | some r =>
    match r.takeAt r.blockCount with
    | none => none
    | some pairs => some (pairs.map (readAt file))

/-- cut a byte string into `s`-byte records -/
def chunk (s : Nat) : Nat → Buf → List (List Nat)
  | 0, _ => []
  | n + 1, buf => buf.take s :: chunk s n (buf.drop s)

/-- the records of a byte string whose length is a multiple of `s` -/
def recordsOf (s : Nat) (buf : Buf) : List (List Nat) := chunk s (buf.length / s) buf

/-- the bytes of a list of records -/
def bytesOf (recs : List (List Nat)) : Buf := recs.flatten

/-- `SizedSort` of the valid part of a block, as a function on bytes: the records in sorted order.
(That every `std::sort` run — any sequence of byte-wise record swaps and copies whose abstract
result is a sorted permutation — produces a buffer whose records are a sorted permutation of these is `sizedSort_bytes`.) -/
def sizedSortBytes (s : Nat) (lt : List Nat → List Nat → Bool) (bytes : Buf) : Buf :=
  bytesOf (blockSort lt (recordsOf s bytes))

/-- `BlockSorter::Run` on one block: log `ValidSize()`, sort the valid part in place -/
def sortBlock (s : Nat) (lt : List Nat → List Nat → Bool) (b : Block) : Block :=
  { b with mem := sizedSortBytes s lt (b.mem.take b.valid) ++ b.mem.drop b.valid }

/-- the runs (as records) found in the data file after `BlockSorter >> WriteAndRecycle`:
byte-level blocks are sorted in place, their valid bytes appended to the temp file, the valid sizes
logged in bytes, and each run read back at `(TotalOffset(), NextSize())` and cut into records. -/
def afterBlockSorterBytes (s : Nat) (lt : List Nat → List Nat → Bool) (blocks : List Block) :
    Option (List (List (List Nat))) :=
  (readRunsBytes (writeAndRecycle [] (blocks.map (sortBlock s lt))) (blockSorterLog blocks)).map
    (·.map (recordsOf s))

/-- The whole sort with byte-level chain blocks and a byte-level temp file for the spill; the merge
passes work on the records read back from it.  Output as bytes. -/
def codeSortBytes (s : Nat) (lt : List Nat → List Nat → Bool) (comb : List Nat → List Nat → Option (List Nat))
    (pick : Pick (List Nat)) (cfg : Cfg) (lazyMem : Nat) (blocks : List Block) : Except PlanErr (Buf × Nat × Nat) :=
  match afterBlockSorterBytes s lt blocks with
  | none => .error .offsets
  | some runs =>
    match codeMerge lt comb pick cfg lazyMem runs with
    | .error e => .error e
    | .ok m =>
      match codeFinal lt comb pick cfg lazyMem m.runs with
      | .error e => .error e
      | .ok out => .ok (bytesOf out, m.passes, m.ret)

/-- well-formed chain block: `ValidSize() ≤ block_size` and a whole number of records -/
def Block.wf (s : Nat) (b : Block) : Prop := b.valid ≤ b.mem.length ∧ s ∣ b.valid

/-- the records in the valid part of a block -/
def Block.records (s : Nat) (b : Block) : List (List Nat) := recordsOf s (b.mem.take b.valid)

/-- A `Stream` writing `bytes` record by record into chain blocks of `cap` bytes (stream.hh): a
block is passed on when it is full; `Poison` passes the current block with `ValidSize` = what it
holds (its memory beyond that is whatever was there: `pad`).  Fuel ≥ number of blocks. -/
def streamToBlocks (cap : Nat) (pad : Buf) : Nat → Buf → List Block
  | 0, bytes => [⟨bytes ++ pad, bytes.length⟩]
  | f + 1, bytes =>
    if 0 < cap ∧ cap ≤ bytes.length then ⟨bytes.take cap, cap⟩ :: streamToBlocks cap pad f (bytes.drop cap)
    else [⟨bytes ++ pad, bytes.length⟩]

/-! ### a queue entry's file buffer at byte level -/

/-- `MergeQueue::Entry` (sort.hh:154-200) in bytes: `buf` = the bytes from `current_` to
`buffer_end_`, `file` = the `remaining_` bytes of the run still on disk. -/
structure ByteEntry where
  buf : Buf
  file : Buf
  deriving Repr, DecidableEq

/-- `Entry::Read`: load `min(per_buffer, remaining_)` bytes; `none` = nothing remains -/
def ByteEntry.read (cap : Nat) (file : Buf) : Option ByteEntry :=
  match file with
  | [] => none
  | _ :: _ => some ⟨file.take cap, file.drop cap⟩

/-- `Current()`: the record at `current_` -/
def ByteEntry.current (E : Nat) (e : ByteEntry) : List Nat := e.buf.take E

/-- `Entry::Increment`: `current_ += entry_size; if (current_ != buffer_end_) return true; return Read(…)`.
The test is an *equality* test: if fewer than `entry_size` bytes are left in the buffer,
`current_` jumps past `buffer_end_` and the entry keeps reading beyond its buffer — undefined
behaviour, `.error ()` here.  This is why `per_buffer` is rounded down to a multiple of the entry
size (sort.hh:269). -/
def ByteEntry.increment (E cap : Nat) (e : ByteEntry) : Except Unit (Option ByteEntry) :=
  if e.buf.length < E then .error ()
  else if e.buf.length = E then .ok (ByteEntry.read cap e.file)
  else .ok (some ⟨e.buf.drop E, e.file⟩)

/-- the record-level view of a byte-level entry -/
def ByteEntry.abs (E : Nat) (e : ByteEntry) : BufEntry (List Nat) :=
  ⟨recordsOf E e.buf, recordsOf E e.file⟩

/-! ### the chain blocks of the sorted output (sizes in records) -/

/-- `MergingReader::ReadSingle` (sort.hh:308-321): full blocks while more than a block remains,
then one block with the rest (1 … cap records).  Fuel ≥ n. -/
def readSingleBlocks (cap : Nat) : Nat → Nat → List Nat
  | 0, n => [n]
  | fuel + 1, n => if cap < n then cap :: readSingleBlocks cap fuel (n - cap) else [n]

/-- the merging `Stream` (stream.hh:36-49): a block is passed on when it is full; `Poison` passes
the current block with what it holds — nothing, if the last record just filled a block. -/
def streamBlocks (cap n : Nat) : List Nat := List.replicate (n / cap) cap ++ [n % cap]

/-- `PRead::Run` (io.cc:29-48) on a file of `n` records: full blocks while more than a block
remains, then the rest if there is any — nothing at all for an empty file -/
def preadBlocks (cap n : Nat) : List Nat := if n = 0 then [] else readSingleBlocks cap n n

/-- `ErsatzPWrite(fd, data, size, off)` for `off` inside or at the end of the file -/
def pwriteAt (file : Buf) (off : Nat) (bytes : Buf) : Buf :=
  file.take off ++ bytes ++ file.drop (off + bytes.length)

/-- `PWrite::Run` (io.cc:68-76): write every block's valid bytes at the running offset, then trim
the file to that offset -/
def pwriteRun (file : Buf) (blocks : List Block) : Buf :=
  let r := blocks.foldl (fun (st : Buf × Nat) b =>
    (pwriteAt st.1 st.2 (b.mem.take b.valid), st.2 + (b.mem.take b.valid).length)) (file, 0)
  r.1.take r.2

/-- blocks the consumer of `Sort::Output` sees: none for empty input (poison only), `ReadSingle`
for a single run, the merging stream otherwise -/
def outputBlocks (cap nruns nout : Nat) : List Nat :=
  if nruns = 0 then [] else if nruns = 1 then readSingleBlocks cap nout nout else streamBlocks cap nout

/-! ### the merge passes at byte level -/

/-- all records an entry delivers until it is exhausted: `Current()`, `Increment()`, … ; `none` =
undefined behaviour (stepping over `buffer_end_`) or fuel exhausted -/
def drainEntry (E cap : Nat) : Nat → Option ByteEntry → Option (List (List Nat))
  | _, none => some []
  | 0, some _ => none
  | f + 1, some e =>
    match e.increment E cap with
    | .error _ => none
    | .ok r => (drainEntry E cap f r).map (e.current E :: ·)

/-- a run of the data file as the merge sees it: the records a `MergeQueue::Entry` with a
`per_buffer` of `cap` bytes delivers for the byte slice of the run -/
def decodeRun (E cap : Nat) (bytes : Buf) : Option (List (List Nat)) :=
  drainEntry E cap (bytes.length / E + 1) (ByteEntry.read cap bytes)

/-- all or nothing -/
def optAll {β : Type} : List (Option β) → Option (List β)
  | [] => some []
  | none :: _ => none
  | some x :: rest => (optAll rest).map (x :: ·)

/-- The output of a merge pass at byte level: the merged records are written through the pass
chain's `Stream` (blocks of `B` bytes, stale `pad` beyond the valid part of the last block) and
`WriteAndRecycle` into the data file, each merged run is logged with `len · E` bytes, and the next
reader gets each run as the byte slice at `(TotalOffset(), NextSize())`, decoded by a queue entry
with a buffer of `cap` bytes.  (`decodeRun_eq`: the records do not depend on `cap` as long as it is
a positive multiple of `E`, which every `per_buffer` is: `perBuffer_valid`.) -/
def storeRunsBytes (E cap B : Nat) (pad : Buf) (lens : List Nat) (runs : List (List (List Nat))) :
    Option (List (List (List Nat))) :=
  let bytes := (runs.map bytesOf).flatten
  let file := writeAndRecycle [] (streamToBlocks B pad (bytes.length + 1) bytes)
  match readRunsBytes file (lens.map (· * E)) with
  | none => none
  | some rs => optAll (rs.map (decodeRun E cap))

/-- `codePass` with the byte-level file -/
def codePassBytes (lt : List Nat → List Nat → Bool) (comb : List Nat → List Nat → Option (List Nat))
    (pick : Pick (List Nat)) (cfg : Cfg) (pad : Buf) (readingMem : Nat) (runs : List (List (List Nat))) :
    Except PlanErr (List (List (List Nat))) :=
  match runs with
  | [] => .ok []
  | [r] => .ok [r]
  | _ =>
    match codeGroups cfg.entrySize cfg.bufferSize readingMem false runs.length runs with
    | .error e => .error e
    | .ok gs =>
      match storeRunsBytes cfg.entrySize cfg.bufferSize cfg.bufferSize pad
          (gs.map (mergeWritten lt comb pick)) (gs.map (mergeGroup lt comb pick)) with
      | none => .error .offsets
      | some rs => .ok rs

/-- `codeMergeLoop` with the byte-level file in every pass -/
def codeMergeLoopBytes (lt : List Nat → List Nat → Bool) (comb : List Nat → List Nat → Option (List Nat))
    (pick : Pick (List Nat)) (cfg : Cfg) (pad : Buf) (lazyMem : Nat) :
    Nat → List (List (List Nat)) → Nat → Except PlanErr (List (List (List Nat)) × Nat)
  | fuel, runs, n =>
    let lazyArity := max 1 (lazyMem / cfg.bufferSize)
    let size := dataSize cfg runs
    if runs.length ≤ lazyArity ∨ size ≤ lazyMem then .ok (runs, n)
    else
      match fuel with
      | 0 => .error .fuel
      | fuel + 1 =>
        let reading0 := cfg.totalMemory - 2 * cfg.bufferSize
        let reading := if size < reading0 then size else reading0
        match codePassBytes lt comb pick cfg pad reading runs with
        | .error e => .error e
        | .ok runs' => codeMergeLoopBytes lt comb pick cfg pad lazyMem fuel runs' (n + 1)

/-- `Sort::Merge` with the byte-level file in every pass -/
def codeMergeBytes (lt : List Nat → List Nat → Bool) (comb : List Nat → List Nat → Option (List Nat))
    (pick : Pick (List Nat)) (cfg : Cfg) (pad : Buf) (lazyMem : Nat) (runs : List (List (List Nat))) :
    Except PlanErr (MergeResult (List Nat)) :=
  if runs.length ≤ 1 then .ok ⟨runs, 0, 0⟩
  else
    match codeMergeLoopBytes lt comb pick cfg pad lazyMem runs.length runs 0 with
    | .error e => .error e
    | .ok (runs', n) =>
      if runs'.length ≤ 1 then .ok ⟨runs', n, 0⟩
      else .ok ⟨runs', n, min (dataSize cfg runs') (runs'.length * cfg.bufferSize)⟩

/-- The whole sort at byte level: byte blocks sorted in place and spilled (`afterBlockSorterBytes`),
every merge pass through the byte file (`codeMergeBytes`), final lazy merge; output as bytes. -/
def codeSortBytesPasses (lt : List Nat → List Nat → Bool) (comb : List Nat → List Nat → Option (List Nat))
    (pick : Pick (List Nat)) (cfg : Cfg) (pad : Buf) (lazyMem : Nat) (blocks : List Block) :
    Except PlanErr (Buf × Nat × Nat) :=
  match afterBlockSorterBytes cfg.entrySize lt blocks with
  | none => .error .offsets
  | some runs =>
    match codeMergeBytes lt comb pick cfg pad lazyMem runs with
    | .error e => .error e
    | .ok m =>
      match codeFinal lt comb pick cfg lazyMem m.runs with
      | .error e => .error e
      | .ok out => .ok (bytesOf out, m.passes, m.ret)

/-! ### HolePunch -/

/-- `HolePunch(fd, offset, size)`: the bytes in `[offset, offset + size)` read as zero afterwards -/
def holePunch (file : Buf) (off len : Nat) : Buf :=
  file.take off ++ List.replicate (min len (file.length - off)) 0 ++ file.drop (off + len)

/-- `Entry::Read` with its hole punch: the bytes read and the file afterwards.  `page = none`: the
code (`HolePunch(fd, offset_, amount)`); `page = some p`: seeded/C16-8 (punch from the page boundary
below `offset_`, only for reads of at least a page). -/
def readPunch (page : Option Nat) (file : Buf) (off amount : Nat) : Buf × Buf :=
  (readAt file (off, amount),
    match page with
    | none => holePunch file off amount
    | some p => if p ≤ amount then holePunch file (off / p * p) amount else file)

end KV.Sort
