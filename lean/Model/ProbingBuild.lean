import Model.Arpa
import Model.Score
import Model.Probing
import Model.ProbingLM
/-!
L2a builder — `HashedSearch::InitializeFromARPA` (lm/search_hashed.cc): `Read1Grams` (+ the sign fix cdeb133),
`ReadNGrams` for n ≥ 2 line by line in file order (`Insert`, `FindLower`, `AdjustLower`, `MarkLower`, the
`activate` callbacks), then the missing-`<unk>` fix-up of `GenericModel::InitializeFromARPA` (lm/model.cc, incl.
07f95c1).  On top of `Model/Probing.lean` tables; the value stored in a table is an index into the order's
payload list (the `Weights` record of the entry), so the in-place updates through `iter->value` pointers
become payload updates.  `rest = true` is `RestProbingModel` with `REST_MAX` (`MaxRestBuild`), `false` is
`ProbingModel` (`NoRestBuild`).  The word-hash combiner is a parameter (the code: `ProbingLM.combineReal`).
-/
namespace KV.ProbingBuild
open KV.Arpa KV.Score KV.ProbingLM

/-- a stored `ProbBackoff` / `RestWeights`: the float `prob` as sign bit + magnitude (the sign bit means
"does not extend left"), the back-off with its `HasExtension` bit (`+0.0` vs `-0.0`), and `rest` -/
structure W where
  mag : Rat
  neg : Bool
  backoff : Rat
  xr : Bool
  rest : Rat
deriving Repr, DecidableEq

/-- an unused slot reads as "absent / does not extend" -/
instance : Inhabited W := ⟨{ mag := 0, neg := true, backoff := 0, xr := false, rest := 0 }⟩

inductive BErr where
  | format        -- "The context of every n-gram should appear as a (n-1)-gram"
  | probingSize   -- ProbingSizeException
  | diverge       -- a probing loop that does not terminate (excluded by the C20 invariant); also a must-find lookup that misses (`markLower`)
deriving Repr, DecidableEq

def BErr.name : BErr → String
  | .format => "format" | .probingSize => "probing-size" | .diverge => "diverge"

/-- one order's probing table with the payload of its entries -/
structure Ord where
  t : KV.Probing.Table
  pay : List W

instance : Inhabited Ord := ⟨{ t := KV.Probing.emptyTable 1, pay := [] }⟩

structure St where
  uni : List W          -- indexed by word id
  mid : List Ord        -- orders 2 .. N-1 (index = order_minus_2)
  longest : Ord

instance : Inhabited St := ⟨{ uni := [], mid := [], longest := default }⟩

/-- where a `Weights*` of `between` points -/
inductive Ref where
  | uni (w : Word)
  | mid (om2 : Nat) (idx : Nat)
deriving Repr, DecidableEq

def St.get (s : St) : Ref → W
  | .uni w => s.uni.getD w default
  | .mid om2 i => (s.mid.getD om2 default).pay.getD i default

def St.modify (s : St) (r : Ref) (f : W → W) : St :=
  match r with
  | .uni w => { s with uni := s.uni.set w (f (s.uni.getD w default)) }
  | .mid om2 i =>
    let o := s.mid.getD om2 default
    { s with mid := s.mid.set om2 { o with pay := o.pay.set i (f (o.pay.getD i default)) } }

/-- `SetExtension(backoff)`: `-0.0` becomes `+0.0` -/
def setExtension (w : W) : W := if w.backoff = 0 then { w with xr := true } else w

/-- `Build::MarkExtends(weights, to)`: clear the sign bit; `MaxRestBuild` also raises `rest`; returns "changed rest" -/
def markExtends (rest : Bool) (w : W) (toRest : Rat) : W × Bool :=
  let w1 := { w with neg := false }
  if rest then
    if w1.rest ≥ toRest then (w1, false) else ({ w1 with rest := toRest }, true)
  else (w1, false)

/-- `Build::SetRest(ids, n, weights)` for `MaxRestBuild`: `rest = prob; SetSign(rest)`; a no-op for `NoRestBuild` -/
def setRest (rest : Bool) (w : W) : W := if rest then { w with rest := -w.mag } else w

/-- store a float value into `prob` (sign bit = sign of the value) -/
def setProb (w : W) (v : Rat) : W := { w with mag := v.abs, neg := decide (v < 0) }

def tableOp {α} (r : KV.Probing.Res α) : Except BErr α :=
  match r with
  | .ok a => .ok a
  | .full _ => .error .probingSize
  | .diverge => .error .diverge

/-- `Find` on an order's table: payload index -/
def Ord.find (o : Ord) (k : Nat) : Except BErr (Option Nat) :=
  match KV.Probing.find id o.t k with
  | none => .error .diverge
  | some r => .ok r

/-- `store.Insert(entry)` -/
def Ord.insert (o : Ord) (k : Nat) (w : W) : Except BErr Ord := do
  let (_, t') ← tableOp (KV.Probing.insert id o.t k o.pay.length)
  .ok { t := t', pay := o.pay ++ [w] }

/-- `FindOrInsert(entry, iter)`: (found, payload index, table) -/
def Ord.findOrInsert (o : Ord) (k : Nat) (w : W) : Except BErr (Bool × Nat × Ord) := do
  let (found, _, v, t') ← tableOp (KV.Probing.findOrInsert id o.t k o.pay.length)
  if found then .ok (true, v, o) else .ok (false, v, { t := t', pay := o.pay ++ [w] })

/-- the blank entry `FindLower` inserts: back-off `kNoExtensionBackoff`, probability set later by `AdjustLower` -/
def blankW : W := { mag := 0, neg := false, backoff := 0, xr := false, rest := 0 }

/-- `FindLower(keys, unigram, middle, between)`: `lower` counts down from `n-3`; fuel = lower + 1 -/
def findLower (combine : Nat → Word → Nat) (g : List Word) : Nat → St → List Ref → Except BErr (St × List Ref)
  | 0, s, between => .ok (s, between ++ [.uni (g.headD 0)])
  | lower+1, s, between => do
    -- index `lower` into middle_: the entry of order lower+2
    let o := s.mid.getD lower default
    let (found, idx, o') ← o.findOrInsert (hashOf combine (g.take (lower + 2))) blankW
    let s' := { s with mid := s.mid.set lower o' }
    let between' := between ++ [.mid lower idx]
    if found then .ok (s', between') else findLower combine g lower s' between'

/-- the blank-probability loop of `AdjustLower` (`for (; basis < n - 1; ++basis, --change)`): `changes` are the blanks
still to be filled, lowest order first -/
def fillBlanks (combine : Nat → Word → Nat) (rest : Bool) (g : List Word) :
    List Ref → Nat → Rat → St → Except BErr St
  | [], _, _, s => .ok s
  | ch :: more, basis, prob, s => do
    -- context of the blank of order basis+1: words g[1..basis]
    let ctx := (g.drop 1).take basis
    let o := s.mid.getD (basis - 2) default
    let r ← o.find (hashOf combine ctx)
    let (s1, prob1) := match r with
      | some i =>
        let s1 := s.modify (.mid (basis - 2) i) setExtension
        (s1, prob + (s1.get (.mid (basis - 2) i)).backoff)
      | none => (s, prob)
    let s2 := s1.modify ch (fun w => setRest rest (setProb w prob1))
    fillBlanks combine rest g more (basis + 1) prob1 s2

/-- the marking loop at the end of `AdjustLower` -/
def markChain (rest : Bool) : List Ref → Rat → St → St
  | [], _, s => s
  | r :: more, longerRest, s =>
    let s' := s.modify r (fun w => (markExtends rest w longerRest).1)
    markChain rest more (s'.get r).rest s'

/-- `AdjustLower(added, build, between, n, vocab_ids, unigrams, middle)` -/
def adjustLower (combine : Nat → Word → Nat) (rest : Bool) (addedRest : Rat) (g : List Word) (n : Nat)
    (between : List Ref) (s : St) : Except BErr St := do
  match between with
  | [] => .ok s
  | [r] => .ok (s.modify r (fun w => (markExtends rest w addedRest).1))
  | _ =>
    let basisRef := between.getLastD (.uni 0)
    let prob : Rat := -(s.get basisRef).mag
    let basis := n - between.length
    -- the blanks to fill, lowest order first (`--change` walks `between` backwards, skipping the basis)
    let changes := (between.dropLast).reverse
    let (s1, prob1, changes1, basis1) ←
      if basis == 1 then
        match changes with
        | [] => .ok (s, prob, changes, basis)
        | ch :: more =>
          -- hallucinate a bigram from the unigram's back-off and the unigram probability
          let s1 := s.modify (.uni (g.getD 1 0)) setExtension
          let p1 := prob + (s1.get (.uni (g.getD 1 0))).backoff
          let s2 := s1.modify ch (fun w => setRest rest (setProb w p1))
          (.ok (s2, p1, more, 2) : Except BErr (St × Rat × List Ref × Nat))
      else .ok (s, prob, changes, basis)
    let s2 ← fillBlanks combine rest g changes1 basis1 prob1 s1
    .ok (markChain rest between addedRest s2)

/-- `MarkLower` (only `MaxRestBuild::kMarkEvenLower`): keep raising `rest` of the lower-order suffixes -/
def markLower (combine : Nat → Word → Nat) (g : List Word) (longerRest : Rat) : Nat → St → Except BErr St
  | 0, s => .ok s
  | 1, s => .ok (s.modify (.uni (g.headD 0)) (fun w => (markExtends true w longerRest).1))
  | evenLower+2, s => do
    -- middle[evenLower] holds order evenLower+2
    let o := s.mid.getD evenLower default
    match ← o.find (hashOf combine (g.take (evenLower + 2))) with
    | none => .error .diverge       -- UnsafeMutableMustFind: the entry exists by construction
    | some i =>
      let r := markExtends true (s.get (.mid evenLower i)) longerRest
      let s' := s.modify (.mid evenLower i) (fun _ => r.1)
      if r.2 then markLower combine g longerRest (evenLower + 1) s' else .ok s'

/-- `activate(vocab_ids, n)`: `ActivateUnigram` (n = 2) / `ActivateLowerMiddle` (n > 2) -/
def activate (combine : Nat → Word → Nat) (g : List Word) (n : Nat) (s : St) : Except BErr St := do
  if n == 2 then .ok (s.modify (.uni (g.getD 1 0)) setExtension)
  else
    let o := s.mid.getD (n - 3) default
    match ← o.find (hashOf combine (g.drop 1)) with
    | none => .error .format
    | some i => .ok (s.modify (.mid (n - 3) i) setExtension)

/-- the `Weights` read from one n-gram line (`ReadNGram` + `SetRest` + `util::SetSign(prob)`) -/
def lineW (e : Entry) : W :=
  { mag := e.prob.abs, neg := true, backoff := e.backoff, xr := decide (e.backoff ≠ 0), rest := -e.prob.abs }

/-- one line of `ReadNGrams` for order `n ≥ 2`; `g` reversed (newest word first), `order` = highest order -/
def addLine (combine : Nat → Word → Nat) (rest : Bool) (order : Nat) (s : St) (g : List Word) (e : Entry) : Except BErr St := do
  let n := g.length
  let w : W := lineW e
  let key := hashOf combine g
  let s1 ←
    if n == order then do
      let o ← s.longest.insert key w
      .ok { s with longest := o }
    else do
      let o ← (s.mid.getD (n - 2) default).insert key w
      .ok { s with mid := s.mid.set (n - 2) o }
  let (s2, between) ← findLower combine g (n - 2) s1 []
  let s3 ← adjustLower combine rest w.rest g n between s2
  let s4 ← if rest then markLower combine g (s3.get (between.getLastD (.uni 0))).rest (n - between.length - 1) s3 else .ok s3
  activate combine g n s4

/-- `Read1Grams` + `SetSign` on every unigram (cdeb133); a missing `<unk>` occupies slot 0 as zeroed memory
(`+0.0` back-off, sign set by the loop) until the fix-up -/
def initUni (a : Arpa) (nWords : Nat) : List W :=
  -- `ApplyBuild` calls `SetRest` for ids `0 .. counts[0]-1` only (`counts[0]` = number of unigram lines): when `<unk>` is
  -- missing the ids run up to `counts[0]`, so the last word keeps `rest = 0` (zeroed memory).  Mirrored as it is.
  let counts0 := (a.entries.filter fun p => p.1.length == 1).length - (if a.unkHallucinated then 1 else 0)
  (List.range nWords).map fun w =>
    match a.gram [w] with
    | some e =>
      if w == 0 && a.unkHallucinated then { mag := 0, neg := true, backoff := 0, xr := true, rest := 0 }
      else { mag := e.prob.abs, neg := true, backoff := e.backoff, xr := decide (e.backoff ≠ 0),
             rest := if w < counts0 then -e.prob.abs else 0 }
    | none => { mag := 0, neg := true, backoff := 0, xr := true, rest := 0 }

/-- the fix-up in `GenericModel::InitializeFromARPA` when `<unk>` was not in the file (incl. 07f95c1) -/
def fixUnk (a : Arpa) (unkMissing : Rat) (s : St) : St :=
  if a.unkHallucinated then
    s.modify (.uni 0) (fun w => { w with backoff := 0, xr := true, mag := unkMissing.abs, neg := w.neg })
  else s

def emptyOrd (buckets : Nat) : Ord := { t := KV.Probing.emptyTable buckets, pay := [] }

/-- `HashedSearch::InitializeFromARPA` + the `<unk>` fix-up.  `buckets` = bucket count of orders 2..N
(`max(count+1, multiplier*count)`, computed by the caller as the code does in float). -/
def build (combine : Nat → Word → Nat) (rest : Bool) (a : Arpa) (nWords : Nat) (buckets : List Nat) (unkMissing : Rat := -100) :
    Except BErr St := do
  let s0 : St := { uni := initUni a nWords,
                   mid := (List.range (a.order - 2)).map fun i => emptyOrd (buckets.getD i 1),
                   longest := emptyOrd (buckets.getD (a.order - 2) 1) }
  let lines := a.entries.filter fun p => p.1.length ≥ 2
  let s ← lines.foldlM (fun s p => addLine combine rest a.order s p.1 p.2) s0
  .ok (fixUnk a unkMissing s)

/-! ### the search over the built structure -/

def wFound (rest : Bool) (w : W) : Found :=
  { prob := -w.mag, backoff := w.backoff, extendsRight := w.xr, independentLeft := w.neg,
    rest := if rest then w.rest else -w.mag }

/-- the built structure as the probing LM of `Model/ProbingLM.lean` -/
def toPLM (rest : Bool) (order : Nat) (s : St) : PLM where
  order := order
  uni w := wFound rest (s.uni.getD w default)
  middle om2 := (s.mid.getD om2 default).t
  payload om2 i := wFound rest ((s.mid.getD om2 default).pay.getD i default)
  longest := s.longest.t
  longestProb i := -(s.longest.pay.getD i default).mag

end KV.ProbingBuild
