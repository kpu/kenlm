import Model.KN
/-!
The two in-place, per-block *compacting iterators* of lmplz, as explicit state machines over one
block of records (core Lean only):

* `CollapseStream` (`lm/builder/adjust_counts.cc`): drops the records with `<s>` in natural
  position 1 by overwriting them, when the iterator leaves them, with records taken from the end
  of the block;
* `PruneNGramStream` (`lm/builder/initial_probabilities.cc`): drops the records whose
  `CutoffCount()` is 0 by moving the survivors to the front, in the unrepaired and the repaired
  form of `operator++`.

A block is the list of its slots.  Both machines are generic in the record type.
-/
namespace KV.KN.Blocks

/-! ## 1. `CollapseStream` -/

section Collapse
variable {α : Type}

/-- `UpdateCopyFrom`, on `copyEnd = copy_from_ + 1` (one past the copy source, so that the value
`copy_from_ = base - 1` of the C++ is the natural number 0): `down p slots cur e` is the loop
`for (copy_from_ -= size; copy_from_ >= current_; copy_from_ -= size) if (!p(*copy_from_)) break;`
entered with `copy_from_ = e` (slot index), returning the new `copy_from_ + 1`. -/
def down (p : α → Bool) (slots : List α) (cur : Nat) : Nat → Nat
  | 0 => 0
  | e + 1 =>
    if e < cur then e + 1
    else match slots[e]? with
      | some a => if p a then down p slots cur e else e + 1
      | none => down p slots cur e

/-- iterator state inside one block: the slots, `current_` (slot index), `copy_from_ + 1`, and the
log of the records the consumer saw as `*stream` (newest first) -/
structure CState (α : Type) where
  slots : List α
  cur : Nat
  copyEnd : Nat
  seen : List α
deriving Repr, DecidableEq

/-- `StartBlock` on a non-empty block: `copy_from_ = base + ValidSize; UpdateCopyFrom()` -/
def cstart (p : α → Bool) (block : List α) : CState α :=
  { slots := block, cur := 0, copyEnd := down p block 0 block.length, seen := [] }

/-- `operator++` inside a block (the consumer has seen `slots[cur]`): a record with `<s>` in
position 1 is overwritten by `*copy_from_` while `current_ < copy_from_`, then `UpdateCopyFrom` -/
def cstep (p : α → Bool) (st : CState α) : CState α :=
  match st.slots[st.cur]? with
  | none => st
  | some a =>
    if p a && decide (st.cur + 1 < st.copyEnd) then
      match st.slots[st.copyEnd - 1]? with
      | some b =>
        let sl := st.slots.set st.cur b
        { slots := sl, cur := st.cur + 1, copyEnd := down p sl st.cur (st.copyEnd - 1),
          seen := a :: st.seen }
      | none => { st with cur := st.cur + 1, seen := a :: st.seen }
    else { st with cur := st.cur + 1, seen := a :: st.seen }

def csteps (p : α → Bool) : Nat → CState α → CState α
  | 0, st => st
  | k + 1, st => csteps p k (cstep p st)

/-- one block: what the consumer saw, and the block that flows downstream
(`SetValidSize(copy_from_ + TotalSize - base)`) -/
def collapseBlock (p : α → Bool) (block : List α) : List α × List α :=
  let st := csteps p block.length (cstart p block)
  (st.seen.reverse, st.slots.take st.copyEnd)

/-- a stream cut into blocks (empty blocks are skipped by `StartBlock`: they contribute nothing) -/
def collapseStream (p : α → Bool) (blocks : List (List α)) : List α × List α :=
  (blocks.flatMap fun b => (collapseBlock p b).1, blocks.flatMap fun b => (collapseBlock p b).2)

end Collapse

/-- `<s>` in natural position 1 of a reversed n-gram (`current_.begin()[1] == kBOS`).  The marks
`CollapseStream` sets are a function of the record (count ≤ threshold, excluded word) and are
applied on arrival and on copy-in, i.e. to every slot of the output; this state machine leaves them out
(`KV.KN.collapse` applies `markOf` to the filtered rows; `Proofs/KNCollapseMarks.lean` adds the marking code). -/
def bosAt1 (e : Gram × Nat) : Bool :=
  decide (2 ≤ e.1.length) && e.1.getD (e.1.length - 2) unk == bos

/-! ## 2. `PruneNGramStream` -/

section Prune
variable {β : Type}

/-- `current_.Order() == 1 && specials_.IsSpecial(*current_.begin())` -/
def specialUnigram (e : Emit) : Bool := e.gram.length == 1 && e.gram.all isSpecial

/-- iterator state inside one block: the slots *below* `current_` (they hold the values the
consumer wrote, `current_ = slots.length`; the slots from `current_` on are untouched input) and
`dest_` (slot index) -/
structure PState (β : Type) where
  slots : List β
  dest : Nat
deriving Repr, DecidableEq

/-- the consumer writes `f e` into `*current_`, then `operator++`.  `copySpecials = false` is the
unrepaired code (a special unigram advances `dest_` without being copied), `true` the repaired
form.  `currentCount_ = e.cutoff` was read on arrival, before the consumer's write. -/
def pstep (copySpecials : Bool) (f : Emit → β) (st : PState β) (e : Emit) : PState β :=
  let cur := st.slots.length
  let slots := st.slots ++ [f e]
  let copied := if st.dest < cur then slots.set st.dest (f e) else slots
  if copySpecials then
    if specialUnigram e || decide (e.cutoff > 0) then ⟨copied, st.dest + 1⟩ else ⟨slots, st.dest⟩
  else
    if specialUnigram e then ⟨slots, st.dest + 1⟩
    else if e.cutoff > 0 then ⟨copied, st.dest + 1⟩
    else ⟨slots, st.dest⟩

def prun (copySpecials : Bool) (f : Emit → β) : PState β → List Emit → PState β
  | st, [] => st
  | st, e :: t => prun copySpecials f (pstep copySpecials f st e) t

/-- one block: `SetValidSize(dest_ - base)` -/
def pruneBlock (copySpecials : Bool) (f : Emit → β) (block : List Emit) : List β :=
  let st := prun copySpecials f ⟨[], 0⟩ block
  st.slots.take st.dest

def pruneStream (copySpecials : Bool) (f : Emit → β) (blocks : List (List Emit)) : List β :=
  blocks.flatMap (pruneBlock copySpecials f)

end Prune

end KV.KN.Blocks
