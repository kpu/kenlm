import Model.Probing
import Model.Search
/-
Model of the vocabularies of lm/vocab.hh / lm/vocab.cc, which sit on top of the probing hash
table and the interpolation search:

* `GrowableVocab` (lmplz's corpus_count): `util::AutoProbing<ProbingVocabularyEntry, IdentityHash>`
  keyed by the 64-bit MurmurHash of the word, value = `Size()` at insertion time;
* `ProbingVocabulary` (probing models): fixed `ProbingHashTable<…, IdentityHash>` (DivMod), ids in file order;
* `SortedVocabulary` (trie models): hashes collected, `JointSort`ed together with the unigram weights,
  `Index` = `BoundedSortedUniformFind<Pivot64>(begin - 1, 0, end, UINT64_MAX)`.

Words are represented by their hash (a natural number; MurmurHash itself is abstract).  The hash
table's own hash is `util::IdentityHash`, i.e. `id`.  The invalid key of these tables is 0: a word
hashing to 0 is outside the contract of the C++ code (explicit hypothesis / generator precondition; the model's tables
have no invalid key, so no proof uses the hypothesis).
-/
namespace KV.Vocab
open KV.Probing KV.Search

/-- hashes of the special words: `"<unk>"`, `"<UNK>"`, `"<s>"`, `"</s>"` -/
structure Specials where
  unk : Nat
  unkCap : Nat
  bos : Nat
  eos : Nat

inductive VErr where
  | tooMany      -- VocabLoadException "Too many vocabulary words"
  | full         -- ProbingSizeException
  | diverge      -- the C++ loop would not terminate
  deriving DecidableEq, Repr

/-- `std::numeric_limits<lm::WordIndex>::max()` -/
def kWordIndexMax : Nat := 2^32 - 1

/-! ### `GrowableVocab` -/

/-- `GrowableVocab::FindOrInsert`: `entry = Make(hash, Size()); if (!lookup_.FindOrInsert(entry, it)) { …;
UTIL_THROW_IF(Size() >= max, …) } return it->value;` -/
def gFindOrInsert (a : Auto) (key : Nat) : Except VErr (Nat × Auto) :=
  match a.findOrInsertP2 id thetaReal key a.t.entries with
  | .ok (found, _, w, a') =>
    if !found && a'.t.entries ≥ kWordIndexMax then .error .tooMany else .ok (w, a')
  | .full _ => .error .full
  | .diverge => .error .diverge

/-- `GrowableVocab::Index` -/
def gIndex (a : Auto) (key : Nat) : Option Nat :=
  match findPosP2 id a.t key with
  | none => none
  | some (.found _ v) => some v
  | some (.absent _) => some 0

/-- the body of the constructor: `<unk>`, `<s>`, `</s>` are forced to 0, 1, 2 -/
def gNewFrom (sp : Specials) (a0 : Auto) : Except VErr Auto :=
  match gFindOrInsert a0 sp.unk with
  | .error e => .error e
  | .ok (_, a1) =>
    match gFindOrInsert a1 sp.bos with
    | .error e => .error e
    | .ok (_, a2) =>
      match gFindOrInsert a2 sp.eos with
      | .error e => .error e
      | .ok (_, a3) => .ok a3

/-- `lookup_(initial_size)`: the empty `AutoProbing` with `RoundBuckets(x)` buckets, where `x` is
`max(initial_size + 1, uint64(1.2f * initial_size))` -/
def gTable (x : Nat) : Auto := { t := emptyTable (roundBuckets x), thr := thetaReal (roundBuckets x) }

/-- the constructor of `GrowableVocab` -/
def gNew (sp : Specials) (x : Nat) : Except VErr Auto := gNewFrom sp (gTable x)

/-- the inner loop of `CorpusCount::RunWithVocab` over one line: `word = vocab.FindOrInsert(w);
if (vocab.IsSpecial(word)) continue; writer.Append(word);` -/
def gEncodeLine (a : Auto) : List Nat → Except VErr (List Nat × Auto)
  | [] => .ok ([], a)
  | k :: ks =>
    match gFindOrInsert a k with
    | .error e => .error e
    | .ok (i, a') =>
      match gEncodeLine a' ks with
      | .error e => .error e
      | .ok (ids, a'') => .ok (if i ≤ 2 then ids else i :: ids, a'')

def gEncodeLines (a : Auto) : List (List Nat) → Except VErr (List (List Nat) × Auto)
  | [] => .ok ([], a)
  | l :: ls =>
    match gEncodeLine a l with
    | .error e => .error e
    | .ok (ids, a') =>
      match gEncodeLines a' ls with
      | .error e => .error e
      | .ok (rest, a'') => .ok (ids :: rest, a'')

/-- `CorpusCount::RunWithVocab` on a freshly constructed vocabulary `a` -/
def gEncodeFrom (sp : Specials) (a : Auto) (text : List (List Nat)) : Except VErr (List (List Nat) × Nat) :=
  match gFindOrInsert a sp.eos with      -- `end_sentence = vocab.FindOrInsert("</s>")`
  | .error e => .error e
  | .ok (_, a') =>
    match gEncodeLines a' text with
    | .error e => .error e
    | .ok (ids, a'') => .ok (ids, a''.t.entries)

/-- tokens (as hashes, line by line) → the id sequences `CorpusCount` appends, for the initial table
size argument `x`; also the final vocabulary size (`type_count_`) -/
def growableEncode (sp : Specials) (x : Nat) (text : List (List Nat)) : Except VErr (List (List Nat) × Nat) :=
  (gNew sp x).bind fun a => gEncodeFrom sp a text

/-! the specification: ids by order of first occurrence, no table at all -/

section Spec
variable {α : Type} [DecidableEq α]

/-- id of `k` given the distinct words seen so far (in order of first occurrence), and the new list -/
def specStep (seen : List α) (k : α) : Nat × List α :=
  (seen.idxOf k, if k ∈ seen then seen else seen ++ [k])

def specLine (seen : List α) : List α → List Nat × List α
  | [] => ([], seen)
  | k :: ks =>
    let r := specStep seen k
    let r' := specLine r.2 ks
    (if r.1 ≤ 2 then r'.1 else r.1 :: r'.1, r'.2)

def specLines (seen : List α) : List (List α) → List (List Nat) × List α
  | [] => ([], seen)
  | l :: ls =>
    let r := specLine seen l
    let r' := specLines r.2 ls
    (r.1 :: r'.1, r'.2)

/-- `unk bos eos` are the three special words -/
def specEncode (unk bos eos : α) (text : List (List α)) : List (List Nat) × Nat :=
  let r := specLines [unk, bos, eos] text
  (r.1, r.2.length)
end Spec

/-! ### `ProbingVocabulary` -/

structure PVocab where
  t : Table
  bound : Nat        -- `bound_`
  sawUnk : Bool      -- `saw_unk_`

/-- `SetupMemory`: `N` buckets (all invalid), `bound_ = 1`, `saw_unk_ = false` -/
def pNew (N : Nat) : PVocab := { t := emptyTable N, bound := 1, sawUnk := false }

/-- `ProbingVocabulary::Insert` -/
def pInsert (sp : Specials) (v : PVocab) (key : Nat) : Except VErr (Nat × PVocab) :=
  if key = sp.unk ∨ key = sp.unkCap then .ok (0, { v with sawUnk := true })
  else
    match insert id v.t key v.bound with
    | .ok (_, t') => .ok (v.bound, { v with t := t', bound := v.bound + 1 })
    | .full _ => .error .full
    | .diverge => .error .diverge

/-- `ProbingVocabulary::Index`: `lookup_.Find(hash, i) ? i->value : 0` -/
def pIndex (v : PVocab) (key : Nat) : Option Nat :=
  match find id v.t key with
  | none => none
  | some (some i) => some i
  | some none => some 0

def pInsertAll (sp : Specials) (v : PVocab) : List Nat → Except VErr (List Nat × PVocab)
  | [] => .ok ([], v)
  | k :: ks =>
    match pInsert sp v k with
    | .error e => .error e
    | .ok (i, v') =>
      match pInsertAll sp v' ks with
      | .error e => .error e
      | .ok (ids, v'') => .ok (i :: ids, v'')

/-! ### `SortedVocabulary` -/

structure SVocab where
  keys : List Nat     -- `[begin_, end_)`
  sawUnk : Bool

def sNew : SVocab := { keys := [], sawUnk := false }

/-- `SortedVocabulary::Insert`: returns `end_ - begin_` after the push (a provisional id) -/
def sInsert (sp : Specials) (v : SVocab) (key : Nat) : Nat × SVocab :=
  if key = sp.unk ∨ key = sp.unkCap then (0, { v with sawUnk := true })
  else (v.keys.length + 1, { v with keys := v.keys ++ [key] })

def sInsertAll (sp : Specials) (v : SVocab) : List Nat → List Nat × SVocab
  | [] => ([], v)
  | k :: ks =>
    let r := sInsert sp v k
    let r' := sInsertAll sp r.2 ks
    (r.1 :: r'.1, r'.2)

/-- `util::JointSort(begin_, end_, reorder + 1)`: the (hash, weights) pairs sorted by hash.  `std::sort` is
not stable, but the result on distinct hashes does not depend on the algorithm (`jointSort_unique`) -/
def jointSort {β : Type} (pairs : List (Nat × β)) : List (Nat × β) :=
  pairs.mergeSort (fun a b => decide (a.1 ≤ b.1))

/-- `GenericFinished` without enumeration: sort the hashes, permute `reorder[1 ..]` alongside
(`reorder[0]`, the weights of `<unk>`, stays) -/
def sFinish {β : Type} (v : SVocab) (weights : List β) : SVocab × List β :=
  let r := jointSort (v.keys.zip weights)
  ({ v with keys := r.map (·.1) }, r.map (·.2))

/-- `SortedVocabulary::Index`: `BoundedSortedUniformFind<…, Pivot64>(begin_ - 1, 0, end_, UINT64_MAX, hash, found)
? found - begin_ + 1 : 0`.  Positions: array index `i` is position `i + 1`, `begin_ - 1` is position 0
(never read).  `f` is the floating-point pivot computation. -/
def sIndex (f : Nat → Nat → Nat → Nat) (v : SVocab) (key : Nat) : Nat :=
  let a := fun i => v.keys.getD (i - 1) 0
  match bfind a (pivot64 f) key v.keys.length 0 0 (v.keys.length + 1) (2^64 - 1) with
  | some p => p
  | none => 0

/-- `Bound()` after `FinishedLoading` -/
def sBound (v : SVocab) : Nat := v.keys.length + 1

end KV.Vocab
