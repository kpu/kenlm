import Model.KN
/-!
The set-based specification of interpolated modified Kneser-Ney estimation with count /
vocabulary pruning, as a function of the table of order-`N` counts (a list of distinct
reversed n-grams with positive counts, in *any* order — nothing here looks at positions).

Everything is defined by filters, sums and look-ups so that it can be read against
Chen & Goodman (1998) §3 and Heafield et al. (2013) §3; it is executable (quadratic) and
the driver runs it (`mode=spec`) on small corpora next to the streaming model.
-/
namespace KV.KN.Spec

abbrev Table := List (Gram × Nat)

/-- the suffix of length `n` of `g` contains `<s>` at most as its first (oldest) word -/
def validAt (n : Nat) (g : Gram) : Bool := !((g.take (n - 1)).contains bos)

/-- the n-grams of order `n` that occur (as suffixes of the padded order-`N` n-grams) -/
def keys (n : Nat) (full : Table) : List Gram :=
  (((full.map (·.1)).filter (validAt n)).map (·.take n)).eraseDups

/-- all table rows whose suffix is `k` -/
def rowsOf (full : Table) (k : Gram) : Table := full.filter fun e => e.1.take k.length == k

/-- the true count `c(k)` -/
def trueCount (full : Table) (k : Gram) : Nat := ((rowsOf full k).map (·.2)).sum

/-- the number of distinct left extensions `N₁₊(• k)` -/
def leftExts (full : Table) (k : Gram) : Nat :=
  (((rowsOf full k).map (·.1.take (k.length + 1))).eraseDups).length

/-- adjusted count: the true count for the highest order and for n-grams that start with
`<s>`, the number of distinct left extensions otherwise -/
def adjCount (N : Nat) (full : Table) (k : Gram) : Nat :=
  if k.length = N ∨ k.getLast? = some bos then trueCount full k else leftExts full k

/-- prune mark: true count at or below the threshold of the order, or an excluded word.
The special unigrams `<unk>`, `<s>`, `</s>` are never pruned. -/
def pruned (cfg : Cfg) (full : Table) (k : Gram) : Bool :=
  if k == [unk] || k == [bos] || k == [eos] then false
  else decide (trueCount full k ≤ cfg.thr (k.length - 1)) || k.any cfg.excl

/-- the order-`n` records (order ≥ 2 model) -/
def ents (cfg : Cfg) (full : Table) (n : Nat) : List Emit :=
  let ks := if n == 1 then [unk] :: [bos] :: keys 1 full
            else if n == cfg.order then
              (full.map (·.1)).filter fun g => !(g.getD (g.length - 2) unk == bos)
            else keys n full
  ks.map fun k =>
    if k == [unk] || k == [bos] then ⟨k, 0, false⟩ else ⟨k, adjCount cfg.order full k, pruned cfg full k⟩

/-- the order-1 model: unigram table with `<unk>`, `<s>` added -/
def ents1 (cfg : Cfg) (full : Table) : List Emit :=
  (([unk], 0) :: ([bos], 0) :: full).map fun e =>
    ⟨e.1, e.2, if e.1 == [unk] || e.1 == [bos] || e.1 == [eos] then false
               else decide (e.2 ≤ cfg.thr 0) || e.1.any cfg.excl⟩

/-- counts-of-counts `n₀…n₄`, number of records, number of unpruned records -/
def stats (es : List Emit) : OrderStat :=
  { n0 := es.countP (·.count == 0), n1 := es.countP (·.count == 1), n2 := es.countP (·.count == 2),
    n3 := es.countP (·.count == 3), n4 := es.countP (·.count == 4),
    count := es.length, countPruned := es.countP (!·.marked) }

/-- the records whose context is `ctx` -/
def group (es : List Emit) (ctx : Gram) : List Emit := es.filter fun e => e.gram.tail == ctx

def den (es : List Emit) (ctx : Gram) : Nat := ((group es ctx).map (·.count)).sum

/-- `γ(ctx) = (Σ_{kept} D(c) + Σ_{pruned} c) / Σ c` -/
def gamma (d : Disc) (es : List Emit) (ctx : Gram) : Rat :=
  (((group es ctx).map fun e => if e.marked then (e.count : Rat) else d.get e.count).sum) / (den es ctx : Rat)

/-- uninterpolated probability `u(w | ctx) = (c − D(c)) / Σ c` -/
def uProb (d : Disc) (es : List Emit) (e : Emit) : Rat := d.apply e.count / (den es e.gram.tail : Rat)

structure Ctx where
  cfg : Cfg
  /-- records per order, index `i` = order `i+1` -/
  es : List (List Emit)
  ds : List Disc
  uniform : Rat

def Ctx.esAt (c : Ctx) (n : Nat) : List Emit := c.es.getD (n - 1) []
def Ctx.dAt (c : Ctx) (n : Nat) : Disc := c.ds.getD (n - 1) ⟨0, 0, 0⟩

/-- uninterpolated probability and interpolation weight of the n-gram `g` of order `n` -/
def Ctx.uGamma (c : Ctx) (g : Gram) : Rat × Rat :=
  let n := g.length
  let es := c.esAt n
  let d := c.dAt n
  let cnt := ((es.find? (·.gram == g)).map (·.count)).getD 0
  if n == 1 then
    let gm := gamma d es []
    if g == [bos] then (1, 0)
    else if g == [unk] then (if c.cfg.interpUni then (0, gm) else (gm, 0))
    else (d.apply cnt / (den es [] : Rat), if c.cfg.interpUni then gm else 0)
  else (d.apply cnt / (den es g.tail : Rat), gamma d es g.tail)

/-- interpolated probability: `p(g) = u(g) + γ(ctx g) · p(g without its oldest word)`, down to
the uniform distribution -/
def Ctx.prob (c : Ctx) : Gram → Rat
  | [] => c.uniform
  | w :: t =>
    let ug := c.uGamma (w :: t)
    ug.1 + ug.2 * c.prob (w :: t).dropLast
termination_by g => g.length
decreasing_by simp

/-- back-off weight: `γ(g)` when `g` is a context of some order-`n+1` record (kept or not), else 1 -/
def Ctx.backoff (c : Ctx) (g : Gram) : Rat :=
  let n := g.length
  if n < c.cfg.order && wantsBackoff g && !(group (c.esAt (n + 1)) g).isEmpty then
    gamma (c.dAt (n + 1)) (c.esAt (n + 1)) g
  else 1

def specLe (a b : Entry) : Bool := decide (a.gram ≤ b.gram)

def estimateFrom (cfg : Cfg) (fallback : Option Disc) (full : Table) : Except Err Model := do
  let es := if cfg.order ≤ 1 then [ents1 cfg full]
            else (List.range cfg.order).map fun i => ents cfg full (i + 1)
  let st := es.map stats
  let discs ← discounts fallback st
  let header := st.map (·.countPruned)
  let uniform : Rat := 1 / ((header.headD 0 - 1 : Nat) : Rat)
  let c : Ctx := { cfg := cfg, es := es, ds := discs.map (·.1), uniform := uniform }
  let orders := es.map fun l =>
    ((l.filter keptBy).map fun e => (⟨e.gram, c.prob e.gram, c.backoff e.gram⟩ : Entry)).mergeSort specLe
  pure { stats := st, discs := discs, header := header, uniform := uniform, orders := orders }

def estimate (cfg : Cfg) (_pruneVocab : Bool) (fallback : Option Disc) (corpus : List (List Word)) :
    Except Err Model :=
  estimateFrom cfg fallback (if cfg.order ≤ 1 then countFull 1 corpus else countFull cfg.order corpus)

end KV.KN.Spec
