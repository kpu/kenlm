import Model.Score
import Model.Probing
/-! L2a — `HashedSearch` (lm/search_hashed.hh): per-order probing tables keyed by the chained 64-bit hash of the
reversed n-gram; node = the hash so far.  Table values are indices into a payload array. -/
namespace KV.ProbingLM
open KV.Arpa KV.Score

/-- 2⁶⁴ -/
def twoTo64 : Nat := 18446744073709551616

/-- `detail::CombineWordHash(current, next)` on `uint64_t` (as `Nat` modulo `twoTo64`) -/
def combineReal (cur : Nat) (next : Word) : Nat :=
  (cur * 8978948897894561157 % twoTo64) ^^^ ((1 + next) * 17894857484156487943 % twoTo64)

/-- the key of a reversed n-gram (the combining function is a parameter; the code uses `combineReal`): first word, then `CombineWordHash` along the context (`FastMakeNode`, `ReadNGrams`) -/
def hashOf (combine : Nat → Word → Nat) : List Word → Nat
  | [] => 0
  | w :: rest => rest.foldl combine w

structure PLM where
  order : Nat
  uni : Word → Found
  middle : Nat → KV.Probing.Table
  payload : Nat → Nat → Found
  longest : KV.Probing.Table
  longestProb : Nat → Rat

/-- `HashedSearch::LookupUnigram / LookupMiddle / LookupLongest / FastMakeNode` (IdentityHash on the key) -/
def search (combine : Nat → Word → Nat) (P : PLM) : Search Nat where
  order := P.order
  lookupUnigram w := (P.uni w, w)
  lookupMiddle om2 w node :=
    let k := combine node w
    (match KV.Probing.find id (P.middle om2) k with
     | some (some v) => some (P.payload om2 v)
     | _ => none, k)
  lookupLongest w node :=
    match KV.Probing.find id P.longest (combine node w) with
    | some (some v) => some (P.longestProb v)
    | _ => none
  fastMakeNode ws := match ws with | [] => none | _ => some (hashOf combine ws)

end KV.ProbingLM
