import Model.Filter
/-
Transition-system model of the threaded filter (lm/filter/thread.hh, lm/filter/format.hh
`MultipleOutputBuffer`, util/thread_pool.hh, util/pcqueue.hh).

Threads: the reader (`Controller`, driven by `ReadARPA` / `ReadCount`), `workers`
`FilterWorker`s, one `OutputWorker`; at the end the reader runs the destructors of the two
`ThreadPool`s (poison + join).  Three bounded FIFO queues of capacity `queue`
(`filter_.in_`, `output_.in_`, `to_read_`) — that a `PCQueue` *is* a bounded FIFO delivering
every item exactly once is property C17's theorem (`KV.C17.pcqueue_refines_fifo`); the model takes the queues as such.  Every `Produce` /
`Consume` is one atomic step together with the thread-local computation next to it (a batch is
owned by exactly one thread or queue at any time, so local computations commute with the
other threads' steps).  The scheduler is an arbitrary choice among enabled threads.

Memory: the model moves values, not addresses.  The one place where the C++ depends on addresses
staying put is `InputBuffer`: every `Line` holds a `StringPiece` into its own `std::string`
(small strings live inside the object), so `lines_` must never reallocate; `Controller` guarantees
it by `Reserve(batch_size)` per batch and by sending a batch as soon as it holds `batch_size` lines.
The model-side half is `KV.C12.batch_never_exceeds_reserve` (a batch receives at most `batch_size`
lines before `FlushInput`); the reservation itself is checked on the real tool by the
large-batch / short-lines class of checks/C12.py.

`Variant` selects the code the model mirrors: `Variant.fixed` is the tree with the two repairs
in thread.hh / format.hh (repo_patches/1x-fix-filter-*.patch), `Variant.old` is the code before
them (kept so that the negation theorems of `Properties/C12.lean`, section `Old`, stay
checkable).  The third repair (B2) is in the reader *program*: `rawProgram` ends with `flush`,
`rawProgramOld` does not.
-/
namespace KV.FilterCtl
open KV.Filter (Verdict)

structure Variant where
  /-- B1: `NewInput` always takes a fresh sequence number (`Fill(sequence_++)`), also when the
  previous one was never sent -/
  burnSeq : Bool
  /-- B3: `MultipleOutputBuffer::Flush` leaves `last_` set -/
  keepLast : Bool
  deriving DecidableEq, Repr

def Variant.fixed : Variant := ⟨false, false⟩
def Variant.old : Variant := ⟨true, true⟩

/-- calls made by the reader thread on the output object itself -/
inductive Mark where
  | beginLength (k : Nat)
  | endLength (k : Nat)
  | finish
  deriving DecidableEq, Repr

/-- one call on the real output: `AddNGram(line)` (`t = none`, all files),
`SingleAddNGram(k, line)` (`t = some k`), or a section mark written by the reader -/
inductive OutEv (α : Type) where
  | line (t : Option Nat) (x : α)
  | mark (m : Mark)
  deriving DecidableEq, Repr

/-- what the input parser asks of the `Controller` -/
inductive ROp (α : Type) where
  | add (x : α)      -- Controller::AddNGram
  | flush            -- Controller::Flush
  | emit (m : Mark)  -- BeginLength / EndLength / Finish directly on the output
  deriving DecidableEq, Repr

/-- `MultipleOutputBuffer::Annotated`; lists are kept newest-first (`rev.head = back()`) -/
structure Annot (α : Type) where
  systems : List Nat
  line : α
  deriving DecidableEq, Repr

/-- address and length of an input line: (batch, index in the batch, length).  Distinct
indices of a batch are distinct `std::string`s; a recycled batch reuses the same storage. -/
abbrev Addr := Nat × Nat × Nat

structure OutBuf (α : Type) where
  rev : List (Annot α) := []
  last : Option Addr := none
  deriving DecidableEq, Repr

structure Batch (α : Type) where
  id : Nat
  seq : Nat
  input : List α
  out : OutBuf α := {}
  deriving DecidableEq, Repr

structure Cfg (α : Type) where
  batchSize : Nat
  queue : Nat
  workers : Nat
  variant : Variant
  f : α → Verdict
  len : α → Nat

variable {α : Type}

/-! ## MultipleOutputBuffer (BinaryOutputBuffer is the special case without `only`) -/

def OutBuf.addAll (b : OutBuf α) (x : α) : OutBuf α := { b with rev := ⟨[], x⟩ :: b.rev }

/-- `SingleAddNGram`.  The flag reports `annotated_.back()` on an empty vector (undefined
behaviour; observed: the entry is lost or the process crashes). -/
def OutBuf.addSingle (b : OutBuf α) (a : Addr) (k : Nat) (x : α) : OutBuf α × Bool :=
  if b.last = some a then
    match b.rev with
    | [] => (b, true)
    | t :: r => ({ b with rev := { t with systems := t.systems ++ [k] } :: r }, false)
  else ({ rev := ⟨[k], x⟩ :: b.rev, last := some a }, false)

def addKs (a : Addr) (x : α) : List Nat → OutBuf α × Bool → OutBuf α × Bool
  | [], st => st
  | k :: ks, st => let r := st.1.addSingle a k x; addKs a x ks (r.1, st.2 || r.2)

def addItem (cfg : Cfg α) (id i : Nat) (x : α) (st : OutBuf α × Bool) : OutBuf α × Bool :=
  match cfg.f x with
  | .all => (st.1.addAll x, st.2)
  | .only ks => addKs (id, i, cfg.len x) x ks st

/-- `InputBuffer::CallFilter` from index `i` -/
def callFilterFrom (cfg : Cfg α) (id : Nat) : Nat → List α → OutBuf α × Bool → OutBuf α × Bool
  | _, [], st => st
  | i, x :: xs, st => callFilterFrom cfg id (i+1) xs (addItem cfg id i x st)

def Annot.events (a : Annot α) : List (OutEv α) :=
  match a.systems with
  | [] => [.line none a.line]
  | ks => ks.map fun k => .line (some k) a.line

/-- the calls `MultipleOutputBuffer::Flush` makes on the real output -/
def OutBuf.events (b : OutBuf α) : List (OutEv α) := b.rev.reverse.flatMap Annot.events

def OutBuf.flushed (v : Variant) (b : OutBuf α) : OutBuf α :=
  { rev := [], last := if v.keepLast then b.last else none }

/-! ## state -/

inductive RPc where
  | run | waitOne | waitAll
  | poisonW (k : Nat)   -- `~ThreadPool` of `filter_`: k poisons still to produce, then join
  | poisonO | joinO     -- `~ThreadPool` of `output_`
  | done
  deriving DecidableEq, Repr

inductive WSt (α : Type) where
  | idle | holding (b : Batch α) | exited
  deriving DecidableEq, Repr

def WSt.isExited : WSt α → Bool
  | .exited => true
  | _ => false

structure State (α : Type) where
  prog : List (ROp α)
  rpc : RPc
  localRead : List (Batch α)            -- `local_read_`, head = top(); at `run` the top is `input_`
  seqNo : Nat                           -- `sequence_`
  toRead : List (Batch α)               -- queue `to_read_`, head = oldest
  filterQ : List (Option (Batch α))     -- `filter_.in_`; `none` = poison
  workers : List (WSt α)
  doneQ : List (Option (Batch α))       -- `output_.in_`
  ordering : List (Option (Batch α))    -- `OutputWorker::ordering_`
  baseSeq : Nat
  oExited : Bool
  out : List (OutEv α)                  -- calls made on the real output so far
  ub : Bool                             -- `back()` on an empty vector happened

inductive Tid where
  | reader | outw | worker (i : Nat)
  deriving DecidableEq, Repr

/-! ## reader -/

def fill (b : Batch α) (seq : Nat) : Batch α := { b with seq := seq, input := [] }

/-- `Controller::NewInput` -/
def newInput (cfg : Cfg α) (s : State α) : State α :=
  match s.localRead with
  | [] => s
  | top :: lr =>
    { s with localRead := fill top s.seqNo :: lr,
             seqNo := if cfg.variant.burnSeq then s.seqNo + 1 else s.seqNo }

/-- the sending part of `Controller::FlushInput` -/
def send (cfg : Cfg α) (s : State α) (top : Batch α) (lr : List (Batch α)) : State α :=
  { s with filterQ := s.filterQ ++ [some top], localRead := lr,
           seqNo := if cfg.variant.burnSeq then s.seqNo else s.seqNo + 1 }

def readerStep (cfg : Cfg α) (s : State α) : Option (State α) :=
  match s.rpc with
  | .run =>
    match s.prog with
    | [] => some { s with rpc := .poisonW cfg.workers }
    | .emit m :: rest => some { s with prog := rest, out := s.out ++ [.mark m] }
    | .add x :: rest =>
      match s.localRead with
      | [] => none
      | top :: lr =>
        let top' := { top with input := top.input ++ [x] }
        if top'.input.length = cfg.batchSize then
          if s.filterQ.length < cfg.queue then
            let s' := send cfg { s with prog := rest } top' lr
            if lr.isEmpty then some { s' with rpc := .waitOne } else some (newInput cfg s')
          else none
        else some { s with prog := rest, localRead := top' :: lr }
    | .flush :: rest =>
      match s.localRead with
      | [] => none
      | top :: lr =>
        if top.input.isEmpty then some { s with prog := rest, rpc := .waitAll }
        else if s.filterQ.length < cfg.queue then
          some { send cfg { s with prog := rest } top lr with rpc := .waitAll }
        else none
  | .waitOne =>
    match s.toRead with
    | [] => none
    | b :: tr => some (newInput cfg { s with toRead := tr, localRead := b :: s.localRead, rpc := .run })
  | .waitAll =>
    if s.localRead.length < cfg.queue then
      match s.toRead with
      | [] => none
      | b :: tr => some { s with toRead := tr, localRead := b :: s.localRead }
    else some (newInput cfg { s with rpc := .run })
  | .poisonW 0 => if s.workers.all WSt.isExited then some { s with rpc := .poisonO } else none
  | .poisonW (k+1) =>
    if s.filterQ.length < cfg.queue then some { s with filterQ := s.filterQ ++ [none], rpc := .poisonW k }
    else none
  | .poisonO =>
    if s.doneQ.length < cfg.queue then some { s with doneQ := s.doneQ ++ [none], rpc := .joinO } else none
  | .joinO => if s.oExited then some { s with rpc := .done } else none
  | .done => none

/-! ## filter workers -/

def callFilter (cfg : Cfg α) (b : Batch α) : Batch α × Bool :=
  let r := callFilterFrom cfg b.id 0 b.input (b.out, false)
  ({ b with out := r.1 }, r.2)

def workerStep (cfg : Cfg α) (s : State α) (i : Nat) : Option (State α) :=
  match s.workers[i]? with
  | some .idle =>
    match s.filterQ with
    | [] => none
    | some b :: q => some { s with filterQ := q, workers := s.workers.set i (.holding b) }
    | none :: q => some { s with filterQ := q, workers := s.workers.set i .exited }
  | some (.holding b) =>
    if s.doneQ.length < cfg.queue then
      let r := callFilter cfg b
      some { s with doneQ := s.doneQ ++ [some r.1], workers := s.workers.set i .idle, ub := s.ub || r.2 }
    else none
  | _ => none

/-! ## output worker -/

def outStep (cfg : Cfg α) (s : State α) : Option (State α) :=
  if s.oExited then none else
  match s.ordering with
  | some b :: rest =>
    if s.toRead.length < cfg.queue then
      some { s with out := s.out ++ b.out.events,
                    toRead := s.toRead ++ [{ b with out := b.out.flushed cfg.variant }],
                    ordering := rest, baseSeq := s.baseSeq + 1 }
    else none
  | _ =>
    match s.doneQ with
    | [] => none
    | none :: q => some { s with doneQ := q, oExited := true }
    | some b :: q =>
      let pos := b.seq - s.baseSeq
      let ord := s.ordering ++ List.replicate (pos + 1 - s.ordering.length) none
      some { s with doneQ := q, ordering := ord.set pos (some b) }

/-! ## the system -/

def step (cfg : Cfg α) (s : State α) : Tid → Option (State α)
  | .reader => readerStep cfg s
  | .outw => outStep cfg s
  | .worker i => workerStep cfg s i

def init (cfg : Cfg α) (prog : List (ROp α)) : State α :=
  newInput cfg
    { prog := prog, rpc := .run,
      localRead := (List.range cfg.queue).reverse.map fun i => { id := i, seq := 0, input := [] },
      seqNo := 0, toRead := [], filterQ := [], workers := List.replicate cfg.workers .idle,
      doneQ := [], ordering := [], baseSeq := 0, oExited := false, out := [], ub := false }

inductive Reach (cfg : Cfg α) (prog : List (ROp α)) : State α → Prop where
  | init : Reach cfg prog (init cfg prog)
  | step {s s' : State α} (t : Tid) : Reach cfg prog s → step cfg s t = some s' → Reach cfg prog s'

def allTids (cfg : Cfg α) : List Tid := .reader :: .outw :: (List.range cfg.workers).map .worker

def enabled (cfg : Cfg α) (s : State α) : List Tid :=
  (allTids cfg).filter fun t => (step cfg s t).isSome

def Terminal (s : State α) : Prop := s.rpc = .done

instance (s : State α) : Decidable (Terminal s) := by unfold Terminal; infer_instance

/-- no thread can move although the run is not finished -/
def Deadlocked (cfg : Cfg α) (s : State α) : Prop := s.rpc ≠ .done ∧ enabled cfg s = []

instance (cfg : Cfg α) (s : State α) : Decidable (Deadlocked cfg s) := by unfold Deadlocked; infer_instance

/-- run a given schedule; `none` when a scheduled thread is not enabled -/
def exec (cfg : Cfg α) : State α → List Tid → Option (State α)
  | s, [] => some s
  | s, t :: ts => match step cfg s t with
    | none => none
    | some s' => exec cfg s' ts

/-! ## the sequential filter (threads:1) as a log of calls on the output -/

def itemEvents (f : α → Verdict) (x : α) : List (OutEv α) :=
  match f x with
  | .all => [.line none x]
  | .only ks => ks.map fun k => .line (some k) x

def seqLog (f : α → Verdict) : List (ROp α) → List (OutEv α)
  | [] => []
  | .add x :: r => itemEvents f x ++ seqLog f r
  | .flush :: r => seqLog f r
  | .emit m :: r => .mark m :: seqLog f r

/-- `ReadARPA` driving `DispatchARPAInput`: per order BeginLength, the n-grams, Flush +
EndLength; Finish at the end -/
def arpaOrders : Nat → List (List α) → List (ROp α)
  | _, [] => [.emit .finish]
  | k, o :: os => .emit (.beginLength k) :: (o.map .add ++ .flush :: .emit (.endLength k) :: arpaOrders (k+1) os)

def arpaProgram (orders : List (List α)) : List (ROp α) := arpaOrders 1 orders

/-- `ReadCount` driving `DispatchInput`, with the repair (Flush after the last line) -/
def rawProgram (items : List α) : List (ROp α) := items.map .add ++ [.flush]

/-- … and before the repair -/
def rawProgramOld (items : List α) : List (ROp α) := items.map .add

/-- every `emit` and the end of the program are reached with nothing buffered since the last
`flush` (`d` = something was added since) -/
def wf : Bool → List (ROp α) → Bool
  | d, [] => !d
  | _, .add _ :: r => wf true r
  | _, .flush :: r => wf false r
  | d, .emit _ :: r => !d && wf false r

/-! ## what each output file receives -/

/-- the calls that reach output file `k` -/
def fileLog (k : Nat) : List (OutEv α) → List (Sum Mark α)
  | [] => []
  | .mark m :: r => .inl m :: fileLog k r
  | .line none x :: r => .inr x :: fileLog k r
  | .line (some j) x :: r => if j = k then .inr x :: fileLog k r else fileLog k r

/-! ## a seeded scheduler for the driver (any choice among enabled threads) -/

structure RunResult (α : Type) where
  final : State α
  schedule : List Tid
  status : String     -- "done" | "deadlock" | "fuel"

def lcg (x : Nat) : Nat := (x * 6364136223846793005 + 1442695040888963407) % 18446744073709551616

def runRandom (cfg : Cfg α) : Nat → Nat → State α → List Tid → RunResult α
  | 0, _, s, acc => ⟨s, acc.reverse, "fuel"⟩
  | fuel+1, seed, s, acc =>
    if s.rpc = .done then ⟨s, acc.reverse, "done"⟩ else
    match enabled cfg s with
    | [] => ⟨s, acc.reverse, "deadlock"⟩
    | en =>
      let seed' := lcg seed
      let t := en.getD ((seed' / 65536) % en.length) .reader
      match step cfg s t with
      | none => ⟨s, acc.reverse, "deadlock"⟩
      | some s' => runRandom cfg fuel seed' s' (t :: acc)

end KV.FilterCtl
