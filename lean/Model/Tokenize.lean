/-
Model of util/tokenize_piece.hh: `TokenIter<BoolCharacter, SkipEmpty>` over a byte string and a
delimiter set (`util::kSpaces` by default).  The iterator state is `(current_, after_)`, both
"pointer or NULL" string pieces, modelled as `Option (List Byte)`; `next` transcribes
`operator++` (tokenize_piece.hh:126-137) including the `do … while (SkipEmpty && …)` loop.
`tokens` drains the iterator the way `for (TokenIter<…> i(str, delim); i; ++i)` does.
`splitSpec` is the specification: the maximal delimiter-free pieces of the input.
No Mathlib; computable (used by lean/Driver/C18.lean).
-/
namespace KV.Tokenize

abbrev Byte := Nat

/-- `BoolCharacter::Find`: the piece before the first delimiter and, if there is one, the rest
after it. -/
def findSplit (d : Byte → Bool) : List Byte → List Byte × Option (List Byte)
  | [] => ([], none)
  | b :: bs =>
    if d b then ([], some bs)
    else let (t, r) := findSplit d bs; (b :: t, r)

structure Iter where
  current : Option (List Byte)   -- `current_` (none: `current_.data() == NULL`, the end iterator)
  after : Option (List Byte)     -- `after_`   (none: `StringPiece(NULL, 0)`)
  deriving Repr, DecidableEq

/-- one pass of the `do` body of `operator++` -/
def advance (d : Byte → Bool) (it : Iter) : Iter :=
  match it.after with
  | none => { current := none, after := none }           -- Find on (NULL,0) returns (NULL,0)
  | some a => let (t, r) := findSplit d a; { current := some t, after := r }

/-- `operator++` (fuel = an upper bound on the number of empty tokens skipped; `a.length + 2`
always suffices: part of `tokens_eq_splitSpec`, Proofs/Tokenize.lean) -/
def next (d : Byte → Bool) (skipEmpty : Bool) : Nat → Iter → Iter
  | 0, it => advance d it
  | f + 1, it =>
    let it' := advance d it
    if skipEmpty && it'.current == some [] then next d skipEmpty f it' else it'

def afterLen (it : Iter) : Nat := match it.after with | none => 0 | some a => a.length + 1

/-- `TokenIter(str, delim)`: `after_ = str; ++*this` -/
def start (d : Byte → Bool) (skipEmpty : Bool) (s : List Byte) : Iter :=
  next d skipEmpty (s.length + 2) { current := none, after := some s }

/-- drain: `for (; it; ++it) out.push_back(*it)` -/
def drain (d : Byte → Bool) (skipEmpty : Bool) : Nat → Iter → List (List Byte)
  | 0, _ => []
  | f + 1, it =>
    match it.current with
    | none => []
    | some t => t :: drain d skipEmpty f (next d skipEmpty (afterLen it + 1) it)

def tokens (d : Byte → Bool) (skipEmpty : Bool) (s : List Byte) : List (List Byte) :=
  drain d skipEmpty (s.length + 2) (start d skipEmpty s)

/-- Specification: split at every delimiter (n delimiters give n+1 pieces)… -/
def splitAll (d : Byte → Bool) : List Byte → List (List Byte)
  | [] => [[]]
  | b :: bs =>
    if d b then [] :: splitAll d bs
    else match splitAll d bs with
      | [] => [[b]]
      | t :: ts => (b :: t) :: ts

/-- …and, with SkipEmpty, keep the non-empty pieces (Python's `bytes.split()` for `kSpaces`). -/
def splitSpec (d : Byte → Bool) (skipEmpty : Bool) (s : List Byte) : List (List Byte) :=
  if skipEmpty then (splitAll d s).filter (fun t => !t.isEmpty) else splitAll d s

end KV.Tokenize
