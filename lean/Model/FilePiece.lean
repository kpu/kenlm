/-
Model of util/file_piece.{hh,cc} (kpu/kenlm): a sliding / growing window over a byte source
that is delivered in adversarially sized chunks, and the abstract *spec* of every reading
operation on the whole remaining byte string.

Faithfulness notes (what is transcribed, line numbers of util/file_piece.cc):
* `St` is exactly the private state of `FilePiece`: `position_`, `position_end_`, `data_`
  are `pos`, `win.length`, `win` (the bytes of `[data_.begin(), position_end_)`);
  `last_space_` is `ls1 = (last_space_ - data_.begin()) + 1` (so "no space at or after
  position_" is `ls1 ≤ pos`, the C++ `last_space_ < position_`); `mapped_offset_`,
  `default_map_size_`, `at_end_`, `fallback_to_read_` (= `mode`).  `started` is
  `position_ != NULL`.  `readOff` is the state of the descriptor / reader behind `fell_back_`
  (how many plain bytes it has delivered).
* `shift` = `Shift` (252-266), `mmapShift` = `MMapShift` (273-309, incl. the EINVAL fall
  back to read() for a zero-length map), `readShift` = `ReadShift` (327-365).
* `Cfg.fixH` / `Cfg.fixI` / `Cfg.fixF` select the repaired code (true) or the unrepaired code (false):
  H: `ReadShift`'s memmove branch adds the discarded prefix to `mapped_offset_`;
  I: `peek()` throws after `Shift()` iff `position_ == position_end_` (unrepaired: iff `at_end_`);
  F: `MMapShift`'s fall back to read() after a failed mmap sets `mapped_offset_ = desired_begin`
     (unrepaired: left at the offset of the window that was just unmapped).
* The number grammar (`strtol`, `strtoul`, double-conversion) is the parameter `P` of
  `readNumber`: it receives exactly the bytes the C++ passes to `ParseNumber`.
No Mathlib. Everything is computable and used unchanged by the native driver.
-/
namespace KV.FilePiece

abbrev Byte := Nat

/-- `util::kSpaces` (util/spaces.cc); tied to the regenerated table in Properties/C18. -/
def isSpace (b : Byte) : Bool := b == 9 || b == 10 || b == 11 || b == 12 || b == 13 || b == 32

inductive Mode | mmap | read
  deriving DecidableEq, Repr

structure Cfg where
  page : Nat := 4096
  fixH : Bool := true
  fixI : Bool := true
  fixF : Bool := true
  deriving Repr

/-- the environment an execution runs in: the (decompressed) bytes of the input, and the
adversary that decides how many bytes each `Read` returns. -/
structure Env where
  cfg : Cfg
  bytes : List Byte
  orc : Nat → Nat
  /-- does `mmap` of the window starting at this (page-aligned) file offset fail?  (adversarial; a
  zero-length map always fails with EINVAL) -/
  mmapFail : Nat → Bool := fun _ => false

/-- result of `fell_back_.Read(to, req)` issued when `i` plain bytes have been delivered and
`avail` remain: `0` iff nothing remains (or nothing was requested), else any number in
`1 … min req avail`, chosen by `orc`.  Indexing the adversary by the number of bytes delivered
so far loses no generality: that number strictly grows with every non-empty read, so every
sequence of legal return values is produced by some `orc`. -/
def chunk (orc : Nat → Nat) (i req avail : Nat) : Nat :=
  if avail = 0 ∨ req = 0 then 0 else max 1 (min (orc i) (min req avail))

structure St where
  mode : Mode
  mapSize : Nat
  mappedOffset : Nat
  win : List Byte
  pos : Nat
  ls1 : Nat
  atEnd : Bool
  started : Bool
  readOff : Nat
  /-- bytes of the `kMagicSize` header that `ReadFactory` read ahead and `UncompressedWithHeader` still has to
  hand out before it passes the descriptor to `Uncompressed` (read_compressed.cc:77-106, 358-394) -/
  hdrLeft : Nat
  deriving Repr

/-- `[position_, position_end_)` -/
def St.visible (st : St) : List Byte := st.win.drop st.pos

/-- `FilePiece::Offset()` -/
def St.offset (st : St) : Nat := st.pos + st.mappedOffset

/-! ### scanning helpers -/

/-- index of the first byte satisfying `p` -/
def idxOf (p : Byte → Bool) : List Byte → Option Nat
  | [] => none
  | b :: bs => if p b then some 0 else (idxOf p bs).map (· + 1)

/-- the same scan started `skip` bytes in (the `position_ + skip` of ReadLine / FindDelimiterOrEOF) -/
def idxFrom (p : Byte → Bool) (l : List Byte) (skip : Nat) : Option Nat :=
  (idxOf p (l.drop skip)).map (· + skip)

/-- 1 + index of the last byte satisfying `p`, or 0 -/
def lastIdx1 (p : Byte → Bool) : List Byte → Nat
  | [] => 0
  | b :: bs => match lastIdx1 p bs with
    | 0 => if p b then 1 else 0
    | n + 1 => n + 2

/-- the loop at the end of `Shift` that recomputes `last_space_` -/
def computeLs1 (win : List Byte) (pos : Nat) : Nat := pos + lastIdx1 isSpace (win.drop pos)

/-! ### Shift -/

/-- `ReadCompressed::kMagicSize` (regenerated and compared in Properties/C18) -/
def kMagicSize : Nat := 6

/-- `TransitionToRead`: a fresh empty buffer; `fell_back_.Reset(fd)` = `ReadFactory` reads `kMagicSize` bytes ahead
(`hdr`); the reader continues at `frm`.  (`Reset(istream)` reads nothing ahead: `hdr = 0`.) -/
def transitionToRead (st : St) (frm : Nat) (hdr : Nat := kMagicSize) : St :=
  { st with mode := .read, win := [], pos := 0, readOff := frm, started := true, hdrLeft := hdr }

def readShift (env : Env) (st : St) : St :=
  -- "Start at the beginning of the buffer if there's nothing useful in it."
  let st1 := if st.pos = st.win.length then
      { st with mappedOffset := st.mappedOffset + st.win.length, win := [], pos := 0 } else st
  let st2 :=
    if st1.win.length = st1.mapSize then
      if st1.pos = 0 then { st1 with mapSize := 2 * st1.mapSize }          -- "Buffer too small."
      else { st1 with win := st1.win.drop st1.pos, pos := 0,                 -- memmove
                      mappedOffset := if env.cfg.fixH then st1.mappedOffset + st1.pos
                                      else st1.mappedOffset }
    else st1
  -- `UncompressedWithHeader::Read` hands out at most the rest of the header; afterwards the OS decides
  let want := if st2.hdrLeft > 0 then st2.hdrLeft else env.orc st2.readOff
  let n := chunk (fun _ => want) st2.readOff (st2.mapSize - st2.win.length) (env.bytes.length - st2.readOff)
  { st2 with win := st2.win ++ (env.bytes.drop st2.readOff).take n,
             readOff := st2.readOff + n, hdrLeft := st2.hdrLeft - n,
             atEnd := st2.atEnd || n == 0 }

def mmapShift (env : Env) (st : St) : St :=
  let desired := st.offset
  let ignore := desired % env.cfg.page
  -- "Duplicate request for Shift means give more data."
  let mapSize := if st.pos = ignore ∧ st.started then 2 * st.mapSize else st.mapSize
  let mo := desired - ignore
  let total := env.bytes.length
  if total - mo = 0 ∨ env.mmapFail mo then
    -- mmap failed (EINVAL for an empty range, or the kernel refused): `SeekOrThrow(desired_begin);
    -- at_end_ = false; TransitionToRead(); return;` and Shift then calls ReadShift
    readShift env (transitionToRead
      { st with mapSize := mapSize, atEnd := false,
                mappedOffset := (if env.cfg.fixF then desired else st.mappedOffset) } desired)
  else if mapSize ≥ total - mo then
    { st with mapSize := mapSize, mappedOffset := mo, win := (env.bytes.drop mo).take (total - mo),
              pos := ignore, atEnd := true, started := true }
  else
    { st with mapSize := mapSize, mappedOffset := mo, win := (env.bytes.drop mo).take mapSize,
              pos := ignore, atEnd := false, started := true }

inductive Err | eof | fuel
  deriving DecidableEq, Repr

def shift (env : Env) (st : St) : Except Err St :=
  if st.atEnd then .error .eof
  else
    let st' := match st.mode with
      | .mmap => mmapShift env st
      | .read => readShift env st
    .ok { st' with ls1 := computeLs1 st'.win st'.pos }

/-! ### construction -/

/-- `InitializeNoRead`: `default_map_size_ = page * max(min_buffer / page + 1, 2)` -/
def initMapSize (page minBuffer : Nat) : Nat := page * max (minBuffer / page + 1) 2

inductive Backend
  | file      -- regular uncompressed file: mmap, `Initialize` performs the first Shift
  | pipe      -- read() from the start, `Initialize` performs the first Shift
  | lazy      -- std::istream constructor (and, up to read sizes, a regular *compressed* file after the magic
              -- was seen): read mode, empty buffer, no Shift yet, nothing read ahead
  deriving DecidableEq, Repr

def st0 (page minBuffer : Nat) (mode : Mode) : St :=
  { mode := mode, mapSize := initMapSize page minBuffer, mappedOffset := 0, win := [], pos := 0,
    ls1 := 0, atEnd := false, started := false, readOff := 0, hdrLeft := 0 }

def init (env : Env) (minBuffer : Nat) : Backend → St
  | .file => match shift env (st0 env.cfg.page minBuffer .mmap) with
    | .ok st => st | .error _ => st0 env.cfg.page minBuffer .mmap
  | .pipe => match shift env (transitionToRead (st0 env.cfg.page minBuffer .read) 0) with
    | .ok st => st | .error _ => st0 env.cfg.page minBuffer .read
  | .lazy => transitionToRead (st0 env.cfg.page minBuffer .read) 0 0

/-! ### operations -/

inductive Res
  | eof                          -- EndOfFileException (ReadLineOrEOF: `false`)
  | bytes (b : List Byte)        -- a line or a word
  | noWord                       -- ReadWordSameLine returned false
  | char (c : Byte)
  | num (v : Int)
  | parseErr (tok : List Byte)   -- ParseNumberException; `tok` = the bytes given to ParseNumber up to the first space
  | skipped                      -- SkipSpaces returned
  | fuel                         -- never produced (theorem `ops_terminate`)
  deriving DecidableEq, Repr

/-- The idiom `if (position_ == position_end_) { Shift(); if (position_ == position_end_) … }`
shared by `peek`, `SkipSpaces` and `ReadWordSameLine`. -/
inductive Front
  | byte (c : Byte) (st : St)    -- `*position_` is readable
  | endSeen (st : St)            -- Shift() returned without data: end of input seen just now
  | eofExc (st : St)             -- Shift() threw EndOfFileException (the end had been seen before)

def front (env : Env) (st : St) : Front :=
  match st.visible with
  | c :: _ => .byte c st
  | [] =>
    match shift env st with
    | .error _ => .eofExc st
    | .ok st' =>
      match st'.visible with
      | [] => .endSeen st'
      | c :: _ => .byte c st'

/-- `peek()` (file_piece.hh:85-91).  Repaired: `Shift(); if (position_ == position_end_) throw`;
unrepaired: `Shift(); if (at_end_) throw`. -/
def peek (env : Env) (st : St) : Res × St :=
  if env.cfg.fixI then
    match front env st with
    | .byte c st' => (.char c, st')
    | .endSeen st' => (.eof, st')
    | .eofExc st' => (.eof, st')
  else
    match st.visible with
    | c :: _ => (.char c, st)
    | [] =>
      match shift env st with
      | .error _ => (.eof, st)
      | .ok st' => if st'.atEnd then (.eof, st') else (.char (st'.visible.headD 0), st')

/-- `get()` -/
def get (env : Env) (st : St) : Res × St :=
  match peek env st with
  | (.char c, st') => (.char c, { st' with pos := st'.pos + 1 })
  | r => r

/-- `SkipSpaces(delim)` (file_piece.hh:160-171); one iteration of the `for` per unit of fuel -/
def skipSpaces (env : Env) (delim : Byte → Bool) : Nat → St → Res × St
  | 0, st => (.fuel, st)
  | f + 1, st =>
    match front env st with
    | .byte c st' => if delim c then skipSpaces env delim f { st' with pos := st'.pos + 1 } else (.skipped, st')
    | .endSeen st' => (.skipped, st')            -- "And break out at end of file."
    | .eofExc st' => (.eof, st')

/-- `Consume(to)` with `to = position_ + n` -/
def consume (st : St) (n : Nat) : List Byte × St :=
  (st.visible.take n, { st with pos := st.pos + n })

/-- `ReadLine(delim, strip_cr)` (76-99) -/
def readLine (env : Env) (delim : Byte) (stripCr : Bool) : Nat → Nat → St → Res × St
  | 0, _, st => (.fuel, st)
  | f + 1, skip, st =>
    match idxFrom (· == delim) st.visible skip with
    | some i =>
      let sub := if stripCr && decide (i > 0) && (st.visible.getD (i - 1) 0 == 13) then 1 else 0
      (.bytes (st.visible.take (i - sub)), { st with pos := st.pos + i + 1 })
    | none =>
      if st.atEnd then
        match st.visible with
        | [] => (.eof, st)                                  -- Shift() throws
        | _ :: _ => let (b, st') := consume st st.visible.length; (.bytes b, st')
      else
        match shift env st with
        | .error _ => (.eof, st)
        | .ok st' => readLine env delim stripCr f st.visible.length st'

/-- `FindDelimiterOrEOF(delim)` (237-250): offset of the delimiter from `position_`, or of the end -/
def findDelimiterOrEOF (env : Env) (delim : Byte → Bool) : Nat → Nat → St → Except Err (Nat × St)
  | 0, _, _ => .error .fuel
  | f + 1, skip, st =>
    match idxFrom delim st.visible skip with
    | some i => .ok (i, st)
    | none =>
      if st.atEnd then
        match st.visible with
        | [] => .error .eof
        | _ :: _ => .ok (st.visible.length, st)
      else
        match shift env st with
        | .error _ => .error .eof
        | .ok st' => findDelimiterOrEOF env delim f st.visible.length st'

/-- `ReadDelimited(delim)` -/
def readDelimited (env : Env) (delim : Byte → Bool) (fuel : Nat) (st : St) : Res × St :=
  match skipSpaces env delim fuel st with
  | (.skipped, st1) =>
    match findDelimiterOrEOF env delim fuel 0 st1 with
    | .error .eof => (.eof, st1)
    | .error .fuel => (.fuel, st1)
    | .ok (n, st2) => let (b, st3) := consume st2 n; (.bytes b, st3)
  | r => r

/-- the first loop of `ReadWordSameLine` (file_piece.hh:107-118): `.skipped` = a word starts at
`position_` (the `break`), `.noWord` = `return false` -/
def wordSkip (env : Env) (delim : Byte → Bool) : Nat → St → Res × St
  | 0, st => (.fuel, st)
  | f + 1, st =>
    match front env st with
    | .byte c st' =>
      if !delim c then (.skipped, st')
      else if c == 10 then (.noWord, st')
      else wordSkip env delim f { st' with pos := st'.pos + 1 }
    | .endSeen st' => (.noWord, st')
    | .eofExc st' => (.noWord, st')

/-- `ReadWordSameLine(to, delim)` -/
def readWordSameLine (env : Env) (delim : Byte → Bool) (fuel : Nat) (st : St) : Res × St :=
  match wordSkip env delim fuel st with
  | (.skipped, st1) =>
    match findDelimiterOrEOF env delim fuel 0 st1 with
    | .error .eof => (.eof, st1)
    | .error .fuel => (.fuel, st1)
    | .ok (n, st2) => let (b, st3) := consume st2 n; (.bytes b, st3)
  | r => r

/-- the number grammar: given the bytes handed to `ParseNumber`, either the exception or
(value, number of bytes consumed). -/
abbrev Grammar := List Byte → Option (Int × Nat)

def firstToken (s : List Byte) : List Byte := s.takeWhile (fun b => !isSpace b)

def applyParse (P : Grammar) (str : List Byte) (st : St) : Res × St :=
  match P str with
  | none => (.parseErr (firstToken str), st)
  | some (v, cnt) => (.num v, { st with pos := st.pos + cnt })

/-- the `while (last_space_ < position_)` loop of `ReadNumber` (217-235) -/
def numLoop (env : Env) (P : Grammar) : Nat → St → Res × St
  | 0, st => (.fuel, st)
  | f + 1, st =>
    if st.ls1 ≤ st.pos then
      if st.atEnd then applyParse P st.visible st          -- "Hallucinate a null off the end of the file."
      else
        match shift env st with
        | .error _ => (.eof, st)
        | .ok st' => numLoop env P f st'
    else applyParse P (st.visible.take (st.ls1 - 1 - st.pos)) st

/-- `ReadNumber<T>()` -/
def readNumber (env : Env) (P : Grammar) (fuel : Nat) (st : St) : Res × St :=
  match skipSpaces env isSpace fuel st with
  | (.skipped, st1) => numLoop env P fuel st1
  | r => r

/-! ### the operation alphabet and transcripts -/

inductive NumKind | float | double | long | ulong
  deriving DecidableEq, Repr

inductive Op
  | peek | get
  | skipSpaces (delim : Byte → Bool)
  | readLine (delim : Byte) (stripCr : Bool)
  | readLineOrEOF (delim : Byte) (stripCr : Bool)
  | readDelimited (delim : Byte → Bool)
  | readWordSameLine (delim : Byte → Bool)
  | readNumber (k : NumKind)

/-- fuel that is always enough (theorem `ops_terminate`): it bounds the measure `mu` of Proofs/FilePieceShift.lean (`mu_le`, Proofs/FilePieceOps.lean) -/
def fuelFor (env : Env) : Nat := 2 * env.bytes.length + 4

def runOp (env : Env) (G : NumKind → Grammar) (op : Op) (st : St) : Res × St :=
  match op with
  | .peek => peek env st
  | .get => get env st
  | .skipSpaces d => skipSpaces env d (fuelFor env) st
  | .readLine d s => readLine env d s (fuelFor env) 0 st
  | .readLineOrEOF d s => readLine env d s (fuelFor env) 0 st
  | .readDelimited d => readDelimited env d (fuelFor env) st
  | .readWordSameLine d => readWordSameLine env d (fuelFor env) st
  | .readNumber k => readNumber env (G k) (fuelFor env) st

/-- What the property allows to differ at the end of the input: `SkipSpaces` may return or
report EOF (it never returns data), and a number read with nothing left may report EOF or a
parse failure of the empty token.  Everything else is compared exactly. -/
def canon (op : Op) (r : Res) : Res :=
  match op, r with
  | .skipSpaces _, .eof => .skipped
  | .readNumber _, .parseErr [] => .eof
  | _, r => r

def transcript (env : Env) (G : NumKind → Grammar) : List Op → St → List (Res × Nat)
  | [], _ => []
  | op :: ops, st =>
    let (r, st') := runOp env G op st
    (canon op r, st'.offset) :: transcript env G ops st'

/-! ### Spec: the same operations on the whole remaining byte string -/

/-- result and number of bytes consumed -/
def specOp (G : NumKind → Grammar) (op : Op) (rest : List Byte) : Res × Nat :=
  match op with
  | .peek => match rest with | [] => (.eof, 0) | c :: _ => (.char c, 0)
  | .get => match rest with | [] => (.eof, 0) | c :: _ => (.char c, 1)
  | .skipSpaces d => (.skipped, (rest.takeWhile d).length)
  | .readLine d s | .readLineOrEOF d s =>
    match rest with
    | [] => (.eof, 0)
    | _ :: _ =>
      match idxOf (· == d) rest with
      | none => (.bytes rest, rest.length)
      | some i =>
        let sub := if s && decide (i > 0) && (rest.getD (i - 1) 0 == 13) then 1 else 0
        (.bytes (rest.take (i - sub)), i + 1)
  | .readDelimited d =>
    let sp := (rest.takeWhile d).length
    match rest.drop sp with
    | [] => (.eof, sp)
    | r@(_ :: _) => let w := r.takeWhile (fun b => !d b); (.bytes w, sp + w.length)
  | .readWordSameLine d =>
    let sp := (rest.takeWhile (fun b => d b && b != 10)).length
    match rest.drop sp with
    | [] => (.noWord, sp)
    | c :: r => if d c then (.noWord, sp)     -- a newline: left unread
                else let w := (c :: r).takeWhile (fun b => !d b); (.bytes w, sp + w.length)
  | .readNumber k =>
    let sp := (rest.takeWhile isSpace).length
    match rest.drop sp with
    | [] => (.eof, sp)
    | r@(_ :: _) =>
      let tok := r.takeWhile (fun b => !isSpace b)
      match G k tok with
      | none => (.parseErr tok, sp)
      | some (v, cnt) => (.num v, sp + cnt)

def specTranscript (G : NumKind → Grammar) (bytes : List Byte) : List Op → Nat → List (Res × Nat)
  | [], _ => []
  | op :: ops, off =>
    let (r, n) := specOp G op (bytes.drop off)
    (r, off + n) :: specTranscript G bytes ops (off + n)

end KV.FilePiece

/-! ### util::ReadCompressed: chaining of members (read_compressed.cc:110-146, 358-395)

A compressed input is a chain of members; each member decodes (by a trusted third-party
decoder) to some plain bytes.  The state of `ReadCompressed` is the plain output still owed by
each remaining member (head = the member being decoded).  `StreamCompressed::Read` returns
whatever the decoder produced this round — any positive amount up to the request — and when the
current member ends without having produced anything it replaces itself by the reader of the
next member (`ReadFactory`) and forwards the call; `Complete::Read` returns 0. -/
namespace KV.FilePiece

abbrev Chain := List (List Byte)

/-- `ReadCompressed::Read(to, amount)` when `i` plain bytes have been delivered so far -/
def rcRead (orc : Nat → Nat) : Chain → Nat → Nat → List Byte × Chain
  | [], _, _ => ([], [])
  | [] :: ms, i, a => rcRead orc ms i a
  | (c :: r) :: ms, i, a =>
    let n := chunk orc i a (r.length + 1)
    ((c :: r).take n, (c :: r).drop n :: ms)

/-- call `Read` with request sizes `amt` until it returns 0 (`ReadOrEOF`, `LineInput::Run`, `ReadShift`) -/
def rcReadAll (orc amt : Nat → Nat) : Nat → Chain → Nat → List Byte
  | 0, _, _ => []
  | f + 1, ch, i =>
    match rcRead orc ch i (amt i) with
    | ([], _) => []
    | (b :: bs, ch') => (b :: bs) ++ rcReadAll orc amt f ch' (i + (bs.length + 1))

/-- members of a raw file: `dec` decodes one member off the front (`none`: corrupt) -/
def decodeChain (dec : List Byte → Option (List Byte × List Byte)) : Nat → List Byte → Option Chain
  | 0, _ => none
  | f + 1, raw =>
    if raw.isEmpty then some []
    else match dec raw with
      | none => none
      | some (plain, rest) => (decodeChain dec f rest).map (plain :: ·)

end KV.FilePiece

/-! ### LineIterator (file_piece.hh:33-59): `for (StringPiece l : FilePiece(...))` -/
namespace KV.FilePiece

/-- `LineIterator::operator++` until `ReadLineOrEOF` returns false (at most `fuel` lines) -/
def lineIter (env : Env) (G : NumKind → Grammar) (d : Byte) (strip : Bool) : Nat → St → List (List Byte)
  | 0, _ => []
  | f + 1, st =>
    match runOp env G (.readLineOrEOF d strip) st with
    | (.bytes b, st') => b :: lineIter env G d strip f st'
    | _ => []

/-- the lines of a byte string, by the spec -/
def specLines (G : NumKind → Grammar) (d : Byte) (strip : Bool) : Nat → List Byte → List (List Byte)
  | 0, _ => []
  | f + 1, rest =>
    match specOp G (.readLineOrEOF d strip) rest with
    | (.bytes b, n) => b :: specLines G d strip f (rest.drop n)
    | _ => []

end KV.FilePiece

/-! ### the integer grammars behind `ReadLong` / `ReadULong`
`strtol(str, &end, 10)` / `strtoul` as specified by ISO C (leading white space, optional sign, decimal digits,
ERANGE on overflow) followed by kenlm's test `errno || end == str` (file_piece.cc:201-214).  They satisfy
`GrammarOK` (Proofs/FilePieceNum.lean); the floating-point grammar follows below. -/
namespace KV.FilePiece

def isDigit (b : Byte) : Bool := 48 ≤ b && b ≤ 57
def digitsVal (ds : List Byte) : Nat := ds.foldl (fun a d => a * 10 + (d - 48)) 0

/-- (has a sign, is negative, rest) -/
def splitSign (s : List Byte) : Bool × Bool × List Byte :=
  match s with
  | 43 :: r => (true, false, r)
  | 45 :: r => (true, true, r)
  | _ => (false, false, s)

def gLong (s : List Byte) : Option (Int × Nat) :=
  let s0 := s.dropWhile isSpace
  let ds := (splitSign s0).2.2.takeWhile isDigit
  if ds.isEmpty then none else
  let m := digitsVal ds
  let cnt := (s.length - s0.length) + (if (splitSign s0).1 then 1 else 0) + ds.length
  if (splitSign s0).2.1 then (if m ≤ 2^63 then some (-(m : Int), cnt) else none)
  else (if m < 2^63 then some ((m : Int), cnt) else none)

/-- `strtoul`: a minus sign negates modulo 2^64; only the magnitude can overflow -/
def gULong (s : List Byte) : Option (Int × Nat) :=
  let s0 := s.dropWhile isSpace
  let ds := (splitSign s0).2.2.takeWhile isDigit
  if ds.isEmpty then none else
  let m := digitsVal ds
  let cnt := (s.length - s0.length) + (if (splitSign s0).1 then 1 else 0) + ds.length
  if m ≥ 2^64 then none
  else some (((if (splitSign s0).2.1 then (2^64 - m) % 2^64 else m : Nat) : Int), cnt)

end KV.FilePiece

/-! ### the floating-point grammar behind `ReadFloat` / `ReadDouble`
double-conversion's `StringToIeee` with kenlm's flags (ALLOW_TRAILING_JUNK | ALLOW_LEADING_SPACES, "inf", "NaN",
empty and junk strings give NaN) followed by kenlm's test `isnan(out) && str != "NaN" && str != "nan"`
(file_piece.cc:189-200).  Values are the IEEE bit patterns (via Lean's `Float`/`Float32.ofScientific`);
`nanCode` stands for any NaN.  The unrepaired NaN test (`gFloatOld`) does **not** satisfy `GrammarOKOn.prefix_det` on the
tokens `NaN` / `nan` (Properties/C18 `Old.nan_not_prefix_determined`); the repaired one (`gFloat`) does on all. -/
namespace KV.FilePiece

inductive Conv
  | junk                                   -- junk_string_value_ / empty_string_value_ = NaN, count 0
  | nan (cnt : Nat)
  | inf (neg : Bool) (cnt : Nat)
  | val (neg : Bool) (m : Nat) (e : Int) (cnt : Nat)

def startsWith (l p : List Byte) : Bool := l.take p.length == p

/-- the fractional part: `.` followed by digits (the point is consumed even without digits) -/
def convFrac (c3 : List Byte) : List Byte × List Byte :=
  match c3 with
  | 46 :: r => (r.takeWhile isDigit, r.dropWhile isDigit)
  | _ => ([], c3)

/-- the exponent part: `e`/`E`, optional sign, at least one digit — otherwise nothing is consumed
(ALLOW_TRAILING_JUNK); the value saturates at `INT_MAX / 2` -/
def convExp (c4 : List Byte) : Int × List Byte :=
  match c4 with
  | e :: r =>
    if e == 101 || e == 69 then
      let ds := (splitSign r).2.2.takeWhile isDigit
      if ds.isEmpty then (0, c4)
      else ((if (splitSign r).2.1 then -((min (digitsVal ds) 1073741823 : Nat) : Int) else ((min (digitsVal ds) 1073741823 : Nat) : Int)),
            (splitSign r).2.2.dropWhile isDigit)
    else (0, c4)
  | [] => (0, c4)

/-- digits [. digits] [exponent]; "." alone (no digit anywhere) is junk; "5." and "0." are numbers and consume
the point.  `n` = length of the whole input, for the count of consumed characters. -/
def convNum (neg : Bool) (n : Nat) (c1 : List Byte) : Conv :=
  let zs := c1.takeWhile (· == 48)
  let c2 := c1.dropWhile (· == 48)
  let ip := c2.takeWhile isDigit
  let c3 := c2.dropWhile isDigit
  if zs.isEmpty && ip.isEmpty && (convFrac c3).1.isEmpty then .junk
  else .val neg (digitsVal (ip ++ (convFrac c3).1)) ((convExp (convFrac c3).2).1 - ((convFrac c3).1.length : Int))
         (n - (convExp (convFrac c3).2).2.length)

/-- `StringToDoubleConverter::StringToIeee` with ALLOW_TRAILING_JUNK | ALLOW_LEADING_SPACES,
"inf", "NaN" (util/double-conversion/string-to-double.cc:419ff); the input starts at a non-space. -/
def conv (s : List Byte) : Conv :=
  if s.isEmpty then .junk else
  match (splitSign s).2.2 with
  | [] => .junk
  | c :: r =>
    if (splitSign s).1 && isSpace c then .junk
    else if c == 105 then
      (if startsWith (c :: r) [105, 110, 102] then .inf (splitSign s).2.1 (s.length - ((c :: r).length - 3)) else .junk)
    else if c == 78 then
      (if startsWith (c :: r) [78, 97, 78] then .nan (s.length - ((c :: r).length - 3)) else .junk)
    else convNum (splitSign s).2.1 s.length (c :: r)

def numDigits (m : Nat) : Nat := (toString m).length

def toDoubleBits (neg : Bool) (m : Nat) (e : Int) : Nat :=
  let mag : Float :=
    if m == 0 then 0.0
    else if e + numDigits m > 400 then (1.0 : Float) / 0.0
    else if e + numDigits m < -400 then 0.0
    else if e ≥ 0 then Float.ofScientific m false e.toNat else Float.ofScientific m true (-e).toNat
  ((if neg then -mag else mag).toBits).toNat

def toFloatBits (neg : Bool) (m : Nat) (e : Int) : Nat :=
  let mag : Float32 :=
    if m == 0 then 0.0
    else if e + numDigits m > 400 then (1.0 : Float32) / 0.0
    else if e + numDigits m < -400 then 0.0
    else if e ≥ 0 then Float32.ofScientific m false e.toNat else Float32.ofScientific m true (-e).toNat
  ((if neg then -mag else mag).toBits).toNat

/-- value used for NaN in the protocol (`V nan`) -/
def nanCode : Int := -(2^70)

/-- kenlm's `ParseNumber(StringPiece str, float/double&)` as repaired (file_piece.cc:189-200): the converter, then
`isnan(out) && StringPiece(str.data(), count) != "NaN"` ⇒ ParseNumberException: NaN is accepted exactly when
the converter consumed the literal `NaN` symbol (no sign); junk and the empty string (count 0) are rejected. -/
def gFloat (dbl : Bool) (s : List Byte) : Option (Int × Nat) :=
  match conv s with
  | .junk => none
  | .nan cnt => if s.take cnt == [78, 97, 78] then some (nanCode, cnt) else none
  | .inf neg cnt => some (((if dbl then toDoubleBits neg 1 1000 else toFloatBits neg 1 1000 : Nat) : Int), cnt)
  | .val neg m e cnt => some (((if dbl then toDoubleBits neg m e else toFloatBits neg m e : Nat) : Int), cnt)

/-- the same before the repair: `isnan(out) && str != "NaN" && str != "nan"` with `str` = everything from
`position_` to the last space of the window -/
def gFloatOld (dbl : Bool) (s : List Byte) : Option (Int × Nat) :=
  let ok := s == [78, 97, 78] || s == [110, 97, 110]
  match conv s with
  | .junk => if ok then some (nanCode, 0) else none
  | .nan cnt => if ok then some (nanCode, cnt) else none
  | .inf neg cnt => some (((if dbl then toDoubleBits neg 1 1000 else toFloatBits neg 1 1000 : Nat) : Int), cnt)
  | .val neg m e cnt => some (((if dbl then toDoubleBits neg m e else toFloatBits neg m e : Nat) : Int), cnt)

/-- the unrepaired grammars (the driver's `fixN = false`: the NaN test on the whole window string) -/
def grammarOld : NumKind → Grammar
  | .float => gFloatOld false
  | .double => gFloatOld true
  | .long => gLong
  | .ulong => gULong

def grammar : NumKind → Grammar
  | .float => gFloat false
  | .double => gFloat true
  | .long => gLong
  | .ulong => gULong


end KV.FilePiece

namespace KV.FilePiece

/-! ### util::stream::LineInput::Run (util/stream/line_input.cc)
Fills blocks of `B` bytes from a `ReadCompressed`, cuts each full block after its last newline and carries the
rest over to the next block; the last block (at EOF) is handed out as it is. -/

/-- `while (to != end) { got = reader.Read(to, end - to); if (!got) EOF; to += got; }` : (bytes read, reader, hit EOF) -/
def liFill (orc : Nat → Nat) : Nat → Chain → Nat → Nat → List Byte × Chain × Bool
  | 0, ch, _, _ => ([], ch, false)
  | f + 1, ch, i, need =>
    if need = 0 then ([], ch, false)
    else match rcRead orc ch i need with
      | ([], ch') => ([], ch', true)
      | (b :: bs, ch') =>
        let r := liFill orc f ch' (i + (bs.length + 1)) (need - (bs.length + 1))
        (b :: bs ++ r.1, r.2.1, r.2.2)

/-- index of the last newline + 1, or 0 -/
def lastNl1 (l : List Byte) : Nat := lastIdx1 (· == 10) l

inductive LiErr | noNewline | fuel
  deriving DecidableEq, Repr

/-- the blocks (valid bytes) `LineInput::Run` passes down the chain -/
def liRun (orc : Nat → Nat) (B : Nat) : Nat → Chain → Nat → List Byte → Except LiErr (List (List Byte))
  | 0, _, _, _ => .error .fuel
  | f + 1, ch, i, carry =>
    let r := liFill orc (B + 1) ch i (B - carry.length)
    let buf := carry ++ r.1
    if r.2.2 then .ok [buf]                       -- EOF: SetValidSize(to - begin); poison
    else match lastNl1 buf with
      | 0 => .error .noNewline                    -- "Did not find a newline in … bytes of input"
      | k + 1 =>
        match liRun orc B f r.2.1 (i + r.1.length) (buf.drop (k + 1)) with
        | .ok bl => .ok (buf.take (k + 1) :: bl)
        | .error e => .error e


end KV.FilePiece

/-! ### util::ReadCompressed, concretely: `ReadFactory`, `Complete`, `Uncompressed`, `UncompressedWithHeader`,
`StreamCompressed<…>` (read_compressed.cc:53-146, 358-394)

The descriptor delivers `fd` (bytes not yet read).  The third-party decoders enter through `Codecs`: for raw bytes
starting at a member boundary `member` tells how many raw bytes the member occupies and what it decodes to;
`magic` is `DetectMagic`.  One `inflate` / `BZ2_bzDecompress` / `lzma_code` call (`Process`) consumes some of the
input buffer and produces some output, as an adversarial oracle decides, but makes progress whenever progress is
possible (the libraries' contract; otherwise they report a buffer error and kenlm throws).  `Process` reports the
end of the stream exactly when the member's raw bytes are consumed and its plain bytes are produced. -/
namespace KV.FilePiece

structure Codecs where
  member : List Byte → Option (Nat × List Byte)
  magic : List Byte → Bool

/-- `kInputBuffer` -/
def kInputBuffer : Nat := 16384

inductive Rd
  | complete
  | uncompressed
  | withHeader (buf : List Byte)
  | stream (inbuf : List Byte) (rawLeft : Nat) (plainLeft : List Byte)
  deriving Repr

structure RcSt where
  fd : List Byte
  rd : Rd
  deriving Repr

inductive RcErr | corrupt | uncompressedAfterCompressed | fuel
  deriving DecidableEq, Repr

/-- `ReadFactory(fd, raw_amount, already_data, already_size, require_compressed)` -/
def readFactory (C : Codecs) (fd already : List Byte) (requireCompressed : Bool) : Except RcErr RcSt :=
  let header := already ++ fd.take (kMagicSize - already.length)      -- top up to kMagicSize with ReadOrEOF
  let fd' := fd.drop (kMagicSize - already.length)
  if header.isEmpty then .ok ⟨fd', .complete⟩
  else if C.magic header then
    match C.member (header ++ fd') with
    | some (len, plain) => .ok ⟨fd', .stream header len plain⟩
    | none => .error .corrupt
  else if requireCompressed then .error .uncompressedAfterCompressed
  else .ok ⟨fd', .withHeader header⟩

/-- one `Process()`: (input bytes consumed, output bytes produced) -/
def decStep (dorc : Nat → Nat → Nat → Nat → Nat × Nat) (inLen rawLeft plainLen availOut : Nat) : Nat × Nat :=
  let ci := min (dorc inLen rawLeft plainLen availOut).1 (min inLen rawLeft)
  let po := min (dorc inLen rawLeft plainLen availOut).2 (min availOut plainLen)
  if ci = 0 ∧ po = 0 then
    if 0 < min availOut plainLen then (0, 1)
    else if 0 < min inLen rawLeft then (1, 0)
    else (0, 0)
  else (ci, po)

/-- `ReadCompressed::Read(to, amount)` on the concrete readers; `os` = sizes of the OS's reads. -/
def rcRead2 (C : Codecs) (os : Nat → Nat) (dorc : Nat → Nat → Nat → Nat → Nat × Nat) :
    Nat → RcSt → Nat → Except RcErr (List Byte × RcSt)
  | 0, _, _ => .error .fuel
  | f + 1, s, amount =>
    match s.rd with
    | .complete => .ok ([], s)
    | .uncompressed =>
      let n := chunk os s.fd.length amount s.fd.length                       -- PartialRead
      .ok (s.fd.take n, ⟨s.fd.drop n, .uncompressed⟩)
    | .withHeader buf =>
      let n := min amount buf.length
      .ok (buf.take n, ⟨s.fd, if n = buf.length then .uncompressed else .withHeader (buf.drop n)⟩)
    | .stream inbuf rawLeft plainLeft =>
      if amount = 0 then .ok ([], s) else
      -- `if (!back_.Stream().avail_in) ReadInput(thunk);`
      let inbuf1 := if inbuf.isEmpty then s.fd.take kInputBuffer else inbuf
      let fd1 := if inbuf.isEmpty then s.fd.drop kInputBuffer else s.fd
      let st := decStep dorc inbuf1.length rawLeft plainLeft.length amount
      let out := plainLeft.take st.2
      if rawLeft - st.1 = 0 ∧ plainLeft.drop st.2 = [] then
        -- stream end: hand the rest of the input buffer to the reader of the next member
        match readFactory C fd1 (inbuf1.drop st.1) true with
        | .error e => .error e
        | .ok s' => if out.isEmpty then rcRead2 C os dorc f s' amount else .ok (out, s')
      else if !out.isEmpty then .ok (out, ⟨fd1, .stream (inbuf1.drop st.1) (rawLeft - st.1) (plainLeft.drop st.2)⟩)
      else if st.1 = 0 then .error .corrupt
      else rcRead2 C os dorc f ⟨fd1, .stream (inbuf1.drop st.1) (rawLeft - st.1) (plainLeft.drop st.2)⟩ amount

/-- `ReadCompressed::Reset(fd)` -/
def rcOpen (C : Codecs) (raw : List Byte) : Except RcErr RcSt := readFactory C raw [] false

end KV.FilePiece
