import Model.Arpa
import Model.Table
import Model.State
import Model.Score
/-
Chart-state scoring (DESIGN §5 C08): `lm/left.hh:52-211` (`RuleScore`: Terminal, NonTerminal,
BeginSentence, BeginNonTerminal, Finish, ExtendLeft, ProcessRet), `GenericModel::ExtendLeft` and
`InternalUnRest` (`lm/model.cc:195-227, 298-317`) and `lm/partial.hh` (ExtendLoop, RevealBefore,
RevealAfter, Subsume), transcribed over the abstract table of `Model/Table.lean`.

* A *pointer* (`extend_left`, `Left::pointers[i]`) is the reversed n-gram itself (hash at L2a, array
  index at L2b).  `Unpack(pointer, length, node)` is a table lookup.
* Rest costs are a function `R : reversed n-gram → Rat` (`RestWeights::rest`): `noRest` (= prob,
  `NoRestBuild`/every non-REST model), `maxRest` (`MaxRestBuild`: max over the entry and all table entries
  that extend it to the left), `lowerRest` (`LowerRestBuild`: the score in the model of that order).
  The highest order has no rest field (`rest = prob`), which `resumeScore` already does.
* Log-probabilities are exact rationals, as in `Model/Score.lean`.
Everything is executable; the driver `drv_C08` runs exactly these definitions.
-/
namespace KV.Left
open KV.Arpa KV.Table KV.State KV.Score

abbrev Ptr := List Word

/-! ## the search with rest costs -/

def foundOf (T : Table) (R : Ptr → Rat) (g : Ptr) : Option Found :=
  (T.lookup g).map fun t => { toFound t with rest := R g }

def notFound : Found := { prob := 0, backoff := 0, extendsRight := false, independentLeft := true, rest := 0 }

/-- `HashedSearch<RestValue>` / `TrieSearch` seen through `GenericModel`: as `tableSearch`, but `Rest()`
returns `R`. -/
def restSearch (T : Table) (R : Ptr → Rat) : Search Ptr where
  order := T.order
  lookupUnigram w := ((foundOf T R [w]).getD notFound, [w])
  lookupMiddle _ w node := (foundOf T R (node ++ [w]), node ++ [w])
  lookupLongest w node := (T.lookup (node ++ [w])).map (·.prob)
  fastMakeNode ws := if (T.lookup ws).isSome then some ws else none

/-- `NoRestBuild` and all models without separate rest costs: `Rest() = Prob()` -/
def noRest (T : Table) : Ptr → Rat := fun g => match T.lookup g with | some t => t.prob | none => 0

/-- `MaxRestBuild` (`value_build.hh:35-60`, `search_hashed.cc` AdjustLower/MarkLower): every entry starts
with `rest = prob`; each inserted longer entry raises the rest of the entries it extends (all the way
down).  Net effect: the maximum of `prob` over the entry and all table entries (real or blank) having it
as a reversed prefix.  `ks` = all keys of the table. -/
def maxRest (T : Table) (ks : List Ptr) : Ptr → Rat := fun g =>
  ks.foldl (fun m k => if g.isPrefixOf k then
      match T.lookup k with
      | some t => if m < t.prob then t.prob else m
      | none => m
    else m) (noRest T g)

/-- `LowerRestBuild::SetRest`: order 1 → the unigram file's value, order n → `FullScoreForgotState` of the
order-n model (= the textbook score, theorem `KV.C01.forgot_prob`); the highest order keeps `prob`. -/
def lowerRest (T : Table) (uni : Word → Rat) (lower : Nat → Option Arpa) : Ptr → Rat := fun g =>
  match g with
  | [] => 0
  | [w] => uni w
  | w :: ctx =>
    if g.length ≥ T.order then noRest T g else
    match lower g.length with
    | some a => score a ctx w
    | none => noRest T g

/-! ## `GenericModel::ExtendLeft`, `InternalUnRest` -/

structure ExtRet where
  prob : Rat
  rest : Rat
  ngramLength : Nat
  independentLeft : Bool
  extendLeft : Ptr
  /-- what was written to `backoff_out` -/
  backoffOut : List Rat
  nextUse : Nat
deriving Repr, DecidableEq, Inhabited

/-- `ExtendLeft(add_rbegin, add_rend, backoff_in, extend_pointer, extend_length, backoff_out, next_use)`
(`model.cc:195-227`).  `add` = `[add_rbegin, add_rend)`, newest first. -/
def extendLeft (T : Table) (R : Ptr → Rat) (add : List Word) (backoffIn : List Rat) (ptr : Ptr) (extLen : Nat) : ExtRet :=
  let S := restSearch T R
  -- extend_length == 1: LookupUnigram(static_cast<WordIndex>(extend_pointer), …) sets independent_left;
  -- otherwise Unpack(extend_pointer, extend_length, node) and independent_left = false
  let f : Found := (foundOf T R ptr).getD notFound
  let indep := if extLen == 1 then f.independentLeft else false
  let acc0 : Acc Ptr :=
    { ret := { prob := f.prob, rest := f.rest, ngramLength := extLen, independentLeft := indep, extendLeft := ptr },
      backoffOut := [], nextUse := extLen }
  let acc := resumeScore S add (extLen - 1) ptr acc0
  -- charge backoffs: [backoff_in + ngram_length - extend_length, backoff_in + |add|)
  let charged := ((backoffIn.take add.length).drop (acc.ret.ngramLength - extLen)).sum
  { prob := acc.ret.prob + charged - f.rest, rest := acc.ret.rest - f.rest,
    ngramLength := acc.ret.ngramLength, independentLeft := acc.ret.independentLeft,
    extendLeft := acc.ret.extendLeft, backoffOut := acc.backoffOut, nextUse := acc.nextUse - extLen }

def probMinusRest (T : Table) (R : Ptr → Rat) (g : Ptr) : Rat :=
  match foundOf T R g with | some f => f.prob - f.rest | none => 0

/-- `InternalUnRest(pointers_begin, pointers_end, first_length)` (`model.cc:298-317`): Σ prob − rest.
At table level the unigram lookup and `Unpack` are the same lookup, so `first_length` only documents the
call. -/
def unRest (T : Table) (R : Ptr → Rat) (ptrs : List Ptr) (_firstLength : Nat) : Rat :=
  (ptrs.map (probMinusRest T R)).sum

/-! ## chart states and `RuleScore` -/

structure LeftSt where
  /-- `pointers[0..length)` -/
  pointers : List Ptr := []
  full : Bool := false
deriving Repr, DecidableEq, Inhabited

def LeftSt.length (l : LeftSt) : Nat := l.pointers.length

structure Chart where
  left : LeftSt := {}
  right : State := {}
deriving Repr, DecidableEq, Inhabited

/-- only `[0, length)` of a `State` is meaningful; the model keeps right states normalised -/
def normS (s : State) : State := { length := s.length, words := s.words.take s.length, backoff := s.backoff.take s.length }

/-- the members of `RuleScore`: `*out_`, `left_done_`, `prob_` -/
structure RS where
  out : Chart := {}
  leftDone : Bool := false
  prob : Rat := 0
deriving Repr, DecidableEq, Inhabited

/-- constructor / `Reset()` -/
def RS.init : RS := {}

/-- `Reset()` / `Reset(ChartState &replacement)` (`left.hh:158-167`): exactly the fields the code re-initialises —
`prob_ = 0`, `left_done_ = false`, `out_->left.length = 0`, `out_->right.length = 0`.  `out_->left.full` is NOT
written (it keeps whatever the target state held: the previous result for `Reset()`, garbage for a new target, here
any `staleFull`); the words/back-offs beyond `length` are not observable and the model keeps right states normalised. -/
def reset (staleFull : Bool) (_rs : RS) : RS :=
  { out := { left := { pointers := [], full := staleFull }, right := { length := 0 } }, leftDone := false, prob := 0 }

/-- the seeded variant C08-6: the two overloads folded into one that forgets `left_done_ = false` -/
def resetKeepsDone (staleFull : Bool) (rs : RS) : RS :=
  { out := { left := { pointers := [], full := staleFull }, right := { length := 0 } }, leftDone := rs.leftDone, prob := 0 }

/-- `BeginSentence()` -/
def beginSentence (T : Table) (R : Ptr → Rat) (bos : Word) (rs : RS) : RS :=
  { rs with out := { rs.out with right := beginSentenceState (restSearch T R) bos }, leftDone := true }

/-- `Terminal(word)` (`left.hh:65-78`) -/
def terminal (T : Table) (R : Ptr → Rat) (rs : RS) (w : Word) : RS :=
  let copy := rs.out.right
  let (ret, outR) := fullScore (restSearch T R) copy w
  let right' := normS outR
  if rs.leftDone then { rs with out := { rs.out with right := right' }, prob := rs.prob + ret.prob }
  else if ret.independentLeft then
    { out := { rs.out with right := right' }, prob := rs.prob + ret.prob, leftDone := true }
  else
    { out := { left := { rs.out.left with pointers := rs.out.left.pointers ++ [ret.extendLeft] }, right := right' },
      prob := rs.prob + ret.rest,
      leftDone := outR.length != copy.length + 1 }

/-- `ProcessRet` (`left.hh:190-203`) -/
def processRet (rs : RS) (ret : ExtRet) : RS :=
  if rs.leftDone then { rs with prob := rs.prob + ret.prob }
  else if ret.independentLeft then { rs with prob := rs.prob + ret.prob, leftDone := true }
  else { rs with out := { rs.out with left := { rs.out.left with pointers := rs.out.left.pointers ++ [ret.extendLeft] } },
                 prob := rs.prob + ret.rest }

/-- result of the private `RuleScore::ExtendLeft` (`left.hh:170-188`) -/
structure StepOut where
  rs : RS
  nextUse : Nat
  back : List Rat
  /-- `return true`: early exit -/
  exit : Bool

def rsExtendLeft (T : Table) (R : Ptr → Rat) (rs : RS) (inC : Chart) (nextUse : Nat) (extLen : Nat) (backIn : List Rat) : StepOut :=
  let ret := extendLeft T R (rs.out.right.words.take nextUse) backIn (inC.left.pointers.getD (extLen - 1) []) extLen
  let rs1 := processRet rs ret
  if ret.nextUse != rs.out.right.length then
    let rs2 := { rs1 with leftDone := true }
    if ret.nextUse == 0 then
      { rs := { rs2 with out := { rs2.out with right := inC.right },
                         prob := rs2.prob + unRest T R (inC.left.pointers.drop extLen) (extLen + 1) },
        nextUse := 0, back := ret.backoffOut, exit := true }
    else { rs := rs2, nextUse := ret.nextUse, back := ret.backoffOut, exit := false }
  else { rs := rs1, nextUse := ret.nextUse, back := ret.backoffOut, exit := false }

/-- the two loops of `NonTerminal` (`left.hh:118-125`): `extLen = 1 … in.left.length`; `fuel` = remaining pointers -/
def extendAll (T : Table) (R : Ptr → Rat) (inC : Chart) : Nat → Nat → StepOut → StepOut
  | 0, _, st => st
  | fuel+1, extLen, st =>
    if st.exit then st else
    extendAll T R inC fuel (extLen + 1) (rsExtendLeft T R st.rs inC st.nextUse extLen st.back)

/-- `NonTerminal(in, prob)` (`left.hh:87-149`) -/
def nonTerminal (T : Table) (R : Ptr → Rat) (rs : RS) (inC : Chart) (p : Rat) : RS :=
  let rs := { rs with prob := rs.prob + p }
  if inC.left.length == 0 then
    if inC.left.full then
      { rs with prob := rs.prob + (rs.out.right.backoff.take rs.out.right.length).sum, leftDone := true,
                out := { rs.out with right := inC.right } }
    else rs
  else if rs.out.right.length == 0 then
    let rs := { rs with out := { rs.out with right := inC.right } }
    if rs.leftDone then { rs with prob := rs.prob + unRest T R inC.left.pointers 1 }
    else if rs.out.left.length != 0 then { rs with leftDone := true }
    else { rs with out := { rs.out with left := inC.left }, leftDone := inC.left.full }
  else
    let st := extendAll T R inC inC.left.length 1
      { rs := rs, nextUse := rs.out.right.length, back := rs.out.right.backoff.take rs.out.right.length, exit := false }
    if st.exit then st.rs else
    let rs := st.rs
    if inC.left.full then
      { rs with prob := rs.prob + (st.back.take st.nextUse).sum, leftDone := true, out := { rs.out with right := inC.right } }
    else if inC.right.length < inC.left.length then
      { rs with out := { rs.out with right := inC.right } }
    else
      { rs with out := { rs.out with right :=
          { length := inC.right.length + st.nextUse,
            words := inC.right.words.take inC.right.length ++ rs.out.right.words.take st.nextUse,
            backoff := inC.right.backoff.take inC.right.length ++ st.back.take st.nextUse } } }

/-- `BeginNonTerminal(in, prob)` -/
def beginNonTerminal (inC : Chart) (p : Rat) : RS := { out := inC, leftDone := inC.left.full, prob := p }

/-- `Finish()`: sets `left.full`, returns `prob_` -/
def finish (order : Nat) (rs : RS) : Chart × Rat :=
  ({ rs.out with left := { rs.out.left with full := rs.leftDone || rs.out.left.length == order - 1 } }, rs.prob)

/-! ## derivations: arbitrary n-ary trees of terminals and non-terminals -/

mutual
/-- one right-hand-side item: a terminal word or a non-terminal with its own rule application -/
inductive Item where
  | term (w : Word)
  | nt (r : Rule)
/-- a rule application: the items left to right -/
inductive Rule where
  | nil
  | cons (i : Item) (r : Rule)
end

instance : Inhabited Rule := ⟨.nil⟩
instance : Inhabited Item := ⟨.term 0⟩

mutual
def Item.yield : Item → List Word
  | .term w => [w]
  | .nt r => r.yield
def Rule.yield : Rule → List Word
  | .nil => []
  | .cons i r => i.yield ++ r.yield
end

mutual
/-- apply one item to a running `RuleScore`; a non-terminal is scored on its own first (fresh
`RuleScore`, `Finish`) and passed with its inclusive score, as a chart decoder does -/
def applyItem (T : Table) (R : Ptr → Rat) (rs : RS) : Item → RS
  | .term w => terminal T R rs w
  | .nt r =>
    let (c, p) := finish T.order (applyRule T R RS.init r)
    nonTerminal T R rs c p
def applyRule (T : Table) (R : Ptr → Rat) (rs : RS) : Rule → RS
  | .nil => rs
  | .cons i r => applyRule T R (applyItem T R rs i) r
end

/-- score a whole rule application from scratch: with `bos = some <s>` `BeginSentence()` is called first -/
def ruleScore (T : Table) (R : Ptr → Rat) (bos : Option Word) (r : Rule) : Chart × Rat :=
  let rs0 := match bos with
    | some b => beginSentence T R b RS.init
    | none => RS.init
  finish T.order (applyRule T R rs0 r)

/-- the reference: left-to-right scoring with `FullScore` -/
def leftToRight (T : Table) (R : Ptr → Rat) (bos : Option Word) (ws : List Word) : Rat × State :=
  let s0 := match bos with
    | some b => beginSentenceState (restSearch T R) b
    | none => nullContextState
  scoreSeq (restSearch T R) s0 ws

/-! ## `lm/partial.hh` -/

structure ExtendReturn where
  adjust : Rat := 0
  makeFull : Bool := false
  nextUse : Nat
  /-- pointers written through `pointers_write` -/
  written : List Ptr := []
  /-- current `backoff_in` buffer -/
  backIn : List Rat
deriving Repr, DecidableEq, Inhabited

/-- first loop of `ExtendLoop` ("using full context, writing to new left state"); returns the state and
the pointers not yet consumed together with the index `i` -/
def extendLoopWrite (T : Table) (R : Ptr → Rat) (seen : Nat) (add : List Word) (addLength : Nat) :
    List Ptr → Nat → ExtendReturn → ExtendReturn × List Ptr × Nat
  | [], i, v => (v, [], i)
  | p :: ps, i, v =>
    let ret := extendLeft T R (add.take v.nextUse) v.backIn p (i + seen + 1)
    let v := { v with backIn := ret.backoffOut, nextUse := ret.nextUse }
    if ret.independentLeft then
      ({ v with adjust := v.adjust + ret.prob, makeFull := true }, ps, i + 1)
    else
      let v := { v with adjust := v.adjust + ret.rest, written := v.written ++ [ret.extendLeft] }
      if v.nextUse != addLength then ({ v with makeFull := true }, ps, i + 1)
      else extendLoopWrite T R seen add addLength ps (i + 1) v

/-- second loop ("using some of the new context") -/
def extendLoopUse (T : Table) (R : Ptr → Rat) (seen : Nat) (add : List Word) :
    List Ptr → Nat → ExtendReturn → ExtendReturn × List Ptr × Nat
  | [], i, v => (v, [], i)
  | p :: ps, i, v =>
    if v.nextUse == 0 then (v, p :: ps, i) else
    let ret := extendLeft T R (add.take v.nextUse) v.backIn p (i + seen + 1)
    extendLoopUse T R seen add ps (i + 1)
      { v with backIn := ret.backoffOut, nextUse := ret.nextUse, adjust := v.adjust + ret.prob }

/-- `ExtendLoop` (`partial.hh:19-81`); `write = (pointers_write != NULL)`.  The returned `backIn.take nextUse`
is what `std::copy(backoff_in, backoff_in + next_use, backoff_write)` writes. -/
def extendLoop (T : Table) (R : Ptr → Rat) (seen : Nat) (add : List Word) (backoffStart : List Rat)
    (pointers : List Ptr) (write : Bool) : ExtendReturn :=
  let v0 : ExtendReturn := { nextUse := add.length, backIn := backoffStart.take add.length }
  let (v1, rest1, i1) := if write then extendLoopWrite T R seen add add.length pointers 0 v0 else (v0, pointers, 0)
  let (v2, rest2, i2) := extendLoopUse T R seen add rest1 i1 v1
  { v2 with adjust := v2.adjust + unRest T R rest2 (i2 + seen + 1) }

/-- `RevealBefore(model, reveal, seen, reveal_full, left, right)`; precondition (an `assert` in the code):
`seen < reveal.length ∨ reveal_full` -/
def revealBefore (T : Table) (R : Ptr → Rat) (reveal : State) (seen : Nat) (revealFull : Bool)
    (left : LeftSt) (right : State) : Rat × LeftSt × State :=
  let add := (reveal.words.take reveal.length).drop seen
  let v := extendLoop T R seen add ((reveal.backoff.take reveal.length).drop seen) left.pointers (!revealFull)
  let ptrs := if revealFull then [] else v.written
  let makeFull := if revealFull then true else (v.makeFull || ptrs.length == T.order - 1)
  if left.full then
    (v.adjust + (v.backIn.take v.nextUse).sum, { pointers := ptrs, full := true }, right)
  else
    let right' : State :=
      { length := right.length + v.nextUse,
        words := right.words.take right.length ++ add.take v.nextUse,
        backoff := right.backoff.take right.length ++ v.backIn.take v.nextUse }
    (v.adjust, { pointers := ptrs, full := makeFull || right'.length == T.order - 1 }, right')

/-- `RevealAfter(model, left, right, reveal, seen)`; precondition `seen < reveal.length ∨ reveal.full` -/
def revealAfter (T : Table) (R : Ptr → Rat) (left : LeftSt) (right : State) (reveal : LeftSt) (seen : Nat) :
    Rat × LeftSt × State :=
  let add := right.words.take right.length
  let v := extendLoop T R seen add (right.backoff.take right.length) (reveal.pointers.drop seen) (!left.full)
  let (adjust, right', makeFull) :=
    if reveal.full then
      (v.adjust + (v.backIn.take v.nextUse).sum, ({ length := 0 } : State), true)
    else
      (v.adjust, ({ length := v.nextUse, words := add.take v.nextUse, backoff := v.backIn.take v.nextUse } : State),
       v.makeFull || v.nextUse == T.order - 1)
  if left.full then (adjust, left, right')
  else
    let ptrs := left.pointers ++ v.written
    (adjust, { pointers := ptrs, full := makeFull || ptrs.length == T.order - 1 }, right')

/-- `Subsume(model, first_left, first_right, second_left, second_right, between_length)`:
returns the adjustment, the new `first_left` and the new `second_right` -/
def subsume (T : Table) (R : Ptr → Rat) (firstLeft : LeftSt) (firstRight : State) (secondLeft : LeftSt)
    (secondRight : State) (between : Nat) : Rat × LeftSt × State :=
  let add := firstRight.words.take firstRight.length
  let v := extendLoop T R between add (firstRight.backoff.take firstRight.length) secondLeft.pointers (!firstLeft.full)
  let (adjust, right', makeFull) :=
    if secondLeft.full then (v.adjust + (v.backIn.take v.nextUse).sum, secondRight, v.makeFull)
    else
      let r : State :=
        { length := secondRight.length + v.nextUse,
          words := secondRight.words.take secondRight.length ++ add.take v.nextUse,
          backoff := secondRight.backoff.take secondRight.length ++ v.backIn.take v.nextUse }
      (v.adjust, r, v.makeFull || r.length == T.order - 1)
  if firstLeft.full then (adjust, firstLeft, right')
  else
    let ptrs := firstLeft.pointers ++ v.written
    (adjust, { pointers := ptrs, full := makeFull || secondLeft.full || ptrs.length == T.order - 1 }, right')

/-! ### the revelation protocols of `lm/partial_test.cc` (`CheckAdjustment`), one side at a time -/

/-- reveal the pointers `k, k+1, …` of a following fragment's left state one at a time (`after.length = k+1`,
`after.full = false`, `seen = k`), accumulating the adjustments -/
def revealAfterLoop (T : Table) (R : Ptr → Rat) (ptrs : List Ptr) : Nat → Nat → LeftSt × State × Rat → LeftSt × State × Rat
  | 0, _, st => st
  | fuel+1, k, (left, right, acc) =>
    let res := revealAfter T R left right { pointers := ptrs.take (k+1), full := false } k
    revealAfterLoop T R ptrs fuel (k+1) (res.2.1, res.2.2, acc + res.1)

/-- … and finally, if it is full, its `full` flag (`seen = after.length`) -/
def revealAfterAll (T : Table) (R : Ptr → Rat) (between after : Chart) : LeftSt × State × Rat :=
  let st := revealAfterLoop T R after.left.pointers after.left.length 0 (between.left, between.right, 0)
  if after.left.full then
    let res := revealAfter T R st.1 st.2.1 { pointers := after.left.pointers, full := true } after.left.length
    (res.2.1, res.2.2, st.2.2 + res.1)
  else st

/-- reveal the words of a preceding fragment's right state one at a time (`reveal.length = k+1`, `seen = k`,
`reveal_full = false`), accumulating the adjustments -/
def revealBeforeLoop (T : Table) (R : Ptr → Rat) (br : State) : Nat → Nat → LeftSt × State × Rat → LeftSt × State × Rat
  | 0, _, st => st
  | fuel+1, k, (left, right, acc) =>
    let res := revealBefore T R { br with length := k + 1 } k false left right
    revealBeforeLoop T R br fuel (k+1) (res.2.1, res.2.2, acc + res.1)

/-- … and finally, if the preceding fragment's left state is full, `reveal_full` (`seen = before.length`) -/
def revealBeforeAll (T : Table) (R : Ptr → Rat) (before between : Chart) : LeftSt × State × Rat :=
  let st := revealBeforeLoop T R before.right before.right.length 0 (between.left, between.right, 0)
  if before.left.full then
    let res := revealBefore T R before.right before.right.length true st.1 st.2.1
    (res.2.1, res.2.2, st.2.2 + res.1)
  else st

/-- the two-sided protocol: `steps` decides which side reveals next (`true` = one more word of the preceding right state,
`false` = one more pointer of the following left state; a side that is exhausted is skipped) -/
def revealSteps (T : Table) (R : Ptr → Rat) (before after : Chart) :
    List Bool → Nat × Nat × LeftSt × State × Rat → Nat × Nat × LeftSt × State × Rat
  | [], st => st
  | true :: rest, (kb, ka, l, r, acc) =>
    if kb < before.right.length then
      let res := revealBefore T R { before.right with length := kb + 1 } kb false l r
      revealSteps T R before after rest (kb + 1, ka, res.2.1, res.2.2, acc + res.1)
    else revealSteps T R before after rest (kb, ka, l, r, acc)
  | false :: rest, (kb, ka, l, r, acc) =>
    if ka < after.left.length then
      let res := revealAfter T R l r { pointers := after.left.pointers.take (ka + 1), full := false } ka
      revealSteps T R before after rest (kb, ka + 1, res.2.1, res.2.2, acc + res.1)
    else revealSteps T R before after rest (kb, ka, l, r, acc)

/-- … followed by the two final calls in the order of `lm/partial_test.cc`: `after.full`, then `reveal_full` -/
def revealBoth (T : Table) (R : Ptr → Rat) (before between after : Chart) (steps : List Bool) : LeftSt × State × Rat :=
  let st := revealSteps T R before after steps (0, 0, between.left, between.right, 0)
  let st1 : LeftSt × State × Rat :=
    if after.left.full then
      let res := revealAfter T R st.2.2.1 st.2.2.2.1 { pointers := after.left.pointers, full := true } after.left.length
      (res.2.1, res.2.2, st.2.2.2.2 + res.1)
    else (st.2.2.1, st.2.2.2.1, st.2.2.2.2)
  if before.left.full then
    let res := revealBefore T R before.right before.right.length true st1.1 st1.2.1
    (res.2.1, res.2.2, st1.2.2 + res.1)
  else st1

end KV.Left
