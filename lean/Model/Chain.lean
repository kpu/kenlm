/-
Models of `util::ThreadPool` (util/thread_pool.hh) and `util::stream::Chain` / `Link` / `Recycler`
(util/stream/chain.hh, chain.cc) at the granularity of whole queue operations: every `PCQueue` is an
atomic bounded FIFO here (what `Model/PCQueue.lean` + `Properties/C17.lean` establish for the real
semaphore/mutex implementation: reads = prefix of writes, occupancy ≤ capacity, every step is a stutter or an enabled push or pop of
this FIFO, and while a push or pop is enabled some thread of the queue can step).  One step = one whole `Produce`, `Consume`, thread start
or `join`; `step … tid = none` means blocked / finished.  The scheduler is arbitrary.
Core Lean only.
-/
namespace KV.Chain

inductive Item | val (v : Nat) | poison
  deriving DecidableEq, Repr, Inhabited

def Item.isPoison : Item → Bool
  | .poison => true
  | .val _ => false

/-! ## ThreadPool

`ThreadPool(queue_length, workers, …)`; the user thread (tid 0) calls `Produce(r)` for every request and
then runs the destructor: `workers` × `Produce(poison)`, then `Join()` on every worker in order.
Worker `i` is thread `i+1`: `while (1) { in_.Consume(request); if (request == poison_) return; handler(request); }`. -/

inductive WPC | notStarted | running | finished
  deriving DecidableEq, Repr, Inhabited

structure Pool where
  cap      : Nat
  q        : List Item
  /-- main thread: items still to produce (requests, then one poison per worker) -/
  todo     : List Item
  /-- main thread: number of workers already joined -/
  joined   : Nat
  wpc      : List WPC
  /-- per worker: requests handled, in order -/
  handled  : List (List Nat)
  /-- ghost: (worker, item) in the order of the pops -/
  log      : List (Nat × Item)
  deriving Repr

def Pool.init (cap workers : Nat) (requests : List Nat) : Pool :=
  { cap := cap, q := [], todo := requests.map .val ++ List.replicate workers .poison, joined := 0,
    wpc := List.replicate workers .notStarted, handled := List.replicate workers [], log := [] }

def Pool.nworkers (p : Pool) : Nat := p.wpc.length

def Pool.step (p : Pool) (tid : Nat) : Option Pool :=
  match tid with
  | 0 =>
    match p.todo with
    | x :: rest => if p.q.length < p.cap then some { p with q := p.q ++ [x], todo := rest } else none
    | [] =>
      if p.joined < p.wpc.length then
        match p.wpc[p.joined]? with
        | some .finished => some { p with joined := p.joined + 1 }
        | _ => none
      else none
  | i + 1 =>
    match p.wpc[i]? with
    | some .notStarted => some { p with wpc := p.wpc.set i .running }
    | some .running =>
      match p.q with
      | [] => none
      | .poison :: q' => some { p with q := q', wpc := p.wpc.set i .finished, log := p.log ++ [(i, .poison)] }
      | .val v :: q' =>
        some { p with q := q', handled := p.handled.set i ((p.handled.getD i []) ++ [v]),
                      log := p.log ++ [(i, .val v)] }
    | _ => none

def Pool.enabledSet (p : Pool) : List Nat :=
  (List.range (p.wpc.length + 1)).filter (fun t => (p.step t).isSome)

def Pool.mainDone (p : Pool) : Bool := p.todo.isEmpty && p.joined == p.wpc.length

def Pool.allDone (p : Pool) : Bool := p.mainDone && p.wpc.all (· == .finished)

inductive Pool.Reach (p0 : Pool) : Pool → Prop
  | init : Pool.Reach p0 p0
  | step {p p' : Pool} {t : Nat} : Pool.Reach p0 p → p.step t = some p' → Pool.Reach p0 p'

/-- remaining steps: the termination measure -/
def Pool.measure (p : Pool) : Nat :=
  2 * p.todo.length + p.q.length + (p.wpc.length - p.joined) + p.wpc.countP (· == .notStarted)

/-! ## Chain

`b` blocks, `m ≥ 1` workers added with `>>` (stage 0 is the source: it fills blocks with the values `data`
and then calls `Link::Poison()`; stages `1..m-1` pass every block on after applying `xform`), then
`Chain::Wait()`: `CompleteLoop()` adds the `Recycler` (stage `m`), joins all threads in order, then drains
queue 0 until poison.  Queue `i` (capacity `b`) is the input of stage `i`; stage `i < m` writes queue `i+1`,
the recycler writes queue 0, which `Chain::Start` filled with the `b` blocks.  Thread 0 is the user thread,
stage `i` is thread `i+1`.

Every worker is `for (Link l(position); l; ++l) { body }`; `Link` is modelled operation by operation
(util/stream/chain.cc:105-155), including the `poisoned_` flag that decides whether `~Link` forwards the poison:

  Link::Init        poisoned_ = false; in_->Consume(current_);                               pc `init`
  operator++        out_->Produce(current_);                                                 pc `incProduce`
                    in_->Consume(current_);                                                  pc `incConsume`
                    if (!current_) { poisoned_ = true; out_->Produce(current_); }            pc `incPoison`
  Link::Poison      current_.SetToPoison(); out_->Produce(current_); poisoned_ = true;       pc `poisonCall`
  Link::~Link       if (current_) {message} else if (!poisoned_) out_->Produce(current_);    pc `dtor`
-/

inductive LPC | start | init | incProduce | incConsume | incPoison | poisonCall | dtor | finished
  deriving DecidableEq, Repr, Inhabited

structure Stage where
  pc       : LPC := .start
  /-- `Link::current_` (a default `Block` is null = poison) -/
  cur      : Item := .poison
  /-- `Link::poisoned_` -/
  poisoned : Bool := true
  /-- ghost: everything this stage has consumed / produced, in order -/
  inp      : List Item := []
  out      : List Item := []
  deriving Repr, Inhabited

inductive MPC
  | fill (k : Nat)      -- `Chain::Start`: k blocks still to put into queue 0
  | join (i : Nat)      -- `threads_.clear()`: joining thread i (1-based)
  | drain (i : Nat)     -- `for (i = 0; queues_.front().Consume(); ++i)`
  | aborted             -- "Chain ending without poison."
  | finished
  deriving DecidableEq, Repr, Inhabited

/-- what pass-through worker with thread id `j` does to the content of a block -/
def xform (j : Nat) (c : Nat) : Nat := c * 10 + j

def upd {α : Type} (f : Nat → α) (i : Nat) (v : α) : Nat → α := fun j => if j = i then v else f j

/-- the atomic bounded FIFO that `Properties/C17.lean` (`pcqueue_refines_fifo`) shows the semaphore
implementation to refine: `push` is enabled iff the buffer is not full, `pop` iff it is not empty. -/
def fifoPush {α : Type} (cap : Nat) (buf : List α) (x : α) : Option (List α) :=
  if buf.length < cap then some (buf ++ [x]) else none

def fifoPop {α : Type} (buf : List α) : Option (α × List α) :=
  match buf with
  | [] => none
  | x :: rest => some (x, rest)

structure Chain where
  b       : Nat
  /-- stages `0..m`; stage `m` is the recycler -/
  m       : Nat
  data    : List Nat
  q       : Nat → List Item
  main    : MPC
  st      : Nat → Stage
  /-- ghost: what `Chain::Wait` has consumed from queue 0 -/
  drained : List Item
  /-- the loop body of pass-through stage `i` (`1 ≤ i < m`) as a function of everything the stage has received
  so far and the content of the current block: any deterministic, possibly STATEFUL, stream transducer -/
  tr      : Nat → List Item → Nat → Nat := fun i _ v => xform (i + 1) v

def Chain.init (b m : Nat) (data : List Nat) : Chain :=
  { b := b, m := m, data := data, q := fun _ => [], main := .fill b, st := fun _ => {}, drained := [] }

/-- a chain whose pass-through stages run the given transducers -/
def Chain.initT (b m : Nat) (data : List Nat) (tr : Nat → List Item → Nat → Nat) : Chain :=
  { Chain.init b m data with tr := tr }

/-- loop body of stage `i` on a block with content `v` after having received `hist`: `some v'` = pass the block on
with content `v'`, `none` = call `Link::Poison()` and leave the loop -/
def Chain.body (c : Chain) (i : Nat) (hist : List Item) (v : Nat) : Option Nat :=
  if i = 0 then c.data[hist.length]?
  else if i = c.m then some v
  else some (c.tr i hist v)

/-- `Link::~Link` -/
def exitLoop (s : Stage) : Stage :=
  match s.cur with
  | .val _ => { s with pc := .finished }
  | .poison => if s.poisoned then { s with pc := .finished } else { s with pc := .dtor }

/-- the loop condition `l` (operator bool) followed by the body -/
def Chain.loopTest (c : Chain) (i : Nat) (hist : List Item) (s : Stage) : Stage :=
  match s.cur with
  | .val v =>
    match c.body i hist v with
    | some v' => { s with cur := .val v', pc := .incProduce }
    | none => { s with pc := .poisonCall }
  | .poison => exitLoop s

/-- queue written by stage `i` -/
def Chain.outQ (c : Chain) (i : Nat) : Nat := if i = c.m then 0 else i + 1

def Chain.stageStep (c : Chain) (i : Nat) : Option Chain :=
  let s := c.st i
  match s.pc with
  | .start =>
    -- the threads are created by the user thread after `Chain::Start` has filled queue 0
    match c.main with
    | .fill _ => none
    | _ => some { c with st := upd c.st i { s with pc := .init } }
  | .init =>
    match fifoPop (c.q i) with
    | none => none
    | some (x, rest) =>
      let s1 := { s with poisoned := false, cur := x, inp := s.inp ++ [x] }
      some { c with q := upd c.q i rest, st := upd c.st i (c.loopTest i s.inp s1) }
  | .incProduce =>
    match fifoPush c.b (c.q (c.outQ i)) s.cur with
    | none => none
    | some buf =>
      some { c with q := upd c.q (c.outQ i) buf, st := upd c.st i { s with pc := .incConsume, out := s.out ++ [s.cur] } }
  | .incConsume =>
    match fifoPop (c.q i) with
    | none => none
    | some (x, rest) =>
      let s1 := { s with cur := x, inp := s.inp ++ [x] }
      let s2 := match x with
        | .poison => { s1 with poisoned := true, pc := .incPoison }
        | .val _ => c.loopTest i s.inp s1
      some { c with q := upd c.q i rest, st := upd c.st i s2 }
  | .incPoison =>
    match fifoPush c.b (c.q (c.outQ i)) s.cur with
    | none => none
    | some buf =>
      some { c with q := upd c.q (c.outQ i) buf, st := upd c.st i (exitLoop { s with out := s.out ++ [s.cur] }) }
  | .poisonCall =>
    match fifoPush c.b (c.q (c.outQ i)) .poison with
    | none => none
    | some buf =>
      some { c with q := upd c.q (c.outQ i) buf,
                    st := upd c.st i (exitLoop { s with cur := .poison, poisoned := true, out := s.out ++ [.poison] }) }
  | .dtor =>
    match fifoPush c.b (c.q (c.outQ i)) s.cur with
    | none => none
    | some buf =>
      some { c with q := upd c.q (c.outQ i) buf, st := upd c.st i { s with pc := .finished, out := s.out ++ [s.cur] } }
  | .finished => none

def Chain.mainStep (c : Chain) : Option Chain :=
  match c.main with
  | .fill (k + 1) =>
    match fifoPush c.b (c.q 0) (.val 0) with
    | none => none
    | some buf => some { c with q := upd c.q 0 buf, main := if k = 0 then .join 1 else .fill k }
  | .fill 0 => some { c with main := .join 1 }
  | .join i =>
    match (c.st (i - 1)).pc with
    | .finished => some { c with main := if i = c.m + 1 then .drain 0 else .join (i + 1) }
    | _ => none
  | .drain k =>
    match fifoPop (c.q 0) with
    | none => none
    | some (.poison, rest) => some { c with q := upd c.q 0 rest, drained := c.drained ++ [.poison], main := .finished }
    | some (.val v, rest) =>
      some { c with q := upd c.q 0 rest, drained := c.drained ++ [.val v],
                    main := if k = c.b then .aborted else .drain (k + 1) }
  | _ => none

def Chain.step (c : Chain) (tid : Nat) : Option Chain :=
  match tid with
  | 0 => c.mainStep
  | i + 1 => if i ≤ c.m then c.stageStep i else none

def Chain.enabledSet (c : Chain) : List Nat :=
  (List.range (c.m + 2)).filter (fun t => (c.step t).isSome)

def Chain.stagesDone (c : Chain) : Bool := (List.range (c.m + 1)).all (fun i => (c.st i).pc == .finished)

def Chain.allDone (c : Chain) : Bool := c.main == .finished && c.stagesDone

/-- contents of the blocks stage `i` received, in order -/
def Chain.seen (c : Chain) (i : Nat) : List Nat :=
  (c.st i).inp.filterMap fun x => match x with | .val v => some v | .poison => none

inductive Chain.Reach (c0 : Chain) : Chain → Prop
  | init : Chain.Reach c0 c0
  | step {c c' : Chain} {t : Nat} : Chain.Reach c0 c → c.step t = some c' → Chain.Reach c0 c'

/-! ## Stream (util/stream/stream.hh)

A `Stream` iterates over the records of the blocks its `Link` receives.  The blocking behaviour of the `Link` is
covered by the Chain model; here the `Link` is seen sequentially: the current block (`none` = poison; a block =
the list of its valid records, `ValidSize = entry_size * length`), the blocks still to come (the input ends with
the poison), and what has been passed downstream. -/

structure SLink where
  cur      : Option (List Nat)
  rest     : List (List Nat)
  passed   : List (Option (List Nat))
  poisoned : Bool
  deriving Repr, DecidableEq

/-- `Link::Init`: the first `Consume` -/
def SLink.init : List (List Nat) → SLink
  | [] => { cur := none, rest := [], passed := [], poisoned := false }
  | b :: r => { cur := some b, rest := r, passed := [], poisoned := false }

/-- `Link::operator++` (on a non-poison block): pass the block on, take the next; the end of the input is the
poison, which is forwarded at once (`poisoned_ = true`) -/
def SLink.inc (l : SLink) : SLink :=
  match l.rest with
  | [] => { cur := none, rest := [], passed := l.passed ++ [l.cur, none], poisoned := true }
  | b :: r => { cur := some b, rest := r, passed := l.passed ++ [l.cur], poisoned := l.poisoned }

/-- `Link::~Link`: forward the poison unless it has been forwarded -/
def SLink.finish (l : SLink) : List (Option (List Nat)) :=
  if l.poisoned then l.passed else l.passed ++ [none]

structure Stream where
  link : SLink
  /-- `(current_ - block start) / entry_size` and `(end_ - block start) / entry_size` -/
  pos  : Nat
  endp : Nat
  /-- `current_ == NULL` -/
  null : Bool
  deriving Repr, DecidableEq

/-- `for (; block_it_ && !block_it_->ValidSize(); ++block_it_) {}` — skips ALL empty blocks -/
def skipEmpty : Option (List Nat) → List (List Nat) → List (Option (List Nat)) → Bool → SLink
  | some [], b :: r, passed, p => skipEmpty (some b) r (passed ++ [some []]) p
  | some [], [], passed, _ => { cur := none, rest := [], passed := passed ++ [some [], none], poisoned := true }
  | cur, rest, passed, p => { cur := cur, rest := rest, passed := passed, poisoned := p }

/-- `Stream::StartBlock` -/
def startBlock (l : SLink) : Stream :=
  let l' := skipEmpty l.cur l.rest l.passed l.poisoned
  match l'.cur with
  | none => { link := l', pos := 0, endp := 0, null := true }
  | some b => { link := l', pos := 0, endp := b.length, null := false }

/-- `StartBlock` of the change seeded as C17-4: `if (block_it_ && !block_it_->ValidSize()) ++block_it_;` -/
def startBlockOnce (l : SLink) : Stream :=
  let l' := match l.cur with
    | some [] => l.inc
    | _ => l
  match l'.cur with
  | none => { link := l', pos := 0, endp := 0, null := true }
  | some b => { link := l', pos := 0, endp := b.length, null := false }

def Stream.init (blocks : List (List Nat)) : Stream := startBlock (SLink.init blocks)

/-- `*stream`: the record at `current_`; `none` = a read beyond `ValidSize` (or through NULL) -/
def Stream.get (s : Stream) : Option Nat :=
  match s.link.cur with
  | some b => b[s.pos]?
  | none => none

/-- `Stream::operator++` with the given `StartBlock` -/
def Stream.incWith (sb : SLink → Stream) (s : Stream) : Stream :=
  if s.pos + 1 = s.endp then sb s.link.inc else { s with pos := s.pos + 1 }

def Stream.inc (s : Stream) : Stream := s.incWith startBlock

/-- `for (Stream s(position); s; ++s) yield(*s)` with at most `fuel` iterations -/
def Stream.collectWith (sb : SLink → Stream) : Nat → Stream → List (Option Nat) × Stream
  | 0, s => ([], s)
  | f + 1, s =>
    if s.null then ([], s)
    else
      let r := Stream.collectWith sb f (s.incWith sb)
      (s.get :: r.1, r.2)

def Stream.collect (fuel : Nat) (s : Stream) : List (Option Nat) × Stream := Stream.collectWith startBlock fuel s

end KV.Chain
