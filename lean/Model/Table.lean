import Model.Arpa
/-
L1 — the abstract table (DESIGN §4): what every search structure of kenlm represents after
loading an ARPA file.  Keys are reversed n-grams.  Besides the real entries it contains a
*hallucinated blank* for every proper reversed prefix of a real entry that is not itself
an n-gram of the file (SRI-style pruning), with `prob = score` of that shorter n-gram and
back-off 0 — this is what `FindLower/AdjustLower` (lm/search_hashed.cc) and
`BlankManager/SRISucks` (lm/search_trie.cc) compute.

Marks:
* `extendsLeft g`  ⇔ some entry (real or blank) of the next order has `g` as reversed prefix
  (probing: cleared sign bit of `prob`; trie: non-empty child range) = `!independent_left`;
* `extendsRight g` ⇔ back-off ≠ 0 (as float32) or some entry (real or blank) of the next order has
  `g` as its context (`SetExtension`, `kExtensionBackoff`) = `HasExtension(backoff)`;
  a hallucinated `<unk>` gets `+0.0`, i.e. `extendsRight = true` (model.cc:121-126).
* `unmarked` (pre-observation G): the trie builder loses the `extendsRight` mark of some
  *blanks* (those whose message sorts after the last real entry of the order).  `build` takes
  the set of blanks that lose their mark as a parameter; `fun _ => false` is probing / the
  repaired trie.  The probability theorems hold for every `unmarked`.
-/
namespace KV.Table
open KV.Arpa

structure TEntry where
  prob : Rat
  backoff : Rat
  extendsLeft : Bool
  extendsRight : Bool
  blank : Bool
deriving Repr, DecidableEq, Inhabited

structure Table where
  order : Nat
  lookup : List Word → Option TEntry

/-- some n-gram of the model has `g` as a proper reversed prefix -/
def extendsLeft (a : Arpa) (g : List Word) : Bool :=
  a.entries.any fun p => g.length < p.1.length && g.isPrefixOf p.1

/-- some table entry `x :: c …` (real, or blank = reversed prefix of a real one) has `c` as context -/
def isContext (a : Arpa) (c : List Word) : Bool :=
  a.entries.any fun p => c.length < p.1.length && c.isPrefixOf p.1.tail

def build (a : Arpa) (unmarked : List Word → Bool := fun _ => false) : Table where
  order := a.order
  lookup g :=
    match g with
    | [] => none
    | w :: ctx =>
      match a.gram (w :: ctx) with
      | some e => some { prob := e.prob, backoff := e.backoff, extendsLeft := extendsLeft a (w :: ctx),
                         extendsRight := e.backoff != 0 || isContext a (w :: ctx) ||
                                         (a.unkHallucinated && (w :: ctx) == [0]),
                         blank := false }
      | none =>
        if extendsLeft a (w :: ctx) then
          some { prob := score a ctx w, backoff := 0, extendsLeft := true,
                 extendsRight := isContext a (w :: ctx) && !unmarked (w :: ctx), blank := true }
        else none

/-- The probing structures encode "does not extend left" in the sign bit of `prob`.  `ReadNGrams`
forces the bit on for orders ≥ 2 (`util::SetSign`), but in the unrepaired code (before /repo cdeb133) `Read1Gram`
stores a unigram probability as parsed: a unigram whose log-probability is `+0.0` has the bit clear and is reported as
extending left although no bigram ends in it (observable only with an empty supplied context).  The trie
(empty child range) does not have this quirk. -/
def withSignQuirk (a : Arpa) (T : Table) : Table :=
  { T with lookup := fun g =>
      match T.lookup g, g with
      | some t, [w] => if (a.gram [w]).any (·.plusZero) then some { t with extendsLeft := true } else some t
      | r, _ => r }

/-- all keys of the table: real n-grams and blanks (for enumeration / memoisation in drivers) -/
def keys (a : Arpa) : List (List Word) :=
  let real := a.entries.map (·.1)
  let pre := a.entries.flatMap fun p => (List.range p.1.length).filterMap fun n => if n = 0 then none else some (p.1.take n)
  (real ++ pre.filter (fun g => !a.isReal g)).eraseDups

/-- "proper model" of the property text: every stored probability (incl. backed-off blanks) ≤ 0 -/
def proper (a : Arpa) : Bool :=
  (keys a).all fun g => match (build a).lookup g with
    | some t => t.prob ≤ 0
    | none => true

def blankCount (a : Arpa) : Nat := ((keys a).filter (fun g => !a.isReal g)).length

end KV.Table
