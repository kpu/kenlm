import Model.Score
import Model.Search
import Model.Binary
import Model.Bhiksha
/-!
L2b — `trie::TrieSearch<Quant, Bhiksha>` (lm/search_trie.hh, lm/trie.{hh,cc}, lm/bhiksha.hh, lm/quantize.hh) over a
little-endian `Nat` memory (`Model/Bits.lean`): the *bytes of a binary file* are the model's state.

* unigrams: array of `UnigramValue { float prob; float backoff; uint64_t next; }`; the child range of word `w` is
  `[unigram[w].next, unigram[w+1].next)`.
* middle order `om2` (n-grams of length `om2+2`): records of `total_bits` bits at `base_`:
  `word (word_bits) | values (quant_bits) | next pointer inline bits`; `Find(word, range)` is `FindBitPacked` =
  `BoundedSortedUniformFind(accessor, begin-1, 0, end, max_vocab, key)` with `Pivot32`, then `Bhiksha::ReadNext`.
* longest order: `word | prob`.
* values: `DontQuantize` (`ReadNonPositiveFloat31`, `ReadFloat32` at +31) or `SeparatelyQuantize` (`ReadInt25` codes
  into float tables stored in the same memory).

Positions: `KV.Search.bfind` keeps array index `i` at position `i+1`, so the call `(begin-1, 0, end, max_vocab)` of the
code (whose `begin-1` wraps for `begin = 0`, consistently in `uint64_t`) is `(begin, 0, end+1, max_vocab)` here.
Values are float32 bit patterns; `fval` (bits → exact rational) is a parameter of `search`.
-/
namespace KV.TrieLM
open KV.Bits KV.Score KV.Arpa KV.Binary

/-- `NodeRange { begin, end }` -/
abbrev Node := Nat × Nat

def load8 (mem byteOff : Nat) : Nat := (mem >>> (8 * byteOff)) % 2^8
def load32 (mem byteOff : Nat) : Nat := (mem >>> (8 * byteOff)) % 2^32
def load64 (mem byteOff : Nat) : Nat := (mem >>> (8 * byteOff)) % 2^64

inductive Bhik where
  | dont (bits : Nat)                          -- `DontBhiksha`: `next_.bits`
  | array (bits offBegin count : Nat)          -- `ArrayBhiksha`: `next_inline_.bits`, `offset_begin_` (byte offset), entries
  deriving Repr, DecidableEq

/-- `SeparatelyQuantize` after `SetupMemory`: bit widths and the byte offsets of the float tables
(`tables_[i][0]`, `tables_[i][1]` for each middle order, then `longest_`) -/
structure Quant where
  probBits : Nat
  backoffBits : Nat
  tables : List Nat
  deriving Repr, DecidableEq

/-- `BitPackedMiddle<Bhiksha>` after construction -/
structure Middle where
  base : Nat            -- byte offset of `base_`
  wordBits : Nat
  totalBits : Nat
  quantBits : Nat
  maxVocab : Nat
  bhik : Bhik
  deriving Repr, DecidableEq

/-- `BitPackedLongest` after `Init` -/
structure Longest where
  base : Nat
  wordBits : Nat
  totalBits : Nat
  maxVocab : Nat
  deriving Repr, DecidableEq

structure Trie where
  mem : Nat
  order : Nat
  bound : Nat            -- vocabulary bound = counts[0]: valid word ids are `[0, bound)`
  unigram : Nat          -- byte offset of the unigram array
  middles : List Middle
  longest : Longest
  quant : Option Quant   -- `none` = `DontQuantize`
  deriving Repr

instance : Inhabited Middle := ⟨⟨0, 0, 0, 0, 0, .dont 0⟩⟩

/-! ## reading records -/

/-- bit address of record `i` of a bit-packed array at byte offset `base` -/
def recAddr (base totalBits i : Nat) : Nat := 8 * base + i * totalBits

/-- `KeyAccessor::operator()(index)` -/
def wordAt (mem base wordBits totalBits i : Nat) : Nat := readInt57 mem (recAddr base totalBits i) wordBits

/-- `FindBitPacked(base, mask, key_bits, total_bits, begin_index, end_index, max_vocab, key, at_index)` -/
def findBitPacked (mem base wordBits totalBits maxVocab key : Nat) (range : Node) : Option Nat :=
  (KV.Search.bfind (fun pos => wordAt mem base wordBits totalBits (pos - 1)) KV.Search.pivot32 key
      (range.2 + 1 - range.1) range.1 0 (range.2 + 1) maxVocab).map (· - 1)

/-- `Bhiksha::ReadNext(base, bit_offset, index, total_bits, out)` -/
def readNext (mem : Nat) (b : Bhik) (bitOff index totalBits : Nat) : Node :=
  match b with
  | .dont bits => (readInt57 mem bitOff bits, readInt57 mem (bitOff + totalBits) bits)
  | .array bits offBegin count =>
    let table := (List.range count).map (fun j => load64 mem (offBegin + 8 * j))
    let bi := KV.Bhiksha.upperBound table index - 1
    let ei := bi + 1 + ((table.drop (bi + 1)).takeWhile (· ≤ index + 1)).length - 1
    ((bi <<< bits) ||| readInt57 mem bitOff bits, (ei <<< bits) ||| readInt57 mem (bitOff + totalBits) bits)

/-- float bits of (prob, backoff) of a middle record whose value field starts at bit `addr`
(`DontQuantize::MiddlePointer` / `SeparatelyQuantize::MiddlePointer`) -/
def middleValues (mem : Nat) (q : Option Quant) (om2 addr : Nat) : Nat × Nat :=
  match q with
  | none => (readNonPositiveFloat31 mem addr, readFloat32 mem (addr + 31))
  | some q =>
    let bcode := readInt25 mem addr q.backoffBits
    let pcode := readInt25 mem (addr + q.backoffBits) q.probBits
    (load32 mem (q.tables.getD (2 * om2) 0 + 4 * pcode), load32 mem (q.tables.getD (2 * om2 + 1) 0 + 4 * bcode))

/-- float bits of the probability of a longest-order record (`LongestPointer::Prob`) -/
def longestValue (mem : Nat) (q : Option Quant) (order addr : Nat) : Nat :=
  match q with
  | none => readNonPositiveFloat31 mem addr
  | some q => load32 mem (q.tables.getD (2 * (order - 2)) 0 + 4 * readInt25 mem addr q.probBits)

/-- `kNoExtensionBackoff = -0.0f` -/
def noExtensionBits : Nat := 0x80000000

/-- what the pointers return: float bits and the child range -/
structure Rec where
  probBits : Nat
  backoffBits : Nat
  range : Node
  deriving Repr, DecidableEq

/-- `Unigram::Find(word, next)` -/
def unigramRec (M : Trie) (w : Word) : Rec :=
  let off := M.unigram + Gen.C04.sizeofTrieUnigramValue * w
  { probBits := load32 M.mem off, backoffBits := load32 M.mem (off + 4),
    range := (load64 M.mem (off + 8), load64 M.mem (off + Gen.C04.sizeofTrieUnigramValue + 8)) }

def Trie.middle (M : Trie) (om2 : Nat) : Middle := M.middles.getD om2 default

/-- record `i` of middle order `om2` (`BitPackedMiddle::Find` after a successful `FindBitPacked`, or `ReadEntry`) -/
def middleRec (M : Trie) (om2 i : Nat) : Rec :=
  let m := M.middle om2
  let addr := recAddr m.base m.totalBits i + m.wordBits
  let v := middleValues M.mem M.quant om2 addr
  { probBits := v.1, backoffBits := v.2, range := readNext M.mem m.bhik (addr + m.quantBits) i m.totalBits }

/-- `BitPackedMiddle::Find(word, range, pointer)`: index of the record, if any -/
def middleFind (M : Trie) (om2 : Nat) (w : Word) (node : Node) : Option Nat :=
  let m := M.middle om2
  findBitPacked M.mem m.base m.wordBits m.totalBits m.maxVocab w node

/-- `BitPackedLongest::Find(word, range)` -/
def longestFind (M : Trie) (w : Word) (node : Node) : Option Nat :=
  findBitPacked M.mem M.longest.base M.longest.wordBits M.longest.totalBits M.longest.maxVocab w node

def longestProbBits (M : Trie) (i : Nat) : Nat :=
  longestValue M.mem M.quant M.order (recAddr M.longest.base M.longest.totalBits i + M.longest.wordBits)

/-! ## the `Search` interface of `GenericModel` -/

def toFound (fval : Nat → Rat) (r : Rec) : Found :=
  { prob := fval r.probBits, backoff := fval r.backoffBits, extendsRight := r.backoffBits != noExtensionBits,
    independentLeft := r.range.1 == r.range.2, rest := fval r.probBits }

/-- `FastMakeNode(begin, end, node)` -/
def fastMakeNode (M : Trie) : List Word → Option Node
  | [] => none
  | w :: rest =>
    let rec go : List Word → Nat → Node → Option Node
      | [], _, node => some node
      | x :: xs, om2, node =>
        if node.1 == node.2 then none
        else match middleFind M om2 x node with
          | none => none
          | some i => go xs (om2 + 1) (middleRec M om2 i).range
    go rest 0 (unigramRec M w).range

/-- `LookupUnigram / LookupMiddle / LookupLongest / FastMakeNode` of `TrieSearch` -/
def search (fval : Nat → Rat) (M : Trie) : Search Node where
  order := M.order
  lookupUnigram w := (toFound fval (unigramRec M w), (unigramRec M w).range)
  lookupMiddle om2 w node :=
    match middleFind M om2 w node with
    | none => (none, node)
    | some i => (some (toFound fval (middleRec M om2 i)), (middleRec M om2 i).range)
  lookupLongest w node := (longestFind M w node).map (fun i => fval (longestProbBits M i))
  fastMakeNode ws := fastMakeNode M ws

/-! ## from the file layout -/

/-- the trie a loader sees in a file: `SetupMemory` offsets of `Model/Binary.lean` over the file's bytes `mem` -/
def ofLayout (mem : Nat) (quant array : Bool) (cfg : Config) (counts : List Nat) (searchStart : Nat) : Trie :=
  let r := trieSetup quant array cfg counts searchStart
  { mem := mem, order := counts.length, bound := cnt counts 0, unigram := r.unigram,
    middles := r.middles.map (fun m =>
      { base := m.packed, wordBits := m.wordBits, totalBits := m.totalBits, quantBits := m.quantBits, maxVocab := cnt counts 0,
        bhik := if array then .array m.inline m.offBegin ((m.offEnd - m.offBegin) / 8) else .dont m.inline }),
    longest := { base := r.longest.1, wordBits := r.longest.2.1, totalBits := r.longest.2.2, maxVocab := cnt counts 0 },
    quant := if quant then some { probBits := cfg.probBits, backoffBits := cfg.backoffBits, tables := r.quantTables } else none }

/-- lookup of a reversed n-gram along the chain of child ranges, as `GenericModel` would do it: the records met -/
def lookupChain (M : Trie) : List Word → List (Option Rec)
  | [] => []
  | w :: rest =>
    let u := unigramRec M w
    let rec go : List Word → Nat → Node → List (Option Rec)
      | [], _, _ => []
      | x :: xs, om2, node =>
        if om2 + 2 = M.order then
          match longestFind M x node with
          | none => [none]
          | some i => [some { probBits := longestProbBits M i, backoffBits := 0, range := (0, 0) }]
        else
          match middleFind M om2 x node with
          | none => [none]
          | some i => some (middleRec M om2 i) :: go xs (om2 + 1) (middleRec M om2 i).range
    some u :: go rest 0 u.range

/-! ## exact value of a float32 bit pattern (inf/NaN do not occur in a model; mapped to 0) -/

def f32ToRat (bits : Nat) : Rat :=
  let e : Nat := bits / 2^23 % 256
  let m : Nat := bits % 2^23
  let num : Nat := if e = 255 then 0 else if e = 0 then m else if e ≥ 150 then (2^23 + m) * 2^(e - 150) else 2^23 + m
  let den : Nat := if e = 255 then 1 else if e = 0 then 2^149 else if e ≥ 150 then 1 else 2^(150 - e)
  let mag : Rat := (num : Rat) / (den : Rat)
  if bits / 2^31 % 2 = 1 then -mag else mag

/-! ## a decidable sufficient condition for `Represents` over a finite table -/

/-- finite table: reversed n-grams (real and blank) with their entries -/
abbrev FT := List (List Word × KV.Table.TEntry)

def tableOf (ft : FT) (order : Nat) : KV.Table.Table := { order := order, lookup := fun g => ft.lookup g }

def idxs (r : Node) : List Nat := List.range' r.1 (r.2 - r.1)

def sortedCheck (key : Nat → Nat) (r : Node) : Bool :=
  (idxs r).all fun i => (idxs r).all fun j => decide (i ≤ j → key i ≤ key j)

def midKey (M : Trie) (om2 : Nat) : Nat → Nat :=
  wordAt M.mem (M.middle om2).base (M.middle om2).wordBits (M.middle om2).totalBits
def longKey (M : Trie) : Nat → Nat := wordAt M.mem M.longest.base M.longest.wordBits M.longest.totalBits

def chkUni (fval : Nat → Rat) (M : Trie) (ft : FT) (rng : List Word → Node) : Bool :=
  (List.range M.bound).all fun w =>
    match ft.lookup [w] with
    | some t => decide (toFound fval (unigramRec M w) = Score.toFound t) && decide ((unigramRec M w).range = rng [w])
    | none => false

def chkBounds (M : Trie) (order : Nat) : Bool :=
  (List.range (order - 2)).all (fun om2 => decide (M.bound ≤ (M.middle om2).maxVocab + 1)) && decide (M.bound ≤ M.longest.maxVocab + 1)

/-- the child range of `g`: sorted, and every record is a table entry with the record's values and child range -/
def chkChildren (fval : Nat → Rat) (M : Trie) (ft : FT) (order : Nat) (rng : List Word → Node) (g : List Word) : Bool :=
  if 1 ≤ g.length ∧ g.length + 1 < order then
    let om2 := g.length - 1
    sortedCheck (midKey M om2) (rng g) &&
    (idxs (rng g)).all fun i =>
      match ft.lookup (g ++ [midKey M om2 i]) with
      | some t => decide (toFound fval (middleRec M om2 i) = Score.toFound t) &&
                  decide ((middleRec M om2 i).range = rng (g ++ [midKey M om2 i]))
      | none => false
  else if 1 ≤ g.length ∧ g.length + 1 = order then
    sortedCheck (longKey M) (rng g) &&
    (idxs (rng g)).all fun i =>
      match ft.lookup (g ++ [longKey M i]) with
      | some t => decide (fval (longestProbBits M i) = t.prob)
      | none => false
  else true

/-- every entry of length ≥ 2 has a record in the child range of its parent -/
def chkComplete (M : Trie) (order : Nat) (rng : List Word → Node) (g' : List Word) : Bool :=
  if 2 ≤ g'.length then
    let g := g'.dropLast
    let w := g'.getLast?.getD 0
    if g'.length < order then (idxs (rng g)).any fun i => decide (midKey M (g.length - 1) i = w)
    else if g'.length = order then (idxs (rng g)).any fun i => decide (longKey M i = w)
    else false
  else true

def check (fval : Nat → Rat) (M : Trie) (ft : FT) (order : Nat) (rng : List Word → Node) : Bool :=
  decide (M.order = order) && chkUni fval M ft rng && chkBounds M order &&
  ft.all (fun p => chkChildren fval M ft order rng p.1) && ft.all (fun p => chkComplete M order rng p.1)

/-! ## a constructive builder: table → trie memory (TrieModel layout: `DontQuantize`, `DontBhiksha`)

What `BuildTrie` / `RecursiveInsert` / `WriteEntries` leave in memory, as a pure fold: level `k+1` is the concatenation, over the
records of level `k` in order, of their children sorted by word id; the `next` pointer of a record is the running count of
children before it; one extra record per order holds the end pointer.  Input is a *bit table*: reversed n-grams (real and
blank) with the float bits of probability and back-off (back-off bits already carry the extension mark). -/

abbrev BT := List (List Word × (Nat × Nat))

def insertNat (x : Nat) : List Nat → List Nat
  | [] => [x]
  | y :: ys => if x ≤ y then x :: y :: ys else y :: insertNat x ys

def sortNat (l : List Nat) : List Nat := l.foldr insertNat []

/-- words `w` such that `g ++ [w]` is a key, ascending -/
def childrenOf (bt : BT) (g : List Word) : List Word :=
  sortNat (bt.filterMap fun p => if p.1.length = g.length + 1 ∧ p.1.dropLast = g then p.1.getLast? else none)

def nextLevel (bt : BT) (lvl : List (List Word)) : List (List Word) :=
  lvl.flatMap fun g => (childrenOf bt g).map (fun w => g ++ [w])

/-- level `k` (1-based): the records of order `k` in array order -/
def level (bt : BT) (bound : Nat) : Nat → List (List Word)
  | 0 => []
  | 1 => (List.range bound).map (fun w => [w])
  | k+1 => nextLevel bt (level bt bound k)

/-- `next` pointers of the records of a level, plus the end pointer -/
def childStarts (bt : BT) (lvl : List (List Word)) : List Nat :=
  (lvl.foldl (fun (acc : List Nat × Nat) g => (acc.1 ++ [acc.2], acc.2 + (childrenOf bt g).length)) ([], 0)).1
    ++ [(lvl.map fun g => (childrenOf bt g).length).sum]

def store (mem byteOff width v : Nat) : Nat := mem ||| ((v % 2^(8 * width)) <<< (8 * byteOff))

def valuesOf (bt : BT) (g : List Word) : Nat × Nat := (bt.lookup g).getD (0, 0)

def countsOf (bt : BT) (bound order : Nat) : List Nat := (List.range order).map fun k => (level bt bound (k + 1)).length

def writeUnigrams (bt : BT) (bound unigram : Nat) (mem : Nat) : Nat :=
  let lvl := level bt bound 1
  let starts := childStarts bt lvl
  let mem := (List.range bound).foldl (fun mem w =>
    let off := unigram + Gen.C04.sizeofTrieUnigramValue * w
    let v := valuesOf bt [w]
    store (store (store mem off 4 v.1) (off + 4) 4 v.2) (off + 8) 8 (starts.getD w 0)) mem
  store mem (unigram + Gen.C04.sizeofTrieUnigramValue * bound + 8) 8 (starts.getD bound 0)

def writeMiddle (bt : BT) (bound k : Nat) (m : Middle) (inline : Nat) (mem : Nat) : Nat :=
  let lvl := level bt bound k
  let starts := childStarts bt lvl
  let mem := (lvl.zip (List.range lvl.length)).foldl (fun mem gi =>
    let a := recAddr m.base m.totalBits gi.2
    let v := valuesOf bt gi.1
    let mem := writeInt57 mem a m.wordBits (gi.1.getLast?.getD 0)
    let mem := writeNonPositiveFloat31 mem (a + m.wordBits) v.1
    let mem := writeFloat32 mem (a + m.wordBits + 31) v.2
    writeInt57 mem (a + m.wordBits + m.quantBits) inline (starts.getD gi.2 0)) mem
  writeInt57 mem (recAddr m.base m.totalBits lvl.length + m.wordBits + m.quantBits) inline (starts.getD lvl.length 0)

def writeLongest (bt : BT) (bound order : Nat) (l : Longest) (mem : Nat) : Nat :=
  let lvl := level bt bound order
  (lvl.zip (List.range lvl.length)).foldl (fun mem gi =>
    let a := recAddr l.base l.totalBits gi.2
    let mem := writeInt57 mem a l.wordBits (gi.1.getLast?.getD 0)
    writeNonPositiveFloat31 mem (a + l.wordBits) (valuesOf bt gi.1).1) mem

def plainCfg : Config := ⟨Gen.C04.defaultMultiplierBits, 8, 8, 22⟩

/-- the same by the `Write*` functions of `Model/Bits.lean` in the order of the real calls; `ofTable` below gives the memory
as an OR of bit fields (no theorem relates the two formulations) -/
def ofTableWrites (bt : BT) (bound order start : Nat) : Trie :=
  let counts := countsOf bt bound order
  let shape := ofLayout 0 false false plainCfg counts start
  let mem := writeUnigrams bt bound shape.unigram 0
  let mem := (shape.middles.zip (List.range shape.middles.length)).foldl (fun mem mi =>
    let inline := match mi.1.bhik with | .dont b => b | .array b _ _ => b
    writeMiddle bt bound (mi.2 + 2) mi.1 inline mem) mem
  let mem := writeLongest bt bound order shape.longest mem
  { shape with mem := mem }

/-! ### the built memory as an OR of bit fields -/

/-- a bit field: offset, width, value -/
structure Field where
  off : Nat
  len : Nat
  val : Nat
  deriving DecidableEq, Repr

/-- memory obtained by OR-ing fields into `m` (what a sequence of `Write*` calls does to zero-initialised memory) -/
def orFields (m : Nat) (fs : List Field) : Nat := fs.foldl (fun m f => m ||| (f.val <<< f.off)) m

/-- an array of fixed-stride records: bit offset of record 0, stride, number of records, the slots `(offset, width)` inside a
record, and what is written into slot `s` of record `i` (`none`: never written, stays zero) -/
structure RegionSpec where
  base : Nat
  stride : Nat
  nrec : Nat
  slots : List (Nat × Nat)
  val : Nat → Nat → Option Nat

def RegionSpec.slotOff (R : RegionSpec) (s : Nat) : Nat := (R.slots.getD s (0, 0)).1
def RegionSpec.slotLen (R : RegionSpec) (s : Nat) : Nat := (R.slots.getD s (0, 0)).2
def RegionSpec.fieldAt (R : RegionSpec) (i s v : Nat) : Field := ⟨R.base + i * R.stride + R.slotOff s, R.slotLen s, v⟩

def RegionSpec.fields (R : RegionSpec) : List Field :=
  (List.range R.nrec).flatMap fun i => (List.range R.slots.length).filterMap fun s => (R.val i s).map (R.fieldAt i s)

def allFields (Rs : List RegionSpec) : List Field := Rs.flatMap RegionSpec.fields

/-- `Unigram` array: `UnigramValue { float prob; float backoff; uint64_t next; }`, one extra record for the end pointer -/
def uniRegion (bt : BT) (bound unigram : Nat) : RegionSpec :=
  let starts := childStarts bt (level bt bound 1)
  { base := 8 * unigram, stride := 8 * Gen.C04.sizeofTrieUnigramValue, nrec := bound + 1,
    slots := [(0, 32), (32, 32), (64, 64)],
    val := fun i s =>
      if s = 2 then some (starts.getD i 0 % 2^64)
      else if i < bound then (if s = 0 then some ((valuesOf bt [i]).1 % 2^32) else some ((valuesOf bt [i]).2 % 2^32))
      else none }

/-- middle order `k` (records of `BitPackedMiddle`: word | prob31 | backoff32 | next), one extra record for the end pointer -/
def midRegion (bt : BT) (bound k : Nat) (m : Middle) (inline : Nat) : RegionSpec :=
  let lvl := level bt bound k
  let starts := childStarts bt lvl
  { base := 8 * m.base, stride := m.totalBits, nrec := lvl.length + 1,
    slots := [(0, m.wordBits), (m.wordBits, 31), (m.wordBits + 31, 32), (m.wordBits + m.quantBits, inline)],
    val := fun i s =>
      if s = 3 then some (starts.getD i 0)
      else if i < lvl.length then
        (if s = 0 then some ((lvl.getD i []).getLast?.getD 0)
         else if s = 1 then some ((valuesOf bt (lvl.getD i [])).1 % 2^32 % 2^31)
         else some ((valuesOf bt (lvl.getD i [])).2))
      else none }

/-- longest order (`BitPackedLongest`: word | prob31) -/
def longRegion (bt : BT) (bound order : Nat) (l : Longest) : RegionSpec :=
  let lvl := level bt bound order
  { base := 8 * l.base, stride := l.totalBits, nrec := lvl.length,
    slots := [(0, l.wordBits), (l.wordBits, 31)],
    val := fun i s =>
      if s = 0 then some ((lvl.getD i []).getLast?.getD 0) else some ((valuesOf bt (lvl.getD i [])).1 % 2^32 % 2^31) }

def bhikBits : Bhik → Nat
  | .dont b => b
  | .array b _ _ => b

def regionsOf (bt : BT) (bound order : Nat) (shape : Trie) : List RegionSpec :=
  [uniRegion bt bound shape.unigram]
    ++ (shape.middles.zip (List.range shape.middles.length)).map (fun mi => midRegion bt bound (mi.2 + 2) mi.1 (bhikBits mi.1.bhik))
    ++ [longRegion bt bound order shape.longest]

/-- the trie (search region at offset `start`) built from a bit table: every `Write*` call of `WriteEntries` is one field -/
def ofTable (bt : BT) (bound order start : Nat) : Trie :=
  let shape := ofLayout 0 false false plainCfg (countsOf bt bound order) start
  { shape with mem := orFields 0 (allFields (regionsOf bt bound order shape)) }

/-- ghost child ranges of the built trie -/
def rngOf (bt : BT) (bound : Nat) (g : List Word) : Node :=
  let lvl := level bt bound g.length
  let starts := childStarts bt lvl
  let j := lvl.idxOf g
  (starts.getD j 0, starts.getD (j + 1) 0)

/-- the abstract table of a bit table -/
def ftOf (fval : Nat → Rat) (bt : BT) (order : Nat) : FT :=
  bt.map fun p =>
    (p.1, { prob := fval (if p.1.length = 1 then p.2.1 else p.2.1 % 2^31 + 2^31), backoff := if p.1.length = order then 0 else fval p.2.2,
            extendsLeft := if p.1.length = order then false else !(childrenOf bt p.1).isEmpty,
            extendsRight := if p.1.length = order then false else p.2.2 != noExtensionBits, blank := false })

end KV.TrieLM
