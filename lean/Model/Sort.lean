/-
Model of util/stream/sort.hh (external merge sort) — core Lean only, executable.

What is mirrored (file:line of /repo):
* `Offsets` (sort.hh:46-121): the run-length encoded log of sorted-run lengths
  (`Append`, `FinishedAppending`, `NextSize`), incl. the leading `(0,0)` entry and the
  fact that zero lengths are never logged.
* `BlockSorter` (sort.hh:361-380): every chain block is sorted on its own and its length
  logged (`blockSort`, `afterBlockSorter`).
* `MergeQueue` + the merge loop of `MergingReader::Run` (sort.hh:124-222, 291-302): a
  priority queue of (current record, rest of the run) entries; `Pop` removes an entry whose
  head is minimal and pushes the rest of that run back; the popped sequence is folded into
  the current output record by the combiner (`combineAdj`: `combine_(str.Get(), queue.Top())`
  only mutates the output record, never the queue).  Which of several *equal* minimal heads
  a binary heap returns is not specified by the code; the model takes an arbitrary function
  `pick` of (the queue as initially filled, the step number, the current queue content) — any
  deterministic heap is such a function — used when it names a minimal head, otherwise the
  first minimal head is taken; every theorem is proved for all `pick`.
* `MergingReader::Run` on zero / one / several runs (poison, `ReadSingle` — *no* combining —,
  grouped merge), `Sort::Merge` = a finite sequence of passes, each over a partition of the
  run list into consecutive groups, and the final lazy merge of `OwningMergingReader`
  (`extSort`).  The concrete arity logic of `Sort::Merge` / `MergingReader::Run`
  (`codeGroups`, `codeMerge`) is mirrored separately below and produces one such plan.

Records are any type `α` with a `Bool` comparison; `Rec` (key words + payload) with the
n-gram orders of lm/common/compare.hh is the instance used by the driver.
In the runs, passes and `Offsets` below sizes are counted in records, not bytes (the harness checks the byte-level
`Offsets`); the arity logic at the end of the file and `Model/SortBytes.lean` count bytes.
-/
namespace KV.Sort

/-! ## Comparisons -/

/-- The strict-weak-order laws a C++ `Compare` has to satisfy. -/
structure StrictWeak {α : Type} (lt : α → α → Bool) : Prop where
  irrefl : ∀ a, lt a a = false
  trans : ∀ a b c, lt a b = true → lt b c = true → lt a c = true
  incompTrans : ∀ a b c, lt a b = false → lt b a = false → lt b c = false → lt c b = false →
    lt a c = false ∧ lt c a = false

/-- `a` may come before `b` in sorted output: `!(b < a)`. -/
def le {α : Type} (lt : α → α → Bool) (a b : α) : Bool := !lt b a

/-- Records the comparison cannot tell apart. -/
def equiv {α : Type} (lt : α → α → Bool) (a b : α) : Bool := !lt a b && !lt b a

/-- A record: the key words (n-gram, or `[n]` for an integer key, or the bytes) and the
rest of the record as a number (e.g. the count). -/
structure Rec where
  key : List Nat
  payload : Nat
  deriving DecidableEq, Repr, Inhabited

/-- Lexicographic `<` on word lists; as `PrefixOrder::Compare` for equal lengths
(compare.hh:160-166: first differing word decides, all equal ⇒ false); a proper prefix is
smaller so that the order is total on all lists. -/
def lexLt : List Nat → List Nat → Bool
  | [], [] => false
  | [], _ :: _ => true
  | _ :: _, [] => false
  | a :: as, b :: bs => if a ≠ b then decide (a < b) else lexLt as bs

/-- `ContextOrder` looks at words `order-2 … 0`, then at the last word (compare.hh:123-129). -/
def contextKey (k : List Nat) : List Nat :=
  match k.reverse with
  | [] => []
  | last :: revInit => revInit ++ [last]

/-- `PrefixOrder` (compare.hh:160). -/
def prefixLt (r s : Rec) : Bool := lexLt r.key s.key
/-- `SuffixOrder`: words `order-1 … 0` (compare.hh:78-84). -/
def suffixLt (r s : Rec) : Bool := lexLt r.key.reverse s.key.reverse
/-- `ContextOrder`. -/
def contextLt (r s : Rec) : Bool := lexLt (contextKey r.key) (contextKey s.key)
/-- Integer order (e.g. `CompareUInt64` of sort_test.cc): the key is the one word `[n]`, compared
as an unsigned integer — i.e. `PrefixOrder` on a one-word key (`intLt_singleton`). -/
def intLt (r s : Rec) : Bool := lexLt r.key s.key
/-- A total order on whole records: key words first, then the payload. -/
def fullLt (r s : Rec) : Bool := lexLt (r.key ++ [r.payload]) (s.key ++ [s.payload])

/-- The counting combiner (`lm::builder::CombineCounts`, combine_counts.hh:16-26):
same words ⇒ add the counts into the first record. -/
def combineCounts (a b : Rec) : Option Rec :=
  if a.key = b.key then some { a with payload := a.payload + b.payload } else none

/-- `NeverCombine` (sort.hh:39-43). -/
def neverCombine {α : Type} (_ _ : α) : Option α := none

/-! ## Offsets: run-length encoded list of run lengths -/

/-- Writer side state: entries already written to the log, `cur_`, `block_count_`. -/
structure Offsets where
  log : List (Nat × Nat)
  cur : Nat × Nat
  blockCount : Nat
  deriving Repr, DecidableEq

/-- `Offsets::Reset` / constructor. -/
def Offsets.reset : Offsets := ⟨[], (0, 0), 0⟩

/-- `Offsets::Append` (sort.hh:54-64). -/
def Offsets.append (o : Offsets) (length : Nat) : Offsets :=
  if length = 0 then o
  else if length = o.cur.1 then
    { o with cur := (o.cur.1, o.cur.2 + 1), blockCount := o.blockCount + 1 }
  else
    { log := o.log ++ [o.cur], cur := (length, 1), blockCount := o.blockCount + 1 }

/-- Reader side state: unread entries of the log, `cur_`, `block_count_`, `output_sum_`. -/
structure OffsetsReader where
  rest : List (Nat × Nat)
  cur : Nat × Nat
  blockCount : Nat
  outputSum : Nat
  deriving Repr, DecidableEq

/-- `Offsets::FinishedAppending` (sort.hh:66-75); `none` = `ReadOrThrow` hits end of file
or an `assert` fails. -/
def Offsets.finish (o : Offsets) : Option OffsetsReader :=
  let file := (o.log ++ [o.cur]).drop 1      -- "Skip 0,0 at beginning."
  if o.blockCount = 0 then some ⟨file, (o.cur.1, 0), 0, 0⟩
  else match file with
    | e :: rest => if e.1 ≠ 0 ∧ e.2 ≠ 0 then some ⟨rest, e, o.blockCount, 0⟩ else none
    | [] => none

/-- `Offsets::NextSize` (sort.hh:85-98); `none` = assertion failure / read past the end. -/
def OffsetsReader.nextSize (r : OffsetsReader) : Option (Nat × OffsetsReader) :=
  if r.blockCount = 0 ∨ r.cur.2 = 0 then none
  else
    let ret := r.cur.1
    let run := r.cur.2 - 1
    let bc := r.blockCount - 1
    if run = 0 ∧ bc ≠ 0 then
      match r.rest with
      | e :: rest => if e.1 ≠ 0 ∧ e.2 ≠ 0 then some (ret, ⟨rest, e, bc, r.outputSum + ret⟩) else none
      | [] => none
    else some (ret, ⟨r.rest, (r.cur.1, run), bc, r.outputSum + ret⟩)

/-- Read `n` sizes. -/
def OffsetsReader.take : Nat → OffsetsReader → Option (List Nat)
  | 0, _ => some []
  | n + 1, r =>
    match r.nextSize with
    | none => none
    | some (s, r') => (OffsetsReader.take n r').map (s :: ·)

/-- The log as written by a sequence of `Append`s followed by `FinishedAppending`. -/
def offsetsEncode (lengths : List Nat) : Option OffsetsReader :=
  (lengths.foldl Offsets.append Offsets.reset).finish

/-- All `RemainingBlocks()` sizes, in order. -/
def offsetsDecode (r : OffsetsReader) : Option (List Nat) := r.take r.blockCount

/-- Cut a file into consecutive pieces of the given lengths (reader side: piece `i` starts
at `TotalOffset()` = sum of the earlier lengths). -/
def splitLens {β : Type} : List Nat → List β → List (List β)
  | [], _ => []
  | n :: ns, xs => xs.take n :: splitLens ns (xs.drop n)

/-- Read `n` (offset, size) pairs the way `MergingReader::Run` does (sort.hh:251-252, 276-277:
"Sequencing is important"): `offset = TotalOffset()` *before* `size = NextSize()`. -/
def OffsetsReader.takeAt : Nat → OffsetsReader → Option (List (Nat × Nat))
  | 0, _ => some []
  | n + 1, r =>
    match r.nextSize with
    | none => none
    | some (s, r') => (OffsetsReader.takeAt n r').map ((r.outputSum, s) :: ·)

/-- the piece of the data file at `[offset, offset + size)` (`ErsatzPRead`) -/
def readAt {β : Type} (data : List β) (p : Nat × Nat) : List β := (data.drop p.1).take p.2

/-- Runs stored as (data file, offsets log) and read back at the logged positions; `none` if the
log cannot be read. -/
def storeRunsLogged {β : Type} (lens : List Nat) (runs : List (List β)) : Option (List (List β)) :=
  match offsetsEncode lens with
  | none => none
  | some r =>
    match r.takeAt r.blockCount with
    | none => none
    | some pairs => some (pairs.map (readAt runs.flatten))

/-- … when the logged lengths are the true lengths of the runs -/
def storeRuns {β : Type} (runs : List (List β)) : Option (List (List β)) :=
  storeRunsLogged (runs.map List.length) runs

/-! ## Block sorting -/

/-- `SizedSort` of one block (a `std::sort`; the model uses a stable merge sort, ties are
not observable by the property). -/
def blockSort {α : Type} (lt : α → α → Bool) (b : List α) : List α := b.mergeSort (le lt)

/-! ## k-way merge through a priority queue -/

/-- A queue entry: current record of a run and the records after it. -/
abbrev QEntry (α : Type) := α × List α

/-- Remove the first entry whose head is minimal. -/
def popMin {α : Type} (lt : α → α → Bool) : QEntry α → List (QEntry α) → QEntry α × List (QEntry α)
  | e, [] => (e, [])
  | e, f :: fs =>
    let r := popMin lt f fs
    if lt r.1.1 e.1 then (r.1, e :: r.2) else (e, f :: fs)

/-- Remove the entry at index `i`. -/
def popAt {α : Type} : List (QEntry α) → Nat → Option (QEntry α × List (QEntry α))
  | [], _ => none
  | e :: q, 0 => some (e, q)
  | e :: q, i + 1 => (popAt q i).map (fun r => (r.1, e :: r.2))

/-- A tie-breaking policy of the priority queue: (queue as initially filled, steps left,
current queue) ↦ index of the entry to pop.  Every deterministic heap is of this form. -/
abbrev Pick (α : Type) := List (QEntry α) → Nat → List (QEntry α) → Nat

/-- `queue_.top()` + `queue_.pop()`: the entry named by `pick` if its head is minimal,
otherwise the first minimal one. -/
def pop {α : Type} (lt : α → α → Bool) (pick : List (QEntry α) → Nat)
    (e : QEntry α) (q : List (QEntry α)) : QEntry α × List (QEntry α) :=
  match popAt (e :: q) (pick (e :: q)) with
  | some r => if (e :: q).all (fun f => !lt f.1 r.1.1) then r else popMin lt e q
  | none => popMin lt e q

/-- `MergeQueue::Pop` (sort.hh:137-142): after removing the top entry, advance it
(`Increment`) and push it back unless its run is exhausted. -/
def requeue {α : Type} (m : QEntry α) (rest : List (QEntry α)) : List (QEntry α) :=
  match m.2 with
  | [] => rest
  | y :: ys => (y, ys) :: rest

/-- Number of records still in the queue. -/
def qsize {α : Type} (q : List (QEntry α)) : Nat := (q.map (fun e => e.2.length + 1)).sum

/-- All records still in the queue. -/
def qflat {α : Type} (q : List (QEntry α)) : List α := q.flatMap (fun e => e.1 :: e.2)

/-- The sequence of `queue.Top()` values over the merge loop, with fuel. -/
def kmergeAux {α : Type} (lt : α → α → Bool) (pick : Nat → List (QEntry α) → Nat) :
    Nat → List (QEntry α) → List α
  | _, [] => []
  | 0, _ :: _ => []
  | n + 1, e :: q =>
    let r := pop lt (pick n) e q
    r.1.1 :: kmergeAux lt pick n (requeue r.1 r.2)

/-- The popped sequence; the fuel `qsize q` suffices (`kmergeAux_spec`, Proofs/SortMerge.lean). -/
def kmerge {α : Type} (lt : α → α → Bool) (pick : Pick α) (q : List (QEntry α)) : List α :=
  kmergeAux lt (pick q) (qsize q) q

/-! ### The file buffers behind a queue entry

`MergeQueue::Entry` (sort.hh:154-200) holds only `per_buffer` bytes of its run in memory and
refills from the file (`Read`) when `current_` reaches `buffer_end_`.  `BufEntry` mirrors that;
`bufEntry_step` (Proofs) shows it is a refinement of the `(current, rest)` view used above. -/

/-- `buf` = the records from `current_` to `buffer_end_`; `file` = the `remaining_` records of the
run still on disk. -/
structure BufEntry (α : Type) where
  buf : List α
  file : List α
  deriving Repr

/-- `Entry::Read` with `cap = per_buffer / entry_size` records per buffer: `none` = returns false
(nothing remains); otherwise the next `min(cap, remaining)` records are loaded. -/
def BufEntry.read {α : Type} (cap : Nat) (file : List α) : Option (BufEntry α) :=
  match file with
  | [] => none
  | _ :: _ => some ⟨file.take cap, file.drop cap⟩

/-- `Entry::Increment`: advance `current_`; at the end of the buffer, `Read`. -/
def BufEntry.increment {α : Type} (cap : Nat) (e : BufEntry α) : Option (BufEntry α) :=
  match e.buf.drop 1 with
  | [] => BufEntry.read cap e.file
  | b :: bs => some ⟨b :: bs, e.file⟩

/-- the `(current, rest)` view of a buffered entry -/
def BufEntry.view {α : Type} (e : BufEntry α) : List α := e.buf ++ e.file

/-- The same entry at file level (sort.hh:174-199): the buffer from `current_` on, `offset_` and
`remaining_` (in records) into the shared data file. -/
structure FileEntry (α : Type) where
  buf : List α
  offset : Nat
  remaining : Nat
  deriving Repr

/-- `Entry::Read`: `amount = min(buf_size, remaining_)` records are `pread` at `offset_`; then
`offset_ += amount; remaining_ -= amount`; returns false when nothing remains. -/
def FileEntry.read {α : Type} (data : List α) (cap : Nat) (offset remaining : Nat) : Option (FileEntry α) :=
  if remaining = 0 then none
  else
    let amount := if cap < remaining then cap else remaining
    some ⟨readAt data (offset, amount), offset + amount, remaining - amount⟩

/-- `Entry::Increment` at file level. -/
def FileEntry.increment {α : Type} (data : List α) (cap : Nat) (e : FileEntry α) : Option (FileEntry α) :=
  match e.buf.drop 1 with
  | [] => FileEntry.read data cap e.offset e.remaining
  | b :: bs => some ⟨b :: bs, e.offset, e.remaining⟩

/-- the buffered-entry view of a file-level entry: what is still on disk is the slice
`[offset_, offset_ + remaining_)` of the data file -/
def FileEntry.abs {α : Type} (data : List α) (e : FileEntry α) : BufEntry α :=
  ⟨e.buf, readAt data (e.offset, e.remaining)⟩

/-- `queue.Push` of every non-empty run. -/
def toQueue {α : Type} (runs : List (List α)) : List (QEntry α) :=
  runs.filterMap (fun r => match r with | [] => none | x :: xs => some (x, xs))

/-- The output loop of `MergingReader::Run` (sort.hh:293-300) seen as a fold over the popped
sequence: `cur` is the record at `str.Get()`. -/
def combineGo {α : Type} (comb : α → α → Option α) (cur : α) : List α → List α
  | [] => [cur]
  | y :: ys =>
    match comb cur y with
    | some c => combineGo comb c ys
    | none => cur :: combineGo comb y ys

def combineAdj {α : Type} (comb : α → α → Option α) : List α → List α
  | [] => []
  | x :: xs => combineGo comb x xs

/-- The `written` counter of the output loop (sort.hh:291-300): one `++written` per record that
is followed by a non-combinable one, plus the final one.  This is what is logged to
`out_offsets_` (`Append(written * entry_size)`). -/
def combineWritten {α : Type} (comb : α → α → Option α) (cur : α) : List α → Nat
  | [] => 1
  | y :: ys =>
    match comb cur y with
    | some c => combineWritten comb c ys
    | none => 1 + combineWritten comb y ys

/-- `written` for one merge group -/
def mergeWritten {α : Type} (lt : α → α → Bool) (comb : α → α → Option α)
    (pick : Pick α) (runs : List (List α)) : Nat :=
  match kmerge lt pick (toQueue runs) with
  | [] => 0
  | x :: xs => combineWritten comb x xs

/-- One merge group: the runs pushed into one `MergeQueue`, merged and combined. -/
def mergeGroup {α : Type} (lt : α → α → Bool) (comb : α → α → Option α)
    (pick : Pick α) (runs : List (List α)) : List α :=
  combineAdj comb (kmerge lt pick (toQueue runs))

/-! ## Passes and the whole sort -/

/-- Partition a list into consecutive groups of the given sizes (a size 0 is read as 1 so that
every group is non-empty; what is left over when the sizes run out forms the last group).
Every partition into consecutive non-empty groups arises this way. -/
def splitGroups {β : Type} : List Nat → List β → List (List β)
  | _, [] => []
  | [], x :: xs => [x :: xs]
  | n :: ns, x :: xs => (x :: xs.take (n - 1)) :: splitGroups ns (xs.drop (n - 1))

/-- One pass of `Sort::Merge` = one `MergingReader::Run` with `out_offsets_`: nothing / a
single run is copied (`ReadSingle`), otherwise each group is merged into one run; the new
runs go through the data file and the `Offsets` log. -/
def pass {α : Type} (lt : α → α → Bool) (comb : α → α → Option α) (pick : Pick α)
    (sizes : List Nat) (runs : List (List α)) : Option (List (List α)) :=
  match runs with
  | [] => storeRuns []
  | [r] => storeRuns [r]
  | _ => storeRunsLogged ((splitGroups sizes runs).map (mergeWritten lt comb pick))
      ((splitGroups sizes runs).map (mergeGroup lt comb pick))

/-- A sequence of passes. -/
def passes {α : Type} (lt : α → α → Bool) (comb : α → α → Option α) (pick : Pick α) :
    List (List Nat) → List (List α) → Option (List (List α))
  | [], runs => some runs
  | sizes :: plan, runs =>
    match pass lt comb pick sizes runs with
    | none => none
    | some runs' => passes lt comb pick plan runs'

/-- `OwningMergingReader::Run` = `MergingReader::Run(position, assert_one = true)`:
poison / `ReadSingle` (no combining) / one merge group. -/
def finalMerge {α : Type} (lt : α → α → Bool) (comb : α → α → Option α) (pick : Pick α) :
    List (List α) → List α
  | [] => []
  | [r] => r
  | runs => mergeGroup lt comb pick runs

/-- What `BlockSorter` + `WriteAndRecycle` leave behind: the sorted blocks as runs. -/
def afterBlockSorter {α : Type} (lt : α → α → Bool) (blocks : List (List α)) : Option (List (List α)) :=
  -- `offsets_->Append(link->ValidSize())` is called with the block's size before it is sorted
  storeRunsLogged (blocks.map List.length) (blocks.map (blockSort lt))

/-- The external sort: chain blocks → sorted runs → any finite sequence of passes (each any
partition into consecutive groups) → final merge.  `none` = the `Offsets` log could not be
read back (proved impossible: `extSort_isSome`). -/
def extSort {α : Type} (lt : α → α → Bool) (comb : α → α → Option α) (pick : Pick α)
    (blocks : List (List α)) (plan : List (List Nat)) : Option (List α) :=
  match afterBlockSorter lt blocks with
  | none => none
  | some runs =>
    match passes lt comb pick plan runs with
    | none => none
    | some runs' => some (finalMerge lt comb pick runs')

/-- The specification value the driver prints: sort everything, and combine neighbours unless
the whole input was a single non-empty block (then `ReadSingle` copies the sorted block). -/
def sortSpec {α : Type} (lt : α → α → Bool) (comb : α → α → Option α) (blocks : List (List α)) : List α :=
  let nonempty := blocks.filter (fun b => !b.isEmpty)
  let sorted := blocks.flatten.mergeSort (le lt)
  if nonempty.length ≤ 1 then sorted else combineAdj comb sorted

/-! ## The arity logic of `Sort::Merge` and `MergingReader::Run` (sizes in bytes) -/

/-- Configuration after the `Sort` constructor (sort.hh:392-404): `bufferSize` already rounded
down to a multiple of `entrySize`. -/
structure Cfg where
  entrySize : Nat
  bufferSize : Nat
  totalMemory : Nat
  deriving Repr, DecidableEq

/-- The `for (buf …)` loop (sort.hh:274-280): how many runs of the given byte sizes are pushed
into one queue.  `used` = `buf - buffer.get()`. -/
def groupCount (perBuffer totalMem : Nat) : Nat → List Nat → Nat
  | _, [] => 0
  | used, s :: ss =>
    if used + min perBuffer s ≤ totalMem then 1 + groupCount perBuffer totalMem (used + min s perBuffer) ss
    else 0

/-- `per_buffer` (sort.hh:266-269). -/
def perBuffer (entrySize bufferSize totalMem remaining : Nat) : Nat :=
  let pb := max bufferSize (totalMem / remaining)
  pb - pb % entrySize

/-- Ways the real code stops instead of sorting. -/
inductive PlanErr where
  | notTwo      -- "Bug in sort implementation: not merging at least two stripes." (abort)
  | notOne      -- "should only be one merge group for lazy sort" (abort)
  | emptyQueue  -- no run fits: `queue.Top()` on an empty queue / assert(per_buffer)
  | offsets     -- the Offsets log cannot be read back
  | badConfig   -- `BadSortConfig` thrown by the constructor
  | fuel        -- model only: recursion fuel exhausted (proved unreachable for legal configurations)
  deriving Repr, DecidableEq

/-- The `while (in_offsets_->RemainingBlocks())` loop of `MergingReader::Run`
(sort.hh:264-303) for ≥ 2 runs: cut the run list into the groups the code forms.
`fuel` ≥ number of runs. -/
def codeGroups {α : Type} (entrySize bufferSize totalMem : Nat) (assertOne : Bool) :
    Nat → List (List α) → Except PlanErr (List (List (List α)))
  | _, [] => .ok []
  | 0, _ :: _ => .error .fuel
  | fuel + 1, runs@(_ :: _) =>
    let pb := perBuffer entrySize bufferSize totalMem runs.length
    if pb = 0 then .error .emptyQueue else
    let c := groupCount pb totalMem 0 (runs.map (fun r => r.length * entrySize))
    if c = 0 then .error .emptyQueue
    else if c < 2 ∧ c < runs.length then .error .notTwo
    else if assertOne ∧ c < runs.length then .error .notOne
    else
      match codeGroups entrySize bufferSize totalMem assertOne fuel (runs.drop c) with
      | .error e => .error e
      | .ok gs => .ok (runs.take c :: gs)

/-- One `MergingReader::Run` with an output log (a pass of `Sort::Merge`). -/
def codePass {α : Type} (lt : α → α → Bool) (comb : α → α → Option α) (pick : Pick α)
    (cfg : Cfg) (readingMem : Nat) (runs : List (List α)) : Except PlanErr (List (List α)) :=
  match runs with
  | [] => .ok []
  | [r] => .ok [r]
  | _ =>
    match codeGroups cfg.entrySize cfg.bufferSize readingMem false runs.length runs with
    | .error e => .error e
    | .ok gs =>
      match storeRunsLogged (gs.map (mergeWritten lt comb pick)) (gs.map (mergeGroup lt comb pick)) with
      | none => .error .offsets
      | some rs => .ok rs

/-- Bytes in the data file. -/
def dataSize {α : Type} (cfg : Cfg) (runs : List (List α)) : Nat :=
  (runs.map (fun r => r.length * cfg.entrySize)).sum

/-- The `while (offsets_in->RemainingBlocks() > lazy_arity)` loop of `Sort::Merge`
(sort.hh:436-458).  Returns the runs and the number of passes made. -/
def codeMergeLoop {α : Type} (lt : α → α → Bool) (comb : α → α → Option α) (pick : Pick α)
    (cfg : Cfg) (lazyMem : Nat) : Nat → List (List α) → Nat → Except PlanErr (List (List α) × Nat)
  | fuel, runs, n =>
    let lazyArity := max 1 (lazyMem / cfg.bufferSize)
    let size := dataSize cfg runs
    if runs.length ≤ lazyArity ∨ size ≤ lazyMem then .ok (runs, n)
    else
      match fuel with
      | 0 => .error .fuel
      | fuel + 1 =>
        let reading0 := cfg.totalMemory - 2 * cfg.bufferSize
        let reading := if size < reading0 then size else reading0
        match codePass lt comb pick cfg reading runs with
        | .error e => .error e
        | .ok runs' => codeMergeLoop lt comb pick cfg lazyMem fuel runs' (n + 1)

/-- `codeMergeLoop` that also records the lengths (in records) of the runs after every pass —
what goes into the output `Offsets` log of that pass.  `codeMergeLoopT_eq` (Proofs) shows that it
is `codeMergeLoop` plus the trace. -/
def codeMergeLoopT {α : Type} (lt : α → α → Bool) (comb : α → α → Option α) (pick : Pick α)
    (cfg : Cfg) (lazyMem : Nat) : Nat → List (List α) → Nat → List (List Nat) →
      Except PlanErr (List (List α) × Nat × List (List Nat))
  | fuel, runs, n, hist =>
    let lazyArity := max 1 (lazyMem / cfg.bufferSize)
    let size := dataSize cfg runs
    if runs.length ≤ lazyArity ∨ size ≤ lazyMem then .ok (runs, n, hist)
    else
      match fuel with
      | 0 => .error .fuel
      | fuel + 1 =>
        let reading0 := cfg.totalMemory - 2 * cfg.bufferSize
        let reading := if size < reading0 then size else reading0
        match codePass lt comb pick cfg reading runs with
        | .error e => .error e
        | .ok runs' => codeMergeLoopT lt comb pick cfg lazyMem fuel runs' (n + 1) (hist ++ [runs'.map List.length])

/-- The entries of an `Offsets` log file after `Append`ing the given lengths and
`FinishedAppending` (what the harness observes being written, 16 bytes per entry). -/
def offsetsFile (lengths : List Nat) : List (Nat × Nat) :=
  let o := lengths.foldl Offsets.append Offsets.reset
  o.log ++ [o.cur]

/-- Result of `Sort::Merge(lazy_memory)`. -/
structure MergeResult (α : Type) where
  runs : List (List α)
  passes : Nat
  ret : Nat          -- the return value: memory needed for the lazy merge
  deriving Repr

/-- `Sort::Merge` (sort.hh:412-469). -/
def codeMerge {α : Type} (lt : α → α → Bool) (comb : α → α → Option α) (pick : Pick α)
    (cfg : Cfg) (lazyMem : Nat) (runs : List (List α)) : Except PlanErr (MergeResult α) :=
  if runs.length ≤ 1 then .ok ⟨runs, 0, 0⟩
  else
    match codeMergeLoop lt comb pick cfg lazyMem runs.length runs 0 with
    | .error e => .error e
    | .ok (runs', n) =>
      if runs'.length ≤ 1 then .ok ⟨runs', n, 0⟩
      else .ok ⟨runs', n, min (dataSize cfg runs') (runs'.length * cfg.bufferSize)⟩

/-- `OwningMergingReader::Run`: `MergingReader::Run(position, true)` with
`total_memory_ = lazy_memory`. -/
def codeFinal {α : Type} (lt : α → α → Bool) (comb : α → α → Option α) (pick : Pick α)
    (cfg : Cfg) (lazyMem : Nat) (runs : List (List α)) : Except PlanErr (List α) :=
  match runs with
  | [] => .ok []
  | [r] => .ok r
  | _ =>
    match codeGroups cfg.entrySize cfg.bufferSize lazyMem true runs.length runs with
    | .error e => .error e
    | .ok gs => .ok (gs.map (mergeGroup lt comb pick)).flatten

/-- The `Sort` constructor's configuration checks (sort.hh:398-402). -/
def mkCfg (entrySize bufferSize totalMemory : Nat) : Except PlanErr Cfg :=
  if entrySize = 0 then .error .badConfig else
  let b := bufferSize - bufferSize % entrySize
  if b = 0 then .error .badConfig
  else if totalMemory < b * 4 then .error .badConfig
  else .ok ⟨entrySize, b, totalMemory⟩

/-- `Sort::DefaultLazy` (sort.hh:503-506) in exact arithmetic (the code uses `float`; equal
for `total_memory < 2^24`). -/
def defaultLazy (cfg : Cfg) : Nat :=
  let arity := cfg.totalMemory / cfg.bufferSize
  cfg.totalMemory * (arity - 1) / arity

/-- Block sort, `Sort::Merge(lazy)`, then `Sort::Output(out, lazy)` exactly as the code
plans it.  Returns the output, the number of passes and `Merge`'s return value. -/
def codeSort {α : Type} (lt : α → α → Bool) (comb : α → α → Option α) (pick : Pick α)
    (cfg : Cfg) (lazyMem : Nat) (blocks : List (List α)) : Except PlanErr (List α × Nat × Nat) :=
  match afterBlockSorter lt blocks with
  | none => .error .offsets
  | some runs =>
    match codeMerge lt comb pick cfg lazyMem runs with
    | .error e => .error e
    | .ok m =>
      match codeFinal lt comb pick cfg lazyMem m.runs with
      | .error e => .error e
      | .ok out => .ok (out, m.passes, m.ret)

/-- The way `lmplz` drives the sort (lm/builder/pipeline.cc:69-73, 107-123):
`r = Merge(lazy); …; Output(chain, r)` — `Output` calls `Merge(r)` again and then merges lazily
with `r` bytes.  Returns the output, the total number of passes and `r`. -/
def codeSortRet {α : Type} (lt : α → α → Bool) (comb : α → α → Option α) (pick : Pick α)
    (cfg : Cfg) (lazyMem : Nat) (blocks : List (List α)) : Except PlanErr (List α × Nat × Nat) :=
  match afterBlockSorter lt blocks with
  | none => .error .offsets
  | some runs =>
    match codeMerge lt comb pick cfg lazyMem runs with
    | .error e => .error e
    | .ok m =>
      match codeMerge lt comb pick cfg m.ret m.runs with
      | .error e => .error e
      | .ok m2 =>
        match codeFinal lt comb pick cfg m.ret m2.runs with
        | .error e => .error e
        | .ok out => .ok (out, m.passes + m2.passes, m.ret)

end KV.Sort
