/-
Model of the I/O layer of kenlm (Mathlib-free, executable).

Part 1 (C15): the retry loops of util/file.cc:164-307 (`PartialRead`, `ReadOrThrow`,
`ReadOrEOF`, `WriteOrThrow`, `ErsatzPRead`, `ErsatzPWrite`) and `util::FileStream`
(util/file_stream.hh) against an *adversarial OS oracle*: the answer to the i-th libc call
is `orc i`, one of `ok n` (the OS is willing to move up to `n` bytes), `eintr`, `err e`,
`eof` (return value 0).  One loop iteration = one libc call; the inner `do … while (EINTR)`
and the `continue` of the real loops are the same transition ("call again with the same
arguments"), so they are flattened into one loop with fuel.  Every loop returns the log of
requests it issued, which the correspondence compares with the calls the real code makes.

Part 2 (C09) is in namespace `KV.IO.Fs` below: a file with a volatile and a durable image.
-/
namespace KV.IO

abbrev Bytes := List Nat

/-- answer of the OS to one call -/
inductive Ans where
  | ok (n : Nat)
  | eintr
  | err (e : Nat)
  | eof
  deriving DecidableEq, Repr, Inhabited

/-- the value the libc wrapper returns -/
inductive Ret where
  | count (r : Nat)
  | eintr
  | err (e : Nat)
  deriving DecidableEq, Repr

/-- what a call asking for `req` bytes returns when at most `avail` bytes can be moved
(`avail` = bytes left in the source for reads; = `req` for writes) -/
def Ans.ret (a : Ans) (req avail : Nat) : Ret :=
  match a with
  | .ok n => .count (min n (min req avail))
  | .eintr => .eintr
  | .err e => .err e
  | .eof => .count 0

abbrev Oracle := Nat → Ans

/-- outcome class of a loop -/
inductive Res where
  | ok
  | errno (e : Nat)     -- FDException / ErrnoException carrying errno e
  | eofErr              -- EndOfFileException
  | fuel                -- the model ran out of fuel (never for sufficient fuel: `loops_terminate`)
  deriving DecidableEq, Repr, Inhabited

/-- one request issued to the OS: requested length and (for positional calls) offset -/
structure Call where
  req : Nat
  off : Nat := 0
  deriving DecidableEq, Repr

/-- result of a loop: outcome, index of the next oracle answer, bytes moved (in order),
what was not moved, the requests issued -/
structure Out where
  res : Res
  next : Nat
  moved : Bytes
  rest : Bytes
  log : List Call
  deriving DecidableEq, Repr

def Out.cons (c : Call) (pre : Bytes) (o : Out) : Out :=
  { o with moved := pre ++ o.moved, log := c :: o.log }

/-- the value of `EINTR` (checked against the regenerated constant in Properties/C15.lean) -/
def kEINTR : Nat := 4

/-! ### WriteOrThrow (util/file.cc:210-232)
`while (size) { errno = 0; do ret = write(fd, data, size) while (ret == -1 && errno == EINTR);
 THROW_IF(ret < 1); data += ret; size -= ret; }`
`e0` is the value `errno` has when the call is made: 0 at the top of each outer iteration,
`EINTR` after an interrupted call of the same inner loop.  A zero return does not set errno,
so the exception thrown for `ret == 0` carries that stale value (the real
code reports errno 4 for `EINTR` followed by a zero-length write). -/
def writeOrThrow (orc : Oracle) : (fuel : Nat) → (i : Nat) → (data : Bytes) → (e0 : Nat := 0) → Out
  | _, i, [], _ => ⟨.ok, i, [], [], []⟩
  | 0, i, d :: ds, _ => ⟨.fuel, i, [], d :: ds, []⟩
  | fuel+1, i, d :: ds, e0 =>
    let data := d :: ds
    let c : Call := { req := data.length }
    match (orc i).ret data.length data.length with
    | .eintr => (writeOrThrow orc fuel (i+1) data kEINTR).cons c []
    | .err e => ⟨.errno e, i+1, [], data, [c]⟩
    | .count 0 => ⟨.errno e0, i+1, [], data, [c]⟩      -- `ret < 1`: throws with the stale errno
    | .count (r+1) => (writeOrThrow orc fuel (i+1) (data.drop (r+1)) 0).cons c (data.take (r+1))

/-! ### ErsatzPWrite (util/file.cc:274-307)
`while (size) { ret = pwrite(fd, from, size, off); if (ret <= 0) { if (ret == -1 && errno == EINTR) continue;
 THROW_IF(ret == 0, EndOfFileException); THROW(FDException); } size -= ret; off += ret; from += ret; }` -/
def ersatzPWrite (orc : Oracle) : (fuel : Nat) → (i : Nat) → (data : Bytes) → (off : Nat) → Out
  | _, i, [], _ => ⟨.ok, i, [], [], []⟩
  | 0, i, d :: ds, _ => ⟨.fuel, i, [], d :: ds, []⟩
  | fuel+1, i, d :: ds, off =>
    let data := d :: ds
    let c : Call := { req := data.length, off := off }
    match (orc i).ret data.length data.length with
    | .eintr => (ersatzPWrite orc fuel (i+1) data off).cons c []
    | .err e => ⟨.errno e, i+1, [], data, [c]⟩
    | .count 0 => ⟨.eofErr, i+1, [], data, [c]⟩
    | .count (r+1) =>
      (ersatzPWrite orc fuel (i+1) (data.drop (r+1)) (off + (r+1))).cons c (data.take (r+1))

/-! ### PartialRead (util/file.cc:164-186)
`do ret = read(fd, to, amount) while (ret == -1 && errno == EINTR); THROW_IF(ret < 0); return ret;`
`src` is what the descriptor still has to deliver.  `moved` = the bytes returned. -/
def partialRead (orc : Oracle) : (fuel : Nat) → (i : Nat) → (src : Bytes) → (amount : Nat) → Out
  | 0, i, src, _ => ⟨.fuel, i, [], src, []⟩
  | fuel+1, i, src, amount =>
    let c : Call := { req := amount }
    match (orc i).ret amount src.length with
    | .eintr => (partialRead orc fuel (i+1) src amount).cons c []
    | .err e => ⟨.errno e, i+1, [], src, [c]⟩
    | .count r => ⟨.ok, i+1, src.take r, src.drop r, [c]⟩

/-! ### ReadOrThrow (util/file.cc:188-196)
`while (amount) { ret = PartialRead(fd, to, amount); THROW_IF(ret == 0, EndOfFileException); amount -= ret; to += ret; }` -/
def readOrThrow (orc : Oracle) : (fuel : Nat) → (i : Nat) → (src : Bytes) → (amount : Nat) → Out
  | _, i, src, 0 => ⟨.ok, i, [], src, []⟩
  | 0, i, src, _+1 => ⟨.fuel, i, [], src, []⟩
  | fuel+1, i, src, a+1 =>
    let amount := a + 1
    let c : Call := { req := amount }
    match (orc i).ret amount src.length with
    | .eintr => (readOrThrow orc fuel (i+1) src amount).cons c []
    | .err e => ⟨.errno e, i+1, [], src, [c]⟩
    | .count 0 => ⟨.eofErr, i+1, [], src, [c]⟩
    | .count (r+1) => (readOrThrow orc fuel (i+1) (src.drop (r+1)) (amount - (r+1))).cons c (src.take (r+1))

/-! ### ReadOrEOF (util/file.cc:198-208): as ReadOrThrow, but a zero return ends the loop
successfully with the bytes read so far. -/
def readOrEOF (orc : Oracle) : (fuel : Nat) → (i : Nat) → (src : Bytes) → (amount : Nat) → Out
  | _, i, src, 0 => ⟨.ok, i, [], src, []⟩
  | 0, i, src, _+1 => ⟨.fuel, i, [], src, []⟩
  | fuel+1, i, src, a+1 =>
    let amount := a + 1
    let c : Call := { req := amount }
    match (orc i).ret amount src.length with
    | .eintr => (readOrEOF orc fuel (i+1) src amount).cons c []
    | .err e => ⟨.errno e, i+1, [], src, [c]⟩
    | .count 0 => ⟨.ok, i+1, [], src, [c]⟩
    | .count (r+1) => (readOrEOF orc fuel (i+1) (src.drop (r+1)) (amount - (r+1))).cons c (src.take (r+1))

/-! ### ErsatzPRead (util/file.cc:239-272): `src` = the file content from offset `off` on. -/
def ersatzPRead (orc : Oracle) : (fuel : Nat) → (i : Nat) → (src : Bytes) → (size : Nat) → (off : Nat) → Out
  | _, i, src, 0, _ => ⟨.ok, i, [], src, []⟩
  | 0, i, src, _+1, _ => ⟨.fuel, i, [], src, []⟩
  | fuel+1, i, src, s+1, off =>
    let size := s + 1
    let c : Call := { req := size, off := off }
    match (orc i).ret size src.length with
    | .eintr => (ersatzPRead orc fuel (i+1) src size off).cons c []
    | .err e => ⟨.errno e, i+1, [], src, [c]⟩
    | .count 0 => ⟨.eofErr, i+1, [], src, [c]⟩
    | .count (r+1) =>
      (ersatzPRead orc fuel (i+1) (src.drop (r+1)) (size - (r+1)) (off + (r+1))).cons c (src.take (r+1))

/-- number of `eintr` answers among the oracle's answers `[i, i+n)` -/
def eintrCount (orc : Oracle) (i : Nat) : Nat → Nat
  | 0 => 0
  | n+1 => (if orc i = .eintr then 1 else 0) + eintrCount orc (i+1) n

/-- the oracle built from a finite script; afterwards the OS is ideal (moves everything) -/
def scripted (l : List Ans) (dflt : Ans := .ok (2^64)) : Oracle := fun i => l.getD i dflt

/-- a file image updated by a positional write (zero-extended when written past the end) -/
def writeAt (img : Bytes) (off : Nat) (bs : Bytes) : Bytes :=
  let img' := if img.length < off + bs.length then img ++ List.replicate (off + bs.length - img.length) 0 else img
  img'.take off ++ bs ++ img'.drop (off + bs.length)

/-! ### FileStream (util/file_stream.hh)
`buf` = the bytes between `buf_` and `current_`; `cap = end_ - buf_ = max(buffer_size, kToStringMaxBytes)`. -/
structure Stream where
  cap : Nat
  buf : Bytes := []
  deriving DecidableEq, Repr

/-- operations on a stream: `write` (operator<<(StringPiece) and `write()`), `inplace amount s`
(the `Ensure(amount)`/`AdvanceTo` pair of `CallToString` and `put`: reserves `amount`, then
writes the `s.length ≤ amount` bytes actually produced), `flush`. -/
inductive SOp where
  | write (data : Bytes)
  | inplace (amount : Nat) (s : Bytes)
  | flush
  deriving DecidableEq, Repr

/-- state threaded through a sequence of stream operations -/
structure SRun where
  st : Stream
  res : Res := .ok
  next : Nat := 0
  sink : Bytes := []        -- bytes accepted by the OS so far, in order
  log : List Call := []
  deriving DecidableEq, Repr

def SRun.absorb (r : SRun) (o : Out) : SRun :=
  { r with res := o.res, next := o.next, sink := r.sink ++ o.moved, log := r.log ++ o.log }

def SRun.setBuf (r : SRun) (b : Bytes) : SRun := { r with st := { r.st with buf := b } }

/-- `flush()`: `if (current_ != buf_) { WriteOrThrow(fd_, buf_, current_ - buf_); current_ = buf_; }`.
On an exception `current_` is *not* reset (the statement after the throwing call is skipped). -/
def sFlush (orc : Oracle) (fuel : Nat) (r : SRun) : SRun :=
  if r.st.buf = [] then r
  else if (writeOrThrow orc fuel r.next r.st.buf).res = .ok then
    (r.absorb (writeOrThrow orc fuel r.next r.st.buf)).setBuf []
  else r.absorb (writeOrThrow orc fuel r.next r.st.buf)

/-- second half of `write()`, after the `flush()`:
`if (current_ + length <= end_) memcpy … else WriteOrThrow(fd_, data, length)` -/
def sWriteAfterFlush (orc : Oracle) (fuel : Nat) (r1 : SRun) (data : Bytes) : SRun :=
  if r1.res ≠ .ok then r1
  else if r1.st.buf.length + data.length ≤ r1.st.cap then r1.setBuf (r1.st.buf ++ data)
  else r1.absorb (writeOrThrow orc fuel r1.next data)

/-- `write(data, length)`: `if (current_ + length <= end_) { memcpy; return; } flush(); …` -/
def sWrite (orc : Oracle) (fuel : Nat) (r : SRun) (data : Bytes) : SRun :=
  if r.st.buf.length + data.length ≤ r.st.cap then r.setBuf (r.st.buf ++ data)
  else sWriteAfterFlush orc fuel (sFlush orc fuel r) data

def sAppendIfOk (r1 : SRun) (s : Bytes) : SRun :=
  if r1.res ≠ .ok then r1 else r1.setBuf (r1.st.buf ++ s)

/-- `Ensure(amount)` (flush when the reservation does not fit) followed by the in-place
conversion and `AdvanceTo`. -/
def sInplace (orc : Oracle) (fuel : Nat) (r : SRun) (amount : Nat) (s : Bytes) : SRun :=
  sAppendIfOk (if r.st.buf.length + amount > r.st.cap then sFlush orc fuel r else r) s

def sStep (orc : Oracle) (fuel : Nat) (r : SRun) (op : SOp) : SRun :=
  if r.res ≠ .ok then r else
  match op with
  | .flush => sFlush orc fuel r
  | .write data => sWrite orc fuel r data
  | .inplace amount s => sInplace orc fuel r amount s

/-- a whole life of a FileStream: construct with capacity `max bufferSize kMax`, apply the
operations, destroy (the destructor flushes). -/
def streamRun (orc : Oracle) (fuel : Nat) (cap : Nat) (ops : List SOp) : SRun :=
  sStep orc fuel (ops.foldl (sStep orc fuel) { st := { cap := cap } }) .flush

def SOp.arg : SOp → Bytes
  | .write d => d
  | .inplace _ s => s
  | .flush => []


/-! ## Part 2 (C09): a file with a volatile image and what a crash may leave on disk

An image is a length and a byte function (bytes at or beyond `len` read as 0 through `get`).
Events are what the LD_PRELOAD shim records for the output file of `build_binary`:
`create`, `truncate n`, `pwrite off bytes` (also `write` at the current offset), `store off
bytes` (stores through a shared mapping, recovered by diffing snapshots), `msync lo hi`,
`fsync`, `munmap`, `close`.

Crash model (assumed, not observed — DESIGN §2):
* process kill after `k` events ⇒ the file is the volatile image after `k` events;
* power loss after `k` events ⇒ the length is the length after some `jl ≤ k` events with no
  sync of any kind in `(jl, k]`; every 512-byte sector independently holds its content after
  some `j ≤ k` events with no sync *covering that sector* in `(j, k]` (sector writes are
  atomic; unsynced writes may reach the disk in any order or not at all);
* the path did not exist before (`create` starts from the empty durable image).
-/
namespace Fs

def kSector : Nat := 512

structure Img where
  len : Nat
  byte : Nat → Nat

def Img.get (m : Img) (i : Nat) : Nat := if i < m.len then m.byte i else 0

def Img.empty : Img := ⟨0, fun _ => 0⟩

/-- extensional equality of images -/
def Img.eqv (a b : Img) : Prop := a.len = b.len ∧ ∀ i, a.get i = b.get i

def Img.toList (m : Img) : Bytes := (List.range m.len).map m.byte

def Img.ofArray (a : Array Nat) : Img := ⟨a.size, fun i => a.getD i 0⟩

inductive Ev where
  | create
  | truncate (n : Nat)
  | pwrite (off : Nat) (bs : Array Nat)
  | store (off : Nat) (bs : Array Nat)
  | msync (lo hi : Nat)
  | fsync
  | munmap
  | close
  deriving Repr, Inhabited

def Img.write (m : Img) (off : Nat) (bs : Array Nat) : Img :=
  ⟨max m.len (off + bs.size), fun i => if off ≤ i ∧ i < off + bs.size then bs.getD (i - off) 0 else m.get i⟩

def Img.trunc (m : Img) (n : Nat) : Img := ⟨n, fun i => m.get i⟩

/-- effect of an event on the volatile image (page cache) -/
def Ev.apply (m : Img) : Ev → Img
  | .create => Img.empty
  | .truncate n => m.trunc n
  | .pwrite off bs => m.write off bs
  | .store off bs => m.write off bs
  | _ => m

def Ev.isWrite : Ev → Bool
  | .create | .truncate _ | .pwrite _ _ | .store _ _ => true
  | _ => false

def Ev.isSync : Ev → Bool
  | .msync _ _ | .fsync => true
  | _ => false

/-- does this event force sector `s` of a file of length `len` to stable storage? -/
def Ev.covers (e : Ev) (len s : Nat) : Bool :=
  match e with
  | .fsync => true
  | .msync lo hi => decide (lo ≤ s * kSector) && decide (min ((s + 1) * kSector) len ≤ hi)
  | _ => false

/-- does this event force the whole file (length `len`) to stable storage? -/
def Ev.fullSync (e : Ev) (len : Nat) : Bool :=
  match e with
  | .fsync => true
  | .msync lo hi => decide (lo = 0) && decide (len ≤ hi)
  | _ => false

abbrev Trace := List Ev

/-- volatile image after the first `k` events -/
def vol (t : Trace) (k : Nat) : Img := (t.take k).foldl Ev.apply Img.empty

def final (t : Trace) : Img := vol t t.length

/-- version `j` of sector `s` may still be what the disk holds after `k` events -/
def VerOK (t : Trace) (k s j : Nat) : Prop :=
  j ≤ k ∧ ∀ y, j < y → y ≤ k → ∀ e, t[y - 1]? = some e → e.covers (vol t y).len s = false

def LenOK (t : Trace) (k jl : Nat) : Prop :=
  jl ≤ k ∧ ∀ y, jl < y → y ≤ k → ∀ e, t[y - 1]? = some e → e.isSync = false

/-- `img` is a possible disk content after a power loss following event `k` -/
def Crash (t : Trace) (k : Nat) (img : Img) : Prop :=
  k ≤ t.length ∧
  (∃ jl, LenOK t k jl ∧ img.len = (vol t jl).len) ∧
  ∀ s, ∃ j, VerOK t k s j ∧ ∀ i, i / kSector = s → i < img.len → img.get i = (vol t j).get i

/-- decidable form of `VerOK` (used by the driver's enumeration) -/
def verOKB (t : Trace) (k s j : Nat) : Bool :=
  decide (j ≤ k) && (List.range (k + 1)).all fun y =>
    !(decide (j < y) && decide (y ≤ k)) || !((t.getD (y - 1) .close).covers (vol t y).len s)

/-- decidable form of `LenOK` -/
def lenOKB (t : Trace) (k jl : Nat) : Bool :=
  decide (jl ≤ k) && (List.range (k + 1)).all fun y =>
    !(decide (jl < y) && decide (y ≤ k)) || !((t.getD (y - 1) .close).isSync)

/-- the image with the length of version `jl` and sector `s` at version `choice s`; `vols j` is the
volatile image after `j` events (the driver passes a table of them) -/
def crashImage (vols : Nat → Img) (jl : Nat) (choice : Nat → Nat) : Img :=
  ⟨(vols jl).len, fun i => (vols (choice (i / kSector))).get i⟩

/-- the binary format as far as C09 needs it: the reference `Sanity` bytes (regenerated),
`kMagicIncomplete`, the total header size of this build, the size the header announces
(`LoadBinary`'s `total_map`, as a function of the header bytes) and the remaining header
checks (`ReadHeader`, `MatchCheck`) -/
structure Fmt where
  sanity : Array Nat
  incomplete : Array Nat
  headerSize : Nat
  totalMap : Bytes → Nat
  paramsOK : Bytes → Bool
  hasVocab : Bytes → Bool

def prefixIs (m : Img) (a : Array Nat) : Bool :=
  (List.range a.size).all fun i => m.get i == a.getD i 0

/-- `IsBinaryFormat`: the file is longer than `Sanity` and starts with the reference header -/
def hasSanity (f : Fmt) (m : Img) : Bool := decide (f.sanity.size < m.len) && prefixIs m f.sanity

def header (f : Fmt) (m : Img) : Bytes := (List.range f.headerSize).map m.get

def kUnk : Array Nat := #[60, 117, 110, 107, 62, 0]   -- "<unk>\0"

/-- `ReadWords`' check that the vocabulary strings start with `<unk>\0` (only when the header says
the file has them) -/
def vocabOK (f : Fmt) (m : Img) : Bool :=
  !f.hasVocab (header f m) ||
    (decide (f.totalMap (header f m) + kUnk.size ≤ m.len) &&      -- `ReadOrThrow(fd, check_unk, 6)`: EOF otherwise
     (List.range kUnk.size).all fun i => m.get (f.totalMap (header f m) + i) == kUnk.getD i 0)

/-- the loader accepts: `IsBinaryFormat` ∧ `ReadHeader` can read the whole header and accepts it ∧
`MatchCheck` ∧ the `LoadBinary` size check ∧ the `<unk>` check of `ReadWords` -/
def loads (f : Fmt) (m : Img) : Bool :=
  hasSanity f m && decide (f.headerSize ≤ m.len) && f.paramsOK (header f m) &&
  decide (f.totalMap (header f m) ≤ m.len) && vocabOK f m

/-- queries only look at the mapped region `[0, totalMap)` -/
def queriesEqual (f : Fmt) (a b : Img) : Prop :=
  ∀ i, i < f.totalMap (header f b) → a.get i = b.get i

/-- least `i < n` with `p i` -/
def firstIdx (p : Nat → Bool) : Nat → Option Nat
  | 0 => none
  | n+1 => match firstIdx p n with
    | some i => some i
    | none => if p n then some n else none

/-- index of the commit event: the first event after which the volatile image starts with the
complete `Sanity` header -/
def commitIdx (f : Fmt) (t : Trace) : Option Nat :=
  firstIdx (fun c => prefixIs (vol t (c + 1)) f.sanity) t.length

/-- an event that is not a write, or a write inside `[0, H)` -/
def Ev.inHeader (e : Ev) (H : Nat) : Bool :=
  match e with
  | .pwrite off bs => decide (off + bs.size ≤ H)
  | .store off bs => decide (off + bs.size ≤ H)
  | e => !e.isWrite

/-- between events `a` and `b` (exclusive) only the header `[0, H)` is written -/
def onlyHeaderBetween (t : Trace) (a b H : Nat) : Bool :=
  (List.range t.length).all fun j => !(decide (a < j) && decide (j < b)) || (t.getD j .close).inHeader H

def noWriteBetween (t : Trace) (a b : Nat) : Bool :=
  (List.range t.length).all fun j => !(decide (a < j) && decide (j < b)) || !(t.getD j .close).isWrite

/-- the "incomplete" marker: up to event `c` every non-empty image starts with `kMagicIncomplete`
or with zeros (WRITE_AFTER writes the vocabulary strings first, leaving a hole at offset 0) -/
def markerOK (f : Fmt) (t : Trace) (c : Nat) : Bool :=
  (List.range (c + 1)).all fun j =>
    let m := vol t j
    decide (m.len = 0) || prefixIs m f.incomplete || prefixIs m (Array.replicate f.incomplete.size 0)

/-- **the writer protocol**, decidable, transcribed from lm/binary_format.cc
(SetupJustVocab / GrowForSearch / WriteVocabWords / FinishFile / WriteHeader):
there is a commit event `c` (the first event after which the file starts with the complete
`Sanity`); it is a write inside the header `[0, headerSize)`; the header fits a sector; nothing
is written after it; some earlier event `y` is a sync of the whole file as it then is (already
at least header-size long), and between `y` and `c` only the header is written (the parameters
and counts, when `WriteHeader`'s stores are traced one by one); up to and including that sync
the file shows the incomplete marker. -/
def conforms (f : Fmt) (t : Trace) : Bool :=
  match commitIdx f t with
  | none => false
  | some c =>
    decide (f.headerSize ≤ kSector) && decide (f.sanity.size < f.headerSize) &&
    !prefixIs Img.empty f.sanity &&
    (match t.getD c .close with
     | .pwrite off bs => decide (off + bs.size ≤ f.headerSize)
     | .store off bs => decide (off + bs.size ≤ f.headerSize)
     | _ => false) &&
    noWriteBetween t c t.length &&
    ((List.range c).any fun y =>
      (t.getD y .close).fullSync (vol t (y + 1)).len && decide (f.headerSize ≤ (vol t (y + 1)).len) &&
      onlyHeaderBetween t y c f.headerSize && markerOK f t (y + 1))

/-- the clause "the completed header becomes visible only after all other bytes have been
forced to stable storage", on its own -/
def headerLast (f : Fmt) (t : Trace) : Bool :=
  match commitIdx f t with
  | none => false
  | some c => (List.range c).any fun y =>
      (t.getD y .close).fullSync (vol t (y + 1)).len && decide (f.headerSize ≤ (vol t (y + 1)).len) &&
      onlyHeaderBetween t y c f.headerSize

end Fs

end KV.IO
