import Generated.C19
import Proofs.FormatValue
/-!
# C19 — Number formatting is bounded, shortest and round-trips through the parser

Theorems over `Model/Format.lean` (a transcription of double-conversion's shortest formatting, kenlm's integer
formatting and the number-reader grammar of util/file_piece.cc), stated against the constants of
`Generated/C19.lean` (`KV.Gen.C19.*`, regenerated from /repo on every run: `ToStringBuf<T>::kBytes`, `kToStringMaxBytes`, the `DoubleToStringConverter`
configuration of util/float_to_string.cc, `FileStream`'s minimum buffer).

`float_len`, `double_len` and `max_bytes` check only against constants that reserve enough: 23 bytes for float, 26 for double
(`float_len_sharp`, `double_len_sharp`, `…_fails_below`); with 19 for both they are false (`float_len_false_at_19`,
`double_len_false_at_19`, which state the bound 19 literally and hold whatever the tree's constants are).
-/
namespace KV.C19
open KV.Format
open KV.Gen.C19

/-- the converter of util/float_to_string.cc, from the regenerated constructor arguments. -/
def conv : Conv :=
  Conv.ofRaw convFlags infSymbol nanSymbol expChar decimalLow decimalHigh minExponentWidth

/-- hypotheses on what `DoubleToAscii(SHORTEST_SINGLE)` can return (trusted: Grisu3/Bignum produce at most
`kBase10MaximalLengthSingle = 9` digits; float32 magnitudes lie in [1.4e-45, 3.4e38]). -/
@[reducible] def FloatDigits (digits : List Nat) (point : Int) : Prop :=
  1 ≤ digits.length ∧ digits.length ≤ 9 ∧ -45 ≤ point ∧ point ≤ 39

/-- likewise for `DoubleToAscii(SHORTEST)`: at most `kBase10MaximalLength = 17` digits, [4.9e-324, 1.8e308]. -/
@[reducible] def DoubleDigits (digits : List Nat) (point : Int) : Prop :=
  1 ≤ digits.length ∧ digits.length ≤ 17 ∧ -324 ≤ point ∧ point ≤ 309

example : FloatDigits [1, 2, 3, 4, 5, 6, 7, 8, 9] (-5) := by decide
example : DoubleDigits [1, 2, 3, 4, 5, 6, 7, 8, 9, 0, 1, 2, 3, 4, 5, 6, 7] 309 := by decide

/-- the digit-count hypotheses are the library's own constants -/
theorem digit_counts : base10MaximalLengthSingle = 9 ∧ base10MaximalLength = 17 := by decide

/-- the text length is a function of (sign, zero?, digit count, point) only -/
theorem fmtShortest_length (neg : Bool) (digits : List Nat) (point : Int) :
    (fmtShortest conv neg digits point).length
      = shortestLen conv neg (digits.all (· == 0)) digits.length point :=
  length_fmtShortest conv neg digits point rfl rfl

/-- bytes written ≤ bytes reserved; the `+ 1` is the NUL `~StringBuilder` writes -/
theorem float_len (neg : Bool) (digits : List Nat) (point : Int) (h : FloatDigits digits point) :
    (fmtShortest conv neg digits point).length + 1 ≤ kBytesFloat := by
  obtain ⟨_, h9, hlo, hhi⟩ := h
  -- at most 9 digits, and `|point - 1| < 10 ^ 2`: the decimal exponent has at most 2 digits
  exact fmtShortest_fits conv rfl rfl neg digits point 9 2 _ h9 (by decide) (by omega) (by decide) (by decide)

theorem double_len (neg : Bool) (digits : List Nat) (point : Int) (h : DoubleDigits digits point) :
    (fmtShortest conv neg digits point).length + 1 ≤ kBytesDouble := by
  obtain ⟨_, h17, hlo, hhi⟩ := h
  -- at most 17 digits, `|point - 1| < 10 ^ 3`
  exact fmtShortest_fits conv rfl rfl neg digits point 17 3 _ h17 (by decide) (by omega) (by decide) (by decide)

/-- special values: "inf", "-inf", "NaN" (+ NUL) -/
theorem special_len (neg : Bool) :
    (fmtValue conv (.inf neg)).length + 1 ≤ kBytesFloat ∧ (fmtValue conv .nan).length + 1 ≤ kBytesFloat ∧
    (fmtValue conv (.inf neg)).length + 1 ≤ kBytesDouble ∧ (fmtValue conv .nan).length + 1 ≤ kBytesDouble := by
  cases neg <;> decide +kernel

/-- the bounds are attained: 23 and 26 are the smallest correct reservations -/
theorem float_len_sharp :
    FloatDigits [1] 21 ∧ (fmtShortest conv true [1] 21).length + 1 = 23 := by decide +kernel

theorem double_len_sharp :
    DoubleDigits [1, 2, 3, 4, 5, 6, 7, 8, 9, 0, 1, 2, 3, 4, 5, 6, 7] (-5) ∧
    (fmtShortest conv true [1, 2, 3, 4, 5, 6, 7, 8, 9, 0, 1, 2, 3, 4, 5, 6, 7] (-5)).length + 1 = 26 := by decide +kernel

/-- no reservation below 23 bytes is sound for float … -/
theorem float_len_fails_below (k : Nat) (hk : k < 23) :
    ¬ ∀ (neg : Bool) (digits : List Nat) (point : Int), FloatDigits digits point →
        (fmtShortest conv neg digits point).length + 1 ≤ k := by
  intro h
  have := h true [1] 21 float_len_sharp.1
  have := float_len_sharp.2
  omega

/-- … and none below 26 for double. -/
theorem double_len_fails_below (k : Nat) (hk : k < 26) :
    ¬ ∀ (neg : Bool) (digits : List Nat) (point : Int), DoubleDigits digits point →
        (fmtShortest conv neg digits point).length + 1 ≤ k := by
  intro h
  have := h true [1, 2, 3, 4, 5, 6, 7, 8, 9, 0, 1, 2, 3, 4, 5, 6, 7] (-5) double_len_sharp.1
  have := double_len_sharp.2
  omega

/-- `float_len` with 19 bytes reserved is false (witness −1e20f: "-100000000000000000000", 22 characters + NUL). -/
theorem float_len_false_at_19 :
    ¬ ∀ (neg : Bool) (digits : List Nat) (point : Int), FloatDigits digits point →
        (fmtShortest conv neg digits point).length + 1 ≤ 19 :=
  float_len_fails_below 19 (by decide)

/-- `double_len` with 19 bytes reserved is false (witness −1.2345678901234567e-6: "-0.0000012345678901234567",
25 characters + NUL). -/
theorem double_len_false_at_19 :
    ¬ ∀ (neg : Bool) (digits : List Nat) (point : Int), DoubleDigits digits point →
        (fmtShortest conv neg digits point).length + 1 ≤ 19 :=
  double_len_fails_below 19 (by decide)

/-- `FakeOStream::CallToString` reserves `kBytes` with `Ensure`, whose precondition is
`amount ≤ kToStringMaxBytes`; `FileStream` guarantees a buffer of at least `fileStreamMinBuffer`. -/
theorem max_bytes :
    (∀ k ∈ [kBytesBool, kBytesU16, kBytesI16, kBytesU32, kBytesI32, kBytesU64, kBytesI64, kBytesPtr,
            kBytesFloat, kBytesDouble], k ≤ kToStringMaxBytes) ∧
    kToStringMaxBytes ≤ fileStreamMinBuffer ∧ fileStreamMinBuffer ≤ fileStreamDefaultBuffer := by decide

theorem int_len :
    (∀ n : Nat, n < 2 ^ 64 → (fmtNat n).length ≤ kBytesU64) ∧
    (∀ n : Nat, n < 2 ^ 32 → (fmtNat n).length ≤ kBytesU32) ∧
    (∀ n : Nat, n < 2 ^ 16 → (fmtNat n).length ≤ kBytesU16) ∧
    (∀ i : Int, -2 ^ 63 ≤ i → i < 2 ^ 63 → (fmtInt i).length ≤ kBytesI64) ∧
    (∀ i : Int, -2 ^ 31 ≤ i → i < 2 ^ 31 → (fmtInt i).length ≤ kBytesI32) ∧
    (∀ i : Int, -2 ^ 15 ≤ i → i < 2 ^ 15 → (fmtInt i).length ≤ kBytesI16) ∧
    (∀ v : Nat, v < 2 ^ pointerBits → (fmtPtr v).length ≤ kBytesPtr) := by
  exact ⟨fun _ h => length_fmtNat_le_of_lt h (by decide) (by decide),
    fun _ h => length_fmtNat_le_of_lt h (by decide) (by decide),
    fun _ h => length_fmtNat_le_of_lt h (by decide) (by decide),
    fun _ h1 h2 => length_fmtInt_le (m := 2 ^ 63) (by omega) (by decide) (by decide),
    fun _ h1 h2 => length_fmtInt_le (m := 2 ^ 31) (by omega) (by decide) (by decide),
    fun _ h1 h2 => length_fmtInt_le (m := 2 ^ 15) (by omega) (by decide) (by decide),
    fun _ h => length_fmtPtr_le h (by decide) (by decide)⟩

/-- bytes *stored* by the SSE2 path (an unconditional 16-byte store for 9…16-digit values) stay inside the reservation -/
theorem int_footprint :
    (∀ n : Nat, n < 2 ^ 64 → footprintU64 sse2Path n ≤ kBytesU64) ∧
    (∀ i : Int, -2 ^ 63 ≤ i → i < 2 ^ 63 → footprintI64 sse2Path i ≤ kBytesI64) := by
  refine ⟨fun n h => footprintU64_le _ (by decide) (Nat.lt_of_lt_of_le h (by decide)), fun i h1 h2 => ?_⟩
  have := footprintU64_le sse2Path (n := i.natAbs) (k := kBytesI64 - 1) (by decide)
    (Nat.lt_of_le_of_lt (by omega : i.natAbs ≤ 2 ^ 63) (by decide))
  have : kBytesI64 - 1 + 1 = kBytesI64 := by decide
  unfold footprintI64
  split <;> omega

example : (fmtNat 18446744073709551615).length = 20 := by decide
example : (fmtInt (-9223372036854775808)).length = 20 := by decide
example : footprintU64 true 123456789 = 16 ∧ (fmtNat 123456789).length = 9 := by decide
example : fmtPtr 255 = ['0', 'x', 'f', 'f'] := by decide

/-- integers read back exactly through the strtoul / strtol grammar of `ParseNumber`; `rest` is whatever follows the number
in the file: anything that does not start with a digit. -/
theorem int_roundtrip :
    (∀ (n : Nat) (rest : List Char), n < 2 ^ 64 → NoDigitHead rest →
        readULong (fmtNat n ++ rest) = .ok (n, rest)) ∧
    (∀ (i : Int) (rest : List Char), -2 ^ 63 ≤ i → i < 2 ^ 63 → NoDigitHead rest →
        readLong (fmtInt i ++ rest) = .ok (i, rest)) :=
  ⟨readULong_fmtNat, readLong_fmtInt⟩

example : NoDigitHead ['\n', '1'] := by intro c h; simp at h; subst h; decide
example : readLong (fmtInt (-9223372036854775808) ++ ['\t', '7']) = .ok (-9223372036854775808, ['\t', '7']) :=
  int_roundtrip.2 _ _ (by decide) (by decide) (noDigitHead_cons rfl)
/-- outside the range the reader reports an error (ERANGE), as strtoul does -/
example : readULong (fmtNat 18446744073709551616) = .error .range := by rfl

/-- util::kConverter: NO_FLAGS, exponent character 'e', no minimum exponent width -/
theorem conv_plain : PlainConv conv := ⟨rfl, rfl, rfl, rfl, rfl⟩

theorem conv_symbols : conv.infSym = ['i', 'n', 'f'] ∧ conv.nanSym = ['N', 'a', 'N'] ∧
    infSymbolIsNull = false ∧ nanSymbolIsNull = false := by decide +kernel

/-- The text consists of number characters only and denotes exactly (−1)^neg · 0.d₁…dₙ · 10^point.
`rest` is what follows the number in the file (`NumTerm`: end of input or a character that cannot continue a
number; ARPA files have a tab or a newline there).  The reader model returns sign, mantissa and decimal exponent
with `mant · 10^exp = d₁…dₙ · 10^(point − n)`, i.e. the value `0.d₁…dₙ · 10^point` (`k` = padding zeros that
became part of the mantissa), and the unconsumed `rest`.  Correct rounding of that exact decimal value to
binary is double-conversion's Strtod (trusted, exercised exhaustively for float32 by the harness).  The bound on `point` is any
bound that keeps `|point − 1|` below `1073741823` = `INT_MAX / 2`, where the reader saturates the exponent. -/
theorem fmt_value (neg : Bool) (digits : List Nat) (point : Int) (rest : List Char)
    (hd : ∀ d ∈ digits, d < 10) (hL : 1 ≤ digits.length)
    (hp : -1000000000 ≤ point ∧ point ≤ 1000000000) (hr : NumTerm rest) :
    (∀ ch ∈ fmtShortest conv neg digits point, ch.isDigit = true ∨ ch = '.' ∨ ch = '-' ∨ ch = 'e') ∧
    ∃ (mant : Nat) (exp : Int) (k : Nat),
      readDecimal conv.infSym conv.nanSym (fmtShortest conv neg digits point ++ rest) = .num neg mant exp rest ∧
      mant = digitsVal digits * 10 ^ k ∧ exp + k = point - digits.length := by
  obtain ⟨ip, fp, expo, e, k, hbody, hne, hdig, hexp, hval, harith⟩ :=
    shortestBody_shape conv conv_plain digits point hd hL
  have hsign : (neg && (!(digits.all (· == 0)) || !conv.uniqueZero)) = neg := by
    have : conv.uniqueZero = false := rfl
    simp [this]
  have hinf : NoDigitHead conv.infSym := conv_symbols.1 ▸ noDigitHead_cons rfl
  have hnan : NoDigitHead conv.nanSym := conv_symbols.2.1 ▸ noDigitHead_cons rfl
  rw [fmtShortest_eq, hsign, hbody, List.append_assoc]
  refine ⟨fun ch h => ?_, _, _, k, readDecimal_shape hinf hnan neg ip fp expo rest e hne hdig ?_ hr, hval, harith⟩
  · rcases List.mem_append.mp h with h | h
    · split at h
      · exact .inr (.inr (.inl (List.mem_singleton.mp h)))
      · cases h
    · exact shape_chars hdig (hexp.imp (·.1) (·.1)) ch h
  · exact hexp.imp id fun h => ⟨h.1, by omega⟩

example : NumTerm ['\n'] := by intro c h; simp at h; subst h; decide
example : NumTerm ['\t', '-', '0', '.', '5'] := by intro c h; simp at h; subst h; decide
/-- −1e20f: text "-100000000000000000000", read back as −(1 · 10²⁰) · 10⁰ -/
example : fmtShortest conv true [1] 21 = "-100000000000000000000".toList := by decide +kernel
example : digitsVal [1, 2, 5] = 125 := by decide
/-- signed zero keeps its sign (UNIQUE_ZERO is not set) -/
example : fmtShortest conv true [0] 1 = ['-', '0'] := by decide +kernel

/-- Special values read back (value level: every NaN payload prints as "NaN"): `ReadFloat/ReadDouble` on the text of
NaN / ±inf followed by *anything* (`rest` is arbitrary: the reader accepts NaN by the characters the converter consumed, and
`stripPrefix?` stops after the symbol). -/
theorem special_roundtrip (rest : List Char) :
    filePieceReadF conv.infSym conv.nanSym (fmtValue conv .nan ++ rest) = .nan 3 ∧
    filePieceReadF conv.infSym conv.nanSym (fmtValue conv (.inf false) ++ rest) = .val false 3 ∧
    filePieceReadF conv.infSym conv.nanSym (fmtValue conv (.inf true) ++ rest) = .val true 4 := by
  have hn : fmtValue conv .nan = ['N', 'a', 'N'] := by decide
  have hp : fmtValue conv (.inf false) = ['i', 'n', 'f'] := by decide
  have hm : fmtValue conv (.inf true) = ['-', 'i', 'n', 'f'] := by decide
  have hN : isSpaceC 'N' = false := by decide
  have hi : isSpaceC 'i' = false := by decide
  have hd : isSpaceC '-' = false := by decide
  rw [hn, hp, hm, conv_symbols.1, conv_symbols.2.1]
  have e3 : rest.length + 1 + 1 + 1 - rest.length = 3 := by omega
  have e4 : rest.length + 1 + 1 + 1 + 1 - rest.length = 4 := by omega
  -- the reader evaluated on the three words; `rest` stays a variable: `stripPrefix?` hands it back after the symbol, and the
  -- number of characters consumed is `(symbol ++ rest).length - rest.length` (`e3`, `e4`)
  refine ⟨?_, ?_, ?_⟩ <;>
    simp [filePieceReadF, parseNumberF, readDecimal, startsWith, stripPrefix?, isWhitespaceDC, hN, hi, hd, e3, e4]

/-- what the reader rejects: lower-case "nan", a signed "NaN", junk (ParseNumberException) -/
example : filePieceReadF conv.infSym conv.nanSym ['n', 'a', 'n'] = .err := by decide +kernel
example : filePieceReadF conv.infSym conv.nanSym ['-', 'N', 'a', 'N'] = .err := by decide +kernel
example : filePieceReadF conv.infSym conv.nanSym ['N', 'a', 'N', 'x'] = .nan 3 := by decide +kernel
example : filePieceReadF conv.infSym conv.nanSym [' ', 'N', 'a', 'N', '\t', '1'] = .nan 4 := by decide +kernel

end KV.C19
