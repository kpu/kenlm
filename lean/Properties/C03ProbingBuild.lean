import Proofs.ProbingBuildBigram
import Proofs.ProbingBuildRepresents
import Proofs.ArpaOKCheck
import Proofs.ProbingRestRep
import Proofs.LeftSem
import Proofs.ProbingRestChain
import Properties.C03
/-! C03/C01 — the probing *builder* inside the model (`Model/ProbingBuild.lean` = lm/search_hashed.cc ReadNGrams,
FindLower, AdjustLower, MarkLower, activate, unigram sign fix, missing-`<unk>` fix-up).

The executable model is tied entry by entry to the real `ProbingModel`/`RestProbingModel` structure (stream
`probing-structure`, every n-gram and every blank of every generated ARPA) and its result is checked at run time
against `Table.build a` (`prep` flag of the driver).  Here: the table-operation layer with its error classes; the builder
**represents** `Table.build a` and answers every `FullScore` with the ARPA recursion for every proper loadable ARPA, blank chains
of any length over a basis of any order (`probing_build_represents`, `probing_end_to_end`; excluded, known finding
`blank-based-on-hallucinated-unk`: blanks based on a hallucinated `<unk>`), with instances on `demoClosed` and `demoPruned`;
the same by class of file (`_closed`, `_blank1`, `_single`) and single steps of the per-line argument (`_partial`).
`MaxRestBuild` (`rest = true`, REST_MAX): for models without blanks the built structure represents the table with the rest
function `restOf a Sf` = C08's `maxRest` (`probing_rest_build_represents_closed`, `probing_rest_is_maxRest`,
`probing_rest_refines`, `probing_rest_end_to_end_closed`); for lines with blank chains the operational statement
(`probing_rest_chain_line_partial`) and the equality of all fields except `rest` with the `NoRestBuild` run
(`probing_rest_chain_nonrest_partial`).  Not covered: the `rest` field on chains; `RestProbingModel` on pruned models rests on
the differential check.  See design_notes/C03.md. -/
namespace KV.C03ProbingBuild
open KV.Arpa KV.Table KV.Score KV.State KV.ProbingLM KV.ProbingBuild

/-- **capacity ⇒ `probingSize`** (`Insert`): when an order's real + blank entries reach its bucket count the builder
raises `ProbingSizeException`, it never loops (general: any table satisfying the C20 invariant) -/
theorem insert_capacity_probingSize {o : Ord} {M : Nat → Option Nat} (h : OrdInv o M) (k : Nat) (w : W)
    (hc : o.t.entries + 1 ≥ o.t.N) : o.insert k w = .error .probingSize := ord_insert_full h k w hc

/-- the same for the blank insertion of `FindLower` (`FindOrInsert` of an absent key) -/
theorem findOrInsert_capacity_probingSize {o : Ord} {M : Nat → Option Nat} (h : OrdInv o M) (k : Nat) (w : W)
    (hM : M k = none) (hc : o.t.entries + 1 ≥ o.t.N) : o.findOrInsert k w = .error .probingSize :=
  ord_findOrInsert_full h k w hM hc

/-- below capacity a fresh key is inserted, the table keeps the C20 invariant and represents the extended map -/
theorem insert_below_capacity {o : Ord} {M : Nat → Option Nat} (h : OrdInv o M) (k : Nat) (w : W) (hM : M k = none)
    (hc : o.t.entries + 1 < o.t.N) :
    ∃ o', o.insert k w = .ok o' ∧ OrdInv o' (KV.Probing.upd M k o.pay.length) ∧ o'.pay = o.pay ++ [w] ∧
      o'.t.N = o.t.N ∧ o'.t.entries = o.t.entries + 1 := ord_insert h k w hM hc

/-- **missing context ⇔ `format`**: `ActivateLowerMiddle` raises `FormatLoadException` exactly when the context of the
n-gram is not in the table of the next lower order (n ≥ 3) -/
theorem missing_context_format (combine : Nat → Word → Nat) (g : List Word) (n : Nat) (hn : n ≠ 2) (s : St)
    (M : Nat → Option Nat) (h : OrdInv (s.mid.getD (n - 3) default) M) :
    activate combine g n s = .error .format ↔ M (hashOf combine (g.drop 1)) = none :=
  activate_format_iff combine g n hn s M h

/-- **bigram models, complete fold** (order 2: one table, no blanks): the builder returns `.ok` and `Inv2` holds of the result —
the longest table holds exactly the bigram lines with their probabilities under the C20 invariant; a unigram's sign bit is
cleared iff it ends a bigram, its extension bit set iff it is the context of one. -/
theorem build_bigram (combine : Nat → Word → Nat) (a : Arpa) (nWords : Nat) (buckets : List Nat) (unkMissing : Rat)
    (horder : a.order = 2)
    (hlines : ∀ p ∈ a.entries.filter (fun p => p.1.length ≥ 2), ∃ x y, p.1 = [x, y] ∧ x < nWords ∧ y < nWords)
    (hnd : ((a.entries.filter (fun p => p.1.length ≥ 2)).map (fun p => hashOf combine p.1)).Nodup)
    (hcap : (a.entries.filter (fun p => p.1.length ≥ 2)).length < buckets.getD 0 1)
    (hu : UniOK (initUni a nWords)) :
    ∃ s, build combine false a nWords buckets unkMissing = .ok (fixUnk a unkMissing s) ∧
      Inv2 combine (initUni a nWords) (buckets.getD 0 1) (a.entries.filter (fun p => p.1.length ≥ 2)) s := by
  have hN : 0 < buckets.getD 0 1 := by omega
  have inv0 : Inv2 combine (initUni a nWords) (buckets.getD 0 1) []
      { uni := initUni a nWords, mid := [], longest := emptyOrd (buckets.getD 0 1) } :=
    ⟨rfl, rfl, fun w => by simp [uniAfter],
     ⟨fun _ => none, emptyOrd_inv _ hN, rfl, rfl, rfl, fun j hj => by simp at hj, fun j hj => by simp at hj,
      fun _ _ h => by cases h⟩⟩
  have hlen := initUni_length a nWords
  obtain ⟨s, hf, inv⟩ := inv2_fold combine (initUni a nWords) hu (buckets.getD 0 1)
    (a.entries.filter (fun p => p.1.length ≥ 2)) [] _ inv0
    (fun p hp => by obtain ⟨x, y, h1, h2, h3⟩ := hlines p hp; exact ⟨x, y, h1, by rw [hlen]; exact h2, by rw [hlen]; exact h3⟩)
    (by simpa using hnd) (by simpa using hcap)
  refine ⟨s, ?_, by simpa using inv⟩
  unfold KV.ProbingBuild.build
  simp only [horder, Nat.sub_self, List.range_zero, List.map_nil]
  simp only [bind, Except.bind]
  have : (List.foldlM (fun s p => addLine combine false 2 s p.1 p.2)
      { uni := initUni a nWords, mid := [], longest := emptyOrd (buckets.getD 0 1) }
      (a.entries.filter (fun p => p.1.length ≥ 2))) = .ok s := hf
  rw [this]

/-- … and the bigram line that reaches the bucket count raises `probingSize` -/
theorem build_bigram_capacity (combine : Nat → Word → Nat) (u0 : List W) (N : Nat) (proc : List (List Word × Entry)) (s : St)
    (inv : Inv2 combine u0 N proc s) (x y : Word) (e : Entry) (hcap : proc.length + 1 ≥ N) :
    addLine combine false 2 s [x, y] e = .error .probingSize := bigram_line_full combine u0 N proc s inv x y e hcap

/-- **models without blanks** (`ArpaOK`: well-formed, suffix-closed as every lmplz output is, probabilities ≤ 0, vocabulary =
unigrams, hallucinated `<unk>` consistent), lines in order of n-gram length as the file format demands, pairwise distinct
chained hashes, each order's count below its bucket count: the builder returns `.ok` and the built structure `Represents`
`Table.build a` — entries, probabilities, back-offs, extends-left sign bits and extends-right bits, under the C20 invariant of
every table. -/
theorem probing_build_represents_closed (combine : Nat → Word → Nat) (a : Arpa) (nWords : Nat) (buckets : List Nat) (um : Rat)
    (ok : ArpaOK a nWords um)
    (hsorted : (ngramLines a).Pairwise (fun p q => p.1.length ≤ q.1.length))
    (hnd : ((ngramLines a).map (fun p => hashOf combine p.1)).Nodup)
    (hcaps : ∀ m, (linesOf (ngramLines a) m).length < capOf buckets m) :
    ∃ s Mmid Mlong, build combine false a nWords buckets um = .ok s ∧
      Represents combine (toPLM false a.order s) (Table.build a) Mmid Mlong := by
  have hndk : ((ngramLines a).map (·.1)).Nodup := by
    rw [List.Nodup, List.pairwise_map] at hnd ⊢
    exact hnd.imp fun h e => h (by rw [e])
  have hline : ∀ k, a.gram k ≠ none → 2 ≤ k.length → ∃ e, (k, e) ∈ ngramLines a := fun k hk h2 => by
    obtain ⟨e, he⟩ := Option.ne_none_iff_exists'.mp hk
    exact ⟨e, mem_ngramLines a k e he h2⟩
  -- the suffix of a line is an earlier line
  have hstored : ∀ l1 p l2, ngramLines a = l1 ++ p :: l2 →
      p.1.length < 3 ∨ p.1.take (p.1.length - 1) ∈ [] ++ l1.map (·.1) := by
    intro l1 p l2 hL
    by_cases h3 : p.1.length < 3
    · exact Or.inl h3
    right
    have hp : p ∈ ngramLines a := by rw [hL]; simp
    have hr := ok.sc p.1 (ngramLines_real a p hp).1 (by omega)
    rw [List.dropLast_eq_take] at hr
    obtain ⟨e, he⟩ := hline _ hr (by rw [List.length_take]; omega)
    rw [hL] at he hsorted
    rcases List.mem_append.mp he with h | h
    · exact List.mem_append_right _ (List.mem_map.mpr ⟨_, h, rfl⟩)
    · have hlen : p.1.length ≤ (p.1.take (p.1.length - 1)).length := by
        rcases List.mem_cons.mp h with h | h
        · exact Nat.le_of_eq (congrArg List.length (congrArg Prod.fst h).symm)
        · exact (List.pairwise_cons.mp (List.pairwise_append.mp hsorted).2.1).1 _ h
      rw [List.length_take] at hlen; omega
  refine build_represents_of_lines combine a nWords buckets um ok.toOK' (fun _ => True)
    (stepAll combine a nWords um ok.toOK' (capOf buckets)) (fun _ _ => trivial) hsorted hndk ?_ ?_ ?_
  · intro q hq
    obtain ⟨e, he⟩ := hline q.1 (ngramLines_real a q hq).1 (ngramLines_real a q hq).2
    have h1 : (ngramLines a).lookup q.1 = some q.2 := KV.lookup_of_nodup_keys hndk hq
    rw [KV.lookup_of_nodup_keys hndk he] at h1
    obtain ⟨e', he'⟩ := Option.ne_none_iff_exists'.mp (ngramLines_real a q hq).1
    have he'' := mem_ngramLines a q.1 e' he' (ngramLines_real a q hq).2
    rw [he', ← KV.lookup_of_nodup_keys hndk he'', KV.lookup_of_nodup_keys hndk hq]
  · intro k k' hk hk' h2 hl hh
    obtain ⟨e, he⟩ := hline k (closed_key_real ok.sc hk) h2
    obtain ⟨e', he'⟩ := hline k' (closed_key_real ok.sc hk') (by omega)
    exact congrArg Prod.fst (KV.nodup_map_inj hnd _ he _ he' hh)
  · intro m
    rw [foldKeys_of_stored _ [] hstored, List.nil_append]
    have : (keysOf ((ngramLines a).map (·.1)) m).length = (linesOf (ngramLines a) m).length := by
      simp only [keysOf, linesOf, List.filter_map, List.length_map]; rfl
    rw [this]; exact hcaps m

/-- ARPA → built probing structure → every query = ARPA recursion, for models without blanks: `FullScore` over the structure the
builder produces returns `score a h w` for every state reached by left-to-right scoring and every vocabulary word. -/
theorem probing_end_to_end_closed (combine : Nat → Word → Nat) (a : Arpa) (nWords : Nat) (buckets : List Nat) (um : Rat)
    (ok : ArpaOK a nWords um)
    (hsorted : (ngramLines a).Pairwise (fun p q => p.1.length ≤ q.1.length))
    (hnd : ((ngramLines a).map (fun p => hashOf combine p.1)).Nodup)
    (hcaps : ∀ m, (linesOf (ngramLines a) m).length < capOf buckets m)
    (inj : HashInjective combine (Table.build a))
    (h : List Word) (st : State) (sf : StateFor a h st) (w : Word) (hw : a.gram [w] ≠ none) :
    ∃ s, build combine false a nWords buckets um = .ok s ∧
      (fullScore (KV.ProbingLM.search combine (toPLM false a.order s)) st w).1.prob = score a h w := by
  obtain ⟨s, Mmid, Mlong, hb, rep⟩ := probing_build_represents_closed combine a nWords buckets um ok hsorted hnd hcaps
  exact ⟨s, hb, KV.C03.probing_prob a ok.wf (fun _ => false) combine _ Mmid Mlong rep inj h st sf w hw⟩

/-- a line whose immediate suffix is stored preserves the general invariant (with blanks possibly present) -/
theorem blank_invariant_closed_line (combine : Nat → Word → Nat) (a : Arpa) (u0 : List W) (hu : UniOK u0) (N : Nat) (caps : Nat → Nat)
    (S : List Key) (s : St) (inv : InvG combine a u0 N caps S s) (g : Key) (e : Entry)
    (hn2 : 2 ≤ g.length) (hnN : g.length ≤ N) (hreal : a.gram g = some e)
    (hasc : ∀ k ∈ S, k.length ≤ g.length)
    (hfresh : ∀ k ∈ keysOf S g.length, hashOf combine k ≠ hashOf combine g)
    (hcap : (keysOf S g.length).length + 1 < caps g.length)
    (hbi : g.length = 2 → ∃ x y, g = [x, y] ∧ x < u0.length ∧ y < u0.length)
    (hsuf : 3 ≤ g.length → g.take (g.length - 1) ∈ S) (hctx : 3 ≤ g.length → g.drop 1 ∈ S) :
    ∃ s', addLine combine false N s g e = .ok s' ∧ InvG combine a u0 N caps (S ++ [g]) s' := by
  obtain ⟨b, hb⟩ : ∃ b, g.length = b + 1 := ⟨g.length - 1, (Nat.sub_add_cancel (Nat.le_of_succ_le hn2)).symm⟩
  have hst : g.length < 3 ∨ g.take (g.length - 1) ∈ S := (Nat.lt_or_ge g.length 3).imp_right hsuf
  have hb1 : 1 ≤ b := by omega
  have htop : g.take (b + 1) = g := hb ▸ List.take_length
  have h3 : ∀ {j}, 2 ≤ j → j ≤ b → 3 ≤ g.length := fun h2 hj => hb ▸ Nat.succ_le_succ (Nat.le_trans h2 hj)
  -- a line without blanks over the basis of order `b = |g| - 1`
  have lo : LineOK combine N caps u0.length S g b 0 :=
    { hb := hb1, hpl := hb, nN := hb ▸ hnN,
      basis := hst.imp (fun h => by omega)
        (fun h => by rwa [hb] at h),
      miss := fun j h1 h2 => absurd h1 (Nat.not_lt_of_le h2),
      ctx := fun j h2 h1 hj => by
        rw [List.take_of_length_le (by rw [List.length_drop, hb]; exact h1)]
        exact hctx (h3 h2 hj),
      new := fun h => hfresh g ((mem_keysOf S _ g).mpr ⟨h, rfl⟩) rfl,
      fresh := fun j h1 h2 => by rw [Nat.le_antisymm h2 (Nat.succ_le_of_lt h1), htop, ← hb]; exact hfresh,
      cap := fun j h1 h2 => by rw [Nat.le_antisymm h2 (Nat.succ_le_of_lt h1), ← hb]; exact hcap,
      words := fun h1 => by
        obtain ⟨x, y, rfl, hx, hy⟩ := hbi (by rw [hb, h1])
        exact ⟨hx, hy⟩ }
  have h := invG_step_line hu inv lo e hreal hasc (fun _ h1 h2 => absurd h1 (Nat.not_lt_of_le h2))
    (fun i hi => absurd hi (Nat.not_lt_zero i))
  rwa [addLineKeys_of_stored S g hst] at h

/-- a trigram line whose bigram suffix is neither stored nor a context of a stored key (the common SRI case): `FindLower` inserts
the blank (not-found branch of `FindOrInsert`, counted against the bucket limit), `AdjustLower` gives it
`|bo(context) + p(unigram)|` — assumed (`hval`) to be `|score|`, which `CH.blank_val` proves for a proper file —, back-off `-0.0`,
clears the sign bits of the blank and of the unigram basis, sets the extension bits of the two contexts; the general invariant
holds afterwards for `S ++ [blank, line]`. -/
theorem probing_blank1_step_partial (combine : Nat → Word → Nat) (a : Arpa) (u0 : List W) (hu : UniOK u0) (N : Nat) (caps : Nat → Nat)
    (S : List Key) (s : St) (inv : InvG combine a u0 N caps S s) (x y z : Word) (e : Entry)
    (hN : 3 ≤ N) (hreal : a.gram [x, y, z] = some e) (hblank : a.gram [x, y] = none)
    (hasc : ∀ k ∈ S, k.length ≤ 3)
    (hfresh3 : ∀ k ∈ keysOf S 3, hashOf combine k ≠ hashOf combine [x, y, z])
    (hfresh2 : ∀ k ∈ keysOf S 2, hashOf combine k ≠ hashOf combine [x, y])
    (hcap3 : (keysOf S 3).length + 1 < caps 3) (hcap2 : (keysOf S 2).length + 1 < caps 2)
    (hE : endsInK S [x, y] = false) (hSW : startsWithK S [x, y] = false)
    (hctx : [y, z] ∈ S) (hx : x < u0.length) (hy : y < u0.length)
    (hval : (-(u0.getD x default).mag + (u0.getD y default).backoff).abs = (score a [y] x).abs) :
    ∃ s', addLine combine false N s [x, y, z] e = .ok s' ∧ InvG combine a u0 N caps (S ++ [[x, y]] ++ [[x, y, z]]) s' := by
  have hxy : [x, y] ∉ S := fun h => hfresh2 _ ((mem_keysOf S 2 _).mpr ⟨h, rfl⟩) rfl
  -- one blank over the unigram `x`
  have lo : LineOK combine N caps u0.length S [x, y, z] 1 1 :=
    { hb := Nat.le_refl 1, hpl := rfl, nN := hN, basis := Or.inl rfl,
      miss := fun j h1 h2 => by rw [Nat.le_antisymm h2 h1]; exact hxy,
      ctx := fun j h2 _ hj => by rw [Nat.le_antisymm hj h2]; exact hctx,
      new := fun h => hfresh3 _ ((mem_keysOf S 3 _).mpr ⟨h, rfl⟩) rfl,
      fresh := fun j h1 h2 => by
        rcases Nat.lt_or_eq_of_le h2 with h | h
        · rw [Nat.le_antisymm (Nat.le_of_lt_succ h) h1]; exact hfresh2
        · rw [h]; exact hfresh3,
      cap := fun j h1 h2 => by
        rcases Nat.lt_or_eq_of_le h2 with h | h
        · rw [Nat.le_antisymm (Nat.le_of_lt_succ h) h1]; exact hcap2
        · rw [h]; exact hcap3,
      words := fun _ => ⟨hx, hy⟩ }
  have h := invG_step_line hu inv lo e hreal hasc (fun j h1 h2 => by rw [Nat.le_antisymm h2 h1]; exact hSW) (fun i hi => by
    -- the probability of the blank: the unigram's plus the back-off of the context
    rw [Nat.lt_one_iff.mp hi]
    have hw1 : ∀ w, afterFind (wantAll a u0 S) [x, y, z] (lineW e) 1 1 [w] = wantAll a u0 S [w] := fun w =>
      afterFind_low _ [x, y, z] _ 1 1 (Nat.lt_succ_self 2) [w] (Nat.le_refl 1)
    simpa [blankAt, vAt, hw1, setExtension_backoff, wantAll, expU, baseAll, baseW, hblank, markW, clr, setProb, blankW] using hval)
  have hK : addLineKeys S [x, y, z] = S ++ [[x, y]] ++ [[x, y, z]] := by simp [addLineKeys, missing, hxy]
  rwa [hK] at h

/-- **every loadable proper ARPA**, blank chains of any length over a basis of any order.  `ArpaOK'`: well-formed; probabilities ≤ 0
including the backed-off products of the blanks (`proper`); vocabulary = unigram lines; words of n-grams are unigrams; the `<unk>`
fix-up convention; `unkBasis`: no blank is based on a hallucinated `<unk>` (the known finding `blank-based-on-hallucinated-unk`).
Further: the file's order of n-gram sections, distinct n-grams, injectivity of the 64-bit hash on the keys of one order, bucket
counts above the final entry counts (real + blanks) — the conditions under which the real loader returns without an exception.
Then `build` returns `.ok s` and `s` **represents** `Table.build a`: every key (real n-gram or hallucinated blank) is found with the
probability, back-off, sign bit (`independent_left`) and extension bit `Table.build a` prescribes, and nothing else is found. -/
theorem probing_build_represents (combine : Nat → Word → Nat) (a : Arpa) (nWords : Nat) (buckets : List Nat) (um : Rat)
    (ok : ArpaOK' a nWords um)
    (hsorted : (ngramLines a).Pairwise (fun p q => p.1.length ≤ q.1.length))
    (hdist : (a.entries.map (·.1)).Nodup)
    (hinj : ∀ k k', IsKey a k → IsKey a k' → k.length = k'.length → hashOf combine k = hashOf combine k' → k = k')
    (hcaps : ∀ m, (keysOf (foldKeys [] (ngramLines a)) m).length < capOf buckets m) :
    ∃ s Mmid Mlong, build combine false a nWords buckets um = .ok s ∧
      Represents combine (toPLM false a.order s) (Table.build a) Mmid Mlong :=
  build_represents_of_step combine a nWords buckets um ok (fun _ => True)
    (stepAll combine a nWords um ok (capOf buckets)) (fun _ _ => trivial) hsorted hdist hinj hcaps

/-- `probing_build_represents` for the files in which every n-gram of order ≥ 4 has its immediate suffix (`Cls1`; every model of
order ≤ 3, pruned or not, is one): the blanks are then bigrams over a unigram -/
theorem probing_build_represents_blank1 (combine : Nat → Word → Nat) (a : Arpa) (nWords : Nat) (buckets : List Nat) (um : Rat)
    (ok : ArpaOK' a nWords um)
    (hcls : ∀ q ∈ ngramLines a, Cls1 a q.1)
    (hsorted : (ngramLines a).Pairwise (fun p q => p.1.length ≤ q.1.length))
    (hdist : (a.entries.map (·.1)).Nodup)
    (hinj : ∀ k k', IsKey a k → IsKey a k' → k.length = k'.length → hashOf combine k = hashOf combine k' → k = k')
    (hcaps : ∀ m, (keysOf (foldKeys [] (ngramLines a)) m).length < capOf buckets m) :
    ∃ s Mmid Mlong, build combine false a nWords buckets um = .ok s ∧
      Represents combine (toPLM false a.order s) (Table.build a) Mmid Mlong :=
  probing_build_represents combine a nWords buckets um ok hsorted hdist hinj hcaps

theorem probing_end_to_end_blank1 (combine : Nat → Word → Nat) (a : Arpa) (nWords : Nat) (buckets : List Nat) (um : Rat)
    (ok : ArpaOK' a nWords um)
    (hcls : ∀ q ∈ ngramLines a, Cls1 a q.1)
    (hsorted : (ngramLines a).Pairwise (fun p q => p.1.length ≤ q.1.length))
    (hdist : (a.entries.map (·.1)).Nodup)
    (hinj : ∀ k k', IsKey a k → IsKey a k' → k.length = k'.length → hashOf combine k = hashOf combine k' → k = k')
    (hcaps : ∀ m, (keysOf (foldKeys [] (ngramLines a)) m).length < capOf buckets m)
    (inj : HashInjective combine (Table.build a))
    (h : List Word) (st : State) (sf : StateFor a h st) (w : Word) (hw : a.gram [w] ≠ none) :
    ∃ s, build combine false a nWords buckets um = .ok s ∧
      (fullScore (KV.ProbingLM.search combine (toPLM false a.order s)) st w).1.prob = score a h w := by
  obtain ⟨s, Mmid, Mlong, hb, rep⟩ := probing_build_represents_blank1 combine a nWords buckets um ok hcls hsorted hdist hinj hcaps
  exact ⟨s, hb, KV.C03.probing_prob a ok.wf (fun _ => false) combine _ Mmid Mlong rep inj h st sf w hw⟩

/-- `probing_build_represents` for the files in which every n-gram of order ≥ 4 has its immediate suffix or the next shorter one
(`Cls2`): single blanks over a basis of any order -/
theorem probing_build_represents_single (combine : Nat → Word → Nat) (a : Arpa) (nWords : Nat) (buckets : List Nat) (um : Rat)
    (ok : ArpaOK' a nWords um)
    (hcls : ∀ q ∈ ngramLines a, Cls2 a q.1)
    (hsorted : (ngramLines a).Pairwise (fun p q => p.1.length ≤ q.1.length))
    (hdist : (a.entries.map (·.1)).Nodup)
    (hinj : ∀ k k', IsKey a k → IsKey a k' → k.length = k'.length → hashOf combine k = hashOf combine k' → k = k')
    (hcaps : ∀ m, (keysOf (foldKeys [] (ngramLines a)) m).length < capOf buckets m) :
    ∃ s Mmid Mlong, build combine false a nWords buckets um = .ok s ∧
      Represents combine (toPLM false a.order s) (Table.build a) Mmid Mlong :=
  probing_build_represents combine a nWords buckets um ok hsorted hdist hinj hcaps

theorem probing_end_to_end_single (combine : Nat → Word → Nat) (a : Arpa) (nWords : Nat) (buckets : List Nat) (um : Rat)
    (ok : ArpaOK' a nWords um)
    (hcls : ∀ q ∈ ngramLines a, Cls2 a q.1)
    (hsorted : (ngramLines a).Pairwise (fun p q => p.1.length ≤ q.1.length))
    (hdist : (a.entries.map (·.1)).Nodup)
    (hinj : ∀ k k', IsKey a k → IsKey a k' → k.length = k'.length → hashOf combine k = hashOf combine k' → k = k')
    (hcaps : ∀ m, (keysOf (foldKeys [] (ngramLines a)) m).length < capOf buckets m)
    (inj : HashInjective combine (Table.build a))
    (h : List Word) (st : State) (sf : StateFor a h st) (w : Word) (hw : a.gram [w] ≠ none) :
    ∃ s, build combine false a nWords buckets um = .ok s ∧
      (fullScore (KV.ProbingLM.search combine (toPLM false a.order s)) st w).1.prob = score a h w := by
  obtain ⟨s, Mmid, Mlong, hb, rep⟩ := probing_build_represents_single combine a nWords buckets um ok hcls hsorted hdist hinj hcaps
  exact ⟨s, hb, KV.C03.probing_prob a ok.wf (fun _ => false) combine _ Mmid Mlong rep inj h st sf w hw⟩

/-- **C01/C03 end to end**: under the hypotheses of `probing_build_represents` and hash injectivity on the table, the structure the
builder produces answers every `FullScore` with the ARPA recursion `score a h w` -/
theorem probing_end_to_end (combine : Nat → Word → Nat) (a : Arpa) (nWords : Nat) (buckets : List Nat) (um : Rat)
    (ok : ArpaOK' a nWords um)
    (hsorted : (ngramLines a).Pairwise (fun p q => p.1.length ≤ q.1.length))
    (hdist : (a.entries.map (·.1)).Nodup)
    (hinj : ∀ k k', IsKey a k → IsKey a k' → k.length = k'.length → hashOf combine k = hashOf combine k' → k = k')
    (hcaps : ∀ m, (keysOf (foldKeys [] (ngramLines a)) m).length < capOf buckets m)
    (inj : HashInjective combine (Table.build a))
    (h : List Word) (st : State) (sf : StateFor a h st) (w : Word) (hw : a.gram [w] ≠ none) :
    ∃ s, build combine false a nWords buckets um = .ok s ∧
      (fullScore (KV.ProbingLM.search combine (toPLM false a.order s)) st w).1.prob = score a h w := by
  obtain ⟨s, Mmid, Mlong, hb, rep⟩ := probing_build_represents combine a nWords buckets um ok hsorted hdist hinj hcaps
  exact ⟨s, hb, KV.C03.probing_prob a ok.wf (fun _ => false) combine _ Mmid Mlong rep inj h st sf w hw⟩

/-- the conclusion of `probing_build_represents` with the default `unknown_missing_logprob = -100` as a proposition:
the hypothesis of `probing_end_to_end_partial` -/
def ProbingBuildRepresents (combine : Nat → Word → Nat) (a : Arpa) (nWords : Nat) (buckets : List Nat) : Prop :=
  ∃ s Mmid Mlong, build combine false a nWords buckets = .ok s ∧
    Represents combine (toPLM false a.order s) (Table.build a) Mmid Mlong

theorem probingBuildRepresents_holds (combine : Nat → Word → Nat) (a : Arpa) (nWords : Nat) (buckets : List Nat)
    (ok : ArpaOK' a nWords (-100))
    (hsorted : (ngramLines a).Pairwise (fun p q => p.1.length ≤ q.1.length))
    (hdist : (a.entries.map (·.1)).Nodup)
    (hinj : ∀ k k', IsKey a k → IsKey a k' → k.length = k'.length → hashOf combine k = hashOf combine k' → k = k')
    (hcaps : ∀ m, (keysOf (foldKeys [] (ngramLines a)) m).length < capOf buckets m) :
    ProbingBuildRepresents combine a nWords buckets :=
  probing_build_represents combine a nWords buckets (-100) ok hsorted hdist hinj hcaps

/-- `probing_end_to_end` in conditional form: given `ProbingBuildRepresents` for the model at hand, every `FullScore` over the
structure the builder produced equals the ARPA recursion -/
theorem probing_end_to_end_partial (combine : Nat → Word → Nat) (a : Arpa) (wf : WellFormed a) (nWords : Nat) (buckets : List Nat)
    (hrep : ProbingBuildRepresents combine a nWords buckets) (inj : HashInjective combine (Table.build a))
    (h : List Word) (st : State) (sf : StateFor a h st) (w : Word) (hw : a.gram [w] ≠ none) :
    ∃ s, build combine false a nWords buckets = .ok s ∧
      (fullScore (KV.ProbingLM.search combine (toPLM false a.order s)) st w).1.prob = score a h w := by
  obtain ⟨s, Mmid, Mlong, hb, rep⟩ := hrep
  exact ⟨s, hb, KV.C03.probing_prob a wf (fun _ => false) combine _ Mmid Mlong rep inj h st sf w hw⟩

/-- a concrete (injective on the examples) word-hash combiner -/
def cmb (c : Nat) (w : Word) : Nat := c * 16 + w + 1

/-- a concrete `ArpaOK` instance: the hypotheses of `probing_build_represents_closed` are satisfiable -/
theorem demoClosed_ok : ArpaOK KV.C01.demoClosed 4 (-100) := by
  refine ⟨KV.C01.demoClosed_wf, KV.C01.demoClosed_closed, ?_, ?_, ?_, by decide +kernel⟩
  · intro g e h
    have hm := lookup_some_mem _ _ _ h
    simp [KV.C01.demoClosed] at hm
    rcases hm with h | h | h | h | h | h | h <;> (obtain ⟨_, rfl⟩ := h) <;> decide +kernel
  · intro w
    constructor
    · intro h
      match w, h with
      | 0, _ => decide +kernel
      | 1, _ => decide +kernel
      | 2, _ => decide +kernel
      | 3, _ => decide +kernel
    · intro h
      obtain ⟨e, he⟩ := Option.ne_none_iff_exists'.mp h
      have hm := lookup_some_mem _ _ _ he
      simp [KV.C01.demoClosed] at hm
      rcases hm with h | h | h | h <;> (obtain ⟨rfl, _⟩ := h) <;> decide
  · intro h; exact absurd h (by decide)

example : ∃ s Mmid Mlong, build cmb false KV.C01.demoClosed 4 [4, 4] (-100) = .ok s ∧
    Represents cmb (toPLM false KV.C01.demoClosed.order s) (KV.Table.build KV.C01.demoClosed) Mmid Mlong :=
  KV.C03ProbingBuild.probing_build_represents_closed cmb KV.C01.demoClosed 4 [4, 4] (-100) demoClosed_ok
    (by decide +kernel) (by decide +kernel) (by intro m; match m with
      | 0 => decide +kernel | 1 => decide +kernel | 2 => decide +kernel | 3 => decide +kernel
      | m+4 => simp [linesOf, ngramLines, KV.C01.demoClosed, capOf])

/-- "a b c d" (1 2 3 4) present with contexts "a b c", "a b"; its suffixes "b c d" and "c d" are pruned:
two-level blank chain [4,3,2] → [4,3] based on the unigram 4 -/
def demoPruned : Arpa :=
  { order := 4,
    entries := [([0], ⟨-5, 0, false⟩), ([1], ⟨-1, -1/2, false⟩), ([2], ⟨-1, -1/4, false⟩), ([3], ⟨-2, -1/8, false⟩), ([4], ⟨-3, 0, false⟩),
                ([2,1], ⟨-1/2, -1/16, false⟩), ([3,2], ⟨-3/4, -1/32, false⟩), ([3,2,1], ⟨-1/3, -1/64, false⟩), ([4,3,2,1], ⟨-1/5, 0, false⟩)] }

/-- the built structure holds every key of `Table.build a` with the payload it prescribes -/
def repCheck (combine : Nat → Word → Nat) (a : Arpa) (st : St) : Bool :=
  (keys a).all fun g =>
    match (KV.Table.build a).lookup g with
    | none => true
    | some t =>
      match g with
      | [] => true
      | [w] => wFound false (st.uni.getD w default) == toFound t
      | _ =>
        if g.length == a.order then
          match KV.Probing.find id st.longest.t (hashOf combine g) with
          | some (some i) => -(st.longest.pay.getD i default).mag == t.prob
          | _ => false
        else
          match KV.Probing.find id (st.mid.getD (g.length - 2) default).t (hashOf combine g) with
          | some (some i) => wFound false ((st.mid.getD (g.length - 2) default).pay.getD i default) == toFound t
          | _ => false

example : (KV.Table.build demoPruned).lookup [4,3,2] = some ⟨-1/32 + (-1/8 + -3), 0, true, false, true⟩ := by decide +kernel
example : (KV.Table.build demoPruned).lookup [4,3] = some ⟨-1/8 + -3, 0, true, false, true⟩ := by decide +kernel
example : (match build cmb false demoPruned 5 [4, 4, 4] (-100) with
    | .ok st => repCheck cmb demoPruned st
    | .error _ => false) = true := by decide +kernel

/-- **a line with a chain of blanks, operational half**: a line `p` of order `b+L+1` whose suffixes of orders `b+1 .. b+L` are not
stored and whose suffix of order `b` is (or `b = 1`, the unigram).  From any state satisfying the invariant `InvG`, `addLine`
succeeds, appends exactly the `L` blanks and the line to their tables, and leaves in every table and in the unigram array the
payloads `chainWant`: the blank probabilities filled bottom-up from the basis (`fillUs`: `prob += backoff(context)` per level, with
`SetExtension` on the context), the sign bit cleared along the chain (`chainKeys`), the extension mark on the line's context.
That these are the payloads prescribed for the enlarged key set is `LineKeys.line_sem`. -/
theorem probing_chain_line_partial (combine : Nat → Word → Nat) (a : Arpa) (u0 : List W) (N : Nat) (caps : Nat → Nat)
    (S : List Key) (s : St) (inv : InvG combine a u0 N caps S s) (si : SInv a S) (p : Key) (e : Entry)
    (lc : LC combine a u0 N caps S p e) (b L : Nat) (hb : 1 ≤ b) (hL : 1 ≤ L) (hpl : p.length = b + L + 1)
    (hbasis : b = 1 ∨ p.take b ∈ S) (hmiss : ∀ j, b < j → j ≤ b + L → p.take j ∉ S)
    (hcapn : (keysOf S (b + L + 1)).length + 1 < caps (b + L + 1))
    (hcapj : ∀ j, b < j → j ≤ b + L → (keysOf S j).length + 1 < caps j) :
    ∃ s' Ks' want1, addLine combine false N s p e = .ok s' ∧
      (∀ m, Ks' m = if b < m ∧ m ≤ b + L then keysOf (S ++ [p]) m ++ [p.take m] else keysOf (S ++ [p]) m) ∧
      (∀ k, want1 k = if b < k.length ∧ k.length ≤ b + L ∧ k = p.take k.length then blankW
        else updW (wantAll a u0 S) p (lineW e) k) ∧
      StP combine N caps u0.length s' Ks' (chainWant want1 p b L) := by
  have bl : Blanks S p b L := ⟨hb, hpl, hbasis, hmiss⟩
  obtain ⟨s', hadd, h⟩ := addLine_run false (stP_of_invG inv) (LineOK.of_lc si lc bl) e (fun h => nomatch h)
  exact ⟨s', _, _, hadd, fun _ => rfl, fun _ => rfl, afterLine_false _ p _ b L ▸ h⟩

theorem chain_updates_eval (us : List (Key × (W → W))) (want : Key → W) (k : Key) :
    applyUpd want us k = (us.filter (fun u => u.1 == k)).foldl (fun w u => u.2 w) (want k) := by
  revert want k
  induction us with
  | nil => intro want k; rfl
  | cons u us ih =>
    intro want k
    show applyUpd (updW want u.1 (u.2 (want u.1))) us k = _
    rw [ih, List.filter_cons]
    by_cases hk : u.1 = k
    · subst hk; simp [updW]
    · have hk' : k ≠ u.1 := fun h => hk h.symm
      simp [updW, hk, hk']

/-- the hypotheses of `probing_build_represents` are satisfiable by a model with a two-level blank chain -/
theorem demoPruned_ok : ArpaOK' demoPruned 5 (-100) := arpaOK'_of_check _ _ _ (by decide +kernel)

theorem demoPruned_caps : ∀ m, (keysOf (foldKeys [] (ngramLines demoPruned)) m).length < capOf [4, 4, 4] m := by
  have hk : foldKeys [] (ngramLines demoPruned) = [[2,1], [3,2], [3,2,1], [4,3], [4,3,2], [4,3,2,1]] := by decide +kernel
  intro m
  rw [hk]
  match m with
  | 0 => decide
  | 1 => decide
  | 2 => decide
  | 3 => decide
  | 4 => decide
  | m+5 => simp [keysOf, capOf]

/-- **instance**: the builder on `demoPruned` (blanks `[4,3,2]` → `[4,3]` → unigram 4) represents `Table.build demoPruned`;
`sqc` is an injective combiner (`hashOf_sqc_inj`), standing for the 64-bit hash on collision-free inputs -/
theorem demoPruned_represents : ∃ s Mmid Mlong, build sqc false demoPruned 5 [4, 4, 4] (-100) = .ok s ∧
    Represents sqc (toPLM false demoPruned.order s) (Table.build demoPruned) Mmid Mlong :=
  probing_build_represents sqc demoPruned 5 [4, 4, 4] (-100) demoPruned_ok (by decide +kernel) (by decide +kernel)
    (fun k k' _ _ hl h => hashOf_sqc_inj k k' hl h) demoPruned_caps

/-- **instance** of `probing_end_to_end`: every `FullScore` from any state valid for its history, on the structure built
from `demoPruned`, equals the ARPA recursion — including the queries answered through the two hallucinated blanks -/
theorem demoPruned_end_to_end (h : List Word) (st : State) (sf : StateFor demoPruned h st) (w : Word)
    (hw : demoPruned.gram [w] ≠ none) :
    ∃ s, build sqc false demoPruned 5 [4, 4, 4] (-100) = .ok s ∧
      (fullScore (KV.ProbingLM.search sqc (toPLM false demoPruned.order s)) st w).1.prob = score demoPruned h w :=
  probing_end_to_end sqc demoPruned 5 [4, 4, 4] (-100) demoPruned_ok (by decide +kernel) (by decide +kernel)
    (fun k k' _ _ hl h => hashOf_sqc_inj k k' hl h) demoPruned_caps
    (fun g g' hl _ h => hashOf_sqc_inj g g' hl h) h st sf w hw

/-- **`MaxRestBuild`** (lm/value_build.hh: `SetRest`, `MarkExtends` raising `rest`, `kMarkEvenLower`/`MarkLower`) on every proper
loadable ARPA in which no blank is hallucinated (`ClsC`: every n-gram of order ≥ 3 has its immediate suffix, i.e. suffix-closed
models) and whose `<unk>` unigram is in the file (`unkHallucinated = false`; `hcount`: there are at least `nWords` unigram lines,
so that `SetRest` reaches every word id).  The builder returns `.ok s`, and `InvT`: every table and the unigram array of `s` hold for
each stored key `k` the payload of the `NoRestBuild` run (`wantAll`) with `rest = restOf a Sf k`, the maximum of `val a k` (the key's
own probability) and `val a k'` over all stored n-grams `k'` that extend `k` to the left, transitively. -/
theorem probing_rest_build_closed_partial (combine : Nat → Word → Nat) (a : Arpa) (nWords : Nat) (buckets : List Nat) (um : Rat)
    (ok : ArpaOK' a nWords um) (hu : a.unkHallucinated = false)
    (hcount : nWords ≤ (a.entries.filter fun p => p.1.length == 1).length)
    (hcls : ∀ q ∈ ngramLines a, ClsC a q.1)
    (hsorted : (ngramLines a).Pairwise (fun p q => p.1.length ≤ q.1.length))
    (hdist : (a.entries.map (·.1)).Nodup)
    (hinj : ∀ k k', IsKey a k → IsKey a k' → k.length = k'.length → hashOf combine k = hashOf combine k' → k = k')
    (hcaps : ∀ m, (keysOf (foldKeys [] (ngramLines a)) m).length < capOf buckets m) :
    ∃ s, build combine true a nWords buckets um = .ok s ∧
      InvT combine a nWords (capOf buckets) (foldKeys [] (ngramLines a)) s ∧ Final a (foldKeys [] (ngramLines a)) := by
  obtain ⟨s, hb, inv, ffin⟩ := build_fold combine a nWords buckets um ok (ClsC a) true (InvT combine a nWords (capOf buckets))
    (fun S s p e h si lc cls => step_storedT combine a nWords um ok (capOf buckets) S s p e h si lc
      (fun h3 => lc.rs _ (cls h3) (by rw [List.length_take]; omega) (by rw [List.length_take]; omega)))
    (invT_init combine a nWords buckets um ok hu hcount fun m => Nat.lt_of_le_of_lt (Nat.zero_le _) (hcaps m))
    hcls hsorted (ngramLines_of_nodup a hdist).1 (ngramLines_of_nodup a hdist).2
    (fun k k' hk hk' _ => hinj k k' hk hk') hcaps
  have hfix : fixUnk a um s = s := by unfold fixUnk; simp [hu]
  exact ⟨s, hfix ▸ hb, inv, ffin⟩

/-- what `InvT` says about one stored n-gram: it is found (its hash maps to an index) and the payload at that index is the
`NoRestBuild` payload with `rest = restOf` -/
theorem probing_rest_payload (combine : Nat → Word → Nat) (a : Arpa) (nWords : Nat) (caps : Nat → Nat) (Sf : List Key) (s : St)
    (inv : InvT combine a nWords caps Sf s) (g : Key) (hg : g ∈ Sf) (h2 : 2 ≤ g.length) (hN : g.length ≤ a.order) :
    ∃ M j, OrdInv (tbl a.order s g.length) M ∧ M (hashOf combine g) = some j ∧
      (tbl a.order s g.length).pay.getD j default = { (wantW a Sf g) with rest := restOf a Sf g } := by
  obtain ⟨M, hP⟩ := inv.tabs g.length h2 hN
  obtain ⟨j, hj, hje, hM⟩ := hP.find_mem g ((mem_keysOf Sf _ g).mpr ⟨hg, rfl⟩)
  refine ⟨M, j, hP.inv, hM, ?_⟩
  rw [hP.pay j hj, hje]
  rw [wantT, wantAll_key _ _ _ h2]

/-- … and about a unigram: `rest` of a word is the maximum over the word's probability and all stored n-grams ending in it -/
theorem probing_rest_unigram (combine : Nat → Word → Nat) (a : Arpa) (nWords : Nat) (caps : Nat → Nat) (Sf : List Key) (s : St)
    (inv : InvT combine a nWords caps Sf s) (w : Word) :
    s.uni.getD w default = { (expU Sf w ((initUni a nWords).getD w default)) with rest := restOf a Sf [w] } := by
  rw [inv.uni w, wantT, wantAll_uni]

/-- `restOf` is an upper bound of the probabilities of the key and of everything stored that extends it to the left, and
it is the least one (it is their maximum) -/
theorem restOf_is_max (a : Arpa) (S : List Key) (k : Key) :
    val a k ≤ restOf a S k ∧ (∀ k' ∈ S, k <+: k' → val a k' ≤ restOf a S k) ∧
    (∀ B, val a k ≤ B → (∀ k' ∈ S, k <+: k' → val a k' ≤ B) → restOf a S k ≤ B) :=
  ⟨restOf_ge_self a S k, fun k' hk hp => restOf_ge_mem a S k k' hk hp, fun B h0 h => restOf_le a S k B h0 h⟩

/-- … as a representation: the structure built with `MaxRestBuild` represents `Table.build a` with the rest function
`R := restOf a Sf` (`Sf` = the keys of the table) -/
theorem probing_rest_build_represents_closed (combine : Nat → Word → Nat) (a : Arpa) (nWords : Nat) (buckets : List Nat) (um : Rat)
    (ok : ArpaOK' a nWords um) (hu : a.unkHallucinated = false)
    (hcount : nWords ≤ (a.entries.filter fun p => p.1.length == 1).length)
    (hcls : ∀ q ∈ ngramLines a, ClsC a q.1)
    (hsorted : (ngramLines a).Pairwise (fun p q => p.1.length ≤ q.1.length))
    (hdist : (a.entries.map (·.1)).Nodup)
    (hinj : ∀ k k', IsKey a k → IsKey a k' → k.length = k'.length → hashOf combine k = hashOf combine k' → k = k')
    (hcaps : ∀ m, (keysOf (foldKeys [] (ngramLines a)) m).length < capOf buckets m) :
    ∃ s Mmid Mlong, build combine true a nWords buckets um = .ok s ∧
      RepresentsR combine (toPLM true a.order s) (Table.build a) (restOf a (foldKeys [] (ngramLines a))) Mmid Mlong := by
  obtain ⟨s, hb, inv, ffin⟩ := probing_rest_build_closed_partial combine a nWords buckets um ok hu hcount hcls hsorted hdist hinj hcaps
  obtain ⟨Mmid, Mlong, rep⟩ := representsR_of_invT combine a nWords um ok hu (capOf buckets) _ ffin s inv
  exact ⟨s, Mmid, Mlong, hb, rep⟩

/-- A probing structure with rest costs that `RepresentsR` the table answers `FullScore` exactly
like `KV.Left.restSearch T R`, the search over the abstract table whose `Rest()` is `R`.  C08's theorems (`extendLeft_eq`,
`any_derivation`, `reveal_*` …) are stated over `restSearch T R` for an arbitrary `R`: with this refinement they apply to the
built `RestProbingModel` with `R := restOf a Sf`. -/
theorem probing_rest_refines (combine : Nat → Word → Nat) (P : KV.ProbingLM.PLM) (T : Table) (R : List Word → Rat)
    (Mmid : Nat → Nat → Option Nat) (Mlong : Nat → Option Nat)
    (rep : RepresentsR combine P T R Mmid Mlong) (inj : HashInjective combine T) (hN : 2 ≤ T.order) (s : State) (w : Word) :
    (fullScore (KV.ProbingLM.search combine P) s w).1.prob = (fullScore (KV.Left.restSearch T R) s w).1.prob ∧
    (fullScore (KV.ProbingLM.search combine P) s w).1.ngramLength = (fullScore (KV.Left.restSearch T R) s w).1.ngramLength ∧
    (fullScore (KV.ProbingLM.search combine P) s w).1.independentLeft = (fullScore (KV.Left.restSearch T R) s w).1.independentLeft ∧
    (fullScore (KV.ProbingLM.search combine P) s w).1.rest = (fullScore (KV.Left.restSearch T R) s w).1.rest ∧
    (fullScore (KV.ProbingLM.search combine P) s w).2 = (fullScore (KV.Left.restSearch T R) s w).2 :=
  fullScore_sim _ _ _ (probing_simR combine P T R Mmid Mlong rep inj hN)
    (by show 2 ≤ P.order; rw [rep.order]; exact hN) s w

/-- REST_MAX end to end for models without blanks: on the structure `build … true`
produces, `FullScore` returns the ARPA recursion as probability, and its `rest` is `restOf a Sf` of the longest matching
n-gram `w :: ctx.take c0` (whenever that is not of the highest order, where the code returns `rest = prob`): the maximum
of that n-gram's probability and the probabilities of all n-grams of the model that extend it to the left. -/
theorem probing_rest_end_to_end_closed (combine : Nat → Word → Nat) (a : Arpa) (nWords : Nat) (buckets : List Nat) (um : Rat)
    (ok : ArpaOK' a nWords um) (hu : a.unkHallucinated = false)
    (hcount : nWords ≤ (a.entries.filter fun p => p.1.length == 1).length)
    (hcls : ∀ q ∈ ngramLines a, ClsC a q.1)
    (hsorted : (ngramLines a).Pairwise (fun p q => p.1.length ≤ q.1.length))
    (hdist : (a.entries.map (·.1)).Nodup)
    (hinj : ∀ k k', IsKey a k → IsKey a k' → k.length = k'.length → hashOf combine k = hashOf combine k' → k = k')
    (hcaps : ∀ m, (keysOf (foldKeys [] (ngramLines a)) m).length < capOf buckets m)
    (inj : HashInjective combine (Table.build a))
    (h : List Word) (st : State) (sf : StateFor a h st) (w : Word) (hw : a.gram [w] ≠ none) :
    ∃ s, build combine true a nWords buckets um = .ok s ∧
      (fullScore (KV.ProbingLM.search combine (toPLM true a.order s)) st w).1.prob = score a h w ∧
      ∃ c0, (fullScore (KV.ProbingLM.search combine (toPLM true a.order s)) st w).1.ngramLength = 1 + c0 ∧
        (1 + c0 < a.order →
          (fullScore (KV.ProbingLM.search combine (toPLM true a.order s)) st w).1.rest =
            restOf a (foldKeys [] (ngramLines a)) (w :: (st.words.take st.length).take c0)) := by
  obtain ⟨s, Mmid, Mlong, hb, rep⟩ := probing_rest_build_represents_closed combine a nWords buckets um ok hu hcount hcls hsorted
    hdist hinj hcaps
  obtain ⟨hp, hl, _, hr, _⟩ := probing_rest_refines combine _ _ _ Mmid Mlong rep inj ok.wf.order_ge st w
  have hne : (Table.build a).lookup [w] ≠ none := by
    rw [build_lookup_ne_none]; exact ⟨by simp, Or.inl hw⟩
  obtain ⟨t, ht⟩ := Option.ne_none_iff_exists'.mp hne
  obtain ⟨c0, _, hlen, _, hrest⟩ := KV.Left.fullScore_rest_spec (Table.build a) (restOf a (foldKeys [] (ngramLines a)))
    (build_tableFor a ok.wf _).toTableOK st w t ht
  refine ⟨s, hb, ?_, c0, by rw [hl]; exact hlen, fun hlt => by rw [hr]; exact hrest hlt⟩
  rw [hp, (KV.Left.fullScore_sim (Table.build a) _ st w).1]
  exact KV.C01.fullScore_prob a ok.wf (fun _ => false) h st sf w hw

/-- The rest function proved for the built structure is `KV.Left.maxRest (Table.build a) Sf`,
the definition of `MaxRestBuild`'s rest costs C08 works with (maximum of `prob` over the entry and all table entries having it
as a reversed prefix) -/
theorem probing_rest_is_maxRest (a : Arpa) (wf : WellFormed a) (Sf : List Key) (f : Final a Sf) (g : Key)
    (hg : (Table.build a).lookup g ≠ none) : restOf a Sf g = KV.Left.maxRest (Table.build a) Sf g := by
  obtain ⟨t, ht⟩ := Option.ne_none_iff_exists'.mp hg
  have h0 : KV.Left.noRest (KV.Table.build a) g = val a g := by
    simp only [KV.Left.noRest, ht]; exact build_prob_val a wf g t ht
  unfold restOf KV.Left.maxRest
  rw [h0]
  apply foldl_congr_mem
  intro m k hk
  have hkey := f.si.keys k hk
  have hne : (KV.Table.build a).lookup k ≠ none := (build_lookup_ne_none a _ k).mpr hkey
  obtain ⟨tk, htk⟩ := Option.ne_none_iff_exists'.mp hne
  have hv := build_prob_val a wf k tk htk
  by_cases hp : g.isPrefixOf k
  · simp only [hp, if_true, htk, hv]
    exact rat_max_eq_ite_lt _ _
  · simp only [hp, Bool.false_eq_true, if_false]

/-- **a line with a chain of blanks under `MaxRestBuild`, up to `AdjustLower`**: from any state described by a key-indexed
payload function `want0`, insertion, `FindLower` and `AdjustLower` with `rest = true` succeed and leave the payloads `want1` (blanks
appended, line inserted) updated by `fillUsT` (blank probabilities filled bottom-up, each blank's `rest` = its probability) and
`markUsT` (`MarkExtends` along the chain with the chained `longerRest`, starting from the line's `rest`). -/
theorem probing_rest_chain_adjust_partial (combine : Nat → Word → Nat) (a : Arpa) (u0 : List W) (N : Nat) (caps : Nat → Nat)
    (S : List Key) (s : St) (want0 : Key → W) (h : StP combine N caps u0.length s (keysOf S) want0) (si : SInv a S)
    (p : Key) (e : Entry) (lc : LC combine a u0 N caps S p e) (b L : Nat) (hb : 1 ≤ b) (hL : 1 ≤ L) (hpl : p.length = b + L + 1)
    (hbasis : b = 1 ∨ p.take b ∈ S) (hmiss : ∀ j, b < j → j ≤ b + L → p.take j ∉ S)
    (hcapn : (keysOf S (b + L + 1)).length + 1 < caps (b + L + 1))
    (hcapj : ∀ j, b < j → j ≤ b + L → (keysOf S j).length + 1 < caps j) :
    ∃ s3 Ks' want1,
      (insPhase combine N s p e >>= fun s1 => findLower combine p (p.length - 2) s1 [] >>= fun r =>
        adjustLower combine true (lineW e).rest p p.length r.2 r.1) = .ok s3 ∧
      (∀ m, Ks' m = if b < m ∧ m ≤ b + L then keysOf (S ++ [p]) m ++ [p.take m] else keysOf (S ++ [p]) m) ∧
      (∀ k, want1 k = if b < k.length ∧ k.length ≤ b + L ∧ k = p.take k.length then blankW else updW want0 p (lineW e) k) ∧
      StP combine N caps u0.length s3 Ks'
        (applyUpd (applyUpd want1 (fillUsT want1 p L b (-(want1 (p.take b)).mag)))
          (markUsT (applyUpd want1 (fillUsT want1 p L b (-(want1 (p.take b)).mag))) (chainKeys p b L) (lineW e).rest)) := by
  have bl : Blanks S p b L := ⟨hb, hpl, hbasis, hmiss⟩
  obtain ⟨s1, s2, refs, s3, hins, hfl, hadj, _, _, h3⟩ := addLine_adjust true h (LineOK.of_lc si lc bl) e
  rw [afterAdjust_true] at h3
  refine ⟨s3, _, _, ?_, fun _ => rfl, fun _ => rfl, h3⟩
  rw [hins]
  simp only [bind, Except.bind, hfl, hadj]

/-- … the whole line: from any state satisfying the `MaxRestBuild` invariant `InvT`, `addLine … true` (insertion, `FindLower`,
`AdjustLower`, `MarkLower` below the basis, `activate`) returns `.ok`, appends the `L` blanks and the line, and leaves the payload
function `w5T` in every table and the unigram array.  What `MarkLower` relies on — the suffixes below the basis stored, their `rest`
monotone, their sign bits clear — is `CH.lowOK`; that `AdjustLower` leaves them untouched is `afterAdjust_low`. -/
theorem probing_rest_chain_line_partial {combine : Nat → Word → Nat} {a : Arpa} {nWords : Nat} {um : Rat} {caps : Nat → Nat}
    {S : List Key} {p : Key} {e : Entry} {b L : Nat} (ch : CH combine a nWords um caps S p e b L) (s : St)
    (h : InvT combine a nWords caps S s) :
    ∃ s5 Ks', addLine combine true a.order s p e = .ok s5 ∧
      (∀ m, Ks' m = if b < m ∧ m ≤ b + L then keysOf (S ++ [p]) m ++ [p.take m] else keysOf (S ++ [p]) m) ∧
      StP combine a.order caps (initUni a nWords).length s5 Ks' (w5T a (initUni a nWords) S p e b L) := by
  obtain ⟨s5, hadd, h5⟩ := addLine_run true h ch.lineOK e fun _ => ch.lowOK
  exact ⟨s5, _, hadd, fun _ => rfl, w5T_eq a _ S p e b L ▸ h5⟩

/-- … and on every stored key and every unigram all fields of `w5T` except `rest` (probability, back-off, sign bit, extension
bit) are the ones prescribed for the enlarged key set (`er` forgets `rest`).  The `rest` field on chains — for a new blank the
maximum of `val` over the chain above it — is not covered: `RestProbingModel` on pruned models rests on the differential check. -/
theorem probing_rest_chain_nonrest_partial {combine : Nat → Word → Nat} {a : Arpa} {nWords : Nat} {um : Rat} {caps : Nat → Nat}
    {S : List Key} {p : Key} {e : Entry} {b L : Nat} (ch : CH combine a nWords um caps S p e b L) (k : Key)
    (hk : k ∈ addLineKeys S p ∨ k.length = 1) :
    er (w5T a (initUni a nWords) S p e b L k) = er (wantAll a (initUni a nWords) (addLineKeys S p) k) :=
  ch.chain_sem_rest k hk

end KV.C03ProbingBuild
