import Proofs.Binary
import Proofs.BinaryBhiksha
import Proofs.QuantOps
import Properties.C20
import Model.TrieLM
/-!
# C04 — Binary model files round-trip exactly

Theorems over the model of the binary format (`Model/Binary.lean`, `Model/Bhiksha.lean`, `Model/Quant.lean`).
All struct sizes, offsets, magic strings and version bytes are the regenerated constants of
`Generated/C04.lean`; every statement is for all counts / orders / configurations (no bounds) unless a
hypothesis says otherwise.  What is *not* proved here: the behaviour of mmap/read/msync (OS), the
n-gram contents of the search structures (C01–C03, C20), IEEE arithmetic (assumed in `Quant.Laws`).
-/
namespace KV.C04
open KV.Binary KV.Gen.C04 KV.Bits

/-- The model of `Sanity::SetToReference` produces exactly `sanityRef`, the bytes of the real struct as regenerated into Generated/C04.lean. -/
theorem sanity_model_eq_probe : sanityBytes = sanityRef ∧ sanityBytes.length = sizeofSanity ∧
    sanityMagicField = align8 magicBytes.length := ⟨sanity_eq_ref, sanity_length, by decide⟩

/-- `TotalHeaderSize(order)` of the code for every supported order equals the model's. -/
theorem total_header_table : (List.range (maxOrder + 1)).map totalHeaderSize = totalHeaderSizes := by decide +kernel

/-- `FixedWidthParameters`: the fields the model writes are where the compiler puts them. -/
theorem fixed_layout : offOrder = 0 ∧ offMultiplier + 4 = offModelType ∧ offModelType + sizeofModelType = offHasVocab
    ∧ offHasVocab + sizeofBool ≤ offSearchVersion ∧ offSearchVersion + sizeofSearchVersion = sizeofFixed
    ∧ ∀ f, (fixedBytes f).length = sizeofFixed := by
  refine ⟨by decide, by decide, by decide, by decide, by decide, length_fixedBytes⟩

/-- What `WriteHeader` writes, `IsBinaryFormat` + `ReadHeader` read back, whatever follows
the header in the file. -/
theorem header_roundtrip (p : Params) (h : ParamsWF p) (rest : List Nat) :
    recognize (headerBytes p ++ rest) = .binary p := by
  have e : headerBytes p ++ rest = sanityBytes ++ (fixedBytes p.fixed ++ (countsBytes p.counts ++
      (zeros (totalHeaderSize p.counts.length - (sanityBytes ++ fixedBytes p.fixed ++ countsBytes p.counts).length) ++ rest))) := by
    simp only [headerBytes, List.append_assoc]
  rw [e]
  generalize (zeros (totalHeaderSize p.counts.length - (sanityBytes ++ fixedBytes p.fixed ++ countsBytes p.counts).length) ++ rest) = tail
  have hlen : ¬ (sanityBytes ++ (fixedBytes p.fixed ++ (countsBytes p.counts ++ tail))).length ≤ sizeofSanity := by
    rw [List.length_append, sanity_length, List.length_append, length_fixedBytes]
    exact Nat.not_le.mpr (Nat.lt_add_of_pos_right (Nat.lt_of_lt_of_le (by decide : 0 < sizeofFixed) (Nat.le_add_right _ _)))
  have hd : (sanityBytes ++ (fixedBytes p.fixed ++ (countsBytes p.counts ++ tail))).drop (sizeofSanity + sizeofFixed)
      = countsBytes p.counts ++ tail := by
    rw [← List.append_assoc]
    exact List.drop_left' (by rw [List.length_append, sanity_length, length_fixedBytes])
  rw [recognize, if_neg hlen, List.take_left' sanity_length, if_pos sanity_eq_ref, List.drop_left' sanity_length,
    readFixed_fixedBytes _ h.fixed]
  simp only [h.mult, hd, ← h.len, readCounts_countsBytes _ h.counts]
  rfl

def exampleParams : Params :=
  { fixed := ⟨3, defaultMultiplierBits, tQuantArrayTrie, true, trieSearchVersion⟩, counts := [49, 103, 50] }

example : ParamsWF exampleParams :=
  ⟨⟨by decide, by decide, by decide, by decide⟩, rfl, by decide, by decide⟩

/-- the header has the size `TotalHeaderSize` says (so the vocabulary starts where the loader looks for it) -/
theorem header_length (p : Params) : (headerBytes p).length = totalHeaderSize p.counts.length := by
  have h : (sanityBytes ++ fixedBytes p.fixed ++ countsBytes p.counts).length ≤ totalHeaderSize p.counts.length := by
    rw [List.length_append, List.length_append, sanity_length, length_fixedBytes, length_countsBytes]
    exact totalHeaderSize_ge p.counts.length
  rw [headerBytes, List.length_append, zeros, List.length_replicate, Nat.add_sub_cancel' h]

/-- The "incomplete" marker is shorter than the magic, is not a prefix of a finished header and
does not look like an old-version header; a file that still carries the marker `SetupJustVocab` wrote (at any order,
followed by anything) is rejected with a format error, never recognised. -/
theorem magic_distinct :
    magicIncomplete.length < magicBytes.length
    ∧ ¬ (magicIncomplete <+: sanityRef)
    ∧ (magicBeforeVersion <+: magicBytes)
    ∧ ¬ (magicBeforeVersion <+: magicIncomplete)
    ∧ ∀ order rest, recognize (incompleteHeader order ++ rest) = .errFormat := by
  exact ⟨by decide, magicIncomplete_not_prefix, by decide, by decide, recognize_incomplete⟩

/-- `RecognizeBinary` on a file written by model class `k` returns `k`'s type, and the six
classes have six different type numbers (`Kind.ofNum` inverts `typeNum`), each below `numModelNames`. -/
theorem recognize_type (k : Kind) (order mult : Nat) (hv : Bool) (counts : List Nat) (rest : List Nat)
    (ho : order < 256) (hm : mult < 2^32) (hl : counts.length = order) (hc : ∀ c ∈ counts, c < 2^64)
    (h1 : floatNotGeOne mult = false) :
    ∃ p, recognize (headerBytes { fixed := { order := order, multBits := mult, modelType := k.typeNum, hasVocab := hv,
                                              searchVersion := k.searchVersion }, counts := counts } ++ rest) = .binary p
      ∧ Kind.ofNum p.fixed.modelType = some k ∧ p.fixed.modelType < numModelNames
      ∧ p.fixed.searchVersion = k.searchVersion ∧ p.counts = counts ∧ p.fixed.hasVocab = hv ∧ p.fixed.multBits = mult := by
  obtain ⟨hof, hlt, hsv⟩ := kind_numbers k
  exact ⟨_, header_roundtrip _ ⟨⟨ho, hm, Nat.lt_trans hlt (by decide), hsv⟩, hl, hc, h1⟩ rest, hof, hlt, rfl, rfl, rfl, rfl⟩

theorem model_classes_match_probe :
    (Kind.probing false).typeNum = typeOfProbingModel ∧ (Kind.probing true).typeNum = typeOfRestProbingModel
    ∧ (Kind.trie false false).typeNum = typeOfTrieModel ∧ (Kind.trie true false).typeNum = typeOfQuantTrieModel
    ∧ (Kind.trie false true).typeNum = typeOfArrayTrieModel ∧ (Kind.trie true true).typeNum = typeOfQuantArrayTrieModel := by decide

/-- For every search type, all counts and configurations, `SetupMemory` ends exactly
`Size(counts, config)` bytes after its start — the agreement `GenericModel::SetupMemory` checks at load time
("The data structures took … but Size says …") can never fail. -/
theorem size_eq_setup (k : Kind) (cfg : Config) (counts : List Nat) (start : Nat) :
    searchSetupEnd k cfg counts start - start = searchSize k cfg counts ∧
    searchSetupEnd k cfg counts start = start + searchSize k cfg counts := by
  have h := search_size_eq_setup k cfg counts start
  exact ⟨h ▸ Nat.add_sub_cancel_left .., h⟩

/-- `GenericModel::SetupMemory(base, counts, config)`: vocabulary then search end at `base + Size(counts, config)` -/
theorem model_size_eq_setup (k : Kind) (cfg : Config) (counts : List Nat) (base : Nat) :
    searchSetupEnd k cfg counts (base + vocabSize k cfg (cnt counts 0)) = base + modelSize k cfg counts := by
  rw [search_size_eq_setup]; simp [modelSize]; omega

/-- the regions `SetupMemory` hands out tile the search area in order: no gap, no overlap (hashed search) -/
theorem hashed_regions (rest : Bool) (cfg : Config) (counts : List Nat) (start : Nat) :
    Consecutive start (hashedRegionList rest counts (hashedSetup rest cfg counts start)) (start + hashedSize rest cfg counts) := by
  rw [← hashed_size_eq_setup]
  unfold hashedRegionList hashedSetup
  dsimp only
  rw [hashedMiddleLoop_eq, List.reverse_nil, List.nil_append, List.map_eq_flatMap]
  exact Consecutive_append (Consecutive_append (Consecutive_single _ _) (Consecutive_allocs (fun _ a => Consecutive_single a _) _ _))
    (Consecutive_single _ _)

/-- … and for the four trie variants (quantiser tables | unigrams | per middle: Bhiksha block, packed records | longest) -/
theorem trie_regions (quant array : Bool) (cfg : Config) (counts : List Nat) (start : Nat) :
    Consecutive start (trieRegionList quant cfg counts (trieSetup quant array cfg counts start))
      (start + trieSize quant array cfg counts) := by
  rw [← trie_size_eq_setup]
  unfold trieRegionList trieSetup
  dsimp only
  rw [trieMiddleLoop_eq, List.reverse_nil, List.nil_append]
  refine Consecutive_append (Consecutive_append ⟨rfl, rfl, rfl⟩ (Consecutive_allocs (fun _ a => ?_) _ _)) (Consecutive_single _ _)
  -- a middle block is its Bhiksha part followed by the packed records
  exact ⟨rfl, rfl, show _ = _ from Nat.add_assoc ..⟩

example : (trieSetup true true { multBits := defaultMultiplierBits, probBits := 8, backoffBits := 8, bhikshaBits := 22 } [49, 103, 50] 536).stop = 4920
    ∧ trieSize true true { multBits := defaultMultiplierBits, probBits := 8, backoffBits := 8, bhikshaBits := 22 } [49, 103, 50] = 4384 := by
  decide +kernel

/-- the ArrayBhiksha offset table fits in its block for every alignment of the block -/
theorem array_table_in_block (cfg : Config) (qb entries maxVocab maxNext start : Nat) :
    let m := mkMiddle true cfg qb entries maxVocab maxNext start
    m.start + sizeofUint64 ≤ m.offBegin ∧ m.offBegin % 8 = 0 ∧ m.offEnd ≤ m.packed
      ∧ m.offEnd = m.offBegin + sizeofUint64 * arrayCount (entries + 1) maxNext cfg.bhikshaBits :=
  array_table_fits cfg qb entries maxVocab maxNext start

def fileRegions (k : Kind) (cfg : Config) (arpa fixed : List Nat) (sawUnk iv : Bool) (sl : Nat) : List (Nat × Nat) :=
  let w := writeLayout k cfg arpa fixed sawUnk iv sl
  [(0, w.header), (w.header, w.vocab), (w.header + w.vocab, w.pad)]
    ++ (match k with
        | .probing r => hashedRegionList r w.storedCounts (hashedSetup r cfg w.storedCounts w.search)
        | .trie q a => trieRegionList q cfg w.storedCounts (trieSetup q a cfg w.storedCounts w.search))
    ++ [(w.strings, if iv then sl else 0)]

/-- Header | vocabulary | pad | search sub-regions | strings are consecutive and tile the file
`[0, fileSize)`; the header size and (for the trie) the search offset are multiples of 8. -/
theorem regions_disjoint (k : Kind) (cfg : Config) (arpa fixed : List Nat) (sawUnk iv : Bool) (sl : Nat) :
    let w := writeLayout k cfg arpa fixed sawUnk iv sl
    Consecutive 0 (fileRegions k cfg arpa fixed sawUnk iv sl) w.fileSize
      ∧ w.header % 8 = 0 ∧ (k.isTrie = true → w.search % 8 = 0 ∧ w.vocab % 8 = 0) := by
  intro w
  refine ⟨?_, totalHeaderSize_mod _, ?_⟩
  · unfold fileRegions
    apply Consecutive_append (m := w.strings)
    · apply Consecutive_append (m := w.search)
      · simp [Consecutive, w, writeLayout]
      · cases k with
        | probing r => exact hashed_regions r cfg _ _
        | trie q a => exact trie_regions q a cfg _ _
    · simp [Consecutive, w, writeLayout]
  · intro hk
    cases k with
    | probing r => simp [Kind.isTrie] at hk
    | trie q a =>
      exact ⟨trie_search_aligned q a cfg arpa fixed sawUnk iv sl, by simp [w, writeLayout, vocabSize, Kind.isTrie, sortedVocabSize_mod]⟩

/-- A sorted vocabulary sized for `n` words plus the 8 padding bytes is the size for `n+1` words. -/
theorem unk_padding (n : Nat) : sortedVocabSize n + unkPadding (.trie q a) false = sortedVocabSize (n + 1) := by
  exact (sortedVocabSize_succ n).symm

/-- The loader, which knows only the stored (fixed) counts and the configuration, finds the
vocabulary, the search structure and the strings exactly where the writer, which sized the vocabulary from the ARPA
header counts and padded when `<unk>` was missing, put them. -/
theorem load_layout_eq_write_layout (k : Kind) (cfg : Config) (arpa fixed : List Nat) (sawUnk iv : Bool) (sl : Nat)
    (hlen : fixed.length = arpa.length)
    (h0 : k.isTrie = true → cnt fixed 0 = cnt arpa 0 + (if sawUnk then 0 else 1)) :
    let w := writeLayout k cfg arpa fixed sawUnk iv sl
    let l := loadLayout k cfg w.storedCounts
    l.header = w.header ∧ l.vocabSize = w.vocab + w.pad ∧ l.search = w.search ∧ l.mapped = w.strings := by
  have hs := length_storedCounts k hlen
  have hv := vocabSize_stored k cfg arpa fixed sawUnk h0
  simp only [writeLayout, loadLayout, modelSize, hs, hv, Nat.add_assoc, and_self]

example : let w := writeLayout (.trie false false) ⟨defaultMultiplierBits, 8, 8, 22⟩ [3, 1, 1, 1] [4, 2, 2, 1] false true 20
    w.pad = 8 ∧ (loadLayout (.trie false false) ⟨defaultMultiplierBits, 8, 8, 22⟩ w.storedCounts).search = w.search := by decide +kernel

/-- `LoadBinary`'s test `file_size < total_map ⇒ "Binary file has size … but the
headers say it should be at least …"` never fires on a finished file, for every model class, configuration and count
vector; and the bound is *tight*: a file written without vocabulary strings (`build_binary -v`, `include_vocab = false`)
has exactly the size `total_map`, so a non-strict comparison would reject every such file.  The loader's
`total_map` is `loadLayout.mapped` (header + `Size(stored counts, config)`); `KV.LoaderBin.mapAndVocab` makes the same
comparison on the byte list. -/
theorem written_file_passes_size_check (k : Kind) (cfg : Config) (arpa fixed : List Nat) (sawUnk iv : Bool) (sl : Nat)
    (hlen : fixed.length = arpa.length)
    (h0 : k.isTrie = true → cnt fixed 0 = cnt arpa 0 + (if sawUnk then 0 else 1)) :
    let w := writeLayout k cfg arpa fixed sawUnk iv sl
    let l := loadLayout k cfg w.storedCounts
    ¬ (w.fileSize < l.mapped) ∧ (iv = false → w.fileSize = l.mapped) ∧ (iv = true → w.fileSize = l.mapped + sl) := by
  intro w l
  have h := (load_layout_eq_write_layout k cfg arpa fixed sawUnk iv sl hlen h0).2.2.2
  have hm : l.mapped = w.strings := h
  have hf : w.fileSize = w.strings + (if iv then sl else 0) := by simp [w, writeLayout]
  rw [hm, hf]
  cases iv <;> simp

example : let w := writeLayout (.probing false) ⟨defaultMultiplierBits, 8, 8, 22⟩ [3, 1] [3, 1] true false 20
    w.fileSize = (loadLayout (.probing false) ⟨defaultMultiplierBits, 8, 8, 22⟩ w.storedCounts).mapped := by decide +kernel


/-- Whatever configuration the loader starts from, `UpdateConfigFromBinary` on a file that holds the
bytes `FinishedLoading` wrote succeeds and yields a configuration under which `Size` and every offset of
`SetupMemory` are the builder's. -/
theorem stored_params_read (q a : Bool) (cfg cfg0 : Config) (stored : List Nat) (rd : Nat → Nat)
    (hp : cfg.probBits < 256) (hb : cfg.backoffBits < 256) (hh : cfg.bhikshaBits < 256)
    (hrd : ∀ p ∈ storedParamBytes (.trie q a) cfg stored
        (totalHeaderSize stored.length + vocabSize (.trie q a) cfg (cnt stored 0)), rd p.1 = p.2) :
    ∃ cfg', updateConfigFromBinary (.trie q a) rd stored cfg0 = .ok cfg'
      ∧ (q = true → cfg'.probBits = cfg.probBits ∧ cfg'.backoffBits = cfg.backoffBits)
      ∧ (a = true → stored.length > 2 → cfg'.bhikshaBits = cfg.bhikshaBits)
      ∧ (∀ s, trieSetup q a cfg' stored s = trieSetup q a cfg stored s)
      ∧ trieSize q a cfg' stored = trieSize q a cfg stored := by
  obtain ⟨cfg', h1, h2⟩ := stored_params_agree q a cfg cfg0 stored rd hp hb hh hrd
  exact ⟨cfg', h1, h2.1, h2.2, fun s => trieSetup_congr h2 s, trieSize_congr h2⟩

/-- the probing models store nothing in the search area: the multiplier travels in the header (`header_roundtrip`) -/
theorem stored_params_probing (r : Bool) (rd : Nat → Nat) (stored : List Nat) (cfg0 : Config) :
    updateConfigFromBinary (.probing r) rd stored cfg0 = .ok cfg0 := rfl

/-- the table always has room for one more than `entries` keys (so exactly `entries` inserts never hit "table full") -/
theorem probing_buckets_gt (mult entries : Nat) : entries < probingBuckets mult entries := by
  unfold probingBuckets; omega

/-- below 2^24 the conversion of `entries` to `float` is exact -/
theorem rne24_small (n : Nat) (h : n < 2^24) : rne24 n = n := by
  unfold rne24 bitLen
  have : Nat.log2 n + (if n = 0 then 0 else 1) ≤ 24 := by
    by_cases h0 : n = 0
    · simp [h0]
    · have := (Nat.log2_lt h0).2 h
      simp [h0]; omega
  simp [this]

example : probingBuckets defaultMultiplierBits 49 = 73 ∧ probingBuckets defaultMultiplierBits 16777217 = 25165824 := by decide +kernel

open KV.Bhiksha in
/-- For every non-decreasing pointer sequence `vs` (the `next` pointers of one middle order,
the last one written by `FinishedLoading`) whose last element has the table's top index as high part, `FinishedLoading`
accepts, and `ReadNext` of every record returns exactly the pair (own pointer, next record's pointer) that was written —
for every inline width. -/
theorem bhiksha_array_roundtrip (bits : Nat) (vs : List Nat) (hne : vs ≠ [])
    (hmono : vs.Pairwise (· ≤ ·)) :
    let a := writeAll vs 0 (Arr.init bits ((vs.getLast hne >>> bits) + 1))
    ∃ table, a.finish = some table ∧
      ∀ i (h : i + 1 < vs.length), readNext bits table a.inl i = (vs[i], vs[i + 1]) := by
  obtain ⟨hfin, _, _, _, hrd⟩ := array_table bits vs hne hmono
  refine ⟨_, hfin, fun i h => ?_⟩
  rw [hrd i h, ← List.getElem_eq_getD (h := h), ← List.getElem_eq_getD (h := Nat.lt_of_succ_lt h)]

open KV.Bhiksha in
/-- `DontBhiksha`: the inline field is wide enough for every pointer up to `max_next` -/
theorem bhiksha_dont_roundtrip (maxNext : Nat) (hm : maxNext < 2^64) (vs : List Nat) (hv : ∀ v ∈ vs, v ≤ maxNext) :
    ∀ i (h : i + 1 < vs.length), dontReadNext (vs.map (dontInline maxNext)) i = (vs[i], vs[i + 1]) := by
  intro i h
  have h0 : i < vs.length := by omega
  have f1 := KV.Bits.requiredBits_fits maxNext vs[i] hm (hv _ (List.getElem_mem h0))
  have f2 := KV.Bits.requiredBits_fits maxNext vs[i + 1] hm (hv _ (List.getElem_mem h))
  simp [dontReadNext, List.getD_eq_getElem?_getD, h0, h, dontInline, Nat.mod_eq_of_lt f1, Nat.mod_eq_of_lt f2]

/-- `ChopBits` never chops more bits than there are, nor more than configured; hence `InlineBits + chopped = RequiredBits`
and the table built by the constructor (`ArrayCount`) has the top index `max_next >> InlineBits`, which is what
`bhiksha_array_roundtrip` needs of the last pointer `max_next`. -/
theorem chop_bits_bounds (maxOffset maxNext bhikshaBits : Nat) :
    chopBits maxOffset maxNext bhikshaBits ≤ requiredBits maxNext ∧ chopBits maxOffset maxNext bhikshaBits ≤ bhikshaBits
    ∧ arrayCount maxOffset maxNext bhikshaBits = (maxNext >>> inlineBits true maxOffset maxNext bhikshaBits) + 1 := by
  have h := chopLoop_mem maxOffset maxNext (requiredBits maxNext)
    (List.range (min (requiredBits maxNext) bhikshaBits + 1)) (0, 2^63 - 1)
  have hc : chopBits maxOffset maxNext bhikshaBits ≤ min (requiredBits maxNext) bhikshaBits := by
    unfold chopBits
    dsimp only
    rcases h with h | h
    · rw [h]; exact Nat.zero_le _
    · exact Nat.le_of_lt_succ (List.mem_range.mp h)
  exact ⟨Nat.le_trans hc (Nat.min_le_left ..), Nat.le_trans hc (Nat.min_le_right ..), rfl⟩

open KV.Quant in
/-- If the number of values of a table (count, with multiplicity — *not* the number of distinct values)
does not exceed the number of bins, every trained value is its own centre: `Decode (Encode v) = v`, for the probability
tables (`reserved = 0`, `pre = []`) and the back-off tables (`reserved = 2`, `pre = [-0.0, +0.0]`).
Holds for any arithmetic with the order laws `Laws` (IEEE floats without NaN / mixed zero signs satisfy them). -/
theorem quant_exact {α : Type} [Inhabited α] (ops : Ops α) (laws : Laws ops) (vals : List α) (bins reserved : Nat) (pre : List α)
    (hpre : pre.length = reserved) (hfit : vals.length ≤ bins) (v : α) (hv : v ∈ vals) :
    decode (pre ++ makeBins ops vals bins) (encode ops (pre ++ makeBins ops vals bins) reserved v) = v :=
  KV.Quant.quant_exact ops laws vals bins reserved pre hpre hfit v hv

namespace QuantExample
open KV.Quant
/-- exact arithmetic on `Int ∪ {-inf}` (`none`): an instance of the laws, used for non-vacuity and for the witness below -/
def ops : Ops (Option Int) where
  lt a b := match a, b with
    | _, none => false
    | none, some _ => true
    | some x, some y => x < y
  sub a b := match a, b with
    | some x, some y => some (x - y)
    | some _, none => some 1
    | none, _ => none
  mean l := match l with
    | [] => none
    | [a] => a
    | _ => some ((l.map (·.getD 0)).sum / l.length)
  negInf := none

theorem laws : Laws ops where
  irrefl
    | none => rfl
    | some x => decide_eq_false (Int.lt_irrefl x)
  trans
    | _, none, _ => fun h => nomatch h
    | _, some _, none => fun _ h => nomatch h
    | none, some _, some _ => fun _ _ => rfl
    | some _, some _, some _ => fun h1 h2 => decide_eq_true (Int.lt_trans (of_decide_eq_true h1) (of_decide_eq_true h2))
  tri
    | none, none => fun _ _ => rfl
    | none, some _ => fun h => nomatch h
    | some _, none => fun _ h => nomatch h
    | some x, some y => fun h1 h2 =>
      congrArg some (Int.le_antisymm (Int.not_lt.mp (of_decide_eq_false h2)) (Int.not_lt.mp (of_decide_eq_false h1)))
  negInf_min _ := rfl
  mean_single _ := rfl
  sub_close
    | none, none => fun h => nomatch h
    | none, some y => fun _ => decide_eq_false (by rw [Int.sub_self]; decide)
    | some _, none => fun h => nomatch h
    | some x, some y => fun h => decide_eq_false (Int.not_lt.mpr (by
        rw [Int.sub_self]; exact Int.sub_nonneg_of_le (Int.le_of_lt (of_decide_eq_true h))))

instance : Inhabited (Option Int) := ⟨none⟩

/-- hypotheses of `quant_exact` are satisfiable: three values, four bins -/
example : decode (makeBins ops [some (-75), some (-25), some (-25)] 4)
    (encode ops (makeBins ops [some (-75), some (-25), some (-25)] 4) 0 (some (-75))) = some (-75) :=
  quant_exact ops laws _ 4 0 [] rfl (by decide) _ (by simp)

/-- Negation witness (DESIGN §6-D): the hypothesis is about the *count*:
two distinct values, two bins, but four values (-0.25 three times, -0.75 once, in units of 1/100) — the value -0.75
shares its bin with a -0.25 and is decoded as their mean -0.50.  (`build_binary -q 1 trie` reproduces it.) -/
theorem quant_lossy_when_count_exceeds_bins :
    let vals := [some (-25), some (-25), some (-25), some (-75)]
    decode (makeBins ops vals 2) (encode ops (makeBins ops vals 2) 0 (some (-75))) = some (-50) := by decide +kernel

end QuantExample

/-- the `uint8_t` sums of `BaseSize`/`BaseInit`/`BitPackedMiddle::Size` never wrap for 64-bit counts: the `% 256` of the model
are identities on everything the code can be given -/
theorem no_uint8_wrap (array : Bool) (quantBits maxOffset maxVocab maxNext bhikshaBits : Nat)
    (hv : maxVocab < 2^64) (hn : maxNext < 2^64) (hq : quantBits ≤ 63) :
    let inl := inlineBits array maxOffset maxNext bhikshaBits
    inl ≤ 64 ∧ (quantBits + inl) % 256 = quantBits + inl
      ∧ totalBits maxVocab ((quantBits + inl) % 256) = requiredBits maxVocab + quantBits + inl := by
  intro inl
  have h1 := KV.C20.required_bits_le_64 maxVocab hv
  have hi : inl ≤ 64 := Nat.le_trans (inlineBits_le array maxOffset maxNext bhikshaBits) (KV.C20.required_bits_le_64 maxNext hn)
  have e : (quantBits + inl) % 256 = quantBits + inl :=
    Nat.mod_eq_of_lt (Nat.lt_of_le_of_lt (Nat.add_le_add hq hi) (by decide))
  refine ⟨hi, e, ?_⟩
  rw [e, totalBits, ← Nat.add_assoc,
    Nat.mod_eq_of_lt (Nat.lt_of_le_of_lt (Nat.add_le_add (Nat.add_le_add h1 hq) hi) (by decide))]

/-- From the bytes of a finished file alone (header as written by `FinishFile`, anything after it),
the loader recognises the writer's model class and computes exactly the writer's offsets for the vocabulary lookup, the
search structure and the vocabulary strings. -/
theorem file_roundtrip_layout (k : Kind) (cfg : Config) (arpa fixed : List Nat) (sawUnk iv : Bool) (sl : Nat) (rest : List Nat)
    (hlen : fixed.length = arpa.length) (ho : arpa.length < 256) (hm : cfg.multBits < 2^32) (h1 : floatNotGeOne cfg.multBits = false)
    (hc : ∀ c ∈ storedCounts k arpa fixed, c < 2^64)
    (h0 : k.isTrie = true → cnt fixed 0 = cnt arpa 0 + (if sawUnk then 0 else 1)) :
    let w := writeLayout k cfg arpa fixed sawUnk iv sl
    ∃ p, recognize (headerBytes { fixed := { order := arpa.length, multBits := cfg.multBits, modelType := k.typeNum, hasVocab := iv,
                                              searchVersion := k.searchVersion }, counts := w.storedCounts } ++ rest) = .binary p
      ∧ Kind.ofNum p.fixed.modelType = some k ∧ p.fixed.hasVocab = iv
      ∧ (let l := loadLayout k { cfg with multBits := p.fixed.multBits } p.counts
         l.header = w.header ∧ l.vocabSize = w.vocab + w.pad ∧ l.search = w.search ∧ l.mapped = w.strings) := by
  intro w
  have hsl := length_storedCounts k hlen
  obtain ⟨p, hp, hk, _, _, hcounts, hhv, hpm⟩ := recognize_type k arpa.length cfg.multBits iv (storedCounts k arpa fixed) rest ho hm hsl hc h1
  refine ⟨p, hp, hk, hhv, ?_⟩
  have hcfg : ({ cfg with multBits := p.fixed.multBits } : Config) = cfg := by rw [hpm]
  rw [hcfg, hcounts]
  exact load_layout_eq_write_layout k cfg arpa fixed sawUnk iv sl hlen h0


open KV.TrieLM in
/-- the trie a loader builds over the file's bytes depends on the configuration only through what `CfgAgree` fixes -/
theorem ofLayout_congr {q a : Bool} {counts : List Nat} {c1 c2 : Config} (h : CfgAgree q a counts.length c1 c2) (mem s : Nat) :
    ofLayout mem q a c1 counts s = ofLayout mem q a c2 counts s := by
  unfold ofLayout
  rw [trieSetup_congr h]
  cases q with
  | false => simp
  | true => obtain ⟨h1, h2⟩ := h.1 rfl; simp [h1, h2]

open KV.TrieLM in
/-- Trie models: the decoded search structure after load *is* the one that was written.
A writer with configuration `cfg` lays the trie out at `w.search` (`writeLayout`) and stores its parameters; a loader that
starts from an arbitrary configuration `cfg0`, knows only the stored counts and reads the file's bytes `mem`, ends up with
exactly the same `TrieLM.Trie` value — same offsets, bit widths, Bhiksha tables, quantiser tables over the same bytes — hence
every lookup, every `FullScore`, every enumeration of records gives the same result.  (That the mapped/read bytes are the
written bytes is the OS's part; the n-gram content of those bytes is `trie_refines`.) -/
theorem roundtrip_semantic (q a : Bool) (cfg cfg0 : Config) (arpa fixed : List Nat) (sawUnk iv : Bool) (sl mem : Nat)
    (hp : cfg.probBits < 256) (hb : cfg.backoffBits < 256) (hh : cfg.bhikshaBits < 256)
    (hlen : fixed.length = arpa.length)
    (h0 : cnt fixed 0 = cnt arpa 0 + (if sawUnk then 0 else 1))
    (hrd : ∀ p ∈ storedParamBytes (.trie q a) cfg fixed (writeLayout (.trie q a) cfg arpa fixed sawUnk iv sl).search,
        load8 mem p.1 = p.2) :
    let w := writeLayout (.trie q a) cfg arpa fixed sawUnk iv sl
    ∃ cfg', updateConfigFromBinary (.trie q a) (load8 mem) w.storedCounts cfg0 = .ok cfg' ∧
      ofLayout mem q a cfg' w.storedCounts (loadLayout (.trie q a) cfg' w.storedCounts).search
        = ofLayout mem q a cfg w.storedCounts w.search := by
  intro w
  -- for a trie the stored counts are the fixed counts and the vocabulary lookup is the sorted one, whatever the
  -- configuration, so the loader's search offset is the writer's
  have hsearch : totalHeaderSize fixed.length + sortedVocabSize (cnt fixed 0)
      = (writeLayout (.trie q a) cfg arpa fixed sawUnk iv sl).search :=
    (load_layout_eq_write_layout (.trie q a) cfg arpa fixed sawUnk iv sl hlen (fun _ => h0)).2.2.1
  obtain ⟨cfg', hu, hagree⟩ := stored_params_agree q a cfg cfg0 fixed (load8 mem) hp hb hh (hsearch ▸ hrd)
  refine ⟨cfg', hu, ?_⟩
  show ofLayout mem q a cfg' fixed (totalHeaderSize fixed.length + sortedVocabSize (cnt fixed 0))
    = ofLayout mem q a cfg fixed (writeLayout (.trie q a) cfg arpa fixed sawUnk iv sl).search
  rw [ofLayout_congr hagree, hsearch]

open KV.TrieLM KV.Score in
/-- Trie models, the query clause of the round trip spelled out: after the loader has
recovered its configuration from the stored parameters, *every* `FullScore` call (any state, any word, any decoding `fval` of
the 32-bit values) and every left-to-right sentence score over the loaded file equals the same call on the structure the writer
laid out.  Together with `KV.C03TrieBuild.trie_end_to_end` (the written structure answers the ARPA back-off recursion) this is
"a binary file answers exactly like the ARPA it was built from", for all four trie classes. -/
theorem roundtrip_semantic_queries (q a : Bool) (cfg cfg0 : Config) (arpa fixed : List Nat) (sawUnk iv : Bool) (sl mem : Nat)
    (hp : cfg.probBits < 256) (hb : cfg.backoffBits < 256) (hh : cfg.bhikshaBits < 256)
    (hlen : fixed.length = arpa.length)
    (h0 : cnt fixed 0 = cnt arpa 0 + (if sawUnk then 0 else 1))
    (hrd : ∀ p ∈ storedParamBytes (.trie q a) cfg fixed (writeLayout (.trie q a) cfg arpa fixed sawUnk iv sl).search,
        load8 mem p.1 = p.2) :
    let w := writeLayout (.trie q a) cfg arpa fixed sawUnk iv sl
    ∃ cfg', updateConfigFromBinary (.trie q a) (load8 mem) w.storedCounts cfg0 = .ok cfg' ∧
      ∀ (fval : Nat → Rat),
        (∀ st wd, fullScore (search fval (ofLayout mem q a cfg' w.storedCounts (loadLayout (.trie q a) cfg' w.storedCounts).search)) st wd
          = fullScore (search fval (ofLayout mem q a cfg w.storedCounts w.search)) st wd) ∧
        (∀ st ws, scoreSeq (search fval (ofLayout mem q a cfg' w.storedCounts (loadLayout (.trie q a) cfg' w.storedCounts).search)) st ws
          = scoreSeq (search fval (ofLayout mem q a cfg w.storedCounts w.search)) st ws) := by
  intro w
  obtain ⟨cfg', hu, he⟩ := roundtrip_semantic q a cfg cfg0 arpa fixed sawUnk iv sl mem hp hb hh hlen h0 hrd
  refine ⟨cfg', hu, fun fval => ?_⟩
  rw [he]
  exact ⟨fun _ _ => rfl, fun _ _ => rfl⟩


end KV.C04
