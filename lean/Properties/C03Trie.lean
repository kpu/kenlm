import Proofs.TrieCheck
import Properties.C01
/-!
# C03 (trie clause) — the bit-packed trie search refines the abstract table

`Model/TrieLM.lean` is `trie::TrieSearch<Quant, Bhiksha>` over the *bytes of a binary file* (a little-endian `Nat` memory):
unigram array with `next` pointers, bit-packed middle / longest records, `FindBitPacked` = `BoundedSortedUniformFind` with
`Pivot32`, `DontBhiksha` / `ArrayBhiksha::ReadNext`, `DontQuantize` / `SeparatelyQuantize` value reads.
`TrieLM.ofLayout` places it at the offsets of the C04 layout model (`Binary.trieSetup`), so the same definitions run in the
driver on the bytes `build_binary` wrote and are compared with the real `TrieSearch` lookups (stream `trielm` of check C04).

Proved in general (any memory, any table, any order, both Bhiksha variants, both quantisation variants, any `fval`):
`trie_refines`, `trie_prob`, `trie_refines_of_check`.  By `decide +kernel` on concrete instances (real file bytes of a
pruned model that needs a blank): `ExamplePlain.represents`, `ExampleQuantArray.represents`.
-/
namespace KV.C03Trie
open KV.Arpa KV.Table KV.Score KV.State KV.TrieLM

/-- if the memory represents the table (`Represents`: chains of sorted child ranges lead to records holding
word, values and child range of every entry, and nothing else), then for every in-state and word whose ids are below the
vocabulary bound (`new_word < Bound()`, the code's precondition), `FullScore` over the trie returns exactly what `FullScore`
over the table returns: probability, matched length, left-independence, rest and out-state.  `FindBitPacked` is correct by
`bfind_sound` / `bfind_complete` (what C20 states as `bounded_find_correct`); holds for `DontBhiksha` and `ArrayBhiksha`,
`DontQuantize` and `SeparatelyQuantize` alike (they only differ in how `middleRec` / `longestProbBits` read the memory). -/
theorem trie_refines (fval : Nat → Rat) (M : Trie) (T : Table) (rng : List Word → Node) (rep : Represents fval M T rng)
    (hN : 2 ≤ T.order) (s : State) (w : Word) (hw : w < M.bound) (hs : ∀ x ∈ s.words.take s.length, x < M.bound) :
    (fullScore (search fval M) s w).1.prob = (fullScore (tableSearch T) s w).1.prob ∧
    (fullScore (search fval M) s w).1.ngramLength = (fullScore (tableSearch T) s w).1.ngramLength ∧
    (fullScore (search fval M) s w).1.independentLeft = (fullScore (tableSearch T) s w).1.independentLeft ∧
    (fullScore (search fval M) s w).1.rest = (fullScore (tableSearch T) s w).1.rest ∧
    (fullScore (search fval M) s w).2 = (fullScore (tableSearch T) s w).2 :=
  fullScore_eq_of_rel (trie_sim fval M T rng rep hN) s w hw hs

/-- hence: a trie that represents `build a unmarked` (whichever blanks lost their mark, pre-observation G) returns the ARPA
back-off recursion -/
theorem trie_prob (a : Arpa) (wf : WellFormed a) (unmarked : List Word → Bool) (fval : Nat → Rat) (M : Trie)
    (rng : List Word → Node) (rep : Represents fval M (build a unmarked) rng)
    (h : List Word) (s : State) (sf : StateFor a h s) (w : Word) (hw : a.gram [w] ≠ none)
    (hwb : w < M.bound) (hs : ∀ x ∈ s.words.take s.length, x < M.bound) :
    (fullScore (search fval M) s w).1.prob = score a h w := by
  rw [(trie_refines fval M _ rng rep wf.order_ge s w hwb hs).1]
  exact KV.C01.fullScore_prob a wf unmarked h s sf w hw

/-- the decidable checker is a sufficient condition: a finite table, a memory, ghost ranges; `check = true` ⇒ refinement -/
theorem trie_refines_of_check (fval : Nat → Rat) (M : Trie) (ft : FT) (order : Nat) (rng : List Word → Node)
    (hc : check fval M ft order rng = true) (hN : 2 ≤ order) (s : State) (w : Word) (hw : w < M.bound)
    (hs : ∀ x ∈ s.words.take s.length, x < M.bound) :
    (fullScore (search fval M) s w).1.prob = (fullScore (tableSearch (tableOf ft order)) s w).1.prob ∧
    (fullScore (search fval M) s w).2 = (fullScore (tableSearch (tableOf ft order)) s w).2 := by
  have := trie_refines fval M (tableOf ft order) rng (check_sound fval M ft order rng hc) hN s w hw hs
  exact ⟨this.1, this.2.2.2.2⟩

/-- two searches over the same file layout differ only in how values are read: the *structure* of the lookups (which record
is found, its child range) does not mention the quantiser at all -/
theorem quant_structural (M : Trie) (q' : Option Quant) (om2 : Nat) (w : Word) (node : Node) (i : Nat) :
    middleFind { M with quant := q' } om2 w node = middleFind M om2 w node ∧
    longestFind { M with quant := q' } w node = longestFind M w node ∧
    (middleRec { M with quant := q' } om2 i).range = (middleRec M om2 i).range ∧
    (unigramRec { M with quant := q' } w) = unigramRec M w := ⟨rfl, rfl, rfl, rfl⟩

theorem ts_long (T : Table) (x : Word) (node : List Word) :
    (tableSearch T).lookupLongest x node = (T.lookup (node ++ [x])).map (·.prob) := rfl
theorem ts_mid (T : Table) (om2 : Nat) (x : Word) (node : List Word) :
    (tableSearch T).lookupMiddle om2 x node = ((T.lookup (node ++ [x])).map Score.toFound, node ++ [x]) := rfl
theorem ts_uni (T : Table) (w : Word) :
    (tableSearch T).lookupUnigram w = ((match T.lookup [w] with
     | some t => Score.toFound t
     | none => { prob := 0, backoff := 0, extendsRight := false, independentLeft := true, rest := 0 }), [w]) := rfl

def AccStruct {ν : Type} (a₁ a₂ : Acc ν) : Prop :=
  a₁.ret.ngramLength = a₂.ret.ngramLength ∧ a₁.ret.independentLeft = a₂.ret.independentLeft ∧ a₁.nextUse = a₂.nextUse ∧
  a₁.backoffOut.length = a₂.backoffOut.length

theorem resume_struct (T₁ T₂ : Table) (h : StructEq T₁ T₂) :
    ∀ (hist : List Word) (om2 : Nat) (node : List Word) (a₁ a₂ : Acc (List Word)), AccStruct a₁ a₂ →
      AccStruct (resumeScore (tableSearch T₁) hist om2 node a₁) (resumeScore (tableSearch T₂) hist om2 node a₂) :=
  fun hist om2 node a₁ a₂ ⟨hl, hi, hn, hb⟩ =>
    have k := resume_rel (QL := fun l₁ l₂ => l₁.length = l₂.length) length_snoc h.rel hist om2 node node a₁ a₂
      (fun _ _ => trivial) rfl
      { prob := trivial, rest := trivial, ngramLength := hl, independentLeft := hi, backoffOut := hb, nextUse := hn }
    ⟨k.ngramLength, k.independentLeft, k.nextUse, k.backoffOut⟩

/-- a quantised and an unquantised structure (or any two structures) whose tables have the same keys
and extension marks return the same *structural* results for every state and word: matched n-gram length, left-independence,
length and words of the out-state.  Only the float values differ. -/
theorem table_structural (T₁ T₂ : Table) (h : StructEq T₁ T₂) (s : State) (w : Word) :
    (fullScore (tableSearch T₁) s w).1.ngramLength = (fullScore (tableSearch T₂) s w).1.ngramLength ∧
    (fullScore (tableSearch T₁) s w).1.independentLeft = (fullScore (tableSearch T₂) s w).1.independentLeft ∧
    (fullScore (tableSearch T₁) s w).2.length = (fullScore (tableSearch T₂) s w).2.length ∧
    (fullScore (tableSearch T₁) s w).2.words = (fullScore (tableSearch T₂) s w).2.words := by
  have k := finalAcc_rel length_snoc rfl h.rel (s.words.take s.length) w trivial (fun _ _ => trivial)
  simp only [fullScore_eq]
  exact ⟨k.ngramLength, k.independentLeft, k.nextUse, by rw [k.nextUse]⟩

/-- the same through two tries: e.g. `TrieModel` and `QuantArrayTrieModel` built from one ARPA file -/
theorem quant_structural_tries (fval₁ fval₂ : Nat → Rat) (M₁ M₂ : Trie) (T₁ T₂ : Table) (rng₁ rng₂ : List Word → Node)
    (rep₁ : Represents fval₁ M₁ T₁ rng₁) (rep₂ : Represents fval₂ M₂ T₂ rng₂) (h : StructEq T₁ T₂) (hN : 2 ≤ T₁.order)
    (s : State) (w : Word) (hw₁ : w < M₁.bound) (hw₂ : w < M₂.bound)
    (hs₁ : ∀ x ∈ s.words.take s.length, x < M₁.bound) (hs₂ : ∀ x ∈ s.words.take s.length, x < M₂.bound) :
    (fullScore (search fval₁ M₁) s w).1.ngramLength = (fullScore (search fval₂ M₂) s w).1.ngramLength ∧
    (fullScore (search fval₁ M₁) s w).1.independentLeft = (fullScore (search fval₂ M₂) s w).1.independentLeft ∧
    (fullScore (search fval₁ M₁) s w).2.length = (fullScore (search fval₂ M₂) s w).2.length ∧
    (fullScore (search fval₁ M₁) s w).2.words = (fullScore (search fval₂ M₂) s w).2.words := by
  have r₁ := trie_refines fval₁ M₁ T₁ rng₁ rep₁ hN s w hw₁ hs₁
  have r₂ := trie_refines fval₂ M₂ T₂ rng₂ rep₂ (by rw [← h.1]; exact hN) s w hw₂ hs₂
  have t := table_structural T₁ T₂ h s w
  rw [r₁.2.1, r₁.2.2.1, r₁.2.2.2.2, r₂.2.1, r₂.2.2.1, r₂.2.2.2.2]
  exact t

namespace ExamplePlain
/-- the bytes of the file `build_binary` (trie) wrote for the example model, as a little-endian number (400 bytes, no vocabulary strings) -/
def fileMem : Nat := 761476677160407308217975864470614751727348382627115423152470112628619092959904902344675923764049775541790675653369984681341251354178973324354704184449717076722008694969161737295398178929897496965487866245448340550389208910674906323611120178634150232100142902384119149281423817629901806019307788963460722240025464104440056090565264927775694327040793530331603726469758391775973573702672575613604224006169537101039515225289305070749463163740316790297432875553306897306048874838216536383933780836900833855196732058659853426422352541870751737809333562445279187834910323583288795471349083209521711528229418145962980659530881310595584099967686084481395691756683777524133653575249628401438152329790416478872466871534668806747242521596050075560697902588037388867013809162506185706361296025996415967684280654828443486150338842539302920603524685068756466273752184813385180397354827530089166927695978839648650761967352628834366123126370735320429
def cfg : KV.Binary.Config := ⟨1069547520, 8, 8, 22⟩
def counts : List Nat := [6,5,2]
/-- the loader's view: offsets from the layout model of C04 over the file's bytes -/
def trie : Trie := ofLayout fileMem false false cfg counts (KV.Binary.loadLayout (.trie false false) cfg counts).search
/-- the table: every n-gram of the model and the blank `b c` (reversed ids; ids by hash order: <unk>=0, <s>=1, a=2, </s>=3, c=4, b=5) -/
def table : FT := [
  ([0], ⟨f32ToRat 3221225472, f32ToRat 2147483648, false, false, false⟩),
  ([1], ⟨f32ToRat 3267756032, f32ToRat 3204448256, false, true, false⟩),
  ([3], ⟨f32ToRat 3214934016, f32ToRat 2147483648, true, false, false⟩),
  ([2], ⟨f32ToRat 3208642560, f32ToRat 3196059648, true, true, false⟩),
  ([5], ⟨f32ToRat 3217031168, f32ToRat 3187671040, true, true, false⟩),
  ([4], ⟨f32ToRat 3212836864, f32ToRat 2147483648, true, false, false⟩),
  ([2, 1], ⟨f32ToRat 3204448256, f32ToRat 3196059648, false, true, false⟩),
  ([5, 2], ⟨f32ToRat 3206545408, f32ToRat 3200253952, true, true, false⟩),
  ([3, 5], ⟨f32ToRat 3210739712, f32ToRat 2147483648, false, false, false⟩),
  ([4, 2], ⟨f32ToRat 3213885440, f32ToRat 2147483648, false, false, false⟩),
  ([4, 5], ⟨f32ToRat 3213885440, f32ToRat 2147483648, true, false, true⟩),
  ([5, 2, 1], ⟨f32ToRat 3196059648, 0, false, false, false⟩),
  ([4, 5, 2], ⟨f32ToRat 3200253952, 0, false, false, false⟩)]
def ranges : List (List Word × Node) := [
  ([0], (0, 0)),
  ([1], (0, 0)),
  ([3], (1, 2)),
  ([2], (0, 1)),
  ([5], (4, 5)),
  ([4], (2, 4)),
  ([2, 1], (0, 0)),
  ([5, 2], (1, 2)),
  ([3, 5], (0, 0)),
  ([4, 2], (0, 0)),
  ([4, 5], (0, 1))]
def rng (g : List Word) : Node := (ranges.lookup g).getD (0, 0)

theorem check_ok : check f32ToRat trie table 3 rng = true := by decide +kernel
theorem represents : Represents f32ToRat trie (tableOf table 3) rng := check_sound _ _ _ _ _ check_ok
end ExamplePlain

namespace ExampleQuantArray
/-- the bytes of the file `build_binary` (trie -q 4 -b 3 -a 1) wrote for the example model, as a little-endian number (539 bytes, no vocabulary strings) -/
def fileMem : Nat := 5524848176119718405252142564753643756785795574764977356348038199739256315781435255242991745655367890726635464378716346336213401452151513923049954788143287679604551100973530194090789669722359662568462937389013594441463653635389987444905249789163838757965826944257865511557305037436995912091330333448545354861547435378309303626945232842154577280041148320768814044272542399203802351284732683066052490567720770886237254767754521725772246481707664904811403561703739465830634851435668092517002220336796428059944435533357918600430516147185492422171799364609881718158981406082414224505865445866198036327756312245037014563413478229858865339425593441729944439723000852425456314049549828288154692526953229669303971639173077084041597571379741064221646535628729539460333257808320299544476422481807587785504983014183852322656232148735707009405153080547999001045873124246275942464366308222153607174553116179432346419179921521442248923222952133815769192212145896436809696675487248968492384255088113540946730805984481743989016479844403552064280552239097321001152559821195838972418334006715395102579183183195138175776257237428314555761569078146971411857473423899827697305152937910784341870311215135216578912608791186080199819066197102928869003772396722631349728301767881770813542080118140267885
def cfg : KV.Binary.Config := ⟨1069547520, 4, 3, 1⟩
def counts : List Nat := [6,5,2]
def trie : Trie := ofLayout fileMem true true cfg counts (KV.Binary.loadLayout (.trie true true) cfg counts).search
def table : FT := [
  ([0], ⟨f32ToRat 3221225472, f32ToRat 2147483648, false, false, false⟩),
  ([1], ⟨f32ToRat 3267756032, f32ToRat 3204448256, false, true, false⟩),
  ([3], ⟨f32ToRat 3214934016, f32ToRat 2147483648, true, false, false⟩),
  ([2], ⟨f32ToRat 3208642560, f32ToRat 3196059648, true, true, false⟩),
  ([5], ⟨f32ToRat 3217031168, f32ToRat 3187671040, true, true, false⟩),
  ([4], ⟨f32ToRat 3212836864, f32ToRat 2147483648, true, false, false⟩),
  ([2, 1], ⟨f32ToRat 3204448256, f32ToRat 3196059648, false, true, false⟩),
  ([5, 2], ⟨f32ToRat 3206545408, f32ToRat 3200253952, true, true, false⟩),
  ([3, 5], ⟨f32ToRat 3210739712, f32ToRat 2147483648, false, false, false⟩),
  ([4, 2], ⟨f32ToRat 3213885440, f32ToRat 2147483648, false, false, false⟩),
  ([4, 5], ⟨f32ToRat 3213885440, f32ToRat 2147483648, true, false, true⟩),
  ([5, 2, 1], ⟨f32ToRat 3196059648, 0, false, false, false⟩),
  ([4, 5, 2], ⟨f32ToRat 3200253952, 0, false, false, false⟩)]
def ranges : List (List Word × Node) := [
  ([0], (0, 0)),
  ([1], (0, 0)),
  ([3], (1, 2)),
  ([2], (0, 1)),
  ([5], (4, 5)),
  ([4], (2, 4)),
  ([2, 1], (0, 0)),
  ([5, 2], (1, 2)),
  ([3, 5], (0, 0)),
  ([4, 2], (0, 0)),
  ([4, 5], (0, 1))]
def rng (g : List Word) : Node := (ranges.lookup g).getD (0, 0)

theorem check_ok : check f32ToRat trie table 3 rng = true := by decide +kernel
theorem represents : Represents f32ToRat trie (tableOf table 3) rng := check_sound _ _ _ _ _ check_ok
end ExampleQuantArray

namespace ExampleBuilt
/-- the example model as a bit table (reversed ids; float bits as the real builder stored them, incl. the blank `b c`) -/
def bt : BT := [
  ([0], (3221225472, 2147483648)),
  ([1], (3267756032, 3204448256)),
  ([3], (3214934016, 2147483648)),
  ([2], (3208642560, 3196059648)),
  ([5], (3217031168, 3187671040)),
  ([4], (3212836864, 2147483648)),
  ([2, 1], (3204448256, 3196059648)),
  ([5, 2], (3206545408, 3200253952)),
  ([3, 5], (3210739712, 2147483648)),
  ([4, 2], (3213885440, 2147483648)),
  ([4, 5], (3213885440, 2147483648)),
  ([5, 2, 1], (3196059648, 0)),
  ([4, 5, 2], (3200253952, 0))]
def built : Trie := ofTable bt 6 3 (KV.Binary.loadLayout (.trie false false) plainCfg (countsOf bt 6 3)).search

/-- the search region starts at this file offset (header 136 + sorted vocabulary 56) -/
theorem search_offset : (KV.Binary.loadLayout (.trie false false) plainCfg (countsOf bt 6 3)).search = 192 := by decide +kernel

/-- non-vacuity of `Represents`, constructively: the trie built from the table by the pure fold `ofTable` (records inserted
level by level in sorted order, as `RecursiveInsert`/`WriteEntries` do) represents the table of the pruned example model
(13 entries, one of them the blank `b c` that SRI-style pruning makes necessary). -/
theorem built_check : check f32ToRat built (ftOf f32ToRat bt 3) 3 (rngOf bt 6) = true := by decide +kernel
theorem built_represents : Represents f32ToRat built (tableOf (ftOf f32ToRat bt 3) 3) (rngOf bt 6) :=
  check_sound _ _ _ _ _ built_check

/-- … and the memory it builds is, byte for byte, the search region of the file the real `build_binary trie` wrote for the
same model (everything from offset 192 on; header and vocabulary are not the builder's business). -/
theorem built_eq_real_file : built.mem = (ExamplePlain.fileMem >>> (8 * 192)) <<< (8 * 192) := by decide +kernel

theorem built_refines (s : State) (w : Word) (hw : w < 6) (hs : ∀ x ∈ s.words.take s.length, x < 6) :
    (fullScore (search f32ToRat built) s w).1.prob = (fullScore (tableSearch (tableOf (ftOf f32ToRat bt 3) 3)) s w).1.prob ∧
    (fullScore (search f32ToRat built) s w).2 = (fullScore (tableSearch (tableOf (ftOf f32ToRat bt 3) 3)) s w).2 :=
  trie_refines_of_check f32ToRat built _ 3 _ built_check (by decide) s w hw hs
end ExampleBuilt

end KV.C03Trie
