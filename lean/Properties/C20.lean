import Proofs.Bits
import Proofs.Search
import Proofs.ProbingAuto
import Proofs.VocabIds
import Proofs.VocabProbing
import Proofs.VocabSorted
/-!
# C20 — Core lookup primitives behave as exact maps and arrays

Four clauses, one section each: bit packing, interpolation search, the probing hash table, the vocabularies.

## Bit packing (util/bit_packing.hh)

"A value written into a bit-packed array at any bit offset and width is read back
unchanged and leaves all neighbouring bits untouched."
Memory is a little-endian `Nat`; `bitOff` is any natural number (so "any offset mod 8").
-/
namespace KV.C20
open KV.Bits

/-- ReadInt57 reads exactly the `len`-bit field at `off` whenever the field fits in the
64-bit window, i.e. `off % 8 + len ≤ 64`; guaranteed by `len ≤ 57`. -/
theorem read_eq (m off len : Nat) (h : off % 8 + len ≤ 64) :
    readInt57 m off len = (m >>> off) % 2^len :=
  KV.Bits.read_eq m off len h

theorem read_eq_57 (m off len : Nat) (h : len ≤ 57) :
    readInt57 m off len = (m >>> off) % 2^len :=
  KV.Bits.read_eq_57 m off len h

/-- the target field is zero before the write (the documented contract of `Write*`) -/
def FieldZero (m off len : Nat) : Prop := ∀ j, j < len → m.testBit (off + j) = false

theorem write_bits (m off len v : Nat) (hlen : len ≤ 57) (hv : v < 2^len) (i : Nat) :
    (writeInt57 m off len v).testBit i =
      (m.testBit i || (decide (off ≤ i) && decide (i < off + len) && v.testBit (i - off))) := by
  rw [writeInt57_eq m off len v hv (by omega)]
  exact testBit_or_shiftLeft m off len v i hv

/-- **neighbouring bits untouched** -/
theorem write_frame (m off len v : Nat) (hlen : len ≤ 57) (hv : v < 2^len) (i : Nat)
    (hi : i < off ∨ off + len ≤ i) :
    (writeInt57 m off len v).testBit i = m.testBit i := by
  rw [writeInt57_eq m off len v hv (by omega)]
  exact testBit_or_shiftLeft_outside m off len v i hv hi

/-- **read back unchanged** -/
theorem write_read (m off len v : Nat) (hlen : len ≤ 57) (hv : v < 2^len)
    (hz : FieldZero m off len) :
    readInt57 (writeInt57 m off len v) off len = v := by
  rw [read_eq_57 _ _ _ hlen,
    writeInt57_eq m off len v hv (by omega)]
  exact or_shiftLeft_field m off len v hv hz

/-- a later write to a disjoint field does not disturb an earlier one -/
theorem write_read_other (m off len v off' len' : Nat) (hlen : len ≤ 57) (hv : v < 2^len)
    (hlen' : len' ≤ 57) (hd : off' + len' ≤ off ∨ off + len ≤ off') :
    readInt57 (writeInt57 m off len v) off' len' = readInt57 m off' len' := by
  rw [read_eq_57 _ _ _ hlen', read_eq_57 _ _ _ hlen']
  apply Nat.eq_of_testBit_eq
  intro j
  rw [Nat.testBit_mod_two_pow, Nat.testBit_mod_two_pow, Nat.testBit_shiftRight, Nat.testBit_shiftRight]
  by_cases hj : j < len'
  · rw [write_frame m off len v hlen hv (off' + j) (by omega)]
  · simp [hj]

example : FieldZero 0xFF00FF 8 8 ∧ (0xAB : Nat) < 2^8 ∧ readInt57 (writeInt57 0xFF00FF 8 8 0xAB) 8 8 = 0xAB := by
  refine ⟨?_, by decide, by decide⟩
  intro j hj
  have : j = 0 ∨ j = 1 ∨ j = 2 ∨ j = 3 ∨ j = 4 ∨ j = 5 ∨ j = 6 ∨ j = 7 := by omega
  rcases this with h|h|h|h|h|h|h|h <;> subst h <;> decide

/-! ### 32-bit window: `ReadInt25` / `WriteInt25` (width ≤ 25) -/

theorem read25_eq (m off len : Nat) (h : len ≤ 25) :
    readInt25 m off len = (m >>> off) % 2^len :=
  KV.Bits.read25_eq m off len h

theorem write25_bits (m off len v : Nat) (hlen : len ≤ 25) (hv : v < 2^len) (i : Nat) :
    (writeInt25 m off len v).testBit i =
      (m.testBit i || (decide (off ≤ i) && decide (i < off + len) && v.testBit (i - off))) := by
  rw [writeInt25_eq m off len v hv (by omega)]
  exact testBit_or_shiftLeft m off len v i hv

theorem write25_frame (m off len v : Nat) (hlen : len ≤ 25) (hv : v < 2^len) (i : Nat)
    (hi : i < off ∨ off + len ≤ i) :
    (writeInt25 m off len v).testBit i = m.testBit i := by
  rw [writeInt25_eq m off len v hv (by omega)]
  exact testBit_or_shiftLeft_outside m off len v i hv hi

theorem write25_read (m off len v : Nat) (hlen : len ≤ 25) (hv : v < 2^len)
    (hz : FieldZero m off len) :
    readInt25 (writeInt25 m off len v) off len = v := by
  rw [read25_eq _ _ _ hlen,
    writeInt25_eq m off len v hv (by omega)]
  exact or_shiftLeft_field m off len v hv hz

/-! ### floats: 32 stored bits, and 31 stored bits with the sign forced on -/

theorem float32_write_read (m off bits : Nat) (hb : bits < 2^32) (hz : FieldZero m off 32) :
    readFloat32 (writeFloat32 m off bits) off = bits :=
  write_read m off 32 bits (by decide) hb hz

theorem float32_write_frame (m off bits : Nat) (hb : bits < 2^32) (i : Nat)
    (hi : i < off ∨ off + 32 ≤ i) :
    (writeFloat32 m off bits).testBit i = m.testBit i :=
  write_frame m off 32 bits (by omega) hb i hi

theorem testBit_kSignBit (j : Nat) : kSignBit.testBit j = decide (j = 31) := by
  have : kSignBit = 2^31 := by decide
  rw [this, Nat.testBit_two_pow]
  by_cases h : j = 31 <;> simp [h, eq_comm]

/-- Whatever the neighbouring field holds, a non-positive float (sign bit set) stored in 31
bits is read back unchanged; a value with the sign clear comes back with the sign set
(`+0.0 ↦ -0.0`), which is the documented meaning of "NonPositive". -/
theorem float31_write_read (m off bits : Nat) (hb : bits < 2^32) (hz : FieldZero m off 31) :
    readNonPositiveFloat31 (writeNonPositiveFloat31 m off bits) off = bits ||| kSignBit := by
  have hv : bits % 2^32 % 2^31 < 2^31 := Nat.mod_lt _ (by decide)
  -- the read is `ReadInt57` of width 32: bit 31 comes from the neighbouring field, and is overridden
  show readInt57 (writeInt57 m off 31 (bits % 2^32 % 2^31)) off 32 ||| 2^31 = bits ||| 2^31
  rw [read_eq _ _ _ (by omega), writeInt57_eq m off 31 _ hv (by omega), mod_or_sign,
    or_shiftLeft_field m off 31 _ hv hz, Nat.mod_eq_of_lt hb, ← mod_or_sign, Nat.mod_eq_of_lt hb]

theorem required_bits_fits (maxv v : Nat) (hm : maxv < 2^64) (hv : v ≤ maxv) :
    v < 2^(requiredBits maxv) :=
  requiredBits_fits maxv v hm hv

theorem required_bits_minimal (maxv : Nat) (hm : maxv < 2^64) (h0 : maxv ≠ 0) :
    2^(requiredBits maxv - 1) ≤ maxv :=
  requiredBits_minimal maxv hm h0

theorem required_bits_le_64 (maxv : Nat) (hm : maxv < 2^64) : requiredBits maxv ≤ 64 := by
  by_cases h0 : maxv = 0
  · subst h0; decide
  · have h := required_bits_minimal maxv hm h0
    have : 2^(requiredBits maxv - 1) < 2^64 := Nat.lt_of_le_of_lt h hm
    have := (Nat.pow_lt_pow_iff_right (a := 2) (by omega)).mp this
    omega

example : requiredBits 255 = 8 ∧ requiredBits 256 = 9 ∧ requiredBits 0 = 0 := by decide

/-! ## Interpolation search (util/sorted_uniform.hh)

"Interpolation search over any sorted array reports a key present exactly when it occurs,
and terminates, for any value distribution."  The statements quantify over every array
(function on positions), every key and **every** acceptable pivot; `Pivot32` and `Pivot64`
are proved acceptable, the latter for every possible floating-point result. -/
open KV.Search

theorem pivot32_acceptable : PivotOK pivot32 := pivot32_ok
theorem pivot64_acceptable (f : Nat → Nat → Nat → Nat) : PivotOK (pivot64 f) := pivot64_ok f

/-- `BoundedSortedUniformFind` answers "present" exactly when the key occurs strictly
between the bounds, and the position it returns holds the key.  Every iteration
removes at least one of the `hi - lo - 1` positions inside the bracket, so that much fuel suffices (`hf`): the loop terminates. -/
theorem bounded_find_correct (a : Nat → Nat) (pivot) (hp : PivotOK pivot) (key fuel lo loV hi hiV : Nat)
    (hs : SortedIn a lo hi) (hl : loV ≤ key) (hh : key ≤ hiV) (hf : hi - lo ≤ fuel + 1) :
    ((bfind a pivot key fuel lo loV hi hiV).isSome ↔ ∃ q, lo < q ∧ q < hi ∧ a q = key) ∧
    (∀ p, bfind a pivot key fuel lo loV hi hiV = some p → a p = key ∧ lo < p ∧ p < hi) :=
  found_iff (fun p => bfind_sound a pivot key hp fuel lo loV hi hiV p hh)
    (bfind_complete a pivot key hp fuel lo loV hi hiV hs hh (by omega))

/-- every position the search reads lies strictly inside the bounds (no out-of-range read) -/
theorem bounded_find_probes_in_range (a : Nat → Nat) (pivot) (hp : PivotOK pivot)
    (key fuel lo loV hi hiV : Nat) (hl : loV ≤ key) (hh : key ≤ hiV) :
    ∀ p ∈ probes a pivot key fuel lo loV hi hiV, lo < p ∧ p < hi :=
  probes_in_range a pivot key hp fuel lo loV hi hiV hl hh

theorem bounded_find_terminates (a : Nat → Nat) (pivot) (hp : PivotOK pivot) (key f1 f2 lo loV hi hiV : Nat)
    (hl : loV ≤ key) (hh : key ≤ hiV) (h1 : hi - lo ≤ f1 + 1) (h2 : hi - lo ≤ f2 + 1) :
    bfind a pivot key f1 lo loV hi hiV = bfind a pivot key f2 lo loV hi hiV :=
  bfind_fuel a pivot key hp f1 f2 lo loV hi hiV hh (by omega) (by omega)

theorem sorted_uniform_correct (a : Nat → Nat) (pivot) (hp : PivotOK pivot) (key b e : Nat)
    (hle : b ≤ e) (hs : ∀ i j, b ≤ i → i ≤ j → j < e → a i ≤ a j) :
    ((sortedUniformFind a pivot key b e).isSome ↔ ∃ q, b ≤ q ∧ q < e ∧ a q = key) ∧
    (∀ p, sortedUniformFind a pivot key b e = some p → a p = key ∧ b ≤ p ∧ p < e) :=
  found_iff (fun p => sortedUniformFind_sound a pivot key hp b e p hle)
    (sortedUniformFind_complete a pivot key hp b e hs)

theorem binary_find_correct (a : Nat → Nat) (key fuel b e : Nat)
    (hs : ∀ i j, b ≤ i → i ≤ j → j < e → a i ≤ a j) (hf : e - b ≤ fuel) :
    ((binaryFind a key fuel b e).isSome ↔ ∃ q, b ≤ q ∧ q < e ∧ a q = key) ∧
    (∀ p, binaryFind a key fuel b e = some p → a p = key ∧ b ≤ p ∧ p < e) :=
  found_iff (binaryFind_sound a key fuel b e) (binaryFind_complete a key fuel b e hs (by omega))

/-- non-vacuity: a two-valued array with duplicates, probed through `Pivot32` -/
example : sortedUniformFind (fun i => if i < 3 then 7 else if i < 5 then 8 else 9) pivot32 8 0 7 = some 4 ∧
          sortedUniformFind (fun i => if i < 3 then 7 else 9) pivot32 8 0 6 = none := by decide

/-! ## Probing hash table (util/probing_hash_table.hh)

"A probing hash table finds every key inserted so far with its value and reports every other key
absent, for any insertion sequence that keeps it below capacity, and the growing variant preserves
this across every doubling, including entries that had wrapped around the end; exceeding capacity
raises an exception instead of looping."

Model: `Model/Probing.lean` (`Find`, `Insert`, `FindOrInsert`, `UncheckedInsert`, the three loops of
`Double`, `AutoProbing::{Insert, FindOrInsert, DoubleIfNeeded}`, `Power2Mod`).  The hash `h` is an
arbitrary function, the bucket count any `N ≥ 1`.  `Inv h t`: keys stored once, every bucket between
a key's ideal bucket and its bucket (cyclically) occupied, one empty bucket, `occupied ≤ entries_`.
`Abs t M`: the stored pairs are exactly the map `M`.
-/
section Probing
open KV.Probing

/-- **`Find` returns the value of every inserted key and `absent` for every other key** -/
theorem find_correct (h : Nat → Nat) (t : Table) (M : Nat → Option Nat) (inv : Inv h t) (abs : Abs t M)
    (k : Nat) : find h t k = some (M k) :=
  KV.Probing.find_correct h t M inv abs k

/-- **`Insert` of a fresh key below capacity** succeeds, keeps the invariant and extends the map -/
theorem insert_spec (h : Nat → Nat) (t : Table) (M : Nat → Option Nat) (k v : Nat) (inv : Inv h t)
    (abs : Abs t M) (hM : M k = none) (hc : t.entries + 1 < t.N) :
    ∃ q t', insert h t k v = .ok (q, t') ∧ Inv h t' ∧ Abs t' (upd M k v) ∧
      t'.N = t.N ∧ t'.entries = t.entries + 1 ∧ q < t.N ∧ t'.s q = some (k, v) :=
  let ⟨q, t', hi, r⟩ := KV.Probing.insert_spec h t M k v inv abs hM hc
  ⟨q, t', hi, r.inv, r.abs, r.N, r.entries, r.pos, r.stored⟩

/-- **exceeding capacity raises instead of looping**: `Insert` throws before its loop, `FindOrInsert`
of an absent key terminates at the empty bucket the invariant guarantees and throws there; the state
left behind (with `entries_` incremented) still satisfies the invariant and represents the same map -/
theorem full_throws (h : Nat → Nat) (t : Table) (M : Nat → Option Nat) (k v : Nat) (inv : Inv h t)
    (abs : Abs t M) (hc : t.entries + 1 ≥ t.N) :
    insert h t k v = .full { t with entries := t.entries + 1 } ∧
    (M k = none → findOrInsert h t k v = .full { t with entries := t.entries + 1 }) ∧
    Inv h { t with entries := t.entries + 1 } ∧ Abs { t with entries := t.entries + 1 } M :=
  ⟨insert_full h t k v hc, fun hM => findOrInsert_full h t M k v inv abs hM hc, Inv_bump h t inv, abs⟩

/-- **`FindOrInsert`**: a present key is found with its value and nothing changes; an absent key is
inserted below capacity -/
theorem findOrInsert_spec (h : Nat → Nat) (t : Table) (M : Nat → Option Nat) (k v : Nat) (inv : Inv h t)
    (abs : Abs t M) :
    (∀ v', M k = some v' →
      ∃ p, findOrInsert h t k v = .ok (true, p, v', t) ∧ p < t.N ∧ t.s p = some (k, v')) ∧
    (M k = none → t.entries + 1 < t.N →
      ∃ p t', findOrInsert h t k v = .ok (false, p, v, t') ∧ Inv h t' ∧ Abs t' (upd M k v) ∧
        t'.N = t.N ∧ t'.entries = t.entries + 1 ∧ p < t.N ∧ t'.s p = some (k, v)) :=
  ⟨fun v' hM => findOrInsert_found h t M k v v' inv abs hM,
   fun hM hc => let ⟨p, t', hf, r⟩ := findOrInsert_new h t M k v inv abs hM hc
    ⟨p, t', hf, r.inv, r.abs, r.N, r.entries, r.pos, r.stored⟩⟩

/-- **fuel**: the model's `none` ("does not terminate") arises exactly when every bucket holds
another key — then the unbounded C++ loop cycles forever (here for fuel `N`, which covers every bucket) -/
theorem scan_diverges_iff (s : Slots) (N k i : Nat) (hi : i < N) :
    scan s N k N i = none ↔ ∀ x, x < N → ∃ k' v', s x = some (k', v') ∧ k' ≠ k :=
  ⟨scan_none_all_other s N k i hi, fun hall => scan_all_other_none s N k hall N i hi⟩

/-- **any script** of `Insert` (fresh keys) / `FindOrInsert` / `Find` on a table that represents the
specification state produces exactly the outputs of the map-with-capacity specification
(`runSpec`: a map, an insertion counter, "full" once `count + 1 ≥ N`), never diverges, and ends in a
table that again represents the specification state -/
theorem run_refines_map (h : Nat → Nat) (ops : List Op) (t : Table) (σ : Spec) (outs : List Out) (σ' : Spec)
    (r : Ref h t σ) (hs : runSpec σ ops = some (outs, σ')) :
    ∃ t', runT h t ops = some (outs, t') ∧ Ref h t' σ' :=
  run_refines h ops t σ outs σ' r hs

theorem run_refines_map_from_empty (h : Nat → Nat) (N : Nat) (hN : 0 < N) (ops : List Op) (outs : List Out)
    (σ' : Spec) (hs : runSpec { M := fun _ => none, count := 0, N := N } ops = some (outs, σ')) :
    ∃ t', runT h (emptyTable N) ops = some (outs, t') ∧ Ref h t' σ' :=
  run_refines h ops _ _ outs σ' ⟨Inv_empty h N hN, Abs_empty N, rfl, rfl⟩ hs

/-- **the property in its own words, fixed size**: after inserting any sequence of distinct keys that
keeps the table below capacity (`length < N`), every inserted key is found with its value and every
other key is reported absent — for every hash function and every bucket count -/
theorem inserted_found (h : Nat → Nat) (N : Nat) (kvs : List (Nat × Nat))
    (hd : kvs.Pairwise (fun a b => a.1 ≠ b.1)) (hc : kvs.length < N) :
    ∃ t, runT h (emptyTable N) (insertsOf kvs) = some (kvs.map (fun _ => Out.done), t) ∧
      (∀ k v, (k, v) ∈ kvs → find h t k = some (some v)) ∧
      (∀ k, (∀ v, (k, v) ∉ kvs) → find h t k = some none) := by
  obtain ⟨M', hmap, hM⟩ := runMap_inserts kvs (fun _ => none) (fun _ _ => rfl) hd
  obtain ⟨c, hspec⟩ := runSpec_of_runMap (insertsOf kvs) ⟨fun _ => none, 0, N⟩ _ M'
    (by simpa [insertsOf] using hc) hmap
  obtain ⟨t, ht, ref⟩ := run_refines h _ (emptyTable N) _ _ _ ⟨Inv_empty h N (by omega), Abs_empty N, rfl, rfl⟩ hspec
  exact ⟨t, ht, lookups_of_pairs (fun k v => (hM k v).trans (by simp))
    (KV.Probing.find_correct h t M' ref.inv ref.abs)⟩

/-- the `UncheckedInsert` loop fails to terminate exactly on a completely full table -/
theorem firstEmpty_diverges_iff (s : Slots) (N i : Nat) (hi : i < N) :
    firstEmpty s N N i = none ↔ ∀ x, x < N → s x ≠ none := by
  constructor
  · intro h x hx
    exact firstEmpty_none_full s N N i hi h x hx (dist_lt N i x hi hx)
  · intro hall
    cases hfe : firstEmpty s N N i with
    | none => rfl
    | some q =>
      obtain ⟨hq, hqs, _⟩ := firstEmpty_sound s N N i q hi hfe
      exact absurd hqs (hall q hq)

/-- a table sized like `ProbingHashTable::Size(n, multiplier)` (`DivMod`: `max(n + 1, ⌊multiplier · n⌋)` buckets,
for whatever value `f` the floating-point product takes) holds any `≤ n` distinct keys without exception -/
theorem sized_table_holds (h : Nat → Nat) (n f : Nat) (kvs : List (Nat × Nat))
    (hd : kvs.Pairwise (fun a b => a.1 ≠ b.1)) (hn : kvs.length ≤ n) :
    ∃ t, runT h (emptyTable (max (n + 1) f)) (insertsOf kvs) = some (kvs.map (fun _ => Out.done), t) ∧
      (∀ k v, (k, v) ∈ kvs → find h t k = some (some v)) ∧
      (∀ k, (∀ v, (k, v) ∉ kvs) → find h t k = some none) :=
  inserted_found h _ kvs hd (by omega)

/-- **the probe loops stay inside the table**: their results do not depend on anything outside buckets
`[0, N)`, and the bucket `UncheckedInsert` writes is one of them -/
theorem probe_reads_in_range (s s' : Slots) (N k fuel i : Nat) (heq : ∀ x, x < N → s x = s' x) (hi : i < N) :
    scan s N k fuel i = scan s' N k fuel i ∧ firstEmpty s N fuel i = firstEmpty s' N fuel i ∧
    (∀ q, firstEmpty s N fuel i = some q → q < N ∧ s q = none) :=
  ⟨scan_congr s s' N k heq fuel i hi, firstEmpty_congr s s' N heq fuel i hi,
   fun q hq => ⟨(firstEmpty_sound s N fuel i q hi hq).1, (firstEmpty_sound s N fuel i q hi hq).2.1⟩⟩

/-- **`Double` preserves the table**: all three loops terminate, the result satisfies the invariant
for `2 N`, represents the same map (including every entry that had wrapped around the end),
`entries_` and the number of occupied buckets are unchanged -/
theorem double_preserves (h : Nat → Nat) (t : Table) (M : Nat → Option Nat) (inv : Inv h t) (abs : Abs t M) :
    ∃ t', double h t = some t' ∧ Inv h t' ∧ Abs t' M ∧ t'.N = 2 * t.N ∧ t'.entries = t.entries ∧
      occ t'.s t'.N = occ t.s t.N :=
  let ⟨t', hd, d⟩ := KV.Probing.double_preserves h t M inv abs
  ⟨t', hd, d.inv, d.abs, d.N, d.entries, d.occ_eq⟩

/-- **`Double` writes only buckets `[0, 2N)`** — the memory the caller handed over — and nothing beyond -/
theorem double_frame (h : Nat → Nat) (t t' : Table) (hN : 0 < t.N) (hd : double h t = some t') :
    ∀ x, 2 * t.N ≤ x → t'.s x = t.s x :=
  KV.Probing.double_frame h t t' hN hd

/-- **scripts that call `Double` explicitly** (any bucket count, `DivMod`): the table refines the map
specification whose capacity doubles at each `Double` -/
theorem run_with_double_refines_map (h : Nat → Nat) (ops : List OpD) (t : Table) (σ : Spec)
    (outs : List (Option Out)) (σ' : Spec) (r : Ref h t σ) (hs : runSpecD σ ops = some (outs, σ')) :
    ∃ t', runTD h t ops = some (outs, t') ∧ Ref h t' σ' :=
  runD_refines h ops t σ outs σ' r hs

/-- a 3-bucket table (not a power of two): two insertions, the third raises, `Double`, then it fits -/
example :
    let r := runTD id (emptyTable 3)
      [.base (.insert 2 20), .base (.insert 5 50), .base (.insert 8 80), .double, .base (.insert 8 80), .base (.find 5)]
    r.map (·.1) = some [some .done, some .done, some .full, none, some .done, some (.got (some 50))] ∧
    r.map (fun r => (r.2.N, r.2.entries)) = some (6, 4) ∧
    r.map (fun r => (List.range 6).map r.2.s) = some [none, none, some (2, 20), some (8, 80), none, some (5, 50)] := by
  decide

/-- **`AutoProbing` refines the plain map across any number of doublings**, for every threshold
function with `θ N ≤ N - 1` and `N ≤ θ (2 N)`: no capacity exception, no divergence -/
theorem auto_refines_map (h : Nat → Nat) (θ : Nat → Nat) (hθ : ThetaOK θ) (ops : List Op) (a : Auto)
    (M : Nat → Option Nat) (outs : List Out) (M' : Nat → Option Nat) (r : ARef h θ a M)
    (hs : runMap M ops = some (outs, M')) :
    ∃ a', runA h θ a ops = some (outs, a') ∧ ARef h θ a' M' :=
  runA_refines h θ hθ ops a M outs M' r hs

/-- … instantiated with the code's threshold `min (N - 1) (0.9 N)` and a fresh table of any size ≥ 1
(`AutoProbing(0)` starts with one bucket) -/
theorem auto_refines_map_real (h : Nat → Nat) (N : Nat) (hN : 0 < N) (ops : List Op) (outs : List Out)
    (M' : Nat → Option Nat) (hs : runMap (fun _ => none) ops = some (outs, M')) :
    ∃ a', runA h thetaReal { t := emptyTable N, thr := thetaReal N } ops = some (outs, a') ∧
      ARef h thetaReal a' M' :=
  runA_refines h thetaReal thetaReal_ok ops _ _ outs M' (auto_init h thetaReal N hN) hs

theorem theta_real_ok : ThetaOK thetaReal := thetaReal_ok

theorem power2_next_eq (j i : Nat) (hi : i < 2^j) : nextP2 (2^j) i = next (2^j) i := nextP2_eq j i hi
theorem power2_ideal_eq (h : Nat → Nat) (j k : Nat) : idealP2 h (2^j) k = ideal h (2^j) k := idealP2_eq h j k

/-- the constructor of `Power2Mod` accepts exactly the powers of two … -/
theorem power2_ctor_iff (n : Nat) : isPow2 n = true ↔ ∃ j, n = 2^j := isPow2_iff n

/-- … and on those the mask versions of all table operations coincide with the `DivMod` versions,
so every theorem above holds for `ProbingHashTable<…, Power2Mod>` and for `AutoProbing`'s backend -/
theorem power2_ops_eq (h : Nat → Nat) (t : Table) (j : Nat) (hN : t.N = 2^j) (k v : Nat) :
    findPosP2 h t k = findPos h t k ∧ insertP2 h t k v = insert h t k v ∧
    findOrInsertP2 h t k v = findOrInsert h t k v ∧ uncheckedInsertP2 h t k v = uncheckedInsert h t k v :=
  ⟨findPosP2_eq h t k ⟨j, hN⟩, insertP2_eq h t k v ⟨j, hN⟩, findOrInsertP2_eq h t k v ⟨j, hN⟩,
   uncheckedInsertP2_eq h t k v ⟨j, hN⟩⟩

/-- **`RoundBuckets`** returns the least power of two `≥ x` (for `1 ≤ x ≤ 2^63`) -/
theorem roundBuckets (x : Nat) (h1 : 1 ≤ x) (h2 : x ≤ 2^63) :
    ∃ j, KV.Probing.roundBuckets x = 2^j ∧ x ≤ 2^j ∧ (j = 0 ∨ 2^(j-1) < x) :=
  roundBuckets_spec x h1 h2

/-- `Double` as `Power2Mod` executes it (`mask_ = (mask_ << 1) | 1`, mask versions of `Ideal`/`Next`)
is the `Double` of `double_preserves` -/
theorem power2_double_eq (h : Nat → Nat) (t : Table) (j : Nat) (hN : t.N = 2^j) : doubleP2 h t = double h t :=
  doubleP2_eq h t ⟨j, hN⟩

/-- **`AutoProbing` as it is compiled** — backend `ProbingHashTable<…, Power2Mod>` with mask arithmetic in
every operation and in `Double` (`runAP2`), initial bucket count `RoundBuckets(x)`, the code's threshold —
refines the plain map on every script: no exception, no divergence, across all doublings -/
theorem auto_refines_map_power2 (h : Nat → Nat) (x : Nat) (h1 : 1 ≤ x) (h2 : x ≤ 2^63) (ops : List Op)
    (outs : List Out) (M' : Nat → Option Nat) (hs : runMap (fun _ => none) ops = some (outs, M')) :
    ∃ a', runAP2 h thetaReal { t := emptyTable (KV.Probing.roundBuckets x), thr := thetaReal (KV.Probing.roundBuckets x) } ops
        = some (outs, a') ∧ ARef h thetaReal a' M' := by
  obtain ⟨j, hj, _, _⟩ := roundBuckets_spec x h1 h2
  have hpos : 0 < KV.Probing.roundBuckets x := by rw [hj]; exact Nat.two_pow_pos j
  obtain ⟨a', hr, r, _⟩ := runAP2_refines h thetaReal thetaReal_ok ops _ _ outs M'
    (auto_init h thetaReal _ hpos) ⟨j, hj⟩ hs
  exact ⟨a', hr, r⟩

/-- **the property in its own words, growing variant** (as compiled: `Power2Mod` backend, `RoundBuckets(x)`
initial buckets, the code's threshold): after inserting any list of distinct keys — of any length, through
however many doublings — every inserted key is found with its value and every other key is absent -/
theorem auto_inserted_found (h : Nat → Nat) (x : Nat) (h1 : 1 ≤ x) (h2 : x ≤ 2^63) (kvs : List (Nat × Nat))
    (hd : kvs.Pairwise (fun a b => a.1 ≠ b.1)) :
    ∃ a, runAP2 h thetaReal { t := emptyTable (KV.Probing.roundBuckets x), thr := thetaReal (KV.Probing.roundBuckets x) }
          (insertsOf kvs) = some (kvs.map (fun _ => Out.done), a) ∧
      (∀ k v, (k, v) ∈ kvs → a.find h k = some (some v)) ∧
      (∀ k, (∀ v, (k, v) ∉ kvs) → a.find h k = some none) := by
  obtain ⟨M', hmap, hM⟩ := runMap_inserts kvs (fun _ => none) (fun _ _ => rfl) hd
  obtain ⟨a, ha, ref⟩ := auto_refines_map_power2 h x h1 h2 _ _ M' hmap
  exact ⟨a, ha, lookups_of_pairs (fun k v => (hM k v).trans (by simp))
    (KV.Probing.find_correct h a.t M' ref.ai.inv ref.abs)⟩

example : KV.Probing.roundBuckets 1 = 1 ∧ KV.Probing.roundBuckets 5 = 8 ∧ KV.Probing.roundBuckets 8 = 8 ∧
    KV.Probing.roundBuckets (2^63) = 2^63 ∧ KV.Probing.roundBuckets (2^63 + 1) = 0 := by decide

/-! ### non-vacuity: a concrete table with a wrapped cluster, and its `Double`

Identity hash, 8 buckets; `Insert` 15, 31, 2, 10, 3:  15 → bucket 7, 31 → 7 is taken, wraps to 0,
2 → 2, 10 → 3, 3 → 4.  The invariant of this table is obtained from `run_refines_map_from_empty`
(the hypotheses of all theorems above are satisfiable by a state with a wrapped cluster). -/

def exOps : List Op := [.insert 15 150, .insert 31 310, .insert 2 20, .findOrInsert 10 100, .insert 3 30]
def exSpec : Spec := ((runSpec { M := fun _ => none, count := 0, N := 8 } exOps).map (·.2)).getD ⟨fun _ => none, 0, 0⟩
def exT : Table := ((runT id (emptyTable 8) exOps).map (·.2)).getD (emptyTable 8)

theorem exT_ref : Ref id exT exSpec := by
  obtain ⟨t', h1, r⟩ := run_refines_map_from_empty id 8 (by decide) exOps
    [.done, .done, .done, .foi false 100, .done] exSpec rfl
  have : exT = t' := by unfold exT; rw [h1]; rfl
  rw [this]; exact r

/-- the layout: 31 has wrapped around the end, 10 and 3 are displaced -/
example : (List.range 8).map exT.s = [some (31, 310), none, some (2, 20), some (10, 100), some (3, 30), none, none, some (15, 150)]
    ∧ exT.entries = 5 ∧ ideal id 8 31 = 7 := by decide

example : Inv id exT ∧ Abs exT exSpec.M ∧ exSpec.M 31 = some 310 ∧ exSpec.M 4 = none ∧
    find id exT 31 = some (some 310) ∧ find id exT 4 = some none ∧ find id exT 23 = some none :=
  ⟨exT_ref.inv, exT_ref.abs, rfl, rfl, by decide, by decide, by decide⟩

/-- `insert_spec`'s hypotheses hold for key 23 (ideal bucket 7, wraps to bucket 1) -/
example : exSpec.M 23 = none ∧ exT.entries + 1 < exT.N ∧
    (match insert id exT 23 230 with | .ok (q, _) => q == 1 | _ => false) = true := by decide

/-- `findOrInsert_spec`, both branches: 31 is found at bucket 0 with its value and nothing changes; 23 is new
and lands in bucket 1 (after wrapping from its ideal bucket 7) -/
example : (match findOrInsert id exT 31 5 with | .ok (true, 0, 310, t) => t.entries == 5 | _ => false) = true ∧
    (match findOrInsert id exT 23 230 with | .ok (false, 1, 230, t) => t.entries == 6 | _ => false) = true := by decide

/-- `Power2Mod`: wrap by mask, constructor test -/
example : nextP2 8 7 = 0 ∧ nextP2 8 3 = 4 ∧ idealP2 id 8 31 = 7 ∧ isPow2 8 = true ∧ isPow2 12 = false ∧ isPow2 0 = false ∧
    (doubleP2 id exT).map (fun t => (List.range 16).map t.s) = (double id exT).map (fun t => (List.range 16).map t.s) := by
  decide

/-- `Double` of it: 31 is buffered and wraps again (15 and 31 both have the new ideal bucket 15),
3 moves back into the gap left by 10, 10 moves to the new half -/
example : (double id exT).map (fun t => ((List.range 16).map t.s, t.N, t.entries)) =
    some ([some (31, 310), none, some (2, 20), some (3, 30), none, none, none, none, none, none, some (10, 100),
           none, none, none, none, some (15, 150)], 16, 5) := by decide

example : ∃ t', double id exT = some t' ∧ Inv id t' ∧ Abs t' exSpec.M ∧ find id t' 31 = some (some 310) := by
  obtain ⟨t', h1, inv', abs', _⟩ := double_preserves id exT exSpec.M exT_ref.inv exT_ref.abs
  exact ⟨t', h1, inv', abs', find_correct id t' _ inv' abs' 31⟩

/-- at capacity: a table of 2 buckets holds one entry; the next `Insert` / `FindOrInsert` raises -/
example : (match insert id (emptyTable 2) 5 50 with
           | .ok (_, t) => (match insert id t 7 70 with | .full _ => true | _ => false) &&
                           (match findOrInsert id t 7 70 with | .full _ => true | _ => false) &&
                           (find id t 7 == some none)
           | _ => false) = true := by decide

/-- the rolled-over buffer is necessary: without it (`doubleNoRoll`) the 4-bucket table {7 ↦ bucket 3,
3 ↦ wrapped to bucket 0} loses key 3 (it is re-inserted behind 7, and then 7 moves away) -/
theorem double_without_rollover_loses :
    let t := ((runT id (emptyTable 4) [.insert 7 70, .insert 3 30]).map (·.2)).getD (emptyTable 4)
    find id t 3 = some (some 30) ∧
    ((doubleNoRoll id t).bind fun t' => find id t' 3) = some none ∧
    ((double id t).bind fun t' => find id t' 3) = some (some 30) := by decide

/-- `AutoProbing(0)`: one bucket, threshold 0; ten insertions go through four doublings -/
example : (runA id thetaReal { t := emptyTable 1, thr := thetaReal 1 }
            ((List.range 10).map fun i => Op.insert (8 * i + 7) i)).map (fun r => (r.2.t.N, r.2.t.entries, r.2.thr)) =
    some (16, 10, 14) := by decide

/-- the same ten insertions through the literal `Power2Mod` code path -/
example : (runAP2 id thetaReal { t := emptyTable 1, thr := thetaReal 1 }
            ((List.range 10).map fun i => Op.insert (8 * i + 7) i)).map (fun r => (r.2.t.N, r.2.t.entries, r.2.thr)) =
    some (16, 10, 14) := by decide

end Probing

/-! ## Vocabularies (lm/vocab.hh, lm/vocab.cc) on top of the probing table and the interpolation search

Model: `Model/Vocab.lean`.  Words are represented by their 64-bit MurmurHash (abstract); the word-level
statements take injectivity of the hash on the words that occur as an explicit hypothesis (`InjOn`).  They also
carry `hash w ≠ 0` (0 is the invalid key of these tables: a word hashing to 0 is outside the C++ contract); the model's
tables have no invalid key, so no proof uses it.
-/
section Vocabularies
open KV.Probing KV.Vocab

/-- **`GrowableVocab` (lmplz): the ids of a token stream do not depend on the initial size of the
`AutoProbing` table, hence not on its doubling history** — in the shape of KV.C07's hypothesis
`h_vocab : ∀ m, I.encode m text = ids text` (`I.encode m := growableIds … (xOf m)`, `ids := firstOccurrenceIds …`):
for every memory configuration `m` the id sequences `CorpusCount` appends are the positions of first
occurrence among the distinct words, `<unk>`, `<s>`, `</s>` being 0, 1, 2 (and dropped from the lines).
General in: the word type, the hash (injective on the occurring words), the text, the configuration type and
its map to the `RoundBuckets` argument (any value in `[1, 2^63]`, see `vocab_initial_arg_ok`). -/
theorem vocab_ids_indep {Mem W : Type} [DecidableEq W] (hash : W → Nat) (unk bos eos : W) (unkCapHash : Nat)
    (xOf : Mem → Nat) (hx : ∀ m, 1 ≤ xOf m ∧ xOf m ≤ 2^63) (text : List (List W))
    (hsp : unk ≠ bos ∧ unk ≠ eos ∧ bos ≠ eos)
    (hinj : InjOn hash ([unk, bos, eos] ++ text.flatten))
    (hnz : ∀ w, w ∈ [unk, bos, eos] ++ text.flatten → hash w ≠ 0)
    (hmax : (specEncode unk bos eos text).2 < kWordIndexMax) :
    ∀ m, growableIds hash unk bos eos unkCapHash (xOf m) text = firstOccurrenceIds unk bos eos text :=
  KV.Vocab.vocab_ids_indep hash unk bos eos unkCapHash xOf hx text hsp hinj hnz hmax

/-- the full result (ids and `type_count_`), for one initial size -/
theorem vocab_ids_first_occurrence {W : Type} [DecidableEq W] (hash : W → Nat) (unk bos eos : W) (unkCapHash : Nat)
    (text : List (List W)) (hsp : unk ≠ bos ∧ unk ≠ eos ∧ bos ≠ eos)
    (hinj : InjOn hash ([unk, bos, eos] ++ text.flatten))
    (hnz : ∀ w, w ∈ [unk, bos, eos] ++ text.flatten → hash w ≠ 0)
    (hmax : (specEncode unk bos eos text).2 < kWordIndexMax) (x : Nat) (h1 : 1 ≤ x) (h2 : x ≤ 2^63) :
    growableEncode ⟨hash unk, unkCapHash, hash bos, hash eos⟩ x (text.map (·.map hash)) =
      .ok (specEncode unk bos eos text) :=
  growable_ids_first_occurrence hash unk bos eos unkCapHash text hsp hinj hmax x h1 h2

/-- every 32-bit `initial_size` gives an admissible `RoundBuckets` argument -/
theorem vocab_initial_arg_ok (init fl : Nat) (hi : init < 2^32) (hf : fl ≤ 2^63) :
    1 ≤ max (init + 1) fl ∧ max (init + 1) fl ≤ 2^63 := by omega

/-- injective hashes transport positions: the bridge between the hash-level statements below and words -/
theorem hash_inj_transfer {W : Type} [DecidableEq W] (hash : W → Nat) (seen : List W) (w : W)
    (hinj : InjOn hash (w :: seen)) :
    (seen.map hash).idxOf (hash w) = seen.idxOf w ∧ (hash w ∈ seen.map hash ↔ w ∈ seen) :=
  idxOf_map_inj hash seen w hinj

/-- **`ProbingVocabulary`**: `Insert` in file order, `Index` = id of an inserted word, 0 otherwise -/
theorem probing_vocab_correct (sp : Specials) (N : Nat) (ws : List Nat)
    (hnd : (ws.filter (fun k => !isUnk sp k)).Nodup) (hN : (ws.filter (fun k => !isUnk sp k)).length < N) :
    ∃ v, pInsertAll sp (pNew N) ws = .ok (pSpecIds sp 1 ws, v) ∧
      v.bound = (ws.filter (fun k => !isUnk sp k)).length + 1 ∧
      v.sawUnk = ws.any (isUnk sp) ∧
      ∀ k, pIndex v k = some (if k ∈ ws.filter (fun k => !isUnk sp k)
                              then (ws.filter (fun k => !isUnk sp k)).idxOf k + 1 else 0) := by
  obtain ⟨v, h1, r, hs⟩ := pInsertAll_spec sp ws (pNew N) [] (pNew_rep N (by omega)) (by simpa using hnd)
    (by simpa [pNew, emptyTable] using hN)
  simp only [List.nil_append, List.length_nil, Nat.zero_add] at h1 r
  exact ⟨v, h1, r.bound, by rw [hs]; simp [pNew], fun k => pIndex_spec v _ r k⟩

/-- … with the bucket count of `ProbingHashTable::Size(entries, multiplier)` for any multiplier
(`fl` = whatever the float product is): enough room whenever the header count covers the words -/
theorem probing_vocab_sized (sp : Specials) (entries fl : Nat) (ws : List Nat)
    (hnd : (ws.filter (fun k => !isUnk sp k)).Nodup) (hE : (ws.filter (fun k => !isUnk sp k)).length ≤ entries) :
    ∃ v, pInsertAll sp (pNew (max (entries + 1) fl)) ws = .ok (pSpecIds sp 1 ws, v) ∧
      ∀ k, pIndex v k = some (if k ∈ ws.filter (fun k => !isUnk sp k)
                              then (ws.filter (fun k => !isUnk sp k)).idxOf k + 1 else 0) := by
  obtain ⟨v, h1, _, _, h4⟩ := probing_vocab_correct sp (max (entries + 1) fl) ws hnd (by omega)
  exact ⟨v, h1, h4⟩

/-- the ids `Insert` returned are the ids `Index` reports afterwards -/
theorem probing_vocab_insert_ids (sp : Specials) (ws : List Nat) (hnd : (ws.filter (fun k => !isUnk sp k)).Nodup) :
    pSpecIds sp 1 ws = ws.map (fun k => if isUnk sp k then 0 else (ws.filter (fun k => !isUnk sp k)).idxOf k + 1) := by
  have := pSpecIds_eq_index sp ws [] (by simpa using hnd)
  simpa using this

/-- **`SortedVocabulary`**: after `FinishedLoading` the hashes are strictly sorted, the (hash, weights) pairs are
a permutation of the supplied ones, `Index` = rank + 1 for inserted words and 0 otherwise — for every
floating-point pivot `f` — and the weights found at `Index(h)` are those supplied with `h` -/
theorem sorted_vocab_correct {β : Type} (f : Nat → Nat → Nat → Nat) (sp : Specials) (ws : List Nat) (weights : List β)
    (hlen : weights.length = (ws.filter (fun k => !(k = sp.unk || k = sp.unkCap))).length)
    (hnd : (ws.filter (fun k => !(k = sp.unk || k = sp.unkCap))).Nodup) :
    let keys := ws.filter (fun k => !(k = sp.unk || k = sp.unkCap))
    let v0 := (sInsertAll sp sNew ws).2
    let r := sFinish v0 weights
    v0.keys = keys ∧
    r.1.keys.Pairwise (· < ·) ∧ r.1.keys.Perm keys ∧ (r.1.keys.zip r.2).Perm (keys.zip weights) ∧
    (∀ k, k < 2^64 → sIndex f r.1 k = if k ∈ keys then keys.countP (· < k) + 1 else 0) ∧
    (∀ h w, h < 2^64 → (h, w) ∈ keys.zip weights → r.2[sIndex f r.1 h - 1]? = some w) ∧
    sBound r.1 = keys.length + 1 ∧
    r.1.sawUnk = ws.any (fun k => k = sp.unk || k = sp.unkCap) := by
  intro keys v0 r
  obtain ⟨hk, hs⟩ := sInsertAll_keys sp ws sNew
  have hk' : v0.keys = keys := hk
  obtain ⟨a1, a2, a3, a4, a5, a6, a7⟩ := sFinish_spec f v0 weights (by rw [hk']; exact hlen) (by rw [hk']; exact hnd)
  rw [hk'] at a2 a3 a4 a5 a6
  exact ⟨hk', a1, a2, a3, a4, a5, a6, a7.trans hs⟩

/-- `std::sort` is not stable and unspecified — irrelevant: on distinct hashes every sorted permutation of the
pairs is the model's `jointSort` -/
theorem joint_sort_unique {β : Type} (ps l : List (Nat × β)) (hnd : (ps.map (·.1)).Nodup) (hperm : l.Perm ps)
    (hsorted : l.Pairwise (fun a b => a.1 ≤ b.1)) : l = jointSort ps :=
  jointSort_unique ps l hnd hperm hsorted

def exSp : Specials := ⟨100, 200, 3, 7⟩

/-- a token stream through `GrowableVocab` with one bucket and with 64 buckets initially: same ids
(`3` is `<s>`: dropped), six types -/
example : (growableEncode exSp 1 [[5, 9, 5], [3, 9, 11]]).toOption = some ([[3, 4, 3], [4, 5]], 6) ∧
    (growableEncode exSp 64 [[5, 9, 5], [3, 9, 11]]).toOption = some ([[3, 4, 3], [4, 5]], 6) ∧
    specEncode (100 : Nat) 3 7 [[5, 9, 5], [3, 9, 11]] = ([[3, 4, 3], [4, 5]], 6) := by decide

/-- the hypotheses of `vocab_ids_indep` hold for words = numbers, hash = `· + 1`, configurations = numbers -/
example : ∀ m : Nat, growableIds (· + 1) 0 1 2 999 (m % 1000 + 1) [[5, 9, 5], [1, 9, 11]] =
    firstOccurrenceIds (0 : Nat) 1 2 [[5, 9, 5], [1, 9, 11]] :=
  vocab_ids_indep (· + 1) 0 1 2 999 (fun m => m % 1000 + 1) (fun m => by omega) [[5, 9, 5], [1, 9, 11]]
    (by decide) (fun a _ b _ e => by simpa using e) (fun w _ => by simp) (by decide)

/-- `ProbingVocabulary` with 8 buckets: `<unk>` (hash 100) is id 0 and not in the table -/
example :
    let r := (pInsertAll exSp (pNew 8) [5, 100, 9, 3]).toOption
    r.map (·.1) = some [1, 0, 2, 3] ∧ r.map (fun r => (r.2.bound, r.2.sawUnk)) = some (4, true) ∧
    r.map (fun r => [pIndex r.2 9, pIndex r.2 100, pIndex r.2 42, pIndex r.2 3]) = some [some 2, some 0, some 0, some 3] := by
  decide

/-- `SortedVocabulary`: `Insert` of hashes 50, `<unk>`, 20, 30 gives provisional ids 1, 0, 2, 3 -/
example : sInsertAll exSp sNew [50, 100, 20, 30] = ([1, 0, 2, 3], ⟨[50, 20, 30], true⟩) := by rfl

/-- … `FinishedLoading` with weights 10, 11, 12 (`List.mergeSort` does not evaluate by `decide`; the result is
determined by `joint_sort_unique`) -/
theorem exJointSort : jointSort [(50, 10), (20, 11), (30, 12)] = [(20, 11), (30, 12), (50, 10)] :=
  (joint_sort_unique [(50, 10), (20, 11), (30, 12)] [(20, 11), (30, 12), (50, 10)] (by decide) (by decide) (by decide)).symm

example : sFinish (⟨[50, 20, 30], true⟩ : SVocab) [10, 11, 12] = (⟨[20, 30, 50], true⟩, [11, 12, 10]) := by
  show (({ keys := (jointSort [(50, 10), (20, 11), (30, 12)]).map (·.1), sawUnk := true } : SVocab),
        (jointSort [(50, 10), (20, 11), (30, 12)]).map (·.2)) = _
  rw [exJointSort]; rfl

/-- … and `Index`: rank + 1, with two different pivots; absent hashes and `<unk>` give 0 -/
example : sIndex (fun _ _ _ => 0) ⟨[20, 30, 50], true⟩ 50 = 3 ∧ sIndex (fun o r w => o * w / (r + 1)) ⟨[20, 30, 50], true⟩ 20 = 1 ∧
    sIndex (fun _ _ w => w) ⟨[20, 30, 50], true⟩ 30 = 2 ∧ sIndex (fun _ _ _ => 0) ⟨[20, 30, 50], true⟩ 25 = 0 ∧
    sIndex (fun _ _ _ => 0) ⟨[20, 30, 50], true⟩ 100 = 0 ∧ sBound ⟨[20, 30, 50], true⟩ = 4 := by decide

end Vocabularies

end KV.C20
