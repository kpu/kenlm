import Proofs.LoaderBin
import Proofs.LoaderToArpa
import Proofs.LoaderDemo
import Proofs.LoaderTrieBuild
import Proofs.LoaderProbingBuild
import Proofs.Search
/-! C10 — Loaders reject malformed input with an exception and never misbehave.

What is proved here is about the *models* (`KV.LoaderArpa`: the ARPA front end and the two search builders'
checks on arbitrary bytes; `KV.LoaderBin`: the binary-header acceptance path).  They are total Lean functions, so
"either succeeds or throws" is by construction; the theorems say *what* is accepted and *which* error comes out
when.  Memory safety of the C++ is observed with sanitizers by `checks/C10.py` (label: partial). -/
namespace KV.C10
open KV.Arpa KV.LoaderArpa KV.Gen.C10

/-- the regenerated constants the loader models rely on (text side: the two white-space tables; binary side:
the header checks that exist in every tree; bit packing: the slack of `BaseSize` equals the width of the
unaligned load it protects) -/
theorem constants_ok :
    maxOrder ≥ 2 ∧ sizeofSanity = sanityRef.length ∧ arpaSpaces = [9, 10, 13, 32] ∧ utilSpaces = [9, 10, 11, 12, 13, 32] ∧
    checkCountsRejectsAboveMax = true ∧ readHeaderRejectsBelowOne = true ∧ readHeaderAcceptsOne = true ∧
    bitPackedSlack = readOffBytes ∧ unkCheck.length = 6 := by decide

theorem spaces_match : (List.range 256).all (fun n =>
    (isSpace n.toUInt8 == utilSpaces.contains n) && (isArpaSpace n.toUInt8 == arpaSpaces.contains n)) = true := by
  decide +kernel

/-- **accepted_wellformed.**  If the loader front end accepts a byte string then: the order is within
`[2, KENLM_MAX_ORDER]`; there is exactly one count per order and the number of stored n-grams of every order
equals its count; the vocabulary is non-empty and has at most `count₁ + 1` ids (the size of the unigram
arrays); every n-gram of section `n` has exactly `n` words, all of them ids below the vocabulary bound
(so: in the vocabulary); every stored probability is a finite value ≤ 0 or −∞ (positive ones were clamped);
every back-off is finite (a rational by type; `inf`/`NaN` were rejected) and is 0 on the highest order. -/
theorem accepted_wellformed (maxO : Nat) (multOk : Bool) (s : Bytes) (p : LParsed)
    (h : LoaderArpa.parse maxO multOk s = .ok p) :
    2 ≤ p.order ∧ p.order ≤ maxO ∧ p.counts.length = p.order ∧
    p.grams.map List.length = p.counts ∧
    p.vocab ≠ [] ∧ p.vocab.length ≤ p.counts.headD 0 + 1 ∧
    (∀ i es, p.grams[i]? = some es → ∀ e ∈ es, EntryOK p.vocab.length (i + 1) (i + 1 == p.order) e) := by
  have w := parse_accepted maxO multOk s p h
  exact ⟨w.order_ge, w.order_le, w.counts_len, w.grams_len, w.vocab_ne, w.vocab_le, w.entry⟩

example : (LoaderArpa.parse 6 true demoBytes).toOption.map (fun p => (p.order, p.counts, p.vocab.length, p.sawUnk)) =
    some (2, [3, 1], 4, false) := by rw [parse_demo]; rfl
/-- trailing junk after a number stays in the stream: `-0.25a b` is the bigram `a b` with probability −1/4 -/
example : (LoaderArpa.parse 6 true (str "\\data\\\nngram 1=2\nngram 2=1\n\n\\1-grams:\n-1\ta\n-2\tb\n\n\\2-grams:\n-0.25a b\n\n\\end\\\n")).toOption.map
    (fun p => p.grams.getD 1 []) = some [([2, 1], .fin (-1/4) false, 0)] := by decide +kernel
/-- `-inf` and `NaN` are accepted probabilities, `inf` / `NaN` as a back-off is a format error, a signed NaN a parse error -/
example : (readNum (str "-inf\tx")).toOption.map (·.1) = some (.inf true) := by decide +kernel
example : backoffOf (.inf false) = .error .format := rfl
example : backoffOf .nan = .error .format := rfl
example : (readNum (str "NaN\tx")).toOption.map (·.1) = some .nan := by decide +kernel
example : (match readNum (str "-NaN\tx") with | .error .parse => true | _ => false) = true := by decide +kernel

/-- **build_total.**  The builder checks end in `ok` or in one of two error classes — never anything else;
the trie family never raises the probing-size error. -/
theorem build_total (k : Kind) (b : Nat → Nat) (p : LParsed) :
    (buildCheck k b p = .ok () ∨ buildCheck k b p = .error .format ∨ buildCheck k b p = .error .probingSize) ∧
    (k = .trie → buildCheck k b p ≠ .error .probingSize) := by
  cases k with
  | trie =>
    unfold buildCheck
    by_cases h : trieContextsOk p = true <;> simp [h]
  | probing =>
    unfold buildCheck
    simp only
    by_cases h1 : (probingRun p).2 = true
    · by_cases h2 : probingFull p b (probingRun p).1 = true <;> simp [h1, h2]
    · simp [h1]

/-- **trie: "context must appear".**  The trie builder rejects (FormatLoadException) exactly when some n-gram of
order ≥ 3 has a context that is not an n-gram of the file; otherwise it accepts. -/
theorem trie_error_iff (b : Nat → Nat) (p : LParsed) :
    (buildCheck .trie b p = .error .format ↔ ∃ e ∈ p.entries, 3 ≤ e.1.length ∧ e.1.tail ∉ p.keys) ∧
    (buildCheck .trie b p = .ok () ↔ ∀ e ∈ p.entries, 3 ≤ e.1.length → e.1.tail ∈ p.keys) := by
  have key := trieContextsOk_iff p
  unfold buildCheck
  by_cases hc : trieContextsOk p = true
  · rw [if_pos hc]
    exact ⟨⟨nofun, fun ⟨e, he, h3, hn⟩ => absurd (key.mp hc e he h3) hn⟩, fun _ => key.mp hc, fun _ => rfl⟩
  · rw [if_neg hc]
    refine ⟨⟨fun _ => ?_, fun _ => rfl⟩, nofun, fun h => absurd (key.mpr h) hc⟩
    exact Classical.byContradiction fun hne =>
      hc (key.mpr fun e he h3 => Classical.byContradiction fun hn => hne ⟨e, he, h3, hn⟩)

theorem probingFull_iff (b : Nat → Nat) (p : LParsed) (keys : List (List Word)) :
    probingFull p b keys = true ↔ ∃ k, k < p.order ∧ 2 ≤ k ∧
      b (p.counts.getD (k - 1) 0) ≤ (keys.filter (fun g => g.length == k)).length := by
  unfold probingFull
  simp only [List.any_eq_true, List.mem_range, Bool.and_eq_true, decide_eq_true_eq, ge_iff_le]

/-- **probing: the two error classes.**  FormatLoadException exactly when the context check failed for some
n-gram at the time it was read (`probingRun` flag); ProbingSizeException exactly when all context checks passed
and real + blank entries of some middle order reach its bucket count (`probingFull_iff`). -/
theorem probing_error_classes (b : Nat → Nat) (p : LParsed) :
    (buildCheck .probing b p = .error .format ↔ (probingRun p).2 = false) ∧
    (buildCheck .probing b p = .error .probingSize ↔
      (probingRun p).2 = true ∧ probingFull p b (probingRun p).1 = true) ∧
    (buildCheck .probing b p = .ok () ↔
      (probingRun p).2 = true ∧ probingFull p b (probingRun p).1 = false) := by
  cases hr : (probingRun p).2 with
  | false => simp [buildCheck, hr]
  | true =>
    cases hf : probingFull p b (probingRun p).1 with
    | false => simp [buildCheck, hr, hf]
    | true => simp [buildCheck, hr, hf]

/-- accepted by the probing builder ⇒ every middle table keeps at least one empty bucket.  This is what makes the linear
probe of `Find` / `FindOrInsert` terminate on absent keys (C20's probing theorems assume a free bucket); a capacity test that
lets a table fill completely (seeded change C10-1) breaks exactly this. -/
theorem probing_accept_has_empty_bucket (b : Nat → Nat) (p : LParsed) (h : buildCheck .probing b p = .ok ()) :
    ∀ k, k < p.order → 2 ≤ k →
      ((probingRun p).1.filter (fun g => g.length == k)).length < b (p.counts.getD (k - 1) 0) := by
  intro k hk h2
  have hnf := ((probing_error_classes b p).2.2.mp h).2
  apply Nat.lt_of_not_le
  intro hle
  have hf := (probingFull_iff b p (probingRun p).1).mpr ⟨k, hk, h2, hle⟩
  rw [hf] at hnf
  exact absurd hnf (by simp)

/-! The next three theorems (`probingBuckets_gt`, `findLower_mono`, `findLower_top`) stand for themselves: nothing outside this group uses them. -/

/-- the bucket count the loader computes always exceeds the announced entry count (for every multiplier bit pattern) -/
theorem probingBuckets_gt (multBits n : Nat) : n < KV.Binary.probingBuckets multBits n := by
  unfold KV.Binary.probingBuckets
  omega

/-- one step of the probing builder: the key table only grows, and afterwards it contains every reversed prefix
(length ≥ 2, shorter than the n-gram) of the n-gram just read — the hallucinated blanks -/
theorem findLower_mono (g : List Word) : ∀ (k : Nat) (keys : List (List Word)) (x : List Word),
    x ∈ keys → x ∈ findLower g k keys := by
  intro k keys x hx
  obtain ⟨pre, hp, _⟩ := findLower_eq g k keys
  rw [hp]
  exact List.mem_append_right _ hx

theorem findLower_top (g : List Word) (k : Nat) (keys : List (List Word)) (hk : 2 ≤ k) :
    g.take k ∈ findLower g k keys := by
  cases k with
  | zero => omega
  | succ k =>
    unfold findLower
    have : ¬ (k + 1 < 2) := by omega
    simp only [this, ↓reduceIte, List.contains_eq_mem, decide_eq_true_eq]
    split
    · assumption
    · exact findLower_mono g k _ _ List.mem_cons_self

/-- the context word of every bigram has a unigram entry -/
def unigramsCover (a : Arpa) : Prop := ∀ x w e, a.gram [x, w] = some e → a.gram [w] ≠ none

theorem gram_ne_none_iff (a : Arpa) (k : List Word) : a.gram k ≠ none ↔ k ∈ a.entries.map (·.1) := by
  constructor
  · intro h
    obtain ⟨e, he⟩ := Option.ne_none_iff_exists'.mp h
    exact List.mem_map.mpr ⟨(k, e), KV.lookup_some_mem _ _ _ he, rfl⟩
  · intro h
    obtain ⟨q, hq, rfl⟩ := List.mem_map.mp h
    exact KV.mem_lookup_ne_none _ _ _ hq

theorem toArpa_keys (p : LParsed) (u : Rat) :
    (p.toArpa u).entries.map (·.1) = if p.sawUnk then p.keys else [0] :: p.keys := by
  unfold LParsed.toArpa
  dsimp only
  split
  · exact map_toEntry_keys p
  · rw [List.map_cons, map_toEntry_keys]

/-- what the front end alone guarantees about the `Arpa` of an accepted file: everything in `WellFormed` except the
context clause, plus the two bridges between `p.keys` and `Arpa.gram` -/
theorem parsed_core (maxO : Nat) (multOk : Bool) (s : Bytes) (p : LParsed) (u : Rat)
    (hp : LoaderArpa.parse maxO multOk s = .ok p) :
    2 ≤ (p.toArpa u).order ∧
    (∀ g, (p.toArpa u).gram g ≠ none → g ≠ []) ∧
    (∀ g, (p.toArpa u).gram g ≠ none → g.length ≤ (p.toArpa u).order) ∧
    (∀ g e, (p.toArpa u).gram g = some e → g.length = (p.toArpa u).order → e.backoff = 0) ∧
    (∀ g, 2 ≤ g.length → (p.toArpa u).gram g ≠ none → g ∈ (p.grams.drop 1).flatten.map (·.1)) ∧
    (∀ k ∈ p.keys, (p.toArpa u).gram k ≠ none) := by
  have w := parse_accepted maxO multOk s p hp
  -- an n-gram of the `Arpa` is the hallucinated `<unk>` or a well-formed entry of the section of its length
  have all : ∀ g e, (p.toArpa u).gram g = some e →
      g ≠ [] ∧ g.length ≤ p.order ∧ (g.length = p.order → e.backoff = 0) ∧
      (2 ≤ g.length → g ∈ (p.grams.drop 1).flatten.map (·.1)) := by
    intro g e hg
    rcases toArpa_gram_some p u g e hg with ⟨rfl, hb0⟩ | ⟨i, es, le, hi, hm, rfl, hb⟩
    · exact ⟨nofun, Nat.le_trans (by decide) w.order_ge, fun _ => hb0, fun h2 => absurd h2 (by decide)⟩
    · have ok := w.entry i es hi le hm
      have hlt : i < p.order := by rw [← w.grams_length]; exact (List.getElem?_eq_some_iff.mp hi).1
      refine ⟨fun hnil => ?_, by rw [ok.len]; exact hlt, fun hlen => ?_, fun h2 => ?_⟩
      · have := ok.len; rw [hnil] at this; cases this
      · rw [hb]; apply ok.topbo; rw [ok.len] at hlen; simpa using hlen
      · have h1 : (p.grams.drop 1)[i - 1]? = some es := by
          have := ok.len
          rw [List.getElem?_drop, show 1 + (i - 1) = i by omega]
          exact hi
        exact List.mem_map_of_mem (List.mem_flatten.mpr ⟨es, List.mem_of_getElem? h1, hm⟩)
  refine ⟨w.order_ge, ?_, ?_, fun g e hg => (all g e hg).2.2.1, ?_, ?_⟩
  · intro g hg
    obtain ⟨e, he⟩ := Option.ne_none_iff_exists'.mp hg
    exact (all g e he).1
  · intro g hg
    obtain ⟨e, he⟩ := Option.ne_none_iff_exists'.mp hg
    exact (all g e he).2.1
  · intro g h2 hg
    obtain ⟨e, he⟩ := Option.ne_none_iff_exists'.mp hg
    exact (all g e he).2.2.2 h2
  · intro k hk
    exact (gram_ne_none_iff _ _).mpr ((mem_toArpa_keys p u k).mpr (Or.inl hk))

/-- every id the unigram section hands out has a unigram entry (ids ≥ 1 by their own line, id 0 by a `<unk>` line) -/
theorem unigrams_cover (maxO : Nat) (multOk : Bool) (s : Bytes) (p : LParsed)
    (h : LoaderArpa.parse maxO multOk s = .ok p) :
    ∃ uni rest, p.grams = uni :: rest ∧
      (∀ id, 1 ≤ id → id < p.vocab.length → [id] ∈ uni.map (·.1)) ∧
      (p.sawUnk = true → [0] ∈ uni.map (·.1)) :=
  (parse_accepted maxO multOk s p h).unigrams

theorem parse_unigramsCover (maxO : Nat) (multOk : Bool) (s : Bytes) (p : LParsed) (u : Rat)
    (h : LoaderArpa.parse maxO multOk s = .ok p) : unigramsCover (p.toArpa u) := by
  have acc := parse_accepted maxO multOk s p h
  obtain ⟨_, _, _, _, _, h6⟩ := parsed_core maxO multOk s p u h
  obtain ⟨uni, rest, hg, hc1, hc0⟩ := acc.unigrams
  have uniKey : ∀ k, k ∈ uni.map (·.1) → (p.toArpa u).gram k ≠ none := by
    intro k hk
    obtain ⟨le, hle, rfl⟩ := List.mem_map.mp hk
    exact h6 _ (List.mem_map_of_mem (List.mem_flatten.mpr ⟨uni, by rw [hg]; exact List.mem_cons_self, hle⟩))
  intro x w e hg2
  -- the bigram is a stored entry, so `w` is an id of the vocabulary
  rcases toArpa_gram_some p u [x, w] e hg2 with ⟨h0, _⟩ | ⟨i, es, le, hi, hm, hk, _⟩
  · cases h0
  have hw : w < p.vocab.length := (acc.entry i es hi le hm).ids w (by rw [hk]; simp)
  by_cases h0 : w = 0
  · subst h0
    by_cases hs : p.sawUnk = true
    · exact uniKey [0] (hc0 hs)
    · exact (gram_ne_none_iff _ _).mpr ((mem_toArpa_keys p u [0]).mpr (Or.inr ⟨by simpa using hs, rfl⟩))
  · exact uniKey [w] (hc1 w (Nat.pos_of_ne_zero h0) hw)

/-- **trie_accept_wellformed.**  A file accepted by the front end and the trie builder, seen as the `Arpa` of
C01 (`toArpa`), has order ≥ 2, non-empty keys no longer than the order, no back-off on the highest order and
every context of an n-gram of order ≥ 3 present.  (`WellFormed` additionally asks that the context of every
*bigram* is a unigram; that holds because ids are assigned by the unigram lines — `unigramsCover` states
it, `parse_unigramsCover` proves it.) -/
theorem trie_accept_wellformed (maxO : Nat) (multOk : Bool) (b : Nat → Nat) (s : Bytes) (p : LParsed) (u : Rat) (mem : Nat)
    (h : load .trie maxO multOk b s mem = .ok p) (cover : unigramsCover (p.toArpa u)) :
    KV.Score.WellFormed (p.toArpa u) := by
  obtain ⟨hp, hb⟩ := load_ok .trie maxO multOk b s mem p h
  obtain ⟨h1, h2, h3, h4, h5, h6⟩ := parsed_core maxO multOk s p u hp
  refine ⟨h1, h2, h3, ?_, h4⟩
  intro x g hne hg
  match g, hne with
  | [w], _ =>
    obtain ⟨e, he⟩ := Option.ne_none_iff_exists'.mp hg
    exact cover x w e he
  | w :: w2 :: g2, _ =>
    obtain ⟨le, hle, hk⟩ := List.mem_map.mp (h5 (x :: w :: w2 :: g2) (by simp) hg)
    have hk : le.1 = x :: w :: w2 :: g2 := hk
    have := (trie_error_iff b p).2.mp hb le (mem_entries_of_drop p le hle) (by rw [hk]; simp)
    rw [hk] at this
    exact h6 _ this

/-- **trie_accept_wellformed, closed form**: no extra hypothesis — everything the trie family accepts satisfies the
`WellFormed` predicate under which C01/C02 prove "query = ARPA recursion" and state sufficiency. -/
theorem trie_accept_wellformed_full (maxO : Nat) (multOk : Bool) (b : Nat → Nat) (s : Bytes) (p : LParsed) (u : Rat) (mem : Nat)
    (h : load .trie maxO multOk b s mem = .ok p) : KV.Score.WellFormed (p.toArpa u) :=
  trie_accept_wellformed maxO multOk b s p u mem h
    (parse_unigramsCover maxO multOk s p u (load_ok .trie maxO multOk b s mem p h).1)

/-- non-vacuity: the demo file is accepted by both families and its `Arpa` is well formed -/
example : (load .trie 6 true buckets15 demoBytes).toOption.isSome = true := by
  rw [load, parse_demo]; decide +kernel
example : (load .probing 6 true buckets15 demoBytes).toOption.isSome = true := by
  rw [load, parse_demo]; decide +kernel

/-- **trie: duplicates that meet in a merge.**  With everything else in order, the trie family rejects (FormatLoadException
"Duplicate n-gram detected") exactly when two equal n-grams sit in different sort batches; duplicates inside one
batch — in particular in every file whose orders fit the sort buffer — are accepted. -/
theorem trie_duplicate_iff (maxO : Nat) (multOk : Bool) (b : Nat → Nat) (s : Bytes) (p : LParsed) (mem : Nat)
    (hp : LoaderArpa.parse maxO multOk s = .ok p) (hb : buildCheck .trie b p = .ok ()) :
    (load .trie maxO multOk b s mem = .error .format ↔ trieDuplicateAcrossBatches p mem = true) ∧
    (load .trie maxO multOk b s mem = .ok p ↔ trieDuplicateAcrossBatches p mem = false) := by
  unfold load
  simp only [hp, hb]
  cases hd : trieDuplicateAcrossBatches p mem <;> simp

/-- the probing family ignores duplicates (both copies are inserted) -/
theorem probing_ignores_duplicates (maxO : Nat) (multOk : Bool) (b : Nat → Nat) (s : Bytes) (p : LParsed) (mem : Nat)
    (hp : LoaderArpa.parse maxO multOk s = .ok p) (hb : buildCheck .probing b p = .ok ()) :
    load .probing maxO multOk b s mem = .ok p := by
  unfold load
  simp [hp, hb]

/-- non-vacuity of the batch logic: five bigrams, batches of two; `[1,2]` in batches 0 and 2 is a cross-batch duplicate,
two adjacent copies in one batch are not -/
example : crossBatchDup [[1,2],[3,4],[5,6],[7,8],[1,2]] 2 = true := by decide +kernel
example : crossBatchDup [[1,2],[1,2],[5,6],[7,8],[9,9]] 2 = false := by decide +kernel

/-- C01's `WellFormed` with the context clause weakened to what the probing builder guarantees: the context of every n-gram
is an n-gram of the file **or a blank** (a proper reversed prefix, of length ≥ 2, of an n-gram of the file — the entries
`FindLower` hallucinates, which `Table.build` also contains).  `WellFormed` is the special case without the second disjunct. -/
structure WellFormedThroughBlanks (a : Arpa) : Prop where
  order_ge : 2 ≤ a.order
  len_pos : ∀ g, a.gram g ≠ none → g ≠ []
  len_le : ∀ g, a.gram g ≠ none → g.length ≤ a.order
  ctx_reachable : ∀ x g, g ≠ [] → a.gram (x :: g) ≠ none →
    a.gram g ≠ none ∨ ∃ h, a.gram h ≠ none ∧ 2 ≤ g.length ∧ g.length < h.length ∧ g = h.take g.length
  top_bo : ∀ g e, a.gram g = some e → g.length = a.order → e.backoff = 0

/-- **probing_accept_wellformed.**  Whatever the probing family accepts (front end, then blank insertion / context-so-far /
capacity checks of the builder model) has order ≥ 2, non-empty keys no longer than the order, no back-off on the highest
order, the vocabulary covered (the context word of a bigram has a unigram entry), and the context of every longer n-gram
is an n-gram of the file or one of its blanks. -/
theorem probing_accept_wellformed (maxO : Nat) (multOk : Bool) (b : Nat → Nat) (s : Bytes) (p : LParsed) (u : Rat) (mem : Nat)
    (h : load .probing maxO multOk b s mem = .ok p) : WellFormedThroughBlanks (p.toArpa u) := by
  obtain ⟨hp, hb⟩ := load_ok .probing maxO multOk b s mem p h
  obtain ⟨h1, h2, h3, h4, h5, h6⟩ := parsed_core maxO multOk s p u hp
  have hflag : (probingRun p).2 = true := ((probing_error_classes b p).2.2.mp hb).1
  have hall : ∀ g ∈ (p.grams.drop 1).flatten.map (·.1), g ∈ p.keys := by
    intro g hg
    obtain ⟨le, hle, rfl⟩ := List.mem_map.mp hg
    exact List.mem_map_of_mem (mem_entries_of_drop p le hle)
  have reach := run_reach p.keys p.order _ ([], true) hall (by intro k hk; cases hk) hflag
  refine ⟨h1, h2, h3, ?_, h4⟩
  intro x g hne hg
  match g, hne with
  | [w], _ =>
    obtain ⟨e, he⟩ := Option.ne_none_iff_exists'.mp hg
    exact Or.inl (parse_unigramsCover maxO multOk s p u hp x w e he)
  | w :: w2 :: g2, _ =>
    rcases reach _ (h5 (x :: w :: w2 :: g2) (by simp) hg) (by simp) with hk | ⟨hh, hhk, hl2, hlt, heq⟩
    · exact Or.inl (h6 _ hk)
    · exact Or.inr ⟨hh, h6 _ hhk, hl2, hlt, heq⟩

/-- without blanks (every reversed prefix of an n-gram is an n-gram: what lmplz writes) the weakened predicate is C01's -/
theorem wellFormed_of_prefixClosed (a : Arpa) (w : WellFormedThroughBlanks a)
    (pc : ∀ h j, a.gram h ≠ none → 1 ≤ j → j < h.length → a.gram (h.take j) ≠ none) : KV.Score.WellFormed a := by
  refine ⟨w.order_ge, w.len_pos, w.len_le, ?_, w.top_bo⟩
  intro x g hne hg
  rcases w.ctx_reachable x g hne hg with h | ⟨h, hh, h2, hlt, heq⟩
  · exact h
  · rw [heq]; exact pc h g.length hh (by omega) hlt

/-- accepted by the probing family and prefix-closed ⇒ C01's `WellFormed` (so `fullScore_prob` etc. apply) -/
theorem probing_accept_wellformed_prefixClosed (maxO : Nat) (multOk : Bool) (b : Nat → Nat) (s : Bytes) (p : LParsed) (u : Rat)
    (mem : Nat) (h : load .probing maxO multOk b s mem = .ok p)
    (pc : ∀ h j, (p.toArpa u).gram h ≠ none → 1 ≤ j → j < h.length → (p.toArpa u).gram (h.take j) ≠ none) :
    KV.Score.WellFormed (p.toArpa u) :=
  wellFormed_of_prefixClosed _ (probing_accept_wellformed maxO multOk b s p u mem h) pc

/-- the converse view: C01's `WellFormed` is the weakened predicate with the blank disjunct never used -/
theorem wellFormedThroughBlanks_of_wellFormed (a : Arpa) (w : KV.Score.WellFormed a) : WellFormedThroughBlanks a :=
  ⟨w.order_ge, w.len_pos, w.len_le, fun x g hne hg => Or.inl (w.ctx_present x g hne hg), w.top_bo⟩

/-! ## the loader model's trie verdict against `KV.TrieBuild.buildTable` (the trie builder model of lm/search_trie.cc)

`buildTable` has the error type `Table.build` lacks, so the `.error ⇒ condition` directions can be stated against it.  Its input
is the list of all n-grams *including* the hallucinated `<unk>`: the keys of `p.toArpa`. -/

/-- **`buildTable = .error .missingContext` ⇒ the loader model's trie verdict is FormatLoadException.**  (The bigram case of
`buildTable`'s check cannot fire on a parsed file: the unigrams cover the vocabulary.) -/
theorem trie_reject_of_buildTable_missingContext (maxO : Nat) (multOk : Bool) (s : Bytes) (p : LParsed) (u : Rat) (b : Nat → Nat)
    (fadd : Nat → Nat → Nat) (gs : List KV.TrieBuild.Gram)
    (hp : LoaderArpa.parse maxO multOk s = .ok p) (hk : gs.map (·.key) = (p.toArpa u).entries.map (·.1))
    (h : KV.TrieBuild.buildTable fadd p.order gs = .error .missingContext) :
    buildCheck .trie b p = .error .format := by
  obtain ⟨k, hkey, hl, htail⟩ := (KV.TrieBuild.buildTable_verdict fadd p.order gs).2.1 h
  rw [hk] at hkey htail
  have hkp : k ∈ p.keys := (mem_toArpa_keys_of_two_le p u k hl).mp hkey
  obtain ⟨le, hle, hlek⟩ := List.mem_map.mp hkp
  by_cases h3 : 3 ≤ k.length
  · refine (trie_error_iff b p).1.mpr ⟨le, hle, by rw [hlek]; exact h3, fun hin => htail ?_⟩
    rw [List.drop_one, ← hlek]
    exact (mem_toArpa_keys p u _).mpr (Or.inl hin)
  · -- a bigram: its context word has a unigram entry
    exfalso
    obtain ⟨x, w, rfl⟩ : ∃ x w, k = [x, w] := by
      match k, (show k.length = 2 by omega) with
      | [x, w], _ => exact ⟨x, w, rfl⟩
    obtain ⟨e, he⟩ := Option.ne_none_iff_exists'.mp ((gram_ne_none_iff _ _).mpr hkey)
    exact htail ((gram_ne_none_iff _ _).mp (parse_unigramsCover maxO multOk s p u hp x w e he))

/-- **the loader model's trie verdict FormatLoadException ⇒ `buildTable` does not succeed** (it reports `missingContext`,
unless it reports a duplicate or a missing unigram first) -/
theorem buildTable_not_ok_of_trie_reject (p : LParsed) (u : Rat) (b : Nat → Nat) (fadd : Nat → Nat → Nat)
    (gs : List KV.TrieBuild.Gram) (hk : gs.map (·.key) = (p.toArpa u).entries.map (·.1))
    (h : buildCheck .trie b p = .error .format) (built : KV.TrieBuild.Built) :
    KV.TrieBuild.buildTable fadd p.order gs ≠ .ok built := by
  obtain ⟨le, hle, h3, hn⟩ := (trie_error_iff b p).1.mp h
  refine (KV.TrieBuild.buildTable_verdict fadd p.order gs).2.2 ⟨le.1, ?_, by omega, fun hin => ?_⟩ built
  · rw [hk]; exact (mem_toArpa_keys p u _).mpr (Or.inl (List.mem_map_of_mem hle))
  · rw [hk, List.drop_one] at hin
    exact hn ((mem_toArpa_keys_of_two_le p u _ (by rw [List.length_tail]; omega)).mp hin)

/-- **`buildTable = .error .duplicate` ⇒ some n-gram occurs twice in the file.**  (The converse is deliberately not a theorem of
the loader model: the real sort only notices duplicates that meet in a merge — `trie_duplicate_iff` — whereas `buildTable`
models the sorted result set-wise.) -/
theorem duplicate_keys_of_buildTable_duplicate (p : LParsed) (u : Rat) (fadd : Nat → Nat → Nat) (gs : List KV.TrieBuild.Gram)
    (hk : gs.map (·.key) = (p.toArpa u).entries.map (·.1))
    (h : KV.TrieBuild.buildTable fadd p.order gs = .error .duplicate) : ¬ ((p.toArpa u).entries.map (·.1)).Nodup := by
  rw [← hk]
  exact (KV.TrieBuild.buildTable_verdict fadd p.order gs).1 h

/-! ## the loader model's probing verdict against `KV.ProbingBuild.build` (the fold-level model of lm/search_hashed.cc)

Two models of the same code: `ProbingBuild` runs real probing tables (hashes, payloads, marks), the loader model a list of keys.
What is proved is `loader_probing_verdict_eq_build`, which takes the bucket list as a parameter tied to `b` by hypotheses; it is an
instance of `KV.LoaderPB.build_sim` (any model, hash collisions excluded among keys of one length only).  The hypothesis `inj` of the
statements in this section asks for a hash without any collision, which no combiner provides (`hashOf combine [] = 0 =
hashOf combine [0]`); `build_sim` is the statement to build on. -/

/-- The correspondence with the bucket list computed from the header counts, as a proposition; it is not proved in this form and
nothing uses it.  For every parsed, finite file without repeated n-grams, an injective
word-hash combiner and bucket counts `caps m = b(count_m)` (the highest order's table larger than its count): `ProbingBuild.build`
never diverges, and it succeeds exactly when the loader model's probing verdict is `ok` (both raise otherwise; the *class* can
differ only in files that have both a capacity overflow and a missing context, because the loader model tests capacity at the end
of the run whereas the code stops at the first failure). -/
def LoaderProbingVerdictEqBuild : Prop :=
  ∀ (combine : Nat → Word → Nat), (∀ k1 k2 : List Word, KV.ProbingLM.hashOf combine k1 = KV.ProbingLM.hashOf combine k2 → k1 = k2) →
  ∀ (maxO : Nat) (multOk : Bool) (s : Bytes) (p : LParsed) (u : Rat) (b : Nat → Nat),
    LoaderArpa.parse maxO multOk s = .ok p → p.finite = true → ((p.toArpa u).entries.map (·.1)).Nodup →
    p.counts.getD (p.order - 1) 0 < b (p.counts.getD (p.order - 1) 0) → (∀ c, 0 < b c) →
    let buckets := (List.range (p.order - 1)).map fun i => b (p.counts.getD (i + 1) 0)
    KV.ProbingBuild.build combine false (p.toArpa u) p.vocab.length buckets u ≠ .error .diverge ∧
    ((∃ st, KV.ProbingBuild.build combine false (p.toArpa u) p.vocab.length buckets u = .ok st) ↔ buildCheck .probing b p = .ok ())

/-- **loader_probing_verdict_eq_build, partial**: the three places where `ProbingBuild.addLine` can raise are tied to the loader
model operation by operation, under the representation invariant `KV.LoaderPB.TabInv` (the tables of the `ProbingBuild` state hold
exactly the loader model's keys, with its counters and capacities):
* `store.Insert` of a fresh line raises `probingSize` ⇔ the loader model's key count of that order, with the line, reaches the
  capacity; otherwise the invariant holds for the extended key list (`KV.LoaderPB.insert_sim`);
* `FindLower` — blank chains of any length — either inserts exactly the blanks the loader model's `findLower` inserts (invariant
  preserved) or raises `probingSize` at an order whose key count in the loader model reaches the capacity (`findLower_sim`);
* `ActivateLowerMiddle` raises `format` ⇔ the context is not among the loader model's keys at that moment (`activate_sim`).
The payload-only phases (`AdjustLower` / `fillBlanks` / `markChain`) raise nothing and touch no table: `KV.LoaderPB.adjustLower_frame`. -/
theorem loader_probing_verdict_eq_build_partial (combine : Nat → Word → Nat)
    (inj : ∀ k1 k2 : List Word, KV.ProbingLM.hashOf combine k1 = KV.ProbingLM.hashOf combine k2 → k1 = k2)
    (N : Nat) (caps : Nat → Nat) (keys tops : List (List Word)) (s : KV.ProbingBuild.St) (g : List Word)
    (inv : KV.LoaderPB.TabInv combine N caps keys tops s) :
    -- Insert
    (∀ e : Entry, 2 ≤ g.length → g.length ≤ N → g ∉ KV.LoaderPB.keysAt N keys tops g.length →
      (KV.ProbingBuild.insPhase combine N s g e = .error .probingSize ↔
        caps g.length ≤ KV.LoaderPB.cnt (KV.LoaderPB.keysAt N keys tops g.length) g.length + 1)) ∧
    -- FindLower
    (∀ (f : Nat) (between : List KV.ProbingBuild.Ref), f + 1 < N → f + 1 < g.length →
      (∃ s' b', KV.ProbingBuild.findLower combine g f s between = .ok (s', b') ∧
          KV.LoaderPB.TabInv combine N caps (LoaderArpa.findLower g (f + 1) keys) tops s' ∧ s'.uni = s.uni) ∨
      (KV.ProbingBuild.findLower combine g f s between = .error .probingSize ∧
          ∃ m, 2 ≤ m ∧ m < N ∧ caps m ≤ KV.LoaderPB.cnt (LoaderArpa.findLower g (f + 1) keys) m)) ∧
    -- Activate
    (3 ≤ g.length → g.length ≤ N →
      (KV.ProbingBuild.activate combine g g.length s = .error .format ↔ g.tail ∉ keys)) :=
  ⟨fun e h2 hN fresh => (KV.LoaderPB.insert_sim combine (fun k1 k2 _ => inj k1 k2) N caps keys tops s g e inv h2 hN fresh).1,
   fun f between hf hg => KV.LoaderPB.findLower_sim combine (fun k1 k2 _ => inj k1 k2) N caps tops g f s between keys hf hg inv,
   fun h3 hN => (KV.LoaderPB.activate_sim combine N caps keys tops s g inv h3 hN).1⟩

theorem tabInv_initial (combine : Nat → Word → Nat) (N : Nat) (caps : Nat → Nat) (hN : 2 ≤ N) (hc : ∀ m, 0 < caps m)
    (uni : List KV.ProbingBuild.W) :
    KV.LoaderPB.TabInv combine N caps [] []
      { uni := uni, mid := (List.range (N - 2)).map fun i => KV.ProbingBuild.emptyOrd (caps (i + 2)),
        longest := KV.ProbingBuild.emptyOrd (caps N) } :=
  KV.LoaderPB.tabInv_init combine N caps hN hc uni

/-- the lines `ProbingBuild.build` folds over are the lines the loader model's run folds over -/
theorem parsed_ngramLines_keys (maxO : Nat) (multOk : Bool) (s : Bytes) (p : LParsed) (u : Rat)
    (hp : LoaderArpa.parse maxO multOk s = .ok p) :
    (KV.ProbingBuild.ngramLines (p.toArpa u)).map (·.1) = (p.grams.drop 1).flatten.map (·.1) := by
  have w := parse_accepted maxO multOk s p hp
  obtain ⟨uni, rest, hg, _, _⟩ := w.unigrams
  -- among the keys of the file, those of length ≥ 2 are the keys of the sections after the first
  have hfilt : p.keys.filter (fun k => decide (k.length ≥ 2)) = rest.flatten.map (·.1) := by
    unfold LParsed.keys LParsed.entries
    rw [hg, List.flatten_cons, List.map_append, List.filter_append, List.filter_eq_nil_iff.mpr, List.filter_eq_self.mpr]
    · rfl
    · intro k hk
      obtain ⟨le, hle, rfl⟩ := List.mem_map.mp hk
      obtain ⟨es, hes, hmem⟩ := List.mem_flatten.mp hle
      obtain ⟨j, hj, rfl⟩ := List.getElem_of_mem hes
      have := w.entry (j + 1) _ (by rw [hg]; exact List.getElem?_eq_getElem hj) le hmem
      rw [decide_eq_true_eq, this.len]; omega
    · intro k hk
      obtain ⟨le, hle, rfl⟩ := List.mem_map.mp hk
      have := w.entry 0 uni (by rw [hg]; rfl) le hle
      rw [decide_eq_true_eq, this.len]; decide
  have hlines : (KV.ProbingBuild.ngramLines (p.toArpa u)).map (·.1) =
      ((p.toArpa u).entries.map (·.1)).filter (fun k => decide (k.length ≥ 2)) := by
    rw [List.filter_map]; rfl
  rw [hlines, toArpa_keys, hg, List.drop_one, List.tail_cons, ← hfilt]
  split
  · rfl
  · rfl

/-- **loader_probing_verdict_eq_build.**  Two models of lm/search_hashed.cc tied by a theorem: for every parsed file whose
n-grams are distinct, an injective word-hash combiner, bucket counts that the two models share (`hb`), a highest-order table larger
than its line count and lines in section order, `ProbingBuild.build` (real probing tables, `NoRestBuild`)
* never diverges,
* succeeds exactly when the loader model's probing verdict is `ok`,
* raises `FormatLoadException` only if the loader model's verdict is `format`, and `ProbingSizeException` only if the loader
  model's capacity test fails (so its verdict is an error),
* and raises the *same* class whenever the file has a single kind of fault: loader verdict `probing-size` ⇒ `probingSize`; loader
  verdict `format` with every table within capacity ⇒ `format`.  (With both faults the code stops at the first one, the loader model
  reports `format`.) -/
theorem loader_probing_verdict_eq_build (combine : Nat → Word → Nat)
    (inj : ∀ k1 k2 : List Word, KV.ProbingLM.hashOf combine k1 = KV.ProbingLM.hashOf combine k2 → k1 = k2)
    (maxO : Nat) (multOk : Bool) (s : Bytes) (p : LParsed) (u : Rat) (b : Nat → Nat) (buckets : List Nat)
    (hp : LoaderArpa.parse maxO multOk s = .ok p)
    (hnd : ((p.toArpa u).entries.map (·.1)).Nodup)
    (hsorted : (KV.ProbingBuild.ngramLines (p.toArpa u)).Pairwise (fun x y => x.1.length ≤ y.1.length))
    (hpos : ∀ i, 0 < buckets.getD i 1)
    (hb : ∀ k, 2 ≤ k → k < p.order → buckets.getD (k - 2) 1 = b (p.counts.getD (k - 1) 0))
    (htop : ((KV.ProbingBuild.ngramLines (p.toArpa u)).filter (fun q => q.1.length == p.order)).length < buckets.getD (p.order - 2) 1) :
    let r := KV.ProbingBuild.build combine false (p.toArpa u) p.vocab.length buckets u
    r ≠ .error .diverge ∧
    ((∃ st, r = .ok st) ↔ buildCheck .probing b p = .ok ()) ∧
    (r = .error .format → buildCheck .probing b p = .error .format) ∧
    (r = .error .probingSize → probingFull p b (probingRun p).1 = true) ∧
    (buildCheck .probing b p = .error .probingSize → r = .error .probingSize) ∧
    (buildCheck .probing b p = .error .format → probingFull p b (probingRun p).1 = false → r = .error .format) := by
  dsimp only
  generalize hrdef : KV.ProbingBuild.build combine false (p.toArpa u) p.vocab.length buckets u = r
  obtain ⟨h2, _, h3, _⟩ := parsed_core maxO multOk s p u hp
  let caps : Nat → Nat := KV.ProbingBuild.capOf buckets
  have sim := KV.LoaderPB.build_sim combine (fun k1 k2 _ => inj k1 k2) (p.toArpa u) p.vocab.length buckets u h2
    (fun q hq => h3 q.1 ((gram_ne_none_iff _ _).mpr (List.mem_map_of_mem (List.mem_filter.mp hq).1))) hsorted
    (hnd.sublist ((List.filter_sublist (l := (p.toArpa u).entries)).map _)) (fun m => hpos (m - 2)) htop
  dsimp only at sim
  rw [hrdef, parsed_ngramLines_keys maxO multOk s p u hp, show (p.toArpa u).order = p.order from rfl,
    show List.foldl (probingStep p.order) ([], true) ((p.grams.drop 1).flatten.map (·.1)) = probingRun p from rfl] at sim
  -- the capacity test in both vocabularies
  have hfull : probingFull p b (probingRun p).1 = true ↔ ∃ m, 2 ≤ m ∧ m < p.order ∧ caps m ≤ KV.LoaderPB.cnt (probingRun p).1 m := by
    rw [probingFull_iff]
    constructor
    · rintro ⟨k, hk, h2k, hle⟩
      exact ⟨k, h2k, hk, by show buckets.getD (k - 2) 1 ≤ _; rw [hb k h2k hk]; exact hle⟩
    · rintro ⟨k, h2k, hk, hle⟩
      exact ⟨k, hk, h2k, by rw [← hb k h2k hk]; exact hle⟩
  have cls := probing_error_classes b p
  rcases sim with ⟨⟨st, hrr⟩, hflag, hbelow⟩ | ⟨hrr, hflag⟩ | ⟨hrr, m, hm2, hmN, hcap⟩
  · have hnf : probingFull p b (probingRun p).1 = false := by
      rw [Bool.eq_false_iff]
      intro hf
      obtain ⟨m, hm2, hmN, hle⟩ := hfull.mp hf
      exact absurd hle (Nat.not_le.mpr (hbelow m hm2 hmN))
    rw [hrr, cls.2.2.mpr ⟨hflag, hnf⟩]
    exact ⟨nofun, ⟨fun _ => rfl, fun _ => ⟨_, rfl⟩⟩, nofun, nofun, nofun, nofun⟩
  · rw [hrr, cls.1.mpr hflag]
    exact ⟨nofun, ⟨nofun, nofun⟩, fun _ => rfl, nofun, nofun, fun _ _ => rfl⟩
  · have hf : probingFull p b (probingRun p).1 = true := hfull.mpr ⟨m, hm2, hmN, hcap⟩
    have hne : buildCheck .probing b p ≠ .ok () := fun h => by
      have := (cls.2.2.mp h).2; rw [hf] at this; cases this
    rw [hrr]
    exact ⟨nofun, ⟨nofun, fun h => absurd h hne⟩, nofun, fun _ => hf, fun _ => rfl, fun _ hnf => by rw [hf] at hnf; cases hnf⟩

/-- the lines of a parsed file come in section order (the `hsorted` hypothesis of `loader_probing_verdict_eq_build` holds) -/
theorem parsed_lines_sorted (maxO : Nat) (multOk : Bool) (s : Bytes) (p : LParsed) (u : Rat)
    (hp : LoaderArpa.parse maxO multOk s = .ok p) :
    (KV.ProbingBuild.ngramLines (p.toArpa u)).Pairwise (fun x y => x.1.length ≤ y.1.length) := by
  have w := parse_accepted maxO multOk s p hp
  obtain ⟨uni, rest, hg, _, _⟩ := w.unigrams
  have hsec : ∀ (j : Nat) (hj : j < rest.length), ∀ le ∈ rest[j], le.1.length = j + 2 := by
    intro j hj le hle
    have := w.entry (j + 1) rest[j] (by rw [hg]; simp [List.getElem?_eq_getElem hj]) le hle
    exact this.len
  have hkeys := parsed_ngramLines_keys maxO multOk s p u hp
  have hdrop : (p.grams.drop 1) = rest := by rw [hg]; rfl
  rw [hdrop] at hkeys
  have : ((KV.ProbingBuild.ngramLines (p.toArpa u)).map (·.1)).Pairwise (fun a b => a.length ≤ b.length) := by
    rw [hkeys, List.map_flatten, List.pairwise_flatten]
    constructor
    · intro l hl
      obtain ⟨es, hes, rfl⟩ := List.mem_map.mp hl
      obtain ⟨j, hj, hget⟩ := List.getElem_of_mem hes
      rw [List.pairwise_map, List.pairwise_iff_forall_sublist]
      intro x y hxy
      have hx : x ∈ es := hxy.subset (by simp)
      have hy : y ∈ es := hxy.subset (by simp)
      rw [← hget] at hx hy
      rw [hsec j hj x hx, hsec j hj y hy]
      exact Nat.le_refl _
    · rw [List.pairwise_map, List.pairwise_iff_getElem]
      intro i j hi hj hij x hx y hy
      obtain ⟨lx, hlx, rfl⟩ := List.mem_map.mp hx
      obtain ⟨ly, hly, rfl⟩ := List.mem_map.mp hy
      rw [hsec i hi lx hlx, hsec j hj ly hly]
      omega
  rwa [List.pairwise_map] at this

/-- `loader_probing_verdict_eq_build` with the section-order hypothesis discharged (`parsed_lines_sorted`): ok ⇔ ok and never
diverges, for every parsed file with distinct n-grams -/
theorem loader_probing_ok_iff_build_ok (combine : Nat → Word → Nat)
    (inj : ∀ k1 k2 : List Word, KV.ProbingLM.hashOf combine k1 = KV.ProbingLM.hashOf combine k2 → k1 = k2)
    (maxO : Nat) (multOk : Bool) (s : Bytes) (p : LParsed) (u : Rat) (b : Nat → Nat) (buckets : List Nat)
    (hp : LoaderArpa.parse maxO multOk s = .ok p)
    (hnd : ((p.toArpa u).entries.map (·.1)).Nodup)
    (hpos : ∀ i, 0 < buckets.getD i 1)
    (hb : ∀ k, 2 ≤ k → k < p.order → buckets.getD (k - 2) 1 = b (p.counts.getD (k - 1) 0))
    (htop : ((KV.ProbingBuild.ngramLines (p.toArpa u)).filter (fun q => q.1.length == p.order)).length < buckets.getD (p.order - 2) 1) :
    KV.ProbingBuild.build combine false (p.toArpa u) p.vocab.length buckets u ≠ .error .diverge ∧
    ((∃ st, KV.ProbingBuild.build combine false (p.toArpa u) p.vocab.length buckets u = .ok st) ↔
      buildCheck .probing b p = .ok ()) := by
  have h := loader_probing_verdict_eq_build combine inj maxO multOk s p u b buckets hp hnd
    (parsed_lines_sorted maxO multOk s p u hp) hpos hb htop
  exact ⟨h.1, h.2.1⟩

/-- `BitPacked::BaseSize(entries, max_vocab, remaining_bits)` with `total_bits = RequiredBits(max_vocab) + remaining_bits` -/
def baseSize (entries totalBits : Nat) : Nat := ((1 + entries) * totalBits + 7) / 8 + bitPackedSlack

/-- **lookups_in_range.**
(a) trie records: every `ReadOff` (an unaligned `readOffBytes`-byte load at byte `bit_off >> 3`) of a field at
bit offset `off ≤ total_bits` inside record `idx ≤ entries` — the extra record `entries` holds the end pointer —
stays inside `BaseSize`, for every `entries` and `total_bits` (no bound): this is what the
`+ sizeof(uint64_t)` slack is for;
(b) the interpolation search over a record range only reads positions strictly inside its bounds
(C20 `bounded_find_probes_in_range`), hence records below `entries` when the range ends at or below `entries`;
(c) probing tables: the ideal bucket `hash % buckets` and every step of the wrap-around probe address an entry
inside the `buckets * entry_size` bytes of the table;
(d) the bucket count `buckets15` of the loader model is at least 1 and exceeds the number of entries.
(Unigram arrays: that every word id handed out is below `count₁ + 1` is part of `accepted_wellformed`.) -/
theorem lookups_in_range :
    (∀ entries totalBits idx off : Nat, idx ≤ entries → off ≤ totalBits →
        (idx * totalBits + off) / 8 + readOffBytes ≤ baseSize entries totalBits) ∧
    (∀ (a : Nat → Nat) (pivot : Nat → Nat → Nat → Nat), KV.Search.PivotOK pivot →
        ∀ (key fuel lo loV hi hiV entries totalBits : Nat), loV ≤ key → key ≤ hiV → hi ≤ entries + 1 →
        ∀ pos ∈ KV.Search.probes a pivot key fuel lo loV hi hiV,
          lo < pos ∧ pos < hi ∧ ((pos - 1) * totalBits) / 8 + readOffBytes ≤ baseSize entries totalBits) ∧
    (∀ hash buckets entrySize : Nat, 0 < buckets →
        (hash % buckets) * entrySize + entrySize ≤ buckets * entrySize ∧
        ∀ i, i < buckets → (if i + 1 = buckets then 0 else i + 1) < buckets) ∧
    (∀ n, 1 ≤ buckets15 n ∧ n < buckets15 n) := by
  have ha : ∀ entries totalBits idx off : Nat, idx ≤ entries → off ≤ totalBits →
      (idx * totalBits + off) / 8 + readOffBytes ≤ baseSize entries totalBits := by
    intro entries tb idx off hi ho
    unfold baseSize
    have hs : bitPackedSlack = readOffBytes := by decide
    rw [hs]
    have h1 : idx * tb ≤ entries * tb := Nat.mul_le_mul_right tb hi
    have h2 : (1 + entries) * tb = tb + entries * tb := by rw [Nat.add_mul, Nat.one_mul]
    have h3 : idx * tb + off ≤ (1 + entries) * tb + 7 := by omega
    exact Nat.add_le_add_right (Nat.div_le_div_right h3) _
  refine ⟨ha, ?_, ?_, ?_⟩
  · intro a pivot hp key fuel lo loV hi hiV entries tb hl hh hhi pos hpos
    have := KV.Search.probes_in_range a pivot key hp fuel lo loV hi hiV hl hh pos hpos
    refine ⟨this.1, this.2, ?_⟩
    have := ha entries tb (pos - 1) 0 (by omega) (Nat.zero_le _)
    simpa using this
  · intro hash buckets es hb
    refine ⟨?_, ?_⟩
    · have hlt : hash % buckets < buckets := Nat.mod_lt _ hb
      have : (hash % buckets + 1) * es ≤ buckets * es := Nat.mul_le_mul_right es hlt
      rw [Nat.add_mul, Nat.one_mul] at this
      exact this
    · intro i hi
      split
      · exact hb
      · omega
  · intro n
    have : n + 1 ≤ buckets15 n := Nat.le_max_left _ _
    exact ⟨Nat.le_trans (Nat.le_add_left 1 n) this, this⟩

open KV.LoaderBin

theorem mapAndVocab_ok (req : Request) (bound : Params → Nat) (file : File) (p : Params) (sz : Nat) (p' : Params)
    (h : mapAndVocab req bound file p sz = .ok p') :
    p = p' ∧ headerSize p.fixed.order + sz ≤ file.length ∧
    (p.fixed.hasVocab = true → readWords file (headerSize p.fixed.order + sz) req.enumerate (bound p) = none) := by
  unfold mapAndVocab at h
  dsimp only at h
  obtain ⟨hc, h⟩ := of_ite_eq h nofun
  have hlen : headerSize p.fixed.order + sz ≤ file.length :=
    Nat.le_of_not_lt fun hlt => hc (by simp [hlt])
  split at h
  · split at h
    · cases h
    · rename_i hrw
      cases h
      exact ⟨rfl, hlen, fun _ => hrw⟩
  · rename_i hv
    cases h
    exact ⟨rfl, hlen, fun hv' => absurd hv' hv⟩

theorem mapAndVocab_ne_ub (req : Request) (bound : Params → Nat) (file : File) (p : Params) (sz : Nat) :
    mapAndVocab req bound file p sz ≠ .ub := by
  intro h
  rcases mapAndVocab_cases req bound file p sz with e | ⟨_, e⟩
  · rw [e] at h; cases h
  · rw [e] at h; cases h

/-- **header acceptance is sound**: if the binary branch accepts a file then the stored type and search version
are the requested ones, the order is what `CheckCounts` lets through and at most `KENLM_MAX_ORDER`, exactly
`order` counts were read, the multiplier is not below 1, a requested vocabulary is present, the file is at least as
long as header + `Size`, and the vocabulary strings (if any) start with `<unk>\0` at that offset — with the word
count matching when the caller enumerates. -/
theorem header_accept_sound (req : Request) (size : Params → SizeR) (bound : Params → Nat) (file : File) (p : Params)
    (h : loadBinary req size bound file = .ok p) :
    recognize file = .header p.fixed ∧
    p.fixed.modelType = req.modelType ∧ p.fixed.searchVersion = req.searchVersion ∧
    checkCountsMinOrder ≤ p.fixed.order ∧ 1 ≤ p.fixed.order ∧ p.fixed.order ≤ maxOrder ∧
    readCounts p.fixed.order (file.drop (sizeofSanity + sizeofFixed)) = some p.counts ∧
    floatNotGeOne p.fixed.multBits = false ∧
    (req.enumerate = true → p.fixed.hasVocab = true) ∧
    ∃ sz, size p = .known sz ∧ headerSize p.fixed.order + sz ≤ file.length ∧
      (p.fixed.hasVocab = true → readWords file (headerSize p.fixed.order + sz) req.enumerate (bound p) = none) := by
  unfold loadBinary at h
  cases hrec : recognize file with
  | notBinary => rw [hrec] at h; cases h
  | err e => rw [hrec] at h; cases h
  | header f =>
    rw [hrec] at h
    dsimp only at h
    obtain ⟨hmult, h⟩ := of_ite_eq h nofun
    obtain ⟨_, h⟩ := of_ite_eq h nofun
    cases hcs : readCounts f.order (file.drop (sizeofSanity + sizeofFixed)) with
    | none => rw [hcs] at h; cases h
    | some cs =>
      rw [hcs] at h
      dsimp only at h
      obtain ⟨hty, h⟩ := of_ite_eq h nofun
      obtain ⟨hsv, h⟩ := of_ite_eq h nofun
      obtain ⟨hmax, h⟩ := of_ite_eq h nofun
      obtain ⟨hmin, h⟩ := of_ite_eq h nofun
      obtain ⟨h0, h⟩ := of_ite_eq h nofun
      obtain ⟨hen, h⟩ := of_ite_eq h nofun
      obtain ⟨_, h⟩ := of_ite_eq h nofun
      cases hsz : size ⟨f, cs⟩ with
      | unknown => rw [hsz] at h; cases h
      | err e => rw [hsz] at h; cases h
      | known sz =>
        rw [hsz] at h
        obtain ⟨rfl, hle, hw⟩ := mapAndVocab_ok req bound file _ sz p h
        have h0' : f.order ≠ 0 := by simpa using h0
        refine ⟨rfl, by simpa using hty, by simpa using hsv, Nat.le_of_not_lt hmin, Nat.pos_of_ne_zero h0',
          Nat.le_of_not_lt hmax, hcs, by simpa using hmult, ?_, sz, hsz, hle, hw⟩
        intro he
        simpa [he] using hen

/-- **header_mismatch.**  For a file whose Sanity block matches: another model type, another search version, an
order above `KENLM_MAX_ORDER` or below what `CheckCounts` accepts, a multiplier below 1, or a missing vocabulary
the caller asked for — each makes the constructor throw: the verdict is an error (FormatLoadException, or
end-of-file when the file stops inside the counts), never `ok`, never undefined behaviour. -/
theorem header_mismatch (req : Request) (size : Params → SizeR) (bound : Params → Nat) (file : File) (f : Fixed)
    (hrec : recognize file = .header f)
    (hm : f.modelType ≠ req.modelType ∨ f.searchVersion ≠ req.searchVersion ∨ maxOrder < f.order ∨
          f.order < checkCountsMinOrder ∨ floatNotGeOne f.multBits = true ∨
          (req.enumerate = true ∧ f.hasVocab = false ∧ f.order ≠ 0 ∧ isNaN f.multBits = false)) :
    loadBinary req size bound file = .error .format ∨
    (readCounts f.order (file.drop (sizeofSanity + sizeofFixed)) = none ∧ loadBinary req size bound file = .error .eof) := by
  unfold loadBinary
  simp only [hrec]
  by_cases h1 : floatNotGeOne f.multBits = true
  · simp [h1]
  · simp only [h1, Bool.false_eq_true, ↓reduceIte]
    by_cases h2 : (isNaN f.multBits && readHeaderRejectsNaN) = true
    · simp [h2]
    · simp only [h2, Bool.false_eq_true, ↓reduceIte]
      cases hc : readCounts f.order (List.drop (sizeofSanity + sizeofFixed) file) with
      | none => simp
      | some cs =>
        simp only
        by_cases h3 : f.modelType = req.modelType
        · by_cases h4 : f.searchVersion = req.searchVersion
          · by_cases h5 : f.order > maxOrder
            · simp [h3, h4, h5]
            · by_cases h6 : f.order < checkCountsMinOrder
              · simp [h3, h4, h5, h6]
              · rcases hm with hm | hm | hm | hm | hm | ⟨he, hv, h0, hn⟩
                · exact absurd h3 hm
                · exact absurd h4 hm
                · exact absurd hm h5
                · exact absurd hm h6
                · exact absurd hm h1
                · simp [h3, h4, h5, h6, h0, he, hv]
          · simp [h3, h4]
        · simp [h3]

/-- other magic / version / incomplete files of sufficient length are rejected before anything is read -/
theorem header_version_mismatch (req : Request) (size : Params → SizeR) (bound : Params → Nat) (file : File)
    (hlen : sizeofSanity < file.length) (hne : (file.take sizeofSanity == sanityRef) = false)
    (hmagic : magicIncomplete.isPrefixOf file = true ∨ magicBeforeVersion.isPrefixOf file = true) :
    loadBinary req size bound file = .error .format := by
  unfold loadBinary recognize
  have : ¬ file.length ≤ sizeofSanity := by omega
  simp only [this, ↓reduceIte, hne, Bool.false_eq_true]
  rcases hmagic with h | h
  · simp [h]
  · by_cases h' : magicIncomplete.isPrefixOf file = true <;> simp [h, h']

/-- a file shorter than header + `Size` is never accepted (truncation anywhere before the vocabulary strings) -/
theorem header_truncated_rejected (req : Request) (size : Params → SizeR) (bound : Params → Nat) (file : File) (p : Params)
    (sz : Nat) (hsz : size p = .known sz) (hshort : file.length < headerSize p.fixed.order + sz) :
    loadBinary req size bound file ≠ .ok p := by
  intro h
  obtain ⟨_, _, _, _, _, _, _, _, _, sz', hsz', hle, _⟩ := header_accept_sound req size bound file p h
  rw [hsz] at hsz'
  simp only [SizeR.known.injEq] at hsz'
  subst hsz'
  omega

/-- **header_no_ub.**  If `CheckCounts` rejects every order below some bound ≥ 1 (`checkCountsMinOrder`) and `ReadHeader` rejects
a NaN multiplier (`readHeaderRejectsNaN`), no header sends the constructor into undefined behaviour. -/
theorem header_no_ub (req : Request) (size : Params → SizeR) (bound : Params → Nat) (file : File)
    (h1 : 1 ≤ checkCountsMinOrder) (h2 : readHeaderRejectsNaN = true) :
    loadBinary req size bound file ≠ .ub := by
  intro h
  obtain ⟨f, _, hmin, h0 | ⟨_, hn⟩⟩ := loadBinary_ub req size bound file h
  · omega
  · rw [h2] at hn; cases hn

/-- whatever the regenerated constants are: the model reaches undefined behaviour only if one of the two guards is absent
(`CheckCounts` without a lower bound, or `ReadHeader` letting NaN through). -/
theorem ub_witnesses_only_when_unguarded (req : Request) (size : Params → SizeR) (bound : Params → Nat) (file : File)
    (h : loadBinary req size bound file = .ub) : checkCountsMinOrder = 0 ∨ readHeaderRejectsNaN = false := by
  obtain ⟨f, _, hmin, h0 | ⟨_, hn⟩⟩ := loadBinary_ub req size bound file h
  · left; omega
  · exact Or.inr hn

end KV.C10
