import Generated.C05
import Proofs.KNPipeline
import Proofs.KNCorpusModel
import Proofs.KNBlocks
/-!
# C05 — lmplz computes interpolated modified Kneser-Ney estimates

Model: `Model/KN.lean` (streaming algorithms transcribed from `lm/builder/*.cc`) and
`Model/KNSpec.lean` (set-based specification).  The tree-dependent constants come from
`Generated/C05.lean` (re-extracted by `tools/probe_C05.cc` on every run).
-/
namespace KV.C05
open KV.KN

/-- the special word ids the model uses are the ones of `lm/builder/payload.hh` / `lm/word_index.hh` -/
theorem special_ids : KV.Gen.C05.kUNK = unk ∧ KV.Gen.C05.kBOS = bos ∧ KV.Gen.C05.kEOS = eos := by decide

/-- `Discount::Get` caps the count at 3 (`amount[min(count, 3)]`), as `Disc.get` does -/
theorem discount_cap (d : Disc) (c : Nat) (h : KV.Gen.C05.discountCap ≤ c) : d.get c = d.d3 := by
  have : 3 ≤ c := h
  match c, this with
  | c + 3, _ => rfl


/-- the 3-sentence witness `a b / b / b` (a = 3, b = 4) as its sorted bigram table -/
def witness : List (Gram × Nat) := [([2, 4], 3), ([3, 1], 1), ([4, 1], 2), ([4, 3], 1)]

def witnessCfg (fixed : Bool) : Cfg :=
  { order := 2, thr := fun _ => 0, excl := fun _ => false, flushAdjusted := fixed }

-- (`countFull 2 [[3, 4], [4], [4]]` evaluates to `witness`; the check replays the corpus on bin/lmplz)

/-- On the *unrepaired* flush (`stats.Add(…, lower_count, …)`) the statistics are **not** the
counts-of-counts of the adjusted counts that were written: the last unigram `b` has
adjusted count 2 (left extensions `a`, `<s>`) but enters `n₃` with its true count 3. -/
theorem stats_eq_unfixed_false :
    ¬ (∀ (cfg : Cfg) (full : List (Gram × Nat)), cfg.order = 2 → (∀ e ∈ full, e.1.length = 2) →
        cfg.flushAdjusted = false →
        statsOf (adjustStream cfg full).adds.reverse 0 = countsOfCounts ((adjustStream cfg full).stream 1)) := by
  intro h
  have := h (witnessCfg false) witness rfl (by decide) rfl
  revert this
  decide

/-- the same witness against the set-based specification -/
theorem stats_spec_unfixed_false :
    (adjust (witnessCfg false) witness).stats.head? ≠ some (Spec.stats (Spec.ents (witnessCfg false) witness 1)) := by
  decide

example : (adjust (witnessCfg true) witness).stats.head? = some (Spec.stats (Spec.ents (witnessCfg true) witness 1)) := by
  decide

/-- **stats_eq (streaming side)**: with the repaired flush, for every lower order the
statistics collected by `StatCollector` are exactly the counts-of-counts of the records
written to that order's stream — for every input table, sorted or not. -/
theorem stats_eq_stream (cfg : Cfg) (N : Nat) (hN : 1 ≤ N) (full : List (Gram × Nat))
    (hfull : ∀ e ∈ full, e.1.length = N) (hfix : cfg.flushAdjusted = true) (i : Nat) (hi : i + 1 < N) :
    statsOf (adjustStream cfg full).adds.reverse i = countsOfCounts ((adjustStream cfg full).stream (i + 1)) :=
  KV.KN.stats_eq_stream cfg N hN full hfull hfix i hi

example : ∃ cfg full, cfg.flushAdjusted = true ∧ (∀ e ∈ full, e.1.length = 2) ∧
    (statsOf (adjustStream cfg full).adds.reverse 0).n2 = 1 :=
  ⟨witnessCfg true, witness, rfl, by decide, by decide⟩

/-- the tree under check has the repaired flush (fails to build — a broken obligation — on
a tree where the probe observes the true count in the statistics) -/
theorem flush_adjusted_tree : KV.Gen.C05.flushAdjusted = true := by decide

/-- `stats_eq_stream` for the configuration the current tree implements -/
theorem stats_eq_tree (cfg : Cfg) (N : Nat) (hN : 1 ≤ N) (full : List (Gram × Nat))
    (hfull : ∀ e ∈ full, e.1.length = N) (htree : cfg.flushAdjusted = KV.Gen.C05.flushAdjusted)
    (i : Nat) (hi : i + 1 < N) :
    statsOf (adjustStream cfg full).adds.reverse i = countsOfCounts ((adjustStream cfg full).stream (i + 1)) :=
  stats_eq_stream cfg N hN full hfull (htree.trans flush_adjusted_tree) i hi

open KV.KN.Adjust in
/-- **adjust_stream_eq**: for every strictly suffix-sorted table of order-`N` rows (`FullWF`: `N`
words per row, the newest word never `<s>`/`<unk>`, `<s>` only as a run at the old end) the
stream of every lower order written by `AdjustCounts::Run` — n-grams, adjusted counts, prune
marks, in order — is the specification `Spec.ents`: keys = the valid suffixes, count =
number of distinct left extensions (true count when the n-gram starts with `<s>`), mark =
true count ≤ threshold or excluded word, special unigrams exempt. -/
theorem adjust_stream_eq (cfg : Cfg) (full : List (Gram × Nat)) (h2 : 2 ≤ cfg.order)
    (hw : FullWF cfg.order full) (hk : cfg.keepSpecials = true) (n : Nat) (h1 : 1 ≤ n)
    (hn : n < cfg.order) : (adjustStream cfg full).stream n = Spec.ents cfg full n :=
  KV.KN.Adjust.adjust_stream_eq cfg full h2 hw hk n h1 hn

open KV.KN.Adjust in
example : ∃ full, full ≠ [] ∧ FullWF 3 full := ⟨_, by simp, exFull_wf⟩

open KV.KN.Adjust in
/-- **prune_exact**: a lower-order record is marked for removal iff its *true* count is at or
below the threshold of its order or it contains an excluded word (`Spec.pruned`; `<unk>`,
`<s>`, `</s>` never) -/
theorem prune_exact (cfg : Cfg) (full : List (Gram × Nat)) (h2 : 2 ≤ cfg.order)
    (hw : FullWF cfg.order full) (hk : cfg.keepSpecials = true) (n : Nat) (h1 : 1 ≤ n)
    (hn : n < cfg.order) :
    ∀ e ∈ (adjustStream cfg full).stream n, e.marked = Spec.pruned cfg full e.gram :=
  KV.KN.Adjust.prune_exact cfg full h2 hw hk n h1 hn

/-- the highest order: `CollapseStream` keeps the rows without `<s>` in position 1 and marks by
the row's own count — which is what `Spec.ents` says for `n = order` -/
theorem prune_exact_top (cfg : Cfg) (full : List (Gram × Nat)) :
    ∀ e ∈ collapse cfg full, e.marked = markOf cfg e.count e.gram := by
  intro e he
  unfold collapse at he
  obtain ⟨x, _, rfl⟩ := List.mem_map.mp he
  rfl

open KV.KN.Adjust in
/-- **stats_eq**: with the repaired flush the statistics of every lower order are the
counts-of-counts of the *specification's* adjusted counts -/
theorem stats_eq (cfg : Cfg) (full : List (Gram × Nat)) (h2 : 2 ≤ cfg.order)
    (hw : FullWF cfg.order full) (hk : cfg.keepSpecials = true) (hfix : cfg.flushAdjusted = true)
    (i : Nat) (hi : i + 1 < cfg.order) :
    statsOf (adjustStream cfg full).adds.reverse i = countsOfCounts (Spec.ents cfg full (i + 1)) :=
  KV.KN.Adjust.stats_eq cfg full h2 hw hk hfix i hi

open KV.KN.Norm in
/-- **ngram_set**: the n-grams of order `n ≤ N` that lmplz has records for are exactly the
length-`n` windows of the sentences delimited by ONE `<s>` and `</s>` (the lone `<s>` window
excluded), plus — at order 1 — the explicit `<unk>` and `<s>`. -/
theorem ngram_set (cfg : Cfg) (corpus : List (List Word)) (h2 : 2 ≤ cfg.order)
    (hw : ∀ s ∈ corpus, ∀ w ∈ s, 3 ≤ w) (n : Nat) (h1 : 1 ≤ n) (hn : n ≤ cfg.order) (g : Gram) :
    g ∈ (Spec.ents cfg (countFull cfg.order corpus) n).map (·.gram) ↔
      (n = 1 ∧ (g = [unk] ∨ g = [bos])) ∨ ((∃ s ∈ corpus, g ∈ windows n (padded1 s)) ∧ g ≠ [bos]) :=
  KV.KN.Norm.ngram_set_ents cfg corpus hw n h1 hn g

/-- the count table of every corpus of ordinary words is a legal input of `adjust_stream_eq` -/
theorem fullWF_countFull (N : Nat) (corpus : List (List Word)) (h2 : 2 ≤ N)
    (hw : ∀ s ∈ corpus, ∀ w ∈ s, 3 ≤ w) : KV.KN.Adjust.FullWF N (countFull N corpus) :=
  KV.KN.Norm.fullWF_countFull N corpus h2 hw

/-- `adjust_stream_eq` on the table lmplz actually counts, for every corpus -/
theorem adjust_stream_eq_corpus (cfg : Cfg) (corpus : List (List Word)) (h2 : 2 ≤ cfg.order)
    (hw : ∀ s ∈ corpus, ∀ w ∈ s, 3 ≤ w) (hk : cfg.keepSpecials = true) (n : Nat) (h1 : 1 ≤ n)
    (hn : n < cfg.order) :
    (adjustStream cfg (countFull cfg.order corpus)).stream n = Spec.ents cfg (countFull cfg.order corpus) n :=
  KV.KN.Adjust.adjust_stream_eq cfg _ h2 (fullWF_countFull _ corpus h2 hw) hk n h1 hn

theorem stats_eq_corpus (cfg : Cfg) (corpus : List (List Word)) (h2 : 2 ≤ cfg.order)
    (hw : ∀ s ∈ corpus, ∀ w ∈ s, 3 ≤ w) (hk : cfg.keepSpecials = true) (hfix : cfg.flushAdjusted = true)
    (i : Nat) (hi : i + 1 < cfg.order) :
    statsOf (adjustStream cfg (countFull cfg.order corpus)).adds.reverse i =
      countsOfCounts (Spec.ents cfg (countFull cfg.order corpus) (i + 1)) :=
  KV.KN.Adjust.stats_eq cfg _ h2 (fullWF_countFull _ corpus h2 hw) hk hfix i hi

open KV.KN.Norm in
/-- the **true count** the specification (and, by `adjust_stream_eq`, the stream) uses is the
number of occurrences in the sentences delimited by one `<s>` and `</s>` -/
theorem trueCount_textbook (N : Nat) (corpus : List (List Word)) (h2 : 2 ≤ N) (g : Gram) (h1 : 1 ≤ g.length)
    (hn : g.length ≤ N) (hv : Spec.validAt g.length g = true) (hb : g ≠ [bos]) :
    Spec.trueCount (countFull N corpus) g = (corpus.flatMap fun s => windows g.length (padded1 s)).count g :=
  KV.KN.Norm.trueCount_padded1 N corpus g h1 hn hv hb

open KV.KN.Norm in
/-- the **adjusted count**: the true count for the highest order and for n-grams that start
with `<s>`, else `N₁₊(•g)` = the number of distinct (n+1)-grams of the corpus that extend `g`
on the left -/
theorem adjCount_textbook (N : Nat) (corpus : List (List Word)) (h2 : 2 ≤ N) (hw : ∀ s ∈ corpus, ∀ w ∈ s, 3 ≤ w)
    (g : Gram) (h1 : 1 ≤ g.length) (hn : g.length ≤ N) (hv : Spec.validAt g.length g = true) (hb : g ≠ [bos]) :
    Spec.adjCount N (countFull N corpus) g =
      if g.length = N ∨ g.getLast? = some bos then (corpus.flatMap fun s => windows g.length (padded1 s)).count g
      else (((corpus.flatMap fun s => windows (g.length + 1) (padded1 s)).eraseDups).filter
              fun h => h.take g.length == g).length := by
  unfold Spec.adjCount
  split
  · exact trueCount_padded1 N corpus g h1 hn hv hb
  · rename_i hc
    rw [not_or] at hc
    exact leftExts_corpus N corpus h2 hw g (bos_not_mem_of_valid hv hc.2) h1 (Nat.lt_of_le_of_ne hn hc.1)

open KV.KN.Norm in
/-- **written_set** (last clause of C05): an n-gram is written iff it is an n-gram of the
delimited sentences (or `<unk>`/`<s>`) and is not pruned; and it is pruned iff its true count
is at or below the threshold of its order or it contains an excluded word (specials exempt). -/
theorem written_set (cfg : Cfg) (pv : Bool) (fallback : Option Disc) (corpus : List (List Word)) (m : Model)
    (hm : Spec.estimate cfg pv fallback corpus = .ok m) (h2 : 2 ≤ cfg.order) (hne : corpus ≠ [])
    (hw : ∀ s ∈ corpus, ∀ w ∈ s, 3 ≤ w) (hthr : ∀ i, i < cfg.order - 1 → cfg.thr i ≤ cfg.thr (i + 1)) (g : Gram) :
    (Query.lookup m.orders g).isSome = true ↔
      1 ≤ g.length ∧ g.length ≤ cfg.order ∧
      ((g.length = 1 ∧ (g = [unk] ∨ g = [bos])) ∨ ((∃ s ∈ corpus, g ∈ windows g.length (padded1 s)) ∧ g ≠ [bos])) ∧
      Spec.pruned cfg (countFull cfg.order corpus) g = false :=
  KV.KN.Norm.written_set_corpus cfg pv fallback corpus m hm (Nat.le_of_succ_le h2) hne hw hthr g

/-- **written_set, order-1 model**: `<unk>`, `<s>`, `</s>`, and every corpus word whose count exceeds
the unigram threshold and which is not excluded -/
theorem written_set1 (cfg : Cfg) (pv : Bool) (fallback : Option Disc) (corpus : List (List Word)) (m : Model)
    (hm : Spec.estimate cfg pv fallback corpus = .ok m) (h1 : cfg.order = 1) (hne : corpus ≠ [])
    (hw : ∀ s ∈ corpus, ∀ w ∈ s, 3 ≤ w) (g : Gram) :
    (Query.lookup m.orders g).isSome = true ↔
      g = [unk] ∨ g = [bos] ∨ ∃ w, g = [w] ∧ ((∃ s ∈ corpus, w ∈ s) ∨ w = eos) ∧
        (w = eos ∨ (cfg.thr 0 < (occurrences 1 corpus).count [w] ∧ cfg.excl w = false)) :=
  KV.KN.Norm.written_set_corpus1 cfg pv fallback corpus m hm h1 hne hw g

theorem pruned_eq_false_iff (cfg : Cfg) (full : Spec.Table) (g : Gram) :
    Spec.pruned cfg full g = false ↔
      (g = [unk] ∨ g = [bos] ∨ g = [eos]) ∨
      (cfg.thr (g.length - 1) < Spec.trueCount full g ∧ ∀ w ∈ g, cfg.excl w = false) :=
  KV.KN.Norm.pruned_eq_false_iff cfg full g

/-- **the headline theorem of C05** (DESIGN's clause `interp_eq`, end to end;
`KV.KN.Interp.interp_eq'` is stages 3–4 alone): for every non-empty corpus of ordinary words,
every order ≥ 1, every non-decreasing threshold vector, every excluded-word set (`pv` = a
vocabulary limit was given; `hpv`: without one no word is excluded, see the head of
`Proofs/KNPipeline.lean`), either `--interpolate_unigrams` setting and either fallback:
the streaming pipeline transcribed from the C++ (`AdjustCounts::Run` registers and flush,
`AddRight`/`MergeRight` runs in context order, `PruneNGramStream`, the suffix-order join of
`JointOrder`, sequentially consumed or hash-matched gammas) returns **the same model or the
same error** as the set-based specification: same statistics, discounts, header counts,
uniform, and the same n-grams with the same exact probabilities and back-offs. -/
theorem estimate_eq_spec (cfg : Cfg) (pv : Bool) (fallback : Option Disc) (corpus : List (List Word))
    (h1 : 1 ≤ cfg.order) (hne : corpus ≠ []) (hw : ∀ s ∈ corpus, ∀ w ∈ s, 3 ≤ w)
    (hthr : ∀ i, i < cfg.order - 1 → cfg.thr i ≤ cfg.thr (i + 1))
    (hk : cfg.keepSpecials = true) (hfix : cfg.flushAdjusted = true)
    (hpv : pv = false → ∀ w, cfg.excl w = false) :
    estimate cfg pv fallback corpus = Spec.estimate cfg pv fallback corpus :=
  KV.KN.Interp.estimate_eq_spec cfg pv fallback corpus h1 hne hw hthr hk hfix hpv

example : ∃ (cfg : Cfg) (corpus : List (List Word)), 1 ≤ cfg.order ∧ corpus ≠ [] ∧ (∀ s ∈ corpus, ∀ w ∈ s, 3 ≤ w) ∧
    (∀ i, i < cfg.order - 1 → cfg.thr i ≤ cfg.thr (i + 1)) ∧ cfg.keepSpecials = true ∧ cfg.flushAdjusted = true :=
  ⟨{ order := 3, thr := fun i => if i = 0 then 0 else 1, excl := fun _ => false }, [[3, 4], [3], [4, 3, 5]],
   by decide, by decide, by decide, by decide, rfl, rfl⟩

/-- `estimate_eq_spec` for the variant of the code the current tree contains -/
theorem estimate_eq_spec_tree (cfg : Cfg) (pv : Bool) (fallback : Option Disc) (corpus : List (List Word))
    (h1 : 1 ≤ cfg.order) (hne : corpus ≠ []) (hw : ∀ s ∈ corpus, ∀ w ∈ s, 3 ≤ w)
    (hthr : ∀ i, i < cfg.order - 1 → cfg.thr i ≤ cfg.thr (i + 1))
    (hk : cfg.keepSpecials = KV.Gen.C05.keepSpecials) (hfix : cfg.flushAdjusted = KV.Gen.C05.flushAdjusted)
    (hpv : pv = false → ∀ w, cfg.excl w = false) :
    estimate cfg pv fallback corpus = Spec.estimate cfg pv fallback corpus :=
  estimate_eq_spec cfg pv fallback corpus h1 hne hw hthr (hk.trans (by decide)) (hfix.trans (by decide)) hpv

open KV.KN.Blocks in
/-- `CollapseStream`: the consumer sees every record of the block, in order … -/
theorem collapse_block_seen {α : Type} [Inhabited α] (p : α → Bool) (block : List α) :
    (collapseBlock p block).1 = block := collapse_seen p block

open KV.KN.Blocks in
/-- … and the block that flows downstream is a permutation of the records to keep, … -/
theorem collapse_block_perm {α : Type} [Inhabited α] (p : α → Bool) (block : List α) :
    (collapseBlock p block).2.Perm (block.filter fun x => !p x) := collapse_perm p block

open KV.KN.Blocks in
/-- … so for every partition of the stream into blocks the output is, as a multiset, the model's
`collapse` (the stream is sorted again afterwards) -/
theorem collapse_stream_eq (cfg : Cfg) (blocks : List (List (Gram × Nat))) :
    ((collapseStream bosAt1 blocks).2.map fun e => (⟨e.1, e.2, markOf cfg e.2 e.1⟩ : Emit)).Perm
      (collapse cfg blocks.flatten) := collapseStream_collapse cfg blocks

open KV.KN.Blocks in
/-- `PruneNGramStream`, repaired: for every block partition the output stream is the filtered stream -/
theorem prune_stream_fixed {β : Type} (f : Emit → β) (blocks : List (List Emit)) :
    pruneStream true f blocks = (blocks.flatten.filter keptBy).map f := pruneStream_fixed f blocks

open KV.KN.Blocks in
/-- the unrepaired `PruneNGramStream` (`pruneBlock false`; the tree under check is the repaired one,
C06 `prune_copies_specials_tree`): a special unigram that follows a dropped record in its block
is replaced by the dropped record's stale slot (reachable with a renumbered vocabulary) -/
theorem prune_stream_unfixed_false :
    pruneBlock false id [⟨[5], 1, true⟩, ⟨[2], 3, false⟩] = [⟨[5], 1, true⟩] ∧
    pruneBlock true id [⟨[5], 1, true⟩, ⟨[2], 3, false⟩] = [⟨[2], 3, false⟩] ∧
    ([⟨[5], 1, true⟩, ⟨[2], 3, false⟩] : List Emit).filter keptBy = [⟨[2], 3, false⟩] :=
  KV.KN.Blocks.prune_stream_unfixed_false

/-- the tree never count-prunes the special unigrams in the lower-order paths -/
theorem keep_specials_tree : KV.Gen.C05.keepSpecials = true := by decide

/-- every order's discount triple is the Chen–Goodman closed form of that order's statistics
when it exists and is in range, else the user's fallback (and an error without one) -/
theorem discounts_eq (fallback : Option Disc) (stats : List OrderStat) (ds : List (Disc × Bool))
    (h : discounts fallback stats = .ok ds) :
    ds.length = stats.length ∧
    ∀ i (hi : i < stats.length) (hj : i < ds.length),
      (chenGoodman stats[i] = some ds[i].1 ∧ ds[i].2 = false) ∨
      (chenGoodman stats[i] = none ∧ fallback = some ds[i].1 ∧ ds[i].2 = true) := by
  obtain ⟨hl, hall⟩ := KV.KN.Norm.discountsFrom_eq_ok stats 0 ds h
  exact ⟨hl, fun i hi hj => KV.KN.Norm.discountOf_eq_some (hall i hi hj)⟩

/-- the Chen–Goodman value itself: `Y = n₁/(n₁+2n₂)`, `Dⱼ = j − (j+1)·Y·nⱼ₊₁/nⱼ` -/
theorem chenGoodman_value (s : OrderStat) (d : Disc) (h : chenGoodman s = some d) :
    s.n1 ≠ 0 ∧ s.n2 ≠ 0 ∧ s.n3 ≠ 0 ∧
    d.d1 = 1 - 2 * ((s.n1 : Rat) / ((s.n1 : Rat) + 2 * (s.n2 : Rat))) * (s.n2 : Rat) / (s.n1 : Rat) ∧
    d.d2 = 2 - 3 * ((s.n1 : Rat) / ((s.n1 : Rat) + 2 * (s.n2 : Rat))) * (s.n3 : Rat) / (s.n2 : Rat) ∧
    d.d3 = 3 - 4 * ((s.n1 : Rat) / ((s.n1 : Rat) + 2 * (s.n2 : Rat))) * (s.n4 : Rat) / (s.n3 : Rat) ∧
    0 ≤ d.d1 ∧ d.d1 ≤ 1 ∧ 0 ≤ d.d2 ∧ d.d2 ≤ 2 ∧ 0 ≤ d.d3 ∧ d.d3 ≤ 3 :=
  KV.KN.Norm.chenGoodman_eq_some h

end KV.C05
