import Generated.C08
import Proofs.LeftDeriv
import Proofs.LeftQuirk
import Proofs.LeftSubsume
import Proofs.LeftBoth
import Proofs.LeftSquare
import Proofs.LeftReset
import Proofs.ScoreForgot
/-! C08 — Chart-state scoring equals left-to-right scoring for every derivation.

Model: `Model/Left.lean` (`lm/left.hh`, `GenericModel::ExtendLeft`/`InternalUnRest`, `lm/partial.hh`) over the
abstract table `T` of `Model/Table.lean`; rest costs are an **arbitrary** function `R` of the n-gram
(`noRest`, `maxRest`, `lowerRest` are instances), so every theorem below holds for all three builders.
Hypotheses (`KV.Left.Hyp`): the model is well-formed, `T` represents it (`TableFor`: real entries + blanks with
backed-off probability, sound extends-left marks), the extends-right marks are **complete** (an entry that is
the context of another table entry is marked — what the unrepaired trie builder violates, pre-observation G),
and the property's premise `ContextsOnlyBackoff`.  `Table.build a` (probing; the repaired trie) satisfies them
(`hyp_build`).  Words are vocabulary ids (`ValidWords`: `Index` maps everything else to `<unk>`). -/
namespace KV.C08
open KV.Arpa KV.Table KV.Score KV.State KV.Left

/-- capacities of `ChartState` (constants generated from `lm/left.hh`, `lm/state.hh`): the left state holds `KENLM_MAX_ORDER-1`
pointers, the right state as many words and back-offs; a model of order `N ≤ KENLM_MAX_ORDER` never needs more
(`Frag.L_lt`, `StateFor.len_le_N`: at most `N-1`). -/
theorem constants_ok :
    KV.Gen.C08.leftPointers = KV.Gen.C08.kMaxOrder - 1 ∧ KV.Gen.C08.rightWords = KV.Gen.C08.kMaxOrder - 1 ∧
    KV.Gen.C08.rightBackoffs = KV.Gen.C08.kMaxOrder - 1 ∧ KV.Gen.C08.pointerBytes = 8 ∧ KV.Gen.C08.kMaxOrder ≥ 2 := by decide

/-- the property's premise: only n-grams that are contexts of longer n-grams carry a non-zero back-off -/
def ContextsOnlyBackoff (a : Arpa) : Prop :=
  ∀ g e, a.gram g = some e → e.backoff ≠ 0 → ∃ y, a.gram (y :: g) ≠ none

theorem hyp_of_build (a : Arpa) (wf : WellFormed a) (hp : ContextsOnlyBackoff a) : Hyp a (build a) :=
  hyp_build a wf hp

/-- **ExtendLeft.**  Let `u :: c` be an n-gram of the table that extends left (the pointer; `c` = the context it was
scored with), let `nu` words of the further context `h` be offered together with the back-offs of the contexts
`c ++ h.take (j+1)`, the longer ones being dead (this is what the right state of the history and the previous
`ExtendLeft` provide).  Then, in the difference form the API returns (`ExtStep`):
`rest(u::c) + ret.prob` is the textbook score of `u` given `c ++ h` — the same probability as scoring with that
context in the first place —, `ngram_length`, `independent_left`, `extend_left` and `rest` are those of the longest
matching entry `u :: c ++ h.take c0`, `backoff_out[0..next_use)` are the back-offs of the contexts
`u :: c ++ h.take (j+1)`, and everything longer than `next_use` is dead again. -/
theorem extendLeft_eq (a : Arpa) (T : Table) (H : Hyp a T) (R : Ptr → Rat) (u : Word) (c h : List Word) (nu : Nat) (back : List Rat)
    (tg : TEntry) (hg : T.lookup (u :: c) = some tg) (hxl : tg.extendsLeft = true)
    (hnu : nu ≤ h.length) (hN : c.length + 1 + nu ≤ a.order) (hgN : c.length + 1 ≤ a.order - 1)
    (hback : back.take nu = (List.range nu).map (fun j => a.boW (c ++ h.take (j+1))))
    (hD : ∀ k, nu < k → k ≤ h.length → ¬ live a (c ++ h.take k)) :
    ∃ c0, ExtStep a T R u c h nu (extendLeft T R (h.take nu) back (u :: c) (c.length + 1)) c0 :=
  extendLeft_step H R u c h nu back tg hg hxl hnu hN hgN hback hD

/-- … in particular the probability is the one of direct scoring with the whole context (`FullScoreForgotState`) -/
theorem extendLeft_prob (a : Arpa) (wf : WellFormed a) (hp : ContextsOnlyBackoff a) (R : Ptr → Rat) (u : Word) (c h : List Word)
    (nu : Nat) (back : List Rat) (tg : TEntry) (hg : (build a).lookup (u :: c) = some tg) (hxl : tg.extendsLeft = true)
    (hu : a.gram [u] ≠ none)
    (hnu : nu ≤ h.length) (hN : c.length + 1 + nu ≤ a.order) (hgN : c.length + 1 ≤ a.order - 1)
    (hback : back.take nu = (List.range nu).map (fun j => a.boW (c ++ h.take (j+1))))
    (hD : ∀ k, nu < k → k ≤ h.length → ¬ live a (c ++ h.take k)) :
    R (u :: c) + (extendLeft (build a) R (h.take nu) back (u :: c) (c.length + 1)).prob =
      (fullScoreForgotState (tableSearch (build a)) (c ++ h) u).1.prob := by
  obtain ⟨c0, hs⟩ := extendLeft_step (hyp_build a wf hp) R u c h nu back tg hg hxl hnu hN hgN hback hD
  rw [forgot_prob_aux wf (build_tableFor a wf _) (c ++ h) hu, ← hs.prob]
  grind

/-- **Terminal.**  `Frag … ws L rs`: the state of `RuleScore` is the canonical one of the word sequence `ws`
(left pointers = the `L` prefixes that still extend left, right state = the left-to-right state, score = rest costs
of those prefixes + exact scores of the other words). -/
theorem terminal_frag (a : Arpa) (T : Table) (H : Hyp a T) (R : Ptr → Rat) (ws : List Word) (L : Nat) (rs : RS)
    (F : Frag a T R ws L rs) (w : Word) (hw : a.gram [w] ≠ none) :
    ∃ L', Frag a T R (ws ++ [w]) L' (terminal T R rs w) := terminal_frag_aux H R F w hw

/-- **NonTerminal.**  Combining the fragment under construction with a finished fragment (`FragC` = `Frag` after
`Finish`) gives the canonical state and score of the concatenation — whichever of the branches of
`NonTerminal` / `ExtendLeft` / `ProcessRet` / early exit / `UnRest` runs. -/
theorem nonterminal_frag (a : Arpa) (T : Table) (H : Hyp a T) (R : Ptr → Rat) (ws₁ : List Word) (L₁ : Nat) (rs : RS)
    (F : Frag a T R ws₁ L₁ rs) (ws₂ : List Word) (L₂ : Nat) (c : Chart) (p : Rat) (G : FragC a T R ws₂ L₂ c p) :
    ∃ L', Frag a T R (ws₁ ++ ws₂) L' (nonTerminal T R rs c p) := nonTerminal_frag_aux H R F G

/-- every derivation tree of a fragment yields the canonical fragment state of its yield -/
theorem derivation_frag (a : Arpa) (T : Table) (H : Hyp a T) (R : Ptr → Rat) (r : Rule) (hv : ValidWords a r.yield) :
    ∃ L, FragC a T R r.yield L (ruleScore T R none r).1 (ruleScore T R none r).2 :=
  ruleScore_frag H R r hv

/-- **Any derivation = left-to-right, once `<s>` has been applied** — over any table satisfying `Hyp` (probing,
repaired trie, the probing table with its unigram sign-bit quirk) and **any** rest-cost function: for every
derivation tree `r` (arbitrary n-ary mix of terminals and non-terminals, each non-terminal scored on its own and
passed with its score) the total returned by `Finish` is the sum of the textbook scores of the words given the
whole history; the right state is the left-to-right state and the left state is empty. -/
theorem any_derivation_table (a : Arpa) (T : Table) (H : Hyp a T) (R : Ptr → Rat) (bos : Word) (r : Rule)
    (hv : ValidWords a r.yield) :
    (ruleScore T R (some bos) r).2 = specSeq a [bos] r.yield ∧
    StateFor a (r.yield.reverse ++ [bos]) (ruleScore T R (some bos) r).1.right ∧
    (ruleScore T R (some bos) r).1.left = { pointers := [], full := true } := by
  have B := applyRule_inv H R (fragB_preserved H R _ _ _) r (begin_fragB H R bos) hv
  simp only [List.nil_append] at B
  refine ⟨?_, B.right_for, ?_⟩
  · show (applyRule T R (beginSentence T R bos RS.init) r).prob = _
    rw [B.prob_eq]; grind
  · show (finish T.order (applyRule T R (beginSentence T R bos RS.init) r)).1.left = _
    rw [finish_left, B.left_eq, B.done]; rfl

/-- for `build a`, the table the repaired trie builder stores (probing differs by the quirk of the next theorem) -/
theorem any_derivation (a : Arpa) (wf : WellFormed a) (hp : ContextsOnlyBackoff a) (R : Ptr → Rat) (bos : Word) (r : Rule)
    (hv : ValidWords a r.yield) :
    (ruleScore (build a) R (some bos) r).2 = specSeq a [bos] r.yield :=
  (any_derivation_table a (build a) (hyp_build a wf hp) R bos r hv).1

/-- the probing structures (whose unigram sign-bit quirk reports some unigrams as extending left although no bigram
ends in them — known finding of C01 — and therefore keep one more pointer in the left state): same total -/
theorem any_derivation_probing (a : Arpa) (wf : WellFormed a) (hp : ContextsOnlyBackoff a) (R : Ptr → Rat) (bos : Word) (r : Rule)
    (hv : ValidWords a r.yield) :
    (ruleScore (withSignQuirk a (build a)) R (some bos) r).2 = specSeq a [bos] r.yield :=
  (any_derivation_table a _ (hyp_quirk (hyp_build a wf hp)) R bos r hv).1

/-- `BeginNonTerminal(in, prob)` puts `RuleScore` into the canonical state of the incoming fragment, so a rule that
starts with it is covered by `nonterminal_frag`/`terminal_frag` like any other (and gives the same fragment as
`NonTerminal` on a fresh `RuleScore`, `derivation_frag`) -/
theorem beginNonTerminal_frag (a : Arpa) (T : Table) (R : Ptr → Rat) (ws : List Word) (L : Nat) (c : Chart) (p : Rat)
    (G : FragC a T R ws L c p) : Frag a T R ws L (beginNonTerminal c p) := G.toFrag

theorem beginNonTerminal_rule (a : Arpa) (T : Table) (H : Hyp a T) (R : Ptr → Rat) (ws : List Word) (L : Nat) (c : Chart) (p : Rat)
    (G : FragC a T R ws L c p) (r : Rule) (hv : ValidWords a r.yield) :
    ∃ L', FragC a T R (ws ++ r.yield) L' (finish T.order (applyRule T R (beginNonTerminal c p) r)).1
      (finish T.order (applyRule T R (beginNonTerminal c p) r)).2 := by
  obtain ⟨L', F⟩ := applyRule_frag H R r (beginNonTerminal_frag a T R ws L c p G) hv
  exact ⟨L', finish_frag H R F⟩

/-- the total of `any_derivation` is that of scoring the words left to right with `FullScore` from `BeginSentenceState` -/
theorem any_derivation_leftToRight (a : Arpa) (wf : WellFormed a) (hp : ContextsOnlyBackoff a) (R : Ptr → Rat) (bos : Word)
    (r : Rule) (hv : ValidWords a r.yield) :
    (ruleScore (build a) R (some bos) r).2 =
      (scoreSeq (tableSearch (build a)) (beginSentenceState (tableSearch (build a)) bos) r.yield).1 := by
  rw [any_derivation a wf hp R bos r hv]
  have tf := build_tableFor a wf (fun _ => false)
  exact (scoreSeq_table wf tf r.yield [bos] _ (stateFor_begin wf tf bos) hv).1.symm

/-- **Fragments on their own, without separate rest costs**: for `Rest() = Prob()` every derivation of a fragment
scores to the left-to-right sum from the null context. -/
theorem no_rest_fragment_table (a : Arpa) (T : Table) (H : Hyp a T) (r : Rule) (hv : ValidWords a r.yield) :
    (ruleScore T (noRest T) none r).2 = specSeq a [] r.yield := by
  obtain ⟨L, G⟩ := derivation_frag a T H (noRest T) r hv
  rw [G.prob_eq, restSum_noRest H r.yield L G.L_le G.L_lt G.ptr_xl]
  have := specSeq_append a (r.yield.take L) (r.yield.drop L) []
  rw [List.take_append_drop, List.append_nil] at this
  rw [this]

theorem no_rest_fragment (a : Arpa) (wf : WellFormed a) (hp : ContextsOnlyBackoff a) (r : Rule) (hv : ValidWords a r.yield) :
    (ruleScore (build a) (noRest (build a)) none r).2 = specSeq a [] r.yield :=
  no_rest_fragment_table a (build a) (hyp_build a wf hp) r hv

/-! ### lm/partial.hh -/

/-- **Subsume** (`between_length = 0`): joining two finished fragments returns, as new `first_left` / `second_right`,
the canonical chart state of the concatenation, and `first + second + adjustment` is its canonical score. -/
theorem subsume_frag (a : Arpa) (T : Table) (H : Hyp a T) (R : Ptr → Rat) (ws₁ : List Word) (L₁ : Nat) (c₁ : Chart) (p₁ : Rat)
    (G₁ : FragC a T R ws₁ L₁ c₁ p₁) (ws₂ : List Word) (L₂ : Nat) (c₂ : Chart) (p₂ : Rat) (G₂ : FragC a T R ws₂ L₂ c₂ p₂) :
    ∃ L', FragC a T R (ws₁ ++ ws₂) L'
      { left := (subsume T R c₁.left c₁.right c₂.left c₂.right 0).2.1, right := (subsume T R c₁.left c₁.right c₂.left c₂.right 0).2.2 }
      (p₁ + p₂ + (subsume T R c₁.left c₁.right c₂.left c₂.right 0).1) := subsume_frag_aux H R G₁ G₂

/-- the canonical description of a word sequence is unique when the extends-left marks are exact (`build a`): any two
derivations of the same yield return the same score and the same number of left pointers, also with rest costs -/
theorem derivation_score_unique (a : Arpa) (wf : WellFormed a) (hp : ContextsOnlyBackoff a) (R : Ptr → Rat) (r r' : Rule)
    (hy : r.yield = r'.yield) (hv : ValidWords a r.yield) :
    (ruleScore (build a) R none r).2 = (ruleScore (build a) R none r').2 := by
  obtain ⟨L', G'⟩ := derivation_frag a (build a) (hyp_build a wf hp) R r' (by rw [← hy]; exact hv)
  exact ruleScore_unique (hyp_build a wf hp) R (xlSound_build a) hy (hy ▸ hv) G'

/-- **the adjustment of Subsume is exactly whole − parts**, for all derivations of the parts and of the whole -/
theorem subsume_whole_minus_parts (a : Arpa) (wf : WellFormed a) (hp : ContextsOnlyBackoff a) (R : Ptr → Rat) (r₁ r₂ r : Rule)
    (hy : r.yield = r₁.yield ++ r₂.yield) (hv : ValidWords a r.yield) :
    (subsume (build a) R (ruleScore (build a) R none r₁).1.left (ruleScore (build a) R none r₁).1.right
        (ruleScore (build a) R none r₂).1.left (ruleScore (build a) R none r₂).1.right 0).1 =
      (ruleScore (build a) R none r).2 - (ruleScore (build a) R none r₁).2 - (ruleScore (build a) R none r₂).2 :=
  whole_minus_parts (hyp_build a wf hp) R (xlSound_build a) hy hv fun G₁ G₂ =>
    let ⟨L', G'⟩ := subsume_frag_aux (hyp_build a wf hp) R G₁ G₂; ⟨L', _, G'⟩

/-- **RevealAfter, incrementally**: revealing the pointers of a following fragment `A` to a fragment `M` one call at a
time (`after.length = k+1`, `seen = k`) and finally its `full` flag — the protocol of `lm/partial_test.cc` — leaves, as
`M`'s left state, the canonical left state of `M ++ A`, and the accumulated adjustments make up its canonical score. -/
theorem reveal_after (a : Arpa) (T : Table) (H : Hyp a T) (R : Ptr → Rat) (M : List Word) (Lm : Nat) (cM : Chart) (pM : Rat)
    (GM : FragC a T R M Lm cM pM) (A : List Word) (La : Nat) (cA : Chart) (pA : Rat) (GA : FragC a T R A La cA pA) :
    ∃ L' right', FragC a T R (M ++ A) L' { left := (revealAfterAll T R cM cA).1, right := right' }
      (pM + pA + (revealAfterAll T R cM cA).2.2) := revealAfterAll_frag H R GM GA

/-- … so that **the accumulated adjustment is exactly whole − parts**, for all derivations of the parts and the whole -/
theorem reveal_after_whole_minus_parts (a : Arpa) (wf : WellFormed a) (hp : ContextsOnlyBackoff a) (R : Ptr → Rat) (r₁ r₂ r : Rule)
    (hy : r.yield = r₁.yield ++ r₂.yield) (hv : ValidWords a r.yield) :
    (revealAfterAll (build a) R (ruleScore (build a) R none r₁).1 (ruleScore (build a) R none r₂).1).2.2 =
      (ruleScore (build a) R none r).2 - (ruleScore (build a) R none r₁).2 - (ruleScore (build a) R none r₂).2 :=
  whole_minus_parts (hyp_build a wf hp) R (xlSound_build a) hy hv fun G₁ G₂ =>
    let ⟨L', _, G'⟩ := revealAfterAll_frag (hyp_build a wf hp) R G₁ G₂; ⟨L', _, G'⟩

/-- **RevealBefore, incrementally**: revealing the words of a preceding fragment `B`'s right state to a fragment `M` one
call at a time (`reveal.length = k+1`, `seen = k`) and finally `reveal_full` if `B`'s left state is full — the protocol of
`lm/partial_test.cc` — leaves, as `M`'s left pointers, the left pointers of `B ++ M` beyond those of `B`, and the
accumulated adjustments make up the canonical score of `B ++ M`. -/
theorem reveal_before (a : Arpa) (T : Table) (H : Hyp a T) (R : Ptr → Rat) (B : List Word) (Lb : Nat) (cB : Chart) (pB : Rat)
    (GB : FragC a T R B Lb cB pB) (M : List Word) (Lm : Nat) (cM : Chart) (pM : Rat) (GM : FragC a T R M Lm cM pM) :
    ∃ L' c', c'.left.pointers = cB.left.pointers ++ (revealBeforeAll T R cB cM).1.pointers ∧
      FragC a T R (B ++ M) L' c' (pB + pM + (revealBeforeAll T R cB cM).2.2) := revealBeforeAll_frag H R GB GM

/-- … so that **the accumulated adjustment is exactly whole − parts**, for all derivations of the parts and the whole -/
theorem reveal_before_whole_minus_parts (a : Arpa) (wf : WellFormed a) (hp : ContextsOnlyBackoff a) (R : Ptr → Rat) (r₁ r₂ r : Rule)
    (hy : r.yield = r₁.yield ++ r₂.yield) (hv : ValidWords a r.yield) :
    (revealBeforeAll (build a) R (ruleScore (build a) R none r₁).1 (ruleScore (build a) R none r₂).1).2.2 =
      (ruleScore (build a) R none r).2 - (ruleScore (build a) R none r₁).2 - (ruleScore (build a) R none r₂).2 :=
  whole_minus_parts (hyp_build a wf hp) R (xlSound_build a) hy hv fun G₁ G₂ =>
    let ⟨L', c', _, G'⟩ := revealBeforeAll_frag (hyp_build a wf hp) R G₁ G₂; ⟨L', c', G'⟩

/-- **Both sides, interleaved in any order** (the complete protocol of `lm/partial_test.cc`: `steps` says which side
reveals next; afterwards the `after.full` and `reveal_full` calls): once both sides are completely revealed, the left
pointers are those of `B ++ M ++ A` beyond `B`'s and the accumulated adjustments make up its canonical score. -/
theorem reveal_both (a : Arpa) (T : Table) (H : Hyp a T) (R : Ptr → Rat)
    (B : List Word) (Lb : Nat) (cB : Chart) (pB : Rat) (GB : FragC a T R B Lb cB pB)
    (M : List Word) (Lm : Nat) (cM : Chart) (pM : Rat) (GM : FragC a T R M Lm cM pM)
    (A : List Word) (La : Nat) (cA : Chart) (pA : Rat) (GA : FragC a T R A La cA pA) (steps : List Bool)
    (hall : (revealSteps T R cB cA steps (0, 0, cM.left, cM.right, 0)).1 = cB.right.length ∧
            (revealSteps T R cB cA steps (0, 0, cM.left, cM.right, 0)).2.1 = cA.left.length) :
    ∃ L' c', c'.left.pointers = cB.left.pointers ++ (revealBoth T R cB cM cA steps).1.pointers ∧
      FragC a T R (B ++ (M ++ A)) L' c' (pB + (pM + pA) + (revealBoth T R cB cM cA steps).2.2) := by
  obtain ⟨L', c', h, _, G⟩ := revealBoth_frag H R GB GM GA steps hall
  exact ⟨L', c', h, G⟩

/-- … so that **revealing context incrementally on either side of a fragment, in any order, accumulates exactly the
difference between the whole and its parts** — for all derivations of the three parts and of the whole -/
theorem reveal_both_whole_minus_parts (a : Arpa) (wf : WellFormed a) (hp : ContextsOnlyBackoff a) (R : Ptr → Rat)
    (r₁ r₂ r₃ r : Rule) (hy : r.yield = r₁.yield ++ (r₂.yield ++ r₃.yield)) (hv : ValidWords a r.yield) (steps : List Bool)
    (hall : (revealSteps (build a) R (ruleScore (build a) R none r₁).1 (ruleScore (build a) R none r₃).1 steps
              (0, 0, (ruleScore (build a) R none r₂).1.left, (ruleScore (build a) R none r₂).1.right, 0)).1 =
              (ruleScore (build a) R none r₁).1.right.length ∧
            (revealSteps (build a) R (ruleScore (build a) R none r₁).1 (ruleScore (build a) R none r₃).1 steps
              (0, 0, (ruleScore (build a) R none r₂).1.left, (ruleScore (build a) R none r₂).1.right, 0)).2.1 =
              (ruleScore (build a) R none r₃).1.left.length) :
    (revealBoth (build a) R (ruleScore (build a) R none r₁).1 (ruleScore (build a) R none r₂).1
        (ruleScore (build a) R none r₃).1 steps).2.2 =
      (ruleScore (build a) R none r).2 - (ruleScore (build a) R none r₁).2 - (ruleScore (build a) R none r₂).2 -
        (ruleScore (build a) R none r₃).2 := by
  have H := hyp_build a wf hp
  rw [hy] at hv
  obtain ⟨L₁, G₁⟩ := derivation_frag a (build a) H R r₁ (ValidWords.append_left hv)
  obtain ⟨L₂, G₂⟩ := derivation_frag a (build a) H R r₂ (ValidWords.append_left (ValidWords.append_right hv))
  obtain ⟨L₃, G₃⟩ := derivation_frag a (build a) H R r₃ (ValidWords.append_right (ValidWords.append_right hv))
  obtain ⟨L', c', _, _, G'⟩ := revealBoth_frag H R G₁ G₂ G₃ steps hall
  rw [ruleScore_unique H R (xlSound_build a) hy hv G']; grind

/-! ### non-vacuity and the defect of the unrepaired trie builder (pre-observation G)

`<unk>`=0, `<s>`=1, a=2, b=3, c=4, d=5.  The chain `a b`, `a b c`, `a b c d` is in the model, the suffixes `b c`, `b c d`,
`c d` were pruned (SRI style), so the loader hallucinates the blanks `b c`, `b c d`, `c d`.  Back-offs only on contexts. -/
def demo : Arpa :=
  { order := 4,
    entries := [([0], ⟨-5, 0, false⟩), ([1], ⟨-99, 0, false⟩), ([2], ⟨-1, -1/2, false⟩), ([3], ⟨-2, 0, false⟩),
                ([4], ⟨-3, 0, false⟩), ([5], ⟨-4, 0, false⟩),
                ([3,2], ⟨-1/2, -1/4, false⟩), ([4,3,2], ⟨-1/3, -1/8, false⟩), ([5,4,3,2], ⟨-1/16, 0, false⟩)] }

theorem demo_wf : WellFormed demo := wfB_sound demo (by decide +kernel)

theorem demo_premise : ContextsOnlyBackoff demo := by
  intro g e hg hb
  have hmem := lookup_some_mem _ _ _ hg
  simp only [demo, List.mem_cons, Prod.mk.injEq, List.mem_nil_iff, or_false] at hmem
  rcases hmem with ⟨rfl, rfl⟩ | ⟨rfl, rfl⟩ | ⟨rfl, rfl⟩ | ⟨rfl, rfl⟩ | ⟨rfl, rfl⟩ | ⟨rfl, rfl⟩ | ⟨rfl, rfl⟩ | ⟨rfl, rfl⟩ | ⟨rfl, rfl⟩
  · exact absurd rfl hb
  · exact absurd rfl hb
  · exact ⟨3, by decide⟩
  · exact absurd rfl hb
  · exact absurd rfl hb
  · exact absurd rfl hb
  · exact ⟨4, by decide⟩
  · exact ⟨5, by decide⟩
  · exact absurd rfl hb

/-- the derivation `<s> a ( b c d )` -/
def demoRule : Rule := .cons (.term 2) (.cons (.nt (.cons (.term 3) (.cons (.term 4) (.cons (.term 5) .nil)))) .nil)

example : Hyp demo (build demo) := hyp_of_build demo demo_wf demo_premise
example : ValidWords demo demoRule.yield := by
  intro w hw
  simp only [demoRule, Rule.yield, Item.yield, List.append_nil, List.cons_append, List.nil_append, List.mem_cons,
    List.mem_nil_iff, or_false] at hw
  rcases hw with rfl | rfl | rfl | rfl <;> decide

/-- the blank `b c` is the context of the blank `b c d`: it carries the extends-right mark -/
example : (build demo).lookup [4,3] = some ⟨-3, 0, true, true, true⟩ := by decide +kernel

/-- with all marks in place the derivation scores to the left-to-right total (an instance of `any_derivation`) -/
example : (ruleScore (build demo) (noRest (build demo)) (some 1) demoRule).2 = -1 + -1/2 + -1/3 + -1/16 := by decide +kernel
example : specSeq demo [1] [2,3,4,5] = -1 + -1/2 + -1/3 + -1/16 := by decide +kernel

/-- **Negation for the faithful model of the unrepaired trie builder.**  `BackoffMessages::Apply` drops the messages
that sort after the last real entry of an order, so the blank `b c` loses its extends-right mark
(`unmarked = {b c}`; which blanks are hit depends on the hash order of the vocabulary).  The table still represents
the model (`TableFor`, so left-to-right scoring is unaffected — C01), but the chart total of `<s> a ( b c d )` charges
`bo(a b c) + p(d)` instead of `p(d | a b c)` for the last word: the statement of `any_derivation` is false for this table.
Replayed on `TrieModel` by the `left` stream (class `trailing-blank`). -/
theorem any_derivation_fails_with_dropped_marks :
    ¬ ∀ (unmarked : List Word → Bool) (a : Arpa), WellFormed a → ContextsOnlyBackoff a →
        ∀ (R : Ptr → Rat) (bos : Word) (r : Rule), ValidWords a r.yield →
          (ruleScore (build a unmarked) R (some bos) r).2 = specSeq a [bos] r.yield := by
  intro h
  have := h (fun g => g == [4,3]) demo demo_wf demo_premise (noRest (build demo (fun g => g == [4,3]))) 1 demoRule (by
    intro w hw
    simp only [demoRule, Rule.yield, Item.yield, List.append_nil, List.cons_append, List.nil_append, List.mem_cons,
      List.mem_nil_iff, or_false] at hw
    rcases hw with rfl | rfl | rfl | rfl <;> decide)
  revert this
  decide +kernel

/-- the wrong total: instead of the 4-gram probability −1/16 the last word gets bo(a b c) + p(d) = −1/8 − 4 -/
example : (ruleScore (build demo (fun g => g == [4,3])) (noRest (build demo (fun g => g == [4,3]))) (some 1) demoRule).2 =
    -143/24 := by decide +kernel

/-- **Every chart state a derivation produces is square**: while `left.full` is false, every word sits in both halves,
`right.length = left.length`.  Any table, any rest function, no hypothesis. -/
theorem open_states_square (T : Table) (R : Ptr → Rat) (bos : Option Word) (r : Rule) :
    ((ruleScore T R bos r).1).left.full = false →
      ((ruleScore T R bos r).1).right.length = ((ruleScore T R bos r).1).left.length :=
  ruleScore_sq T R bos r

/-- **Two branches of `RuleScore::NonTerminal` are unreachable through the API**: with the running object obtained by
applying any items (`pre`, after `BeginSentence` or not) and the argument state obtained from any derivation `r`,
neither `left.hh:105-106` (`right.length == 0`, `!left_done_`, `left.length != 0`) nor the shortcut `left.hh:135-137`
(`!in.left.full && in.right.length < in.left.length`) can be taken.  (kenlm's own tests never execute them either;
mutants inside them are equivalent mutants for every caller that only passes states made by `RuleScore`.) -/
theorem nonterminal_dead_branches (T : Table) (R : Ptr → Rat) (bos : Option Word) (pre r : Rule) :
    let rs0 := match bos with | some b => beginSentence T R b RS.init | none => RS.init
    let rs := applyRule T R rs0 pre
    let c := (ruleScore T R none r).1
    ¬ (rs.out.right.length = 0 ∧ rs.leftDone = false ∧ rs.out.left.length ≠ 0) ∧
    ¬ (c.left.full = false ∧ c.right.length < c.left.length) := by
  intro rs0 rs c
  have h0 : Sq rs0 := by
    cases bos with
    | none => exact init_sq
    | some b => exact beginSentence_sq T R b RS.init
  have hs : Sq rs := applyRule_sq T R pre h0
  have hc : SqC c := ruleScore_sq T R none r
  refine ⟨fun ⟨h1, h2, h3⟩ => ?_, fun ⟨h1, h2⟩ => ?_⟩
  · have := hs h2; omega
  · have := hc h1; omega

/-- **`Reset` makes a used object observationally fresh.**  Whatever the history of the object (`rs`) and whatever
stale value `out_->left.full` holds in the target state, a rule application scored after `Reset()` /
`Reset(ChartState&)` (optionally `BeginSentence()` first) finishes with exactly the chart state and score of a fresh
`RuleScore`: `left.full` is never read before `Finish` overwrites it.  Hence every C08 theorem about `ruleScore`
applies verbatim to decoders that keep one object (results of non-terminals are values, so by this theorem a bottom-up
decoder that resets one object before every rule computes the same values as `applyRule`, which scores kids afresh).
`BeginNonTerminal` overwrites the whole object (`beginNonTerminal` does not take the old one). -/
theorem reset_equiv_fresh (T : Table) (R : Ptr → Rat) (stale : Bool) (rs : RS) (bos : Option Word) (r : Rule) :
    finish T.order (applyRule T R
      (match bos with | some b => beginSentence T R b (reset stale rs) | none => reset stale rs) r) = ruleScore T R bos r := by
  unfold ruleScore
  apply finish_eqF
  apply applyRule_eqF
  cases bos with
  | none => exact reset_eqF stale rs
  | some b => exact beginSentence_eqF T R b (reset_eqF stale rs)

/-- the object after any closed-left history: here just `BeginSentence(); Finish()` -/
def usedObject : RS := beginSentence (build demo) (noRest (build demo)) 1 RS.init

/-- **The seeded variant C08-6 (`Reset` keeps `left_done_`) is not observationally fresh**: on the reused object the
fragment `b c d` records no left pointers and is marked full with length 0 … -/
theorem reset_keeping_done_not_fresh :
    ¬ ∀ (T : Table) (R : Ptr → Rat) (stale : Bool) (rs : RS) (r : Rule),
        finish T.order (applyRule T R (resetKeepsDone stale rs) r) = ruleScore T R none r := by
  intro h
  have := h (build demo) (noRest (build demo)) false usedObject (.cons (.term 3) (.cons (.term 4) (.cons (.term 5) .nil)))
  revert this
  decide +kernel

/-- … and the left context applied later is ignored: `<s> a ( b c d )` with the kid scored on the reused object
does not total to the left-to-right score (with `reset` it does, by `reset_equiv_fresh` and `any_derivation`). -/
theorem reset_keeping_done_breaks_total :
    (let T := build demo; let R := noRest T
     let kid := finish T.order (applyRule T R (resetKeepsDone false usedObject)
                  (.cons (.term 3) (.cons (.term 4) (.cons (.term 5) .nil))))
     (finish T.order (nonTerminal T R (terminal T R (beginSentence T R 1 RS.init) 2) kid.1 kid.2)).2)
      ≠ specSeq demo [1] [2,3,4,5] := by
  decide +kernel

example :
    (let T := build demo; let R := noRest T
     let kid := finish T.order (applyRule T R (reset true usedObject)
                  (.cons (.term 3) (.cons (.term 4) (.cons (.term 5) .nil))))
     (finish T.order (nonTerminal T R (terminal T R (beginSentence T R 1 RS.init) 2) kid.1 kid.2)).2)
      = specSeq demo [1] [2,3,4,5] := by
  decide +kernel

end KV.C08
