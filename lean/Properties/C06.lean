import Generated.C06
import Proofs.KNPipeline
import Proofs.KNCorpusModel
import Proofs.KNOutput
/-!
# C06 — lmplz output is a proper, closed, loadable language model

Over the set-based specification `Spec.estimateFrom` (Model/KNSpec.lean), which the check
ties to the real `bin/lmplz` (C05 stream) and whose streaming counterpart is Model/KN.lean.
`Query.score` is the ARPA back-off recursion every KenLM data structure implements (C01).

The hypotheses about the *records* per order are collected in `KV.KN.Norm.TableOK` (one record per
n-gram, closure of the kept n-grams under dropping the oldest / newest word, positive
counts above order 1, special unigrams unmarked, `uniform = 1/(|kept vocabulary| − 1)`); they
follow from the decidable hypotheses about the count table, `Spec.TableWF` (`tableOK_of_wf`).
-/
namespace KV.C06
open KV.KN KV.KN.Norm

/-! ## the tree implements the repaired variants the theorems describe -/

/-- special unigrams are never count-pruned in the order ≥ 2 paths of `AdjustCounts::Run`
(broken obligation on a tree where `</s>` can be marked: then the header count is one short
and `p(</s>)` is garbage — replayed by the check) -/
theorem keep_specials_tree : KV.Gen.C06.keepSpecials = true := by decide

/-- `PruneNGramStream` moves special unigrams like every other kept record (on the unrepaired
tree a special unigram that follows a pruned one in a renumbered vocabulary is lost) -/
theorem prune_copies_specials_tree : KV.Gen.C06.pruneCopiesSpecials = true := by decide

/-- **Abstract normalisation.** For any system of kept extensions `inE`, discounted
probabilities `u`, interpolation weights `γ` (holding discounted *and* pruned mass),
stored probabilities `p` and back-offs `bo` that satisfies the per-context mass identity,
the interpolation equation, closure and the two back-off rules, the back-off query sums to
one over the vocabulary for **every** context — in the model or not, of any length. -/
theorem normalised_abstract (S : System) (h : S.OK) (ctx : Gram) :
    (S.V.map (S.pBO ctx)).sum = 1 :=
  KV.KN.Norm.normalised_abstract S h ctx

example : exSys.OK := exSys_ok

/-- **Per-context mass identity of the specification**: kept discounted mass plus
`γ = (Σ_kept D(c) + Σ_pruned c)/Σ c` is one ("Makes model sum to 1 with pruning (I hope)"). -/
theorem ctx_mass_identity (d : Disc) (es : List Emit) (ctx : Gram) (hden : Spec.den es ctx ≠ 0) :
    (((Spec.group es ctx).filter fun e => !e.marked).map (Spec.uProb d es)).sum + Spec.gamma d es ctx = 1 :=
  KV.KN.Norm.ctx_mass_identity d es ctx hden

/-- **normalised**: in the model the specification produces, for every context `ctx` (any
word list, in the model or not), `Σ_{w ∈ V, w ≠ <s>} score(ctx, w) = 1`; with pruning, with
either `--interpolate_unigrams` setting. -/
theorem normalised {c : Spec.Ctx} (h : TableOK c) (ctx : Gram) :
    ((Query.vocabNoBos (ordersOf c)).map (Query.score (ordersOf c) ctx)).sum = 1 :=
  KV.KN.Norm.normalised h ctx

example : TableOK exCtx := exCtx_ok

theorem normalised_estimate (cfg : Cfg) (fallback : Option Disc) (full : Spec.Table) (m : Model)
    (hm : Spec.estimateFrom cfg fallback full = .ok m)
    (hT : ∀ discs, discounts fallback ((specRecords cfg full).map Spec.stats) = .ok discs →
      TableOK (specCtx cfg full discs))
    (ctx : Gram) :
    ((Query.vocabNoBos m.orders).map (Query.score m.orders ctx)).sum = 1 :=
  KV.KN.Norm.normalised_estimate cfg fallback full m hm hT ctx

/-- **normalised, from decidable facts about the count table only** (`Spec.TableWF`: every row
has `order` words, rows distinct with positive counts, the newest word is never `<s>`/`<unk>`,
no `<unk>`/`</s>` in second position, `<s>` only as a run at the old end, every n-gram occurs
at most as often as its context (`tailDom`), non-decreasing prune thresholds).  The driver
evaluates `Spec.tableWFb` on every generated case. -/
theorem normalised_table (cfg : Cfg) (fallback : Option Disc) (full : Spec.Table) (m : Model)
    (hm : Spec.estimateFrom cfg fallback full = .ok m) (hw : Spec.TableWF cfg full) (ctx : Gram) :
    ((Query.vocabNoBos m.orders).map (Query.score m.orders ctx)).sum = 1 :=
  KV.KN.Norm.normalised_table cfg fallback full m hm (.inl hw) ctx

theorem normalised_table1 (cfg : Cfg) (fallback : Option Disc) (full : Spec.Table) (m : Model)
    (hm : Spec.estimateFrom cfg fallback full = .ok m) (hw : Spec.TableWF1 cfg full) (ctx : Gram) :
    ((Query.vocabNoBos m.orders).map (Query.score m.orders ctx)).sum = 1 :=
  KV.KN.Norm.normalised_table cfg fallback full m hm (.inr hw) ctx

/-- `TableWF` ⇒ the records of the specification are closed, distinct, positively counted, … -/
theorem tableOK_of_wf {cfg : Cfg} {full : Spec.Table} (hw : Spec.TableWF cfg full) (discs : List (Disc × Bool)) :
    TableOK (specCtx cfg full discs) :=
  KV.KN.Norm.tableOK_of_wf (.inl hw) discs

/-- **normalised, for every corpus**: for every non-empty corpus of ordinary words (ids ≥ 3,
i.e. no `<s>`, `</s>`, `<unk>` tokens — lmplz rejects or skips them), every order ≥ 2, every
non-decreasing prune-threshold vector, every excluded-word set, both `--interpolate_unigrams`
settings and whatever discounts were used: in the model the specification estimates, the
back-off probabilities of all vocabulary words except `<s>` sum to exactly one for **every**
context (any word list of any length, in the model or not). -/
theorem normalised_corpus (cfg : Cfg) (pv : Bool) (fallback : Option Disc) (corpus : List (List Word))
    (m : Model) (hm : Spec.estimate cfg pv fallback corpus = .ok m) (h2 : 2 ≤ cfg.order)
    (hne : corpus ≠ []) (hw : ∀ s ∈ corpus, ∀ w ∈ s, 3 ≤ w)
    (hthr : ∀ i, i < cfg.order - 1 → cfg.thr i ≤ cfg.thr (i + 1)) (ctx : Gram) :
    ((Query.vocabNoBos m.orders).map (Query.score m.orders ctx)).sum = 1 :=
  have ⟨hW, hm⟩ := estimate_corpus hm (Nat.le_of_succ_le h2) hne hw hthr
  KV.KN.Norm.normalised_table cfg fallback _ m hm hW ctx

/-- **normalised, for the streaming pipeline** (the model that is differentially tied to the C++):
by `KV.KN.Interp.estimate_eq_spec` the transcription of `AdjustCounts`/`InitialProbabilities`/
`Interpolate` returns the specification's model, hence a normalised one. -/
theorem normalised_stream (cfg : Cfg) (pv : Bool) (fallback : Option Disc) (corpus : List (List Word))
    (m : Model) (hm : estimate cfg pv fallback corpus = .ok m) (h2 : 2 ≤ cfg.order)
    (hne : corpus ≠ []) (hw : ∀ s ∈ corpus, ∀ w ∈ s, 3 ≤ w)
    (hthr : ∀ i, i < cfg.order - 1 → cfg.thr i ≤ cfg.thr (i + 1))
    (hk : cfg.keepSpecials = true) (hfix : cfg.flushAdjusted = true)
    (hpv : pv = false → ∀ w, cfg.excl w = false) (ctx : Gram) :
    ((Query.vocabNoBos m.orders).map (Query.score m.orders ctx)).sum = 1 := by
  rw [KV.KN.Interp.estimate_eq_spec cfg pv fallback corpus (by omega) hne hw hthr hk hfix hpv] at hm
  exact normalised_corpus cfg pv fallback corpus m hm h2 hne hw hthr ctx

open KV.KN.Output in
/-- **intermediate_eq**: over the model of `Output::SinkProbs` with both hooks (`writeBoth`): the
ARPA text and the intermediate files carry the same metadata counts, the same number of orders
and records per order, and line by line the same n-gram, the same probability and — wherever
the ARPA prints one (all orders but the highest) — the same back-off; the ARPA is a function
of the intermediate files. -/
theorem intermediate_eq (m : Model) :
    (writeBoth m).1.counts = (writeBoth m).2.counts ∧
    (writeBoth m).1.sections.length = (writeBoth m).2.files.length ∧
    (∀ i : Nat, (writeBoth m).1.sections[i]?.map List.length = (writeBoth m).2.files[i]?.map List.length) ∧
    (∀ (i j : Nat) (line : ArpaLine), (writeBoth m).1.sections[i]?.bind (·[j]?) = some line →
      ∃ r : InterRec, (writeBoth m).2.files[i]?.bind (·[j]?) = some r ∧ line.1 = r.1 ∧ line.2.1 = r.2.1 ∧
        (∀ b, line.2.2 = some b → b = r.2.2) ∧
        line.2.2.isSome = decide (i + 1 < (writeBoth m).2.files.length)) ∧
    (writeBoth m).1 = arpaFromInter (writeBoth m).2 :=
  KV.KN.Output.intermediate_eq m

open KV.KN.Output in
/-- with `header_counts_corpus` the metadata / header counts are the file / section lengths -/
theorem intermediate_header (m : Model) (h : m.header = m.orders.map List.length) :
    (interOf m).counts = (interOf m).files.map List.length ∧
    (arpaOf m).counts = (arpaOf m).sections.map List.length := by
  constructor
  · simp only [interOf, h, List.map_map, List.map_inj_left, Function.comp, List.length_map,
      implies_true]
  · simp only [arpaOf, h]
    apply List.ext_getElem?
    intro i
    simp only [List.getElem?_map, List.getElem?_mapIdx, Option.map_map]
    cases m.orders[i]? with
    | none => rfl
    | some l => simp only [Option.map_some, Function.comp_apply, List.length_map]

/-- **specials, order-1 model** (the closure clause is vacuous there: nothing of order ≥ 2 is
written, `KV.KN.Norm.no_higher_order1`) -/
theorem specials_corpus1 (cfg : Cfg) (pv : Bool) (fallback : Option Disc) (corpus : List (List Word)) (m : Model)
    (hm : Spec.estimate cfg pv fallback corpus = .ok m) (h1 : cfg.order = 1) (hne : corpus ≠ [])
    (hw : ∀ s ∈ corpus, ∀ w ∈ s, 3 ≤ w) :
    (Query.lookup m.orders [unk]).isSome = true ∧ (Query.lookup m.orders [bos]).isSome = true ∧
      (Query.lookup m.orders [eos]).isSome = true :=
  KV.KN.Norm.specials_corpus cfg pv fallback corpus m hm (Nat.le_of_eq h1.symm) hne hw
    (thr_mono_of_order1 h1)

theorem header_counts_corpus1 (cfg : Cfg) (pv : Bool) (fallback : Option Disc) (corpus : List (List Word)) (m : Model)
    (hm : Spec.estimate cfg pv fallback corpus = .ok m) (h1 : cfg.order = 1) (hne : corpus ≠ [])
    (hw : ∀ s ∈ corpus, ∀ w ∈ s, 3 ≤ w) : m.header = m.orders.map List.length :=
  KV.KN.Norm.header_counts_corpus cfg pv fallback corpus m hm (Nat.le_of_eq h1.symm) hne hw
    (thr_mono_of_order1 h1)

theorem normalised_corpus1 (cfg : Cfg) (pv : Bool) (fallback : Option Disc) (corpus : List (List Word))
    (m : Model) (hm : Spec.estimate cfg pv fallback corpus = .ok m) (h1 : cfg.order = 1)
    (hne : corpus ≠ []) (hw : ∀ s ∈ corpus, ∀ w ∈ s, 3 ≤ w) (ctx : Gram) :
    ((Query.vocabNoBos m.orders).map (Query.score m.orders ctx)).sum = 1 :=
  have ⟨hW, hm⟩ := estimate_corpus hm (Nat.le_of_eq h1.symm) hne hw (thr_mono_of_order1 h1)
  KV.KN.Norm.normalised_table cfg fallback _ m hm hW ctx

/-- the count table of every corpus satisfies the hypotheses of `normalised_table` -/
theorem tableWF_countFull (cfg : Cfg) (corpus : List (List Word)) (h2 : 2 ≤ cfg.order)
    (hne : corpus ≠ []) (hw : ∀ s ∈ corpus, ∀ w ∈ s, 3 ≤ w)
    (hthr : ∀ i, i < cfg.order - 1 → cfg.thr i ≤ cfg.thr (i + 1)) :
    Spec.TableWF cfg (countFull cfg.order corpus) :=
  KV.KN.Norm.tableWF_countFull cfg corpus h2 hne hw hthr

example : ∃ (cfg : Cfg) (corpus : List (List Word)), 2 ≤ cfg.order ∧ corpus ≠ [] ∧ (∀ s ∈ corpus, ∀ w ∈ s, 3 ≤ w) ∧
    (∀ i, i < cfg.order - 1 → cfg.thr i ≤ cfg.thr (i + 1)) :=
  ⟨{ order := 3, thr := fun i => if i = 0 then 0 else 1, excl := fun _ => false }, [[3, 4], [3], [4, 3, 5]],
   by decide, by decide, by decide, by decide⟩

/-- **prob_le_zero**: every written probability is in `[0, 1]` (so its `log10` is ≤ 0) and every
back-off weight is ≥ 0, for every corpus, when the user's fallback discounts are in range
(`ParseDiscountFallback` enforces `0 ≤ Dⱼ ≤ j`; the closed form is range-checked by the code). -/
theorem prob_le_zero (cfg : Cfg) (pv : Bool) (fallback : Option Disc) (corpus : List (List Word))
    (m : Model) (hm : Spec.estimate cfg pv fallback corpus = .ok m) (h2 : 2 ≤ cfg.order)
    (hne : corpus ≠ []) (hw : ∀ s ∈ corpus, ∀ w ∈ s, 3 ≤ w)
    (hthr : ∀ i, i < cfg.order - 1 → cfg.thr i ≤ cfg.thr (i + 1))
    (hfb : ∀ f, fallback = some f → DiscOK f) :
    ∀ l ∈ m.orders, ∀ e ∈ l, 0 ≤ e.p ∧ e.p ≤ 1 ∧ 0 ≤ e.bo :=
  have ⟨hW, hm⟩ := estimate_corpus hm (Nat.le_of_succ_le h2) hne hw hthr
  entry_bounds_table cfg fallback _ m hm hfb hW

/-- the back-off query itself is a probability for every context and vocabulary word -/
theorem score_bounds (cfg : Cfg) (pv : Bool) (fallback : Option Disc) (corpus : List (List Word))
    (m : Model) (hm : Spec.estimate cfg pv fallback corpus = .ok m) (h2 : 2 ≤ cfg.order)
    (hne : corpus ≠ []) (hw : ∀ s ∈ corpus, ∀ w ∈ s, 3 ≤ w)
    (hthr : ∀ i, i < cfg.order - 1 → cfg.thr i ≤ cfg.thr (i + 1))
    (hfb : ∀ f, fallback = some f → DiscOK f) (ctx : Gram) (w : Word)
    (hwv : w ∈ Query.vocabNoBos m.orders) :
    0 ≤ Query.score m.orders ctx w ∧ Query.score m.orders ctx w ≤ 1 :=
  have ⟨hW, hm⟩ := estimate_corpus hm (Nat.le_of_succ_le h2) hne hw hthr
  score_bounds_table cfg fallback _ m hm hfb hW ctx w hwv

theorem length_mergeSort_map_filter (c : Spec.Ctx) (l : List Emit) :
    (((l.filter keptBy).map (mkEntry c)).mergeSort Spec.specLe).length = (l.filter keptBy).length := by
  rw [(List.mergeSort_perm _ _).length_eq, List.length_map]

theorem kept_iff_unmarked (es : List Emit)
    (hpos : ∀ e ∈ es, e.marked = false → 1 ≤ e.count ∨ (e.gram.length = 1 ∧ e.gram.all isSpecial = true))
    (hsp : ∀ e ∈ es, e.gram.length = 1 → e.gram.all isSpecial = true → e.marked = false) :
    (es.filter keptBy).length = es.countP (fun e => !e.marked) := by
  rw [List.countP_eq_length_filter]
  congr 1
  exact List.filter_congr fun e he => keptBy_eq_not_marked (hsp e he) (hpos e he)

/-- **header_counts**: the count written to the ARPA header / intermediate metadata
(`counts_pruned` = number of unmarked records) is the number of entries written. -/
theorem header_counts (c : Spec.Ctx) (n : Nat) (hn : n < c.es.length)
    (hpos : ∀ e ∈ c.es[n], e.marked = false → 1 ≤ e.count ∨ (e.gram.length = 1 ∧ e.gram.all isSpecial = true))
    (hsp : ∀ e ∈ c.es[n], e.gram.length = 1 → e.gram.all isSpecial = true → e.marked = false) :
    ((ordersOf c).getD n []).length = (Spec.stats c.es[n]).countPruned := by
  have : (ordersOf c).getD n [] = ((c.es[n].filter keptBy).map (mkEntry c)).mergeSort Spec.specLe := by
    unfold ordersOf
    simp [List.getD, hn]
  rw [this, length_mergeSort_map_filter, kept_iff_unmarked _ hpos hsp]
  rfl

/-- **header_counts, for every corpus**: the header / metadata counts are the numbers of entries -/
theorem header_counts_corpus (cfg : Cfg) (pv : Bool) (fallback : Option Disc) (corpus : List (List Word)) (m : Model)
    (hm : Spec.estimate cfg pv fallback corpus = .ok m) (h2 : 2 ≤ cfg.order) (hne : corpus ≠ [])
    (hw : ∀ s ∈ corpus, ∀ w ∈ s, 3 ≤ w) (hthr : ∀ i, i < cfg.order - 1 → cfg.thr i ≤ cfg.thr (i + 1)) :
    m.header = m.orders.map List.length :=
  KV.KN.Norm.header_counts_corpus cfg pv fallback corpus m hm (Nat.le_of_succ_le h2) hne hw hthr

/-- **closed, for every corpus**: context and suffix of every written n-gram are written -/
theorem closed_corpus (cfg : Cfg) (pv : Bool) (fallback : Option Disc) (corpus : List (List Word)) (m : Model)
    (hm : Spec.estimate cfg pv fallback corpus = .ok m) (h2 : 2 ≤ cfg.order) (hne : corpus ≠ [])
    (hw : ∀ s ∈ corpus, ∀ w ∈ s, 3 ≤ w) (hthr : ∀ i, i < cfg.order - 1 → cfg.thr i ≤ cfg.thr (i + 1))
    (g : Gram) (hg : 2 ≤ g.length) (hin : (Query.lookup m.orders g).isSome = true) :
    (Query.lookup m.orders g.tail).isSome = true ∧ (Query.lookup m.orders g.dropLast).isSome = true :=
  KV.KN.Norm.closed_corpus cfg pv fallback corpus m hm h2 hne hw hthr g hg hin

theorem specials_corpus (cfg : Cfg) (pv : Bool) (fallback : Option Disc) (corpus : List (List Word)) (m : Model)
    (hm : Spec.estimate cfg pv fallback corpus = .ok m) (h2 : 2 ≤ cfg.order) (hne : corpus ≠ [])
    (hw : ∀ s ∈ corpus, ∀ w ∈ s, 3 ≤ w) (hthr : ∀ i, i < cfg.order - 1 → cfg.thr i ≤ cfg.thr (i + 1)) :
    (Query.lookup m.orders [unk]).isSome = true ∧ (Query.lookup m.orders [bos]).isSome = true ∧
      (Query.lookup m.orders [eos]).isSome = true :=
  KV.KN.Norm.specials_corpus cfg pv fallback corpus m hm (Nat.le_of_succ_le h2) hne hw hthr

/-! ## the option-vector rule of `ParsePruning` is what `closed` rests on -/

/-- the rule the current tree applies to `--prune` vectors (observed by the probe on fixed
vectors: a decrease at the first, a middle and only the LAST position, too many values, vectors
shorter than the order) is the model's `pruneVectorOK` -/
theorem prune_rule_tree : ∀ x ∈ KV.Gen.C06.pruneProbe, pruneVectorOK x.1 x.2.1 = x.2.2 := by decide

theorem getD_mono_of_nonDecreasing : ∀ (l : List Nat) (d : Nat), l.getLast? = some d → nonDecreasing l = true →
    ∀ i, l.getD i d ≤ l.getD (i + 1) d
  | [], _, h, _, _ => by cases h
  | [a], d, h, _, i => by
    cases (Option.some.inj h)
    cases i <;> exact Nat.le_refl _
  | a :: b :: t, d, h, hn, i => by
    rw [List.getLast?_cons_cons] at h
    simp only [nonDecreasing, Bool.and_eq_true, decide_eq_true_eq] at hn
    cases i with
    | zero => exact hn.1
    | succ j => exact getD_mono_of_nonDecreasing (b :: t) d h hn.2 j

theorem padPrune_mono (vals : List Nat) (h : nonDecreasing vals = true) (i : Nat) :
    padPrune vals i ≤ padPrune vals (i + 1) := by
  unfold padPrune
  cases hl : vals.getLast? with
  | none => simp
  | some d => exact getD_mono_of_nonDecreasing vals d hl h i

/-- what an accepted `--prune` option means: the values parse, satisfy `pruneVectorOK`, and the
thresholds used are the padded ones — in particular they never decrease -/
theorem parsePruning_ok (toks : List String) (order : Nat) (thr : Nat → Nat)
    (h : parsePruning toks order = .ok thr) :
    (∃ vals, toks.mapM parseU64 = some vals ∧ (vals = [] ∨ pruneVectorOK vals order = true) ∧ thr = padPrune vals) ∧
    ∀ i, thr i ≤ thr (i + 1) := by
  unfold parsePruning at h
  cases hm : toks.mapM parseU64 with
  | none => simp [hm] at h
  | some vals =>
    simp only [hm] at h
    by_cases he : vals.isEmpty = true
    · simp only [he, if_true] at h
      have hv : vals = [] := by simpa using he
      cases h
      exact ⟨⟨vals, rfl, Or.inl hv, by subst hv; rfl⟩, fun _ => Nat.le_refl _⟩
    · simp only [he] at h
      by_cases hc : vals.length > order
      · simp [hc] at h
      · by_cases hd : nonDecreasing vals = true
        · simp [hc, hd] at h
          cases h
          refine ⟨⟨vals, rfl, Or.inr ?_, rfl⟩, padPrune_mono vals hd⟩
          simp [pruneVectorOK, hd]; omega
        · simp [hc, hd] at h

/-- **closed, under the rule lmplz enforces on `--prune`**: whenever `ParsePruning` accepts the
option, every written n-gram has its context and its suffix written one order lower. -/
theorem closed_under_prune_rule (cfg : Cfg) (toks : List String) (hp : parsePruning toks cfg.order = .ok cfg.thr)
    (pv : Bool) (fallback : Option Disc) (corpus : List (List Word)) (m : Model)
    (hm : Spec.estimate cfg pv fallback corpus = .ok m) (h2 : 2 ≤ cfg.order) (hne : corpus ≠ [])
    (hw : ∀ s ∈ corpus, ∀ w ∈ s, 3 ≤ w) (g : Gram) (hg : 2 ≤ g.length)
    (hin : (Query.lookup m.orders g).isSome = true) :
    (Query.lookup m.orders g.tail).isSome = true ∧ (Query.lookup m.orders g.dropLast).isSome = true :=
  KV.KN.Norm.closed_corpus cfg pv fallback corpus m hm h2 hne hw
    (fun i _ => (parsePruning_ok toks cfg.order cfg.thr hp).2 i) g hg hin

/-- the corpus `a b c / a b c` as its order-3 count table -/
def ruleWitnessTable : Spec.Table := [([2, 5, 4], 2), ([3, 1, 1], 2), ([4, 3, 1], 2), ([5, 4, 3], 2)]

def ruleWitnessCfg : Cfg := { order := 3, thr := padPrune [0, 2, 1], excl := fun _ => false }

/-- **the rule is necessary**: with the vector `0 2 1` (refused by `pruneVectorOK`; a tree whose
check skips the last pair accepts it) the trigram `a b c` (count 2 > 1) is written while its
context `a b` (count 2 ≤ 2) and every other bigram is pruned: closure fails. -/
theorem closed_fails_without_rule :
    pruneVectorOK [0, 2, 1] 3 = false ∧
    ∃ e ∈ Spec.ents ruleWitnessCfg ruleWitnessTable 3, e.gram = [5, 4, 3] ∧ keptBy e = true ∧
      ∀ e' ∈ Spec.ents ruleWitnessCfg ruleWitnessTable 2, keptBy e' = false := by
  decide

/-- **closed** (specification): every written n-gram of order ≥ 2 has its context (drop the
newest word) and its suffix (drop the oldest word) written one order lower — under pruning too. -/
theorem closed_spec {c : Spec.Ctx} (h : TableOK c) (g : Gram) (hg : 2 ≤ g.length)
    (hin : (Query.lookup (ordersOf c) g).isSome) :
    (Query.lookup (ordersOf c) g.tail).isSome ∧ (Query.lookup (ordersOf c) g.dropLast).isSome :=
  closed_tableOK h g hg hin

/-- **specials**: `<unk>`, `<s>`, `</s>` are unigrams of the output whenever they have records
(`<unk>`, `<s>` always; `</s>` as soon as the corpus has one line) — they are kept even when marked. -/
theorem specials (c : Spec.Ctx) (w : Word) (hw : isSpecial w = true) (hrec : ∃ e ∈ c.esAt 1, e.gram = [w]) :
    (Query.lookup (ordersOf c) [w]).isSome := by
  obtain ⟨e, he, hg⟩ := hrec
  refine (lookup_isSome_iff c (List.cons_ne_nil _ _)).mpr ?_
  exact keptIn_iff.mpr ⟨e, he, by simp [keptBy, hg, hw], hg⟩

end KV.C06
