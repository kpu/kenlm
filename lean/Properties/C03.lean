import Proofs.SearchSim
import Proofs.ProbingRefines
import Properties.C01
/-! C03 — All model data structures are observationally equivalent.

The query algorithm is proved against the *interface* `TableFor a T`; whatever a structure does
internally (probing with any multiplier, trie with any pointer compression, any sort memory), if its
lookups refine a table that represents the model, the results coincide.  The refinement of the two
concrete searches to the table rests on the C20 theorems (exact map, interpolation search, bit fields)
and is tied by the six-way differential stream. -/
namespace KV.C03
open KV.Arpa KV.Table KV.Score KV.State KV.QuantBins

/-- two structures that both represent the model give the same probability for every valid state and word -/
theorem prob_independent_of_table (a : Arpa) (wf : WellFormed a) (T₁ T₂ : Table) (tf₁ : TableFor a T₁) (tf₂ : TableFor a T₂)
    (h : List Word) (s : State) (sf : StateFor a h s) (w : Word) (hw : a.gram [w] ≠ none) :
    (fullScore (tableSearch T₁) s w).1.prob = (fullScore (tableSearch T₂) s w).1.prob := by
  rw [KV.C01.fullScore_prob_table a T₁ wf tf₁ h s sf w hw, KV.C01.fullScore_prob_table a T₂ wf tf₂ h s sf w hw]

theorem forgot_prob_independent_of_table (a : Arpa) (wf : WellFormed a) (T₁ T₂ : Table) (tf₁ : TableFor a T₁) (tf₂ : TableFor a T₂)
    (ctx : List Word) (w : Word) (hw : a.gram [w] ≠ none) :
    (fullScoreForgotState (tableSearch T₁) ctx w).1.prob = (fullScoreForgotState (tableSearch T₂) ctx w).1.prob := by
  rw [forgot_prob_aux wf tf₁ ctx hw, forgot_prob_aux wf tf₂ ctx hw]

/-- The mark loss of DESIGN §6-G cannot change a left-to-right probability: whichever blanks lose their
extends-right mark in the trie builder, every sequence scores as with all marks present (probing),
even though the two runs go through *different* (shorter) states. -/
theorem trie_mark_loss_harmless (a : Arpa) (wf : WellFormed a) (unmarked : List Word → Bool) (ws : List Word)
    (hv : ∀ w ∈ ws, a.gram [w] ≠ none) :
    (scoreSeq (tableSearch (build a unmarked)) nullContextState ws).1 =
      (scoreSeq (tableSearch (build a)) nullContextState ws).1 := by
  rw [(KV.C01.scoreSeq_spec a wf unmarked ws [] _ (KV.C01.stateFor_null a) hv).1,
      (KV.C01.scoreSeq_spec a wf (fun _ => false) ws [] _ (KV.C01.stateFor_null a) hv).1]

/-- **Refinement interface**: any two searches related by a depth-indexed node relation under which every lookup of
the generic algorithm returns the same result give the same `FullScore` results (probability, rest, matched length,
left-independence flag, out-state) for every in-state and word.  The concrete structures plug in here. -/
theorem search_refinement {ν₁ ν₂ : Type} (S₁ : Search ν₁) (S₂ : Search ν₂) (R : Nat → ν₁ → ν₂ → Prop) (sim : Sim S₁ S₂ R)
    (hN : 2 ≤ S₁.order) (s : State) (w : Word) :
    (fullScore S₁ s w).1.prob = (fullScore S₂ s w).1.prob ∧
    (fullScore S₁ s w).1.ngramLength = (fullScore S₂ s w).1.ngramLength ∧
    (fullScore S₁ s w).1.independentLeft = (fullScore S₂ s w).1.independentLeft ∧
    (fullScore S₁ s w).1.rest = (fullScore S₂ s w).1.rest ∧
    (fullScore S₁ s w).2 = (fullScore S₂ s w).2 := fullScore_sim S₁ S₂ R sim hN s w

/-- The probing search (`HashedSearch`: per-order probing tables keyed by the chained word hash,
node = hash so far) gives exactly the results of the abstract table it represents — for *every* state and word,
any bucket counts / probing multiplier (they only enter through the C20 invariant `Inv`/`Abs` of each table, which
`run_refines_map` establishes for any insertion sequence below capacity), any combining function, provided the
chained hash is injective on the table's n-grams (explicit hypothesis; checked per generated model). -/
theorem probing_refines (combine : Nat → Word → Nat) (P : KV.ProbingLM.PLM) (T : Table)
    (Mmid : Nat → Nat → Option Nat) (Mlong : Nat → Option Nat)
    (rep : KV.ProbingLM.Represents combine P T Mmid Mlong) (inj : KV.ProbingLM.HashInjective combine T)
    (hN : 2 ≤ T.order) (s : State) (w : Word) :
    (fullScore (KV.ProbingLM.search combine P) s w).1.prob = (fullScore (tableSearch T) s w).1.prob ∧
    (fullScore (KV.ProbingLM.search combine P) s w).1.ngramLength = (fullScore (tableSearch T) s w).1.ngramLength ∧
    (fullScore (KV.ProbingLM.search combine P) s w).1.independentLeft = (fullScore (tableSearch T) s w).1.independentLeft ∧
    (fullScore (KV.ProbingLM.search combine P) s w).1.rest = (fullScore (tableSearch T) s w).1.rest ∧
    (fullScore (KV.ProbingLM.search combine P) s w).2 = (fullScore (tableSearch T) s w).2 :=
  fullScore_sim _ _ _ (KV.ProbingLM.probing_sim combine P T Mmid Mlong rep inj hN)
    (by show 2 ≤ P.order; rw [rep.order]; exact hN) s w

/-- hence: a probing model that represents `build a unmarked` returns the ARPA recursion -/
theorem probing_prob (a : Arpa) (wf : WellFormed a) (unmarked : List Word → Bool) (combine : Nat → Word → Nat)
    (P : KV.ProbingLM.PLM) (Mmid : Nat → Nat → Option Nat) (Mlong : Nat → Option Nat)
    (rep : KV.ProbingLM.Represents combine P (build a unmarked) Mmid Mlong)
    (inj : KV.ProbingLM.HashInjective combine (build a unmarked))
    (h : List Word) (s : State) (sf : StateFor a h s) (w : Word) (hw : a.gram [w] ≠ none) :
    (fullScore (KV.ProbingLM.search combine P) s w).1.prob = score a h w := by
  rw [(probing_refines combine P _ Mmid Mlong rep inj wf.order_ge s w).1]
  exact KV.C01.fullScore_prob a wf unmarked h s sf w hw

/-- If the values of an order, counted with multiplicity, are no more than
the bins, every value is decoded exactly (each equal-population bin holds at most one value; the encoder finds
the first centre equal to the value). Unbounded: any sorted list, any number of bins. -/
theorem quant_exact (vals : List Rat) (bins : Nat) (hsorted : vals.Pairwise (· ≤ ·)) (hn : vals.length ≤ bins)
    (v : Rat) (hv : v ∈ vals) : roundTrip vals bins v = some v :=
  roundTrip_of_length_le vals bins hsorted hn v hv

/-- **Equal multiplicity.**  The property's own wording (“no more distinct values than bins”) *is* true of the code
when every distinct value occurs equally often: `k` distinct values × `m` copies each with `k` bins give
homogeneous bins whose mean is the value itself. (In float32/double the sum of `m < 2^29` copies of a float is
exact, which the `equalmult` stream checks bit-exactly on the real code.) -/
theorem quant_equal_multiplicity_lossless (m : Nat) (hm : 0 < m) (ds : List Rat) (hsorted : ds.Pairwise (· < ·))
    (v : Rat) (hv : v ∈ ds) : roundTrip (ds.flatMap (List.replicate m)) ds.length v = some v := by
  unfold roundTrip
  simp only [makeBins_equal_mult m hm ds]
  obtain ⟨j, hj, hjv⟩ := List.mem_iff_getElem.mp hv
  apply roundTrip_of_index (ds.map some) v j (by simpa using hj) (by simp [hjv])
  intro i hi
  have := (List.pairwise_iff_getElem.mp hsorted) i j (by omega) hj hi
  simp [ltOpt, hjv] at this ⊢
  exact this

/-- each equal-population bin holds at most one value when count ≤ bins -/
theorem quant_bin_singleton (n bins i : Nat) (hb : 0 < bins) (hn : n ≤ bins) :
    binHi n bins i - binLo n bins i ≤ 1 := bin_width_le_one n bins i hb hn

example : [-3/4, -1/2, -1/4].all (fun v => roundTrip [-3/4, -1/2, -1/4] 4 v == some v) = true := by decide +kernel
example : roundTrip ([-3/4, -1/4].flatMap (List.replicate 3)) 2 (-3/4) = some (-3/4) := by decide +kernel

/-- The property's wording (“no order has more *distinct* values than bins”) is **false** for the code as it is:
two distinct values, two bins, but four values — `-3/4` decodes to the mean `-1/2`.  Replayed on
`QuantTrieModel` by the `quant-witness` stream (known finding). -/
theorem quant_distinct_fails :
    ¬ ∀ (vals : List Rat) (bins : Nat) (v : Rat), vals.eraseDups.length ≤ bins → v ∈ vals → roundTrip vals bins v = some v := by
  intro h
  have := h [-3/4, -1/4, -1/4, -1/4] 2 (-3/4) (by decide +kernel) (by simp)
  revert this
  decide +kernel

example : roundTrip [-3/4, -1/4, -1/4, -1/4] 2 (-3/4) = some (-1/2) := by decide +kernel

/-- `backoff_bits = 1` leaves `2^1 − 2 = 0` bins besides the two reserved codes; `Bins::Encode(value, 2)` on the
empty range returns the code `2`, which does not fit the 1-bit field (`WriteInt25` does not mask): every
non-zero back-off is stored as code `2 mod 2 = 0` = "no extension" and the neighbouring bit is set.
So "same structural results as the unquantised trie" fails for this configuration (known finding). -/
theorem quant_backoff_one_bit_overflows (v : Rat) :
    encodeFrom 2 [] v = 2 ∧ ¬ (encodeFrom 2 [] v < 2 ^ 1) ∧ (2 ^ 1 - 2 = 0) := by
  simp [encodeFrom, lowerBound]

/-- A bin centre is stored as float32.  Back-offs in the sub-normal range can average to a value that
underflows to `-0.0` — the bit pattern reserved for "no extension": the mean of {−9.8e−45, −1.4e−45, +9.8e−45}
is negative and below 2⁻¹⁵⁰ in magnitude, so the centre reads back as `kNoExtensionBackoff` and every
back-off encoded to that bin loses its "extends right" mark (known finding, observed on QuantTrieModel). -/
theorem quant_centre_underflow_witness :
    mean [-98 / 10^46, -14 / 10^46, 98 / 10^46] < 0 ∧
    KV.Arpa.flushBackoff (mean [-98 / 10^46, -14 / 10^46, 98 / 10^46]) = 0 := by decide +kernel

end KV.C03
