import Proofs.InterpReal
import Proofs.InterpSpec
import Proofs.InterpCharge
import Proofs.InterpVocab
import Proofs.InterpBSE
import Proofs.InterpStream
import Proofs.InterpSorted
import Proofs.InterpPass3
import Proofs.InterpKway
import Proofs.InterpBoMat
import Proofs.InterpMergeVocab
/-!
# C13 — Log-linear interpolation is the normalised weighted product of its inputs

Statements over the executable model `Model/Interp.lean`.  Contexts are in natural order
(`c = y :: c'` backs off to `c'`).  `cs : Comps W` are the weighted components `(λᵢ, mᵢ)` already
renumbered to universal word ids, `V` the union vocabulary, `bos` the id of `<s>`.

Generic part: any field `F` with `E : ℚ → F`, `E (a+b) = E a * E b`, `E 0 = 1` (an abstract
`x ↦ 10^x`; all log-space sums are exact rationals).  Real part: `E10 q = 10^q` (`Real.rpow`),
which yields the log-level statements of the property.

**Label: partial.**  The first part is about the functional model, which mirrors the *values*
computed by the three passes (`merge_probabilities.cc`, `normalize.cc`,
`backoff_reunification.cc`).  The later sections tie the mechanics of the passes to it: the stream
recursions of pass 1 and pass 2 on the sorted streams (`pass1_on_sorted_streams`, `pass1_kway`,
`pass2_on_sorted_streams`), the `BackoffManager` matrix and the charging loop (`backoff_matrix_get`,
`charging_loop`), the back-off stream and the zip of pass 3 (`pass3_zip`), `BoundedSequenceEncoding`
(`bse_roundtrip`, `bse_no_ub`) and the id assignment of `MergeVocab` (`merge_vocab_ids`).  Not
modelled: that `util::stream::Sort` sorts (C16), `RewindableStream`, threads, float32/long-double
rounding; those are tied only through the final ARPA output of `bin/interpolate`
(`checks/C13.py`).  The termination clause of the property is *false* for the faithful model on
mixed orders (`abort_witness`), true for equal orders (`equal_orders_not_stuck`).
-/
namespace KV.C13
open KV.Interp

section Generic
variable {W : Type} [DecidableEq W] {F : Type} [Field F]

/-- What the theorems assume about the inputs (all decidable, all checked by `checks/C13.py` on
every generated tuple of lmplz models). -/
structure WellFormed (cs : Comps W) (V : List W) (bos : W) : Prop where
  nodupV : V.Nodup
  bosV : bos ∈ V
  /-- `Σᵢ λᵢ log pᵢ(<s>) = 0` (lmplz writes `p(<s>) = 1`; `normalize.cc` subtracts exactly 1) -/
  bos0 : usum cs [] bos = 0
  entries : EntriesOK cs V bos
  prefixClosed : PrefixClosedD cs

/-- **Telescoping identity.**  The incremental normaliser of `normalize.cc`
`Z(c) = 10^(log Z(c') + B(c)) + Σ_{x explicit after c} (10^{s(x|c)} − 10^{s(x|c') + B(c)})`
equals the defining sum `Σ_{w ∈ V∖{<s>}} 10^{Σᵢ λᵢ scoreᵢ(w|c)}` for every context `c`
(induction on the context; no bound on its length). -/
theorem z_incremental (E : ℚ → F) (hE : IsExp E) (cs : Comps W) (V : List W) (bos : W)
    (wf : WellFormed cs V bos) (c : List W) :
    Zinc E cs V c = Zdirect E cs V bos c :=
  zinc_eq_zdirect E hE cs V bos wf.nodupV wf.bosV wf.bos0 (explicit_ok wf.entries) c

/-- **Formula (linear form).**  The ARPA back-off recursion over the entries written by the tool
gives, for every context `c` (of any length) and every word `w` of the union vocabulary,
`10^(Σᵢ λᵢ scoreᵢ(w|c)) / Z(c)` with the *defining* normaliser. -/
theorem formula (E : ℚ → F) (hE : IsExp E) (cs : Comps W) (V : List W) (bos : W)
    (wf : WellFormed cs V bos) (hZ : ∀ c, Zdirect E cs V bos c ≠ 0)
    (w : W) (hw : ([], w) ∈ unionGrams cs) (c : List W) :
    outScore (interpOut E cs V) c w = E (usum cs c w) / Zdirect E cs V bos c := by
  have hZ' : ∀ c, Zinc E cs V c ≠ 0 := fun c => by rw [z_incremental E hE cs V bos wf c]; exact hZ c
  rw [outScore_interpOut E hE cs V wf.prefixClosed hZ' w hw c,
    z_incremental E hE cs V bos wf c]

/-- **Normalisation.**  Every context's distribution over `V ∖ {<s>}` — as defined by the
written entries and the back-off recursion — sums to one. -/
theorem normalised (E : ℚ → F) (hE : IsExp E) (cs : Comps W) (V : List W) (bos : W)
    (wf : WellFormed cs V bos) (hZ : ∀ c, Zdirect E cs V bos c ≠ 0)
    (hV : ∀ w ∈ V, ([], w) ∈ unionGrams cs) (c : List W) :
    ((V.filter (fun w => decide (w ≠ bos))).map (fun w => outScore (interpOut E cs V) c w)).sum = 1 := by
  rw [List.map_congr_left
    (fun w hw => formula E hE cs V bos wf hZ w (hV w (List.mem_filter.1 hw).1) c)]
  exact sum_map_div_sum (fun w => E (usum cs c w)) _ (hZ c)

/-- **Union of the n-gram sets.**  The written model has exactly the n-grams of the components,
each once. -/
theorem ngram_union (E : ℚ → F) (cs : Comps W) (V : List W) :
    ((interpOut E cs V).map (fun e => (e.ctx, e.word))).Nodup ∧
    ∀ c w, (c, w) ∈ (interpOut E cs V).map (fun e => (e.ctx, e.word)) ↔
      ∃ p ∈ cs, ∃ e ∈ p.2.entries, e.ctx = c ∧ e.word = w := by
  rw [map_interpOut]
  exact ⟨nodup_unionGrams cs, fun c w => mem_unionGrams⟩

/-- **Single model, weight one.**  If the component is normalised (`Z ≡ 1`), the written model
*is* the component: same value of the back-off recursion for every context and word, every
written probability equals the component's, and the back-off written for a context that has
extensions is the component's back-off. -/
theorem single_identity (E : ℚ → F) (hE : IsExp E) (m : LM W) (V : List W) (bos : W)
    (wf : WellFormed [(1, m)] V bos) (hnorm : ∀ c, Zdirect E [(1, m)] V bos c = 1) :
    (∀ c w, ([], w) ∈ unionGrams [(1, m)] →
      outScore (interpOut E [(1, m)] V) c w = E (m.rawScore c w)) ∧
    (∀ c w, pOut E [(1, m)] V c w = E (m.rawScore c w)) ∧
    (∀ y c, boSame E [(1, m)] V (y :: c) = E (m.boOf (y :: c))) := by
  have hu : ∀ c w, usum [(1, m)] c w = m.rawScore c w := fun c w => by
    rw [usum, List.map_cons, List.map_nil, List.sum_cons, List.sum_nil, add_zero, one_mul]
  have hb : ∀ c, bsum [(1, m)] c = m.boOf c := fun c => by
    rw [bsum, List.map_cons, List.map_nil, List.sum_cons, List.sum_nil, add_zero, one_mul]
  have hZi : ∀ c, Zinc E [(1, m)] V c = 1 := fun c => by
    rw [z_incremental E hE _ V bos wf c]; exact hnorm c
  refine ⟨fun c w hw => ?_, fun c w => ?_, fun y c => ?_⟩
  · rw [formula E hE _ V bos wf (fun c => by rw [hnorm c]; exact one_ne_zero) w hw c, hnorm c, hu,
      div_one]
  · rw [pOut, hZi, hu, div_one]
  · rw [boSame, hZi, hZi, hb, mul_one, div_one]

/-- **Tool score = specified score.**  On components where `<unk>` occurs only as a unigram
without back-off and all words of n-grams have unigrams, the weighted sum the tool forms from
look-ups on universal ids equals the weighted sum of the components' back-off scores with every
word missing from a component mapped to that component's `<unk>`. -/
theorem spec_eq_tool (cs : Comps W) (h : ∀ p ∈ cs, UnkClean p.2) (c : List W) (w : W) :
    usum cs c w = usumSpec cs c w := by
  unfold usum usumSpec
  congr 1
  exact List.map_congr_left (fun p hp => by rw [rawScore_eq_score p.2 (h p hp)])

/-- **Formula with the specified component scores** (the statement of the property): the written
model evaluates to `10^(Σᵢ λᵢ scoreᵢ(w|c)) / Σ_{v ∈ V∖{<s>}} 10^(Σᵢ λᵢ scoreᵢ(v|c))` where `scoreᵢ`
maps every word unknown to component `i` to its `<unk>`. -/
theorem formula_spec (E : ℚ → F) (hE : IsExp E) (cs : Comps W) (V : List W) (bos : W)
    (wf : WellFormed cs V bos) (hu : ∀ p ∈ cs, UnkClean p.2)
    (hZ : ∀ c, Zdirect E cs V bos c ≠ 0)
    (w : W) (hw : ([], w) ∈ unionGrams cs) (c : List W) :
    outScore (interpOut E cs V) c w =
      E (usumSpec cs c w) /
        ((V.filter (fun v => decide (v ≠ bos))).map (fun v => E (usumSpec cs c v))).sum := by
  have hs : usum cs = usumSpec cs := funext fun c => funext fun w => spec_eq_tool cs hu c w
  rw [formula E hE cs V bos wf hZ w hw c, Zdirect, hs]

/-- **Passes 1+2 refine the back-off recursion.**  The record written by `MergeProbabilities`
(probability of the longest suffix present + the level `from` it was found at) with the back-offs
charged by `Recurse::SameContext` gives: `Prob()` = the weighted back-off score in the full
context (always), and — when every component is suffix closed — `LowerProb()` = the weighted
back-off score in the shorter context, hence the code-shaped normaliser `ZincTool` is `Zinc`. -/
theorem pass12_refines (E : ℚ → F) (cs : Comps W) (V : List W) :
    (∀ c x, toolProb cs c x = usum cs c x) ∧
    ((∀ p ∈ cs, SuffixClosed p.2) →
      (∀ y c x, toolLower cs y c x = usum cs c x) ∧ (∀ c, ZincTool E cs V c = Zinc E cs V c)) :=
  ⟨toolProb_eq_usum cs, fun hs => ⟨toolLower_eq_usum cs hs, zincTool_eq_zinc E cs V hs⟩⟩

/-- **Termination, equal orders.**  If all components have the same order, every union n-gram
below that order gets a back-off record: `ReunifyBackoff` cannot hit
"Streams were not the same size during merging". -/
theorem equal_orders_not_stuck (cs : Comps W) (n : Nat) (h : ∀ p ∈ cs, p.2.order = n) :
    stuck cs = [] := by
  rw [List.eq_nil_iff_forall_not_mem]
  intro g hg
  obtain ⟨hu, hlen, hb⟩ := (mem_stuck cs).1 hg
  obtain ⟨p, hp, he⟩ := mem_unionN.1 hu
  -- the component the n-gram comes from holds it below its top order
  rw [(hasBackoffRecord_iff cs).2 (Or.inr ⟨p, hp,
    by rw [h p hp]; exact lt_of_lt_of_le hlen (maxOrder_le cs n (fun q hq => le_of_eq (h q hq))), he⟩)] at hb
  cases hb

end Generic

/-! ## The termination clause fails for the faithful model on mixed orders
(finding K of DESIGN.md §6; `unequal-orders-ngram-without-backoff-record` in known_findings.jsonl)

Words: 0 `<unk>`, 1 `<s>`, 2 `</s>`, 3 `a`, 4 `b`.  Component A = `lmplz -o 2` on the corpus "a",
component B = `lmplz -o 3` on the corpus "b" (n-gram sets as produced by lmplz; the values are
irrelevant for the abort).  The bigrams `<s> a` and `a </s>` are at A's top order (so A does not
feed them to the `BackoffManager`), B does not contain them, and no trigram of the union extends
them: pass 2 writes 5 bigram probabilities but 3 bigram back-offs. -/

def witnessA : LM Nat :=
  { order := 2, unk := 0,
    entries := [⟨[], 0, -1, 0⟩, ⟨[], 1, 0, -1⟩, ⟨[], 2, -1, 0⟩, ⟨[], 3, -1, -1⟩,
                ⟨[1], 3, -1, 0⟩, ⟨[3], 2, -1, 0⟩] }

def witnessB : LM Nat :=
  { order := 3, unk := 0,
    entries := [⟨[], 0, -1, 0⟩, ⟨[], 1, 0, -1⟩, ⟨[], 2, -1, 0⟩, ⟨[], 4, -1, -1⟩,
                ⟨[1], 4, -1, -1⟩, ⟨[4], 2, -1, 0⟩, ⟨[1, 4], 2, -1, 0⟩] }

def witness : Comps Nat := [(1/2, witnessA), (1/2, witnessB)]

theorem abort_witness : stuck witness = [[1, 3], [3, 2]] := by decide

/-- **Negation of the termination clause over the model**: it is not true that every tuple of
well-formed components is free of stuck n-grams (replayed on `bin/interpolate` by the check:
exit 134). -/
theorem termination_fails_mixed_orders :
    ¬ ∀ cs : Comps Nat, WellFormed cs [0, 1, 2, 3, 4] 1 → stuck cs = [] := by
  intro h
  have hw : WellFormed witness [0, 1, 2, 3, 4] 1 :=
    { nodupV := by decide
      bosV := by decide
      bos0 := by decide +kernel
      entries := by unfold EntriesOK; decide
      prefixClosed := by unfold PrefixClosedD; decide }
  have := h witness hw
  rw [abort_witness] at this
  exact List.cons_ne_nil _ _ this

/-- Suffix closure is *needed* for `LowerProb()`: a component with the trigram `a b x` but without
the bigram `b x` (words 3 `a`, 4 `b`, 5 `x`; `b` has back-off −1/2).  The code charges nothing to
the lower probability because the full n-gram was found, although the shorter context backs off. -/
def notSuffixClosed : LM Nat :=
  { order := 3, unk := 0,
    entries := [⟨[], 0, -2, 0⟩, ⟨[], 3, -1, -1/4⟩, ⟨[], 4, -1, -1/2⟩, ⟨[], 5, -1, 0⟩,
                ⟨[3], 4, -1/2, -1/8⟩, ⟨[3, 4], 5, -1/4, 0⟩] }

theorem toolLower_needs_suffix_closure :
    toolLower [(1, notSuffixClosed)] 3 [4] 5 = -1 ∧ usum [(1, notSuffixClosed)] [4] 5 = -3/2 := by
  constructor <;> decide +kernel

/-- **Union vocabulary.**  The universal vocabulary lists every word of every component (and
`<unk>`) exactly once and nothing else; the universal id of a local id denotes the same string,
renumbering is injective on a component's vocabulary, and all components' `<unk>` coincide. -/
theorem vocab_union (ms : List LocalLM) :
    (unionVocab ms).Nodup ∧
    (∀ s, s ∈ unionVocab ms ↔ s = "<unk>" ∨ ∃ m ∈ ms, s ∈ m.vocab) ∧
    (∀ m ∈ ms, ∀ i (hi : i < m.vocab.length),
      (unionVocab ms)[toUniv (unionVocab ms) m.vocab i]? = some m.vocab[i]) ∧
    (∀ m ∈ ms, m.vocab.Nodup → ∀ i j, i < m.vocab.length → j < m.vocab.length →
      toUniv (unionVocab ms) m.vocab i = toUniv (unionVocab ms) m.vocab j → i = j) ∧
    (∀ m ∈ ms, m.vocab[0]? = some "<unk>" →
      toUniv (unionVocab ms) m.vocab 0 = (unionVocab ms).idxOf "<unk>") :=
  ⟨nodup_unionVocab ms, fun _ => mem_unionVocab, fun _ hm _ hi => unionVocab_toUniv hm hi,
    fun _ hm hnd _ _ hi hj h => toUniv_inj hm hnd hi hj h, fun _ _ h0 => toUniv_unk _ h0⟩

/-- **Union n-gram set, from the files.**  The n-grams written for components read from
intermediate files (local ids + vocabularies) are exactly the renumbered n-grams of the
components. -/
theorem ngram_union_renumbered {F : Type} [Field F] (E : ℚ → F) (ms : List LocalLM) (ls : List ℚ)
    (hl : ls.length = ms.length) (V : List Nat) (c : List Nat) (w : Nat) :
    (c, w) ∈ (interpOut E (globalizeAll ms ls) V).map (fun e => (e.ctx, e.word)) ↔
      ∃ m ∈ ms, ∃ e ∈ m.entries, e.ctx.map (toUniv (unionVocab ms) m.vocab) = c ∧
        toUniv (unionVocab ms) m.vocab e.word = w := by
  rw [(ngram_union E (globalizeAll ms ls) V).2 c w, mem_globalizeAll_entries ms ls hl]

/-- **Round trip of the `from` encoding.**  For every vector of bounds (`unsigned char`) and every
value vector strictly below its bounds — the contract under which `merge_probabilities.cc` calls it,
`fromᵢ < min(order, orderᵢ)` — `Decode(Encode(v)) = v`; any number of entries, hence any number of
64-bit words. -/
theorem bse_roundtrip (bounds vs : List Nat) (hb : ∀ b ∈ bounds, b < 256)
    (hv : BSE.Below bounds vs) : BSE.decode bounds (BSE.encode bounds vs) = vs :=
  BSE.decode_encode bounds vs hb (BSE.fits_of_below bounds vs 0 hv)

/-- **No shift by 64.**  The C++ `Encode`/`Decode` shift a `uint64_t` by `entry.shift`; that is
defined behaviour iff every shift is < 64.  It holds whenever all bounds are ≥ 2 (all components
and the record have order ≥ 2) and for unigram records (all bounds 1). -/
theorem bse_no_ub (bounds : List Nat) :
    ((∀ b ∈ bounds, 2 ≤ b ∧ b < 256) → BSE.ubFree bounds = true) ∧
    (∀ n, BSE.ubFree (List.replicate n 1) = true) :=
  ⟨BSE.ubFree_of_two_le bounds, BSE.ubFree_replicate_one⟩

/-- **A shift by 64**: `ubFree` fails when a zero-width field (a component of order 1) follows a completely full
word: 32 components of order ≥ 2 at n-gram order 2 (2 bits each) and one unigram model.  The model
then asks for `<< 64`, which is undefined behaviour in the C++ (UBSan: "shift exponent 64"; benign
on x86).  `BSE.build` is the constructor loop without the line `if (!length) entries_.back().shift = 0;` of
/repo's bounded_sequence_encoding.cc (commit 05c6216), with which no shift reaches 64. -/
theorem bse_shift64_witness : BSE.ubFree (List.replicate 32 2 ++ [1]) = false := by decide

/-- non-vacuity: 25 entries of width 3 bits cross a 64-bit word boundary -/
example : BSE.Below (List.replicate 25 6) (List.replicate 25 5) := by decide
example : BSE.byteLength (List.replicate 25 6) = 10 := by decide

/-- **Pass 1 on `SuffixOrder`-sorted streams.**  `handleSuffix` is the code's `HandleSuffix` (the
same generic stream recursion as pass 2, one record per n-gram, inherited attribute = the
per-component `(λᵢ·prob, from)` fallback; the k-way choice of the minimum among the component
streams is abstracted into one merged stream per order here, and carried out in `pass1_kway`).  For a
union closed under dropping the first word, run on the `SuffixOrder`-sorted n-gram streams of the orders
`1 … D+1` and started with the components' `<unk>` as fallback, it consumes every n-gram and writes
`p1Rec` for each. -/
theorem pass1_on_sorted_streams (cs : Comps Nat) (h : UnionSuffixClosed cs) (D fuel : Nat)
    (hfuel : needE (sortedYg cs) D (sortedYg cs []) [] ≤ fuel) :
    handleSuffix cs fuel ((List.range (D + 1)).map (fun j => p1Stream cs (j + 1))) [] (mergeFb cs []) =
      (List.replicate (D + 1) [], (sortedYg cs []).flatMap (fun y => specP1 cs (sortedYg cs) D [y])) := by
  have hgood := (sufTree_sortedYg cs h).good X1 (fun _ _ => List.cons_ne_nil _ _) (D + 1) []
  rw [← levelsE_eq_p1Streams cs h D]
  exact pass1_refines cs X1 (sortedYg cs) D fuel hfuel hgood.2 hgood.1

/-- `p1Rec` carries exactly what pass 2 starts from: `Prob()` = Σᵢ λᵢ·(probability of the longest
suffix of the n-gram in component i) and the `from` levels (`LM.merge`; cf. `pass12_refines`, where
the back-offs charged according to `from` turn this into the weighted back-off score). -/
theorem pass1_record_values {W : Type} [DecidableEq W] (cs : Comps W) (c : List W) (w : W) :
    (p1Rec cs (c ++ [w])).prob = (cs.map (fun p => p.1 * (p.2.merge c w).1)).sum ∧
    (p1Rec cs (c ++ [w])).from_ = cs.map (fun p => (p.2.merge c w).2) := by
  have h : ∀ p : ℚ × LM W, p.2.mergeG (c ++ [w]) = p.2.merge c w := fun p => mergeG_append p.2 c w
  simp only [p1Rec, mergeFb, List.map_map, Function.comp_def, h, and_self]

/-- **Pass 2 refines the functional model.**  `sameCtx` / `extendCtx` are the code's
`Recurse::SameContext` / `ExtendContext`: one stream per order (order 2 first), records consumed
from the heads, `z` handed down as `z_lower`.  If the streams have the grouped shape of
`ContextOrder`-sorted, suffix-closed input — below every context `c` first its own records `X c`,
then, for each left extension `y ∈ Y c` in a common order, the subtree of `y :: c` — then, started
as `Thread::Run` starts it, the recursion (with `needE` fuel) leaves every stream empty and writes,
in stream order, `pOut` for every record and `boSame` for every context: exactly the values of the
functional model (`formula`, `normalised` speak about those).  Any depth `D`, any width.
That the sort of pass 2 delivers this shape is `pass2_on_sorted_streams`. -/
theorem pass2_stream_refines {W : Type} [DecidableEq W] {F : Type} [Field F]
    (E : ℚ → F) (cs : Comps W) (V : List W) (X Y : List W → List W)
    (hX : ∀ c, (X c).Perm (explicit cs c)) (D : Nat) (fuel : Nat)
    (hfuel : needE Y D (Y []) [] ≤ fuel)
    (hgood : ∀ y ∈ Y [], X [y] ≠ [] ∧ Good X Y D [y]) (hnd : (Y []).Nodup) :
    extendCtx E cs fuel (levelsE X Y D (Y []) []) [] (Zinc E cs V []) =
      (List.replicate (D + 1) [], (Y []).flatMap (fun y => specOut E cs V X Y D [y])) := by
  refine (extendCtx_top (zStep E cs) (sameEvents E cs) X Y D fuel _ hfuel hgood hnd).trans ?_
  congr 1
  apply List.flatMap_congr
  intro y _
  exact specSame_eq_specOut E cs V X Y hX D y []

/-- **Pass 2 on `ContextOrder`-sorted streams.**  For a union model closed under dropping the first
word (lmplz models are; checked per case), the streams of orders `2 … D+2` sorted in `ContextOrder`
*have* the grouped shape, so the stream recursion of `normalize.cc` run on them consumes every record
and writes exactly `pOut` / `boSame`.  Remaining trust for pass 2: `util::stream::Sort` really sorts
(C16), `RewindableStream`, float rounding. -/
theorem pass2_on_sorted_streams {F : Type} [Field F] (E : ℚ → F) (cs : Comps Nat) (V : List Nat)
    (h : UnionSuffixClosed cs) (D fuel : Nat)
    (hfuel : needE (sortedY cs) D (sortedY cs []) [] ≤ fuel) :
    extendCtx E cs fuel ((List.range (D + 1)).map (fun j => sortedStream cs (j + 2))) []
        (Zinc E cs V []) =
      (List.replicate (D + 1) [],
        (sortedY cs []).flatMap (fun y => specOut E cs V (sortedX cs) (sortedY cs) D [y])) := by
  have hgood := (sufTree_sortedY cs h).good (sortedX cs) (fun _ => sortedX_ne_nil cs) (D + 1) []
  rw [← levelsE_eq_sortedStreams cs h D]
  exact pass2_stream_refines E cs V (sortedX cs) (sortedY cs) (fun c => List.mergeSort_perm _ _) D fuel
    hfuel hgood.2 hgood.1

/-- non-vacuity: a two-level tree satisfies `Good` -/
example : Good (fun c => if c.length ≤ 2 then [7, 8] else []) (fun c => if c = [] then [1, 3] else if c = [3] then [1] else [])
    1 [3] := by
  simp [Good]

/-- `SameContext` runs — and calls `BackoffManager::Enter` — exactly for the contexts of the
pre-order listing `ctxPre` of the context tree, in that order (the back-off events of the stream
recursion, cf. `pass2_stream_refines`). -/
theorem visited_contexts {W : Type} [DecidableEq W] {F : Type} [Field F]
    (E : ℚ → F) (cs : Comps W) (V : List W) (X Y : List W → List W) (d : Nat) (c : List W) :
    (specOut E cs V X Y d c).filterMap evCtx = ctxPre Y d c := by
  induction d generalizing c with
  | zero =>
    rw [specOut, List.filterMap_append, filterMap_probs]
    rfl
  | succ d ih =>
    rw [specOut, List.filterMap_append, List.filterMap_append, filterMap_probs, ctxPre]
    simp only [List.nil_append, List.filterMap_cons, evCtx, List.filterMap_nil, List.singleton_append,
      List.cons.injEq, true_and]
    rw [List.filterMap_flatMap]
    exact List.flatMap_congr (fun y _ => ih (y :: c))

/-- **Pass 3.**  `backoffStream cs k` models the back-off stream of order `k` as the code produces
it: the merged `BackoffManager` queue (n-grams the components hold below their own top order, in
`SuffixLexicographicLess` order) is consumed against the visited contexts — skipped n-grams get a
record, entered ones get `SameContext`'s — and `Finish()` skips the rest.  For a union closed under
dropping the first / last word:
* it is the `SuffixOrder`-sorted list of the union n-grams of order `k` that `hasBackoffRecord`;
* if nothing is `stuck` it *equals* the n-gram sequence of the sorted probability stream, so
  `ReunifyBackoff` zips every probability with the back-off of the same n-gram;
* if an n-gram of order `k` is `stuck` it is strictly shorter: the zip throws
  "Streams were not the same size during merging" (finding K). -/
theorem pass3_zip (cs : Comps Nat) (hsc : UnionSuffixClosed cs) (hpc : PrefixClosedD cs) :
    (∀ k, 1 ≤ k → k < maxOrder cs →
      backoffStream cs k = (probStream3 cs k).filter (hasBackoffRecord cs)) ∧
    (stuck cs = [] → ∀ k, 1 ≤ k → k < maxOrder cs → backoffStream cs k = probStream3 cs k) ∧
    (∀ g ∈ stuck cs, 1 ≤ g.length →
      (backoffStream cs g.length).length < (probStream3 cs g.length).length) := by
  refine ⟨backoffStream_eq cs hsc hpc, fun hst k hk1 hk2 => ?_, fun g hg hk1 => ?_⟩
  · rw [backoffStream_eq cs hsc hpc k hk1 hk2, List.filter_eq_self]
    intro g hg
    by_contra hcon
    have hm := (mem_probStream3 cs).1 hg
    have : g ∈ stuck cs := (mem_stuck cs).2 ⟨hm.1, by omega, by simpa using hcon⟩
    rw [hst] at this
    cases this
  · obtain ⟨hu, hl, hb⟩ := (mem_stuck cs).1 hg
    rw [backoffStream_eq cs hsc hpc g.length hk1 hl]
    exact List.length_filter_lt_length_iff_exists.2 ⟨g, (mem_probStream3 cs).2 ⟨hu, rfl⟩, by simp [hb]⟩

/-- the witness of finding K at the stream level: for the two components of `abort_witness` the
bigram back-off stream is strictly shorter than the bigram probability stream -/
theorem pass3_throws_on_witness :
    (backoffStream witness 2).length < (probStream3 witness 2).length := by
  have hsc : UnionSuffixClosed witness := by unfold UnionSuffixClosed; decide
  have hpc : PrefixClosedD witness := by unfold PrefixClosedD; decide
  have hmem : [1, 3] ∈ stuck witness := by rw [abort_witness]; simp
  exact (pass3_zip witness hsc hpc).2.2 [1, 3] hmem (by simp)

/-- **Pass 1 with the component streams kept apart** (`NGramHandler::active_`, the `minimum` loop
of `HandleSuffix`).  `initActs cs k` is what the constructor builds from the component files: one
active entry per component that has n-grams of order `k`, tagged with its *model number*, holding
the component's own `SuffixOrder`-sorted stream.  For a union closed under dropping the first word,
`handleK` (smallest first word among the heads that end in the suffix; every stream whose head is
that n-gram contributes at its model number and is advanced; recursion; loop) consumes all
component streams of all orders and writes, in `SuffixOrder`, one record per union n-gram with
exactly the values of the functional model (`p1Rec`, cf. `pass1_record_values`). -/
theorem pass1_kway (cs : Comps Nat) (h : UnionSuffixClosed cs) (D fuel : Nat)
    (hfuel : needE (sortedYg cs) D (sortedYg cs []) [] ≤ fuel) :
    handleK (cs.map (·.1)) fuel ((List.range (D + 1)).map (fun j => initActs cs (j + 1))) []
        (mergeFb cs []) =
      (List.replicate (D + 1) [],
        (sortedYg cs []).flatMap (fun y => specP1 cs (sortedYg cs) D [y])) := by
  have T := sufTree_sortedYg cs h
  rw [initActs_streams cs h D]
  exact handleK_top cs (sortedYg cs) T.lt
    (fun c y hy => (hasGram_iff cs).2 ((T.mem c y).1 hy)) D fuel hfuel

/-- **the merged stream the k-way selection produces**: when the head of the merged
(`SuffixOrder`-sorted union) stream is `gram`, the `minimum` loop picks it, and advancing returns as
contributors exactly the components that have `gram` — each under its own model number, with its
own probability — and leaves every component stream at the view of the rest of the merged stream. -/
theorem kway_selects_head (cs : Comps Nat) (y w : Nat) (g : List Nat) (M' : List (Rec Nat))
    (hhas : HasGram cs (y :: g)) (hge : ∀ r ∈ M', ∀ z, r.1 = z :: g → y ≤ z)
    (hne : ∀ r ∈ M', r.1 ≠ y :: g) :
    minFirst (actsOf cs ((y :: g, w) :: M')) g = some y ∧
    advance (actsOf cs ((y :: g, w) :: M')) (y :: g) = (contribFrom cs 0 (y :: g), actsOf cs M') ∧
    (∀ i, (contribFrom cs 0 (y :: g)).lookup i =
      (cs[i]?).bind (fun p => (p.2.findGram (y :: g)).map (fun e => e.prob))) ∧
    applyContrib (cs.map (·.1)) (mergeFb cs g) (contribFrom cs 0 (y :: g)) g.length = mergeFb cs (y :: g) :=
  ⟨minFirst_actsOf cs y w g M' hhas hge, advance_actsOf cs (y :: g) w M' hne,
    lookup_contribFrom (y :: g) cs, applyContrib_mergeFb cs y g⟩

/-- **seeded change C13-3 breaks `kway_selects_head`.**  Tagging a stream with its position among
the components that *have* the order (instead of its model number): for the two components of
`abort_witness` (a bigram model listed before a trigram model) the trigram `<s> b </s>` is
contributed under model number 0 instead of 1, and `probs[]`/`from[]` are overwritten for the wrong
component. -/
theorem c13_3_wrong_model_index :
    (advance (actsOfMut witness 3 [([1, 4, 2], 0)]) [1, 4, 2]).1 = [(0, -1)] ∧
    contribFrom witness 0 [1, 4, 2] = [(1, -1)] ∧
    applyContrib (witness.map (·.1)) (mergeFb witness [4, 2])
        (advance (actsOfMut witness 3 [([1, 4, 2], 0)]) [1, 4, 2]).1 2 ≠ mergeFb witness [1, 4, 2] := by
  refine ⟨by decide +kernel, by decide +kernel, by decide +kernel⟩

/-- **`BackoffManager::Get`.**  `pathMat cs K c` is the `BackoffMatrix` while `SameContext(c)` runs
(flat `backing_[model * max_order + level]`; the suffixes of `c` entered one per level, `Enter`
copying the back-off of the streams whose head is the context).  Then `Get(i, l)` is component
`i`'s back-off for the suffix of `c` of length `l + 1` — 0 unless the component has it below its
own top order — and 0 from level `|c|` upwards; `Exit` after `Enter` restores every cell. -/
theorem backoff_matrix_get {W : Type} [DecidableEq W] (cs : Comps W) (K : Nat) (c : List W)
    (hK : c.length ≤ K) :
    (∀ i l (hi : i < cs.length), l < K →
      (pathMat cs K c).get i l = if l < c.length then (cs[i]).2.boOf (sufOf c (l + 1)) else 0) ∧
    (∀ y, (y :: c).length ≤ K → ∀ i l, i < cs.length → l < K →
      (exitMat cs (enterMat cs (pathMat cs K c) (y :: c)) (y :: c)).get i l = (pathMat cs K c).get i l) :=
  ⟨fun i l hi hl => get_pathMat cs K i l hi hl c hK,
   fun y hy i l _ hl => get_exit_enter cs (y :: c) (wf_pathMat cs K c hK) (Nat.succ_pos _) hy
    (fun j => get_pathMat_of_le cs j hy c hK (Nat.le_refl _)) i l hl⟩

/-- **the charging loop of `SameContext`** (`for backed_to = from … order-3: accumulated +=
Get(m, backed_to)`, then `Get(m, order-2)` if `from < order-1`) adds `LM.charge c from` to `Prob()`
and `LM.charge c.tail from` to `LowerProb()` — the quantities of `pass12_refines`. -/
theorem charging_loop {W : Type} [DecidableEq W] (cs : Comps W) (K : Nat) (c : List W)
    (hK : c.length ≤ K) (i : Nat) (hi : i < cs.length) (from_ : Nat) :
    (chargeLoop (pathMat cs K c) i from_ c.length).2 = (cs[i]).2.charge c from_ ∧
    (chargeLoop (pathMat cs K c) i from_ c.length).1 = (cs[i]).2.charge c.tail from_ :=
  chargeLoop_pathMat cs K c hK i hi from_

/-- a component with distinct back-offs at the levels 1, 2, 3 (words 3 `a`, 4 `b`, 5 `c`) -/
def boLevels : LM Nat :=
  { order := 5, unk := 0,
    entries := [⟨[], 0, -2, 0⟩, ⟨[], 5, -1, -1/2⟩, ⟨[4], 5, -1, -1/4⟩, ⟨[3, 4], 5, -1, -1/8⟩] }

/-- **seeded change C13-5 breaks `charging_loop`.**  `Get(m, found)` instead of `Get(m, backed_to)`:
for the context `a b c` and a component found at level 0 the loop must charge
`b(c) + b(b c) + b(a b c) = -7/8`; the mutated loop charges `b(c)` twice: `-9/8`. -/
theorem c13_5_wrong_level :
    (chargeLoop (pathMat [(1, boLevels)] 4 [3, 4, 5]) 0 0 3).2 = -7/8 ∧
    boLevels.charge [3, 4, 5] 0 = -7/8 ∧
    (chargeLoopMut (pathMat [(1, boLevels)] 4 [3, 4, 5]) 0 0 3).2 = -9/8 := by
  refine ⟨by decide +kernel, by decide +kernel, by decide +kernel⟩

/-- **`MergeVocab`: universal ids and the per-model id maps.**  `mergeVocabLoop pops 0 0` is the
`while (!heap.empty())` loop on the pops in heap order.  For *any* hash function (`hash` fields) and
*any* tie order of the heap, as long as the pops come in non-decreasing hash order and no hash is 0:
two `(model, local id)` pairs are mapped to the same universal id iff their hashes are equal, ids are
monotone in the hash, lie in `1 … #pops`; with a hash that is injective on the words at hand, same
universal id ⇔ same word (so `Renumber` identifies exactly the equal words; 0 stays `<unk>`). -/
theorem merge_vocab_ids (pops : List VPop) (hs : pops.Pairwise (fun a b => a.hash ≤ b.hash))
    (hpos : ∀ p ∈ pops, 0 < p.hash) :
    (∀ a ∈ mergeVocabLoop pops 0 0, ∀ b ∈ mergeVocabLoop pops 0 0,
      (a.hash = b.hash ↔ a.univ = b.univ) ∧ (a.hash < b.hash ↔ a.univ < b.univ) ∧ 1 ≤ a.univ ∧
      a.univ ≤ pops.length) ∧
    (∀ (H : String → Nat) (wordOf : Nat → Nat → String),
      (∀ p ∈ pops, p.hash = H (wordOf p.model p.loc)) →
      (∀ p ∈ pops, ∀ q ∈ pops, H (wordOf p.model p.loc) = H (wordOf q.model q.loc) →
        wordOf p.model p.loc = wordOf q.model q.loc) →
      ∀ a ∈ mergeVocabLoop pops 0 0, ∀ b ∈ mergeVocabLoop pops 0 0,
        (a.univ = b.univ ↔ wordOf a.model a.loc = wordOf b.model b.loc)) := by
  refine ⟨mergeVocab_ids pops hs hpos, fun H wordOf hH hinj a ha b hb => ?_⟩
  -- same id ⇔ same hash, and the hash is injective on the words popped
  obtain ⟨p, hp, hp1, hp2, hp3⟩ := mergeVocabLoop_src pops 0 0 a ha
  obtain ⟨q, hq, hq1, hq2, hq3⟩ := mergeVocabLoop_src pops 0 0 b hb
  rw [← (mergeVocab_ids pops hs hpos a ha b hb).1, ← hp1, ← hq1, ← hp2, ← hp3, ← hq2, ← hq3, hH p hp,
    hH q hq]
  exact ⟨hinj p hp q hq, fun h => by rw [h]⟩

/-- non-vacuity / the zero-hash corner: a word whose hash is 0 is merged into `<unk>` (id 0) -/
example : mergeVocabLoop [⟨0, 0, 1⟩, ⟨5, 1, 1⟩, ⟨5, 0, 2⟩, ⟨9, 1, 2⟩] 0 0 =
    [⟨0, 0, 1, 0⟩, ⟨5, 1, 1, 1⟩, ⟨5, 0, 2, 1⟩, ⟨9, 1, 2, 2⟩] := by decide

section Real
variable {W : Type} [DecidableEq W]

/-- the defining formula at the log level:
`interp c w = Σᵢ λᵢ · scoreᵢ(w|c) − log₁₀ Σ_{v ∈ V∖{<s>}} 10^(Σᵢ λᵢ · scoreᵢ(v|c))` -/
noncomputable def interp (cs : Comps W) (V : List W) (bos : W) (c : List W) (w : W) : ℝ :=
  (usum cs c w : ℝ) - Real.logb 10 (Zdirect E10 cs V bos c)

/-- **Formula (log level, reals).**  log₁₀ of the back-off recursion over the written model is the
defining formula, for every context and every word of the union vocabulary. -/
theorem formula_real (cs : Comps W) (V : List W) (bos : W) (wf : WellFormed cs V bos)
    (hne : V.filter (fun w => decide (w ≠ bos)) ≠ [])
    (w : W) (hw : ([], w) ∈ unionGrams cs) (c : List W) :
    Real.logb 10 (outScore (interpOut E10 cs V) c w) = interp cs V bos c w := by
  have hZ : ∀ c, Zdirect E10 cs V bos c ≠ 0 := fun c => ne_of_gt (Zdirect_pos cs V bos c hne)
  rw [formula E10 isExp_E10 cs V bos wf hZ w hw c,
    Real.logb_div (ne_of_gt (E10_pos _)) (hZ c), logb_E10]
  rfl

theorem normalised_real (cs : Comps W) (V : List W) (bos : W) (c : List W)
    (hne : V.filter (fun w => decide (w ≠ bos)) ≠ []) :
    ((V.filter (fun w => decide (w ≠ bos))).map (fun w => (10 : ℝ) ^ interp cs V bos c w)).sum = 1 := by
  have hZ := Zdirect_pos cs V bos c hne
  rw [List.map_congr_left (g := fun w => E10 (usum cs c w) / Zdirect E10 cs V bos c) (fun w _ => by
    unfold interp
    rw [Real.rpow_sub (by norm_num), Real.rpow_logb (by norm_num) (by norm_num) hZ]
    rfl)]
  exact sum_map_div_sum (fun w => E10 (usum cs c w)) _ (ne_of_gt hZ)

/-- the interpolated log-probability of a word of `V∖{<s>}` is never positive, so the clamp
`std::min(0.0f, prob)` of `backoff_reunification.cc` is the identity on exact values -/
theorem interp_nonpos (cs : Comps W) (V : List W) (bos : W) (c : List W) (w : W)
    (hw : w ∈ V.filter (fun w => decide (w ≠ bos))) : interp cs V bos c w ≤ 0 := by
  have hne : V.filter (fun w => decide (w ≠ bos)) ≠ [] := List.ne_nil_of_mem hw
  have hZ := Zdirect_pos cs V bos c hne
  have hle := term_le_Zdirect cs V bos c w hw
  unfold interp
  have : Real.logb 10 (E10 (usum cs c w)) ≤ Real.logb 10 (Zdirect E10 cs V bos c) :=
    Real.logb_le_logb_of_le (by norm_num) (E10_pos _) hle
  rw [logb_E10] at this
  linarith

/-- the incremental normaliser over the reals is the defining sum and is positive: the
`log10` taken by `normalize.cc` is always defined -/
theorem z_incremental_real (cs : Comps W) (V : List W) (bos : W) (wf : WellFormed cs V bos)
    (hne : V.filter (fun w => decide (w ≠ bos)) ≠ []) (c : List W) :
    Zinc E10 cs V c = Zdirect E10 cs V bos c ∧ 0 < Zinc E10 cs V c := by
  have h := z_incremental E10 isExp_E10 cs V bos wf c
  exact ⟨h, h ▸ Zdirect_pos cs V bos c hne⟩

end Real

/-- two components of order 2 over different vocabularies (`a` only in A, `b` only in B),
weights 1/2, 1/2 -/
def exB2 : LM Nat :=
  { order := 2, unk := 0,
    entries := [⟨[], 0, -1, 0⟩, ⟨[], 1, 0, -1⟩, ⟨[], 2, -1, 0⟩, ⟨[], 4, -1/2, -1/4⟩,
                ⟨[1], 4, -1/8, 0⟩, ⟨[4], 2, -1/4, 0⟩] }

def exCs : Comps Nat := [(1/2, witnessA), (1/2, exB2)]

example : WellFormed exCs [0, 1, 2, 3, 4] 1 :=
  { nodupV := by decide
    bosV := by decide
    bos0 := by decide +kernel
    entries := by unfold EntriesOK; decide
    prefixClosed := by unfold PrefixClosedD; decide }

example : ∀ p ∈ exCs, UnkClean p.2 := by
  intro p hp
  simp only [exCs, List.mem_cons, List.not_mem_nil, or_false] at hp
  rcases hp with rfl | rfl
  · exact ⟨by unfold UnkOnlyUnigram; decide, by decide +kernel, by unfold WordsKnown; decide⟩
  · exact ⟨by unfold UnkOnlyUnigram; decide, by decide +kernel, by unfold WordsKnown; decide⟩
example : ∀ p ∈ exCs, SuffixClosed p.2 := by
  intro p hp
  simp only [exCs, List.mem_cons, List.not_mem_nil, or_false] at hp
  rcases hp with rfl | rfl <;> (unfold SuffixClosed; decide)
example : [0, 1, 2, 3, 4].filter (fun w => decide (w ≠ 1)) ≠ [] := by decide
example : ([], 3) ∈ unionGrams exCs := by decide
example : stuck exCs = [] := equal_orders_not_stuck exCs 2 (by decide)
/-- the union really has n-grams from both sides and a context with explicit and backed-off words -/
example : explicit exCs [1] = [3, 4] := by decide
/-- the weighted sum is not trivial: `s(b | <s>) = ½·(b_A(<s>) + p_A(<unk>)) + ½·p_B(b|<s>)` -/
example : usum exCs [1] 4 = 1/2 * (-1 + -1) + 1/2 * (-1/8) := by decide +kernel

example : UnionSuffixClosed exCs := by unfold UnionSuffixClosed; decide

end KV.C13
