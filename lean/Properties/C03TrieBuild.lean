import Proofs.TrieOfTablePlain
import Proofs.TrieBuildAgree
import Properties.C03Trie
/-!
# C03 (trie clause, builder) — lm/search_trie.cc between the ARPA n-grams and the trie memory

Model: `Model/TrieBuild.lean` (`visitOrder`, `visit` = `BlankManager::Visit`, `messageKeys`/`blankProb` = `SRISucks::Send` +
`BackoffMessages::Apply`, extension marks, error classes, then the fold `TrieLM.ofTable`).  That the model does what `build_binary trie` does is the business of check C04 (DESIGN.md §5, C03),
not of this file.

Proved for bit tables and models of any size: the memory `ofTable` writes represents its bit table, with the layout facts derived
from the C04 layout model (the plain layout is the layout `ofTableG … none false` of Proofs/TrieOfTableG.lean, see
Proofs/TrieOfTablePlain.lean); and end to end (`trie_end_to_end`, `trie_end_to_end_sentence`): for every well-formed ARPA model
(prefix/context-closed, vocabulary listed in the unigrams; suffix-closed or needing blanks) with a value encoding (`ArpaEncW`) and
float sums that are exact on its blanks (`BlankArith`: proper model, representable values), FullScore over the memory the trie
builder writes = `score a h w`.  The array / quantised layouts are in Properties/C03TrieG.lean.

Hallucinated `<unk>`: when the ARPA has no `<unk>` unigram the real builder runs on the zeroed slot 0 of the unigram file and
`unknown_missing_logprob` is written only afterwards; a blank whose newest word is `<unk>` is therefore computed from 0, not
−100 (known finding `blank-based-on-hallucinated-unk` of C01).  The model does the same (`unkSlot`, `withUnkSlot`, `fixUnk`,
`buildTableU`, `buildTableArpa`; `ArpaEncW.unk0`: the builder reads zero bits for the hallucinated entry; `build_from_arpa`
links the file's n-grams to these records),
and `trie_build_represents` / `trie_end_to_end` carry the hypothesis `UnkOK` (`basis`: with a hallucinated `<unk>` no blank
has word 0 as its newest word — the class on which code ≠ ARPA recursion is excluded; `val`/`bits`: the fix-up value);
`unk_class_deviates` is the witness on the excluded class.

Modelling assumptions that remain hypotheses: exactness of the float sums on the model's blanks (`BlankArith`), the value
encoding (`ArpaEncW`), sizes below 2^57 (`SmallOK`); SortedVocabulary renumbering and the merge of sorted batches are
modelled by their result (C20 `sorted_vocab_correct`, C16 `extSort_unique`).
-/
namespace KV.C03TrieBuild
open KV.Arpa KV.TrieLM KV.TrieBuild

/-- frame and read-back for any number of writes: a memory built by OR-ing pairwise disjoint bit fields
(each value fitting its width) into zero — what any sequence of `WriteInt57` / `WriteInt25` / `WriteFloat32` /
`WriteNonPositiveFloat31` / whole-word stores into zero-initialised memory is — returns every field's value on read; earlier and
later writes do not disturb it. -/
theorem trie_write_frame (fs : List Field) (hd : fs.Pairwise Field.Disj) (hv : ∀ f ∈ fs, f.val < 2^f.len)
    (f : Field) (hf : f ∈ fs) : (orFields 0 fs >>> f.off) % 2^f.len = f.val :=
  orFields_read fs hd hv f hf

example : orFields 0 [⟨0, 3, 5⟩, ⟨3, 31, 7⟩, ⟨34, 32, 9⟩, ⟨66, 2, 3⟩] >>> 34 % 2^32 = 9 := by decide

/-- the visit order is a strict order: irreflexive, asymmetric, transitive; a proper prefix comes before its extensions -/
theorem key_order (a b c : List Nat) :
    keyLt a a = false ∧ (keyLt a b = true → keyLt b a = false) ∧ (keyLt a b = true → keyLt b c = true → keyLt a c = true)
    ∧ ∀ n, n < a.length → keyLt (a.take n) a = true :=
  ⟨(keyLt_eq_false_iff a a).mpr (List.le_refl a),
   fun h => (keyLt_eq_false_iff b a).mpr (List.le_of_lt ((keyLt_iff_lt a b).mp h)),
   fun h1 h2 => (keyLt_iff_lt a c).mpr (List.lt_trans ((keyLt_iff_lt a b).mp h1) ((keyLt_iff_lt b c).mp h2)),
   fun _ h => (keyLt_iff_lt _ a).mpr (take_lt a h)⟩

/-- the `BlankManager` pass, for every strictly
increasing visit order with non-empty keys, of any length and order:
* if it fails, the error is "missing unigram" and some visited n-gram's newest word indeed has no unigram entry;
* otherwise every blank it creates is a proper prefix (length ≥ 2) of a visited key that is *not* a real n-gram, its basis is the
  probability of the real n-gram at `basedOn`, and no proper prefix of that key longer than `basedOn` is real — i.e. the
  basis is the longest real proper prefix below the blank, all blank orders in between having been invalidated. -/
theorem trie_build_represents_partial (L : List Gram) (hk : KeysLt L) (hne : ∀ g ∈ L, 1 ≤ g.key.length) :
    match visitAll L with
    | .ok st => ∀ b ∈ st.blanks, ∃ g ∈ L, BlankOK L g b
    | .error e => e = .missingUnigram ∧ ∃ g ∈ L, 2 ≤ g.key.length ∧ realOf L (g.key.take 1) = none := by
  have h := visitAll_full L hk hne
  cases hv : visitAll L with
  | ok st => rw [hv] at h; exact h.sound
  | error e => rw [hv] at h; exact h

/-- one step, with the invariant of `been_` / `basis_` spelled out (`Inv`) -/
theorem visit_invariant (pre post : List Gram) (g : Gram) (st : VisitState)
    (hk : KeysLt (pre ++ g :: post)) (hlen : 1 ≤ g.key.length)
    (hinv : Inv (pre ++ g :: post) st ((pre.getLast?.map (·.key)).getD [])) :
    match visit st g with
    | .ok st' => Inv (pre ++ g :: post) st' g.key ∧
        ∃ nb, st'.blanks = st.blanks ++ nb ∧ ∀ b ∈ nb, BlankOK (pre ++ g :: post) g b
    | .error e => e = .missingUnigram ∧ 2 ≤ g.key.length ∧ realOf (pre ++ g :: post) (g.key.take 1) = none := by
  have h := visit_step pre post g st hk hlen hinv
  cases hv : visit st g with
  | ok st' =>
    rw [hv] at h
    obtain ⟨hinv', nb, hnb, hok, _⟩ := h
    exact ⟨hinv', nb, hnb, hok⟩
  | error e => rw [hv] at h; exact h

/-- non-vacuity: the example model of `C03Trie.ExampleBuilt` (13 entries after the blank `b c`): its 12 real n-grams are visited
in strict order and the pass creates exactly the blank `[4, 5]` based on the unigram `[4]` -/
def exampleGrams : List Gram :=
  [⟨[0], 3221225472, 2147483648⟩, ⟨[1], 3267756032, 3204448256⟩, ⟨[2, 1], 3204448256, 3196059648⟩,
   ⟨[2], 3208642560, 3196059648⟩, ⟨[3], 3214934016, 2147483648⟩, ⟨[3, 5], 3210739712, 2147483648⟩,
   ⟨[4], 3212836864, 2147483648⟩, ⟨[4, 2], 3213885440, 2147483648⟩, ⟨[4, 5, 2], 3200253952, 0⟩,
   ⟨[5], 3217031168, 3187671040⟩, ⟨[5, 2], 3206545408, 3200253952⟩, ⟨[5, 2, 1], 3196059648, 0⟩]

example : KeysLt (visitOrder exampleGrams) := by unfold KeysLt; decide

example : (match visitAll (visitOrder exampleGrams) with
    | .ok st => some (st.blanks.map (fun b => (b.key, b.basedOn, b.basis)))
    | .error _ => none) = some [([4, 5], 1, 3212836864)] := by decide

/-- the visit order (insertion sort by `keyLt`) of a list on which the duplicate check passed is strictly increasing;
and it is a rearrangement of the input (same members). -/
theorem visit_order_strict (gs : List Gram) (hd : hasDuplicate (visitOrder gs) = false) :
    KeysLt (visitOrder gs) ∧ ∀ x, x ∈ visitOrder gs ↔ x ∈ gs :=
  ⟨visitOrder_keysLt gs hd, mem_visitOrder gs⟩

theorem trie_build_visit (gs : List Gram) (hd : hasDuplicate (visitOrder gs) = false) (hne : ∀ g ∈ gs, 1 ≤ g.key.length) :
    match visitAll (visitOrder gs) with
    | .ok st => ∀ b ∈ st.blanks, ∃ g ∈ visitOrder gs, BlankOK (visitOrder gs) g b
    | .error e => e = .missingUnigram ∧ ∃ g ∈ visitOrder gs, 2 ≤ g.key.length ∧ realOf (visitOrder gs) (g.key.take 1) = none :=
  trie_build_represents_partial _ (visitOrder_keysLt gs hd) (fun g hg => hne g ((mem_visitOrder gs g).mp hg))

/-- in a memory assembled from regions of fixed-stride records whose bit extents follow one
another (record `i` of a region occupies bits `[base + i·stride, base + (i+1)·stride)`, slots at fixed offsets inside), every
written slot reads back its value. -/
theorem trie_regions_read (Rs : List RegionSpec) (hok : ∀ R ∈ Rs, R.OK) (hord : Rs.Pairwise RegionSpec.Before)
    (R : RegionSpec) (hR : R ∈ Rs) (i s v : Nat) (hi : i < R.nrec) (hs : s < R.slots.length) (hv : R.val i s = some v) :
    (orFields 0 (allFields Rs) >>> (R.base + i * R.stride + R.slotOff s)) % 2^(R.slotLen s) = v :=
  regions_read Rs hok hord R hR i s v hi hs hv

/-- the memory `ofTable` writes represents its bit table (plain `TrieModel` layout): for every bit table with unique
keys, all unigrams, word ids below the bound and every entry's parent present (`BTOK`: what the builder delivers after blank
insertion), 32-bit values (`ValsOK`), any order ≥ 2, any number of entries: the memory the fold `ofTable` writes represents
the table — every record is read back (`regions_read`), child ranges are the running next pointers (`rngOf`), sorted, complete,
with an end-pointer record per order.  `ShapeOK` are the layout facts of the C04 model for this shape (bit widths
`RequiredBits`, total bits without `uint8` wrap, the regions in file order); for the example model: `example_shape_ok`. -/
theorem ofTable_represents (fval : Nat → Rat) (bt : BT) (bound order start : Nat) (ok : BTOK bt bound order) (hv : ValsOK bt)
    (sh : ShapeOK bt bound order start) :
    Represents fval (ofTable bt bound order start) (tableOf (ftOf fval bt order) order) (rngOf bt bound) :=
  KV.TrieLM.ofTable_represents fval bt bound order start ok hv sh

open KV.Score KV.State in
/-- FullScore over the memory the MODEL builder writes = FullScore over the bit table, for every
state and word with valid ids — no `Represents` hypothesis. -/
theorem trie_build_refines (fval : Nat → Rat) (bt : BT) (bound order start : Nat) (ok : BTOK bt bound order) (hv : ValsOK bt)
    (sh : ShapeOK bt bound order start) (s : State) (w : Word) (hw : w < bound)
    (hs : ∀ x ∈ s.words.take s.length, x < bound) :
    (fullScore (search fval (ofTable bt bound order start)) s w).1.prob
        = (fullScore (tableSearch (tableOf (ftOf fval bt order) order)) s w).1.prob ∧
    (fullScore (search fval (ofTable bt bound order start)) s w).1.ngramLength
        = (fullScore (tableSearch (tableOf (ftOf fval bt order) order)) s w).1.ngramLength ∧
    (fullScore (search fval (ofTable bt bound order start)) s w).1.independentLeft
        = (fullScore (tableSearch (tableOf (ftOf fval bt order) order)) s w).1.independentLeft ∧
    (fullScore (search fval (ofTable bt bound order start)) s w).1.rest
        = (fullScore (tableSearch (tableOf (ftOf fval bt order) order)) s w).1.rest ∧
    (fullScore (search fval (ofTable bt bound order start)) s w).2
        = (fullScore (tableSearch (tableOf (ftOf fval bt order) order)) s w).2 := by
  have hb : (ofTable bt bound order start).bound = bound := ofTable_bound bt bound order start (by have := ok.order2; omega)
  exact KV.C03Trie.trie_refines fval _ _ _ (ofTable_represents fval bt bound order start ok hv sh) ok.order2 s w
    (by rw [hb]; exact hw) (by rw [hb]; exact hs)

/-- non-vacuity: the hypotheses hold for the example model (13 entries incl. the blank) -/
theorem example_btok : BTOK KV.C03Trie.ExampleBuilt.bt 6 3 := by
  refine ⟨by decide, by decide, by decide, by decide, ?_, ?_⟩
  · have h : ∀ w, w < 6 → KV.C03Trie.ExampleBuilt.bt.lookup [w] ≠ none := by decide
    exact fun w hw => (lookup_ne_none_iff _ _).mp (h w hw)
  · have h : ∀ p ∈ KV.C03Trie.ExampleBuilt.bt, 2 ≤ p.1.length → KV.C03Trie.ExampleBuilt.bt.lookup p.1.dropLast ≠ none := by decide
    intro p hp h2; exact (lookup_ne_none_iff _ _).mp (h p hp h2)

theorem example_vals : ValsOK KV.C03Trie.ExampleBuilt.bt := by unfold ValsOK; decide

/-- the layout facts hold for the example (search region at file offset 192, as in the real file) -/
theorem example_shape_ok : ShapeOK KV.C03Trie.ExampleBuilt.bt 6 3 192 := by
  refine shapeOK_of_small _ 6 3 192 ⟨by decide, by decide, fun k hk => ?_⟩
  have : k = 0 ∨ k = 1 ∨ k = 2 ∨ k = 3 := by omega
  rcases this with rfl | rfl | rfl | rfl <;> decide +kernel

/-- so, unconditionally for this model: FullScore over the memory `ofTable` writes (= the bytes of the real file,
`C03Trie.ExampleBuilt.built_eq_real_file`) equals FullScore over its bit table -/
theorem example_build_refines (s : KV.State.State) (w : Word) (hw : w < 6) (hs : ∀ x ∈ s.words.take s.length, x < 6) :
    (KV.Score.fullScore (search f32ToRat (ofTable KV.C03Trie.ExampleBuilt.bt 6 3 192)) s w).1.prob
      = (KV.Score.fullScore (KV.Score.tableSearch (tableOf (ftOf f32ToRat KV.C03Trie.ExampleBuilt.bt 3) 3)) s w).1.prob :=
  (trie_build_refines f32ToRat _ 6 3 192 example_btok example_vals example_shape_ok s w hw hs).1

/-- the layout facts follow from the C04 layout model (`Binary.trieSetup`: closed form of the middle loop, widths
from `RequiredBits`, no `uint8` wrap, regions in file order) whenever the vocabulary bound and the level sizes are below 2^57 -/
theorem shape_ok (bt : BT) (bound order start : Nat) (sm : SmallOK bt bound order) : ShapeOK bt bound order start :=
  shapeOK_of_small bt bound order start sm

theorem ofTable_represents_general (fval : Nat → Rat) (bt : BT) (bound order start : Nat) (ok : BTOK bt bound order) (hv : ValsOK bt)
    (sm : SmallOK bt bound order) :
    Represents fval (ofTable bt bound order start) (tableOf (ftOf fval bt order) order) (rngOf bt bound) :=
  ofTable_represents fval bt bound order start ok hv (shape_ok bt bound order start sm)

open KV.Score KV.State in
/-- FullScore over the memory the model builder writes = FullScore over the bit table; hypotheses
only about the table (well-formed, 32-bit values, sizes below 2^57) -/
theorem trie_build_refines_general (fval : Nat → Rat) (bt : BT) (bound order start : Nat) (ok : BTOK bt bound order) (hv : ValsOK bt)
    (sm : SmallOK bt bound order) (s : State) (w : Word) (hw : w < bound) (hs : ∀ x ∈ s.words.take s.length, x < bound) :
    (fullScore (search fval (ofTable bt bound order start)) s w).1.prob
        = (fullScore (tableSearch (tableOf (ftOf fval bt order) order)) s w).1.prob ∧
    (fullScore (search fval (ofTable bt bound order start)) s w).2
        = (fullScore (tableSearch (tableOf (ftOf fval bt order) order)) s w).2 := by
  have := trie_build_refines fval bt bound order start ok hv (shape_ok bt bound order start sm) s w hw hs
  exact ⟨this.1, this.2.2.2.2⟩

open KV.Table KV.Score KV.State in
/-- for every well-formed suffix-closed ARPA model (every `lmplz` output) with a value
encoding (`ArpaEnc`: `P`/`B` give the float bits `read_arpa.cc` stores, `fval` decodes them exactly; zero back-off is `-0.0`
except the hallucinated `<unk>`), sizes below 2^57: the model of `lm/search_trie.cc` (`buildTable`: visit order, `BlankManager`,
messages, extension marks) succeeds, creates no blank, and the memory the fold `ofTable` writes from its bit table
**represents `Table.build a`** — entries, probabilities, back-offs, extends-left (= some longer n-gram ends in it) and
extends-right (= non-zero back-off, or context of a longer n-gram, or the hallucinated `<unk>`). -/
theorem trie_build_represents_closed (fval : Nat → Rat) (fadd : Nat → Nat → Nat) (a : Arpa) (bound start : Nat)
    (P B : List Word → Nat) (enc : ArpaEnc fval a bound P B)
    (sm : SmallOK (closedTable a.order (visitOrder (gramsOf a P B))) bound a.order) :
    ∃ b, buildTable fadd a.order (gramsOf a P B) = .ok b ∧ b.blanks = [] ∧
      Represents fval (ofTable b.table bound a.order start) (Table.build a) (rngOf b.table bound) := by
  obtain ⟨⟨counts, hb⟩, hok, hvals, ag⟩ := buildTable_closed_spec fadd enc
  exact ⟨_, hb, rfl, (ofTable_represents_general fval _ bound a.order start hok hvals sm).transfer ag⟩

open KV.Table KV.Score KV.State in
/-- ARPA → trie builder → memory → every query = the ARPA back-off recursion, with no `Represents`
and no layout hypothesis: for every well-formed suffix-closed model that lists `<unk>` (for a hallucinated `<unk>` use
`trie_end_to_end`, whose builder run starts from the zeroed slot), `FullScore` over the memory the trie builder writes returns
`score a h w` for every state reached by left-to-right scoring and every vocabulary word (ids below the bound). -/
theorem trie_end_to_end_closed (fval : Nat → Rat) (fadd : Nat → Nat → Nat) (a : Arpa) (bound start : Nat)
    (P B : List Word → Nat) (enc : ArpaEnc fval a bound P B) (_hu : a.unkHallucinated = false)
    (sm : SmallOK (closedTable a.order (visitOrder (gramsOf a P B))) bound a.order)
    (h : List Word) (st : State) (sf : StateFor a h st) (w : Word) (hw : a.gram [w] ≠ none)
    (hwb : w < bound) (hs : ∀ x ∈ st.words.take st.length, x < bound) :
    ∃ M, buildTrie fadd a.order bound start (gramsOf a P B) none = .ok M ∧
      (fullScore (search fval M) st w).1.prob = score a h w := by
  obtain ⟨b, hb, _, rep⟩ := trie_build_represents_closed fval fadd a bound start P B enc sm
  refine ⟨ofTable b.table bound a.order start, by simp [buildTrie, buildTableU, fixUnk, hb], ?_⟩
  have hbd : (ofTable b.table bound a.order start).bound = bound :=
    ofTable_bound _ bound a.order start (by have := enc.wf.order_ge; omega)
  exact KV.C03Trie.trie_prob a enc.wf (fun _ => false) fval _ _ rep h st sf w hw (by rw [hbd]; exact hwb) (by rw [hbd]; exact hs)

/-- under an exact addition shared by builder and table, the probability
the builder gives a blank is its basis (probability of the longest real proper prefix, `trie_build_represents_partial`) plus the
back-offs of the asked contexts `to[1..1+i)`, `i = basedOn … order-1`, in that order — the operand list of the back-off recursion
`score` (`PassOut.blank_score` identifies the sum with `score a ctx w`). -/
theorem blank_value_partial (fval : Nat → Rat) (fadd : Nat → Nat → Nat) (hadd : ∀ x y, fval (fadd x y) = fval x + fval y)
    (hz : fval minusZero = 0 ∧ fval plusZero = 0) (gs : List Gram) (b : Blank) :
    fval (blankProb fadd gs b) = fval b.basis + ((messageKeys b).map (msgValue fval gs)).sum := by
  unfold blankProb
  generalize messageKeys b = keys
  generalize b.basis = acc
  induction keys generalizing acc with
  | nil => simp only [List.foldl_nil, List.map_nil, List.sum_nil]; rw [Rat.add_zero]
  | cons k ks ih =>
    rw [List.foldl_cons, ih, List.map_cons, List.sum_cons]
    unfold msgValue
    cases hr : realOf gs k with
    | none => simp only; rw [Rat.zero_add]
    | some r =>
      simp only [hadd]
      by_cases hb : r.backoff = minusZero
      · rw [if_pos hb, hb, hz.1, hz.2, Rat.add_assoc]
      · rw [if_neg hb, Rat.add_assoc]

/-- what the float arithmetic must satisfy on the model at hand (`ArpaEncW` is about the parsed values), for every blank the
pass creates: the float sum `base[..] += backoff` the builder computes (`blankProb`, additions in message order) decodes to the
exact sum of the decoded operands, fits 32 bits and survives the non-positive 31-bit encoding of `WriteNonPositiveFloat31`
(proper model: blank scores ≤ 0).  `blank_value_partial`: an addition that is exact on all bit patterns gives the third clause. -/
structure BlankArith (fval : Nat → Rat) (fadd : Nat → Nat → Nat) (a : Arpa) (P B : List Word → Nat) : Prop where
  sums : ∀ st, visitAll (visitOrder (gramsOf a P B)) = .ok st → ∀ b ∈ st.blanks,
    blankProb fadd (visitOrder (gramsOf a P B)) b < 2^32 ∧
    fval (blankProb fadd (visitOrder (gramsOf a P B)) b % 2^31 + 2^31) = fval (blankProb fadd (visitOrder (gramsOf a P B)) b) ∧
    fval (blankProb fadd (visitOrder (gramsOf a P B)) b)
      = fval b.basis + ((messageKeys b).map (msgValue fval (visitOrder (gramsOf a P B)))).sum

open KV.Table KV.Score KV.State in
/-- for every well-formed ARPA model, suffix-closed or not (SRI-pruned models included), with a value
encoding and exact arithmetic on its values: the model of `lm/search_trie.cc` succeeds; the blanks it creates are exactly the
missing reversed prefixes, each once (`trie_build_blanks_exact`); its bit table agrees with `Table.build a` on every key — real entries and
blanks, probabilities (blank = the back-off recursion `score`), back-offs, extends-left, and extends-right from the context
streams and the `SRISucks` messages, also those that sort after the last record of their order (`PassOut.agree`); and the memory `ofTable` writes from it
**represents `Table.build a`**. -/
theorem trie_build_represents (fval : Nat → Rat) (fadd : Nat → Nat → Nat) (a : Arpa) (bound start : Nat)
    (P B : List Word → Nat) (U : Nat) (enc : ArpaEncW fval a bound P B) (uk : UnkOK fval a U) (ar : BlankArith fval fadd a P B)
    (sm : ∀ st, visitAll (visitOrder (gramsOf a P B)) = .ok st →
      SmallOK (fixUnk (unkOf a U) (genTable fadd a.order (visitOrder (gramsOf a P B)) st.blanks)) bound a.order) :
    ∃ b, buildTableU fadd a.order (gramsOf a P B) (unkOf a U) = .ok b ∧
      Represents fval (ofTable b.table bound a.order start) (Table.build a) (rngOf b.table bound) := by
  obtain ⟨st, b, hst, hb, htab, hok, hvals, ag, _⟩ := buildTableU_spec fadd enc uk ar.sums
  exact ⟨b, hb, (ofTable_represents_general fval _ bound a.order start hok hvals (htab ▸ sm st hst)).transfer ag⟩

open KV.Table KV.Score KV.State in
/-- ARPA → trie builder → memory → every query = the ARPA back-off recursion, for every well-formed model
including those that need hallucinated blanks: `FullScore` over the memory the trie builder writes returns `score a h w` for
every state reached by left-to-right scoring and every vocabulary word.  No `Represents`, no layout, no suffix-closure
hypothesis.  The builder runs on the records of `SortedFiles` — a hallucinated `<unk>` is the zeroed slot (`ArpaEncW.unk0`) —
and `unknown_missing_logprob` (`U`) is written afterwards (`fixUnk`), as the code does; `UnkOK.basis` excludes the class on which
the code deviates from the recursion (`unk_class_deviates`). -/
theorem trie_end_to_end (fval : Nat → Rat) (fadd : Nat → Nat → Nat) (a : Arpa) (bound start : Nat)
    (P B : List Word → Nat) (U : Nat) (enc : ArpaEncW fval a bound P B) (uk : UnkOK fval a U) (ar : BlankArith fval fadd a P B)
    (sm : ∀ st, visitAll (visitOrder (gramsOf a P B)) = .ok st →
      SmallOK (fixUnk (unkOf a U) (genTable fadd a.order (visitOrder (gramsOf a P B)) st.blanks)) bound a.order)
    (h : List Word) (st : State) (sf : StateFor a h st) (w : Word) (hw : a.gram [w] ≠ none)
    (hwb : w < bound) (hs : ∀ x ∈ st.words.take st.length, x < bound) :
    ∃ M, buildTrie fadd a.order bound start (gramsOf a P B) (unkOf a U) = .ok M ∧
      (fullScore (search fval M) st w).1.prob = score a h w := by
  obtain ⟨b, hb, rep⟩ := trie_build_represents fval fadd a bound start P B U enc uk ar sm
  refine ⟨ofTable b.table bound a.order start, by simp [buildTrie, hb], ?_⟩
  have hbd : (ofTable b.table bound a.order start).bound = bound :=
    ofTable_bound _ bound a.order start (by have := enc.wf.order_ge; omega)
  exact KV.C03Trie.trie_prob a enc.wf (fun _ => false) fval _ _ rep h st sf w hw (by rw [hbd]; exact hwb) (by rw [hbd]; exact hs)

/-- the blanks of the pass, exactly: success, soundness, completeness, no duplicates -/
theorem trie_build_blanks_exact (fval : Nat → Rat) (a : Arpa) (bound : Nat) (P B : List Word → Nat)
    (enc : ArpaEncW fval a bound P B) :
    ∃ st, visitAll (visitOrder (gramsOf a P B)) = .ok st ∧ (st.blanks.map (·.key)).Nodup ∧
      ∀ g, (∃ b ∈ st.blanks, b.key = g) ↔ IsBlankKey a g := by
  obtain ⟨st, hst, po⟩ := visit_passOut (P := P) (B := B) enc.keys
  exact ⟨st, hst, po.blank_nodup, po.blank_key⟩

section ExampleClosed
open KV.Table KV.Score
/-- a small suffix-closed bigram model: `<unk>`=0, `<s>`=1, `</s>`=2, `a`=3; bigrams `<s> a`, `a </s>` (reversed keys) -/
def exArpa : Arpa :=
  { order := 2,
    entries := [([0], ⟨-2, 0, false⟩), ([1], ⟨-99, -1/2, false⟩), ([2], ⟨-5/4, 0, false⟩), ([3], ⟨-3/4, -1/4, false⟩),
                ([3, 1], ⟨-1/2, 0, false⟩), ([2, 3], ⟨-7/8, 0, false⟩)],
    unkHallucinated := false }

def exBits : List (List Word × (Nat × Nat)) :=
  [([0], (3221225472, 2147483648)), ([1], (3267756032, 3204448256)), ([2], (3214934016, 2147483648)),
   ([3], (3208642560, 3196059648)), ([3, 1], (3204448256, 2147483648)), ([2, 3], (3210739712, 2147483648))]

def exP (g : List Word) : Nat := ((exBits.lookup g).getD (0, 0)).1
def exB (g : List Word) : Nat := ((exBits.lookup g).getD (0, 0)).2

theorem ex_gram_cases (g : List Word) (e : Entry) (h : exArpa.gram g = some e) : (g, e) ∈ exArpa.entries :=
  KV.lookup_some_mem _ _ _ h

theorem ex_real (g : List Word) (h : exArpa.gram g ≠ none) :
    g = [0] ∨ g = [1] ∨ g = [2] ∨ g = [3] ∨ g = [3, 1] ∨ g = [2, 3] := by
  obtain ⟨e, he⟩ := Option.ne_none_iff_exists'.mp h
  exact gram_forall exArpa (fun g _ => g = [0] ∨ g = [1] ∨ g = [2] ∨ g = [3] ∨ g = [3, 1] ∨ g = [2, 3]) (by decide) g e he

theorem ex_wf : WellFormed exArpa := wfB_sound exArpa (by decide)

theorem ex_sc : SuffixClosed exArpa := by
  intro g h hl
  rcases ex_real g h with rfl | rfl | rfl | rfl | rfl | rfl <;> first | decide | (exfalso; simp at hl)

theorem ex_enc : ArpaEnc f32ToRat exArpa 4 exP exB := by
  refine ⟨ex_wf, ex_sc, by decide, by decide, ?_, ?_, ?_, by decide +kernel⟩
  · decide
  · exact gram_forall exArpa _ (by decide +kernel)
  · exact gram_forall exArpa _ (by decide +kernel)

theorem ex_small : SmallOK (closedTable exArpa.order (visitOrder (gramsOf exArpa exP exB))) 4 exArpa.order :=
  ⟨by decide, by decide, by decide +kernel⟩

/-- **non-vacuity of `trie_end_to_end_closed`**: all hypotheses hold for the example model; so the trie builder model succeeds
on it and every `FullScore` over the memory it writes is the ARPA recursion -/
theorem example_end_to_end_closed (fadd : Nat → Nat → Nat) (start : Nat) (h : List Word) (st : KV.State.State)
    (sf : StateFor exArpa h st) (w : Word) (hw : exArpa.gram [w] ≠ none) (hwb : w < 4)
    (hs : ∀ x ∈ st.words.take st.length, x < 4) :
    ∃ M, buildTrie fadd exArpa.order 4 start (gramsOf exArpa exP exB) none = .ok M ∧
      (fullScore (search f32ToRat M) st w).1.prob = score exArpa h w :=
  trie_end_to_end_closed f32ToRat fadd exArpa 4 start exP exB ex_enc rfl ex_small h st sf w hw hwb hs

/-- … e.g. from the null context, for every word of the vocabulary -/
theorem example_end_to_end_null (fadd : Nat → Nat → Nat) (start : Nat) (w : Word) (hwb : w < 4) :
    ∃ M, buildTrie fadd exArpa.order 4 start (gramsOf exArpa exP exB) none = .ok M ∧
      (fullScore (search f32ToRat M) KV.Score.nullContextState w).1.prob = score exArpa [] w := by
  have hw : exArpa.gram [w] ≠ none := ex_enc.unigrams w hwb
  exact example_end_to_end_closed fadd start [] _ (KV.C01.stateFor_null exArpa) w hw hwb (by simp [KV.Score.nullContextState])

end ExampleClosed

section Sentences
open KV.Table KV.Score KV.State
theorem out_words_valid {ν : Type} (S : Search ν) (s : State) (w : Word) (V : Word → Prop) (hw : V w)
    (hs : ∀ x ∈ s.words.take s.length, V x) :
    ∀ x ∈ (fullScore S s w).2.words.take (fullScore S s w).2.length, V x := by
  intro x hx
  have hx' := List.mem_of_mem_take hx
  simp only [fullScore, scoreExceptBackoff] at hx'
  rcases List.mem_cons.mp hx' with e | e
  · rw [e]; exact hw
  · exact hs x (List.mem_of_mem_take e)

theorem trie_scoreSeq (fval : Nat → Rat) (M : Trie) (T : Table) (rng : List Word → Node) (rep : Represents fval M T rng)
    (hN : 2 ≤ T.order) : ∀ (ws : List Word) (s : State), (∀ w ∈ ws, w < M.bound) → (∀ x ∈ s.words.take s.length, x < M.bound) →
      scoreSeq (search fval M) s ws = scoreSeq (tableSearch T) s ws := by
  intro ws
  induction ws with
  | nil => intro s _ _; rfl
  | cons w ws ih =>
    intro s hws hs
    have hw : w < M.bound := hws w (by simp)
    have r := KV.C03Trie.trie_refines fval M T rng rep hN s w hw hs
    simp only [scoreSeq]
    rw [r.1, ← r.2.2.2.2]
    have hout := out_words_valid (search fval M) s w (fun x => x < M.bound) hw hs
    rw [ih _ (fun x hx => hws x (by simp [hx])) hout]

/-- whole sentences: left-to-right scoring of any word sequence from the null context over the
memory the trie builder writes gives the sum of the ARPA back-off scores along the growing history (`specSeq`), for every
well-formed model incl. those that need blanks -/
theorem trie_end_to_end_sentence (fval : Nat → Rat) (fadd : Nat → Nat → Nat) (a : Arpa) (bound start : Nat)
    (P B : List Word → Nat) (U : Nat) (enc : ArpaEncW fval a bound P B) (uk : UnkOK fval a U) (ar : BlankArith fval fadd a P B)
    (sm : ∀ st, visitAll (visitOrder (gramsOf a P B)) = .ok st →
      SmallOK (fixUnk (unkOf a U) (genTable fadd a.order (visitOrder (gramsOf a P B)) st.blanks)) bound a.order)
    (ws : List Word) (hv : ∀ w ∈ ws, a.gram [w] ≠ none ∧ w < bound) :
    ∃ M, buildTrie fadd a.order bound start (gramsOf a P B) (unkOf a U) = .ok M ∧
      (scoreSeq (search fval M) nullContextState ws).1 = specSeq a [] ws := by
  obtain ⟨b, hb, rep⟩ := trie_build_represents fval fadd a bound start P B U enc uk ar sm
  refine ⟨ofTable b.table bound a.order start, by simp [buildTrie, hb], ?_⟩
  have hbd : (ofTable b.table bound a.order start).bound = bound :=
    ofTable_bound _ bound a.order start (by have := enc.wf.order_ge; omega)
  rw [trie_scoreSeq fval _ _ _ rep enc.wf.order_ge ws nullContextState
    (fun w hw => by rw [hbd]; exact (hv w hw).2) (by simp [nullContextState])]
  exact (KV.C01.scoreSeq_spec a enc.wf (fun _ => false) ws [] _ (KV.C01.stateFor_null a) (fun w hw => (hv w hw).1)).1

end Sentences

section ExamplePruned
open KV.Table KV.Score
/-- an SRI-pruned trigram model: `<unk>`=0 `<s>`=1 `</s>`=2 `a`=3 `b`=4 `c`=5; bigrams `<s> a`, `a b`; trigram `a b c` whose
suffix `b c` is not in the model (a blank is needed).  Reversed keys. -/
def pArpa : Arpa :=
  { order := 3,
    entries := [([0], ⟨-2, 0, false⟩), ([1], ⟨-99, -1/2, false⟩), ([2], ⟨-5/4, 0, false⟩), ([3], ⟨-3/4, -1/4, false⟩),
                ([4], ⟨-3/2, -1/8, false⟩), ([5], ⟨-1, 0, false⟩),
                ([3, 1], ⟨-1/2, -1/4, false⟩), ([4, 3], ⟨-5/8, -3/8, false⟩), ([5, 4, 3], ⟨-3/8, 0, false⟩)],
    unkHallucinated := false }

def pBits : List (List Word × (Nat × Nat)) :=
  [([0], (3221225472, 2147483648)), ([1], (3267756032, 3204448256)), ([2], (3214934016, 2147483648)),
   ([3], (3208642560, 3196059648)), ([4], (3217031168, 3187671040)), ([5], (3212836864, 2147483648)),
   ([3, 1], (3204448256, 3196059648)), ([4, 3], (3206545408, 3200253952)), ([5, 4, 3], (3200253952, 2147483648))]

def pP (g : List Word) : Nat := ((pBits.lookup g).getD (0, 0)).1
def pB (g : List Word) : Nat := ((pBits.lookup g).getD (0, 0)).2
/-- the one float addition the builder performs on this model: `-1 + -0.125 = -1.125` -/
def pAdd (x y : Nat) : Nat := if x = 3212836864 ∧ y = 3187671040 then 3213885440 else 0

theorem p_real (g : List Word) (h : pArpa.gram g ≠ none) :
    g = [0] ∨ g = [1] ∨ g = [2] ∨ g = [3] ∨ g = [4] ∨ g = [5] ∨ g = [3, 1] ∨ g = [4, 3] ∨ g = [5, 4, 3] := by
  obtain ⟨e, he⟩ := Option.ne_none_iff_exists'.mp h
  exact gram_forall pArpa
    (fun g _ => g = [0] ∨ g = [1] ∨ g = [2] ∨ g = [3] ∨ g = [4] ∨ g = [5] ∨ g = [3, 1] ∨ g = [4, 3] ∨ g = [5, 4, 3])
    (by decide) g e he

theorem p_wf : WellFormed pArpa := wfB_sound pArpa (by decide)

theorem p_enc : ArpaEncW f32ToRat pArpa 6 pP pB := by
  refine ⟨p_wf, by decide, by decide, ?_, ?_, ?_, (fun h => absurd h (by decide)), by decide +kernel⟩
  · decide
  · exact gram_forall pArpa _ (by decide +kernel)
  · exact gram_forall pArpa _ (by decide +kernel)

/-- the pass creates exactly the blank `b c`, based on the unigram `c` -/
theorem p_blanks (st : VisitState) (h : visitAll (visitOrder (gramsOf pArpa pP pB)) = .ok st) :
    st.blanks = [⟨[5, 4], 1, 3212836864⟩] := by
  have hd : (match visitAll (visitOrder (gramsOf pArpa pP pB)) with
      | .ok s => some s.blanks | .error _ => none) = some [⟨[5, 4], 1, 3212836864⟩] := by decide +kernel
  rw [h] at hd
  exact Option.some.inj hd

theorem p_arith : BlankArith f32ToRat pAdd pArpa pP pB := by
  refine ⟨?_⟩
  intro st hst b hb
  rw [p_blanks st hst] at hb
  simp only [List.mem_singleton] at hb
  subst hb
  refine ⟨by decide +kernel, by decide +kernel, by decide +kernel⟩

theorem p_small (st : VisitState) (hst : visitAll (visitOrder (gramsOf pArpa pP pB)) = .ok st) :
    SmallOK (fixUnk (unkOf pArpa 0) (genTable pAdd pArpa.order (visitOrder (gramsOf pArpa pP pB)) st.blanks)) 6 pArpa.order := by
  rw [p_blanks st hst]
  exact ⟨by decide, by decide, by decide +kernel⟩

/-- `<unk>` is listed in this model: no fix-up -/
theorem p_unk : UnkOK f32ToRat pArpa 0 :=
  ⟨by decide, fun h => absurd h (by decide), fun h => absurd h (by decide)⟩

/-- **non-vacuity of `trie_end_to_end` on a model that needs a blank**: all hypotheses hold for the SRI-pruned example; the
builder model succeeds, hallucinates `b c` with probability `-1.125 = p(c) + bo(b)`, and every `FullScore` over the memory it
writes is the ARPA recursion -/
theorem example_end_to_end_pruned (start : Nat) (h : List Word) (st : KV.State.State)
    (sf : StateFor pArpa h st) (w : Word) (hw : pArpa.gram [w] ≠ none) (hwb : w < 6)
    (hs : ∀ x ∈ st.words.take st.length, x < 6) :
    ∃ M, buildTrie pAdd pArpa.order 6 start (gramsOf pArpa pP pB) none = .ok M ∧
      (fullScore (search f32ToRat M) st w).1.prob = score pArpa h w :=
  trie_end_to_end f32ToRat pAdd pArpa 6 start pP pB 0 p_enc p_unk p_arith p_small h st sf w hw hwb hs

end ExamplePruned

/-- the step `SortedFiles` performs on the n-grams of the file (`withUnkSlot`) gives the records the theorems
above talk about.  (1) no `<unk>` unigram — `Arpa.parse` puts the hallucinated entry first: the builder sees the zeroed slot in
its place and `unknown_missing_logprob` is written afterwards; (2) `<unk>` listed: the n-grams as they are, no fix-up. -/
theorem build_from_arpa (fadd : Nat → Nat → Nat) (a : Arpa) (P B : List Word → Nat) (U : Nat) :
    (∀ e0 rest, a.entries = ([0], e0) :: rest → a.unkHallucinated = true → (∀ p ∈ rest, p.1 ≠ [0]) →
      P [0] = 0 → B [0] = plusZero →
      buildTableArpa fadd a.order (rest.map fun p => ⟨p.1, P p.1, B p.1⟩) U
        = buildTableU fadd a.order (gramsOf a P B) (unkOf a U)) ∧
    (a.unkHallucinated = false → (∃ p ∈ a.entries, p.1 = [0]) →
      buildTableArpa fadd a.order (gramsOf a P B) U = buildTableU fadd a.order (gramsOf a P B) (unkOf a U)) := by
  constructor
  · intro e0 rest hent hu h0 hP hB
    have hany : (rest.map fun p => (⟨p.1, P p.1, B p.1⟩ : Gram)).any (fun g => g.key == [0]) = false := by
      rw [List.any_eq_false]
      intro g hg
      obtain ⟨p, hp, rfl⟩ := List.mem_map.mp hg
      simpa using h0 p hp
    have hg : gramsOf a P B = unkSlot :: rest.map fun p => (⟨p.1, P p.1, B p.1⟩ : Gram) := by
      simp [gramsOf, hent, unkSlot, hP, hB, plusZero]
    simp [buildTableArpa, withUnkSlot, hany, hg, unkOf, hu]
  · intro hu ⟨p, hp, hp0⟩
    have hany : (gramsOf a P B).any (fun g => g.key == [0]) = true := by
      rw [List.any_eq_true]
      exact ⟨⟨p.1, P p.1, B p.1⟩, List.mem_map.mpr ⟨p, hp, rfl⟩, by simp [hp0]⟩
    simp [buildTableArpa, withUnkSlot, hany, unkOf, hu]

section ExampleUnk
open KV.Table KV.Score
/-! ## Models without an `<unk>` unigram (hallucinated `<unk>`)

The builder runs on the zeroed slot 0 of the unigram file and `unknown_missing_logprob` is written afterwards (`fixUnk`).
`kArpa`: inside the class of `trie_end_to_end` (n-grams end in the literal `<unk>`, a blank elsewhere) — all hypotheses hold.
`hArpa`: the excluded class (corpus/C01_blank_on_hallucinated_unk.json) — the blank `b <unk>` is computed from the slot. -/

/-- `<unk>`=0 (hallucinated) `<s>`=1 `</s>`=2 `a`=3 `b`=4; bigrams `<s> a`, `a b`, `b <unk>`; trigrams `a b <unk>`, `<s> a </s>`
(whose suffix `a </s>` is a blank).  Reversed keys. -/
def kArpa : Arpa :=
  { order := 3,
    entries := [([0], ⟨-100, 0, false⟩), ([1], ⟨-99, -1/2, false⟩), ([2], ⟨-3/2, 0, false⟩), ([3], ⟨-5/4, -1/4, false⟩),
                ([4], ⟨-7/4, -1/8, false⟩),
                ([3, 1], ⟨-3/4, -1/32, false⟩), ([4, 3], ⟨-1/2, -1/16, false⟩), ([0, 4], ⟨-7/8, -1/2, false⟩),
                ([0, 4, 3], ⟨-3/8, 0, false⟩), ([2, 3, 1], ⟨-5/8, 0, false⟩)],
    unkHallucinated := true }

/-- the bits the builder reads: slot 0 is all zero -/
def kBits : List (List Word × (Nat × Nat)) :=
  [([0], (0, 0)), ([1], (3267756032, 3204448256)), ([2], (3217031168, 2147483648)), ([3], (3214934016, 3196059648)),
   ([4], (3219128320, 3187671040)),
   ([3, 1], (3208642560, 3170893824)), ([4, 3], (3204448256, 3179282432)), ([0, 4], (3210739712, 3204448256)),
   ([0, 4, 3], (3200253952, 2147483648)), ([2, 3, 1], (3206545408, 2147483648))]

def kP (g : List Word) : Nat := ((kBits.lookup g).getD (0, 0)).1
def kB (g : List Word) : Nat := ((kBits.lookup g).getD (0, 0)).2
/-- bits of `unknown_missing_logprob = -100` -/
def unkBits : Nat := 3267887104
/-- the one addition: `-1.5 + -0.25 = -1.75` -/
def kAdd (x y : Nat) : Nat := if x = 3217031168 ∧ y = 3196059648 then 3219128320 else 0

theorem k_real (g : List Word) (h : kArpa.gram g ≠ none) :
    g = [0] ∨ g = [1] ∨ g = [2] ∨ g = [3] ∨ g = [4] ∨ g = [3, 1] ∨ g = [4, 3] ∨ g = [0, 4] ∨ g = [0, 4, 3] ∨ g = [2, 3, 1] := by
  obtain ⟨e, he⟩ := Option.ne_none_iff_exists'.mp h
  exact gram_forall kArpa
    (fun g _ => g = [0] ∨ g = [1] ∨ g = [2] ∨ g = [3] ∨ g = [4] ∨ g = [3, 1] ∨ g = [4, 3] ∨ g = [0, 4] ∨ g = [0, 4, 3] ∨ g = [2, 3, 1])
    (by decide) g e he

theorem k_wf : WellFormed kArpa := wfB_sound kArpa (by decide)

theorem k_enc : ArpaEncW f32ToRat kArpa 5 kP kB := by
  refine ⟨k_wf, by decide, by decide, ?_, ?_, ?_, (fun _ => by decide), by decide +kernel⟩
  · decide
  · exact gram_forall kArpa _ (by decide +kernel)
  · exact gram_forall kArpa _ (by decide +kernel)

/-- the only blank is `a </s>`: none has `<unk>` as its newest word -/
theorem k_blanks (st : VisitState) (h : visitAll (visitOrder (gramsOf kArpa kP kB)) = .ok st) :
    st.blanks = [⟨[2, 3], 1, 3217031168⟩] := by
  have hd : (match visitAll (visitOrder (gramsOf kArpa kP kB)) with
      | .ok s => some s.blanks | .error _ => none) = some [⟨[2, 3], 1, 3217031168⟩] := by decide +kernel
  rw [h] at hd
  exact Option.some.inj hd

theorem k_unk : UnkOK f32ToRat kArpa unkBits := by
  refine ⟨by decide, fun _ => ⟨⟨-100, 0, false⟩, by decide, by decide +kernel, rfl⟩, ?_⟩
  intro _ w ctx hg hx h0
  obtain ⟨st, hst, po⟩ := visit_passOut (P := kP) (B := kB) k_enc.keys
  obtain ⟨b, hb, hk⟩ := (po.blank_key (w :: ctx)).mpr
    ((isBlankKey_iff k_enc.keys _).mpr ⟨List.cons_ne_nil w ctx, hg, hx⟩)
  rw [k_blanks st hst, List.mem_singleton] at hb
  subst hb
  exact absurd ((List.cons.inj hk).1.trans h0) (by decide)

theorem k_arith : BlankArith f32ToRat kAdd kArpa kP kB := by
  refine ⟨?_⟩
  intro st hst b hb
  rw [k_blanks st hst] at hb
  simp only [List.mem_singleton] at hb
  subst hb
  refine ⟨by decide +kernel, by decide +kernel, by decide +kernel⟩

theorem k_small (st : VisitState) (hst : visitAll (visitOrder (gramsOf kArpa kP kB)) = .ok st) :
    SmallOK (fixUnk (unkOf kArpa unkBits) (genTable kAdd kArpa.order (visitOrder (gramsOf kArpa kP kB)) st.blanks)) 5 kArpa.order := by
  rw [k_blanks st hst]
  exact ⟨by decide, by decide, by decide +kernel⟩

/-- **non-vacuity of `trie_end_to_end` with a hallucinated `<unk>`**: n-grams ending in the literal `<unk>`, a blank elsewhere;
the builder runs on the zeroed slot, `-100` is written afterwards, and every `FullScore` is the ARPA recursion -/
theorem example_end_to_end_unk (start : Nat) (h : List Word) (st : KV.State.State)
    (sf : StateFor kArpa h st) (w : Word) (hw : kArpa.gram [w] ≠ none) (hwb : w < 5)
    (hs : ∀ x ∈ st.words.take st.length, x < 5) :
    ∃ M, buildTrie kAdd kArpa.order 5 start (gramsOf kArpa kP kB) (some unkBits) = .ok M ∧
      (fullScore (search f32ToRat M) st w).1.prob = score kArpa h w :=
  trie_end_to_end f32ToRat kAdd kArpa 5 start kP kB unkBits k_enc k_unk k_arith k_small h st sf w hw hwb hs

/-- the excluded class (corpus/C01_blank_on_hallucinated_unk.json): unigrams `<s> </s> a b`, bigrams `a b`, `<s> a`, trigram
`a b <unk>`, no `<unk>` unigram: the blank `b <unk>` = key `[0, 4]` is needed -/
def hArpa : Arpa :=
  { order := 3,
    entries := [([0], ⟨-100, 0, false⟩), ([1], ⟨-1, -1/2, false⟩), ([2], ⟨-3/2, 0, false⟩), ([3], ⟨-5/4, -1/4, false⟩),
                ([4], ⟨-7/4, -1/8, false⟩),
                ([4, 3], ⟨-1/2, -1/16, false⟩), ([3, 1], ⟨-3/4, -1/32, false⟩), ([0, 4, 3], ⟨-3/8, 0, false⟩)],
    unkHallucinated := true }

def hBits : List (List Word × (Nat × Nat)) :=
  [([0], (0, 0)), ([1], (3212836864, 3204448256)), ([2], (3217031168, 2147483648)), ([3], (3214934016, 3196059648)),
   ([4], (3219128320, 3187671040)),
   ([4, 3], (3204448256, 3179282432)), ([3, 1], (3208642560, 3170893824)), ([0, 4, 3], (3200253952, 2147483648))]

def hP (g : List Word) : Nat := ((hBits.lookup g).getD (0, 0)).1
def hB (g : List Word) : Nat := ((hBits.lookup g).getD (0, 0)).2
/-- `+0.0 + x = x` (the only addition: slot probability `+0.0` plus `bo(b) = -0.125`) -/
def hAdd (x y : Nat) : Nat := if x = 0 then y else 0

/-- on the excluded class the builder model (like `build_binary`, byte for byte: `triebuild` stream,
fixed case 1) stores the blank `b <unk>` with probability bits of `-0.125 = 0 + bo(b)`, computed from the zeroed slot, and only
then writes `-100` into the `<unk>` unigram; `Table.build` (the ARPA recursion) has `-100.125` for that key; and the model
violates exactly the hypothesis `UnkOK.basis`.  Known finding `blank-based-on-hallucinated-unk`. -/
theorem unk_class_deviates :
    (match buildTableU hAdd hArpa.order (gramsOf hArpa hP hB) (unkOf hArpa unkBits) with
      | .ok b => some (b.table.lookup [0, 4], b.table.lookup [0])
      | .error _ => none) = some (some (3187671040, minusZero), some (unkBits, plusZero)) ∧
    f32ToRat (3187671040 % 2^31 + 2^31) = -1/8 ∧
    ((Table.build hArpa).lookup [0, 4]).map (·.prob) = some (-100 - 1/8) ∧
    ¬ (∀ w ctx, hArpa.gram (w :: ctx) = none → extendsLeft hArpa (w :: ctx) = true → w ≠ 0) := by
  refine ⟨by decide +kernel, by decide +kernel, by decide +kernel, ?_⟩
  intro h
  exact h 0 [4] (by decide) (by decide) rfl

end ExampleUnk

end KV.C03TrieBuild
