import Proofs.FilePieceOps
import Proofs.FilePieceLineInput
import Proofs.Tokenize
import Generated.C18
/-!
# C18 — Text input is transparent to buffering, mapping, compression and read sizes

Model: `lean/Model/FilePiece.lean` (the window state of `util::FilePiece`, `Shift` / `MMapShift` /
`ReadShift`, every reading operation, `util::ReadCompressed` member chaining) and
`lean/Model/Tokenize.lean` (`TokenIter`).  Spec: `specOp` — the same operation on the *whole*
remaining byte string.  The theorems quantify over every input, every chunk oracle (how the OS /
decompressor splits the data into reads), every `min_buffer`, every page size > 0, both modes,
every operation sequence; nothing is bounded.

The theorems are about /repo's code: `cfg.fixH = true ∧ cfg.fixI = true ∧ cfg.fixF = true` and `grammar`.  Section `Old` proves
that each variant with one flag `false`, or with `grammarOld`, violates the central theorem, with witnesses that the
check runs, scaled to the real page size, as directed cases.
-/
namespace KV.C18
open KV.FilePiece

/-- the model's `isSpace` is `util::kSpaces`, regenerated from /repo into `Generated/C18.lean` -/
theorem kSpaces_table : (List.range 256).filter isSpace = KV.Gen.C18.kSpaces := by decide +kernel

/-- the smallest and the default window (`InitializeNoRead`) computed by the model's formula equal the values
observed on real `FilePiece` objects built with `min_buffer = 0` and with the default argument -/
theorem initMapSize_observed :
    initMapSize KV.Gen.C18.pageSize 0 = KV.Gen.C18.minMapSize ∧
    initMapSize KV.Gen.C18.pageSize 1048576 = KV.Gen.C18.defaultMapSize := by decide

theorem pageSize_pos : 0 < KV.Gen.C18.pageSize := by decide

/-- the header `ReadFactory` reads ahead (modelled by `St.hdrLeft`) is `ReadCompressed::kMagicSize` -/
theorem kMagicSize_eq : kMagicSize = KV.Gen.C18.kMagicSize := by decide

/-- **window_inv**: after construction (any backend, any `min_buffer`) the window is the slice
`bytes[mappedOffset, mappedOffset + len)` of the input, `position_` lies inside it, `at_end_` implies the
window reaches EOF (all packed in `Inv`), `Offset()` is 0; and every operation preserves this. -/
theorem window_inv (env : Env) (hp : 0 < env.cfg.page) (hH : env.cfg.fixH = true) (hI : env.cfg.fixI = true)
    (hF : env.cfg.fixF = true) (G : NumKind → Grammar) (hG : ∀ k, GrammarOK (G k)) :
    (∀ mb b, Inv env (init env mb b) ∧ (init env mb b).offset = 0) ∧
    (∀ op st, Inv env st → Inv env (runOp env G op st).2) :=
  ⟨fun mb b => init_spec env mb b hp ⟨hH, hF⟩, fun op st h => (runOp_spec env G (fun _ _ => True) hG ⟨hH, hF⟩ hI op st h (fun _ _ _ => trivial)).inv⟩

theorem window_inv_meaning (env : Env) (st : St) (h : Inv env st) :
    st.win = (env.bytes.drop st.mappedOffset).take st.win.length ∧ st.pos ≤ st.win.length ∧
    st.mappedOffset + st.win.length ≤ env.bytes.length ∧
    (st.atEnd = true → st.mappedOffset + st.win.length = env.bytes.length) ∧
    st.visible = (env.bytes.drop st.offset).take (st.win.length - st.pos) :=
  ⟨h.win_eq, h.pos_le, h.in_range, h.atEnd_end, h.visible_eq⟩

/-- **op_transparent**: for every operation, chunk oracle, `min_buffer`, page size and mode, from every
reachable state: the result is the spec's result on the remaining bytes, `Offset()` advances by exactly the
bytes the spec consumes, and the invariant is kept.  (`canon` only identifies the two outcomes the property
leaves open at the end of the input, see `Model/FilePiece.lean`.) -/
theorem op_transparent (env : Env) (G : NumKind → Grammar) (hG : ∀ k, GrammarOK (G k))
    (hH : env.cfg.fixH = true) (hI : env.cfg.fixI = true) (hF : env.cfg.fixF = true) (op : Op) (st : St) (h : Inv env st) :
    canon op (runOp env G op st).1 = (specOp G op (env.bytes.drop st.offset)).1 ∧
    (runOp env G op st).2.offset = st.offset + (specOp G op (env.bytes.drop st.offset)).2 ∧
    Inv env (runOp env G op st).2 :=
  (runOp_spec env G (fun _ _ => True) hG ⟨hH, hF⟩ hI op st h (fun _ _ _ => trivial)).and

/-- **op_transparent / transcript_fn relative to a set of good tokens**: the same two theorems when the grammar
is only known to be a function of the token on tokens satisfying `Good` (the model's concrete grammars are one
on every token, theorem `concrete_grammar_ok`; `gFloatOld`, with the NaN test on the whole string, is not one on `NaN`,
`Old.nan_not_prefix_determined`): they hold for every operation that is not a number
read at a bad token, resp. for every script all of whose number reads meet good tokens (`GoodScript`, decided
along the spec transcript, i.e. a property of the bytes and the script only). -/
theorem op_transparent_on (env : Env) (G : NumKind → Grammar) (Good : NumKind → List Byte → Prop)
    (hG : ∀ k, GrammarOKOn (Good k) (G k))
    (hH : env.cfg.fixH = true) (hI : env.cfg.fixI = true) (hF : env.cfg.fixF = true) (op : Op) (st : St) (h : Inv env st)
    (hgood : OpGood Good op (env.bytes.drop st.offset)) :
    canon op (runOp env G op st).1 = (specOp G op (env.bytes.drop st.offset)).1 ∧
    (runOp env G op st).2.offset = st.offset + (specOp G op (env.bytes.drop st.offset)).2 ∧
    Inv env (runOp env G op st).2 :=
  (runOp_spec env G Good hG ⟨hH, hF⟩ hI op st h hgood).and

theorem transcript_fn_on (env₁ env₂ : Env) (hb : env₁.bytes = env₂.bytes)
    (hp₁ : 0 < env₁.cfg.page) (hH₁ : env₁.cfg.fixH = true) (hI₁ : env₁.cfg.fixI = true) (hF₁ : env₁.cfg.fixF = true)
    (hp₂ : 0 < env₂.cfg.page) (hH₂ : env₂.cfg.fixH = true) (hI₂ : env₂.cfg.fixI = true) (hF₂ : env₂.cfg.fixF = true)
    (G : NumKind → Grammar) (Good : NumKind → List Byte → Prop) (hG : ∀ k, GrammarOKOn (Good k) (G k))
    (mb₁ mb₂ : Nat) (b₁ b₂ : Backend) (ops : List Op) (hgs : GoodScript Good G env₁.bytes ops 0) :
    transcript env₁ G ops (init env₁ mb₁ b₁) = specTranscript G env₁.bytes ops 0 ∧
    transcript env₁ G ops (init env₁ mb₁ b₁) = transcript env₂ G ops (init env₂ mb₂ b₂) := by
  have t1 := transcript_init env₁ G Good hG hp₁ ⟨hH₁, hF₁⟩ hI₁ mb₁ b₁ ops hgs
  have t2 := transcript_init env₂ G Good hG hp₂ ⟨hH₂, hF₂⟩ hI₂ mb₂ b₂ ops (hb ▸ hgs)
  exact ⟨t1, by rw [t1, t2, hb]⟩

/-- **transcript_fn**: the transcript (results and offsets) of any operation sequence is the spec transcript
of the bytes — hence identical for any two executions over the same bytes, whatever their chunk oracles,
buffer sizes, page sizes and backends. -/
theorem transcript_fn (env₁ env₂ : Env) (hb : env₁.bytes = env₂.bytes)
    (hp₁ : 0 < env₁.cfg.page) (hH₁ : env₁.cfg.fixH = true) (hI₁ : env₁.cfg.fixI = true) (hF₁ : env₁.cfg.fixF = true)
    (hp₂ : 0 < env₂.cfg.page) (hH₂ : env₂.cfg.fixH = true) (hI₂ : env₂.cfg.fixI = true) (hF₂ : env₂.cfg.fixF = true)
    (G : NumKind → Grammar) (hG : ∀ k, GrammarOK (G k)) (mb₁ mb₂ : Nat) (b₁ b₂ : Backend) (ops : List Op) :
    transcript env₁ G ops (init env₁ mb₁ b₁) = specTranscript G env₁.bytes ops 0 ∧
    transcript env₁ G ops (init env₁ mb₁ b₁) = transcript env₂ G ops (init env₂ mb₂ b₂) :=
  transcript_fn_on env₁ env₂ hb hp₁ hH₁ hI₁ hF₁ hp₂ hH₂ hI₂ hF₂ G (fun _ _ => True) hG mb₁ mb₂ b₁ b₂ ops
    (goodScript_of_all G _ ops 0)

theorem specOp_nil (G : NumKind → Grammar) (op : Op) :
    ((specOp G op []).1 = Res.eof ∨ (specOp G op []).1 = Res.noWord ∨ (specOp G op []).1 = Res.skipped) ∧
    (specOp G op []).2 = 0 := by
  cases op <;> simp [specOp]

/-- **after_eof**: once the input is exhausted every further operation reports end of input (or "no word" /
"nothing skipped"), never data, and stays at the end. -/
theorem after_eof (env : Env) (G : NumKind → Grammar) (hG : ∀ k, GrammarOK (G k))
    (hH : env.cfg.fixH = true) (hI : env.cfg.fixI = true) (hF : env.cfg.fixF = true) (op : Op) (st : St) (h : Inv env st)
    (hend : env.bytes.drop st.offset = []) :
    (canon op (runOp env G op st).1 = Res.eof ∨ canon op (runOp env G op st).1 = Res.noWord ∨
      canon op (runOp env G op st).1 = Res.skipped) ∧
    (runOp env G op st).2.offset = st.offset ∧ env.bytes.drop (runOp env G op st).2.offset = [] := by
  obtain ⟨a, b, _⟩ := op_transparent env G hG hH hI hF op st h
  rw [hend] at a b
  obtain ⟨s1, s2⟩ := specOp_nil G op
  rw [s2] at b
  rw [a, b]
  exact ⟨s1, rfl, hend⟩

/-- a line returned by the spec (without CR stripping) is exactly the consumed bytes minus the delimiter: either
`consumed = line ++ [delim]` with no delimiter inside the line, or the unterminated last line -/
theorem spec_line_exact (G : NumKind → Grammar) (d : Byte) (rest b : List Byte) (n : Nat)
    (h : specOp G (.readLine d false) rest = (.bytes b, n)) :
    (rest.take n = b ++ [d] ∧ idxOf (· == d) b = none) ∨ (b = rest ∧ n = rest.length ∧ idxOf (· == d) rest = none) := by
  rw [specOp_readLine] at h
  split at h
  · simp at h
  · cases hi : idxOf (· == d) rest with
    | none =>
      rw [hi] at h
      simp only [Prod.mk.injEq, Res.bytes.injEq] at h
      right; exact ⟨h.1.symm, h.2.symm, rfl⟩
    | some i =>
      rw [hi] at h
      simp only [Bool.false_and, Bool.false_eq_true, ↓reduceIte, Nat.sub_zero, Prod.mk.injEq, Res.bytes.injEq] at h
      obtain ⟨h1, h2⟩ := h
      subst h1 h2
      left
      obtain ⟨s1, s2⟩ := idxOf_some_spec hi
      have hlt := idxOf_some_lt hi
      exact ⟨take_succ_of_getD hlt (by simpa using s2), s1⟩

theorem mem_takeWhile_pred {p : Byte → Bool} {l : List Byte} {b : Byte} (h : b ∈ l.takeWhile p) : p b = true :=
  mem_takeWhile h

/-- a word returned by the spec is exactly the consumed bytes minus the leading delimiters, and is followed by a
delimiter or the end of the input -/
theorem spec_word_exact (G : NumKind → Grammar) (d : Byte → Bool) (rest w : List Byte) (n : Nat)
    (h : specOp G (.readDelimited d) rest = (.bytes w, n)) :
    rest.take n = rest.takeWhile d ++ w ∧ (∀ b ∈ w, d b = false) ∧ w ≠ [] ∧
    (rest.drop n = [] ∨ ∃ c t, rest.drop n = c :: t ∧ d c = true) := by
  rw [specOp_readDelimited] at h
  obtain ⟨hne, rfl, hlen⟩ := specWord_bytes (congrArg Prod.fst h)
  have hn : n = (rest.takeWhile d ++ (rest.dropWhile d).takeWhile (fun b => !d b)).length := by
    rw [List.length_append, ← hlen]; exact (congrArg Prod.snd h).symm
  have hall : rest = rest.takeWhile d ++ ((rest.dropWhile d).takeWhile (fun b => !d b) ++
      (rest.dropWhile d).dropWhile (fun b => !d b)) := by
    rw [List.takeWhile_append_dropWhile, List.takeWhile_append_dropWhile]
  refine ⟨?_, ?_, ?_, ?_⟩
  · conv => lhs; rw [hall, ← List.append_assoc, hn, List.take_left]
  · intro b hb
    simpa using mem_takeWhile_pred hb
  · intro hw
    cases hd : rest.dropWhile d with
    | nil => exact hne hd
    | cons c t =>
      have hc := dropWhile_head hd
      rw [hd] at hw
      simp [List.takeWhile, hc] at hw
  · have hdrop : rest.drop n = (rest.dropWhile d).dropWhile (fun b => !d b) := by
      conv => lhs; rw [hall, ← List.append_assoc, hn, List.drop_left]
    rw [hdrop]
    cases hd : (rest.dropWhile d).dropWhile (fun b => !d b) with
    | nil => left; rfl
    | cons c t =>
      right
      refine ⟨c, t, rfl, ?_⟩
      have := dropWhile_head hd
      simpa using this

/-- **shift_progress**: a `Shift` on a window that has not seen the end succeeds, keeps `Offset()`, shows the same
bytes at the same offsets as before as far as both windows reach, and strictly decreases `mu` = (bytes of the
input beyond the window) + (1 unless `at_end_`) + (length + 2 while in mmap mode — the fall back to read() after
a failed mmap happens at most once and restarts with an empty buffer); on a window that has seen the end it
throws.  So every loop around `Shift` runs at most `mu + 1 ≤ 2·length + 4` times. -/
theorem shift_progress (env : Env) (hH : env.cfg.fixH = true) (hF : env.cfg.fixF = true) (st : St) (h : Inv env st) :
    (st.atEnd = false → ∃ st', shift env st = .ok st' ∧ Inv env st' ∧ st'.offset = st.offset ∧
        mu env st' < mu env st ∧ st'.visible.take st.visible.length = st.visible.take st'.visible.length ∧
        (st'.visible ≠ [] ∨ st'.atEnd = true)) ∧
    (st.atEnd = true → shift env st = .error .eof) ∧ mu env st ≤ 2 * env.bytes.length + 3 := by
  refine ⟨fun he => ?_, fun he => shift_atEnd he, mu_le env st⟩
  obtain ⟨st', hs, hp⟩ := shift_post ⟨hH, hF⟩ h he
  exact ⟨st', hs, hp.inv, hp.offset_eq, hp.mu_lt, visible_common h hp.inv hp.offset_eq, hp.nonempty_or_end⟩

theorem canon_fuel (op : Op) : canon op Res.fuel = Res.fuel := by cases op <;> rfl

theorem specOp_ne_fuel (G : NumKind → Grammar) (op : Op) (rest : List Byte) : (specOp G op rest).1 ≠ Res.fuel := by
  unfold specOp
  cases op <;> dsimp only <;> repeat' split
  all_goals exact Res.noConfusion

/-- **every operation terminates**: the fuel `2·length + 4` handed to the loops is never exhausted. -/
theorem ops_terminate (env : Env) (G : NumKind → Grammar) (hG : ∀ k, GrammarOK (G k))
    (hH : env.cfg.fixH = true) (hI : env.cfg.fixI = true) (hF : env.cfg.fixF = true) (op : Op) (st : St) (h : Inv env st) :
    (runOp env G op st).1 ≠ Res.fuel := by
  intro hc
  obtain ⟨a, _, _⟩ := op_transparent env G hG hH hI hF op st h
  rw [hc, canon_fuel] at a
  exact specOp_ne_fuel G op _ a.symm

/-- the chunk oracle loses no generality: every legal return value of a read (0 exactly when nothing is left or
nothing was asked, otherwise anything from 1 to min(request, available)) is produced by some oracle -/
theorem chunk_complete (i req avail n : Nat) (h0 : n = 0 ↔ (avail = 0 ∨ req = 0)) (hle : n ≤ min req avail) :
    chunk (fun _ => n) i req avail = n := by
  unfold chunk
  split
  · rename_i h; exact (h0.mpr h).symm
  · rename_i h
    have : n ≠ 0 := fun hn => h (h0.mp hn)
    show max 1 (min n (min req avail)) = n
    rw [Nat.min_eq_left hle, Nat.max_eq_right (Nat.pos_of_ne_zero this)]

/-- **compressed_concat**: reading through the member chain with any request sizes and any decoder output
granularity yields `decode(m₁) ++ decode(m₂) ++ …`; each `Read` returns at most what was asked, and 0 only
when nothing was asked or nothing is left; after the end every `Read` returns 0.  In particular
`ReadCompressed::Read` is an instance of the chunk oracle of the FilePiece model over the concatenated
plain bytes. -/
theorem compressed_concat (orc amt : Nat → Nat) (hamt : ∀ i, 0 < amt i) (ch : Chain) :
    (∀ f i, ch.flatten.length < f → rcReadAll orc amt f ch i = ch.flatten) ∧
    (∀ i a, ∃ n, (rcRead orc ch i a).1 = ch.flatten.take n ∧ (rcRead orc ch i a).2.flatten = ch.flatten.drop n ∧
        n ≤ min a ch.flatten.length ∧ (n = 0 ↔ (a = 0 ∨ ch.flatten = []))) ∧
    (ch.flatten = [] → ∀ i a, (rcRead orc ch i a).1 = [] ∧ (rcRead orc ch i a).2.flatten = []) := by
  refine ⟨fun f i hf => rcReadAll_eq orc amt hamt f ch i hf, fun i a => ?_, fun h i a => ?_⟩
  · obtain ⟨n, h1, h2, ha, hn, h0⟩ := rcRead_contract orc ch i a
    exact ⟨n, h1, h2, Nat.le_min.mpr ⟨ha, hn⟩, h0⟩
  · obtain ⟨n, h1, h2, _⟩ := rcRead_contract orc ch i a
    rw [h] at h1 h2
    exact ⟨h1.trans List.take_nil, h2.trans List.drop_nil⟩

/-- the chain of a raw file is built member by member by the (trusted, abstract) decoder -/
theorem compressed_members (dec : List Byte → Option (List Byte × List Byte)) (f : Nat) (raw : List Byte) (ch : Chain)
    (h : decodeChain dec f raw = some ch) :
    (raw = [] ∧ ch = []) ∨ (∃ plain rest ch', dec raw = some (plain, rest) ∧ ch = plain :: ch' ∧
        decodeChain dec (f - 1) rest = some ch') := by
  cases f with
  | zero => simp [decodeChain] at h
  | succ f =>
    simp only [decodeChain] at h
    by_cases he : raw.isEmpty
    · simp [he] at h
      left; exact ⟨by simpa using he, h⟩
    · simp only [he, Bool.false_eq_true, ↓reduceIte] at h
      cases hd : dec raw with
      | none => simp [hd] at h
      | some pr =>
        obtain ⟨plain, rest⟩ := pr
        simp only [hd, Option.map_eq_some_iff] at h
        obtain ⟨ch', h1, h2⟩ := h
        right; exact ⟨plain, rest, ch', rfl, h2.symm, by simpa using h1⟩

/-- **compressed_concat, concretely**: the readers of read_compressed.cc — `ReadFactory` with its `kMagicSize`
read-ahead and magic detection, `Complete`, `Uncompressed`, `UncompressedWithHeader`, `StreamCompressed` with its
16 KiB input buffer, the hand-over of left-over input to the reader of the next member and the forwarding of a
`Read` that produced nothing — meet the same contract as the abstract `rcRead`, for every OS read-size pattern and
every (progress-making) behaviour of the decoders: from a state that owes the chain `ch`, `Read(amount > 0)`
succeeds, returns a prefix of `ch.flatten` of at most `amount` bytes, empty only if nothing is owed, and leaves a
state owing the rest; opening a well-formed input (a chain of members, or plain bytes without a magic) gives a
state owing exactly its decoded bytes.  The fuel `raw bytes + 1` is never exhausted, and neither error arises. -/
theorem compressed_concat_concrete (C : Codecs) (hC : CodecsOK C) (os : Nat → Nat) (dorc : Nat → Nat → Nat → Nat → Nat × Nat) :
    (∀ f s amount ch, Abs C s ch → 0 < amount → rcMeasure s ≤ f →
      ∃ out s' ch', rcRead2 C os dorc f s amount = .ok (out, s') ∧ Abs C s' ch' ∧
        out ++ ch'.flatten = ch.flatten ∧ out.length ≤ amount ∧ (out = [] ↔ ch.flatten = [])) ∧
    (∀ raw ch, Members C raw ch → ∃ s, rcOpen C raw = .ok s ∧ Abs C s ch) ∧
    (∀ raw, raw ≠ [] → C.magic (raw.take kMagicSize) = false → ∃ s, rcOpen C raw = .ok s ∧ Abs C s [raw]) := by
  refine ⟨rcRead2_contract C hC os dorc, ?_, ?_⟩
  · intro raw ch hm
    obtain ⟨s, hs, ha, _⟩ := readFactory_next C hC raw [] false ch hm
    exact ⟨s, hs, ha⟩
  · intro raw hne hnm
    have hne' : (raw.take kMagicSize).isEmpty = false := by
      cases raw with
      | nil => exact absurd rfl hne
      | cons a t => simp [kMagicSize]
    refine ⟨⟨raw.drop kMagicSize, .withHeader (raw.take kMagicSize)⟩, ?_, ?_⟩
    · simp [rcOpen, readFactory, hne', hnm]
    · have := Abs.withHeader (C := C) (raw.drop kMagicSize) (raw.take kMagicSize)
        (by intro hc; rw [hc] at hne'; simp at hne')
      rwa [List.take_append_drop] at this

/-- a toy codec for non-vacuity: a member is six bytes 200, a length byte n, and n payload bytes -/
def toyCodecs : Codecs where
  member := fun raw => match raw with
    | 200 :: 200 :: 200 :: 200 :: 200 :: 200 :: n :: rest => if n ≤ rest.length then some (7 + n, rest.take n) else none
    | _ => none
  magic := fun h => h.head? == some 200

theorem toyCodecs_ok : CodecsOK toyCodecs where
  member_len := by
    intro raw len plain h
    simp only [toyCodecs] at h
    split at h
    · rename_i n rest
      by_cases hle : n ≤ rest.length
      · rw [if_pos hle] at h
        simp only [Option.some.injEq, Prod.mk.injEq] at h
        obtain ⟨h1, _⟩ := h
        subst h1
        have hle' : @LE.le Nat _ n rest.length := hle
        simp only [kMagicSize, List.length_cons]; omega
      · rw [if_neg hle] at h; cases h
    · cases h
  member_magic := by
    intro raw len plain k h hk
    simp only [toyCodecs] at h ⊢
    split at h
    · cases k with
      | zero => simp [kMagicSize] at hk
      | succ k => simp
    · cases h

def toyReadN (os : Nat → Nat) (dorc : Nat → Nat → Nat → Nat → Nat × Nat) : Nat → RcSt → List Byte
  | 0, _ => []
  | k + 1, s =>
    match rcRead2 toyCodecs os dorc 40 s 5 with
    | .ok (out, s') => out ++ toyReadN os dorc k s'
    | .error _ => [0]

/-- three toy members ("ab", "", "c") read through the concrete readers, once with 1-byte decoder steps and once
with greedy ones: the member boundaries, the empty member and the left-over hand-over are exercised -/
example :
    (match rcOpen toyCodecs [200, 200, 200, 200, 200, 200, 2, 97, 98, 200, 200, 200, 200, 200, 200, 0,
                             200, 200, 200, 200, 200, 200, 1, 99] with
     | .ok s => (toyReadN (fun _ => 3) (fun _ _ _ _ => (1, 1)) 6 s, toyReadN (fun _ => 3) (fun _ _ _ _ => (100, 100)) 6 s)
     | .error _ => ([0], [0])) = ([97, 98, 99], [97, 98, 99]) := by decide +kernel

theorem lineIter_eq (env : Env) (G : NumKind → Grammar) (hG : ∀ k, GrammarOK (G k))
    (hH : env.cfg.fixH = true) (hI : env.cfg.fixI = true) (hF : env.cfg.fixF = true) (d : Byte) (s : Bool) :
    ∀ (f : Nat) (st : St), Inv env st →
      lineIter env G d s f st = specLines G d s f (env.bytes.drop st.offset) := by
  intro f
  induction f with
  | zero => intro st _; rfl
  | succ f ih =>
    intro st h
    obtain ⟨a, b, c⟩ := op_transparent env G hG hH hI hF (.readLineOrEOF d s) st h
    replace a : (runOp env G (.readLineOrEOF d s) st).1 = _ := a
    simp only [lineIter, specLines]
    generalize runOp env G (.readLineOrEOF d s) st = out at a b c
    generalize specOp G (.readLineOrEOF d s) (env.bytes.drop st.offset) = sp at a b
    obtain ⟨r, st'⟩ := out
    obtain ⟨sr, n⟩ := sp
    simp only at a b c
    subst a
    cases r with
    | bytes bs =>
      dsimp only
      rw [ih st' c, b, List.drop_drop]
    | _ => rfl

/-- **tokenizer_total**: `TokenIter<BoolCharacter, SkipEmpty>` hands out exactly the maximal delimiter-free
pieces of its input (all of them, or the non-empty ones), in order, nothing split, merged or lost.  (`LineIterator`:
`lineIterator_total` below.) -/
theorem tokenizer_total (d : KV.Tokenize.Byte → Bool) (skip : Bool) (s : List KV.Tokenize.Byte) :
    KV.Tokenize.tokens d skip s = KV.Tokenize.splitSpec d skip s :=
  KV.Tokenize.tokens_eq_splitSpec d skip s

theorem lineIterator_total (env : Env) (hp : 0 < env.cfg.page) (G : NumKind → Grammar) (hG : ∀ k, GrammarOK (G k))
    (hH : env.cfg.fixH = true) (hI : env.cfg.fixI = true) (hF : env.cfg.fixF = true) (d : Byte) (s : Bool) (mb : Nat)
    (b : Backend) (f : Nat) :
    lineIter env G d s f (init env mb b) = specLines G d s f env.bytes := by
  obtain ⟨i, o⟩ := init_spec env mb b hp ⟨hH, hF⟩
  rw [lineIter_eq env G hG hH hI hF d s f _ i, o]; rfl

/-- **LineInput** (util/stream/line_input.cc): for every block size, chunk oracle and member chain, the blocks handed
down the chain concatenate to the input, every block but the last ends with a newline and none exceeds the block
size; the only failure is a stretch of `B` consecutive input bytes without a newline ("Is this a text file?"); the
fuel `length + 1` is never exhausted.  (No correspondence run: the class has no constructor definition in the tree.) -/
theorem lineInput_blocks (orc : Nat → Nat) (B : Nat) (ch : Chain) (hB : 0 < B) :
    match liRun orc B (ch.flatten.length + 1) ch 0 [] with
    | .ok blocks => blocks.flatten = ch.flatten ∧ LiGood B blocks
    | .error .noNewline => ∃ buf, buf.length = B ∧ (∀ x ∈ buf, (x == 10) = false) ∧ buf <:+: ch.flatten
    | .error .fuel => False := by
  have := liRun_spec orc B (ch.flatten.length + 1) ch 0 [] hB (Nat.lt_succ_self _)
  rw [List.nil_append] at this
  exact this

/-- a grammar satisfying the hypotheses: "a leading '0' is the number 0" -/
def toyGrammar : Grammar := fun s => if s.head? = some 48 then some (0, 1) else none

theorem toyGrammar_ok : GrammarOK toyGrammar where
  count_le := by
    intro s v c h
    cases s with
    | nil => simp [toyGrammar] at h
    | cons a t =>
      simp only [toyGrammar] at h
      split at h
      · simp at h; simp; omega
      · simp at h
  prefix_det := by
    intro tok sp junk hne _ _
    cases tok with
    | nil => exact absurd rfl hne
    | cons a t => simp [toyGrammar]
  empty := rfl

/-- the grammars behind `ReadLong` / `ReadULong` (strtol / strtoul + kenlm's error test, as modelled in
`Model/FilePiece.lean` and compared with the real parsers on every generated number) meet the hypotheses -/
theorem integer_grammars_ok : GrammarOK gLong ∧ GrammarOK gULong := ⟨gLong_ok, gULong_ok⟩

/-- **the model's concrete grammars meet the grammar hypotheses on every token**: strtol / strtoul, and kenlm's
floating-point `ParseNumber` with the NaN test on the characters the converter consumed (`gFloatOld`, with the test on the
whole string, does not: `Old.nan_not_prefix_determined`). -/
theorem concrete_grammar_ok : ∀ k, GrammarOK (grammar k)
  | .float => gFloat_ok false
  | .double => gFloat_ok true
  | .long => gLong_ok
  | .ulong => gULong_ok

/-- **C18 for the concrete grammars, without any assumption on the grammar or the script**: over the same bytes,
any two executions (any chunk oracles, buffer sizes, page sizes, backends, mmap failures) of any script produce
the spec transcript, hence the same transcript. -/
theorem transcript_fn_concrete (env₁ env₂ : Env) (hb : env₁.bytes = env₂.bytes)
    (hp₁ : 0 < env₁.cfg.page) (hH₁ : env₁.cfg.fixH = true) (hI₁ : env₁.cfg.fixI = true) (hF₁ : env₁.cfg.fixF = true)
    (hp₂ : 0 < env₂.cfg.page) (hH₂ : env₂.cfg.fixH = true) (hI₂ : env₂.cfg.fixI = true) (hF₂ : env₂.cfg.fixF = true)
    (mb₁ mb₂ : Nat) (b₁ b₂ : Backend) (ops : List Op) :
    transcript env₁ grammar ops (init env₁ mb₁ b₁) = specTranscript grammar env₁.bytes ops 0 ∧
    transcript env₁ grammar ops (init env₁ mb₁ b₁) = transcript env₂ grammar ops (init env₂ mb₂ b₂) :=
  transcript_fn env₁ env₂ hb hp₁ hH₁ hI₁ hF₁ hp₂ hH₂ hI₂ hF₂ grammar concrete_grammar_ok mb₁ mb₂ b₁ b₂ ops

def env0 : Env := { cfg := { page := 4, fixH := true, fixI := true }, bytes := [97, 98, 32, 99, 100, 101, 102, 103, 104, 105, 106, 107, 108, 10],
                    orc := fun _ => 3 }

/-- the hypotheses of the theorems are met by a concrete non-trivial state: a window of 8 bytes over a
14-byte input delivered in 3-byte reads (after the 6-byte header `ReadFactory` read ahead), not at the end, with
unread data both inside and beyond the window -/
example : Inv env0 (init env0 1 .pipe) ∧ (init env0 1 .pipe).atEnd = false ∧
    (init env0 1 .pipe).visible = [97, 98, 32, 99, 100, 101] ∧ env0.bytes.drop 6 ≠ [] :=
  ⟨(init_spec env0 1 .pipe (by decide) ⟨rfl, rfl⟩).1, by decide, by decide, by decide⟩

example : transcript env0 (fun _ => toyGrammar) [.readDelimited isSpace, .readDelimited isSpace, .get, .peek]
    (init env0 1 .pipe) =
    [(.bytes [97, 98], 2), (.bytes [99, 100, 101, 102, 103, 104, 105, 106, 107, 108], 13), (.char 10, 14), (.eof, 14)] := by
  decide +kernel

/-- a chain of three members (one empty) read in 2-byte pieces with requests of 3 bytes; blocks of 5 bytes
(the second block is the last one: it is handed out as it is) -/
example : rcReadAll (fun _ => 2) (fun _ => 3) 20 [[97, 98, 10, 99], [], [100, 10, 101]] 0 = [97, 98, 10, 99, 100, 10, 101] ∧
    (match liRun (fun _ => 2) 5 8 [[97, 98, 10, 99], [], [100, 10, 101]] 0 [] with | .ok b => b | .error _ => []) =
      [[97, 98, 10], [99, 100, 10, 101]] := by
  decide +kernel

example : KV.Tokenize.tokens isSpace true [32, 97, 98, 32, 32, 99, 10] = [[97, 98], [99]] ∧
    KV.Tokenize.tokens isSpace false [32, 97, 32] = [[], [97], []] := by decide +kernel

/-- `ReadWordSameLine` at a window boundary (page 4, windows of 8 bytes, file of 13 bytes): the delimiter is the last
byte of the first mmap window, the line goes on in the second — which is the FINAL window, so `at_end_` is set by
the very Shift that the space-skipping loop issues.  The words of the line are all returned, then the newline
stops the loop; file, pipe and istream agree (instances of `op_transparent`, here by evaluation). -/
example :
    let bytes := [97, 98, 32, 99, 100, 101, 102, 32, 103, 104, 32, 105, 10]
    let ops := [Op.readWordSameLine isSpace, .readWordSameLine isSpace, .readWordSameLine isSpace,
                .readWordSameLine isSpace, .readWordSameLine isSpace, .get, .readWordSameLine isSpace]
    let env : Env := { cfg := { page := 4 }, bytes := bytes, orc := fun _ => 1000 }
    transcript env grammar ops (init env 1 .file) =
      [(.bytes [97, 98], 2), (.bytes [99, 100, 101, 102], 7), (.bytes [103, 104], 10), (.bytes [105], 12),
       (.noWord, 12), (.char 10, 13), (.noWord, 13)] ∧
    transcript env grammar ops (init env 1 .file) = transcript env grammar ops (init env 1 .pipe) ∧
    transcript env grammar ops (init env 1 .file) = transcript env grammar ops (init env 1 .lazy) ∧
    (init env 1 .file).win.length = 8 ∧ (init env 1 .file).atEnd = false := by
  decide +kernel

/-! ## Old: the variants `fixH` / `fixI` / `fixF = false` and `grammarOld` (/repo's code without the change of 9a90348, 11a2eff, 9bc8d28,
a461449 respectively): the property fails for each -/
section Old

def noGrammar : NumKind → Grammar := fun _ _ => none

def oldCfg (page : Nat) : Cfg := { page := page, fixH := false, fixI := false, fixF := false }

/-- H: read mode, window of 8 bytes (page 4): `ReadDelimited` twice over "ab cdefghijkl\n".  The second word
makes `ReadShift` compact the buffer; `mapped_offset_` is not advanced, so `Offset()` reports 10 instead of 13. -/
def envH : Env := { cfg := oldCfg 4, bytes := [97, 98, 32, 99, 100, 101, 102, 103, 104, 105, 106, 107, 108, 10], orc := fun _ => 1000 }

theorem Old.offset_after_compaction :
    transcript envH noGrammar [.readDelimited isSpace, .readDelimited isSpace] (init envH 1 .pipe) =
      [(.bytes [97, 98], 2), (.bytes [99, 100, 101, 102, 103, 104, 105, 106, 107, 108], 10)] ∧
    specTranscript noGrammar envH.bytes [.readDelimited isSpace, .readDelimited isSpace] 0 =
      [(.bytes [97, 98], 2), (.bytes [99, 100, 101, 102, 103, 104, 105, 106, 107, 108], 13)] := by
  decide +kernel

/-- I: mmap mode, window of 8 bytes (page 4) over "aaaaaaa\nbbbb": `ReadLine` consumes the first window exactly;
the `Shift` inside `get` maps the final window and sets `at_end_`, and `get` throws although 4 bytes remain;
the next `get` returns 'b'. -/
def envI : Env := { cfg := oldCfg 4, bytes := [97, 97, 97, 97, 97, 97, 97, 10, 98, 98, 98, 98], orc := fun _ => 1000 }

theorem Old.spurious_eof :
    transcript envI noGrammar [.readLine 10 true, .get, .get] (init envI 1 .file) =
      [(.bytes [97, 97, 97, 97, 97, 97, 97], 8), (.eof, 8), (.char 98, 9)] ∧
    specTranscript noGrammar envI.bytes [.readLine 10 true, .get, .get] 0 =
      [(.bytes [97, 97, 97, 97, 97, 97, 97], 8), (.char 98, 9), (.char 98, 10)] := by
  decide +kernel

/-- F: mmap mode, window of 8 bytes (page 4) over "ab cd efghijklmnopq\n"; the second `mmap` (file offset 4) fails, so
`MMapShift` falls back to read() at `desired_begin = 6` but leaves `mapped_offset_ = 0`: the word is right, `Offset()`
reports 13 instead of 19. -/
def envF : Env := { cfg := oldCfg 4, bytes := [97, 98, 32, 99, 100, 32, 101, 102, 103, 104, 105, 106, 107, 108, 109, 110, 111, 112, 113, 10],
                    orc := fun _ => 1000, mmapFail := fun mo => decide (4 ≤ mo) }

theorem Old.offset_after_mmap_fallback :
    transcript envF noGrammar [.readDelimited isSpace, .readDelimited isSpace, .readDelimited isSpace] (init envF 1 .file) =
      [(.bytes [97, 98], 2), (.bytes [99, 100], 5), (.bytes [101, 102, 103, 104, 105, 106, 107, 108, 109, 110, 111, 112, 113], 13)] ∧
    specTranscript noGrammar envF.bytes [.readDelimited isSpace, .readDelimited isSpace, .readDelimited isSpace] 0 =
      [(.bytes [97, 98], 2), (.bytes [99, 100], 5), (.bytes [101, 102, 103, 104, 105, 106, 107, 108, 109, 110, 111, 112, 113], 19)] := by
  decide +kernel

/-- N: `gFloatOld`, the floating-point `ParseNumber` with the NaN test on the whole string, compares the *whole string handed to it* (everything up to the last
space of the window) with "NaN": "NaN" alone parses, "NaN 1" (the same token with more of the window behind it)
throws — the verdict depends on where the window ends.  So `GrammarOKOn.prefix_det` fails for it already with `Good := True` (`GrammarOK`). -/
theorem Old.nan_not_prefix_determined :
    gFloatOld false [78, 97, 78] = some (nanCode, 3) ∧ gFloatOld false ([78, 97, 78] ++ 32 :: [49]) = none ∧
    ¬ GrammarOK (gFloatOld false) := by
  have h1 : gFloatOld false [78, 97, 78] = some (nanCode, 3) := by decide +kernel
  have h2 : gFloatOld false ([78, 97, 78] ++ 32 :: [49]) = none := by decide +kernel
  refine ⟨h1, h2, fun h => ?_⟩
  have := h.prefix_det [78, 97, 78] 32 [49] (by decide) (by decide) (by decide) trivial
  rw [h1, h2] at this
  exact absurd this (by decide)

/-- the same input "xxxxx NaN 1\n" through a pipe (window 8 bytes, page 4), `ReadDelimited` then `ReadFloat`: with
1-byte reads the window ends right after "NaN " and `grammarOld` returns NaN; with full reads it throws.  Same
bytes, two window positions, two verdicts — with all three window repairs in.  The repaired test gives NaN both times. -/
def envN (orc : Nat → Nat) : Env :=
  { cfg := { page := 4 }, bytes := [120, 120, 120, 120, 120, 32, 78, 97, 78, 32, 49, 10], orc := orc }

theorem Old.nan_depends_on_window :
    transcript (envN fun _ => 1) grammarOld [.readDelimited isSpace, .readNumber .float] (init (envN fun _ => 1) 1 .pipe) =
      [(.bytes [120, 120, 120, 120, 120], 5), (.num nanCode, 9)] ∧
    transcript (envN fun _ => 1000) grammarOld [.readDelimited isSpace, .readNumber .float] (init (envN fun _ => 1000) 1 .pipe) =
      [(.bytes [120, 120, 120, 120, 120], 5), (.parseErr [78, 97, 78], 6)] ∧
    transcript (envN fun _ => 1) grammar [.readDelimited isSpace, .readNumber .float] (init (envN fun _ => 1) 1 .pipe) =
      transcript (envN fun _ => 1000) grammar [.readDelimited isSpace, .readNumber .float] (init (envN fun _ => 1000) 1 .pipe) := by
  decide +kernel

/-- **negation of `op_transparent` / `transcript_fn` without the repairs**: with any one repair missing there are
an input, a backend, a buffer size and an operation sequence whose transcript is not the spec's. -/
theorem Old.not_transparent :
    (∃ env mb b ops, 0 < env.cfg.page ∧ env.cfg.fixH = false ∧
        transcript env noGrammar ops (init env mb b) ≠ specTranscript noGrammar env.bytes ops 0) ∧
    (∃ env mb b ops, 0 < env.cfg.page ∧ env.cfg.fixH = true ∧ env.cfg.fixF = true ∧ env.cfg.fixI = false ∧
        transcript env noGrammar ops (init env mb b) ≠ specTranscript noGrammar env.bytes ops 0) ∧
    (∃ env mb b ops, 0 < env.cfg.page ∧ env.cfg.fixH = true ∧ env.cfg.fixI = true ∧ env.cfg.fixF = false ∧
        transcript env noGrammar ops (init env mb b) ≠ specTranscript noGrammar env.bytes ops 0) := by
  refine ⟨⟨envH, 1, .pipe, [.readDelimited isSpace, .readDelimited isSpace], by decide, rfl, by decide +kernel⟩,
          ⟨{ envI with cfg := { page := 4, fixH := true, fixI := false, fixF := true } }, 1, .file, [.readLine 10 true, .get, .get],
           by decide, rfl, rfl, rfl, by decide +kernel⟩,
          ⟨{ envF with cfg := { page := 4, fixH := true, fixI := true, fixF := false } }, 1, .file,
           [.readDelimited isSpace, .readDelimited isSpace, .readDelimited isSpace], by decide, rfl, rfl, rfl, by decide +kernel⟩⟩

/-- the same three witnesses are handled correctly by the repaired code (so the repairs are what matters) -/
theorem Old.repaired_witnesses :
    transcript { envH with cfg := { page := 4 } } noGrammar [.readDelimited isSpace, .readDelimited isSpace]
        (init { envH with cfg := { page := 4 } } 1 .pipe) =
      specTranscript noGrammar envH.bytes [.readDelimited isSpace, .readDelimited isSpace] 0 ∧
    transcript { envI with cfg := { page := 4 } } noGrammar [.readLine 10 true, .get, .get]
        (init { envI with cfg := { page := 4 } } 1 .file) =
      specTranscript noGrammar envI.bytes [.readLine 10 true, .get, .get] 0 ∧
    transcript { envF with cfg := { page := 4 } } noGrammar [.readDelimited isSpace, .readDelimited isSpace, .readDelimited isSpace]
        (init { envF with cfg := { page := 4 } } 1 .file) =
      specTranscript noGrammar envF.bytes [.readDelimited isSpace, .readDelimited isSpace, .readDelimited isSpace] 0 := by
  decide +kernel

end Old

end KV.C18
