import Proofs.IOStream
import Generated.C15
/-!
# C15 — I/O failures are never silent: success implies complete, correct output

Theorems over the retry loops of util/file.cc:164-307 and `util::FileStream`, for **every**
OS oracle (a function from the call number to `ok n | eintr | err e | eof`), every data,
every request size, every buffer size; nothing is bounded.  `fuel` only bounds the number
of libc calls the model may make; `loops_terminate` shows which fuel is always enough and
`fuel_irrelevant` that a finished run does not depend on it.

What is *not* proved here (and is enumerated on the real tools by checks/C15.py instead):
that every call site of the four tools uses these primitives and lets their exceptions
reach `main`.
-/
namespace KV.C15
open KV.IO

/-- the model's `EINTR` is the platform's -/
theorem eintr_value : kEINTR = KV.Gen.C15.errnoEINTR := by decide +kernel

/-- **WriteOrThrow is all-or-throw.**  The bytes the OS accepted, in order, are always a
prefix of the data (`moved ++ rest = data`); success ⇒ they are all of the data and every
answer consumed was benign; a consumed `err e` ⇒ the loop throws with errno `e`; any other
failure is caused by the last consumed answer, which is not benign. -/
theorem write_all_or_throw (orc : Oracle) (fuel i : Nat) (data : Bytes) :
    let o := writeOrThrow orc fuel i data
    o.moved ++ o.rest = data ∧
    (o.res = .ok → o.moved = data ∧ ∀ j, i ≤ j → j < o.next → (orc j).benign) ∧
    (∀ j e, i ≤ j → j < o.next → orc j = .err e → o.res = .errno e) ∧
    (o.res ≠ .ok → o.res ≠ .fuel → i < o.next ∧ ¬ (orc (o.next - 1)).benign) ∧
    o.res ≠ .eofErr := by
  simp only [writeOrThrow_eq]
  refine ⟨xfer_split, fun hok => ⟨?_, xfer_ok_benign (by nofun) hok⟩, fun j e => xfer_err_throws j e,
    xfer_fail_cause (Nat.le_refl _), fun h => ?_⟩
  · exact (xfer_ok_moved (by nofun) hok).trans List.take_length
  · obtain ⟨_, he⟩ := (xfer_eof h).1
    cases he

/-- non-vacuity: a run with EINTR, two short writes and success; one that fails; and the
stale-errno case (EINTR then a zero-length write: errno 4, as util::WriteOrThrow reports it) -/
example : (writeOrThrow (scripted [.eintr, .ok 2, .eintr, .ok 1]) 10 0 [1,2,3,4,5]).res = .ok ∧
    (writeOrThrow (scripted [.eintr, .ok 2, .eintr, .ok 1]) 10 0 [1,2,3,4,5]).moved = [1,2,3,4,5] ∧
    (writeOrThrow (scripted [.ok 2, .err 28]) 10 0 [1,2,3,4,5]).res = .errno 28 ∧
    (writeOrThrow (scripted [.ok 2, .err 28]) 10 0 [1,2,3,4,5]).moved = [1,2] ∧
    (writeOrThrow (scripted [.eintr, .eof]) 10 0 [1,2]).res = .errno 4 := by decide +kernel

/-- **ReadOrThrow reads exactly `amount` bytes or throws.**  Success ⇒ the buffer holds the
next `amount` bytes of the source; a source shorter than `amount` can never yield success;
an EOF exception comes from a zero return; a consumed `err e` ⇒ errno `e`. -/
theorem read_exact_or_throw (orc : Oracle) (fuel i : Nat) (src : Bytes) (amount : Nat) :
    let o := readOrThrow orc fuel i src amount
    o.moved ++ o.rest = src ∧
    (o.res = .ok → o.moved = src.take amount ∧ o.moved.length = amount ∧
        ∀ j, i ≤ j → j < o.next → (orc j).benign) ∧
    (src.length < amount → o.res ≠ .ok) ∧
    (∀ j e, i ≤ j → j < o.next → orc j = .err e → o.res = .errno e) ∧
    (o.res = .eofErr → ∃ req avail, 0 < req ∧ (orc (o.next - 1)).ret req avail = .count 0) := by
  simp only [readOrThrow_eq]
  refine ⟨xfer_split, fun hok => ⟨xfer_ok_moved (by nofun) hok, xfer_ok_len (by nofun) hok,
    xfer_ok_benign (by nofun) hok⟩, fun hlt hok => ?_, fun j e => xfer_err_throws j e, fun h => (xfer_eof h).2⟩
  exact Nat.not_le_of_gt hlt (xfer_ok_le_src (by nofun) hok ▸ Nat.le_add_right _ _)

example : (readOrThrow (scripted [.ok 1, .eintr, .ok 7]) 10 0 [9,8,7,6] 3).moved = [9,8,7] ∧
    (readOrThrow (scripted [.ok 1, .eintr, .ok 7]) 10 0 [9,8,7,6] 3).res = .ok ∧
    (readOrThrow (scripted []) 10 0 [9,8] 3).res = .eofErr := by decide +kernel

/-- **ReadOrEOF**: never an EOF exception; the result is a prefix of the source of length
≤ amount; every consumed answer but the last is benign (a short result ends with a zero
return). -/
theorem read_or_eof (orc : Oracle) (fuel i : Nat) (src : Bytes) (amount : Nat) :
    let o := readOrEOF orc fuel i src amount
    o.moved ++ o.rest = src ∧ o.moved.length ≤ amount ∧ o.moved = src.take o.moved.length ∧
    o.res ≠ .eofErr ∧
    (∀ j e, i ≤ j → j < o.next → orc j = .err e → o.res = .errno e) ∧
    (∀ j, i ≤ j → j + 1 < o.next → (orc j).benign) := by
  simp only [readOrEOF_eq]
  refine ⟨xfer_split, xfer_moved_len, take_of_split xfer_split rfl, fun h => ?_, fun j e => xfer_err_throws j e,
    xfer_prefix_benign⟩
  obtain ⟨_, he⟩ := (xfer_eof h).1
  cases he

/-- **PartialRead** (one successful `read`, EINTR retried): returns a prefix of what is
left of the source, at most `amount` bytes. -/
theorem partial_read (orc : Oracle) : ∀ (fuel i : Nat) (src : Bytes) (amount : Nat),
    (partialRead orc fuel i src amount).moved ++ (partialRead orc fuel i src amount).rest = src ∧
    (partialRead orc fuel i src amount).moved.length ≤ amount ∧
    (∀ B, (∀ n, eintrCount orc i n ≤ B) → B < fuel → (partialRead orc fuel i src amount).res ≠ .fuel) := by
  intro fuel i src amount
  fun_induction partialRead orc fuel i src amount with
  | case1 => exact ⟨rfl, Nat.zero_le _, fun B _ hf => absurd hf (Nat.not_lt_zero _)⟩
  | case2 =>
    rename_i hr ih
    refine ⟨ih.1, ih.2.1, fun B hB hf => ?_⟩
    obtain ⟨h1, hB'⟩ := eintr_budget (ret_eintr hr) hB
    exact ih.2.2 (B - 1) hB' (by omega)
  | case3 => exact ⟨rfl, Nat.zero_le _, fun _ _ _ => Res.noConfusion⟩
  | case4 =>
    rename_i hr
    refine ⟨List.take_append_drop _ _, ?_, fun _ _ _ => Res.noConfusion⟩
    exact Nat.le_trans (List.length_take_le _ _) (ret_count_le hr).1

/-- **ErsatzPRead / ErsatzPWrite behave like ReadOrThrow / WriteOrThrow, with offsets
advancing by the partial counts**: every request `c` issued covers exactly the tail not
yet transferred (`c.off + c.req = off + size`). -/
theorem pread_pwrite_same (orc : Oracle) (fuel i : Nat) (data src : Bytes) (size off : Nat) :
    (let o := ersatzPWrite orc fuel i data off
     o.moved ++ o.rest = data ∧ (o.res = .ok → o.moved = data) ∧
     (∀ c ∈ o.log, c.off + c.req = off + data.length) ∧
     (∀ j e, i ≤ j → j < o.next → orc j = .err e → o.res = .errno e) ∧
     (o.res = .ok → ∀ j, i ≤ j → j < o.next → (orc j).benign)) ∧
    (let o := ersatzPRead orc fuel i src size off
     o.moved ++ o.rest = src ∧ (o.res = .ok → o.moved = src.take size) ∧
     (∀ c ∈ o.log, c.off + c.req = off + size) ∧
     (∀ j e, i ≤ j → j < o.next → orc j = .err e → o.res = .errno e) ∧
     (o.res = .ok → ∀ j, i ≤ j → j < o.next → (orc j).benign)) := by
  simp only [ersatzPWrite_eq, ersatzPRead_eq]
  exact ⟨⟨xfer_split, fun hok => (xfer_ok_moved (by nofun) hok).trans List.take_length, xfer_offsets,
      fun j e => xfer_err_throws j e, xfer_ok_benign (by nofun)⟩,
    ⟨xfer_split, xfer_ok_moved (by nofun), xfer_offsets, fun j e => xfer_err_throws j e,
      xfer_ok_benign (by nofun)⟩⟩

example : (ersatzPWrite (scripted [.ok 2, .eintr, .ok 1]) 10 0 [1,2,3,4] 100).log =
    [⟨4,100⟩, ⟨2,102⟩, ⟨2,102⟩, ⟨1,103⟩] := by decide +kernel

/-- **EINTR and short transfers are transparent.**  Under any OS that only interrupts and
splits transfers (every answer is `eintr` or `ok n` with `n > 0`), with at most `B`
interruptions, every loop returns exactly what it returns under the ideal OS: success and
all the bytes.  (Error cases: see `write_all_or_throw` — the error is that of the first
non-benign answer, wherever the interruptions fall.) -/
theorem eintr_transparent (orc : Oracle) (i B : Nat) (hb : ∀ j, i ≤ j → (orc j).benign)
    (hB : ∀ n, eintrCount orc i n ≤ B) (data src : Bytes) (amount off : Nat) (hsrc : amount ≤ src.length) :
    ((writeOrThrow orc (data.length + B) i data).res = .ok ∧
      (writeOrThrow orc (data.length + B) i data).moved = data) ∧
    ((ersatzPWrite orc (data.length + B) i data off).res = .ok ∧
      (ersatzPWrite orc (data.length + B) i data off).moved = data) ∧
    ((readOrThrow orc (amount + B) i src amount).res = .ok ∧
      (readOrThrow orc (amount + B) i src amount).moved = src.take amount) ∧
    ((readOrEOF orc (amount + B) i src amount).res = .ok ∧
      (readOrEOF orc (amount + B) i src amount).moved = src.take amount) ∧
    ((ersatzPRead orc (amount + B) i src amount off).res = .ok ∧
      (ersatzPRead orc (amount + B) i src amount off).moved = src.take amount) := by
  -- with benign answers the generic loop cannot fail, and with this fuel it does not run out
  have run : ∀ {zero : Nat → Res} {posn : Bool} {s : Bytes} {a o : Nat}, (∀ e, zero e ≠ .fuel) → a ≤ s.length →
      (xfer zero posn orc (a + B) i s a o 0).res = .ok ∧ (xfer zero posn orc (a + B) i s a o 0).moved = s.take a := by
    intro zero posn s a o hz hl
    obtain ⟨hok, hlen⟩ := (xfer_benign (zero := zero) (posn := posn) (fuel := a + B) (off := o) (e0 := 0) hb hl).resolve_right
      (xfer_terminates hz B hB (Nat.le_refl _))
    exact ⟨hok, take_of_split xfer_split hlen⟩
  simp only [writeOrThrow_eq, ersatzPWrite_eq, readOrThrow_eq, readOrEOF_eq, ersatzPRead_eq]
  refine ⟨?_, ?_, run (by nofun) hsrc, run (by nofun) hsrc, run (by nofun) hsrc⟩
  · have := run (posn := false) (o := 0) (zero := fun e => .errno e) (by nofun) (Nat.le_refl data.length)
    rwa [List.take_length] at this
  · have := run (posn := true) (o := off) (zero := fun _ => .eofErr) (by nofun) (Nat.le_refl data.length)
    rwa [List.take_length] at this

/-- **EINTR transparency, insertion form** (covers the failing runs too): for every oracle, insert one
`eintr` answer before any call `k ≥ i` of a finished run (one more unit of fuel).  The bytes moved
and the bytes left are unchanged for all five loops; the result is unchanged for
ReadOrThrow / ReadOrEOF / ErsatzPRead / ErsatzPWrite; for WriteOrThrow it is unchanged *except* in
exactly one case, which the real code exhibits: if the call
right after the inserted EINTR returns 0, the exception carries errno `EINTR` (4) instead of the
errno state `e` it would have carried — still an exception, never a success. -/
theorem eintr_insertion (orc : Oracle) (k fuel i : Nat) (hik : i ≤ k) (data src : Bytes) (amount off : Nat) :
    ((writeOrThrow orc fuel i data).res ≠ .fuel →
      (writeOrThrow (insertAt orc k .eintr) (fuel + 1) i data).moved = (writeOrThrow orc fuel i data).moved ∧
      (writeOrThrow (insertAt orc k .eintr) (fuel + 1) i data).rest = (writeOrThrow orc fuel i data).rest ∧
      ((writeOrThrow (insertAt orc k .eintr) (fuel + 1) i data).res = (writeOrThrow orc fuel i data).res ∨
       ∃ e, (writeOrThrow orc fuel i data).res = .errno e ∧
            (writeOrThrow (insertAt orc k .eintr) (fuel + 1) i data).res = .errno kEINTR)) ∧
    ((ersatzPWrite orc fuel i data off).res ≠ .fuel →
      (ersatzPWrite (insertAt orc k .eintr) (fuel + 1) i data off).moved = (ersatzPWrite orc fuel i data off).moved ∧
      (ersatzPWrite (insertAt orc k .eintr) (fuel + 1) i data off).res = (ersatzPWrite orc fuel i data off).res) ∧
    ((readOrThrow orc fuel i src amount).res ≠ .fuel →
      (readOrThrow (insertAt orc k .eintr) (fuel + 1) i src amount).moved = (readOrThrow orc fuel i src amount).moved ∧
      (readOrThrow (insertAt orc k .eintr) (fuel + 1) i src amount).res = (readOrThrow orc fuel i src amount).res) ∧
    ((readOrEOF orc fuel i src amount).res ≠ .fuel →
      (readOrEOF (insertAt orc k .eintr) (fuel + 1) i src amount).moved = (readOrEOF orc fuel i src amount).moved ∧
      (readOrEOF (insertAt orc k .eintr) (fuel + 1) i src amount).res = (readOrEOF orc fuel i src amount).res) ∧
    ((ersatzPRead orc fuel i src amount off).res ≠ .fuel →
      (ersatzPRead (insertAt orc k .eintr) (fuel + 1) i src amount off).moved = (ersatzPRead orc fuel i src amount off).moved ∧
      (ersatzPRead (insertAt orc k .eintr) (fuel + 1) i src amount off).res = (ersatzPRead orc fuel i src amount off).res) := by
  -- when a zero return means the same whatever `errno` is, the two possible results coincide
  have const {z : Res} {posn : Bool} {s : Bytes} {a o : Nat} (h : (xfer (fun _ => z) posn orc fuel i s a o 0).res ≠ .fuel) :=
    have t := xfer_insert_eintr (fun _ => z) posn orc k fuel i s a o 0 hik h
    And.intro t.1 (t.2.2.elim id fun ⟨_, h1, h2⟩ => h2.trans h1.symm)
  simp only [writeOrThrow_eq, ersatzPWrite_eq, readOrThrow_eq, readOrEOF_eq, ersatzPRead_eq]
  exact ⟨xfer_insert_eintr _ false orc k fuel i data data.length 0 0 hik, const, const, const, const⟩

/-- the caveat is real: a zero return throws errno 0, EINTR followed by a zero return throws errno 4 (as util::WriteOrThrow does) -/
example : (writeOrThrow (scripted [.ok 0]) 5 0 [1, 2]).res = .errno 0 ∧
    (writeOrThrow (insertAt (scripted [.ok 0]) 0 .eintr) 6 0 [1, 2]).res = .errno 4 ∧
    (writeOrThrow (insertAt (scripted [.ok 1, .err 28]) 1 .eintr) 6 0 [1, 2]).res = .errno 28 := by decide +kernel

/-- an oracle satisfying the hypotheses of `eintr_transparent` non-trivially -/
example : (∀ j, 0 ≤ j → ((scripted [.eintr, .ok 1, .eintr, .eintr, .ok 3]) j).benign) := by
  intro j _
  match j with
  | 0 | 1 | 2 | 3 | 4 => decide
  | _ + 5 => show 0 < 2^64; decide

/-- **Every loop terminates** if the OS eventually stops answering EINTR: with at most `B`
EINTR answers from call `i` on, fuel `bytes remaining + B` is enough, whatever else the OS
answers. -/
theorem loops_terminate (orc : Oracle) (i B : Nat) (hB : ∀ n, eintrCount orc i n ≤ B)
    (data src : Bytes) (amount off fuel : Nat) :
    (data.length + B ≤ fuel → (writeOrThrow orc fuel i data).res ≠ .fuel ∧
                              (ersatzPWrite orc fuel i data off).res ≠ .fuel) ∧
    (amount + B ≤ fuel → (readOrThrow orc fuel i src amount).res ≠ .fuel ∧
                         (readOrEOF orc fuel i src amount).res ≠ .fuel ∧
                         (ersatzPRead orc fuel i src amount off).res ≠ .fuel) := by
  simp only [writeOrThrow_eq, ersatzPWrite_eq, readOrThrow_eq, readOrEOF_eq, ersatzPRead_eq]
  exact ⟨fun h => ⟨xfer_terminates (by nofun) B hB h, xfer_terminates (by nofun) B hB h⟩,
    fun h => ⟨xfer_terminates (by nofun) B hB h, xfer_terminates (by nofun) B hB h,
      xfer_terminates (by nofun) B hB h⟩⟩

/-- a finished run does not depend on the fuel -/
theorem fuel_irrelevant (orc : Oracle) (fuel i : Nat) (data : Bytes)
    (h : (writeOrThrow orc fuel i data).res ≠ .fuel) (k : Nat) :
    writeOrThrow orc (fuel + k) i data = writeOrThrow orc fuel i data := by
  simp only [writeOrThrow_eq] at h ⊢
  exact xfer_fuel_add h k

/-- **FileStream loses nothing**: for every buffer size (the constructor raises it to at
least `kToStringMaxBytes`), every operation sequence, every OS: if the stream's life ends
without an exception, the bytes accepted by the OS are exactly the concatenation of the
`<<` / `write` arguments, in order; if it ends with an exception, they are a prefix of it
(nothing duplicated, reordered or invented). -/
theorem stream_no_loss (orc : Oracle) (fuel bufferSize : Nat) (ops : List SOp) :
    let r := streamRun orc fuel (max bufferSize KV.Gen.C15.kToStringMaxBytes) ops
    (r.res = .ok → r.sink = (ops.map SOp.arg).flatten ∧ r.st.buf = []) ∧
    (r.res ≠ .ok → r.sink <+: (ops.map SOp.arg).flatten) := by
  intro r
  have h0 : SInv { st := { cap := max bufferSize KV.Gen.C15.kToStringMaxBytes } } [] := ⟨fun _ => rfl, fun h => absurd rfl h⟩
  have h2 : SInv r ([] ++ (ops.map SOp.arg).flatten ++ []) := sStep_inv orc fuel _ .flush _ (foldl_inv orc fuel ops _ [] h0)
  rw [List.nil_append, List.append_nil] at h2
  refine ⟨fun hok => ?_, h2.2⟩
  have hb : r.st.buf = [] := sStep_flush_ok_buf orc fuel _ hok
  exact ⟨by simpa only [hb, List.append_nil] using h2.1 hok, hb⟩

/-- the in-place reservations used by `operator<<` all fit the buffer floor (regenerated
from util/integer_to_string.hh and util/float_to_string.hh) -/
theorem inplace_reservations_fit : ∀ k ∈ KV.Gen.C15.kBytesList, k ≤ KV.Gen.C15.kToStringMaxBytes := by
  decide +kernel

/-- with honest reservations (`s.length ≤ amount ≤ kToStringMaxBytes`) the buffer never
overflows, for every buffer size: `Ensure`'s `assert(current_ + amount <= end_)` holds. -/
theorem stream_bounded (orc : Oracle) (fuel bufferSize : Nat) (ops : List SOp)
    (hfit : ∀ op ∈ ops, op.fits KV.Gen.C15.kToStringMaxBytes) :
    (ops.foldl (sStep orc fuel) { st := { cap := max bufferSize KV.Gen.C15.kToStringMaxBytes } }).st.buf.length
      ≤ max bufferSize KV.Gen.C15.kToStringMaxBytes := by
  exact foldl_bounded orc fuel ops _ (fun op h => SOp.fits_mono (Nat.le_max_right ..) (hfit op h)) (Nat.zero_le _)

example : (streamRun (scripted [.ok 3, .eintr]) 100 0 [.write [1,2,3], .inplace 20 [4,5], .write (List.replicate 30 7), .flush, .inplace 1 [9]]).sink
    = [1,2,3,4,5] ++ List.replicate 30 7 ++ [9] := by decide +kernel

end KV.C15
