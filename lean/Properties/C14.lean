import Proofs.PyTokenize
import Generated.C14
/-!
# C14 — Python module and virtual interface agree with the typed C++ interface

Model: `Model/PyTokenize.lean` (both tokenisers, the scoring folds of `python/kenlm.pyx` and
`python/score_sentence.cc`, the `void*` facade).  The language model is an arbitrary
`LM σ α` — any state type, any per-word scoring function, any accumulation `add` **with no
algebraic law** (float32 `+` is not associative; every fold adds in the order the code does).
`kSpaces` is the table regenerated from `util/spaces.cc` on every run.
-/
namespace KV.C14
open KV.PyTokenize

abbrev kSpaces : List Bool := KV.Gen.C14.kSpaces

/-- The regenerated delimiter table marks exactly Python's `bytes` whitespace
(`' \t\n\v\f\r'`), for every byte value (and no value beyond). -/
theorem table_agree (b : Nat) : isDelim kSpaces b = pySpace b := by
  -- the one finite fact: the table is `pySpace` tabulated on 0…255
  have tbl : kSpaces = (List.range 256).map pySpace := by decide +kernel
  rw [isDelim, tbl, List.getD_eq_getElem?_getD, List.getElem?_map]
  by_cases h : b < 256
  · rw [List.getElem?_range h]; rfl
  · rw [List.getElem?_eq_none (by simpa using h)]
    simp [pySpace]; omega

/-- `TokenIter<BoolCharacter,true>` (as driven by `ScoreSentence`) = maximal delimiter-free runs of the
C string, for any table -/
theorem splitSpaces_spec (tbl : List Bool) (s : Bytes) :
    splitSpaces tbl s = splitSpec (isDelim tbl) (truncNul s) :=
  collect_spec _ (some _)

/-- CPython's `bytes.split()` = maximal whitespace-free runs -/
theorem pySplit_spec (s : Bytes) : pySplit s = splitSpec pySpace s := by
  induction s using pySplit.induct with
  | case1 s h => rw [pySplit_eq, ← splitSpec_dropWhile pySpace s, h]; rfl
  | case2 s b bs h ih =>
    rw [pySplit_eq, ← splitSpec_dropWhile pySpace s, h,
      splitSpec_cons_word pySpace b bs (dropWhile_head h), ← ih]

/-- **the true relation, for every byte string**: the fast path tokenises the part before the
first NUL exactly as Python tokenises that part -/
theorem split_trunc (s : Bytes) : splitSpaces kSpaces s = pySplit (truncNul s) := by
  rw [splitSpaces_spec, pySplit_spec, splitSpec_congr _ _ table_agree]

/-- **split_agree**: on every byte string without NUL both tokenisers return the same word list -/
theorem split_agree (s : Bytes) (h : 0 ∉ s) : splitSpaces kSpaces s = pySplit s := by
  rw [split_trunc, truncNul_of_not_mem s h]

-- non-vacuity: a whitespace-heavy string with all six spaces, non-ASCII bytes and bytes other languages call space
example : 0 ∉ ([32, 9, 97, 11, 12, 0x85, 0xa0, 13, 10, 0x1c, 32, 255] : Bytes) := by decide
example : splitSpec pySpace [32, 9, 97, 11, 12, 0x85, 0xa0, 13, 10, 0x1c, 32, 255] = [[97], [0x85, 0xa0], [0x1c], [255]] := by decide +kernel

/-- **split_nul_witness**: the restriction to NUL-free strings is necessary -/
theorem split_nul_witness : ∃ s : Bytes, 0 ∈ s ∧ splitSpaces kSpaces s ≠ pySplit s := by
  refine ⟨[97, 0, 98], by decide, ?_⟩
  rw [splitSpaces_spec, pySplit_spec]
  decide +kernel

/-- what a token is: non-empty, free of whitespace, made of bytes of the sentence; and the tokens
concatenate to the sentence with its whitespace removed (nothing lost, nothing invented, order kept) -/
theorem split_tokens (s : Bytes) :
    (∀ t ∈ pySplit s, t ≠ [] ∧ (∀ b ∈ t, pySpace b = false) ∧ (∀ b ∈ t, b ∈ s)) ∧
    (pySplit s).flatten = s.filter (fun c => !pySpace c) := by
  rw [pySplit_spec]
  exact ⟨fun t ht => splitSpec_token pySpace s t ht, splitSpec_flatten pySpace s⟩

/-- a NUL-free sentence has NUL-free tokens, so `Index(char*)` sees the whole token -/
theorem indexC_on_tokens {σ α : Type} (M : LM σ α) (s : Bytes) (h : 0 ∉ s) :
    (pySplit s).map M.indexC = (pySplit s).map M.index := by
  apply List.map_congr_left
  intro w hw
  have := ((split_tokens s).1 w hw).2.2
  unfold LM.indexC
  rw [truncNul_of_not_mem w (fun h0 => h (this 0 h0))]

section folds
variable {σ α : Type} (M : LM σ α)

/-- **score_sum**: the slow-path sentence score is the left-to-right accumulation of exactly the
per-word scores `full_scores` yields — for all four flag combinations, any model, any `add`. -/
theorem score_sum (hc : M.Coherent) (s : Bytes) (bos eos : Bool) :
    M.scoreSlow s bos eos = M.sumProbs ((M.fullScores s bos eos).map (·.1.prob)) := by
  unfold LM.scoreSlow LM.fullScores LM.sumProbs
  rw [LM.foldScore_eq_foldFull M hc]
  cases eos
  · simp
  · simp only [if_true, List.map_append, List.foldl_append, List.map_cons, List.map_nil, List.foldl_cons,
      List.foldl_nil]
    rw [hc]

/-- the fast path on *any* byte string is the slow path on the part before the first NUL -/
theorem fast_eq_slow_trunc (s : Bytes) : M.scoreFast kSpaces s = M.scoreSlow (truncNul s) true true := by
  unfold LM.scoreFast LM.scoreSlow LM.fastIds LM.slowIds LM.start
  rw [split_trunc, indexC_on_tokens M (truncNul s) (zero_not_mem_truncNul s)]
  simp

/-- **fast_eq_slow**: for NUL-free sentences `ScoreSentence` and the `bytes.split()` loop agree -/
theorem fast_eq_slow (s : Bytes) (h : 0 ∉ s) : M.scoreFast kSpaces s = M.scoreSlow s true true := by
  rw [fast_eq_slow_trunc, truncNul_of_not_mem s h]

/-- negation witness for the unrestricted statement (on the free model, whose values are the
queries made): on `a\0 b` the fast path scores `a </s>` (the C string ends at the NUL), the slow path
`a b </s>` (`bytes.split()` sees the two tokens `a\0` and `b` and looks the first up as the C string `a`):
they differ in the number of words. -/
theorem fast_ne_slow_witness :
    ∃ s : Bytes, 0 ∈ s ∧ freeLM.scoreFast kSpaces s ≠ freeLM.scoreSlow s true true := by
  refine ⟨[97, 0, 32, 98], by decide, ?_⟩
  unfold LM.scoreFast LM.scoreSlow LM.fastIds LM.slowIds
  rw [splitSpaces_spec, pySplit_spec]
  decide +kernel

/-- `Model.score(sentence, bos, eos)` = accumulation of the `full_scores(sentence, bos, eos)` values,
for every flag combination, on NUL-free sentences -/
theorem pyScore_sum (hc : M.Coherent) (s : Bytes) (h : 0 ∉ s) (bos eos : Bool) :
    M.pyScore kSpaces s bos eos = M.sumProbs ((M.fullScores s bos eos).map (·.1.prob)) := by
  unfold LM.pyScore
  split
  · next hb =>
    obtain ⟨rfl, rfl⟩ : bos = true ∧ eos = true := by simpa using hb
    rw [fast_eq_slow M s h]
    exact score_sum M hc s _ _
  · exact score_sum M hc s _ _

/-- **stateful_eq**: a client folding `BaseScore` / `BaseFullScore` over `sentence.split()` from the state
written by `BeginSentenceWrite` / `NullContextWrite` obtains exactly the per-word results of `full_scores`
and the total of `score`; `heos`: looking `</s>` up by name gives `EndSentence()`. -/
theorem stateful_eq (hc : M.Coherent) (heos : M.indexC [60, 47, 115, 62] = M.eos) (s : Bytes) (bos eos : Bool) :
    M.statefulTotal s bos eos = M.scoreSlow s bos eos ∧
    (M.statefulFull (M.start bos) (pySplit s)).1 = (M.fullScores s bos false) ∧
    (M.statefulScores (M.start bos) (pySplit s)).1 = (M.fullScores s bos false).map (·.1.prob) := by
  refine ⟨?_, ?_, ?_⟩
  · unfold LM.statefulTotal LM.scoreSlow LM.sumProbs LM.slowIds LM.pyBaseScore
    rw [LM.statefulScores_eq M hc, LM.foldScore_eq_foldFull M hc, heos]
  · rw [LM.statefulFull_eq]; simp [LM.fullScores, LM.slowIds]
  · rw [LM.statefulScores_eq M hc]; simp [LM.fullScores, LM.slowIds]

/-- **perplexity_def** (identity on the exponent): `perplexity(s) = 10 ** (-score / words)` where `words`
is exactly the number of entries `full_scores(s)` yields (tokens plus `</s>`), and — NUL-free — `score` is
the accumulation of exactly those entries: the exponent is minus the average per-word log10 probability
including `</s>`. -/
theorem perplexity_def (hc : M.Coherent) (s : Bytes) :
    (M.perplexityArgs kSpaces s).2 = (M.fullScores s true true).length ∧
    (M.perplexityArgs kSpaces s).2 = (pySplit s).length + 1 ∧
    (0 ∉ s → (M.perplexityArgs kSpaces s).1 = M.sumProbs ((M.fullScores s true true).map (·.1.prob))) := by
  refine ⟨?_, rfl, ?_⟩
  · simp [LM.perplexityArgs, LM.fullScores, LM.foldFull_length, LM.slowIds]
  · intro h
    exact pyScore_sum M hc s h true true

/-- with a NUL the denominator still counts all Python tokens while the numerator scores only those
before the NUL: the perplexity is then *not* an average over the scored words -/
theorem perplexity_nul_witness :
    ∃ s : Bytes, 0 ∈ s ∧ (freeLM.perplexityArgs kSpaces s).1.length ≠ (freeLM.perplexityArgs kSpaces s).2 := by
  refine ⟨[97, 0, 32, 98], by decide, ?_⟩
  unfold LM.perplexityArgs LM.pyScore LM.scoreFast LM.fastIds
  rw [splitSpaces_spec, pySplit_spec]
  decide +kernel

end folds

/-- exact-arithmetic reading: for a model with rational log-probabilities the perplexity exponent is
`-(Σ per-word log10 p) / (number of words incl. </s>)` -/
def pplExponent (score : Rat) (words : Nat) : Rat := -score / (words : Rat)

theorem perplexity_exponent_rat {σ : Type} (M : LM σ Rat) (hc : M.Coherent) (s : Bytes) (h : 0 ∉ s) :
    pplExponent (M.perplexityArgs kSpaces s).1 (M.perplexityArgs kSpaces s).2 =
      -(((M.fullScores s true true).map (·.1.prob)).foldl M.add M.zero) /
        (((M.fullScores s true true).length : Nat) : Rat) := by
  have := perplexity_def M hc s
  unfold pplExponent
  rw [this.2.2 h, ← this.1]
  rfl

/-- **normal form**: every sentence tokenises like its tokens joined by single spaces -/
theorem split_normal_form (s : Bytes) : pySplit (joinWith 32 (pySplit s)) = pySplit s := by
  rw [pySplit_spec (joinWith 32 (pySplit s))]
  apply splitSpec_join pySpace 32 (by decide)
  intro t ht
  have := (split_tokens s).1 t ht
  exact ⟨this.1, this.2.1⟩

/-- **whitespace does not matter**: two NUL-free sentences with the same tokens get the same score, the same
per-word results and the same perplexity arguments, whatever the kind and amount of whitespace between, before
or after the tokens — for all flag combinations. -/
theorem whitespace_irrelevant {σ α : Type} (M : LM σ α) (s s' : Bytes) (h0 : 0 ∉ s) (h0' : 0 ∉ s')
    (h : pySplit s = pySplit s') (bos eos : Bool) :
    M.pyScore kSpaces s bos eos = M.pyScore kSpaces s' bos eos ∧
    M.fullScores s bos eos = M.fullScores s' bos eos ∧
    M.perplexityArgs kSpaces s = M.perplexityArgs kSpaces s' := by
  have hs : M.slowIds s = M.slowIds s' := by unfold LM.slowIds; rw [h]
  have hf : M.fastIds kSpaces s = M.fastIds kSpaces s' := by
    unfold LM.fastIds; rw [split_agree s h0, split_agree s' h0', h]
  have e1 : ∀ b e, M.pyScore kSpaces s b e = M.pyScore kSpaces s' b e := by
    intro b e
    unfold LM.pyScore LM.scoreFast LM.scoreSlow
    rw [hs, hf]
  refine ⟨e1 bos eos, ?_, ?_⟩
  · unfold LM.fullScores; rw [hs]
  · unfold LM.perplexityArgs; rw [e1 true true, h]

/-- **OOV flags**: the flags `full_scores` reports for the words of the sentence are exactly
`not (word in model)` — both are `Index(word) == 0` -/
theorem oov_flags {σ α : Type} (M : LM σ α) (s : Bytes) (bos : Bool) :
    (M.fullScores s bos false).map (·.2) = (pySplit s).map (fun w => !M.contains w) := by
  unfold LM.fullScores
  simp only [Bool.false_eq_true, if_false]
  rw [LM.foldFull_flags]
  simp only [LM.slowIds, LM.contains, List.map_map]
  apply List.map_congr_left
  intro w _
  simp only [Function.comp]
  cases h : M.indexC w == 0 <;> simp [bne, h]

/-- **query_eq**: for a one-line, NUL-free sentence the Python module returns what `bin/query` prints:
per word the same `FullScoreReturn` (and, for the words of the sentence, the same OOV flag), and the same total —
`query` ↔ bos=eos=True, `query -n` ↔ bos=eos=False. -/
theorem query_eq {σ α : Type} (M : LM σ α) (hc : M.Coherent) (s : Bytes) (h0 : 0 ∉ s) (h10 : 10 ∉ s) :
    M.queryFull kSpaces s false = M.fullScores s false false ∧
    (M.queryFull kSpaces s true).map (·.1) = (M.fullScores s true true).map (·.1) ∧
    (M.queryFull kSpaces s true).take (pySplit s).length = M.fullScores s true false ∧
    M.queryTotal kSpaces s true = M.pyScore kSpaces s true true ∧
    M.queryTotal kSpaces s false = M.pyScore kSpaces s false false := by
  have hw : (queryWords (isDelim kSpaces) s).map M.index = M.slowIds s := by
    rw [queryWords_spec _ s h10, splitSpec_congr _ _ table_agree, ← pySplit_spec]
    unfold LM.slowIds
    rw [indexC_on_tokens M s h0]
  have e1 : M.queryFull kSpaces s false = M.fullScores s false false := by
    unfold LM.queryFull LM.fullScores; rw [hw]; simp
  have e2 : (M.queryFull kSpaces s true).map (·.1) = (M.fullScores s true true).map (·.1) := by
    unfold LM.queryFull LM.fullScores; rw [hw]; simp
  refine ⟨e1, e2, ?_, ?_, ?_⟩
  · unfold LM.queryFull LM.fullScores
    rw [hw]
    have hl : (M.foldFull (M.start true) (M.slowIds s)).1.length = (pySplit s).length := by
      rw [LM.foldFull_length]; simp [LM.slowIds]
    simp [← hl]
  · rw [pyScore_sum M hc s h0]
    unfold LM.queryTotal
    have : (M.queryFull kSpaces s true).map (·.1.prob) = (M.fullScores s true true).map (·.1.prob) := by
      have := congrArg (List.map (·.prob)) e2
      rw [List.map_map, List.map_map] at this
      exact this
    rw [this]
  · rw [pyScore_sum M hc s h0]
    unfold LM.queryTotal
    rw [e1]

section facade
variable {σ α : Type} (T : Typed σ α) (L : Layout σ)

/-- **facade_identity**: every entry point of the virtual object is the typed function on the decoded
state, re-encoded; the state constants are the typed constants; `StateSize()` bytes are the whole state. -/
theorem facade_identity (st : σ) (w : Nat) (ctx : List Nat) :
    (facade T L).baseFullScore (L.enc st) w = ((T.fullScore st w).1, L.enc (T.fullScore st w).2) ∧
    (facade T L).baseScore (L.enc st) w = ((T.fullScore st w).1.prob, L.enc (T.fullScore st w).2) ∧
    (facade T L).baseFullScoreForgotState ctx w =
      ((T.fullScoreForgotState ctx w).1, L.enc (T.fullScoreForgotState ctx w).2) ∧
    (facade T L).toLM.beginState = L.enc T.beginState ∧
    (facade T L).toLM.nullState = L.enc T.nullState ∧
    (facade T L).toLM.Coherent := by
  exact ⟨facade_fullScore T L st w, facade_score T L st w, rfl, memcpyState_enc T L _, memcpyState_enc T L _,
    fun _ _ => rfl⟩

theorem facade_foldScore (st : σ) (acc : α) (ids : List Nat) :
    (facade T L).toLM.foldScore (L.enc st) acc ids =
      ((T.toLM.foldScore st acc ids).1, L.enc (T.toLM.foldScore st acc ids).2) := by
  induction ids generalizing st acc with
  | nil => rfl
  | cons w ws ih =>
    simp only [LM.foldScore]
    rw [facade_score]
    exact ih _ _

theorem facade_foldFull (st : σ) (ids : List Nat) :
    (facade T L).toLM.foldFull (L.enc st) ids =
      ((T.toLM.foldFull st ids).1, L.enc (T.toLM.foldFull st ids).2) := by
  induction ids generalizing st with
  | nil => rfl
  | cons w ws ih =>
    simp only [LM.foldFull]
    rw [facade_fullScore]
    simp only [ih]

theorem facade_start (bos : Bool) : (facade T L).toLM.start bos = L.enc (T.toLM.start bos) := by
  cases bos <;> exact memcpyState_enc T L _

/-- **the Python module over the virtual object computes what the typed classes compute**: all
sentence-level results coincide, for every sentence, table and flag combination. -/
theorem facade_sentence (tbl : List Bool) (s : Bytes) (bos eos : Bool) :
    (facade T L).toLM.pyScore tbl s bos eos = T.toLM.pyScore tbl s bos eos ∧
    (facade T L).toLM.fullScores s bos eos = T.toLM.fullScores s bos eos := by
  have hb : (facade T L).toLM.beginState = L.enc T.toLM.beginState := facade_start T L true
  constructor
  · unfold LM.pyScore LM.scoreFast LM.scoreSlow
    rw [facade_start, hb]
    simp only [facade_foldScore, facade_score]
    rfl
  · unfold LM.fullScores
    rw [facade_start]
    simp only [facade_foldFull, facade_fullScore]
    rfl

end facade

/-- a tiny typed model: state = last word id, log-prob = −(1 + previous + word), matched length 1 or 2 -/
def toyTyped : Typed Nat Int where
  beginState := 1
  nullState := 0
  index w := if w = [97] then 2 else if w = [60, 47, 115, 62] then 3 else 0
  eos := 3
  fullScore st w := (⟨-(1 + st + w : Nat), if st = 0 then 1 else 2⟩, w)
  fullScoreForgotState ctx w := (⟨-(1 + ctx.headD 0 + w : Nat), if ctx = [] then 1 else 2⟩, w)
  add := (· + ·)
  zero := 0

def toyLayout : Layout Nat where
  size := 1
  enc n := [n]
  dec m := m.headD 0
  dec_enc _ := rfl
  enc_len _ := rfl

example : toyTyped.toLM.Coherent := fun _ _ => rfl
example : (facade toyTyped toyLayout).toLM.Coherent := (facade_identity toyTyped toyLayout 0 0 []).2.2.2.2.2
example : toyTyped.toLM.indexC [60, 47, 115, 62] = toyTyped.toLM.eos := by decide
example : toyTyped.toLM.scoreSlow [32, 97, 9, 98, 98] true true = -11 := by
  unfold LM.scoreSlow LM.slowIds; rw [pySplit_spec]; decide +kernel
example : freeLM.Coherent := fun _ _ => rfl
-- hypotheses of `query_eq` / `whitespace_irrelevant` are satisfiable by distinct, whitespace-heavy sentences
example : (0 ∉ ([32, 97, 9, 11, 98, 13] : Bytes)) ∧ (10 ∉ ([32, 97, 9, 11, 98, 13] : Bytes)) := by decide
example : pySplit [32, 97, 9, 11, 98, 13] = pySplit [97, 32, 98] ∧ ([32, 97, 9, 11, 98, 13] : Bytes) ≠ [97, 32, 98] := by
  rw [pySplit_spec, pySplit_spec]; decide +kernel
-- the free model separates the two paths on the NUL witness, and agrees on a NUL-free sentence
example : freeLM.scoreFast kSpaces [97, 32, 98] = freeLM.scoreSlow [97, 32, 98] true true :=
  fast_eq_slow freeLM _ (by decide)

end KV.C14
