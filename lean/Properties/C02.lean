import Proofs.StateAlgebra
import Proofs.ScoreCanonical
import Properties.C01
/-! C02 — Returned state is sufficient, canonical and safe for recombination. -/
namespace KV.C02
open KV.Arpa KV.Table KV.Score KV.State

/-- **Sufficiency**: scoring from the state produced by left-to-right scoring gives the same probability as
scoring with the entire history supplied explicitly (any model, incl. pruned ones; any `unmarked`). -/
theorem state_sufficient (a : Arpa) (wf : WellFormed a) (unmarked : List Word → Bool)
    (h : List Word) (s : State) (sf : StateFor a h s) (w : Word) (hw : a.gram [w] ≠ none) :
    (fullScore (tableSearch (build a unmarked)) s w).1.prob =
      (fullScoreForgotState (tableSearch (build a unmarked)) h w).1.prob := by
  rw [KV.C01.fullScore_prob a wf unmarked h s sf w hw, KV.C01.forgot_prob a wf unmarked h w hw]

/-- **Canonicity** (suffix-closed models): scoring from the state gives the same matched length as scoring with
the whole history, and the returned state equals — on `length`, `words[0..length)`, `backoff[0..length)` — the
state `GetState` computes directly from the extended history.  So every state reached by at least one `FullScore` is the
`GetState` of its history; the begin-sentence state is not when `<s>` has no extension, since `BeginSentenceState` has
length 1 unconditionally. -/
theorem state_canonical (a : Arpa) (wf : WellFormed a) (sc : SuffixClosed a) (unmarked : List Word → Bool)
    (h : List Word) (s : State) (sf : StateFor a h s) (w : Word) (hw : a.gram [w] ≠ none) :
    (fullScore (tableSearch (build a unmarked)) s w).1.ngramLength =
      (fullScoreForgotState (tableSearch (build a unmarked)) h w).1.ngramLength ∧
    (fullScore (tableSearch (build a unmarked)) s w).2.length = (getState (tableSearch (build a unmarked)) (w :: h)).length ∧
    (fullScore (tableSearch (build a unmarked)) s w).2.words.take (fullScore (tableSearch (build a unmarked)) s w).2.length =
      (getState (tableSearch (build a unmarked)) (w :: h)).words.take (getState (tableSearch (build a unmarked)) (w :: h)).length ∧
    (fullScore (tableSearch (build a unmarked)) s w).2.backoff.take (fullScore (tableSearch (build a unmarked)) s w).2.length =
      (getState (tableSearch (build a unmarked)) (w :: h)).backoff.take (getState (tableSearch (build a unmarked)) (w :: h)).length := by
  have tf := build_tableFor a wf unmarked
  have nb := noBlanks_build sc unmarked
  refine ⟨?_, canonical_out wf tf nb sf hw⟩
  rw [KV.C01.length_longest a wf sc unmarked h s sf w hw, forgot_length_longest tf nb h hw]

/-- **Bounds**: a state never holds more than order−1 words, never more than the previous state plus one
(for *any* input state, garbage included). -/
theorem state_bounds (a : Arpa) (wf : WellFormed a) (unmarked : List Word → Bool) (s : State) (w : Word)
    (hw : a.gram [w] ≠ none) :
    (fullScore (tableSearch (build a unmarked)) s w).2.length ≤ min (a.order - 1) (s.length + 1) := by
  have tf := build_tableFor a wf unmarked
  obtain ⟨u, hu⟩ := tf.unigram hw
  obtain ⟨c0, acc, post, hsxb⟩ := scoreExceptBackoff_post tf.toTableOK (s.words.take s.length) w hu
  rw [fullScore, hsxb]
  show acc.nextUse ≤ min (a.order - 1) (s.length + 1)
  have h1 : acc.nextUse ≤ min (c0 + 1) (a.order - 1) := post.olen_le
  have h2 : c0 ≤ s.length := Nat.le_trans post.c0_le (List.length_take_le _ _)
  exact Nat.le_min.mpr ⟨Nat.le_trans h1 (Nat.min_le_right _ _),
    Nat.le_trans h1 (Nat.le_trans (Nat.min_le_left _ _) (Nat.succ_le_succ h2))⟩

/-- `FullScore` reads nothing of a state beyond `length`: states that agree on `length`, `words[0..length)` and
`backoff[0..length)` are interchangeable (garbage in the struct does not matter). -/
theorem fullScore_congr {ν : Type} (S : Search ν) (s₁ s₂ : State) (w : Word)
    (hl : s₁.length = s₂.length) (hw : s₁.words.take s₁.length = s₂.words.take s₂.length)
    (hb : s₁.backoff.take s₁.length = s₂.backoff.take s₂.length) :
    fullScore S s₁ w = fullScore S s₂ w := by
  simp only [fullScore, hw, hb]

/-- **Recombination**: two states reached by left-to-right scoring that agree on `length` and
`words[0..length)` (what `==` compares) have identical stored back-offs, and therefore identical results
(probabilities *and* successor states) for every continuation. -/
theorem equal_states_equal_backoffs (a : Arpa) (T : Table)
    (h₁ h₂ : List Word) (s₁ s₂ : State) (sf₁ : StateFor a h₁ s₁) (sf₂ : StateFor a h₂ s₂)
    (hl : s₁.length = s₂.length) (hw : s₁.words.take s₁.length = s₂.words.take s₂.length) :
    s₁.backoff.take s₁.length = s₂.backoff.take s₂.length ∧
    ∀ ws, (scoreSeq (tableSearch T) s₁ ws).1 = (scoreSeq (tableSearch T) s₂ ws).1 ∧
          (ws ≠ [] → (scoreSeq (tableSearch T) s₁ ws).2 = (scoreSeq (tableSearch T) s₂ ws).2) := by
  have hb : s₁.backoff.take s₁.length = s₂.backoff.take s₂.length := by
    rw [sf₁.backoff, sf₂.backoff, hl]
    apply List.map_congr_left
    intro j hj
    have hj' : j + 1 ≤ s₂.length := List.mem_range.mp hj
    rw [← take_take_of_le (l := h₁) (hl ▸ hj'), ← take_take_of_le (l := h₂) hj', ← sf₁.words, ← sf₂.words, hw]
  refine ⟨hb, ?_⟩
  intro ws
  cases ws with
  | nil => exact ⟨rfl, fun h => absurd rfl h⟩
  | cons w ws => simp only [scoreSeq, fullScore_congr (tableSearch T) s₁ s₂ w hl hw hb]; exact ⟨trivial, fun _ => trivial⟩

/-- exactly one of `a < b`, `a == b`, `b < a`; byte-wise `memcmp` on little-endian words -/
theorem compare_trichotomy (a b : State) :
    (a.lt b = true ∧ a.eq b = false ∧ b.lt a = false) ∨
    (a.lt b = false ∧ a.eq b = true ∧ b.lt a = false) ∨
    (a.lt b = false ∧ a.eq b = false ∧ b.lt a = true) := by
  rcases a.compare_cases b with ⟨_, h1, h2, h3⟩ | ⟨_, h1, h2, h3⟩ | ⟨_, h1, h2, h3⟩ <;> rw [h1, h2, h3] <;> decide

/-- `Compare` agrees in sign with `<` and `==` -/
theorem compare_sign (a b : State) :
    (a.compare b < 0 ↔ a.lt b = true) ∧ (a.compare b = 0 ↔ a.eq b = true) ∧ (a.compare b > 0 ↔ b.lt a = true) :=
  State.compare_sign a b

/-- equal states hash equally, for every hash function of the compared bytes and every seed -/
theorem eq_hash (H : List Nat → Nat → Nat) (a b : State) (seed : Nat) (h : a.eq b = true) :
    a.hash H seed = b.hash H seed := State.eq_hash H a b seed h

/-- `==` ignores everything beyond `length` (garbage words / back-offs in the struct do not matter) -/
theorem eq_ignores_garbage (a b : State) (hl : a.length = b.length)
    (hw : ∀ i, i < a.length → a.word i = b.word i) : a.eq b = true := by
  rw [State.eq_iff]
  refine ⟨hl, ?_⟩
  unfold State.key
  rw [← hl]
  simp only [List.flatMap]
  congr 1
  apply List.map_congr_left
  intro i hi
  rw [hw i (by simpa using hi)]

theorem left_trichotomy (a b : Left) :
    (a.lt b = true ∧ a.eq b = false ∧ b.lt a = false) ∨
    (a.lt b = false ∧ a.eq b = true ∧ b.lt a = false) ∨
    (a.lt b = false ∧ a.eq b = false ∧ b.lt a = true) := by
  unfold Left.lt
  rcases a.compare_cases b with ⟨h1, h2, h3⟩ | ⟨h1, h2, h3⟩ | ⟨h1, h2, h3⟩ <;> rw [h1, h2, h3] <;> decide

/-- equal `Left` states hash equally (`Left.hash`: `full` enters the hash only for non-empty states) -/
theorem left_eq_hash (H : List Nat → Nat → Nat) (a b : Left) (h : a.eq b = true) : a.hash H = b.hash H :=
  Left.eq_hash H a b h

/-- equal `ChartState`s hash equally: `hash_value(ChartState) = hash_value(right, seed = hash_value(left))` -/
theorem chart_eq_hash (H : List Nat → Nat → Nat) (a b : ChartState) (h : a.eq b = true) : a.hash H = b.hash H := by
  unfold ChartState.eq at h
  simp only [Bool.and_eq_true] at h
  unfold ChartState.hash
  rw [Left.eq_hash H a.left b.left h.2]
  exact State.eq_hash H a.right b.right _ h.1

/-- For `Left.hashOld`, which hashes `full` even for empty left states, the statement is **false**, since `==` ignores
`full` there (the `state-algebra` stream replays this witness on a tree with that hash: `==` true, hashes different). -/
theorem left_eq_hash_failed_before_fix :
    ¬ ∀ (H : List Nat → Nat → Nat) (a b : Left), a.eq b = true → a.hashOld H = b.hashOld H := by
  intro h
  have := h (fun bytes seed => bytes.sum + seed) { length := 0, full := false } { length := 0, full := true } (by decide)
  revert this
  decide

end KV.C02
