import Proofs.TrieShapeG
import Proofs.TrieQuantTrain
import Proofs.QuantOps
import Properties.C03TrieBuild
/-!
# C03 (trie clause) — all four trie classes: `ofTable` for the ArrayBhiksha and SeparatelyQuantize layouts

Model: `Model/TrieG.lean` (`ofTableG bt bound order start q array bhikshaBits`: the search region of a `TrieModel`,
`ArrayTrieModel`, `QuantTrieModel` or `QuantArrayTrieModel` file as an OR of bit fields over `Binary.trieSetup quant array`;
`QSpec.train` = `TrainQuantizer` + `EncodeProb` / `EncodeBackoff`).  Tie: check C04 compares the memory of the model builder
(`buildTableArpa` then `ofTableG`) with the search region `build_binary` wrote, for all four types.

The read-back splits in two.  Layout-independent (`reads_represents`, Proofs/TrieOfTable.lean): if the records of the level arrays
read back as (word, two value bit patterns, running child counts), the memory represents the table of those values.  Per layout
(`ofTableG_represents`): ArrayBhiksha `ReadNext` over the offset table + inline low bits returns (own pointer, next pointer) by
`Bhiksha.array_table` on the monotone pointer sequence `childStarts`; with SeparatelyQuantize a record's codes index the float
tables of its order and the value returned is the centre.  The layout hypothesis `ShapeG` is derived from `Binary.trieSetup` for
all four classes and every `-a`/`-q`/`-b` (`shape_g`), so the end-to-end theorems assume only sizes below 2^57 (`SmallOK`), like
`trie_end_to_end`.  Quantised values: FullScore over the quantised trie = FullScore over the table whose values are replaced by the
bin centres their codes point to (`quant_trie_refines`); if every order has at most as many values as bins, decoding is the identity
and FullScore = `score a h w` (`trie_end_to_end_quant_exact`); with any number of values the n-gram length, left-independence and
out-state are those of the unquantised memory built from the same table, provided no bin centre is `-0.0` (`quant_structural_built`).

Hypotheses kept visible: arithmetic facts of the quantiser's `Ops` on bit patterns — the mean of 32-bit patterns is a 32-bit
pattern; the order laws `Quant.Laws` for the exact case; the mean of non-zero values is never `-0.0` for the structural case
(check C04 looks for `-0.0` among the centres of the real tables).  They are jointly satisfiable:
`okLaws` + `example_end_to_end_quant_exact` (all hypotheses of `trie_end_to_end_quant_exact` hold for the example model),
`example_quant_structural`.
-/
namespace KV.C03TrieG
open KV.Arpa KV.TrieLM KV.TrieBuild KV.Table KV.Score KV.State KV.C03TrieBuild

/-- the memory written for a bit table in any of the four layouts (`TrieModel`, `ArrayTrieModel`,
`QuantTrieModel`, `QuantArrayTrieModel`) represents the table of the values its pointers return: the stored float bits for the
unquantised layouts, the bin centre a record's code points to for the quantised ones. -/
theorem ofTableG_represents (fval : Nat → Rat) (bt : BT) (bound order start : Nat) (q : Option QSpec) (array : Bool) (bh : Nat)
    (ok : BTOK bt bound order) (hv : ValsOK bt) (sh : ShapeG bt bound order start q array bh) (qk : QOK' order q) :
    Represents fval (ofTableG bt bound order start q array bh) (tableOf (ftV fval bt order (pvG bt q) (bvG bt q)) order)
      (rngOf bt bound) :=
  KV.TrieLM.ofTableG_represents fval bt bound order start q array bh ok hv sh qk

/-- FullScore over the memory of any of the four layouts = FullScore over the table of the values its
pointers return (for a quantised layout: every value replaced by the bin centre its code points to) -/
theorem quant_trie_refines (fval : Nat → Rat) (bt : BT) (bound order start : Nat) (q : Option QSpec) (array : Bool) (bh : Nat)
    (ok : BTOK bt bound order) (hv : ValsOK bt) (sh : ShapeG bt bound order start q array bh) (qk : QOK' order q)
    (s : State) (w : Word) (hw : w < bound) (hs : ∀ x ∈ s.words.take s.length, x < bound) :
    (fullScore (search fval (ofTableG bt bound order start q array bh)) s w).1.prob
      = (fullScore (tableSearch (tableOf (ftV fval bt order (pvG bt q) (bvG bt q)) order)) s w).1.prob ∧
    (fullScore (search fval (ofTableG bt bound order start q array bh)) s w).1.ngramLength
      = (fullScore (tableSearch (tableOf (ftV fval bt order (pvG bt q) (bvG bt q)) order)) s w).1.ngramLength ∧
    (fullScore (search fval (ofTableG bt bound order start q array bh)) s w).1.independentLeft
      = (fullScore (tableSearch (tableOf (ftV fval bt order (pvG bt q) (bvG bt q)) order)) s w).1.independentLeft ∧
    (fullScore (search fval (ofTableG bt bound order start q array bh)) s w).1.rest
      = (fullScore (tableSearch (tableOf (ftV fval bt order (pvG bt q) (bvG bt q)) order)) s w).1.rest ∧
    (fullScore (search fval (ofTableG bt bound order start q array bh)) s w).2
      = (fullScore (tableSearch (tableOf (ftV fval bt order (pvG bt q) (bvG bt q)) order)) s w).2 := by
  have hb := ofTableG_bound bt bound order start q array bh (Nat.le_of_succ_le ok.order2)
  exact KV.C03Trie.trie_refines fval _ _ _ (ofTableG_represents fval bt bound order start q array bh ok hv sh qk) ok.order2 s w
    (hb.symm ▸ hw) (hb.symm ▸ hs)

/-- the layout facts (`ShapeG`: bit widths, no `uint8` wrap, `ArrayCount` entries of the offset table inside its block,
float tables after the quant header, all regions in file order) follow from `Binary.trieSetup` for all four trie classes -/
theorem shape_g (bt : BT) (bound order start : Nat) (q : Option QSpec) (array : Bool) (bh : Nat)
    (sm : SmallG bt bound order q) (qk : QOK' order q) : ShapeG bt bound order start q array bh :=
  shapeG_of_small bt bound order start q array bh sm.small qk

theorem TableAgree.of_map {T1 T2 : Table} (ho : T1.order = T2.order)
    (h : ∀ g, (T1.lookup g).map Score.toFound = (T2.lookup g).map Score.toFound) : TableAgree T1 T2 :=
  .of_rel ho fun g => rel_of_map_eq (h g)

/-- unquantised layouts return the stored bits: the table of `ofTableG … none …` is the table `ftOf` of `ofTable` -/
theorem plain_values_agree (fval : Nat → Rat) (bt : BT) (order : Nat) :
    TableAgree (tableOf (ftV fval bt order (pvG bt none) (bvG bt none)) order) (tableOf (ftOf fval bt order) order) := by
  rw [tableOf_ftOf]
  exact TableAgree.of_map (Eq.refl order) fun _ => rfl

open KV.Table KV.Score KV.State in
/-- the builder followed by the `ArrayTrieModel` (`array = true`) or `TrieModel`
(`array = false`) writer: the memory represents `Table.build a` -/
theorem trie_build_represents_array (fval : Nat → Rat) (fadd : Nat → Nat → Nat) (a : Arpa) (bound start : Nat)
    (P B : List Word → Nat) (U : Nat) (enc : ArpaEncW fval a bound P B) (uk : UnkOK fval a U) (ar : BlankArith fval fadd a P B)
    (array : Bool) (bh : Nat)
    (sm : ∀ st, visitAll (visitOrder (gramsOf a P B)) = .ok st →
      SmallOK (fixUnk (unkOf a U) (genTable fadd a.order (visitOrder (gramsOf a P B)) st.blanks)) bound a.order) :
    ∃ b, buildTableU fadd a.order (gramsOf a P B) (unkOf a U) = .ok b ∧
      Represents fval (ofTableG b.table bound a.order start none array bh) (Table.build a) (rngOf b.table bound) := by
  obtain ⟨st, b, hst, hb, htab, hok, hvals, ag, _⟩ := buildTableU_spec fadd enc uk ar.sums
  refine ⟨b, hb, ?_⟩
  have rep := ofTableG_represents fval _ bound a.order start none array bh hok hvals
    (shapeG_of_small _ bound a.order start none array bh (htab ▸ sm st hst) .none) .none
  exact (rep.transfer (plain_values_agree fval _ _)).transfer ag

open KV.Table KV.Score KV.State in
/-- ARPA → trie builder → `ArrayTrieModel` memory (offset tables + inline low bits) → every query =
the ARPA back-off recursion -/
theorem trie_end_to_end_array (fval : Nat → Rat) (fadd : Nat → Nat → Nat) (a : Arpa) (bound start : Nat)
    (P B : List Word → Nat) (U : Nat) (enc : ArpaEncW fval a bound P B) (uk : UnkOK fval a U) (ar : BlankArith fval fadd a P B)
    (array : Bool) (bh : Nat)
    (sm : ∀ st, visitAll (visitOrder (gramsOf a P B)) = .ok st →
      SmallOK (fixUnk (unkOf a U) (genTable fadd a.order (visitOrder (gramsOf a P B)) st.blanks)) bound a.order)
    (h : List Word) (st : State) (sf : StateFor a h st) (w : Word) (hw : a.gram [w] ≠ none)
    (hwb : w < bound) (hs : ∀ x ∈ st.words.take st.length, x < bound) :
    ∃ b, buildTableU fadd a.order (gramsOf a P B) (unkOf a U) = .ok b ∧
      (fullScore (search fval (ofTableG b.table bound a.order start none array bh)) st w).1.prob = score a h w := by
  obtain ⟨b, hb, rep⟩ := trie_build_represents_array fval fadd a bound start P B U enc uk ar array bh sm
  refine ⟨b, hb, ?_⟩
  have hbd : (ofTableG b.table bound a.order start none array bh).bound = bound :=
    ofTableG_bound _ bound a.order start none array bh (Nat.le_of_succ_le enc.wf.order_ge)
  exact KV.C03Trie.trie_prob a enc.wf (fun _ => false) fval _ _ rep h st sf w hw (hbd.symm ▸ hwb) (hbd.symm ▸ hs)

section Train
open KV.Quant

theorem length_makeBinsFrom (ops : Ops Nat) (sorted : List Nat) (bins : Nat) : ∀ fuel i prev,
    (makeBinsFrom ops sorted bins fuel i prev).length = fuel :=
  KV.Quant.length_makeBinsFrom ops sorted bins

/-- every centre `MakeBins` produces is `-inf` or the mean of some of the values -/
theorem makeBinsFrom_pred (ops : Ops Nat) (Pr In : Nat → Prop) (hm : ∀ l, (∀ x ∈ l, In x) → Pr (ops.mean l))
    (sorted : List Nat) (hin : ∀ x ∈ sorted, In x) (bins : Nat) :
    ∀ fuel i prev, Pr prev → ∀ x ∈ makeBinsFrom ops sorted bins fuel i prev, Pr x := by
  intro fuel
  induction fuel with
  | zero => intro i prev _ x hx; simp [makeBinsFrom] at hx
  | succ f ih =>
    intro i prev hp x hx
    have hc : Pr (binCenter ops sorted bins prev i) := by
      unfold binCenter
      dsimp only
      split
      · exact hp
      · exact hm _ (fun x hx => hin x (List.mem_of_mem_drop (List.mem_of_mem_take hx)))
    simp only [makeBinsFrom, List.mem_cons] at hx
    rcases hx with rfl | hx
    · exact hc
    · exact ih _ _ hc x hx

theorem makeBins_pred (ops : Ops Nat) (Pr In : Nat → Prop) (hm : ∀ l, (∀ x ∈ l, In x) → Pr (ops.mean l)) (hn : Pr ops.negInf)
    (vals : List Nat) (hin : ∀ x ∈ vals, In x) (bins : Nat) : ∀ x ∈ makeBins ops vals bins, Pr x :=
  makeBinsFrom_pred ops Pr In hm _ (fun x hx => hin x ((mem_sortVals ops x vals).mp hx)) bins _ _ _ hn

theorem encode_lt (ops : Ops Nat) (centers : List Nat) (reserved v : Nat) (h : reserved < centers.length) :
    encode ops centers reserved v < centers.length :=
  (encode_bounds ops centers reserved v h).2

/-- `QSpec.train` is a usable quantiser: full tables of 32-bit patterns, codes inside the tables -/
theorem train_qok (ops : Ops Nat) (pb bb : Nat) (bt : BT) (order : Nat) (hpb : pb ≤ 25) (hbb : bb ≤ 25) (hbb1 : 2 ≤ bb)
    (hv : ValsOK bt) (hm : ∀ l, (∀ x ∈ l, x < 2^32) → ops.mean l < 2^32) (hn : ops.negInf < 2^32) :
    QOK order (QSpec.train ops pb bb bt order) := by
  have hinP : ∀ k, ∀ x ∈ (keysOfLen bt k).map (·.2.1), x < 2^32 := by
    intro k x hx
    obtain ⟨p, hp, rfl⟩ := List.mem_map.mp hx
    exact (hv p (List.mem_filter.mp hp).1).1
  have hinB : ∀ k, ∀ x ∈ ((keysOfLen bt k).map (·.2.2)).filter (fun b => b ≠ noExtensionBits ∧ b ≠ 0), x < 2^32 := by
    intro k x hx
    obtain ⟨p, hp, rfl⟩ := List.mem_map.mp (List.mem_filter.mp hx).1
    exact (hv p (List.mem_filter.mp hp).1).2
  have hplen : ∀ vals, (trainProb ops pb vals).length = 2^pb := length_trainProb ops pb
  have h4 : 2^2 ≤ 2^bb := Nat.pow_le_pow_right (by decide) hbb1
  have h2 : 1 < 2^bb := by omega
  have hblen : ∀ vals, (trainBackoff ops bb noExtensionBits 0 vals).length = 2^bb := fun vals =>
    length_trainBackoff ops bb _ _ vals hbb1
  refine ⟨hpb, hbb, fun t => hplen _, fun t => hblen _, ?_, ?_, ?_, ?_⟩
  · intro t x hx
    exact makeBins_pred ops (· < 2^32) (· < 2^32) hm hn _ (hinP _) _ x hx
  · intro t x hx
    simp only [QSpec.train, trainBackoff, List.mem_cons] at hx
    rcases hx with rfl | rfl | hx
    · decide
    · decide
    · exact makeBins_pred ops (· < 2^32) (· < 2^32) hm hn _ (hinB _) _ x hx
  · intro g
    rw [QSpec.train_pcode, QSpec.train_ptab]
    have := encode_lt ops (trainProb ops pb ((keysOfLen bt (g.length - 2 + 2)).map (·.2.1))) 0 (valuesOf bt g).1
      (by rw [hplen]; exact Nat.two_pow_pos _)
    rw [hplen] at this; exact this
  · intro g
    rw [QSpec.train_bcode, QSpec.train_btab]
    show encodeBackoff ops _ _ < 2^bb
    unfold encodeBackoff
    split
    · exact Nat.two_pow_pos _
    · split
      · exact h2
      · have := encode_lt ops (trainBackoff ops bb noExtensionBits 0
            (((keysOfLen bt (g.length - 2 + 2)).map (·.2.2)).filter fun b => b ≠ noExtensionBits ∧ b ≠ 0)) 2 (valuesOf bt g).2
          (by rw [hblen]; omega)
        rw [hblen] at this; exact this

/-- decoding is the identity on the values of the table -/
structure QExact (bt : BT) (order : Nat) (qs : QSpec) : Prop where
  prob : ∀ p ∈ bt, 2 ≤ p.1.length → (qs.ptab (p.1.length - 2)).getD (qs.pcode p.1) 0 = p.2.1
  backoff : ∀ p ∈ bt, 2 ≤ p.1.length → (qs.btab (p.1.length - 2)).getD (qs.bcode p.1) 0 = p.2.2

/-- with at most as many values as bins in every order (`quant_exact`; counts with multiplicity, blanks
included), the trained quantiser decodes every value of the table to itself -/
theorem train_exact (ops : Ops Nat) (laws : Laws ops) (pb bb : Nat) (bt : BT) (order : Nat) (hnd : (bt.map (·.1)).Nodup)
    (hfitP : ∀ k, 2 ≤ k → (keysOfLen bt k).length ≤ 2^pb)
    (hfitB : ∀ k, 2 ≤ k → (((keysOfLen bt k).map (·.2.2)).filter fun b => b ≠ noExtensionBits ∧ b ≠ 0).length ≤ 2^bb - 2) :
    QExact bt order (QSpec.train ops pb bb bt order) := by
  have hval : ∀ p ∈ bt, valuesOf bt p.1 = p.2 := fun _ => valuesOf_of_mem hnd
  have hk : ∀ p : List Word × (Nat × Nat), 2 ≤ p.1.length → p.1.length - 2 + 2 = p.1.length := by intro p h; omega
  constructor
  · intro p hp hl
    have hmem : p.2.1 ∈ (keysOfLen bt (p.1.length - 2 + 2)).map (·.2.1) := by
      rw [hk p hl]
      exact List.mem_map.mpr ⟨p, by simp [keysOfLen, hp], rfl⟩
    have := quant_exact ops laws ((keysOfLen bt (p.1.length - 2 + 2)).map (·.2.1)) (2^pb) 0 [] rfl
      (by rw [List.length_map]; exact hfitP _ (by omega)) p.2.1 hmem
    rw [QSpec.train_pcode, QSpec.train_ptab, hval p hp]
    exact this
  · intro p hp hl
    rw [QSpec.train_bcode, QSpec.train_btab, hval p hp]
    unfold encodeBackoff
    split
    · rename_i h; rw [h]; rfl
    · split
      · rename_i h; rw [h]; rfl
      · rename_i h1 h2
        have hmem : p.2.2 ∈ ((keysOfLen bt (p.1.length - 2 + 2)).map (·.2.2)).filter fun b => b ≠ noExtensionBits ∧ b ≠ 0 := by
          rw [hk p hl, List.mem_filter]
          exact ⟨List.mem_map.mpr ⟨p, by simp [keysOfLen, hp], rfl⟩, by simp [h1, h2]⟩
        exact quant_exact ops laws _ (2^bb - 2) 2 [noExtensionBits, 0] rfl (hfitB _ (by omega)) p.2.2 hmem

end Train

/-- the 31-bit non-positive encoding of the unquantised layouts loses nothing on the values of the table -/
def SignOK (fval : Nat → Rat) (bt : BT) : Prop := ∀ p ∈ bt, 2 ≤ p.1.length → fval (p.2.1 % 2^31 + 2^31) = fval p.2.1

theorem quant_exact_agree (fval : Nat → Rat) (bt : BT) (order : Nat) (qs : QSpec) (hlen : ∀ p ∈ bt, 1 ≤ p.1.length)
    (qe : QExact bt order qs) (sg : SignOK fval bt) :
    TableAgree (tableOf (ftV fval bt order (pvG bt (some qs)) (bvG bt (some qs))) order) (tableOf (ftOf fval bt order) order) := by
  rw [tableOf_ftOf]
  refine .of_rel (Eq.refl order) (ftV_rel _ _ bt order _ _ _ _ fun g v hmem hv => ?_)
  have hl := hlen (g, v) hmem
  unfold entryV pvG bvG
  by_cases h1 : g.length = 1
  · simp only [h1, if_true]
  · have h2 : 2 ≤ g.length := by simp only at hl; omega
    have e1 := qe.prob (g, v) hmem h2
    have e2 := qe.backoff (g, v) hmem h2
    have e3 := sg (g, v) hmem h2
    simp only at e1 e2 e3
    simp only [h1, if_false, hv, e1, e2, e3]

theorem mem_fixUnk (u : Option Nat) (T : BT) (p : List Word × (Nat × Nat)) (hp : p ∈ fixUnk u T) : p.1 = [0] ∨ p ∈ T :=
  (KV.TrieBuild.mem_fixUnk u T p hp).imp (fun ⟨_, _, e⟩ => e ▸ rfl) id

open KV.Table KV.Score KV.State in
/-- ARPA → trie builder → `TrainQuantizer` → `QuantTrieModel` / `QuantArrayTrieModel` memory
(codes in the records, centres in the tables, optional ArrayBhiksha offsets): if every order has at most as many values as bins
(probabilities of real n-grams and blanks ≤ `2^probBits`, non-zero back-offs ≤ `2^backoffBits − 2`), every query = the ARPA
back-off recursion.  Beyond that bound values move to bin centres (`quant_trie_refines`; `C04.quant_lossy_when_count_exceeds_bins`). -/
theorem trie_end_to_end_quant_exact (fval : Nat → Rat) (fadd : Nat → Nat → Nat) (a : Arpa) (bound start : Nat)
    (P B : List Word → Nat) (U : Nat) (enc : ArpaEncW fval a bound P B) (uk : UnkOK fval a U) (ar : BlankArith fval fadd a P B)
    (ops : KV.Quant.Ops Nat) (laws : KV.Quant.Laws ops) (pb bb : Nat) (hpb : pb ≤ 25) (hbb : bb ≤ 25) (hbb1 : 2 ≤ bb)
    (hm : ∀ l, (∀ x ∈ l, x < 2^32) → ops.mean l < 2^32) (hn : ops.negInf < 2^32) (array : Bool) (bh : Nat)
    (fit : ∀ st, visitAll (visitOrder (gramsOf a P B)) = .ok st → ∀ k, 2 ≤ k →
      (keysOfLen (fixUnk (unkOf a U) (genTable fadd a.order (visitOrder (gramsOf a P B)) st.blanks)) k).length ≤ 2^pb ∧
      (((keysOfLen (fixUnk (unkOf a U) (genTable fadd a.order (visitOrder (gramsOf a P B)) st.blanks)) k).map (·.2.2)).filter
        fun b => b ≠ noExtensionBits ∧ b ≠ 0).length ≤ 2^bb - 2)
    (sm : ∀ st, visitAll (visitOrder (gramsOf a P B)) = .ok st →
      SmallOK (fixUnk (unkOf a U) (genTable fadd a.order (visitOrder (gramsOf a P B)) st.blanks)) bound a.order)
    (h : List Word) (st : State) (sf : StateFor a h st) (w : Word) (hw : a.gram [w] ≠ none)
    (hwb : w < bound) (hs : ∀ x ∈ st.words.take st.length, x < bound) :
    ∃ b, buildTableU fadd a.order (gramsOf a P B) (unkOf a U) = .ok b ∧
      (fullScore (search fval (ofTableG b.table bound a.order start (some (QSpec.train ops pb bb b.table a.order)) array bh)) st w).1.prob
        = score a h w := by
  obtain ⟨vs, b, hst, hb, htab, hok, hvals, ag, sg⟩ := buildTableU_spec fadd enc uk ar.sums
  refine ⟨b, hb, ?_⟩
  generalize b.table = T at htab hok hvals ag sg ⊢
  have hqk : QOK' a.order (some (QSpec.train ops pb bb T a.order)) := by
    intro qs hq; cases hq; exact train_qok ops pb bb T a.order hpb hbb hbb1 hvals hm hn
  have hsh : ShapeG T bound a.order start (some (QSpec.train ops pb bb T a.order)) array bh :=
    shapeG_of_small T bound a.order start _ array bh (htab ▸ sm vs hst) hqk
  have rep := ofTableG_represents fval T bound a.order start _ array bh hok hvals hsh hqk
  have qe : QExact T a.order (QSpec.train ops pb bb T a.order) :=
    train_exact ops laws pb bb T a.order hok.nodup (fun k hk => htab ▸ (fit vs hst k hk).1) (fun k hk => htab ▸ (fit vs hst k hk).2)
  have rep2 : Represents fval (ofTableG T bound a.order start (some (QSpec.train ops pb bb T a.order)) array bh)
      (Table.build a) (rngOf T bound) :=
    (rep.transfer (quant_exact_agree fval T a.order _ (fun p hp => (hok.len p hp).1) qe sg)).transfer ag
  have hbd : (ofTableG T bound a.order start (some (QSpec.train ops pb bb T a.order)) array bh).bound = bound :=
    ofTableG_bound _ bound a.order start _ array bh (Nat.le_of_succ_le enc.wf.order_ge)
  exact KV.C03Trie.trie_prob a enc.wf (fun _ => false) fval _ _ rep2 h st sf w hw (hbd.symm ▸ hwb) (hbd.symm ▸ hs)

/-! non-vacuity: the layout hypotheses hold for the example model in the array, quantised and quantised-array layouts -/

section Examples
open KV.Table KV.Score

/-- the bit table the builder makes of `kArpa` (hallucinated `<unk>`, n-grams ending in `<unk>`, one blank) -/
def kTable : BT :=
  fixUnk (unkOf kArpa unkBits) (genTable kAdd kArpa.order (visitOrder (gramsOf kArpa kP kB)) [⟨[2, 3], 1, 3217031168⟩])

/-- a quantiser shape with 2-bit probability and 3-bit back-off codes (values irrelevant for the layout) -/
def q23 : QSpec := ⟨2, 3, fun _ => List.replicate 4 0, fun _ => List.replicate 8 0, fun _ => 0, fun _ => 0⟩

theorem k_small : SmallOK kTable 5 3 := by
  refine ⟨by decide, by decide, ?_⟩
  intro k hk
  have : k = 0 ∨ k = 1 ∨ k = 2 ∨ k = 3 := by omega
  rcases this with rfl | rfl | rfl | rfl <;> decide +kernel

theorem k_shape (q : Option QSpec) (array : Bool) (bh : Nat)
    (h1 : (setupG kTable 5 3 144 q array bh).middles.length = 1)
    (h2 : (midG kTable 5 3 144 q array bh 0).wordBits = KV.Bits.requiredBits 5 ∧
      (midG kTable 5 3 144 q array bh 0).quantBits = QB q ∧
      (midG kTable 5 3 144 q array bh 0).totalBits = KV.Bits.requiredBits 5 + QB q + (midG kTable 5 3 144 q array bh 0).inline ∧
      (midG kTable 5 3 144 q array bh 0).inline ≤ 57 ∧
      (array = false → (level kTable 5 3).length < 2^(midG kTable 5 3 144 q array bh 0).inline) ∧
      (array = true → ((midG kTable 5 3 144 q array bh 0).offEnd - (midG kTable 5 3 144 q array bh 0).offBegin) / 8
        = ((level kTable 5 3).length >>> (midG kTable 5 3 144 q array bh 0).inline) + 1))
    (h3 : (setupG kTable 5 3 144 q array bh).longest.2.1 = KV.Bits.requiredBits 5 ∧
      (setupG kTable 5 3 144 q array bh).longest.2.2 = KV.Bits.requiredBits 5 + LB q)
    (h4 : (regionsG kTable 5 3 144 q array bh).Pairwise RegionSpec.Before) : ShapeG kTable 5 3 144 q array bh :=
  ⟨h1, fun om2 h => (show om2 = 0 by omega) ▸ h2, h3, h4, by decide +kernel,
    by decide, fun k hk => Nat.lt_trans (k_small.levels k hk) (by decide)⟩

theorem k_shape_array : ShapeG kTable 5 3 144 none true 3 :=
  shapeG_of_small kTable 5 3 144 none true 3 k_small .none

theorem k_shape_quant : ShapeG kTable 5 3 144 (some q23) false 0 :=
  shapeG_of_small kTable 5 3 144 (some q23) false 0 k_small (fun _ h => by cases h; exact QOK.zeros 3 2 3 (by decide) (by decide))

theorem k_shape_quant_array : ShapeG kTable 5 3 144 (some q23) true 2 :=
  shapeG_of_small kTable 5 3 144 (some q23) true 2 k_small (fun _ h => by cases h; exact QOK.zeros 3 2 3 (by decide) (by decide))

/-- non-vacuity of `trie_end_to_end_array`: all hypotheses hold for the example model with a hallucinated `<unk>` and a blank;
every `FullScore` over the `ArrayTrieModel` memory (search region at byte 144, `-a 3`) is the ARPA recursion -/
theorem example_end_to_end_array (h : List Word) (st : KV.State.State)
    (sf : StateFor kArpa h st) (w : Word) (hw : kArpa.gram [w] ≠ none) (hwb : w < 5)
    (hs : ∀ x ∈ st.words.take st.length, x < 5) :
    ∃ b, buildTableU kAdd kArpa.order (gramsOf kArpa kP kB) (unkOf kArpa unkBits) = .ok b ∧
      (fullScore (search f32ToRat (ofTableG b.table 5 kArpa.order 144 none true 3)) st w).1.prob = score kArpa h w :=
  trie_end_to_end_array f32ToRat kAdd kArpa 5 144 kP kB unkBits k_enc k_unk k_arith true 3
    (fun vs hvs => by rw [k_blanks vs hvs]; exact k_small) h st sf w hw hwb hs

end Examples

section Struct
open KV.Quant

/-- the reserved back-off codes are respected: a record decodes to `-0.0` ("does not extend right") iff the value was `-0.0` -/
def MarkOK (bt : BT) (qs : QSpec) : Prop :=
  ∀ p ∈ bt, 2 ≤ p.1.length → ((qs.btab (p.1.length - 2)).getD (qs.bcode p.1) 0 = noExtensionBits ↔ p.2.2 = noExtensionBits)

/-- the tables of the quantised and of the unquantised layout of one bit table have the same keys and extension marks -/
theorem struct_eq_built (fval₁ fval₂ : Nat → Rat) (bt : BT) (order : Nat) (qs : QSpec) (hnd : (bt.map (·.1)).Nodup)
    (hlen : ∀ p ∈ bt, 1 ≤ p.1.length) (mk : MarkOK bt qs) :
    KV.C03Trie.StructEq (tableOf (ftV fval₁ bt order (pvG bt (some qs)) (bvG bt (some qs))) order)
      (tableOf (ftV fval₂ bt order (pvG bt none) (bvG bt none)) order) := by
  refine KV.C03Trie.structEq_iff.2 ⟨Eq.refl order, ftV_rel _ _ bt order _ _ _ _ fun g v hmem hv => ⟨rfl, ?_⟩⟩
  have hl := hlen (g, v) hmem
  simp only [entryV, bvG, hv]
  by_cases ho : g.length = order
  · simp only [ho, if_true]
  · simp only [ho, if_false]
    by_cases h1 : g.length = 1
    · simp only [h1, if_true]
    · simp only [h1, if_false]
      have h2 : 2 ≤ g.length := by simp only at hl; omega
      have := mk (g, v) hmem h2
      simp only at this
      apply Bool.eq_iff_iff.mpr
      simp only [bne_iff_ne, ne_eq, this]

theorem encode_ge (ops : Ops Nat) (centers : List Nat) (reserved v : Nat) (h : reserved < centers.length) :
    reserved ≤ encode ops centers reserved v :=
  (encode_bounds ops centers reserved v h).1

/-- `QSpec.train` respects the reserved codes (no bin centre is `-0.0`: a mean of non-zero values never is, nor is `-inf`) -/
theorem train_markOK (ops : Ops Nat) (pb bb : Nat) (bt : BT) (order : Nat) (hbb1 : 2 ≤ bb) (hnd : (bt.map (·.1)).Nodup)
    (hmz : ∀ l, (∀ x ∈ l, x ≠ noExtensionBits ∧ x ≠ 0) → ops.mean l ≠ noExtensionBits) (hnz : ops.negInf ≠ noExtensionBits) :
    MarkOK bt (QSpec.train ops pb bb bt order) := by
  intro p hp hl
  have hval : valuesOf bt p.1 = p.2 := valuesOf_of_mem hnd hp
  have h4 : 2^2 ≤ 2^bb := Nat.pow_le_pow_right (by decide) hbb1
  rw [QSpec.train_bcode, QSpec.train_btab, hval]
  generalize hvals : (((keysOfLen bt (p.1.length - 2 + 2)).map (·.2.2)).filter fun b => b ≠ noExtensionBits ∧ b ≠ 0) = vals
  have hblen : (trainBackoff ops bb noExtensionBits 0 vals).length = 2^bb := length_trainBackoff ops bb _ _ vals hbb1
  unfold encodeBackoff
  split
  · rename_i h; simp [h, trainBackoff]
  · rename_i h
    split
    · rename_i h0
      simp only [trainBackoff, List.getD_cons_succ, List.getD_cons_zero, h0]
    · constructor
      · intro e
        exfalso
        obtain ⟨hge, hlt⟩ := encode_bounds ops (trainBackoff ops bb noExtensionBits 0 vals) 2 p.2.2 (by rw [hblen]; omega)
        generalize encode ops (trainBackoff ops bb noExtensionBits 0 vals) 2 p.2.2 = c at *
        obtain ⟨k, rfl⟩ : ∃ k, c = k + 2 := ⟨c - 2, by omega⟩
        simp only [trainBackoff, List.getD_cons_succ] at e
        have hkl : k < (makeBins ops vals (2^bb - 2)).length := by
          simp only [trainBackoff, List.length_cons] at hlt; omega
        rw [← List.getElem_eq_getD (h := hkl)] at e
        have hinz : ∀ x ∈ vals, x ≠ noExtensionBits ∧ x ≠ 0 := by
          intro x hx; rw [← hvals] at hx; simpa using (List.mem_filter.mp hx).2
        exact makeBins_pred ops (· ≠ noExtensionBits) (fun x => x ≠ noExtensionBits ∧ x ≠ 0) hmz hnz vals hinz _ _
          (List.getElem_mem hkl) e
      · intro e; exact absurd e h

end Struct

section StructBuilt
open KV.Quant KV.Table KV.Score KV.State

/-- C03's clause "a quantised trie returns the same structural results as the unquantised trie" as a
theorem about the built memories: for every bit table, the `QuantTrieModel` / `QuantArrayTrieModel` memory (quantiser trained on
the table) and the `TrieModel` / `ArrayTrieModel` memory give, for every state and word, the same matched n-gram length, the same
left-independence flag and the same out-state length and words.  No `Represents`, `StructEq` or layout hypothesis: only sizes
below 2^57, code widths, and that the arithmetic never produces `-0.0` as a bin centre. -/
theorem quant_structural_built (fval₁ fval₂ : Nat → Rat) (bt : BT) (bound order start₁ start₂ : Nat)
    (ops : Ops Nat) (pb bb : Nat) (a₁ a₂ : Bool) (bh₁ bh₂ : Nat)
    (ok : BTOK bt bound order) (hv : ValsOK bt) (sm : SmallOK bt bound order)
    (hpb : pb ≤ 25) (hbb : bb ≤ 25) (hbb1 : 2 ≤ bb) (hm : ∀ l, (∀ x ∈ l, x < 2^32) → ops.mean l < 2^32) (hn : ops.negInf < 2^32)
    (hmz : ∀ l, (∀ x ∈ l, x ≠ noExtensionBits ∧ x ≠ 0) → ops.mean l ≠ noExtensionBits) (hnz : ops.negInf ≠ noExtensionBits)
    (s : State) (w : Word) (hw : w < bound) (hs : ∀ x ∈ s.words.take s.length, x < bound) :
    (fullScore (search fval₁ (ofTableG bt bound order start₁ (some (QSpec.train ops pb bb bt order)) a₁ bh₁)) s w).1.ngramLength
      = (fullScore (search fval₂ (ofTableG bt bound order start₂ none a₂ bh₂)) s w).1.ngramLength ∧
    (fullScore (search fval₁ (ofTableG bt bound order start₁ (some (QSpec.train ops pb bb bt order)) a₁ bh₁)) s w).1.independentLeft
      = (fullScore (search fval₂ (ofTableG bt bound order start₂ none a₂ bh₂)) s w).1.independentLeft ∧
    (fullScore (search fval₁ (ofTableG bt bound order start₁ (some (QSpec.train ops pb bb bt order)) a₁ bh₁)) s w).2.length
      = (fullScore (search fval₂ (ofTableG bt bound order start₂ none a₂ bh₂)) s w).2.length ∧
    (fullScore (search fval₁ (ofTableG bt bound order start₁ (some (QSpec.train ops pb bb bt order)) a₁ bh₁)) s w).2.words
      = (fullScore (search fval₂ (ofTableG bt bound order start₂ none a₂ bh₂)) s w).2.words := by
  have ho : 1 ≤ order := Nat.le_of_succ_le ok.order2
  have hqk : QOK' order (some (QSpec.train ops pb bb bt order)) := by
    intro qs hq; cases hq; exact train_qok ops pb bb bt order hpb hbb hbb1 hv hm hn
  have sh₁ := shapeG_of_small bt bound order start₁ (some (QSpec.train ops pb bb bt order)) a₁ bh₁ sm hqk
  have sh₂ := shapeG_of_small bt bound order start₂ none a₂ bh₂ sm .none
  have rep₁ := ofTableG_represents fval₁ bt bound order start₁ _ a₁ bh₁ ok hv sh₁ hqk
  have rep₂ := ofTableG_represents fval₂ bt bound order start₂ none a₂ bh₂ ok hv sh₂ .none
  have hb₁ := ofTableG_bound bt bound order start₁ (some (QSpec.train ops pb bb bt order)) a₁ bh₁ ho
  have hb₂ := ofTableG_bound bt bound order start₂ none a₂ bh₂ ho
  exact KV.C03Trie.quant_structural_tries fval₁ fval₂ _ _ _ _ _ _ rep₁ rep₂
    (struct_eq_built fval₁ fval₂ bt order _ ok.nodup (fun p hp => (ok.len p hp).1)
      (train_markOK ops pb bb bt order hbb1 ok.nodup hmz hnz))
    ok.order2 s w (hb₁.symm ▸ hw) (hb₂.symm ▸ hw) (hb₁.symm ▸ hs) (hb₂.symm ▸ hs)

/-- … in particular for the table the trie builder makes of an ARPA model: all four trie classes built from one ARPA file agree
on the structural results of every query -/
theorem quant_structural_end_to_end (fval fval₁ fval₂ : Nat → Rat) (fadd : Nat → Nat → Nat) (a : Arpa) (bound start₁ start₂ : Nat)
    (P B : List Word → Nat) (U : Nat) (enc : ArpaEncW fval a bound P B) (uk : UnkOK fval a U) (ar : BlankArith fval fadd a P B)
    (ops : Ops Nat) (pb bb : Nat) (a₁ a₂ : Bool) (bh₁ bh₂ : Nat)
    (sm : ∀ st, visitAll (visitOrder (gramsOf a P B)) = .ok st →
      SmallOK (fixUnk (unkOf a U) (genTable fadd a.order (visitOrder (gramsOf a P B)) st.blanks)) bound a.order)
    (hpb : pb ≤ 25) (hbb : bb ≤ 25) (hbb1 : 2 ≤ bb) (hm : ∀ l, (∀ x ∈ l, x < 2^32) → ops.mean l < 2^32) (hn : ops.negInf < 2^32)
    (hmz : ∀ l, (∀ x ∈ l, x ≠ noExtensionBits ∧ x ≠ 0) → ops.mean l ≠ noExtensionBits) (hnz : ops.negInf ≠ noExtensionBits)
    (s : State) (w : Word) (hw : w < bound) (hs : ∀ x ∈ s.words.take s.length, x < bound) :
    ∃ b, buildTableU fadd a.order (gramsOf a P B) (unkOf a U) = .ok b ∧
      (fullScore (search fval₁ (ofTableG b.table bound a.order start₁ (some (QSpec.train ops pb bb b.table a.order)) a₁ bh₁)) s w).1.ngramLength
        = (fullScore (search fval₂ (ofTableG b.table bound a.order start₂ none a₂ bh₂)) s w).1.ngramLength ∧
      (fullScore (search fval₁ (ofTableG b.table bound a.order start₁ (some (QSpec.train ops pb bb b.table a.order)) a₁ bh₁)) s w).1.independentLeft
        = (fullScore (search fval₂ (ofTableG b.table bound a.order start₂ none a₂ bh₂)) s w).1.independentLeft ∧
      (fullScore (search fval₁ (ofTableG b.table bound a.order start₁ (some (QSpec.train ops pb bb b.table a.order)) a₁ bh₁)) s w).2.length
        = (fullScore (search fval₂ (ofTableG b.table bound a.order start₂ none a₂ bh₂)) s w).2.length ∧
      (fullScore (search fval₁ (ofTableG b.table bound a.order start₁ (some (QSpec.train ops pb bb b.table a.order)) a₁ bh₁)) s w).2.words
        = (fullScore (search fval₂ (ofTableG b.table bound a.order start₂ none a₂ bh₂)) s w).2.words := by
  obtain ⟨vs, b, hst, hb, htab, hok, hvals, _, _⟩ := buildTableU_spec fadd enc uk ar.sums
  exact ⟨b, hb, quant_structural_built fval₁ fval₂ _ bound a.order start₁ start₂ ops pb bb a₁ a₂ bh₁ bh₂ hok hvals (htab ▸ sm vs hst)
    hpb hbb hbb1 hm hn hmz hnz s w hw hs⟩

end StructBuilt

section StructExample
open KV.Quant KV.Table KV.Score KV.State

/-- an arithmetic for the non-vacuity instance (order on bit patterns of negative floats, constant mean) -/
def trivOps : Ops Nat := { lt := fun a b => b < a, sub := fun a b => a - b, mean := fun _ => 0, negInf := 0xFF800000 }

theorem k_table_ok : BTOK kTable 5 3 ∧ ValsOK kTable := by
  obtain ⟨st, b, hst, _, htab, hok, hvals, _⟩ := buildTableU_spec kAdd k_enc k_unk k_arith.sums
  have hT : b.table = kTable := by rw [htab, k_blanks st hst]; rfl
  exact hT ▸ ⟨hok, hvals⟩

/-- non-vacuity of `quant_structural_built`: the quantised array trie (`-q 2 -b 3 -a 2`) and the plain trie of the example
table agree on the structure of every query -/
theorem example_quant_structural (s : State) (w : Word) (hw : w < 5) (hs : ∀ x ∈ s.words.take s.length, x < 5) :
    (fullScore (search f32ToRat (ofTableG kTable 5 3 144 (some (QSpec.train trivOps 2 3 kTable 3)) true 2)) s w).1.ngramLength
      = (fullScore (search f32ToRat (ofTableG kTable 5 3 144 none false 0)) s w).1.ngramLength ∧
    (fullScore (search f32ToRat (ofTableG kTable 5 3 144 (some (QSpec.train trivOps 2 3 kTable 3)) true 2)) s w).2.words
      = (fullScore (search f32ToRat (ofTableG kTable 5 3 144 none false 0)) s w).2.words := by
  have := quant_structural_built f32ToRat f32ToRat kTable 5 3 144 144 trivOps 2 3 true false 2 0 k_table_ok.1 k_table_ok.2 k_small
    (by decide) (by decide) (by decide) (fun _ _ => (by decide : (0:Nat) < 2^32)) (by decide) (fun _ _ => (by decide : (0:Nat) ≠ noExtensionBits)) (by decide) s w hw hs
  exact ⟨this.1, this.2.2.2⟩

end StructExample

section QuantExactExample
open KV.Quant KV.Table KV.Score KV.State

/-- an arithmetic satisfying the order laws of `quant_exact` on all of `Nat` (a total order with `-inf` at the bottom) -/
def keyN (a : Nat) : Nat := if a = 0xFF800000 then 0 else a + 1
def okOps : Ops Nat :=
  { lt := fun a b => decide (keyN a < keyN b), sub := fun _ _ => 0xFF800000, mean := fun l => l.headD 0, negInf := 0xFF800000 }

theorem keyN_inj (a b : Nat) (h : keyN a = keyN b) : a = b := by
  unfold keyN at h
  split at h <;> split at h <;> omega

theorem okLaws : Laws okOps where
  irrefl a := by simp [okOps]
  trans a b c h1 h2 := by simp only [okOps, decide_eq_true_eq] at *; omega
  tri a b h1 h2 := by
    simp only [okOps, decide_eq_false_iff_not] at *
    exact keyN_inj a b (by omega)
  negInf_min a := by simp [okOps, keyN]
  mean_single a := rfl
  sub_close p v _ := by simp [okOps]

/-- non-vacuity of `trie_end_to_end_quant_exact`: all its hypotheses hold together — the example model (hallucinated `<unk>`,
a blank), 2-bit probability and 3-bit back-off codes (4 and 2 values per order ≤ 4 bins; 3 non-zero back-offs ≤ 6 bins), any `-a`:
every `FullScore` over the quantised memory is the ARPA recursion -/
theorem example_end_to_end_quant_exact (start : Nat) (array : Bool) (bh : Nat) (h : List Word) (st : State)
    (sf : StateFor kArpa h st) (w : Word) (hw : kArpa.gram [w] ≠ none) (hwb : w < 5)
    (hs : ∀ x ∈ st.words.take st.length, x < 5) :
    ∃ b, buildTableU kAdd kArpa.order (gramsOf kArpa kP kB) (unkOf kArpa unkBits) = .ok b ∧
      (fullScore (search f32ToRat (ofTableG b.table 5 kArpa.order start (some (QSpec.train okOps 2 3 b.table kArpa.order)) array bh)) st w).1.prob
        = score kArpa h w := by
  refine trie_end_to_end_quant_exact f32ToRat kAdd kArpa 5 start kP kB unkBits k_enc k_unk k_arith okOps okLaws 2 3
    (by decide) (by decide) (by decide) ?_ (by decide) array bh ?_ ?_ h st sf w hw hwb hs
  · intro l hl
    cases l with
    | nil => decide
    | cons x xs => exact hl x (by simp)
  · intro vs hvs k hk
    rw [k_blanks vs hvs]
    show (keysOfLen kTable k).length ≤ 2^2 ∧
      (((keysOfLen kTable k).map (·.2.2)).filter fun b => b ≠ noExtensionBits ∧ b ≠ 0).length ≤ 2^3 - 2
    by_cases h3 : k ≤ 3
    · have : k = 2 ∨ k = 3 := by omega
      rcases this with rfl | rfl <;> decide +kernel
    · have he : keysOfLen kTable k = [] := by
        unfold keysOfLen
        rw [List.filter_eq_nil_iff]
        intro p hp
        have := (k_table_ok.1.len p hp).2
        simp only [decide_eq_true_eq]; omega
      rw [he]; decide
  · intro vs hvs; rw [k_blanks vs hvs]; exact k_small

end QuantExactExample

end KV.C03TrieG
