import Proofs.SortCanon
import Proofs.SortBytes
import Proofs.SortPassBytes
import Generated.C16
/-!
# C16 — External sort returns the sorted (and combined) multiset of its input

Statements over the model `Model/Sort.lean` of `util/stream/sort.hh`; helper lemmas are in
`Proofs/Sort*.lean`; a theorem whose proof is more than a citation had no other user for it.  Everything is for an arbitrary record type `α`, an arbitrary `Bool`
comparison with the strict-weak-order laws as hypotheses, arbitrary chain blocks, an arbitrary
finite merge plan (any number of passes, each any partition of the run list into consecutive
groups — which includes the plan the code computes from `buffer_size`, `total_memory`,
`lazy_memory`), and an arbitrary tie-break policy `pick : Pick α` for the priority queue (a function
of the queue as initially filled, the step number and the current queue — every deterministic
heap, in particular `std::priority_queue`, is of this form).
`extSort … = some out` : `none` would mean the Offsets log could not be read back;
`extSort_isSome` shows that this never happens.
-/
namespace KV.C16
open KV.Sort List

variable {α : Type}

/-! ## The comparison functors of lm/common/compare.hh are strict weak orders -/

theorem prefixOrder_lawful : StrictWeak prefixLt := lexLt_strictWeak.comap _
theorem suffixOrder_lawful : StrictWeak suffixLt := lexLt_strictWeak.comap _
theorem contextOrder_lawful : StrictWeak contextLt := lexLt_strictWeak.comap _
theorem intOrder_lawful : StrictWeak intLt := lexLt_strictWeak.comap _
/-- on the one-word keys the integer orders use, `intLt` is the unsigned integer comparison -/
theorem intLt_singleton (a b p q : Nat) : intLt ⟨[a], p⟩ ⟨[b], q⟩ = decide (a < b) := by
  simp only [intLt, lexLt]
  by_cases h : a = b
  · subst h; simp
  · simp [h]
theorem fullOrder_lawful : StrictWeak fullLt := lexLt_strictWeak.comap _

theorem fullOrder_total (a b : Rec) (h1 : fullLt a b = false) (h2 : fullLt b a = false) : a = b := by
  have := lexLt_tri _ _ h1 h2
  have h := List.append_inj' this rfl
  cases a; cases b; simp_all

/-- after any sequence of `Append`s and `FinishedAppending`, `RemainingBlocks()` calls of `NextSize()` return the
non-zero lengths appended, in order (zero lengths are never logged; equal consecutive lengths share one entry) -/
theorem offsets_roundtrip (lengths : List Nat) :
    ∃ r, offsetsEncode lengths = some r ∧ r.blockCount = (lengths.filter (· ≠ 0)).length ∧
      offsetsDecode r = some (lengths.filter (· ≠ 0)) :=
  let ⟨r, h1, hinv, _, he⟩ := offsetsEncode_spec lengths
  have hb : r.blockCount = (lengths.filter (· ≠ 0)).length := by
    rw [← he, hinv.2.1, expand_cons, length_append, length_replicate]
  ⟨r, h1, hb, by rw [offsetsDecode, (reads_of_RInv _ r hinv rfl).1, he]⟩

example : (offsetsEncode [5, 5, 0, 3, 3, 3, 7, 5, 5]).bind offsetsDecode = some [5, 5, 3, 3, 3, 7, 5, 5] := by decide
example : (offsetsEncode [5, 5, 0, 3, 3, 3, 7, 5, 5]).map (·.rest) = some [(3, 3), (7, 1), (5, 2)] := by decide

theorem storeRuns_roundtrip {β : Type} (runs : List (List β)) :
    storeRuns runs = some (runs.filter (fun r => !r.isEmpty)) :=
  nonempties_eq_filter runs ▸ storeRuns_eq runs

theorem extSort_isSome (lt : α → α → Bool) (comb) (pick) (blocks : List (List α)) (plan) :
    ∃ out, extSort lt comb pick blocks plan = some out :=
  ⟨_, extSort_eq lt comb pick blocks plan⟩

/-- **merge of sorted lists is sorted and a permutation** of their concatenation, whichever of
several equal minimal heads the priority queue returns -/
theorem merge_sorted_perm {lt : α → α → Bool} (h : StrictWeak lt) (pick) (runs : List (List α))
    (hr : ∀ r ∈ runs, r.Pairwise (fun a b => lt b a = false)) :
    (kmerge lt pick (toQueue runs)).Pairwise (fun a b => lt b a = false) ∧
      kmerge lt pick (toQueue runs) ~ runs.flatten :=
  ⟨kmerge_sorted h pick runs hr, kmerge_perm h pick runs⟩

example : kmerge (fun a b : Nat => decide (a < b)) (fun _ _ _ => 1) (toQueue [[1, 4, 4], [], [2, 4], [0]]) = [0, 1, 2, 4, 4, 4] := by
  decide

/-- the per-run file buffers of `MergeQueue::Entry` (refilled by `Read` with `per_buffer` bytes when `current_`
reaches `buffer_end_`) deliver the run record by record, for every buffer capacity ≥ 1 record -/
theorem bufferedEntry_refines {cap : Nat} (hcap : 0 < cap) :
    (∀ run : List α, match BufEntry.read cap run with
      | none => run = []
      | some e => e.buf ≠ [] ∧ e.view = run) ∧
    (∀ (e : BufEntry α) (x : α) (rest : List α), e.buf ≠ [] → e.view = x :: rest →
      match e.increment cap with
      | none => rest = []
      | some e' => e'.buf ≠ [] ∧ e'.view = rest) :=
  ⟨bufEntry_read hcap, bufEntry_step hcap⟩

/-- at file level an entry is `(buffer, offset_, remaining_)` into the shared
data file; `Read` loads `min(per_buffer, remaining_)` records at `offset_` and advances both.
Under the abstraction "what is still on disk is `data[offset_, offset_ + remaining_)`" this is
exactly the buffered entry above, and the entry keeps owning the same end of slice. -/
theorem fileEntry_refines (data : List α) (cap : Nat) :
    (∀ o r, o + r ≤ data.length →
      (FileEntry.read data cap o r).map (FileEntry.abs data) = BufEntry.read cap (readAt data (o, r))) ∧
    (∀ e : FileEntry α, e.offset + e.remaining ≤ data.length →
      (e.increment data cap).map (FileEntry.abs data) = (FileEntry.abs data e).increment cap ∧
      ∀ e', e.increment data cap = some e' → e'.offset + e'.remaining = e.offset + e.remaining) := by
  have hread : ∀ o r, o + r ≤ data.length →
      (FileEntry.read data cap o r).map (FileEntry.abs data) = BufEntry.read cap (readAt data (o, r)) := by
    -- `Read` loads `min cap r` records at `o`: the first `cap` of the slice, leaving the others on disk
    intro o r h
    have hlen : (readAt data (o, r)).length = r := by
      rw [readAt, length_take, length_drop]; exact Nat.min_eq_left (Nat.le_sub_of_add_le' h)
    unfold FileEntry.read BufEntry.read
    by_cases hr : r = 0
    · subst hr
      simp [readAt]
    · rw [if_neg hr]
      cases hp : readAt data (o, r) with
      | nil => rw [hp] at hlen; exact absurd hlen.symm hr
      | cons x xs =>
        simp only [Option.map_some, FileEntry.abs, Option.some.injEq]
        rw [← hp]
        by_cases hc : cap < r
        · rw [if_pos hc]
          have h1 : readAt data (o, cap) = take cap (readAt data (o, r)) := by
            simp only [readAt, take_take]; rw [Nat.min_eq_left (Nat.le_of_lt hc)]
          have h2 : readAt data (o + cap, r - cap) = drop cap (readAt data (o, r)) := by
            simp only [readAt, drop_take, drop_drop]
          rw [h1, h2]
        · rw [if_neg hc]
          have h1 : readAt data (o, r) = take cap (readAt data (o, r)) := by
            rw [take_of_length_le (hlen.symm ▸ Nat.le_of_not_lt hc)]
          have h2 : readAt data (o + r, r - r) = drop cap (readAt data (o, r)) := by
            rw [drop_of_length_le (hlen.symm ▸ Nat.le_of_not_lt hc)]; simp [readAt]
          rw [← h1, ← h2]
  have hend : ∀ o r e, FileEntry.read data cap o r = some e → e.offset + e.remaining = o + r := by
    intro o r e he
    unfold FileEntry.read at he
    split at he
    · cases he
    · cases he
      simp only
      split
      · rename_i hc; rw [Nat.add_assoc, Nat.add_sub_cancel' (Nat.le_of_lt hc)]
      · rw [Nat.sub_self, Nat.add_zero]
  refine ⟨hread, fun e h => ?_⟩
  unfold FileEntry.increment BufEntry.increment
  simp only [FileEntry.abs]
  cases hd : e.buf.drop 1 with
  | nil => exact ⟨hread e.offset e.remaining h, fun e' he' => hend _ _ e' he'⟩
  | cons b bs =>
    simp only [Option.map_some, FileEntry.abs, Option.some.injEq]
    exact ⟨trivial, fun e' he' => by cases he'; rfl⟩

/-! The block sort of the code is `std::sort`, whose order among equal records is unspecified; the
model fixes one sorted permutation per block (`blockSort`).  The next theorem states the merge
phase for *arbitrary* sorted initial runs, so the results below hold for every block sorter that
returns a sorted permutation of its block. -/

/-- from any sorted runs, any sequence of passes followed by the final merge
yields a sorted list; without a combiner it is a permutation of the runs' records; any quantity
the combiner adds up is preserved. -/
theorem mergePhase {lt : α → α → Bool} (h : StrictWeak lt) {comb} (hc : CombKeeps lt comb) (pick)
    (runs : List (List α)) (hr : ∀ r ∈ runs, r.Pairwise (fun a b => lt b a = false)) (plan) :
    ∃ runs', passes lt comb pick plan runs = some runs' ∧
      (finalMerge lt comb pick runs').Pairwise (fun a b => lt b a = false) ∧
      (comb = neverCombine → finalMerge lt comb pick runs' ~ runs.flatten) ∧
      (∀ w : α → Nat, (∀ a b c, comb a b = some c → w c = w a + w b) →
        ((finalMerge lt comb pick runs').map w).sum = (runs.flatten.map w).sum) := by
  have hm := mergePhase_combined (comb := comb) (pick := pick) h plan runs
  exact ⟨_, passes_eq lt comb pick plan runs, mergePhase_pairwise h hc (separated_le h comb) plan (.of_sorted hr),
    fun hn => by subst hn; exact hm.perm_of_never, hm.sum⟩

/-- the output is in non-decreasing order, for every combiner that keeps a
record equivalent to the one it combines into (`CombineCounts`, `NeverCombine`). -/
theorem extSort_sorted {lt : α → α → Bool} (h : StrictWeak lt) {comb} (hc : CombKeeps lt comb) (pick)
    (blocks : List (List α)) (plan) {out} (ho : extSort lt comb pick blocks plan = some out) :
    out.Pairwise (fun a b => lt b a = false) := by
  obtain rfl := extSort_out ho
  exact extSortOut_pairwise h hc (separated_le h comb) blocks plan (.of_sorted (initialRuns_sorted h blocks))

theorem extSort_perm {lt : α → α → Bool} (h : StrictWeak lt) (pick) (blocks : List (List α)) (plan) {out}
    (ho : extSort lt neverCombine pick blocks plan = some out) : out ~ blocks.flatten :=
  extSort_out ho ▸ (extSortOut_combined h blocks plan).perm_of_never

theorem neverCombine_keeps (lt : α → α → Bool) : CombKeeps lt neverCombine := by
  intro a b c h; simp [neverCombine] at h

/-- any quantity `w` that the combiner adds up (`w c = w a + w b` whenever
`a` and `b` are combined into `c`) has the same total over the output as over the input. -/
theorem extSort_sum {lt : α → α → Bool} (h : StrictWeak lt) {comb : α → α → Option α} (pick) (w : α → Nat)
    (hw : ∀ a b c, comb a b = some c → w c = w a + w b)
    (blocks : List (List α)) (plan) {out} (ho : extSort lt comb pick blocks plan = some out) :
    (out.map w).sum = (blocks.flatten.map w).sum :=
  extSort_out ho ▸ (extSortOut_combined h blocks plan).sum w hw

def total (k : List Nat) (l : List Rec) : Nat := (l.map (fun r => if r.key = k then r.payload else 0)).sum

/-- The duplicate-free part of the combiner clause: if the comparison
tells records apart exactly by a key, the combiner merges every two records with the same key and
keeps the key, and every input block is duplicate-free, then the output is duplicate-free.  (The
hypothesis on the blocks is needed: a single block is only sorted and copied — `ReadSingle` — never combined.) -/
theorem extSort_nodup {κ : Type} (key : α → κ) {lt : α → α → Bool} (h : StrictWeak lt)
    (hkey : ∀ a b, (lt a b = false ∧ lt b a = false) ↔ key a = key b)
    {comb} (hc : CombKeeps lt comb) (hk : CombComplete lt comb) (pick)
    (blocks : List (List α)) (hb : ∀ b ∈ blocks, (b.map key).Nodup) (plan) {out}
    (ho : extSort lt comb pick blocks plan = some out) : (out.map key).Nodup := by
  obtain rfl := extSort_out ho
  have hstrict := extSortOut_pairwise (pick := pick) h hc (separated_lt h hk) blocks plan
    (.of_strict (initialRuns_sorted h blocks) (initialRuns_strict key h (fun a b => (hkey a b).mp) blocks hb))
  rw [Nodup, pairwise_map]
  refine hstrict.imp (fun {x y} hxy hkk => ?_)
  have := ((hkey x y).mpr hkk).1
  rw [hxy] at this; cases this

/-- if the comparison is a total order on the whole records that occur
(no two different records compare equal) then, without a combiner, the result does not depend
on how the input was cut into blocks, on the merge plan, or on the queue's tie-breaking:
inputs that are permutations of each other give the same output. -/
theorem extSort_unique {lt : α → α → Bool} (h : StrictWeak lt) (blocks₁ blocks₂ : List (List α))
    (htot : ∀ a b, a ∈ blocks₁.flatten → b ∈ blocks₁.flatten → lt a b = false → lt b a = false → a = b)
    (hperm : blocks₁.flatten ~ blocks₂.flatten) (pick₁ pick₂) (plan₁ plan₂) :
    extSort lt neverCombine pick₁ blocks₁ plan₁ = extSort lt neverCombine pick₂ blocks₂ plan₂ := by
  have h1 := extSort_eq lt neverCombine pick₁ blocks₁ plan₁
  have h2 := extSort_eq lt neverCombine pick₂ blocks₂ plan₂
  rw [h1, h2]
  congr 1
  have p1 := extSort_perm h pick₁ blocks₁ plan₁ h1
  have p2 := extSort_perm h pick₂ blocks₂ plan₂ h2
  exact sorted_perm_unique (fun a b ha hb => htot a b (p1.subset ha) (p1.subset hb))
    (extSort_sorted h (neverCombine_keeps lt) pick₁ blocks₁ plan₁ h1)
    (extSort_sorted h (neverCombine_keeps lt) pick₂ blocks₂ plan₂ h2) (p1.trans (hperm.trans p2.symm))

/-- … and that output is the specification value printed by the driver: the sorted input. -/
theorem extSort_eq_spec {lt : α → α → Bool} (h : StrictWeak lt) (blocks : List (List α))
    (htot : ∀ a b, a ∈ blocks.flatten → b ∈ blocks.flatten → lt a b = false → lt b a = false → a = b)
    (pick) (plan) :
    extSort lt neverCombine pick blocks plan = some (sortSpec lt neverCombine blocks) := by
  have h1 := extSort_eq lt neverCombine pick blocks plan
  rw [h1]
  congr 1
  have hspec : sortSpec lt neverCombine blocks = blocks.flatten.mergeSort (le lt) := by
    unfold sortSpec; simp only [combineAdj_never]; split <;> rfl
  rw [hspec]
  have p1 := extSort_perm h pick blocks plan h1
  exact sorted_perm_unique (fun a b ha hb => htot a b (p1.subset ha) (p1.subset hb))
    (extSort_sorted h (neverCombine_keeps lt) pick blocks plan h1) (blockSort_sorted h _)
    (p1.trans (mergeSort_perm _ _).symm)

/-! ## With the counting combiner the result is canonical

`Counting lt key val comb`: the order tells records apart exactly by their key, a record is
determined by key and value, the combiner merges exactly records with equal keys and adds the
values (`CombineCounts` under Suffix/Prefix/ContextOrder).  Then the output is *the* list with
one record per key of the input, in increasing order, carrying the key's total — whatever the
blocks, the plan and the tie-breaks, provided something is merged at all (at least two
non-empty blocks) or the blocks were duplicate-free. -/

theorem blockSort_nonempties_length (lt : α → α → Bool) : ∀ (blocks : List (List α)),
    (nonempties (blocks.map (blockSort lt))).length = (nonempties blocks).length :=
  fun blocks => (congrArg length (initialRuns_eq lt blocks)).trans (length_map ..)

/-- The combiner clause in its canonical form: the output is the list described above. -/
theorem extSort_canon {κ : Type} [DecidableEq κ] {lt : α → α → Bool} {key : α → κ} {val : α → Nat} {comb}
    (C : Counting lt key val comb) (pick) (blocks : List (List α))
    (hb : (∀ b ∈ blocks, (b.map key).Nodup) ∨ 2 ≤ (blocks.filter (fun b => !b.isEmpty)).length) (plan) {out}
    (ho : extSort lt comb pick blocks plan = some out) : Canon lt key val blocks.flatten out := by
  obtain rfl := extSort_out ho
  exact extSortOut_canon C pick blocks hb plan

/-- with the counting combiner the result is independent of blocks,
plan and tie-breaks (inputs that are permutations of each other, each cut into at least two
non-empty blocks or into duplicate-free blocks). -/
theorem extSort_combine_unique {κ : Type} [DecidableEq κ] {lt : α → α → Bool} {key : α → κ} {val : α → Nat} {comb}
    (C : Counting lt key val comb) (blocks₁ blocks₂ : List (List α))
    (hb₁ : (∀ b ∈ blocks₁, (b.map key).Nodup) ∨ 2 ≤ (blocks₁.filter (fun b => !b.isEmpty)).length)
    (hb₂ : (∀ b ∈ blocks₂, (b.map key).Nodup) ∨ 2 ≤ (blocks₂.filter (fun b => !b.isEmpty)).length)
    (hperm : blocks₁.flatten ~ blocks₂.flatten) (pick₁ pick₂) (plan₁ plan₂) :
    extSort lt comb pick₁ blocks₁ plan₁ = extSort lt comb pick₂ blocks₂ plan₂ := by
  have h1 := extSort_eq lt comb pick₁ blocks₁ plan₁
  have h2 := extSort_eq lt comb pick₂ blocks₂ plan₂
  rw [h1, h2]
  congr 1
  exact Canon.unique C (extSort_canon C pick₁ blocks₁ hb₁ plan₁ h1) (extSort_canon C pick₂ blocks₂ hb₂ plan₂ h2) hperm

/-- … and it is the value the driver prints (`sortSpec`): sort everything, fold equal neighbours. -/
theorem extSort_combine_eq_spec {κ : Type} [DecidableEq κ] {lt : α → α → Bool} {key : α → κ} {val : α → Nat} {comb}
    (C : Counting lt key val comb) (blocks : List (List α))
    (hb : 2 ≤ (blocks.filter (fun b => !b.isEmpty)).length) (pick) (plan) :
    extSort lt comb pick blocks plan = some (sortSpec lt comb blocks) := by
  have h1 := extSort_eq lt comb pick blocks plan
  rw [h1]
  congr 1
  exact Canon.unique C (extSort_canon C pick blocks (Or.inr hb) plan h1) (sortSpec_canon C blocks hb) (Perm.refl _)

theorem counting_of_keyTotal {lt : Rec → Rec → Bool} (sw : StrictWeak lt)
    (hk : ∀ a b : Rec, (lt a b = false ∧ lt b a = false) ↔ a.key = b.key) :
    Counting lt Rec.key Rec.payload combineCounts :=
  KV.Sort.counting_of_keyTotal sw hk

theorem counting_int : Counting intLt Rec.key Rec.payload combineCounts :=
  counting_of_keyTotal intOrder_lawful fun a b =>
    ⟨fun ⟨h1, h2⟩ => lexLt_tri _ _ h1 h2, fun hk => by simp [intLt, hk, lexLt_irrefl]⟩

/-- `CombineCounts` under `SuffixOrder` (the production pairing) satisfies `Counting` -/
theorem counting_suffix : Counting suffixLt Rec.key Rec.payload combineCounts := counting_suffixLt

/-- with the counting combiner, the total count of every key is
preserved (for every strict weak order, every block structure, every plan). -/
theorem extSort_combine_totals {lt : Rec → Rec → Bool} (h : StrictWeak lt) (pick) (blocks : List (List Rec)) (plan)
    {out} (ho : extSort lt combineCounts pick blocks plan = some out) (k : List Nat) :
    total k out = total k blocks.flatten :=
  extSort_sum h pick _ (additive_of_add combineCounts_add k) blocks plan ho

theorem counting_prefix : Counting prefixLt Rec.key Rec.payload combineCounts :=
  counting_of_keyTotal prefixOrder_lawful fun a b =>
    ⟨fun ⟨h1, h2⟩ => lexLt_tri _ _ h1 h2, fun hk => by simp [prefixLt, hk, lexLt_irrefl]⟩

theorem contextKey_injective (a b : List Nat) (h : contextKey a = contextKey b) : a = b := by
  unfold contextKey at h
  apply List.reverse_inj.mp
  cases ha : a.reverse with
  | nil =>
    cases hb : b.reverse with
    | nil => rfl
    | cons y ys => rw [ha, hb] at h; simp at h
  | cons x xs =>
    cases hb : b.reverse with
    | nil => rw [ha, hb] at h; simp at h
    | cons y ys =>
      rw [ha, hb] at h
      simp only at h
      have := List.append_inj' h rfl
      simp only [List.cons.injEq, and_true] at this
      rw [this.1, this.2]

theorem counting_context : Counting contextLt Rec.key Rec.payload combineCounts :=
  counting_of_keyTotal contextOrder_lawful fun a b =>
    ⟨fun ⟨h1, h2⟩ => contextKey_injective _ _ (lexLt_tri _ _ h1 h2),
      fun hk => by simp [contextLt, hk, lexLt_irrefl]⟩

/-! ## The plan the code computes

`codeSort` mirrors the arity logic of `Sort::Merge`, `MergingReader::Run` and
`OwningMergingReader` (per-buffer size, how many runs fit into the reading memory, when to stop
for the lazy merge).  The check compares its number of passes and `Merge`'s return value with
the real code on every generated configuration.  It is an instance of `extSort`, so every
theorem above applies to it. -/

/-- whatever `codeSort` outputs is `extSort blocks plan` for a plan with
exactly as many passes as the code made. -/
theorem codeSort_refines (lt : α → α → Bool) (comb) (pick) (cfg : Cfg) (lazyMem : Nat) (blocks : List (List α))
    (out : List α) (p ret : Nat) (h : codeSort lt comb pick cfg lazyMem blocks = .ok (out, p, ret)) :
    ∃ plan : List (List Nat), plan.length = p ∧ extSort lt comb pick blocks plan = some out := by
  obtain ⟨m, hm, hf, rfl, rfl⟩ := codeSort_eq_ok.mp h
  obtain ⟨plan, hn, hpl, _, _⟩ := codeMerge_refines hm
  exact ⟨plan, hn, by rw [extSort_eq, extSortOut, ← hpl, codeFinal_refines hf]⟩

/-- hence: sorted, and a permutation of the input without a combiner, for every configuration
`(buffer_size, total_memory, lazy_memory)` and every block structure -/
theorem codeSort_sorted_perm {lt : α → α → Bool} (h : StrictWeak lt) (pick) (cfg : Cfg) (lazyMem : Nat)
    (blocks : List (List α)) (out : List α) (p ret : Nat)
    (ho : codeSort lt neverCombine pick cfg lazyMem blocks = .ok (out, p, ret)) :
    out.Pairwise (fun a b => lt b a = false) ∧ out ~ blocks.flatten := by
  obtain ⟨plan, _, hp⟩ := codeSort_refines lt neverCombine pick cfg lazyMem blocks out p ret ho
  exact ⟨extSort_sorted h (neverCombine_keeps lt) pick blocks plan hp, extSort_perm h pick blocks plan hp⟩

/-- what the check compares byte for byte: for a total order on the occurring records, the output
of the code's plan is the specification value `sortSpec` (sorted input) -/
theorem codeSort_eq_spec {lt : α → α → Bool} (h : StrictWeak lt) (pick) (cfg : Cfg) (lazyMem : Nat)
    (blocks : List (List α))
    (htot : ∀ a b, a ∈ blocks.flatten → b ∈ blocks.flatten → lt a b = false → lt b a = false → a = b)
    (out : List α) (p ret : Nat)
    (ho : codeSort lt neverCombine pick cfg lazyMem blocks = .ok (out, p, ret)) :
    out = sortSpec lt neverCombine blocks := by
  obtain ⟨plan, _, hp⟩ := codeSort_refines lt neverCombine pick cfg lazyMem blocks out p ret ho
  rw [extSort_eq_spec h blocks htot pick plan] at hp
  exact (Option.some.inj hp).symm

/-- … and with the counting combiner and at least two non-empty blocks -/
theorem codeSort_combine_eq_spec {κ : Type} [DecidableEq κ] {lt : α → α → Bool} {key : α → κ} {val : α → Nat} {comb}
    (C : Counting lt key val comb) (pick) (cfg : Cfg) (lazyMem : Nat) (blocks : List (List α))
    (hb : 2 ≤ (blocks.filter (fun b => !b.isEmpty)).length) (out : List α) (p ret : Nat)
    (ho : codeSort lt comb pick cfg lazyMem blocks = .ok (out, p, ret)) :
    out = sortSpec lt comb blocks := by
  obtain ⟨plan, _, hp⟩ := codeSort_refines lt comb pick cfg lazyMem blocks out p ret ho
  rw [extSort_combine_eq_spec C blocks hb pick plan] at hp
  exact (Option.some.inj hp).symm

/-- No abort, no stall: for every configuration the `Sort` constructor accepts
(`entry_size > 0`, `buffer_size` a positive multiple of it after rounding, `total_memory ≥ 4·buffer_size`),
every `lazy_memory`, every input and block structure, the arity logic completes: neither
"not merging at least two stripes" nor "should only be one merge group for lazy sort" nor an
empty queue is reachable, and the pass loop ends within `#runs` passes (the model's fuel). -/
theorem codeSort_ok {entrySize bufferSize totalMemory : Nat} {cfg : Cfg}
    (hcfg : mkCfg entrySize bufferSize totalMemory = .ok cfg)
    (lt : α → α → Bool) (comb) (pick) (lazyMem : Nat) (blocks : List (List α)) :
    ∃ out p ret, codeSort lt comb pick cfg lazyMem blocks = .ok (out, p, ret) := by
  have L := mkCfg_legal hcfg
  obtain ⟨m, hm⟩ := codeMerge_ok L lt comb pick lazyMem (initialRuns lt blocks)
  obtain ⟨_, _, _, hcond, _⟩ := codeMerge_refines hm
  exact ⟨_, _, _, codeSort_eq_ok.mpr ⟨m, hm, codeFinal_eq L lt comb pick lazyMem m.runs hcond, rfl, rfl⟩⟩

example : mkCfg 8 800 3300 = .ok ⟨8, 800, 3300⟩ := rfl   -- the configuration of sort_test.cc
example : mkCfg 12 100 384 = .ok ⟨12, 96, 384⟩ := rfl     -- buffer rounded down, exactly four buffers
example : mkCfg 12 100 383 = .error .badConfig := rfl

/-- so the real plan satisfies the property: for every accepted configuration the output of the
code's own plan exists, is sorted and (without combiner) a permutation of the input -/
theorem codeSort_correct {entrySize bufferSize totalMemory : Nat} {cfg : Cfg}
    (hcfg : mkCfg entrySize bufferSize totalMemory = .ok cfg)
    {lt : α → α → Bool} (h : StrictWeak lt) (pick) (lazyMem : Nat) (blocks : List (List α)) :
    ∃ out p ret, codeSort lt neverCombine pick cfg lazyMem blocks = .ok (out, p, ret) ∧
      out.Pairwise (fun a b => lt b a = false) ∧ out ~ blocks.flatten := by
  obtain ⟨out, p, ret, ho⟩ := codeSort_ok hcfg lt neverCombine pick lazyMem blocks
  exact ⟨out, p, ret, ho, codeSort_sorted_perm h pick cfg lazyMem blocks out p ret ho⟩

/-- the contract `lmplz` relies on (lm/builder/pipeline.cc:69-73 and
107-123: `merge_using = sort.Merge(lazy); …; sort.Output(chain, merge_using)` and
`assert(for_merge >= laziness.back())`): the value returned by `Sort::Merge(lazy_memory)` is at
most `lazy_memory`; calling `Merge` again with it (as `Output` does) makes no further pass and
returns the same value; and the lazy merge given exactly that much memory does not abort and
yields the final merge of the remaining runs. -/
theorem merge_ret_sufficient {entrySize bufferSize totalMemory : Nat} {cfg : Cfg}
    (hcfg : mkCfg entrySize bufferSize totalMemory = .ok cfg)
    (lt : α → α → Bool) (comb) (pick) (lazyMem : Nat) (runs : List (List α)) (m : MergeResult α)
    (h : codeMerge lt comb pick cfg lazyMem runs = .ok m) :
    m.ret ≤ lazyMem ∧
    codeMerge lt comb pick cfg m.ret m.runs = .ok ⟨m.runs, 0, m.ret⟩ ∧
    codeFinal lt comb pick cfg m.ret m.runs = .ok (finalMerge lt comb pick m.runs) := by
  have L := mkCfg_legal hcfg
  obtain ⟨_, _, _, hcond, hret⟩ := codeMerge_refines h
  refine ⟨by rw [hret]; exact mergeRet_le L lazyMem m.runs hcond, ?_, ?_⟩
  · rw [hret]; exact codeMerge_idem L lt comb pick m.runs
  · rw [hret]; exact codeFinal_eq L lt comb pick _ m.runs (mergeRet_cond L m.runs)

/-- the fixed-size-record sort used per block (`SizedSort`, modelled by a stable merge sort) -/
theorem sizedSort_perm_sorted {lt : α → α → Bool} (h : StrictWeak lt) (b : List α) :
    (blockSort lt b).Pairwise (fun a b => lt b a = false) ∧ blockSort lt b ~ b :=
  ⟨blockSort_sorted h b, blockSort_perm lt b⟩

/-! ## Byte level: records in a flat buffer (util/sized_iterator.hh, util/proxy_iterator.hh) -/

/-- `swap(SizedProxy_i, SizedProxy_j)` on a block of `n` records of *any* size `s`: exactly the two byte ranges are
exchanged, every other byte is untouched -/
theorem sized_swap_exchanges {s n : Nat} {buf : Buf} (hl : buf.length = n * s) {i j : Nat}
    (hi : i < n) (hj : j < n) (hij : i ≠ j) :
    (sizedSwap s buf i j).length = buf.length ∧
    ∀ p, (sizedSwap s buf i j)[p]? =
      if i * s ≤ p ∧ p < i * s + s then buf[p - i * s + j * s]?
      else if j * s ≤ p ∧ p < j * s + s then buf[p - j * s + i * s]? else buf[p]? :=
  ⟨sizedSwap_length s buf i j, sizedSwap_get hl hi hj hij⟩

/-- the same at record level (also for `i = j`, which `std::sort` may do) -/
theorem sized_swap_records {s n : Nat} {buf : Buf} (hl : buf.length = n * s) {i j : Nat}
    (hi : i < n) (hj : j < n) (k : Nat) (hk : k < n) :
    recAt s (sizedSwap s buf i j) k =
      if k = i then recAt s buf j else if k = j then recAt s buf i else recAt s buf k :=
  recAt_sizedSwap hl hi hj k

/-- `ProxyIterator`/`SizedInnerIterator` arithmetic (proxy_iterator.hh, sized_iterator.hh:27-33):
`it += k` moves the pointer by `k·size` bytes and `it₂ - it₁` divides the byte distance by `size`,
so iterator positions are record indices: record `i + k` starts at byte `(i + k)·s`, and the
distance between records `i ≤ j` is `j - i`. -/
theorem proxy_iterator_arith (s i j k : Nat) (hs : 0 < s) (hij : i ≤ j) :
    i * s + k * s = (i + k) * s ∧ (j * s - i * s) / s = j - i := by
  refine ⟨(Nat.add_mul i k s).symm, ?_⟩
  rw [← Nat.sub_mul, Nat.mul_div_cancel _ hs]

/-- the model's swap is the code's swap: the table regenerated on every run by tools/probe_C16.cc
(the real `util::swap(SizedProxy, SizedProxy)` on `[0 … 2s-1]` for 27 record sizes in 1…64) is
reproduced by `sizedSwap`.  A swap that is not byte-wise (seeded/C16-3) changes the table and this
obligation no longer checks. -/
theorem swap_matches_code :
    KV.Gen.C16.swapCases.all (fun c => sizedSwap c.1 (List.range (2 * c.1)) 0 1 == c.2) = true := by
  -- `sizedSwap_range` computes the model's side for every size; only the comparison with the table is evaluated
  have h : KV.Gen.C16.swapCases.all (fun c => List.range' c.1 c.1 ++ List.range c.1 == c.2) = true := by
    decide +kernel
  simpa only [sizedSwap_range] using h

/-- the word-wise swap of seeded/C16-3 is *not* an exchange: for 5-byte records the fifth byte of
each record stays behind -/
theorem wordSwap_not_exchange :
    recAt 5 (wordSwap 5 [0, 1, 2, 3, 4, 5, 6, 7, 8, 9] 0 1) 0 ≠ recAt 5 [0, 1, 2, 3, 4, 5, 6, 7, 8, 9] 1 ∧
    wordSwap 5 [0, 1, 2, 3, 4, 5, 6, 7, 8, 9] 0 1 = [5, 6, 7, 8, 4, 0, 1, 2, 3, 9] ∧
    sizedSwap 5 [0, 1, 2, 3, 4, 5, 6, 7, 8, 9] 0 1 = [5, 6, 7, 8, 9, 0, 1, 2, 3, 4] := by
  decide

/-- `SizedSort` is `std::sort` over proxies, i.e. some sequence `ops` of
byte-wise record swaps, record copies and `ValueBlock` temporaries with all indices inside the
block (`opsValid`).  If that sequence, run on an abstract array of records, yields a sorted
permutation (what libstdc++ guarantees), then the flat byte buffer after running it byte-wise has
the same length and its records are that sorted permutation of the original records, as byte
strings — for every record size. -/
theorem sizedSort_bytes {s n : Nat} (lt : List Nat → List Nat → Bool) (ops : List SortOp) (buf : Buf)
    (hl : buf.length = n * s) (hv : opsValid n 0 ops = true)
    (hsorted : ((List.range n).map (execRecs ops (recAt s buf)).1).Pairwise (fun a b => lt b a = false))
    (hperm : (List.range n).map (execRecs ops (recAt s buf)).1 ~ (List.range n).map (recAt s buf)) :
    (execBytes s ops buf).1.length = buf.length ∧
    (recsOf s n (execBytes s ops buf).1).Pairwise (fun a b => lt b a = false) ∧
    recsOf s n (execBytes s ops buf).1 ~ recsOf s n buf := by
  obtain ⟨h1, h2⟩ := execBytes_sim ops buf hl hv
  rw [show recsOf s n (execBytes s ops buf).1 = _ from map_congr_left fun k hk => h2 k (mem_range.mp hk)]
  exact ⟨by rw [h1, hl], hsorted, hperm⟩

/-- a concrete run: three 3-byte records, selection of the minimum by swaps, and a rotation through
a temporary -/
example : (execBytes 3 [.swap 0 2, .save 1, .assign 1 2, .restore 2 0] [7, 7, 7, 5, 5, 5, 1, 1, 1]).1
    = [1, 1, 1, 7, 7, 7, 5, 5, 5] := by decide
example : opsValid 3 0 [.swap 0 2, .save 1, .assign 1 2, .restore 2 0] = true := by decide

/-! ## Byte level: the temp file (util/stream/io.cc, sort.hh) -/

/-- for any chain blocks — full, partial, empty — with `ValidSize ≤ block_size`:
the file written by `WriteAndRecycle` (appending `ValidSize()` bytes per block), the `Offsets` log
of the block sizes in bytes, and the reads at `(TotalOffset() before, NextSize())` give back, run
by run, exactly the valid bytes of the non-empty blocks. -/
theorem spill_roundtrip (blocks : List Block) (hv : ∀ b ∈ blocks, b.valid ≤ b.mem.length) :
    readRunsBytes (writeAndRecycle [] blocks) (blockSorterLog blocks) =
      some ((blocks.filter (fun b => decide (b.valid ≠ 0))).map (fun b => b.mem.take b.valid)) := by
  have hlen : blockSorterLog blocks = (blocks.map (fun b => b.mem.take b.valid)).map List.length :=
    (map_congr_left fun b hb => (length_take.trans (Nat.min_eq_left (hv b hb))).symm).trans (map_map ..).symm
  rw [writeAndRecycle_eq, nil_append, readRunsBytes_eq_storeRunsLogged, hlen]
  exact (storeRuns_eq _).trans (congrArg some (nonempties_map fun b hb => by
    rw [decide_eq_true_iff, length_take, Nat.min_eq_left (hv b hb)]))

/-- writing `block_size` bytes instead of `ValidSize()` (seeded mutant m8) breaks the round trip
as soon as a partial block is followed by another block -/
theorem spill_m8_breaks :
    readRunsBytes (writeAndRecycleM8 [] [⟨[1, 2, 3, 4], 2⟩, ⟨[5, 6, 7, 8], 4⟩]) (blockSorterLog [⟨[1, 2, 3, 4], 2⟩, ⟨[5, 6, 7, 8], 4⟩])
      = some [[1, 2], [3, 4, 5, 6]] ∧
    readRunsBytes (writeAndRecycle [] [⟨[1, 2, 3, 4], 2⟩, ⟨[5, 6, 7, 8], 4⟩]) (blockSorterLog [⟨[1, 2, 3, 4], 2⟩, ⟨[5, 6, 7, 8], 4⟩])
      = some [[1, 2], [5, 6, 7, 8]] := by
  decide

/-- the output side of a merge pass — a `Stream` filling chain blocks of
any size `cap`, passing full blocks on, `Poison` passing the last block with its valid size, and
`WriteAndRecycle` appending the valid bytes — leaves exactly the bytes written in the file. -/
theorem stream_write_roundtrip (cap : Nat) (pad : Buf) (fuel : Nat) (bytes : Buf) :
    writeAndRecycle [] (streamToBlocks cap pad fuel bytes) = bytes := by
  simpa using writeAndRecycle_stream cap pad fuel bytes []

example : streamToBlocks 4 [9, 9, 9, 9] 5 [1, 2, 3, 4, 5, 6] = [⟨[1, 2, 3, 4], 4⟩, ⟨[5, 6, 9, 9, 9, 9], 2⟩] := by decide
example : streamToBlocks 2 [9, 9] 5 [1, 2, 3, 4] = [⟨[1, 2], 2⟩, ⟨[3, 4], 2⟩, ⟨[9, 9], 0⟩] := by decide

/-- `PWrite` (positional writes at the running offset, then truncation)
leaves exactly the valid bytes of the blocks in the file, whatever the file held before — the same
content `WriteAndRecycle` produces on an empty file. -/
theorem pwrite_roundtrip (file : Buf) (blocks : List Block) :
    pwriteRun file blocks = (blocks.map (fun b => b.mem.take b.valid)).flatten ∧
    pwriteRun file blocks = writeAndRecycle [] blocks := by
  have h := pwrite_fold blocks file 0 [] (by simp) rfl
  simp only [List.nil_append] at h
  exact ⟨h, by rw [writeAndRecycle_eq, List.nil_append]; exact h⟩

/-- `storeRuns_roundtrip` through bytes: runs of `s`-byte records written as bytes, logged in bytes, read back at the
logged offsets and cut into records are the non-empty runs, unchanged -/
theorem spill_records_roundtrip {s : Nat} (hs : 0 < s) (runs : List (List (List Nat)))
    (hu : ∀ r ∈ runs, ∀ x ∈ r, x.length = s) :
    (readRunsBytes (runs.map bytesOf).flatten (runs.map (fun r => r.length * s))).map (·.map (recordsOf s)) =
      some (runs.filter (fun r => !r.isEmpty)) := by
  rw [spill_records hs runs hu]
  exact nonempties_eq_filter runs ▸ storeRuns_eq runs

/-- the same for the output file of a merge pass, each merged group logged with `written · entry_size`: it holds what
the record-level `pass` stores, whenever the merged records all have the record size (always without a combiner:
`mergeGroup_uniform` below) -/
theorem pass_spill_bytes {s : Nat} (hs : 0 < s) (lt : List Nat → List Nat → Bool) (comb) (pick)
    (gs : List (List (List (List Nat))))
    (hu : ∀ g ∈ gs, ∀ x ∈ mergeGroup lt comb pick g, x.length = s) :
    (readRunsBytes ((gs.map (mergeGroup lt comb pick)).map bytesOf).flatten
        ((gs.map (mergeWritten lt comb pick)).map (· * s))).map (·.map (recordsOf s)) =
      storeRunsLogged (gs.map (mergeWritten lt comb pick)) (gs.map (mergeGroup lt comb pick)) := by
  rw [map_mergeWritten]
  have hl : ((gs.map (mergeGroup lt comb pick)).map List.length).map (· * s) =
      (gs.map (mergeGroup lt comb pick)).map (fun r => r.length * s) := by
    rw [List.map_map]; rfl
  rw [hl]
  exact spill_records hs _ (by
    intro r hr
    obtain ⟨g, hg, rfl⟩ := List.mem_map.mp hr
    exact hu g hg)

theorem mergeGroup_uniform {s : Nat} {lt : List Nat → List Nat → Bool} (h : StrictWeak lt) (pick)
    (g : List (List (List Nat))) (hg : ∀ r ∈ g, ∀ x ∈ r, x.length = s) :
    ∀ x ∈ mergeGroup lt neverCombine pick g, x.length = s := by
  exact Combined.uniform neverCombine_length (mergeGroup_combined h g) (uniform_flatten.mpr hg)

theorem afterBlockSorterBytes_refines {s : Nat} (hs : 0 < s) (lt : List Nat → List Nat → Bool)
    (blocks : List Block) (hw : ∀ b ∈ blocks, b.wf s) :
    afterBlockSorterBytes s lt blocks = afterBlockSorter lt (blocks.map (Block.records s)) :=
  afterBlockSorterBytes_eq hs hw

/-- `codeSort_eq_spec` over the byte-level model.  Chain blocks are flat
byte buffers with a valid size (a multiple of the record size), sorted in place, spilled to a
byte-level temp file and read back at the logged byte offsets; then the code's own merge plan runs.
For a comparison that is a total order on the occurring records, the output bytes are the bytes of
the sorted records. -/
theorem codeSortBytes_eq_spec {s : Nat} (hs : 0 < s) {lt : List Nat → List Nat → Bool} (h : StrictWeak lt)
    (pick) (cfg : Cfg) (lazyMem : Nat) (blocks : List Block) (hw : ∀ b ∈ blocks, b.wf s)
    (htot : ∀ a b, a ∈ (blocks.map (Block.records s)).flatten → b ∈ (blocks.map (Block.records s)).flatten →
      lt a b = false → lt b a = false → a = b)
    (out : Buf) (p ret : Nat)
    (ho : codeSortBytes s lt neverCombine pick cfg lazyMem blocks = .ok (out, p, ret)) :
    out = bytesOf (sortSpec lt neverCombine (blocks.map (Block.records s))) := by
  rw [codeSortBytes_eq hs hw] at ho
  cases hc : codeSort lt neverCombine pick cfg lazyMem (blocks.map (Block.records s)) with
  | error e => rw [hc] at ho; cases ho
  | ok r =>
    obtain ⟨o, p', ret'⟩ := r
    rw [hc] at ho
    cases ho
    rw [codeSort_eq_spec h pick cfg lazyMem _ htot o p ret hc]

theorem codeSortBytes_ok {s : Nat} (hs : 0 < s) {entrySize bufferSize totalMemory : Nat} {cfg : Cfg}
    (hcfg : mkCfg entrySize bufferSize totalMemory = .ok cfg)
    (lt : List Nat → List Nat → Bool) (comb) (pick) (lazyMem : Nat) (blocks : List Block)
    (hw : ∀ b ∈ blocks, b.wf s) :
    ∃ out p ret, codeSortBytes s lt comb pick cfg lazyMem blocks = .ok (out, p, ret) := by
  obtain ⟨out, p, ret, ho⟩ := codeSort_ok hcfg lt comb pick lazyMem (blocks.map (Block.records s))
  exact ⟨bytesOf out, p, ret, by rw [codeSortBytes_eq hs hw, ho]; rfl⟩

/-- A queue entry at byte level (`ByteEntry`, Model/SortBytes.lean) refines the record-level buffered entry whenever
`per_buffer` is a positive multiple of the entry size — which `per_buffer -= per_buffer % entry_size;
assert(per_buffer)` (sort.hh:269-270) ensures: `Increment` never steps over `buffer_end_`, the records delivered
are the records of the run, and the entry stays well-formed. -/
theorem byteEntry_refines {E cap : Nat} (hE : 0 < E) (hc : 0 < cap) (hcap : E ∣ cap) :
    (∀ file : Buf, E ∣ file.length →
      (ByteEntry.read cap file).map (ByteEntry.abs E) = BufEntry.read (cap / E) (recordsOf E file) ∧
      ∀ e, ByteEntry.read cap file = some e → e.wf E) ∧
    (∀ e : ByteEntry, e.wf E →
      ∃ r, e.increment E cap = .ok r ∧ r.map (ByteEntry.abs E) = (ByteEntry.abs E e).increment (cap / E) ∧
        ∀ e', r = some e' → e'.wf E) :=
  ⟨fun file hf => byteEntry_read ⟨hE, hc, hcap⟩ file hf, fun e hw => byteEntry_increment ⟨hE, hc, hcap⟩ e hw⟩

/-- without the rounding the equality test `current_ != buffer_end_` is stepped over: entry size 2,
a 3-byte buffer — after one record one byte is left and the next `Increment` leaves the buffer -/
theorem byteEntry_unrounded_breaks :
    ByteEntry.read 3 [1, 2, 3, 4, 5, 6] = some ⟨[1, 2, 3], [4, 5, 6]⟩ ∧
    (⟨[1, 2, 3], [4, 5, 6]⟩ : ByteEntry).increment 2 3 = .ok (some ⟨[3], [4, 5, 6]⟩) ∧
    (⟨[3], [4, 5, 6]⟩ : ByteEntry).increment 2 3 = .error () :=
  ⟨rfl, rfl, rfl⟩

/-- a `MergeQueue::Entry` whose buffer (`per_buffer`) is any positive
multiple of the entry size, reading the byte slice of a run chunk by chunk, delivers exactly the
records of that slice (no step over `buffer_end_`, nothing lost at buffer boundaries). -/
theorem decodeRun_records {E cap : Nat} (hE : 0 < E) (hc : 0 < cap) (hcap : E ∣ cap) (bytes : Buf)
    (hb : E ∣ bytes.length) : decodeRun E cap bytes = some (recordsOf E bytes) :=
  decodeRun_eq ⟨hE, hc, hcap⟩ bytes hb

/-- every `per_buffer` the code computes qualifies -/
theorem perBuffer_multiple {cfg : Cfg} {e b t : Nat} (hcfg : mkCfg e b t = .ok cfg) (M R : Nat) :
    0 < perBuffer cfg.entrySize cfg.bufferSize M R ∧ cfg.entrySize ∣ perBuffer cfg.entrySize cfg.bufferSize M R :=
  let L := mkCfg_legal hcfg
  ⟨(perBuffer_valid L.mult M R).pos, (perBuffer_valid L.mult M R).dvd⟩

/-- one pass's output through the byte file (`storeRunsBytes`, Model/SortBytes.lean: stream blocks, `WriteAndRecycle`,
byte log, decoding through queue entries) is what the record-level model stores -/
theorem storeRunsBytes_refines {E cap B : Nat} (hE : 0 < E) (hc : 0 < cap) (hcap : E ∣ cap) (pad : Buf)
    (runs : List (List (List Nat))) (hu : ∀ r ∈ runs, ∀ x ∈ r, x.length = E) :
    storeRunsBytes E cap B pad (runs.map List.length) runs = some (runs.filter (fun r => !r.isEmpty)) := by
  rw [storeRunsBytes_eq ⟨hE, hc, hcap⟩ pad runs hu]
  exact nonempties_eq_filter runs ▸ storeRuns_eq runs

example : storeRunsBytes 2 2 4 [9, 9, 9, 9] [2, 0, 1] [[[1, 2], [3, 4]], [], [[5, 6]]] =
    some [[[1, 2], [3, 4]], [[5, 6]]] := by decide
example : decodeRun 2 4 [1, 2, 3, 4, 5, 6] = some [[1, 2], [3, 4], [5, 6]] ∧ decodeRun 2 3 [1, 2, 3, 4, 5, 6] = none := by
  decide

/-- `Sort::Merge` with the byte-level file in *every* pass equals
`Sort::Merge` of the record-level model, for runs of `entry_size`-byte records. -/
theorem codeMergeBytes_refines {lt : List Nat → List Nat → Bool} (h : StrictWeak lt) (pick) {cfg : Cfg}
    {e b t : Nat} (hcfg : mkCfg e b t = .ok cfg) (pad : Buf) (lazyMem : Nat) (runs : List (List (List Nat)))
    (hu : ∀ r ∈ runs, ∀ x ∈ r, x.length = cfg.entrySize) :
    codeMergeBytes lt neverCombine pick cfg pad lazyMem runs = codeMerge lt neverCombine pick cfg lazyMem runs :=
  codeMergeBytes_eq h neverCombine_length pick (mkCfg_legal hcfg) pad lazyMem runs hu

/-- The main theorem with the byte-level temp file in every pass (`codeSortBytesPasses`, Model/SortBytes.lean: blocks
sorted in place and spilled, every pass through the byte file, lazy merge).  For every accepted configuration,
every lazy memory, every tie-break policy and every stale block content `pad`, if the comparison is a total order on
the occurring records, the output bytes are the bytes of the sorted records. -/
theorem codeSortBytes_passes_eq_spec {lt : List Nat → List Nat → Bool} (h : StrictWeak lt) (pick) {cfg : Cfg}
    {e b t : Nat} (hcfg : mkCfg e b t = .ok cfg) (pad : Buf) (lazyMem : Nat) (blocks : List Block)
    (hw : ∀ blk ∈ blocks, blk.wf cfg.entrySize)
    (htot : ∀ x y, x ∈ (blocks.map (Block.records cfg.entrySize)).flatten →
      y ∈ (blocks.map (Block.records cfg.entrySize)).flatten → lt x y = false → lt y x = false → x = y)
    (out : Buf) (p ret : Nat)
    (ho : codeSortBytesPasses lt neverCombine pick cfg pad lazyMem blocks = .ok (out, p, ret)) :
    out = bytesOf (sortSpec lt neverCombine (blocks.map (Block.records cfg.entrySize))) := by
  have L := mkCfg_legal hcfg
  rw [codeSortBytesPasses_eq h neverCombine_length pick L pad lazyMem blocks hw] at ho
  exact codeSortBytes_eq_spec L.mult.pos_base h pick cfg lazyMem blocks hw htot out p ret ho

/-- … and the byte-level pipeline always completes (no abort, no stall, no read past a buffer) -/
theorem codeSortBytes_passes_ok {lt : List Nat → List Nat → Bool} (h : StrictWeak lt) (pick) {cfg : Cfg}
    {e b t : Nat} (hcfg : mkCfg e b t = .ok cfg) (pad : Buf) (lazyMem : Nat) (blocks : List Block)
    (hw : ∀ blk ∈ blocks, blk.wf cfg.entrySize) :
    ∃ out p ret, codeSortBytesPasses lt neverCombine pick cfg pad lazyMem blocks = .ok (out, p, ret) := by
  have L := mkCfg_legal hcfg
  rw [codeSortBytesPasses_eq h neverCombine_length pick L pad lazyMem blocks hw]
  exact codeSortBytes_ok L.mult.pos_base hcfg lt neverCombine pick lazyMem blocks hw

/-- `HolePunch(fd, offset_, amount)` right after reading `amount` bytes at
`offset_` keeps the file length and changes no byte outside the slice just read — in particular
nothing another queue entry still has to read. -/
theorem holePunch_frame (file : Buf) (off len : Nat) :
    (holePunch file off len).length = file.length ∧
    ∀ p, p < off ∨ off + len ≤ p → (holePunch file off len)[p]? = file[p]? := by
  have hlen : (holePunch file off len).length = file.length := by
    simp only [holePunch, length_append, length_take, length_replicate, length_drop]
    -- the cases `off + len ≤ file.length` and `off ≤ file.length` decide every `min` and truncated subtraction
    rcases Nat.le_total (off + len) file.length with h | h
    · rw [Nat.min_eq_left (Nat.le_trans (Nat.le_add_right _ _) h), Nat.min_eq_left (Nat.le_sub_of_add_le' h),
        Nat.add_sub_cancel' h]
    · rw [Nat.sub_eq_zero_of_le h, Nat.min_eq_right (Nat.sub_le_of_le_add (by rwa [Nat.add_comm] at h)), Nat.add_zero]
      rcases Nat.le_total off file.length with h1 | h1
      · rw [Nat.min_eq_left h1, Nat.add_sub_cancel' h1]
      · rw [Nat.min_eq_right h1, Nat.sub_eq_zero_of_le h1]; rfl
  refine ⟨hlen, fun p hp => ?_⟩
  rcases Nat.lt_or_ge p file.length with hl | hl
  · unfold holePunch
    rcases hp with hp | hp
    · rw [append_assoc, getElem?_append_left (by rw [length_take]; exact Nat.lt_min.mpr ⟨hp, hl⟩),
        getElem?_take_of_lt hp]
    · have hle : off + len ≤ file.length := Nat.le_trans hp (Nat.le_of_lt hl)
      have h1 : (take off file ++ replicate (min len (file.length - off)) 0).length = off + len := by
        rw [length_append, length_take, length_replicate, Nat.min_eq_left (Nat.le_trans (Nat.le_add_right _ _) hle),
          Nat.min_eq_left (Nat.le_sub_of_add_le' hle)]
      rw [getElem?_append_right (h1 ▸ hp), h1, getElem?_drop, Nat.add_sub_cancel' hp]
  · rw [getElem?_eq_none hl, getElem?_eq_none (by rw [hlen]; exact hl)]

/-- seeded/C16-8 (punch from the page boundary below `offset_`) zeroes the unread tail of the
preceding run.  Page size 4: run A = bytes `[0,6)`, run B = `[6,10)`; A has read its first 4 bytes,
then B reads 4 bytes at offset 6 and punches from offset 4 — A's remaining bytes `[4,6)` now read
as zeros; with the real code they are intact. -/
theorem holePunch_c16_8_breaks :
    readAt (readPunch (some 4) (readPunch (some 4) [1, 2, 3, 4, 5, 6, 7, 8, 9, 10] 0 4).2 6 4).2 (4, 2) = [0, 0] ∧
    readAt (readPunch none (readPunch none [1, 2, 3, 4, 5, 6, 7, 8, 9, 10] 0 4).2 6 4).2 (4, 2) = [5, 6] := by
  decide

/-- the blocks the consumer of `Sort::Output` receives (poison only /
`ReadSingle` / merging `Stream`) carry all `nout` records, none exceeds the block capacity, and
every block except the last is full. -/
theorem output_blocks_invariant {cap : Nat} (hc : 0 < cap) (nruns nout : Nat) (h0 : nruns = 0 → nout = 0) :
    (outputBlocks cap nruns nout).sum = nout ∧ (∀ b ∈ outputBlocks cap nruns nout, b ≤ cap) ∧
      (∀ b ∈ (outputBlocks cap nruns nout).dropLast, b = cap) := by
  unfold outputBlocks
  by_cases h : nruns = 0
  · rw [if_pos h, h0 h]; simp
  · rw [if_neg h]
    by_cases h1 : nruns = 1
    · rw [if_pos h1]; exact (readSingleBlocks_ok hc nout nout (Nat.le_refl _)).1
    · rw [if_neg h1]; exact streamBlocks_ok hc nout

/-- the same for `PRead` of the file handed over by `StealCompleted` (as lmplz reads it) -/
theorem pread_blocks_invariant {cap : Nat} (hc : 0 < cap) (n : Nat) :
    (preadBlocks cap n).sum = n ∧ (∀ b ∈ preadBlocks cap n, b ≤ cap) ∧ (∀ b ∈ (preadBlocks cap n).dropLast, b = cap) := by
  unfold preadBlocks
  by_cases h : n = 0
  · rw [if_pos h, h]; simp
  · rw [if_neg h]; exact (readSingleBlocks_ok hc n n (Nat.le_refl _)).1

example : outputBlocks 4 1 8 = [4, 4] ∧ outputBlocks 4 3 8 = [4, 4, 0] ∧ outputBlocks 4 3 9 = [4, 4, 1] ∧
    outputBlocks 4 0 0 = [] := by decide

/-! ## Non-vacuity: the hypotheses are satisfiable by the orders and the combiner of the code -/

theorem combineCounts_keeps_prefix : CombKeeps prefixLt combineCounts := counting_prefix.keeps

theorem combineCounts_keeps_suffix : CombKeeps suffixLt combineCounts := counting_suffix.keeps

theorem suffix_key_total (a b : Rec) : (suffixLt a b = false ∧ suffixLt b a = false) ↔ a.key = b.key :=
  counting_suffix.keyEq a b

theorem combineCounts_complete_suffix : CombComplete suffixLt combineCounts := counting_suffix.combComplete

/-! Concrete runs of the merge machinery (block sorting itself is `List.mergeSort`, which `decide`
cannot unfold, so the examples start from sorted runs). -/

example : (passes (fun a b : Nat => decide (a < b)) neverCombine (fun _ _ _ => 0) [[2], [5]] [[1, 3], [2, 2], [0]]).map
    (finalMerge (fun a b : Nat => decide (a < b)) neverCombine (fun _ _ _ => 0)) = some [0, 1, 2, 2, 3] := by decide

example : (passes suffixLt combineCounts (fun _ _ _ => 0) [[2]]
      [[⟨[0, 1], 1⟩, ⟨[1, 2], 5⟩], [⟨[1, 2], 7⟩], [⟨[3, 0], 2⟩, ⟨[1, 2], 1⟩]]).map
    (finalMerge suffixLt combineCounts (fun _ _ _ => 0))
    = some [⟨[3, 0], 2⟩, ⟨[0, 1], 1⟩, ⟨[1, 2], 13⟩] := by decide

/-- a single run is only copied, not combined (`ReadSingle`): this is why the duplicate-free
clause needs duplicate-free blocks -/
example : finalMerge suffixLt combineCounts (fun _ _ _ => 0) [[⟨[1], 5⟩, ⟨[1], 7⟩]] = [⟨[1], 5⟩, ⟨[1], 7⟩] := by decide

end KV.C16
