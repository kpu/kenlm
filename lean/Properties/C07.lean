import Proofs.KNCount
import Proofs.KNBlocks
import Proofs.KNC07Lmplz
import Proofs.KNC07Discharge
import Properties.C16
import Proofs.KNSorters
import Proofs.KNC07Stages
import Proofs.KNC07Chain
import Proofs.KNC07Fanin
import Proofs.KNCollapseMarks
/-!
# C07 — Estimation result is independent of memory budget, block sizes and scheduling

"Whenever lmplz succeeds, the bytes of its output depend only on the corpus and the modelling
options: they are identical for every sorting-memory limit, sort block size, minimum block size,
block count, vocabulary-size estimate and temporary directory, and across repeated runs under any
thread scheduling."

What is proved: for **every** block capacity the blocks that leave CorpusCount (`Model/KNCount.lean`: the `Writer` of
`lm/builder/corpus_count.cc`, whose only memory-dependent parameter is the number `cap` of n-gram slots per chain block) hold
the same n-grams with the same totals, so the sorted + combined table is `KV.KN.countFull` whatever the capacity
(`count_block_indep`); the whole tool, a composition `lmplzOut` over an unconstrained implementation `Impl`, equals a
configuration-free specification under hypotheses that are statements of C20, C16, C17 / C05 (`lmplz_eq_spec`, `lmplz_indep`);
those hypotheses follow from the other properties' theorems as far as these go, and `lmplz_indep_final` … `final4` name what
is assumed beyond them; the two compacting iterators and `CollapseStream`'s pruning marks do not depend on the block partition.

The memory-splitting heuristics of `pipeline.cc:44-211` are not modelled: the theorems quantify over
every resulting capacity / configuration, so the heuristics can only choose among behaviours proved
equal.
-/
namespace KV.C07
open KV.KN KV.KN.Count

/-! ## CorpusCount: block boundaries never lose, duplicate or invent an n-gram -/

/-- For every block capacity, the counts of an n-gram summed over all blocks are its number of
occurrences in the (padded) corpus — the block-independent specification. -/
theorem count_total_spec {N : Nat} (hN : 1 ≤ N) (cap : Nat) (corpus : List (List Word)) (g : Gram) :
    total g (corpusCount N cap corpus).flatten = (occurrences N corpus).count g :=
  total_corpusCount hN cap corpus g

theorem count_keys_spec {N : Nat} (hN : 2 ≤ N) (cap : Nat) (corpus : List (List Word)) (g : Gram) :
    g ∈ (corpusCount N cap corpus).flatten.map (·.1) ↔ g ∈ occurrences N corpus := by
  rw [keys_corpusCount (Nat.le_of_succ_le hN), ctorGrams_of_ne_one (Nat.ne_of_gt hN)]
  simp

/-- order 1: additionally the two slots `<unk>`, `<s>` written by the constructor (count 0) -/
theorem count_keys_spec_one (cap : Nat) (corpus : List (List Word)) (g : Gram) :
    g ∈ (corpusCount 1 cap corpus).flatten.map (·.1) ↔ (g = [unk] ∨ g = [bos]) ∨ g ∈ occurrences 1 corpus := by
  rw [keys_corpusCount (Nat.le_refl _), ctorGrams_one]
  simp

/-- order ≥ 2: within a block the n-grams are distinct (the dedupe table works per block) and every
count is positive -/
theorem count_blocks_good {N : Nat} (hN : 2 ≤ N) (cap : Nat) (corpus : List (List Word)) :
    ∀ d ∈ corpusCount N cap corpus, (d.map (·.1)).Nodup ∧ ∀ e ∈ d, 0 < e.2 := by
  intro d hd
  exact ⟨blocks_nodup (Nat.le_of_succ_le hN) cap corpus (fun h => absurd h (Nat.ne_of_gt hN)) d hd,
    fun e he => corpusCount_pos hN cap corpus e (List.mem_flatten.2 ⟨d, hd, he⟩)⟩

/-- every block but the last is full (`cap` slots), the last one is not -/
theorem count_blocks_sized {N cap : Nat} (hN : 1 ≤ N) (hc : 1 ≤ cap) (corpus : List (List Word)) :
    ∃ full last, corpusCount N cap corpus = full ++ [last] ∧ (∀ d ∈ full, d.length = cap) ∧ last.length < cap := by
  rw [corpusCount_eq_fold hN]
  obtain ⟨h1, h2⟩ := corpusCount_sized (N := N) hc corpus
  refine ⟨_, _, by simp only [finishB, List.reverse_cons]; rfl, ?_, by simpa using h1⟩
  intro d hd
  exact h2 d (List.mem_reverse.1 hd)

/-- the sort + `CombineCounts` stage applied to the blocks (as a function: stable merge sort by
suffix order, then run-length combine) yields the table `countFull` that C05's model starts from -/
theorem count_combine_spec {N : Nat} (hN : 2 ≤ N) (cap : Nat) (corpus : List (List Word)) :
    combineSorted ((corpusCount N cap corpus).flatten.mergeSort gramLe) = countFull N corpus :=
  sortCombine_ge2 hN cap corpus

/-- order 1 (`<unk>`, `<s>` with count 0 in front); the corpus holds no special id, as
`RunWithVocab` skips them (`vocab.IsSpecial(word)` ⇒ `continue`) -/
theorem count_combine_spec_one (cap : Nat) (corpus : List (List Word)) (hw : ∀ s ∈ corpus, ∀ w ∈ s, 2 ≤ w) :
    combineSorted ((corpusCount 1 cap corpus).flatten.mergeSort gramLe) = countFull1 corpus :=
  sortCombine_one cap corpus hw

/-- **Chain block boundaries never change the data**: for any two block capacities (any `-S`,
`--block_count`, … that `pipeline.cc` turns into a block size) the per-n-gram totals, the sets of
n-grams and the sorted, combined tables coincide.  (No hypothesis on the capacities is needed; a
real chain has `cap ≥ 1`, see `count_blocks_sized`.) -/
theorem count_block_indep {N : Nat} (hN : 1 ≤ N) (cap₁ cap₂ : Nat) (corpus : List (List Word)) :
    (∀ g, total g (corpusCount N cap₁ corpus).flatten = total g (corpusCount N cap₂ corpus).flatten) ∧
    (∀ g, g ∈ (corpusCount N cap₁ corpus).flatten.map (·.1) ↔ g ∈ (corpusCount N cap₂ corpus).flatten.map (·.1)) ∧
    combineSorted ((corpusCount N cap₁ corpus).flatten.mergeSort gramLe) =
      combineSorted ((corpusCount N cap₂ corpus).flatten.mergeSort gramLe) := by
  have ht : ∀ g, total g (corpusCount N cap₁ corpus).flatten = total g (corpusCount N cap₂ corpus).flatten :=
    fun g => by rw [count_total_spec hN, count_total_spec hN]
  have hk : ∀ g, g ∈ (corpusCount N cap₁ corpus).flatten.map (·.1) ↔
      g ∈ (corpusCount N cap₂ corpus).flatten.map (·.1) :=
    fun g => by rw [keys_corpusCount hN, keys_corpusCount hN]
  exact ⟨ht, hk, combine_sort_ext hk ht⟩

/-! ### non-vacuity: capacities 1, 2 and 100 give different block structures, equal totals -/

def exCorpus : List (List Word) := [[3, 4, 3, 4], [3, 4]]

example : corpusCount 2 1 exCorpus =
    [[([3, 1], 1)], [([4, 3], 1)], [([3, 4], 1)], [([4, 3], 1)], [([2, 4], 1)], [([3, 1], 1)], [([4, 3], 1)],
     [([2, 4], 1)], []] := by decide
example : corpusCount 2 2 exCorpus =
    [[([3, 1], 1), ([4, 3], 1)], [([3, 4], 1), ([4, 3], 1)], [([2, 4], 1), ([3, 1], 1)], [([4, 3], 1), ([2, 4], 1)], []] := by
  decide
/-- capacity 4: the second `4 3` falls into the block that already holds one, the third does not -/
example : corpusCount 2 4 exCorpus =
    [[([3, 1], 1), ([4, 3], 2), ([3, 4], 1), ([2, 4], 1)], [([3, 1], 1), ([4, 3], 1), ([2, 4], 1)]] := by decide
example : corpusCount 2 100 exCorpus = [[([3, 1], 2), ([4, 3], 3), ([3, 4], 1), ([2, 4], 2)]] := by decide
example : occurrences 2 exCorpus = [[3, 1], [4, 3], [3, 4], [4, 3], [2, 4], [3, 1], [4, 3], [2, 4]] := by decide
example : ∀ cap ∈ [1, 2, 3, 4, 100], total [4, 3] (corpusCount 2 cap exCorpus).flatten = 3 := by decide
/-- order 1: the constructor's `<unk>`, `<s>` slots share the first blocks with real unigrams -/
example : corpusCount 1 3 exCorpus =
    [[([0], 0), ([1], 0), ([3], 1)], [([4], 2), ([3], 1), ([2], 1)], [([3], 1), ([4], 1), ([2], 1)], []] := by decide
/-- a writer that forgot to clear the table at the boundary, or carried `N-2` words, would differ here:
the model is not insensitive to its own details -/
example : corpusCount 3 2 [[3, 4, 5]] =
    [[([3, 1, 1], 1), ([4, 3, 1], 1)], [([5, 4, 3], 1), ([2, 5, 4], 1)], []] := by decide

/-! ## The whole tool: composition with C16 / C17 / C20 -/

/-- **The output is a function of (corpus, modelling options) only.**  Hypotheses (visible, not
proved here; each is the statement of another property's theorem):

* `h_vocab` — C20 `vocab_ids_indep`: the ids `GrowableVocab` assigns are those of the order of first
  occurrence (`ids`), for every initial table size / doubling history;
* `h_ids` — `corpus_count.cc:247`: special ids never reach `Append`;
* `h_sort` — C16 `extSort_canon` with `counting_suffix` (`sort_hyp_discharged`): for every plan (block size, buffer sizes, number of
  passes, lazy memory, temp dir) and schedule the external sort with `CombineCounts` returns the
  sorted permutation of all records, equal n-grams combined;
* `h_chain` — C17 `chain_ring` (`chain_stream_deterministic`; and C16 again for the context/suffix sorts between the
  later stages): for every schedule and every chain geometry the stream seen by the last stage is the
  composition of the stage functions, which C05 models as `estimateFrom`; `render` is the printer.

Conclusion: the tool equals the configuration-free `lmplzSpec`. -/
theorem lmplz_eq_spec {Mem Sched Text Out : Type} (I : Impl Mem Sched Text Out)
    (render : Except Err Model → Out) (ids : Text → List (List Word)) (opts : Opts) (hN : 1 ≤ opts.cfg.order)
    (text : Text)
    (h_vocab : ∀ m, I.encode m text = ids text)
    (h_ids : ∀ s ∈ ids text, ∀ w ∈ s, isSpecial w = false)
    (h_sort : ∀ m s blocks, I.sortCombine m s blocks = combineSorted (blocks.flatten.mergeSort gramLe))
    (h_chain : ∀ m s full, I.post m s opts full = render (estimateFrom opts.cfg opts.pruneVocab opts.fallback full))
    (m : Mem) (s : Sched) :
    lmplzOut I m s opts text = lmplzSpec render ids opts text := by
  rw [lmplzOut_eq_post I ids opts hN text h_vocab h_ids (fun m s => h_sort m s _), h_chain]
  rfl

/-- **C07**: any two memory configurations and any two schedules give the same output. -/
theorem lmplz_indep {Mem Sched Text Out : Type} (I : Impl Mem Sched Text Out)
    (render : Except Err Model → Out) (ids : Text → List (List Word)) (opts : Opts) (hN : 1 ≤ opts.cfg.order)
    (text : Text)
    (h_vocab : ∀ m, I.encode m text = ids text)
    (h_ids : ∀ s ∈ ids text, ∀ w ∈ s, isSpecial w = false)
    (h_sort : ∀ m s blocks, I.sortCombine m s blocks = combineSorted (blocks.flatten.mergeSort gramLe))
    (h_chain : ∀ m s full, I.post m s opts full = render (estimateFrom opts.cfg opts.pruneVocab opts.fallback full))
    (m₁ m₂ : Mem) (s₁ s₂ : Sched) :
    lmplzOut I m₁ s₁ opts text = lmplzOut I m₂ s₂ opts text :=
  have h := lmplz_eq_spec I render ids opts hN text h_vocab h_ids h_sort h_chain
  (h m₁ s₁).trans (h m₂ s₂).symm

/-! ### non-vacuity: an implementation satisfying all four hypotheses whose chain blocks differ -/

/-- `Mem` = block capacity, one schedule, text = id sequences; sort and later stages are the
functions themselves -/
def exImpl : Impl Nat Unit (List (List Word)) (Except Err Model) where
  cap := fun m => m
  encode := fun _ t => t
  sortCombine := fun _ _ blocks => combineSorted (blocks.flatten.mergeSort gramLe)
  post := fun _ _ o full => estimateFrom o.cfg o.pruneVocab o.fallback full

def exOpts : Opts := { cfg := { order := 2, thr := fun _ => 0, excl := fun _ => false }, pruneVocab := false,
                       fallback := some ⟨1/2, 1, 3/2⟩ }

example : lmplzOut exImpl 1 () exOpts exCorpus = lmplzOut exImpl 100 () exOpts exCorpus :=
  lmplz_indep exImpl id (fun t => t) exOpts (by decide) exCorpus (fun _ => rfl) (by decide)
    (fun _ _ _ => rfl) (fun _ _ _ => rfl) 1 100 () ()

/-! ## The hypotheses of `lmplz_indep` from C20 / C16 / C17

Lemmas in `Proofs/KNC07Discharge.lean`; `toRec`, `toBlocks` translate KN records
(reversed n-gram, count) into the records of C16's sort model (key in natural word order, payload).
The block of hypotheses `hx … hmax`, `h_sortImpl` that recurs below is `GrowableImpl`, where each is explained. -/

section discharged
open KV.Vocab KV.Chain
variable {W : Type} [DecidableEq W]

/-- **`lmplz_indep` for an encoder that is `GrowableVocab`**: `h_vocab` is C20's `vocab_ids_indep` (the ids are those of the
order of first occurrence for every initial table size / doubling history), `h_ids` holds of that specification.
Vocabulary hypotheses: `h_enc` (the encoder *is* `GrowableVocab` over the tokenised text, initial size `xOf m`), `hx`, `hsp`,
`hinj`/`hnz` (the 64-bit hash is injective and non-zero on the words that occur), `hmax` (fewer than 2^32-1 types). -/
theorem lmplz_indep_vocab {Mem Sched Out : Type}
    (I : Impl Mem Sched (List (List W)) Out) (render : Except Err Model → Out) (opts : Opts)
    (hN : 1 ≤ opts.cfg.order) (text : List (List W))
    (hash : W → Nat) (unk bos eos : W) (unkCapHash : Nat) (xOf : Mem → Nat)
    (hx : ∀ m, 1 ≤ xOf m ∧ xOf m ≤ 2^63)
    (h_enc : ∀ m t, I.encode m t = growableIds hash unk bos eos unkCapHash (xOf m) t)
    (hsp : unk ≠ bos ∧ unk ≠ eos ∧ bos ≠ eos)
    (hinj : InjOn hash ([unk, bos, eos] ++ text.flatten))
    (hnz : ∀ w, w ∈ [unk, bos, eos] ++ text.flatten → hash w ≠ 0)
    (hmax : (specEncode unk bos eos text).2 < kWordIndexMax)
    (h_sort : ∀ m s blocks, I.sortCombine m s blocks = combineSorted (blocks.flatten.mergeSort gramLe))
    (h_chain : ∀ m s full, I.post m s opts full = render (estimateFrom opts.cfg opts.pruneVocab opts.fallback full))
    (m₁ m₂ : Mem) (s₁ s₂ : Sched) :
    lmplzOut I m₁ s₁ opts text = lmplzOut I m₂ s₂ opts text :=
  lmplz_indep I render (firstOccurrenceIds unk bos eos) opts hN text
    (fun m => (h_enc m text).trans (vocab_ids_indep hash unk bos eos unkCapHash xOf hx text hsp hinj hnz hmax m))
    (firstOccurrenceIds_not_special unk bos eos text) h_sort h_chain m₁ m₂ s₁ s₂

/-- **`h_sort` as a theorem of C16** (`extSort_canon` + `Canon.unique` with `counting_suffix`, cited in their forms
`extSortOut_canon`, `counting_suffixLt` of Proofs/SortCanon.lean): for
duplicate-free chain blocks, every external sort with `CombineCounts` under `SuffixOrder` — every
tie-break policy, every merge plan (any number of passes, any grouping, lazy or not), any number of
blocks including none and one (`ReadSingle`) — returns the sorted, combined table of all records. -/
theorem sort_hyp_discharged (blocks : List (List Count.Rec)) (hnd : ∀ b ∈ blocks, (b.map (·.1)).Nodup)
    (pick : KV.Sort.Pick KV.Sort.Rec) (plan : List (List Nat)) :
    KV.Sort.extSort KV.Sort.suffixLt KV.Sort.combineCounts pick (toBlocks blocks) plan =
      some ((combineSorted (blocks.flatten.mergeSort gramLe)).map toRec) :=
  extSort_combineSorted blocks hnd pick plan

/-- … in particular the plan the code computes (`Sort::Merge`, `MergingReader::Run`,
`OwningMergingReader`) for every accepted `(entry_size, buffer_size, total_memory)` and every lazy
memory: it completes (C16 `codeSort_ok`) and returns that table (C16 `codeSort_refines`). -/
theorem sort_hyp_discharged_code {entrySize bufferSize totalMemory : Nat} {cfg : KV.Sort.Cfg}
    (hcfg : KV.Sort.mkCfg entrySize bufferSize totalMemory = .ok cfg)
    (blocks : List (List Count.Rec)) (hnd : ∀ b ∈ blocks, (b.map (·.1)).Nodup)
    (pick : KV.Sort.Pick KV.Sort.Rec) (lazyMem : Nat) :
    ∃ p ret, KV.Sort.codeSort KV.Sort.suffixLt KV.Sort.combineCounts pick cfg lazyMem (toBlocks blocks) =
      .ok ((combineSorted (blocks.flatten.mergeSort gramLe)).map toRec, p, ret) := by
  obtain ⟨out, p, ret, ho⟩ := KV.C16.codeSort_ok hcfg KV.Sort.suffixLt KV.Sort.combineCounts pick lazyMem (toBlocks blocks)
  obtain ⟨plan, _, hp⟩ := KV.C16.codeSort_refines _ _ pick cfg lazyMem (toBlocks blocks) out p ret ho
  rw [sort_hyp_discharged blocks hnd pick plan] at hp
  exact ⟨p, ret, by rw [ho, ← Option.some.inj hp]⟩

/-- every block that leaves CorpusCount is duplicate-free (order 1: for a corpus without the ids of
`<unk>`, `<s>`, which `RunWithVocab` skips) -/
theorem count_blocks_nodup {N : Nat} (hN : 1 ≤ N) (cap : Nat) (corpus : List (List Word))
    (hw : ∀ s ∈ corpus, ∀ w ∈ s, 2 ≤ w) : ∀ d ∈ corpusCount N cap corpus, (d.map (·.1)).Nodup :=
  blocks_nodup hN cap corpus fun _ => hw

/-- **C17 `chain_ring`, read at the end of a run**: for every number of blocks
`b ≥ 1`, every chain length, every data and every schedule (`Reach` = any finite interleaving of the
threads), once `Chain::Wait` has returned, stage `k+1` has received exactly the source's blocks, in
order, each exactly once, each transformed by the composition of the stage functions before it, followed
by one poison.  Block boundaries and interleavings are not observable by a stage.  (`KV.Chain.RInv.pipeline_out`,
the content of C17's `chain_stream_transducer`, for the workers of `Chain.init`, which keep no state.) -/
theorem chain_stream_deterministic {b m : Nat} {data : List Nat} {c : Chain} (hb : 0 < b) (hm : 1 ≤ m)
    (hr : Chain.Reach (Chain.init b m data) c) (hfin : c.main = .finished) :
    ∀ k, k + 1 ≤ m → (c.st (k + 1)).inp = (data.map (seenAt k)).map Item.val ++ [Item.poison] := by
  intro k hk
  rw [Chain.init_eq_initT] at hr
  obtain ⟨hout, hinp⟩ := (@rinv_reach xformT.toStageFn b m data c hb hm hr).pipeline_out xformT hfin k hk
  rw [hinp, hout, xformT_pipeline]

/-- **`lmplz_eq_spec` for an implementation whose vocabulary is C20's `GrowableVocab` and whose first sort is a run of C16's
`extSort`**: the hypotheses `hx … h_sortImpl` are the fields of `GrowableImpl`, where each is explained; by
`sort_hyp_discharged_code` the plan computed by `Sort::Merge` for any accepted configuration is one of the plans `h_sortImpl`
allows.  Assumed — `h_chainImpl`: "everything after the first sort (AdjustCounts, InitialProbabilities, Interpolate, the
context/suffix sorts between them, the printer), run as threads over chains whose block sizes and counts come from the memory
configuration, computes `render (estimateFrom …)`", where `estimateFrom` is C05's stream model and `render` an *arbitrary*
function of the exact model (float32 arithmetic, `log10`, number printing and the ARPA / intermediate writers live in it). -/
theorem lmplz_eq_spec_discharged {Mem Sched Out : Type}
    (I : Impl Mem Sched (List (List W)) Out) (render : Except Err Model → Out) (opts : Opts)
    (hN : 1 ≤ opts.cfg.order) (text : List (List W))
    (hash : W → Nat) (unk bos eos : W) (unkCapHash : Nat) (xOf : Mem → Nat)
    (hx : ∀ m, 1 ≤ xOf m ∧ xOf m ≤ 2^63)
    (h_enc : ∀ m t, I.encode m t = growableIds hash unk bos eos unkCapHash (xOf m) t)
    (hsp : unk ≠ bos ∧ unk ≠ eos ∧ bos ≠ eos)
    (hinj : InjOn hash ([unk, bos, eos] ++ text.flatten))
    (hnz : ∀ w, w ∈ [unk, bos, eos] ++ text.flatten → hash w ≠ 0)
    (hmax : (specEncode unk bos eos text).2 < kWordIndexMax)
    (h_sortImpl : ∀ m s blocks, ∃ pick plan,
      KV.Sort.extSort KV.Sort.suffixLt KV.Sort.combineCounts pick (toBlocks blocks) plan =
        some ((I.sortCombine m s blocks).map toRec))
    (h_chainImpl : ∀ m s full, I.post m s opts full = render (estimateFrom opts.cfg opts.pruneVocab opts.fallback full))
    (m : Mem) (s : Sched) :
    lmplzOut I m s opts text = lmplzSpec render (firstOccurrenceIds unk bos eos) opts text := by
  rw [lmplzOut_growable ⟨hx, h_enc, hsp, hinj, hnz, hmax, h_sortImpl⟩ opts hN,
    h_chainImpl]
  rfl

theorem lmplz_indep_discharged {Mem Sched Out : Type}
    (I : Impl Mem Sched (List (List W)) Out) (render : Except Err Model → Out) (opts : Opts)
    (hN : 1 ≤ opts.cfg.order) (text : List (List W))
    (hash : W → Nat) (unk bos eos : W) (unkCapHash : Nat) (xOf : Mem → Nat)
    (hx : ∀ m, 1 ≤ xOf m ∧ xOf m ≤ 2^63)
    (h_enc : ∀ m t, I.encode m t = growableIds hash unk bos eos unkCapHash (xOf m) t)
    (hsp : unk ≠ bos ∧ unk ≠ eos ∧ bos ≠ eos)
    (hinj : InjOn hash ([unk, bos, eos] ++ text.flatten))
    (hnz : ∀ w, w ∈ [unk, bos, eos] ++ text.flatten → hash w ≠ 0)
    (hmax : (specEncode unk bos eos text).2 < kWordIndexMax)
    (h_sortImpl : ∀ m s blocks, ∃ pick plan,
      KV.Sort.extSort KV.Sort.suffixLt KV.Sort.combineCounts pick (toBlocks blocks) plan =
        some ((I.sortCombine m s blocks).map toRec))
    (h_chainImpl : ∀ m s full, I.post m s opts full = render (estimateFrom opts.cfg opts.pruneVocab opts.fallback full))
    (m₁ m₂ : Mem) (s₁ s₂ : Sched) :
    lmplzOut I m₁ s₁ opts text = lmplzOut I m₂ s₂ opts text :=
  have h := lmplz_eq_spec_discharged I render opts hN text hash unk bos eos unkCapHash xOf hx h_enc hsp hinj hnz hmax
    h_sortImpl h_chainImpl
  (h m₁ s₁).trans (h m₂ s₂).symm

end discharged

open KV.KN.Interp KV.Vocab in
/-- **C07 with the later sorts as parameters.**  Any two memory configurations and any
two schedules give the same output, the later context/suffix sorts being ANY correct sorts chosen per configuration,
schedule and order (`estimateFromWith_eq`: the sorted permutation of records with distinct n-grams is unique).
*Assumed* (each named):
* `h_enc`, `hx` — the encoder is `GrowableVocab` (C20's model `growableIds`) with some initial size;
* `hinj`, `hnz`, `hmax`, `hsp` — the 64-bit Murmur hash is injective and non-zero on the words that
  occur, fewer than 2^32−1 types, the three special strings differ;
* `h_sortImpl` — the sort after CorpusCount is some run of C16's `extSort` model;
* `h_stages` — the threads over the chains compute the composition of the stage functions of
  Model/KN.lean (`estimateFromWith`, with whatever sorters); C17's `chain_ring` gives this for
  stateless per-block stages only (`chain_stream_deterministic`), not for these stream functions;
* `h_sorters` — those later sorts return sorted permutations (what C16 proves of `extSort`/`codeSort`);
* `hk` — special unigrams are never count-pruned (`keep_specials_tree` in C05/C06: true of the tree);
* `render` is an arbitrary function of the exact model: float32 arithmetic, `log10f` and printing live
  there and are deterministic functions of their inputs (not modelled). -/
theorem lmplz_indep_final {W : Type} [DecidableEq W] {Mem Sched Out : Type}
    (I : Impl Mem Sched (List (List W)) Out) (render : Except Err Model → Out) (opts : Opts)
    (hN : 1 ≤ opts.cfg.order) (text : List (List W))
    (hash : W → Nat) (unk bos eos : W) (unkCapHash : Nat) (xOf : Mem → Nat)
    (hx : ∀ m, 1 ≤ xOf m ∧ xOf m ≤ 2^63)
    (h_enc : ∀ m t, I.encode m t = growableIds hash unk bos eos unkCapHash (xOf m) t)
    (hsp : unk ≠ bos ∧ unk ≠ eos ∧ bos ≠ eos)
    (hinj : InjOn hash ([unk, bos, eos] ++ text.flatten))
    (hnz : ∀ w, w ∈ [unk, bos, eos] ++ text.flatten → hash w ≠ 0)
    (hmax : (specEncode unk bos eos text).2 < kWordIndexMax)
    (h_sortImpl : ∀ m s blocks, ∃ pick plan,
      KV.Sort.extSort KV.Sort.suffixLt KV.Sort.combineCounts pick (toBlocks blocks) plan =
        some ((I.sortCombine m s blocks).map toRec))
    (sorters : Mem → Sched → Nat → Sorters)
    (h_stages : ∀ m s full, I.post m s opts full =
      render (estimateFromWith (sorters m s) opts.cfg opts.pruneVocab opts.fallback full))
    (h_sorters : ∀ m s n, SortsOK (sorters m s n))
    (hk : opts.cfg.keepSpecials = true)
    (m₁ m₂ : Mem) (s₁ s₂ : Sched) :
    lmplzOut I m₁ s₁ opts text = lmplzOut I m₂ s₂ opts text := by
  have h := lmplz_eq_spec_sorters I render _ opts hN text (firstOccurrenceIds_not_special unk bos eos text)
    (lmplzOut_growable ⟨hx, h_enc, hsp, hinj, hnz, hmax, h_sortImpl⟩ opts hN)
    sorters h_stages h_sorters hk
  exact (h m₁ s₁).trans (h m₂ s₂).symm

/-! ## The single chains of step 3 as workers of C17's chain

Lemmas in `Proofs/KNC07Stages.lean` (the stages on any block partition) and `Proofs/KNC07Chain.lean` (a stage as a chain
worker); the stages as per-block state transformers in `Model/KNChainStages.lean`. -/

section singlechain
open KV.Vocab KV.Chain KV.KN.ChainStages KV.KN.Blocks KV.KN.Interp
variable {W : Type} [DecidableEq W] {σ β γ : Type}

/-- **A stage on a chain** (C17 `chain_stream_transducer`).  Let the source of a chain produce the
record blocks `blocks` (any partition of its stream) and the worker run the per-block state
transformer `step` from `init`.  For every number `b ≥ 1` of chain blocks, every chain length `m ≥ 2`
and EVERY schedule (`Chain.Reach`: any finite interleaving of source, workers, recycler and the thread
that called `Chain::Start` / `Chain::Wait`): when `Wait` has returned, the worker has handed on exactly
the blocks `runBlocks step init blocks`, in order, each once, then one poison, and the next stage has
received exactly that. -/
theorem chain_stage_stream (cβ : BlockCode β) (cγ : BlockCode γ) (step : Stage σ β γ) (init : σ)
    (blocks : List (List β)) {b m : Nat} {c : Chain} (hb : 0 < b) (hm : 2 ≤ m)
    (hr : Chain.Reach (Chain.initT b m (blocks.map cβ.enc) (liftStage cβ cγ step init).toStageFn.tr) c)
    (hfin : c.main = .finished) :
    (valsOf (c.st 1).out).map cγ.dec = runBlocks step init blocks
    ∧ (c.st 1).out = ((runBlocks step init blocks).map cγ.enc).map Item.val ++ [Item.poison]
    ∧ (c.st 2).inp = (c.st 1).out :=
  stage_on_chain cβ cγ step init blocks hb hm hr hfin

/-- **`MergeRight` ∘ `PruneNGramStream` on an order's primary chain**: for every partition of the
context-sorted stream `es` into blocks, with the sums stream from the adder chain (one entry per context,
in order: `(ctxRuns es).map (addRight d)`) as the initial state, the concatenation of the blocks handed
on is the stage function of `initialOrder` / `initialOrderWith` before the suffix sort. -/
theorem mergeRight_partition (d : Disc) (es : List Emit) (blocks : List (List Emit)) (hb : blocks.flatten = es) :
    (runBlocks (mrBlock d) ⟨(ctxRuns es).map (addRight d), none⟩ blocks).flatten =
      ((ctxRuns es).flatMap (mergeRight d)).filter (·.keep) := by
  rw [(mrBlock_streaming d).flatten, hb]
  exact mrBlock_ctxRuns d es

/-- **the order-1 branch** (as `Model/KN.lean` has it: by the value of the word), over the `copySpecials = true` form of
`PruneNGramStream`: for every partition of the unigram stream, with the single sums entry as the state -/
theorem mergeRightUnigram_partition (iu : Bool) (d : Disc) (es : List Emit) (hne : es ≠ [])
    (huni : ∀ e ∈ es, e.gram.tail = []) (blocks : List (List Emit)) (hb : blocks.flatten = es) :
    (runBlocks (mrUnigramBlock iu d) (addRight d es) blocks).flatten =
      ((ctxRuns es).flatMap (mergeRightUnigram iu d)).filter (·.keep) := by
  rw [(mrUnigramBlock_streaming iu d).flatten, hb]
  exact mrUnigramBlock_ctxRuns iu d es hne huni

/-- **every single chain of the pipeline delivers its stage function's stream**, for every block coding,
number of chain blocks, chain length, upstream block partition and schedule (see `SingleChainsDeliver`) -/
theorem single_chain_stages : SingleChainsDeliver := by
  refine ⟨?_, ?_, ?_, ?_⟩
  · intro cG cO pruning blocks b m c hb hm hr hfin
    rw [(chain_stage_stream cG cO _ () blocks hb hm hr hfin).1, (onlyGammaBlock_streaming pruning).flatten]
    rfl
  · intro cR blocks b m c hb hm hr hfin
    rw [(chain_stage_stream cR cR _ () blocks hb hm hr hfin).1, (collapse_partition bosAt1 blocks).1]
    exact (collapse_partition bosAt1 blocks).2
  · intro cE cU d es blocks hbl b m c hb hm hr hfin
    rw [(chain_stage_stream cE cU _ _ blocks hb hm hr hfin).1, mergeRight_partition d es blocks hbl]
  · intro cE cU iu d es blocks hne huni hbl b m c hb hm hr hfin
    rw [(chain_stage_stream cE cU _ _ blocks hb hm hr hfin).1, mergeRightUnigram_partition iu d es hne huni blocks hbl]

/-- **`lmplz_indep_final` with the single chains as a premise of what is assumed.**  `h_stages` has the form `h_wiring`:
*given* that every single chain delivers its stage function's stream (`SingleChainsDeliver`, a theorem:
`single_chain_stages`), the part of the tool after the first sort computes `render (estimateFromWith (sorters m s) …)`.
Since its premise is a theorem, `h_wiring` is logically `h_stages`; its form records what a proof of it may use.  What it
has to supply is the plumbing BETWEEN chains: the list at `lmplz_indep_final4`, and what the further premises there state
(the adder fan-in into `MergeRight`, the discounts barrier, `SortAndReadTwice` and step 3 of one order ≥ 2).
The other hypotheses are those of `lmplz_indep_final`. -/
theorem lmplz_indep_final2 {Mem Sched Out : Type}
    (I : Impl Mem Sched (List (List W)) Out) (render : Except Err Model → Out) (opts : Opts)
    (hN : 1 ≤ opts.cfg.order) (text : List (List W))
    (hash : W → Nat) (unk bos eos : W) (unkCapHash : Nat) (xOf : Mem → Nat)
    (hx : ∀ m, 1 ≤ xOf m ∧ xOf m ≤ 2^63)
    (h_enc : ∀ m t, I.encode m t = growableIds hash unk bos eos unkCapHash (xOf m) t)
    (hsp : unk ≠ bos ∧ unk ≠ eos ∧ bos ≠ eos)
    (hinj : InjOn hash ([unk, bos, eos] ++ text.flatten))
    (hnz : ∀ w, w ∈ [unk, bos, eos] ++ text.flatten → hash w ≠ 0)
    (hmax : (specEncode unk bos eos text).2 < kWordIndexMax)
    (h_sortImpl : ∀ m s blocks, ∃ pick plan,
      KV.Sort.extSort KV.Sort.suffixLt KV.Sort.combineCounts pick (toBlocks blocks) plan =
        some ((I.sortCombine m s blocks).map toRec))
    (sorters : Mem → Sched → Nat → Sorters)
    (h_wiring : SingleChainsDeliver → ∀ m s full, I.post m s opts full =
      render (estimateFromWith (sorters m s) opts.cfg opts.pruneVocab opts.fallback full))
    (h_sorters : ∀ m s n, SortsOK (sorters m s n))
    (hk : opts.cfg.keepSpecials = true)
    (m₁ m₂ : Mem) (s₁ s₂ : Sched) :
    lmplzOut I m₁ s₁ opts text = lmplzOut I m₂ s₂ opts text :=
  lmplz_indep_final I render opts hN text hash unk bos eos unkCapHash xOf hx h_enc hsp hinj hnz hmax h_sortImpl sorters
    (h_wiring single_chain_stages) h_sorters hk m₁ m₂ s₁ s₂

end singlechain

/-! ## Two chains at once: the adder-chain fan-in into `MergeRight`; the discounts barrier

The `Prop`s `FaninDelivers`, `BarrierIndep` in `Proofs/KNC07Fanin.lean`; `AddRight` as a stateful reader in
`Model/KNChainAdder.lean`. -/

section fanin
open KV.Vocab KV.Chain KV.KN.ChainStages KV.KN.Blocks KV.KN.Interp
variable {W : Type} [DecidableEq W] {τ : Type}

/-- **`AddRight` as a stream function**: reading the context-sorted stream `es` in ANY input blocks, it
writes exactly one entry per context, in order: `(ctxRuns es).map (addRight d)` — the sums stream that
`mergeRight_partition` assumes in `MergeRight`'s initial state. -/
theorem addRight_stream (d : Disc) (es : List Emit) (inBlocks : List (List Emit)) (hb : inBlocks.flatten = es) :
    addRightStream d inBlocks = (ctxRuns es).map (addRight d) := by
  rw [addRightStream_eq, hb]

/-- **incremental reading = reading the final stream.**  In every reachable state of a chain (any
transducers, any `b`, `m`, data, schedule): (1) what stage `i+1` has received is a prefix of what stage
`i` has produced (the rest is in the queue between them), and (2) what worker `i` has produced so far is
its transducer's output on what it has received so far — a prefix of its output on any longer input.
So a consumer that reads a position block by block while the chain runs sees prefixes of the stream that
`chain_stage_stream` describes at the end. -/
theorem adder_prefix_monotone {τ : Type} (T : Transducers τ) {b m : Nat} {data : List Nat} {c : Chain}
    (hb : 0 < b) (hm : 1 ≤ m) (hr : Chain.Reach (Chain.initT b m data T.toStageFn.tr) c) :
    (∀ i, i < m → ∃ rest, (c.st i).out = (c.st (i + 1)).inp ++ rest)
    ∧ (∀ i, 1 ≤ i → i < m → ∀ more : List Nat,
        ∃ rest, T.run i (T.init i) (valsOf (c.st i).inp ++ more) = valsOf ((c.st i).out ++ pend (c.st i)) ++ rest) := by
  let _ := T.toStageFn
  have h : RInv b m data c := rinv_reach hb hm hr
  refine ⟨fun i hi => ⟨c.q (i + 1), h.q i hi⟩, fun i h1 h2 more => ?_⟩
  rw [h.transducer_out T h1 h2, Transducers.run_append]
  exact ⟨_, rfl⟩

/-- **the adder chain's fan-in**: `AddRight` (source) has read `es` in any input blocks and written its
entries in any output blocks `sumBlocks`; whatever runs at the later positions of the chain (`TA`:
`MergeRight`'s pass-through reader at position 1, `OnlyGamma` behind it), for every number of chain
blocks and EVERY schedule: once the chain has finished, position 1 — where `MergeRight` reads
(`gamma_out[i].Add()`, before `OnlyGamma`) — has received exactly `(ctxRuns es).map (addRight d)`,
one entry per context, in order, each once. -/
theorem adder_fanin_delivers {τ : Type} (TA : Transducers τ) (cG : BlockCode Gam) (d : Disc) (es : List Emit)
    (inBlocks : List (List Emit)) (hin : inBlocks.flatten = es)
    (sumBlocks : List (List Gam)) (hsum : sumBlocks.flatten = addRightStream d inBlocks)
    {b m : Nat} {cA : Chain} (hb : 0 < b) (hm : 1 ≤ m)
    (hr : Chain.Reach (Chain.initT b m (sumBlocks.map cG.enc) TA.toStageFn.tr) cA) (hfin : cA.main = .finished) :
    ((valsOf (cA.st 1).inp).map cG.dec).flatten = (ctxRuns es).map (addRight d) := by
  rw [source_delivers TA cG sumBlocks hb hm hr hfin, hsum, addRight_stream d es inBlocks hin]

/-- **`MergeRight` over (adder chain, primary chain)** as a product of two C17 chains under independent
schedules (a schedule of the pair is a pair of schedules): chain A as in `adder_fanin_delivers`; chain B
carries the first copy of `es` in any blocks `blocksB` and its worker runs `MergeRight` over
`PruneNGramStream`, taking its sums entries from what position 1 of chain A delivers.  For all block
partitions on both chains, all numbers of chain blocks and all pairs of schedules, once both chains have
finished the concatenation of what `MergeRight` hands on is the stage function of `Model/KN.lean`.

Abstraction (stated, not hidden): `MergeRight`'s blocking reads on chain A (`++summed`, one per new
context, interleaved with its own blocks) are folded into "the stream chain A delivers to position 1",
which is the worker's initial state here; `adder_prefix_monotone` is the justification (what has been
delivered at any moment is a prefix of that stream, so reading it incrementally reads the same entries).
That `MergeRight` never needs more entries than arrive (no deadlock between the two chains) is C17's
liveness for each chain separately plus `(ctxRuns es).length` entries being produced; it is not restated
here. -/
theorem mergeRight_two_chains {τ : Type} (TA : Transducers τ) (cG : BlockCode Gam) (cE : BlockCode Emit)
    (cU : BlockCode Uninterp) (d : Disc) (es : List Emit)
    (inBlocksA : List (List Emit)) (hinA : inBlocksA.flatten = es)
    (sumBlocks : List (List Gam)) (hsum : sumBlocks.flatten = addRightStream d inBlocksA)
    (blocksB : List (List Emit)) (hB : blocksB.flatten = es)
    {bA mA bB mB : Nat} {cA cB : Chain} (hbA : 0 < bA) (hmA : 1 ≤ mA) (hbB : 0 < bB) (hmB : 2 ≤ mB)
    (hrA : Chain.Reach (Chain.initT bA mA (sumBlocks.map cG.enc) TA.toStageFn.tr) cA) (hfinA : cA.main = .finished)
    (hrB : Chain.Reach (Chain.initT bB mB (blocksB.map cE.enc)
      (liftStage cE cU (mrBlock d) ⟨((valsOf (cA.st 1).inp).map cG.dec).flatten, none⟩).toStageFn.tr) cB)
    (hfinB : cB.main = .finished) :
    ((valsOf (cB.st 1).out).map cU.dec).flatten = ((ctxRuns es).flatMap (mergeRight d)).filter (·.keep) := by
  rw [adder_fanin_delivers TA cG d es inBlocksA hinA sumBlocks hsum hbA hmA hrA hfinA] at hrB
  rw [(chain_stage_stream cE cU _ _ blocksB hbB hmB hrB hfinB).1, mergeRight_partition d es blocksB hB]

/-- the statistics of an order depend only on the multiset of its records -/
theorem countsOfCounts_perm {es₁ es₂ : List Emit} (h : es₁.Perm es₂) : countsOfCounts es₁ = countsOfCounts es₂ := by
  rw [countsOfCounts_eq_stats, countsOfCounts_eq_stats]
  unfold KV.KN.Spec.stats
  simp only [h.countP_eq, h.length_eq]

/-- **the barrier after step 2**: the discounts (and the error class, if Chen–Goodman fails without a
fallback) computed from the per-order statistics are the same for per-order streams that are
permutations of each other — so the hand-over needs only that step 2 has finished on all `N` chains;
the order in which records (or chains) arrived, block boundaries and the interleaving of the `stats.Add`
calls of different orders are not observable. -/
theorem discounts_barrier_indep (fallback : Option Disc) {s₁ s₂ : List (List Emit)}
    (h : List.Forall₂ List.Perm s₁ s₂) :
    discounts fallback (s₁.map countsOfCounts) = discounts fallback (s₂.map countsOfCounts) := by
  rw [map_congr_forall₂ (f := countsOfCounts) (fun _ _ => countsOfCounts_perm) h]

theorem fanin_delivers : FaninDelivers := by
  intro TA cG cE cU d es inA hinA sums hsum bB' hB bA mA bB mB cA cB hbA hmA hbB hmB hrA hfinA
  exact ⟨adder_fanin_delivers TA cG d es inA hinA sums hsum hbA hmA hrA hfinA,
    fun hrB hfinB => mergeRight_two_chains TA cG cE cU d es inA hinA sums hsum bB' hB hbA hmA hbB hmB hrA hfinA hrB hfinB⟩

theorem barrier_indep : BarrierIndep := fun fb _ _ h => discounts_barrier_indep fb h

/-- **`lmplz_indep_final2` with the fan-in and the barrier among the premises.**  The premises of `h_wiring` are the single
chains, the adder fan-in (`FaninDelivers`: `AddRight` over any input blocks, the adder chain delivering to `MergeRight`'s
reader under every schedule, `MergeRight` over the pair of chains) and the discounts barrier (`BarrierIndep`) — theorems all
three (`single_chain_stages`, `fanin_delivers`, `barrier_indep`).  What a proof of `h_wiring` has to supply: the list at
`lmplz_indep_final4`, and what `Step3Delivers` states. -/
theorem lmplz_indep_final3 {Mem Sched Out : Type}
    (I : Impl Mem Sched (List (List W)) Out) (render : Except Err Model → Out) (opts : Opts)
    (hN : 1 ≤ opts.cfg.order) (text : List (List W))
    (hash : W → Nat) (unk bos eos : W) (unkCapHash : Nat) (xOf : Mem → Nat)
    (hx : ∀ m, 1 ≤ xOf m ∧ xOf m ≤ 2^63)
    (h_enc : ∀ m t, I.encode m t = growableIds hash unk bos eos unkCapHash (xOf m) t)
    (hsp : unk ≠ bos ∧ unk ≠ eos ∧ bos ≠ eos)
    (hinj : InjOn hash ([unk, bos, eos] ++ text.flatten))
    (hnz : ∀ w, w ∈ [unk, bos, eos] ++ text.flatten → hash w ≠ 0)
    (hmax : (specEncode unk bos eos text).2 < kWordIndexMax)
    (h_sortImpl : ∀ m s blocks, ∃ pick plan,
      KV.Sort.extSort KV.Sort.suffixLt KV.Sort.combineCounts pick (toBlocks blocks) plan =
        some ((I.sortCombine m s blocks).map toRec))
    (sorters : Mem → Sched → Nat → Sorters)
    (h_wiring : SingleChainsDeliver → FaninDelivers → BarrierIndep → ∀ m s full, I.post m s opts full =
      render (estimateFromWith (sorters m s) opts.cfg opts.pruneVocab opts.fallback full))
    (h_sorters : ∀ m s n, SortsOK (sorters m s n))
    (hk : opts.cfg.keepSpecials = true)
    (m₁ m₂ : Mem) (s₁ s₂ : Sched) :
    lmplzOut I m₁ s₁ opts text = lmplzOut I m₂ s₂ opts text :=
  lmplz_indep_final I render opts hN text hash unk bos eos unkCapHash xOf hx h_enc hsp hinj hnz hmax h_sortImpl sorters
    (h_wiring single_chain_stages fanin_delivers barrier_indep) h_sorters hk m₁ m₂ s₁ s₂

end fanin

/-! ## Three chains at once: `SortAndReadTwice` and step 3 of one order -/

section readtwice
open KV.Vocab KV.Chain KV.KN.ChainStages KV.KN.Blocks KV.KN.Interp
variable {W : Type} [DecidableEq W]

/-- **`SortAndReadTwice`: both readers receive the sorted stream.**  The context sort of an order (any
correct sort `S`, C16: `extSort_sorted` + `extSort_perm` / `codeSort_sorted_perm`; what is read back from
the spill file is what was written: C16 `spill_roundtrip`) has produced `S.ctx es'` from the records in
any arrival order `es'` (a permutation of the order's stream `es`, distinct non-empty n-grams).  The file
is read twice, into two chains, in two arbitrary block partitions, under two arbitrary schedules, with
arbitrary workers behind the sources.  Once both chains have finished, the record streams at the two
reader positions are equal to each other and to `es.mergeSort ctxLe`. -/
theorem sort_read_twice_same {τ₁ τ₂ : Type} (T₁ : Transducers τ₁) (T₂ : Transducers τ₂) (cE : BlockCode Emit)
    {S : Sorters} (hS : SortsOK S) {es es' : List Emit} (hperm : es'.Perm es)
    (hnd : (es.map (·.gram)).Nodup) (hne : ∀ e ∈ es, e.gram ≠ [])
    (blocks₁ blocks₂ : List (List Emit)) (h₁ : blocks₁.flatten = S.ctx es') (h₂ : blocks₂.flatten = S.ctx es')
    {b₁ m₁ b₂ m₂ : Nat} {c₁ c₂ : Chain} (hb₁ : 0 < b₁) (hm₁ : 1 ≤ m₁) (hb₂ : 0 < b₂) (hm₂ : 1 ≤ m₂)
    (hr₁ : Chain.Reach (Chain.initT b₁ m₁ (blocks₁.map cE.enc) T₁.toStageFn.tr) c₁) (hfin₁ : c₁.main = .finished)
    (hr₂ : Chain.Reach (Chain.initT b₂ m₂ (blocks₂.map cE.enc) T₂.toStageFn.tr) c₂) (hfin₂ : c₂.main = .finished) :
    ((valsOf (c₁.st 1).inp).map cE.dec).flatten = ((valsOf (c₂.st 1).inp).map cE.dec).flatten
    ∧ ((valsOf (c₁.st 1).inp).map cE.dec).flatten = es.mergeSort ctxLe := by
  rw [source_delivers T₁ cE blocks₁ hb₁ hm₁ hr₁ hfin₁, source_delivers T₂ cE blocks₂ hb₂ hm₂ hr₂ hfin₂, h₁, h₂]
  exact ⟨rfl, ctx_sort_perm_eq hS hperm hnd hne⟩

/-- **step 3 of one order ≥ 2 over its three chains.**  The adjusted stream `es` of the order arrives at the context sort in
any order `es'`; the sorted file is read into the `second` chain (`AddRight` reads at its position 1) and into the primary
chain; `AddRight` is the source of the adder chain; `MergeRight` over `PruneNGramStream` is the worker of the primary chain
and takes its sums from position 1 of the adder chain.  For every correct sort, all block partitions, numbers of chain blocks
and triples of schedules: once the chains have finished, the concatenation of what `MergeRight` hands on is the stage
function of `Model/KN.lean` on the sorted stream.  (Same abstraction as `mergeRight_two_chains`.) -/
theorem step3_order_delivers {τ₂ τA : Type} (T₂ : Transducers τ₂) (TA : Transducers τA)
    (cE : BlockCode Emit) (cG : BlockCode Gam) (cU : BlockCode Uninterp) (d : Disc)
    {S : Sorters} (hS : SortsOK S) {es es' : List Emit} (hperm : es'.Perm es)
    (hnd : (es.map (·.gram)).Nodup) (hne : ∀ e ∈ es, e.gram ≠ [])
    (blocks₂ blocksB : List (List Emit)) (h₂ : blocks₂.flatten = S.ctx es') (hB : blocksB.flatten = S.ctx es')
    {b₂ m₂ bA mA bB mB : Nat} {c₂ cA cB : Chain}
    (hb₂ : 0 < b₂) (hm₂ : 1 ≤ m₂) (hbA : 0 < bA) (hmA : 1 ≤ mA) (hbB : 0 < bB) (hmB : 2 ≤ mB)
    (hr₂ : Chain.Reach (Chain.initT b₂ m₂ (blocks₂.map cE.enc) T₂.toStageFn.tr) c₂) (hfin₂ : c₂.main = .finished)
    (sumBlocks : List (List Gam))
    (hsum : sumBlocks.flatten = addRightStream d ((valsOf (c₂.st 1).inp).map cE.dec))
    (hrA : Chain.Reach (Chain.initT bA mA (sumBlocks.map cG.enc) TA.toStageFn.tr) cA) (hfinA : cA.main = .finished)
    (hrB : Chain.Reach (Chain.initT bB mB (blocksB.map cE.enc)
      (liftStage cE cU (mrBlock d) ⟨((valsOf (cA.st 1).inp).map cG.dec).flatten, none⟩).toStageFn.tr) cB)
    (hfinB : cB.main = .finished) :
    ((valsOf (cB.st 1).out).map cU.dec).flatten =
      ((ctxRuns (es.mergeSort ctxLe)).flatMap (mergeRight d)).filter (·.keep) := by
  have hsorted := ctx_sort_perm_eq hS hperm hnd hne
  have hin : ((valsOf (c₂.st 1).inp).map cE.dec).flatten = es.mergeSort ctxLe := by
    rw [source_delivers T₂ cE blocks₂ hb₂ hm₂ hr₂ hfin₂, h₂, hsorted]
  exact mergeRight_two_chains TA cG cE cU d (es.mergeSort ctxLe) _ hin sumBlocks hsum blocksB
    (by rw [hB, hsorted]) hbA hmA hbB hmB hrA hfinA hrB hfinB

theorem step3_delivers : Step3Delivers := by
  intro T₂ TA cE cG cU d S hS es es' hperm hnd hne blocks₂ blocksB h₂ hB b₂ m₂ bA mA bB mB c₂ cA cB
    hb₂ hm₂ hbA hmA hbB hmB hr₂ hfin₂ sumBlocks hsum hrA hfinA hrB hfinB
  refine ⟨?_, step3_order_delivers T₂ TA cE cG cU d hS hperm hnd hne blocks₂ blocksB h₂ hB
    hb₂ hm₂ hbA hmA hbB hmB hr₂ hfin₂ sumBlocks hsum hrA hfinA hrB hfinB⟩
  rw [source_delivers T₂ cE blocks₂ hb₂ hm₂ hr₂ hfin₂, h₂, ctx_sort_perm_eq hS hperm hnd hne]

/-- **`lmplz_indep_final3` with step 3 of one order among the premises.**  The premises of `h_wiring` also contain
`Step3Delivers` (`SortAndReadTwice`'s two readers receive the same sorted stream; step 3 of an order ≥ 2 over its second /
adder / primary chains computes `initialOrderWith`'s stream before the suffix sort).  All four premises are theorems, so
`h_wiring` is logically `h_stages`; what a proof of it has to supply about the stages after the first sort:
* fan-out in step 2: `AdjustCounts::Run` reads the sorted order-`N` chain and writes the `N` chains of the orders `1 … N` in
  one loop (the stateful multi-output stream function `adjustStream` + `collapse` of Model/KN.lean; C05 `adjust_stream_eq` is
  about the stream function, not the chains); only its `CollapseStream` iterator is a single-chain stage;
* fan-in in step 4: `Interpolate` / `JointOrder` read the `N` suffix-sorted chains in lock step (`joinLower`, `interpOrder`,
  `interpAll`) together with the `N−1` gamma files written by `OnlyGamma` (`takeBackoffsSeq` / `takeBackoffsHash`);
* step 3 of order 1 over its three chains (the single-chain part is `mergeRightUnigram_partition`);
* that `MergeRight`'s blocking reads on the adder chain see the stream that chain delivers (see `mergeRight_two_chains`);
* that the external sorts between the steps are correct sorts is `h_sorters` (C16 proves it of `extSort` / `codeSort`);
  `--renumber` (a stateless per-record id map, not in the model); the printer and all float arithmetic (`render`, an
  arbitrary function of the exact model). -/
theorem lmplz_indep_final4 {Mem Sched Out : Type}
    (I : Impl Mem Sched (List (List W)) Out) (render : Except Err Model → Out) (opts : Opts)
    (hN : 1 ≤ opts.cfg.order) (text : List (List W))
    (hash : W → Nat) (unk bos eos : W) (unkCapHash : Nat) (xOf : Mem → Nat)
    (hx : ∀ m, 1 ≤ xOf m ∧ xOf m ≤ 2^63)
    (h_enc : ∀ m t, I.encode m t = growableIds hash unk bos eos unkCapHash (xOf m) t)
    (hsp : unk ≠ bos ∧ unk ≠ eos ∧ bos ≠ eos)
    (hinj : InjOn hash ([unk, bos, eos] ++ text.flatten))
    (hnz : ∀ w, w ∈ [unk, bos, eos] ++ text.flatten → hash w ≠ 0)
    (hmax : (specEncode unk bos eos text).2 < kWordIndexMax)
    (h_sortImpl : ∀ m s blocks, ∃ pick plan,
      KV.Sort.extSort KV.Sort.suffixLt KV.Sort.combineCounts pick (toBlocks blocks) plan =
        some ((I.sortCombine m s blocks).map toRec))
    (sorters : Mem → Sched → Nat → Sorters)
    (h_wiring : SingleChainsDeliver → FaninDelivers → BarrierIndep → Step3Delivers →
      ∀ m s full, I.post m s opts full =
        render (estimateFromWith (sorters m s) opts.cfg opts.pruneVocab opts.fallback full))
    (h_sorters : ∀ m s n, SortsOK (sorters m s n))
    (hk : opts.cfg.keepSpecials = true)
    (m₁ m₂ : Mem) (s₁ s₂ : Sched) :
    lmplzOut I m₁ s₁ opts text = lmplzOut I m₂ s₂ opts text :=
  lmplz_indep_final I render opts hN text hash unk bos eos unkCapHash xOf hx h_enc hsp hinj hnz hmax h_sortImpl sorters
    (h_wiring single_chain_stages fanin_delivers barrier_indep step3_delivers) h_sorters hk m₁ m₂ s₁ s₂

end readtwice

/-! ## chain block boundaries inside the pipeline: the two compacting iterators -/

open KV.KN.Blocks in
/-- `CollapseStream` compacts every chain block in place; whatever the block boundaries are,
the records that flow on are the same multiset (they are sorted again afterwards) -/
theorem collapse_partition_indep {α : Type} [Inhabited α] (p : α → Bool) (bs₁ bs₂ : List (List α))
    (h : bs₁.flatten = bs₂.flatten) :
    (collapseStream p bs₁).2.Perm (collapseStream p bs₂).2 :=
  (collapseStream_perm p bs₁).trans (h ▸ (collapseStream_perm p bs₂).symm)

open KV.KN.Blocks in
/-- `PruneNGramStream` (`copySpecials = true`) drops the marked records block by block; the output stream does
not depend on the block boundaries -/
theorem prune_partition_indep {β : Type} (f : KV.KN.Emit → β) (bs₁ bs₂ : List (List KV.KN.Emit))
    (h : bs₁.flatten = bs₂.flatten) : pruneStream true f bs₁ = pruneStream true f bs₂ := by
  rw [pruneStream_fixed, pruneStream_fixed, h]


/-! ## `CollapseStream`'s pruning marks -/

open KV.KN.Blocks in
/-- What `Model/KNBlocks.lean` leaves out of `CollapseStream`: with the marking code of the real iterator
(`collapseStreamM`, `Proofs/KNCollapseMarks.lean`: `StartBlock` marks the first slot, `operator++` marks the slot that just received `*copy_from_` and then the new current
slot), the stream that flows downstream is exactly `map mk` of the mark-free model's stream — every record that leaves step 2
carries the mark a function of the record alone, for every cut of the stream into chain blocks. -/
theorem collapse_marks_everywhere {α : Type} (p : α → Bool) (mk : α → α) (hp : ∀ a, p (mk a) = p a) (bs : List (List α)) :
    collapseStreamM p mk true bs = ((collapseStream p bs).2).map mk := by
  unfold collapseStreamM collapseStream
  rw [List.map_flatMap]
  exact congrArg (bs.flatMap ·) (funext (collapseBlockM_eq_map p mk hp))

open KV.KN.Blocks in
theorem collapse_marked_partition_indep {α : Type} [Inhabited α] (p : α → Bool) (mk : α → α) (hp : ∀ a, p (mk a) = p a)
    (bs₁ bs₂ : List (List α)) (h : bs₁.flatten = bs₂.flatten) :
    (collapseStreamM p mk true bs₁).Perm (collapseStreamM p mk true bs₂) := by
  rw [collapse_marks_everywhere p mk hp, collapse_marks_everywhere p mk hp]
  exact (collapse_partition_indep p bs₁ bs₂ h).map mk

/-- records `(hasBos, count, marked)`; mark when `count ≤ 1` -/
def exMk (e : Bool × Nat × Bool) : Bool × Nat × Bool := (e.1, e.2.1, e.2.2 || decide (e.2.1 ≤ 1))

open KV.KN.Blocks in
/-- negation witness (`decide`) for the variant of `operator++` without the marking block after the `memcpy`:
the same stream cut at two places gives different marks (`remark = false`), while the real code (`remark = true`) gives
the same marked stream; `exMk` satisfies the hypothesis of `collapse_marks_everywhere` (the `<s>` flag is untouched). -/
theorem collapse_without_remark_depends_on_blocks :
    -- same stream, two block partitions
    ([[(true, 5, false), (false, 1, false)], [(false, 7, false)]] : List (List (Bool × Nat × Bool))).flatten
      = [[(true, 5, false)], [(false, 1, false), (false, 7, false)]].flatten
    ∧ collapseStreamM (·.1) exMk true [[(true, 5, false), (false, 1, false)], [(false, 7, false)]]
      = [(false, 1, true), (false, 7, false)]
    ∧ collapseStreamM (·.1) exMk true [[(true, 5, false)], [(false, 1, false), (false, 7, false)]]
      = [(false, 1, true), (false, 7, false)]
    ∧ collapseStreamM (·.1) exMk false [[(true, 5, false), (false, 1, false)], [(false, 7, false)]]
      = [(false, 1, false), (false, 7, false)]
    ∧ collapseStreamM (·.1) exMk false [[(true, 5, false)], [(false, 1, false), (false, 7, false)]]
      = [(false, 1, true), (false, 7, false)] := by decide


end KV.C07
