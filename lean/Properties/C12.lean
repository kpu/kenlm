import Proofs.FilterCtlLive
import Proofs.FilterCtlMeasure
import Proofs.FilterCtlFifo
import Proofs.FilterCtlReserve
import Properties.C17
/-!
# C12 — Filter output does not depend on thread count, batch size or scheduling

Model: `Model/FilterCtl.lean` (reader = `Controller` + destructors, `workers` `FilterWorker`s,
one `OutputWorker`, three bounded FIFO queues, recycled batches with `MultipleOutputBuffer`).
`Reach cfg prog s` = `s` is reachable from the initial state by *any* interleaving of the
threads' atomic steps; the theorems quantify over all of them.

Main theorems (for `Variant.fixed`, the code with the two repairs of the controller; the third repair is the `flush`
at the end of `rawProgram`):
* `ctl_output`       every finished run made exactly the calls of the sequential filter on the
                     output object, in the same order (hence every file is byte-identical for
                     every thread count, batch size, queue length and schedule; no n-gram lost,
                     duplicated, reordered or sent to the wrong file), and never evaluated
                     `back()` of an empty vector;
* `ctl_no_deadlock`  every reachable unfinished state has an enabled thread;
* `ctl_terminates`   every step decreases a natural-number measure.  (That every run is therefore finite, and with
                     `ctl_no_deadlock` ends in a finished state, is the usual consequence; it is not stated as a
                     theorem here.)

Section `Old`: the same statements are **false** for the code before the repairs; the
negations are proved with minimal witnesses that `checks/C12.py` replays on the real tool.
-/
namespace KV.C12
open KV.FilterCtl KV.Filter

variable {α : Type}

/-- **Output = sequential filter, for all inputs, configurations and schedules.** -/
theorem ctl_output (cfg : Cfg α) (hv : cfg.variant = Variant.fixed) (hq : 1 ≤ cfg.queue)
    (prog : List (ROp α)) (hp : wf false prog = true)
    (s : State α) (hr : Reach cfg prog s) (hd : Terminal s) :
    s.out = seqLog cfg.f prog ∧ s.ub = false := by
  obtain ⟨c, hc⟩ := reach_inv hv hq hp hr
  exact inv_terminal hc hd

theorem wf_arpaOrders (k : Nat) (orders : List (List α)) : wf false (arpaOrders k orders) = true := by
  induction orders generalizing k with
  | nil => simp [arpaOrders, wf]
  | cons o os ih => simp [arpaOrders, wf, wf_adds_flush, ih]

theorem wf_rawProgram (items : List α) : wf false (rawProgram items) = true :=
  wf_adds_flush false items []

theorem ctl_output_arpa (cfg : Cfg α) (hv : cfg.variant = Variant.fixed) (hq : 1 ≤ cfg.queue)
    (orders : List (List α)) (s : State α) (hr : Reach cfg (arpaProgram orders) s) (hd : Terminal s) (k : Nat) :
    fileLog k s.out = fileLog k (seqLog cfg.f (arpaProgram orders)) :=
  congrArg (fileLog k) (ctl_output cfg hv hq _ (wf_arpaOrders 1 orders) s hr hd).1

/-- raw-count input (with `filter.Flush()` after `ReadCount`) -/
theorem ctl_output_raw (cfg : Cfg α) (hv : cfg.variant = Variant.fixed) (hq : 1 ≤ cfg.queue)
    (items : List α) (s : State α) (hr : Reach cfg (rawProgram items) s) (hd : Terminal s) (k : Nat) :
    fileLog k s.out = fileLog k (seqLog cfg.f (rawProgram items)) :=
  congrArg (fileLog k) (ctl_output cfg hv hq _ (wf_rawProgram items) s hr hd).1

/-- **No reachable unfinished state is stuck.** -/
theorem ctl_no_deadlock (cfg : Cfg α) (hv : cfg.variant = Variant.fixed) (hq : 1 ≤ cfg.queue)
    (hw : 1 ≤ cfg.workers) (prog : List (ROp α)) (hp : wf false prog = true)
    (s : State α) (hr : Reach cfg prog s) : ¬ Deadlocked cfg s := by
  obtain ⟨c, hc⟩ := reach_inv hv hq hp hr
  exact not_deadlocked hq hw hc (reach_shutdown hr)

/-- **Every step makes progress**: `measure` strictly decreases along every step of every
thread (`Step.measure_lt`), for every variant of the code. -/
theorem ctl_terminates (cfg : Cfg α) (s s' : State α) (t : Tid) (hst : step cfg s t = some s') :
    measure cfg s' < measure cfg s :=
  (Step.of_step hst).measure_lt

/-- **`InputBuffer` never reallocates** (`batch_never_exceeds_reserve`): in every reachable state in
which the reader is about to run `AddNGram`, the current batch holds fewer than `batch_size` lines —
so line number `input.length` fits in the `Reserve(batch_size)` made by `Controller`, `lines_` keeps
its storage, and the `StringPiece`s into the (possibly small-buffer) strings stay valid.  Holds for
every variant of the controller (the reservation in thread.hh is what must be ≥ `batch_size`;
seeded/C12-6 lowers it and is caught by the large-batch class of the check). -/
theorem batch_never_exceeds_reserve (cfg : Cfg α) (hb : 1 ≤ cfg.batchSize) (prog : List (ROp α)) (s : State α)
    (hr : Reach cfg prog s) (hrun : s.rpc = .run) (top : Batch α) (lr : List (Batch α)) (hl : s.localRead = top :: lr) :
    top.input.length < cfg.batchSize :=
  curBelow_reach cfg hb prog hr hrun top lr hl

/-! ### the FIFO assumption

`FilterCtl` treats `filter_.in_`, `output_.in_` and `to_read_` as atomic bounded FIFOs.  This is
not an extra axiom: (1) every step of every thread touches each queue by at most one
`KV.Chain.fifoPush cfg.queue` / `KV.Chain.fifoPop` (`ctl_queues_are_fifo`), and (2) property
C17's `KV.C17.pcqueue_refines_fifo` proves that the step-level model of `util::PCQueue` (two
semaphores, two mutexes, ring buffer; every interleaving) refines exactly these two operations,
each linearised between the call and the return of its `Produce` / `Consume`
(`pcqueue_is_fifo` re-exports it so that the dependency is checked by the build).  What remains
assumed is that thread-local work on an exclusively owned batch commutes with other threads. -/

theorem ctl_queues_are_fifo (cfg : Cfg α) (s s' : State α) (t : Tid) (hst : step cfg s t = some s') :
    QueuesFifo cfg s s' :=
  (Step.of_step hst).queues_fifo

/-- C17's refinement theorem, restated for the capacity of the filter's queues: along every
schedule of any producers `ps` / consumers `qs` the linearised operations of the PCQueue
implementation model are a run of the atomic FIFO of capacity `cfg.queue`. -/
theorem pcqueue_is_fifo (cfg : Cfg α) (hq : 0 < cfg.queue) (ps : List (List Nat)) (qs : List Nat)
    (sched : List Nat) (s : KV.PCQueue.State)
    (hrun : KV.PCQueue.runSched (KV.PCQueue.mkInit cfg.queue ps qs) sched = some s) :
    KV.PCQueue.fifoRun cfg.queue [] (KV.PCQueue.events (KV.PCQueue.mkInit cfg.queue ps qs) sched)
      = some (KV.PCQueue.absBuf s) :=
  (KV.C17.pcqueue_refines_fifo (cap := cfg.queue) (ps := ps) (qs := qs) hq).2 sched s hrun

/-! Non-vacuity: a concrete finished run with two workers, reordered completions. -/
section Example
def exF : Nat → Verdict := fun x => if x = 0 then .all else .only [x % 2]
def exCfg : Cfg Nat := ⟨2, 4, 2, Variant.fixed, exF, fun _ => 8⟩
def exProg : List (ROp Nat) := arpaProgram [[1, 2, 3, 0, 5], [6, 7]]
abbrev R := Tid.reader
abbrev O := Tid.outw
abbrev W := Tid.worker
/-- worker 1 finishes the second batch before worker 0 finishes the first -/
def exSched : List Tid :=
  [R, R, R, R, R, W 0, W 1, W 1, O, W 0, O, O, O, R, R, R, R, W 0, W 0, O, O, R, R, R, R, R, R, R, W 0, W 0, O, O,
   R, R, R, R, R, R, R, W 0, W 1, R, R, O, R]

example : (decide (wf false exProg = true) &&
    (match exec exCfg (init exCfg exProg) exSched with
     | some s => decide (s.rpc = .done) && decide (s.out = seqLog exF exProg) && decide (s.out.length = 12)
     | none => false)) = true := by decide +kernel
end Example

/-! ## Old: the code before the repairs (each defect alone) -/
namespace Old

def execP (cfg : Cfg Nat) (s : State Nat) (sched : List Tid) (P : State Nat → Bool) : Bool :=
  match exec cfg s sched with
  | some s' => P s'
  | none => false

theorem exec_reach {cfg : Cfg Nat} {prog : List (ROp Nat)} {s s' : State Nat} (sched : List Tid)
    (hr : Reach cfg prog s) (he : exec cfg s sched = some s') : Reach cfg prog s' := by
  induction sched generalizing s with
  | nil => simp [exec] at he; subst he; exact hr
  | cons t ts ih =>
    simp only [exec] at he
    split at he
    · cases he
    · rename_i s1 h1
      exact ih (Reach.step t hr h1) he

theorem execP_reach {cfg : Cfg Nat} {prog : List (ROp Nat)} {sched : List Tid} {P : State Nat → Bool}
    (h : execP cfg (init cfg prog) sched P = true) : ∃ s, Reach cfg prog s ∧ P s = true := by
  unfold execP at h
  split at h
  · rename_i s' he; exact ⟨s', exec_reach sched Reach.init he, h⟩
  · cases h

def fAll : Nat → Verdict := fun _ => .all

/-- B1 only: `NewInput` takes a fresh sequence number every time -/
def cfgB1 : Cfg Nat := ⟨1, 4, 2, ⟨true, false⟩, fAll, fun _ => 1⟩
/-- two orders with one n-gram each, `threads:2 batch_size:1` -/
def progB1 : List (ROp Nat) := arpaProgram [[1], [2]]
def schedB1 : List Tid := [R, R, R, W 0, W 0, O, O, R, R, R, R, R, R, W 0, W 0, O]

/-- **B1** `ctl_no_deadlock` is false before the repair: `Flush` with an empty current batch
leaves sequence number 1 unused; the output worker waits for it forever while the reader waits
in `Flush` for the batch the output worker holds. -/
theorem not_ctl_no_deadlock :
    ¬ (∀ (prog : List (ROp Nat)), wf false prog = true → ∀ s, Reach cfgB1 prog s → ¬ Deadlocked cfgB1 s) := by
  intro h
  have hw : execP cfgB1 (init cfgB1 progB1) schedB1 (fun s => decide (Deadlocked cfgB1 s)) = true := by decide +kernel
  obtain ⟨s, hr, hs⟩ := execP_reach hw
  exact h progB1 (by decide) s hr (of_decide_eq_true hs)

/-- B2: the repaired `Controller`, but `CountFormat::RunFilter` without `filter.Flush()` -/
def cfgB2 : Cfg Nat := ⟨2, 4, 2, Variant.fixed, fAll, fun _ => 1⟩
def schedB2 : List Tid := [R, R, R, R, W 0, W 1, R, R, O, R]

/-- **B2** one raw line with `batch_size:2`: the run finishes and has written nothing. -/
theorem not_ctl_output_raw :
    ¬ (∀ (items : List Nat) (s : State Nat), Reach cfgB2 (rawProgramOld items) s → Terminal s →
        s.out = seqLog cfgB2.f (rawProgramOld items)) := by
  intro h
  have hw : execP cfgB2 (init cfgB2 (rawProgramOld [1])) schedB2
      (fun s => decide (s.rpc = .done) && decide (s.out = []) && decide (seqLog fAll (rawProgramOld [1]) = [.line none 1])) = true := by
    decide +kernel
  obtain ⟨s, hr, hs⟩ := execP_reach hw
  simp only [Bool.and_eq_true, decide_eq_true_eq] at hs
  have := h [1] s hr hs.1.1
  rw [hs.1.2] at this
  have h2 := hs.2
  simp only [cfgB2] at this
  rw [h2] at this
  cases this

/-- B3 only: `MultipleOutputBuffer::Flush` keeps `last_`.  Lines: 0 = the unigram (context
empty: all files), 1,2 = "a b" (file 1), 3…8 = "b a" (file 0), 9 = "<s> b" (all files),
10 = "a c" (file 1); all of length 8. -/
def f3 : Nat → Verdict := fun x =>
  if x = 0 ∨ x = 9 then .all else if x = 1 ∨ x = 2 ∨ x = 10 then .only [1] else .only [0]
def cfgB3 : Cfg Nat := ⟨2, 4, 2, ⟨false, true⟩, f3, fun _ => 8⟩
def progB3 : List (ROp Nat) := arpaProgram [[0], [1, 2, 3, 4, 5, 6, 7, 8, 9, 10]]
def schedB3 : List Tid :=
  [R, R, R, W 0, W 0, O, O, R, R, R, R, R, R, R, R, R, R, R, R, W 0, W 0, O, O, R, R, R, W 0, W 0, O, O, R, R,
   W 0, W 0, O, O, R, W 0, W 0, O, O, R, W 0, W 0, O, O, R, R, R, R, R, R, R, W 0, W 1, R, R, O, R]

/-- **B3** `ctl_output` is false before the repair, without any undefined behaviour: the
fifth bigram batch reuses the storage of the first; "a c" has the address and length of the
remembered "a b", so its file number is appended to the entry of "<s> b", which is then written
to file 1 only, and "a c" is written nowhere. -/
theorem not_ctl_output_last :
    ¬ (∀ (prog : List (ROp Nat)), wf false prog = true → ∀ s, Reach cfgB3 prog s → Terminal s →
        s.out = seqLog cfgB3.f prog ∧ s.ub = false) := by
  intro h
  have hw : execP cfgB3 (init cfgB3 progB3) schedB3
      (fun s => decide (s.rpc = .done) && !s.ub && decide (s.out ≠ seqLog f3 progB3) &&
        decide (fileLog 0 s.out ≠ fileLog 0 (seqLog f3 progB3)) && decide (fileLog 1 s.out ≠ fileLog 1 (seqLog f3 progB3))) = true := by
    decide +kernel
  obtain ⟨s, hr, hs⟩ := execP_reach hw
  simp only [Bool.and_eq_true, decide_eq_true_eq] at hs
  exact hs.1.1.2 (h progB3 (by decide) s hr hs.1.1.1.1).1

/-- B3 with the undefined behaviour: five equal-length unigrams of one sentence,
`batch_size:1`; the fifth line meets its own stale address in an empty buffer. -/
def cfgB3u : Cfg Nat := ⟨1, 4, 2, ⟨false, true⟩, fun _ => .only [0], fun _ => 8⟩
def schedB3u : List Tid :=
  [R, R, R, R, R, W 0, W 0, O, O, R, R, W 0, W 0, O, O, R, R, W 0, W 0, O, O, R, W 0, W 0, O, O, R, W 0, W 0, O, O,
   R, R, R, R, R, R, R, W 0, W 1, R, R, O, R]

theorem not_ctl_output_last_ub :
    ∃ s, Reach cfgB3u (arpaProgram [[1, 2, 3, 4, 5]]) s ∧ Terminal s ∧ s.ub = true := by
  have hw : execP cfgB3u (init cfgB3u (arpaProgram [[1, 2, 3, 4, 5]])) schedB3u
      (fun s => decide (s.rpc = .done) && s.ub) = true := by decide +kernel
  obtain ⟨s, hr, hs⟩ := execP_reach hw
  simp only [Bool.and_eq_true, decide_eq_true_eq] at hs
  exact ⟨s, hr, hs.1, hs.2⟩

end Old

end KV.C12
