import Proofs.IOFs
import Generated.C09
/-!
# C09 — An interrupted binary build never yields a file that loads as a model

Theorems over the crash model of `Model/IO.lean` (`KV.IO.Fs`), for **every** trace that
satisfies the decidable writer protocol `conforms`, every crash point, every mixture of
unsynced sectors, every truncation length.  The protocol is decided on the *real* trace of
`build_binary` on every run (checks/C09.py); the OS's persistence order is the assumed crash
model, not observed.
-/
namespace KV.C09
open KV.IO KV.IO.Fs

/-- what `conforms` says, as propositions: `hc` the commit event `c` (first event after which the file starts with the complete
`Sanity`), `hH`/`hS`/`hne` the three facts about the format (header within a sector, `Sanity` shorter than the header and not the
prefix of the empty file), `hcommit` the commit is a write inside the header, `hafter` nothing is written after it, and `y` the
earlier full sync (`hy`, `hsync`) of a file already `hlen` header-size long with only header writes up to `c` (`hbetween`).  The
clause `markerOK` of `conforms` (the incomplete marker up to that sync) is not among the fields: no theorem below needs it. -/
structure Protocol (f : Fmt) (t : Trace) (c y : Nat) : Prop where
  hc : commitIdx f t = some c
  hH : f.headerSize ≤ kSector
  hS : f.sanity.size < f.headerSize
  hne : prefixIs Img.empty f.sanity = false
  hlen : f.headerSize ≤ (vol t (y + 1)).len
  hcommit : (t.getD c .close).inHeader f.headerSize = true
  hafter : noWriteBetween t c t.length = true
  hy : y < c
  hsync : (t.getD y .close).fullSync (vol t (y + 1)).len = true
  hbetween : onlyHeaderBetween t y c f.headerSize = true

theorem conforms_unpack (f : Fmt) (t : Trace) (h : conforms f t = true) : ∃ c y, Protocol f t c y := by
  unfold conforms at h
  cases hc : commitIdx f t with
  | none => rw [hc] at h; cases h
  | some c =>
    rw [hc] at h
    simp only [Bool.and_eq_true, decide_eq_true_eq, List.any_eq_true, List.mem_range, Bool.not_eq_true'] at h
    obtain ⟨⟨⟨⟨⟨hH, hS⟩, hne⟩, hcm⟩, haf⟩, ⟨y, hy, ⟨⟨hsy, hlen⟩, hbt⟩, _⟩⟩ := h
    refine ⟨c, y, ⟨hc, hH, hS, hne, hlen, ?_, haf, hy, hsy, hbt⟩⟩
    generalize t.getD c .close = e at hcm
    cases e <;> first | exact hcm | cases hcm

section
variable {f : Fmt} {t : Trace} {c y : Nat} (P : Protocol f t c y)
include P

theorem Protocol.c_lt : c < t.length := (firstIdx_spec _ _ _ P.hc).1

theorem Protocol.committed : prefixIs (vol t (c + 1)) f.sanity = true := (firstIdx_spec _ _ _ P.hc).2.1

theorem Protocol.not_before : ∀ j, j ≤ c → prefixIs (vol t j) f.sanity = false := by
  intro j hj
  cases j with
  | zero => exact P.hne
  | succ j => exact (firstIdx_spec _ _ _ P.hc).2.2 j hj

/-- after the commit event the volatile image is the final image -/
theorem Protocol.after_commit : ∀ k, c + 1 ≤ k → vol t k = final t :=
  vol_eq_final t (c + 1) P.c_lt fun j e h1 h2 he => noWriteBetween_spec t c t.length P.hafter j e h1 h2 he

/-- from the full sync on, the length is final and every byte outside the header is final -/
theorem Protocol.after_sync : ∀ k, y + 1 ≤ k →
    (vol t k).len = (final t).len ∧ ∀ i, f.headerSize ≤ i → (vol t k).get i = (final t).get i := by
  -- every event in [y+1, length) is a header write before the commit, the commit event, or a non-write after it
  refine vol_header_final t (y + 1) f.headerSize P.hlen (Nat.le_trans P.hy (Nat.le_of_lt P.c_lt)) fun j e h1 h2 he => ?_
  rcases Nat.lt_trichotomy j c with hlt | rfl | hgt
  · exact onlyHeaderBetween_spec t y c _ P.hbetween j e h1 hlt he
  · exact getD_of_getElem? _ he ▸ P.hcommit
  · exact nonwrite_inHeader e _ (noWriteBetween_spec t c t.length P.hafter j e hgt h2 he)

end

theorem loads_prefix (f : Fmt) (m : Img) (h : loads f m = true) :
    prefixIs m f.sanity = true ∧ f.sanity.size < m.len ∧ f.headerSize ≤ m.len ∧
    f.totalMap (header f m) ≤ m.len := by
  unfold loads hasSanity at h
  simp only [Bool.and_eq_true, decide_eq_true_eq] at h
  exact ⟨h.1.1.1.1.2, h.1.1.1.1.1, h.1.1.1.2, h.1.2⟩

/-- **Process kill at any event boundary**: under the writer protocol, the file left behind is
rejected, or it *is* the complete file. -/
theorem kill_safe (f : Fmt) (t : Trace) (hc : conforms f t = true) (k : Nat) :
    loads f (vol t k) = false ∨ vol t k = final t := by
  obtain ⟨c, y, P⟩ := conforms_unpack f t hc
  rcases Nat.lt_or_ge c k with hk | hk
  · exact Or.inr (P.after_commit k hk)
  · left
    cases hl : loads f (vol t k) with
    | false => rfl
    | true =>
      have := (loads_prefix f _ hl).1
      rw [P.not_before k hk] at this; cases this

/-- **Power loss at any event boundary**: every image the crash model allows (any durable
length since the last sync, every sector at any version since the last sync covering it) is
rejected, or it is byte-for-byte the complete file. -/
theorem power_safe (f : Fmt) (t : Trace) (hc : conforms f t = true) (k : Nat) (img : Img)
    (hcr : Crash t k img) : loads f img = false ∨ img.eqv (final t) := by
  obtain ⟨c, y, P⟩ := conforms_unpack f t hc
  cases hl : loads f img with
  | false => exact Or.inl rfl
  | true =>
    right
    obtain ⟨hpre, hSlen, _, _⟩ := loads_prefix f img hl
    obtain ⟨hkl, ⟨jl, hjl, hlen⟩, hsec⟩ := hcr
    -- sector 0, which holds the `Sanity` block, comes from a version after the commit
    obtain ⟨j0, hv0, hb0⟩ := hsec 0
    have hj0 : c + 1 ≤ j0 := Nat.lt_of_not_le fun h => by
      have : prefixIs (vol t j0) f.sanity = true := (prefixIs_iff _ _).mpr fun i hi => by
        rw [← hb0 i (Nat.div_eq_of_lt (Nat.lt_trans hi (Nat.lt_of_lt_of_le P.hS P.hH))) (Nat.lt_trans hi hSlen)]
        exact (prefixIs_iff img f.sanity).mp hpre i hi
      rw [P.not_before j0 h] at this; cases this
    -- the full sync at event y supersedes every older version of every sector, and the length
    have hyk : y + 1 ≤ k := Nat.le_trans (Nat.le_trans P.hy (Nat.le_succ c)) (Nat.le_trans hj0 hv0.1)
    have hey : t[y + 1 - 1]? = some (t.getD y .close) := by
      have hy := List.getElem?_eq_getElem (Nat.lt_trans P.hy P.c_lt)
      rw [Nat.add_sub_cancel, hy, getD_of_getElem? _ hy]
    have ver_ge : ∀ s j, VerOK t k s j → y + 1 ≤ j := fun s j hv => Nat.lt_of_not_le fun h => by
      have := hv.2 (y + 1) (Nat.lt_succ_of_le h) hyk _ hey
      rw [fullSync_covers _ _ s P.hsync] at this; cases this
    have jl_ge : y + 1 ≤ jl := Nat.lt_of_not_le fun h => by
      have := hjl.2 (y + 1) (Nat.lt_succ_of_le h) hyk _ hey
      rw [fullSync_isSync _ _ P.hsync] at this; cases this
    have hlenfin : img.len = (final t).len := hlen.trans (P.after_sync jl jl_ge).1
    refine ⟨hlenfin, fun i => ?_⟩
    by_cases hi : i < img.len
    · by_cases hs0 : i / kSector = 0
      · rw [hb0 i hs0 hi, P.after_commit j0 hj0]
      · -- a byte of another sector lies outside the header
        obtain ⟨j, hv, hb⟩ := hsec (i / kSector)
        have hiH : f.headerSize ≤ i := Nat.le_trans P.hH (Nat.le_of_not_lt fun h => hs0 (Nat.div_eq_of_lt h))
        rw [hb i rfl hi]
        exact (P.after_sync j (ver_ge _ j hv)).2 i hiH
    · rw [get_beyond _ hi, get_beyond _ (hlenfin ▸ hi)]

/-- **Every strict prefix of a file is rejected unless only bytes after the mapped region
(`total_map` = where the vocabulary strings start) are missing, in which case queries read the
same bytes.**  Holds for every image `fin`, complete or not. -/
theorem prefix_rejected (f : Fmt) (fin : Img) (n : Nat) (hn : n < fin.len) :
    loads f (fin.trunc n) = false ∨
    (f.totalMap (header f fin) ≤ n ∧ queriesEqual f (fin.trunc n) fin) := by
  cases hl : loads f (fin.trunc n) with
  | false => exact Or.inl rfl
  | true =>
    right
    obtain ⟨_, _, hH, htm⟩ := loads_prefix f _ hl
    have hhdr : header f (fin.trunc n) = header f fin :=
      List.map_congr_left fun i hi => get_trunc fin (Nat.lt_of_lt_of_le (List.mem_range.mp hi) hH)
    rw [hhdr] at htm
    exact ⟨htm, fun i hi => get_trunc fin (Nat.lt_of_lt_of_le hi htm)⟩

/-- **The complete header becomes visible only after everything else is on stable storage**:
under the protocol there is a commit event `c` and an earlier event `y` that syncs the whole
file as it then is (so it covers every sector), with nothing but header bytes written in between
and nothing after `c`. -/
theorem header_last (f : Fmt) (t : Trace) (hc : conforms f t = true) :
    headerLast f t = true ∧
    ∃ c y, commitIdx f t = some c ∧ y < c ∧
      (∀ s, (t.getD y .close).covers (vol t (y + 1)).len s = true) ∧
      (∀ j e, y < j → j < c → t[j]? = some e → e.inHeader f.headerSize = true) ∧
      (∀ j e, c < j → j < t.length → t[j]? = some e → e.isWrite = false) := by
  obtain ⟨c, y, P⟩ := conforms_unpack f t hc
  refine ⟨?_, c, y, P.hc, P.hy, fun s => fullSync_covers _ _ s P.hsync,
    onlyHeaderBetween_spec t y c _ P.hbetween, noWriteBetween_spec t c t.length P.hafter⟩
  unfold headerLast
  rw [P.hc]
  simp only [List.any_eq_true, List.mem_range, Bool.and_eq_true]
  exact ⟨y, P.hy, ⟨P.hsync, decide_eq_true P.hlen⟩, P.hbetween⟩

/-! ### The driver's power-loss enumeration and the `Crash` relation
`lean/Driver/C09.lean` emits `crashImage vols jl choice` for pairs `(jl, choice)` that pass the
decidable tests `lenOKB` / `verOKB`, with `vols j = vol t j` for `j ≤ k` (a table). -/

/-- **soundness**: every image the driver emits is a crash image of the model. -/
theorem crash_enumeration_sound (t : Trace) (k jl : Nat) (choice : Nat → Nat) (vols : Nat → Img)
    (hk : k ≤ t.length) (hv : ∀ j, j ≤ k → vols j = vol t j)
    (hl : lenOKB t k jl = true) (hc : ∀ s, verOKB t k s (choice s) = true) :
    Crash t k (crashImage vols jl choice) := by
  have hL := (lenOKB_iff t k jl).mp hl
  refine ⟨hk, ⟨jl, hL, by show (vols jl).len = _; rw [hv jl hL.1]⟩, fun s => ?_⟩
  have hV := (verOKB_iff t k s (choice s)).mp (hc s)
  refine ⟨choice s, hV, fun i his hi => ?_⟩
  have hi' : i < (vols jl).len := hi
  rw [crashImage_get vols jl choice i hi', his, hv (choice s) hV.1]

/-- **completeness at the level of (length version, sector versions)**: every crash image of the
model is, byte for byte, `crashImage` of some pair that passes the driver's tests.  (That the
driver's mixed-radix counter visits every such pair — up to sectors with equal content — when
their number is ≤ the cap is executable glue in `Driver/C09.lean`, not a theorem.) -/
theorem crash_enumeration_complete (t : Trace) (k : Nat) (img : Img) (h : Crash t k img) :
    ∃ jl choice, lenOKB t k jl = true ∧ (∀ s, verOKB t k s (choice s) = true) ∧
      img.eqv (crashImage (vol t) jl choice) := by
  obtain ⟨_, ⟨jl, hjl, hlen⟩, hsec⟩ := h
  obtain ⟨choice, hspec⟩ := Classical.axiomOfChoice hsec
  refine ⟨jl, choice, (lenOKB_iff t k jl).mpr hjl, fun s => (verOKB_iff t k s _).mpr (hspec s).1, ?_, ?_⟩
  · exact hlen
  · intro i
    by_cases hi : i < img.len
    · rw [crashImage_get (vol t) jl choice i (by rw [← hlen]; exact hi)]
      exact (hspec (i / kSector)).2 i rfl hi
    · rw [get_beyond _ hi, get_beyond _ (show ¬ i < (crashImage (vol t) jl choice).len from hlen ▸ hi)]

/-! ### Non-vacuity and the two write methods in miniature
A toy format with a 4-byte "Sanity" `[9,9,9,9]`, marker `[7,7]`, header size 8. -/
def toyFmt : Fmt :=
  { sanity := #[9, 9, 9, 9], incomplete := #[7, 7], headerSize := 8,
    totalMap := fun _ => 12, paramsOK := fun _ => true, hasVocab := fun _ => false }

/-- WRITE_MMAP without vocabulary strings: truncate, store marker+body, msync all, store header, msync -/
def toyMmap : Trace :=
  [.create, .truncate 12, .store 0 #[7, 7, 0, 0, 0, 0, 0, 0, 1, 2, 3, 4], .msync 0 12,
   .store 0 #[9, 9, 9, 9, 5, 5, 5, 5], .msync 0 12, .munmap, .close]

/-- WRITE_AFTER with vocabulary strings: strings first (hole before), body, fsync, header -/
def toyAfter : Trace :=
  [.create, .truncate 0, .pwrite 12 #[60, 117], .pwrite 0 #[7, 7, 0, 0, 0, 0, 0, 0, 1, 2, 3, 4], .fsync,
   .pwrite 0 #[9, 9, 9, 9, 5, 5, 5, 5], .close]

/-- WRITE_MMAP *with* vocabulary strings and no `fsync` before the header (DESIGN §6-E): the strings are
`write()`n beyond the mapping, the `msync` covers only the mapping, no `fsync`. -/
def toyMmapVocab : Trace :=
  [.create, .truncate 12, .store 0 #[7, 7, 0, 0, 0, 0, 0, 0, 1, 2, 3, 4], .msync 0 12, .munmap,
   .pwrite 12 #[60, 117], .msync 0 12,
   .store 0 #[9, 9, 9, 9, 5, 5, 5, 5], .msync 0 12, .munmap, .close]

example : conforms toyFmt toyMmap = true := by decide +kernel
example : conforms toyFmt toyAfter = true := by decide +kernel
example : loads toyFmt (final toyMmap) = true := by decide +kernel

/-- **Deviation E, at model level**: the trace shape of WRITE_MMAP with vocabulary strings
violates the "in particular" clause (no sync of the whole file precedes the header). -/
theorem mmap_vocab_header_not_last : headerLast toyFmt toyMmapVocab = false ∧ conforms toyFmt toyMmapVocab = false := by
  decide +kernel

/-- non-vacuity on the E-shaped toy trace after the header store (k = 8): the length is durable since
the last msync (event 7), but sector 0 — which here also holds the `write()`n strings the msync
does not cover — may still be at any version since the *first* msync (event 4), not older. -/
example : lenOKB toyMmapVocab 8 7 = true ∧ lenOKB toyMmapVocab 8 6 = false ∧
    verOKB toyMmapVocab 8 0 4 = true ∧ verOKB toyMmapVocab 8 0 3 = false := by
  decide +kernel

/-- with an `fsync` before the header, as lm/binary_format.cc `FinishFile` issues it, the same shape conforms -/
example : conforms toyFmt
    [.create, .truncate 12, .store 0 #[7, 7, 0, 0, 0, 0, 0, 0, 1, 2, 3, 4], .msync 0 12, .munmap,
     .pwrite 12 #[60, 117], .msync 0 12, .fsync,
     .store 0 #[9, 9, 9, 9, 5, 5, 5, 5], .msync 0 12, .munmap, .close] = true := by decide +kernel

/-- `WriteHeader` traced store by store with the Sanity block LAST (the order of lm/binary_format.cc `WriteHeader`): the
parameter stores lie between the full sync and the commit, inside the header — conforms. -/
example : conforms toyFmt
    [.create, .truncate 12, .store 0 #[7, 7, 0, 0, 0, 0, 0, 0, 1, 2, 3, 4], .msync 0 12,
     .store 4 #[5, 5], .store 6 #[5, 5], .store 0 #[9, 9, 9, 9], .msync 0 12, .munmap, .close] = true := by decide +kernel

/-- **Sanity block FIRST**: the commit event precedes the
parameter stores, so the protocol is violated ("nothing is written after the commit"), and the
volatile image right after the Sanity store — a reachable process-kill image when writing
through a shared mapping — loads although its parameters differ from the final file's. -/
theorem sanity_first_not_conforming :
    let t : Trace := [.create, .truncate 12, .store 0 #[7, 7, 0, 0, 0, 0, 0, 0, 1, 2, 3, 4], .msync 0 12,
      .store 0 #[9, 9, 9, 9], .store 4 #[5, 5], .store 6 #[5, 5], .msync 0 12, .munmap, .close]
    conforms toyFmt t = false ∧ loads toyFmt (vol t 5) = true ∧ (vol t 5).get 4 ≠ (final t).get 4 := by
  decide +kernel

/-- a writer that puts the complete header first does not conform -/
example : conforms toyFmt
    [.create, .truncate 12, .store 0 #[9, 9, 9, 9, 5, 5, 5, 5], .store 8 #[1, 2, 3, 4], .msync 0 12, .close] = false := by
  decide +kernel

/-- the regenerated header of the real format fits one sector for every order up to KENLM_MAX_ORDER,
and the reference `Sanity` is shorter than the header (hypotheses `hH`, `hS` of the protocol) -/
theorem real_header_fits_sector :
    KV.Gen.C09.totalHeaderSizeMax ≤ kSector ∧ KV.Gen.C09.sanityBytes.size = KV.Gen.C09.sizeofSanity ∧
    KV.Gen.C09.sizeofSanity < KV.Gen.C09.sizeofSanity + KV.Gen.C09.sizeofFixed ∧
    KV.Gen.C09.magicIncomplete.size < KV.Gen.C09.magicBytesLen := by decide +kernel

end KV.C09
