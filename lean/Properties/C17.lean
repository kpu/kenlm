import Proofs.PCQueueOrder
import Proofs.ChainLive
import Proofs.ChainContent
import Proofs.ChainStream
import Proofs.ChainPoolSys
import Proofs.ChainSys
import Proofs.PCQueueFail
/-!
# C17 — Queues and chains deliver each item exactly once, in order, and terminate

Part 1: `util::PCQueue` (util/pcqueue.hh).  The model is `KV.PCQueue` (lean/Model/PCQueue.lean):
`P` producers with arbitrary value lists, `C` consumers with arbitrary numbers of `Consume` calls,
capacity `cap ≥ 1`, and an **arbitrary scheduler**: `Reach (mkInit cap ps qs) s` says that `s` is reached
by some finite sequence of synchronisation steps of arbitrary threads.  All theorems below are
consequences of one inductive invariant (`KV.PCQueue.Inv`, lean/Proofs/PCQueue.lean) that is preserved by
every step of every thread (`inv_step`).  Nothing is bounded.
-/
namespace KV.C17
open KV.PCQueue

variable {cap : Nat} {ps : List (List Nat)} {qs : List Nat} {s : State}

theorem reach_inv (hcap : 0 < cap) (hr : Reach (mkInit cap ps qs) s) :
    Inv (ps.map List.length).sum qs.sum s ∧ s.cap = cap :=
  ⟨inv_reach (inv_init cap ps qs hcap) hr, cap_reach hr⟩

theorem reach_runSched {s0 : State} (sched : List Nat) : ∀ {s}, runSched s0 sched = some s → Reach s0 s := by
  suffices H : ∀ (sched : List Nat) (s1 : State), Reach s0 s1 → ∀ s, runSched s1 sched = some s → Reach s0 s from
    fun {s} h => H sched s0 .init s h
  intro sched
  induction sched with
  | nil => intro s1 h1 s h; simp [runSched] at h; subst h; exact h1
  | cons t ts ih =>
    intro s1 h1 s h
    simp only [runSched] at h
    cases hst : step s1 t with
    | none => simp [hst] at h
    | some s2 => simp only [hst] at h; exact ih s2 (.step h1 hst) s h

/-- **Semaphore accounting**: each of the `cap` tokens is in exactly one place — in `empty_`, in `used_`,
or held by a producer / consumer between its `wait` and its `post`. -/
theorem sem_accounting (hcap : 0 < cap) (hr : Reach (mkInit cap ps qs) s) :
    s.empty + s.used + inFlightProducers s + inFlightConsumers s = cap := by
  obtain ⟨h, hc⟩ := reach_inv hcap hr
  exact hc ▸ h.core.token_count

/-- **Capacity**: the ring never holds more than `cap` unread values; every unread slot still holds the
value written into it; a producer in its critical section is about to write a slot that holds no unread
value (never overwritten before read); a consumer in its critical section is about to read a slot that has
been written and holds the oldest unread value (never read before written). -/
theorem never_over_cap (hcap : 0 < cap) (hr : Reach (mkInit cap ps qs) s) :
    occupied s ≤ cap ∧ s.reads.length ≤ s.writes.length
    ∧ (∀ i, s.reads.length ≤ i → i < s.writes.length → (s.writes[i]?).map (·.2) = some (s.ring (i % cap)))
    ∧ (∀ (t : Nat) (th : Thread), s.threads[t]? = some th → th.role = .prod → th.pc = .body →
          occupied s < cap ∧ ∀ i, s.reads.length ≤ i → i < s.writes.length → i % cap ≠ s.produceAt)
    ∧ (∀ (t : Nat) (th : Thread), s.threads[t]? = some th → th.role = .cons → th.pc = .body →
          s.reads.length < s.writes.length
          ∧ (s.writes[s.reads.length]?).map (·.2) = some (s.ring s.consumeAt)) := by
  obtain ⟨h, hc⟩ := reach_inv hcap hr
  replace h := h.core
  refine ⟨hc ▸ h.occupied_le, h.reads_le, fun i h1 h2 => hc ▸ h.ringv i h1 h2, fun t th hth hrole hp => ?_,
    fun t th hth hrole hp => unread_of_consumer h hth hrole hp⟩
  obtain ⟨_, hlt⟩ := room_of_producer h hth hrole hp
  exact ⟨hc ▸ hlt, hc ▸ h.slot_free hlt⟩

/-- **FIFO, exactly once**: the sequence of values read (in critical-section order) is the prefix of
the sequence of values written: no loss, no duplication, no reordering. -/
theorem fifo_exactly_once (hcap : 0 < cap) (hr : Reach (mkInit cap ps qs) s) :
    s.reads.map (·.2) = (s.writes.map (·.2)).take s.reads.length :=
  (reach_inv hcap hr).1.fifo

/-- **Per-pair order**: a producer writes its values in the order it was given them
(`orig = written ++ still to write`), a consumer's returned values are its reads in order, and the values
that consumer `c` has received from producer `p` — in the order `c` received them — form a subsequence of
`p`'s production order. -/
theorem per_pair_order (hcap : 0 < cap) (hr : Reach (mkInit cap ps qs) s)
    {p c : Nat} {thp thc : Thread} (hp : s.threads[p]? = some thp) (hpr : thp.role = .prod)
    (hcn : s.threads[c]? = some thc) (hcr : thc.role = .cons) :
    thp.orig = writesOf s.writes p ++ thp.items
    ∧ thc.got = writesOf s.reads c
    ∧ (pairSeq s p c).Sublist thp.orig
    ∧ (pairSeq s p c).Sublist thc.got := by
  obtain ⟨h, _⟩ := reach_inv hcap hr
  have h1 := (h.thr p thp hp).p_orig hpr
  have h2 := (h.thr c thc hcn).c_got hcr
  have hsub := zip_filter_sublist s.writes s.reads (·.1 == p) (·.1 == c) (·.2) (·.2)
  refine ⟨h1, h2, ?_, h2 ▸ hsub.2⟩
  rw [h1, pairSeq_eq_left h.core]
  exact hsub.1.trans (List.sublist_append_left _ _)

/-- **No deadlock**: when there are as many `Consume` calls as values, in every reachable state in which
some thread has not finished, some thread can take a step. -/
theorem no_deadlock (hcap : 0 < cap) (hbal : (ps.map List.length).sum = qs.sum)
    (hr : Reach (mkInit cap ps qs) s)
    (hwork : ∃ (t : Nat) (th : Thread), s.threads[t]? = some th ∧ th.pc ≠ .done) :
    ∃ tid, step s tid ≠ none := by
  obtain ⟨h, _⟩ := reach_inv hcap hr
  rw [hbal] at h
  exact no_deadlock_inv h hwork

/-- **Termination**: every step uses up exactly one unit of `measure` (5 per outstanding call), so every
schedule is finite and all complete schedules have the same length. -/
theorem terminates (hcap : 0 < cap) (hr : Reach (mkInit cap ps qs) s) {tid : Nat} {s' : State}
    (hs : step s tid = some s') : measure s' + 1 = measure s :=
  measure_step hs

/-- **Every maximal run delivers everything**: if no thread can step any more (balanced configuration),
then every thread has finished, every value given to a producer has been written, the values read are
exactly the values written, in the same order, and the semaphores are back to (cap, 0). -/
theorem maximal_run_delivers (hcap : 0 < cap) (hbal : (ps.map List.length).sum = qs.sum)
    (hr : Reach (mkInit cap ps qs) s) (hmax : ∀ tid, step s tid = none) :
    (∀ (t : Nat) (th : Thread), s.threads[t]? = some th → th.pc = .done)
    ∧ s.reads.map (·.2) = s.writes.map (·.2)
    ∧ (∀ (t : Nat) (th : Thread), s.threads[t]? = some th → th.role = .prod → writesOf s.writes t = th.orig)
    ∧ s.used = 0 ∧ s.empty = cap := by
  obtain ⟨h, hc⟩ := reach_inv hcap hr
  rw [hbal] at h
  exact hc ▸ stuck_delivered h hmax

def demoInit : State := mkInit 2 [[7, 8], [9]] [2, 1]

/-- both producers inside Produce, the ring full, a consumer in its critical section -/
def demoSched : List Nat := [0, 1, 0, 0, 0, 0, 1, 1, 1, 1, 2, 2]

theorem exists_reach {s0 : State} (sched : List Nat) (f : State → Bool)
    (h : (runSched s0 sched).any f = true) : ∃ s, Reach s0 s ∧ f s = true := by
  cases hs : runSched s0 sched with
  | none => simp [hs] at h
  | some s => exact ⟨s, reach_runSched sched hs, by simpa [hs] using h⟩

example : ∃ s, Reach demoInit s ∧ occupied s = 2 ∧ s.empty = 0
    ∧ (∃ th, s.threads[2]? = some th ∧ th.role = .cons ∧ th.pc = .body)
    ∧ (∃ th, s.threads[0]? = some th ∧ th.role = .prod ∧ th.pc = .wait ∧ step s 0 = none) := by
  obtain ⟨s, hr, hf⟩ := exists_reach (s0 := demoInit) demoSched
    (fun s => occupied s == 2 && s.empty == 0
      && (match s.threads[2]? with | some th => th.role == .cons && th.pc == .body | none => false)
      && (match s.threads[0]? with | some th => th.role == .prod && th.pc == .wait && (step s 0).isNone | none => false))
    (by decide +kernel)
  refine ⟨s, hr, ?_⟩
  simp only [Bool.and_eq_true, beq_iff_eq] at hf
  obtain ⟨⟨⟨h1, h2⟩, h3⟩, h4⟩ := hf
  refine ⟨h1, h2, ?_, ?_⟩
  · cases h : s.threads[2]? with
    | none => simp [h] at h3
    | some th => simp [h] at h3; exact ⟨th, rfl, h3⟩
  · cases h : s.threads[0]? with
    | none => simp [h] at h4
    | some th => simp [h] at h4; exact ⟨th, rfl, h4.1.1, h4.1.2, by simpa using h4.2⟩

example : (runSched demoInit ([0,0,0,0,0, 1,1,1,1,1, 2,2,2,2,2, 0,0,0,0,0, 3,3,3,3,3, 2,2,2,2,2])).map
    (fun s => (s.reads, allDone s, s.empty, s.used)) = some ([(2, 7), (3, 9), (2, 8)], true, 2, 0) := by
  decide +kernel

/-! ## Part 2: `util::ThreadPool` (util/thread_pool.hh)

Model `KV.Chain.Pool` (lean/Model/Chain.lean): the queue is an atomic bounded FIFO (Part 1), one step = one
whole `Produce` / `Consume` / thread start / `join`; any capacity ≥ 1, any number of workers ≥ 1, any
requests, arbitrary scheduler. -/
section pool
open KV.Chain

variable {w : Nat} {reqs : List Nat} {p : Pool}

theorem pool_reach_cap (hr : Pool.Reach (Pool.init cap w reqs) p) : p.cap = cap := by
  induction hr with
  | init => rfl
  | step _ hs ih => exact (pool_step_cap hs).trans ih

/-- **ThreadPool: every request is run exactly once and the destructor terminates.**
In every reachable state: (1) the items popped so far (in pop order), then the queue, then what the user
thread has still to submit, are exactly `requests ++ poison^w` — nothing lost, duplicated or reordered;
(2) what worker `i` has handled is exactly the requests among its own pops, in order; (3) the queue never
exceeds its capacity; (4) unless everything has finished some thread can step (no deadlock: `w` poisons
for `w` workers, sent before the joins); (5) every step decreases `Pool.measure` (termination); and
(6) once everything has finished, the requests popped are exactly the submitted requests, each once, the
queue is empty and every worker has returned. -/
theorem pool_exactly_once (hw : 0 < w) (hcap : 0 < cap) (hr : Pool.Reach (Pool.init cap w reqs) p) :
    p.log.map (·.2) ++ p.q ++ p.todo = reqs.map Item.val ++ List.replicate w Item.poison
    ∧ (∀ i, i < w → p.handled.getD i [] = ((p.log.filter (fun x => x.1 == i)).map (·.2)).filterMap Item.val?)
    ∧ p.q.length ≤ cap
    ∧ (p.allDone = false → ∃ tid, p.step tid ≠ none)
    ∧ (∀ tid p', p.step tid = some p' → p'.measure < p.measure)
    ∧ (p.allDone = true →
        (p.log.map (·.2)).filterMap Item.val? = reqs ∧ p.q = [] ∧ p.wpc.all (· == .finished) = true) := by
  have h := pinv_reach hr
  have hc := pool_reach_cap hr
  exact ⟨allItems_eq w reqs ▸ h.cons, h.hand, hc ▸ h.capb, fun hnd => pool_no_deadlock_inv hw (hc ▸ hcap) h hnd,
          fun tid p' hs => pool_measure_step hs, h.all_done hw⟩

example : ((([0, 1, 1, 2, 0, 2, 0, 1, 0, 2, 0, 1, 0, 0]).foldl
      (fun (o : Option Pool) t => o.bind (·.step t)) (some (Pool.init 1 2 [5, 6, 7]))).map
      (fun p => (p.allDone, p.handled))) = some (true, [[5, 7], [6]]) := by decide +kernel


/-- the *seeded* destructor "for each worker: produce one poison, then join it" (instead of all poisons first, then all
joins, as `~ThreadPool` does and `Pool.step` models).  `sent` = poisons produced so far; everything else is `Pool.step`. -/
def stepJoinEach (p : Pool) (sent : Nat) (tid : Nat) : Option (Pool × Nat) :=
  match tid with
  | 0 =>
    match p.todo with
    | x :: rest => if p.q.length < p.cap then some ({ p with q := p.q ++ [x], todo := rest }, sent) else none
    | [] =>
      if sent = p.joined then
        if sent < p.wpc.length ∧ p.q.length < p.cap then some ({ p with q := p.q ++ [.poison] }, sent + 1) else none
      else match p.wpc[p.joined]? with
        | some .finished => some ({ p with joined := p.joined + 1 }, sent)
        | _ => none
  | i + 1 => (p.step (i + 1)).map (fun p' => (p', sent))

/-- **pool_join_each_deadlocks** (negation witness for the clause "ThreadPool poisons each worker and joins; no thread blocks
forever", `decide`): `pool_exactly_once` depends on *all* poisons being produced before the first join.  With the
poison-then-join-per-worker destructor, two workers and no request: both workers start, the destructor produces the first
poison, worker 2 takes it and finishes, the destructor joins worker 1 — which waits on the empty queue for ever.  No thread
is enabled and the pool is not done. -/
theorem pool_join_each_deadlocks :
    ((([1, 2, 0, 2] : List Nat).foldl
        (fun (o : Option (Pool × Nat)) t => o.bind (fun s => stepJoinEach s.1 s.2 t))
        (some ({ Pool.init 1 2 [] with todo := [] }, 0))).map
      (fun s => ((List.range 3).all (fun t => (stepJoinEach s.1 s.2 t).isNone), s.1.allDone, s.1.joined, s.2)))
      = some (true, false, 0, 1)
    ∧ -- the same schedule prefix under the real order (both poisons first) leaves the blocked worker enabled
    ((([1, 2, 0, 2, 0] : List Nat).foldl
        (fun (o : Option Pool) t => o.bind (·.step t)) (some (Pool.init 1 2 []))).map
      (fun p => (p.step 1).isSome)) = some true := by decide +kernel

end pool

/-! ## Part 3: `util::stream::Chain` (util/stream/chain.hh, chain.cc)

Model `KV.Chain.Chain` (lean/Model/Chain.lean): `b ≥ 1` blocks, stages `0..m` (`m ≥ 1`; stage 0 the source
that fills `data.length` blocks and then calls `Link::Poison()`, stages `1..m-1` pass-through workers, stage `m`
the `Recycler`), the user thread running `Chain::Start` and `Chain::Wait` (join all threads, then drain queue 0
up to the poison); a ring of `m+1` single-producer/single-consumer bounded FIFOs (Part 1 / Part 4).  Every
worker is `for (Link l(position); l; ++l) body`, with `Link::Init`, `operator++`, `Poison` and `~Link`
modelled operation by operation including the `poisoned_` flag (the theorem depends on it: with
`poisoned_ = !current_` in `Init`, the change seeded as C17-2, `afterConsume` would end in `finished` instead of
`dtor` and `StageOK.image` / `fin` fail).  One step = one whole `Produce` / `Consume` / thread start / `join`;
the scheduler is arbitrary; `b`, `m`, the data and the schedule are unbounded. -/
section chain
open KV.Chain

/-- the stage functions of the worked example / the harness: pass-through stage `i` applies `xform (i+1)` -/
def defaultStageFn : StageFn := ⟨fun i _ v => xform (i + 1) v⟩

/-- **Chain ring.**  In every reachable state of every chain:
1. *order*: stage `i+1` has received exactly a prefix of what stage `i` produced, in production order, the rest
   is in the queue between them; queue 0 holds the blocks of `Chain::Start` followed by the recycler's output,
   read first by the source and then by `Chain::Wait`;
2. *content preserved*: what a stage has produced (plus the block in its hand) is the image of what it has
   received under its deterministic stage function, item by item (`outFrom`; for stages `≥ 1` simply `map`);
3. *poison exactly once per stage*: a stage's output contains poison at most once, as its last element, and
   contains it iff the stage has finished;
4. *capacity*: no queue ever holds more than `b` items;
5. *ring deadlock freedom*: unless the user thread and all stages have finished, some thread can step;
6. *termination*: every step strictly decreases `chainMeasure`, so `Chain::Wait` returns;
7. *the end*: "Chain ending without poison" is never reached, and when `Chain::Wait` has returned every stage
   has finished, the poison has reached the end (the user thread consumed it), the source has produced exactly
   the data followed by one poison, and every stage has received everything its predecessor produced. -/
theorem chain_ring {b m : Nat} {data : List Nat} {c : Chain} (hb : 0 < b) (hm : 1 ≤ m)
    (hr : Chain.Reach (Chain.init b m data) c) :
    ((∀ i, i < m → (c.st i).out = (c.st (i + 1)).inp ++ c.q (i + 1))
      ∧ List.replicate (b - fillRem c) (Item.val 0) ++ (c.st m).out = (c.st 0).inp ++ c.drained ++ c.q 0)
    ∧ (∀ i, i ≤ m → (c.st i).out ++ pend (c.st i) = @outFrom defaultStageFn m data i [] (c.st i).inp
        ∧ (1 ≤ i → (c.st i).out ++ pend (c.st i) = (c.st i).inp.map (passOf m i)))
    ∧ (∀ i, i ≤ m → Item.poison ∉ (c.st i).out.dropLast ∧ ((c.st i).pc = .finished ↔ Item.poison ∈ (c.st i).out))
    ∧ (∀ j, j ≤ m → (c.q j).length ≤ b)
    ∧ ((c.main ≠ .finished ∨ ∃ i, i ≤ m ∧ (c.st i).pc ≠ .finished) → ∃ tid, c.step tid ≠ none)
    ∧ (∀ tid c', c.step tid = some c' → chainMeasure b m data c' < chainMeasure b m data c)
    ∧ (c.main ≠ .aborted
        ∧ (c.main = .finished →
            (∀ i, i ≤ m → (c.st i).pc = .finished) ∧ Item.poison ∈ c.drained
            ∧ (c.st 0).out = data.map Item.val ++ [Item.poison]
            ∧ ∀ i, i < m → c.q (i + 1) = [] ∧ (c.st (i + 1)).inp = (c.st i).out)) := by
  letI := defaultStageFn
  have h : RInv b m data c := rinv_reach hb hm hr
  refine ⟨⟨h.q, h.q0⟩, ?_, ?_, fun j hj => h.queue_le hj, chain_no_deadlock_inv h,
    fun tid c' hs => chain_measure_step h hs, h.mainok.not_aborted, ?_⟩
  · intro i hi
    refine ⟨(h.sok i hi).image, fun h1 => ?_⟩
    rw [(h.sok i hi).image, outFrom_eq_map (by omega) (fun _ _ _ => rfl)]
  · intro i hi
    exact ⟨(h.sok i hi).last, (h.sok i hi).fin⟩
  · intro e
    obtain ⟨hall, hp⟩ := h.mainok.of_main e
    exact ⟨hall, hp, h.source_out (hall 0 (by omega)), fun i hi => h.handed_over hi (hall (i + 1) (by omega))⟩

/-- non-vacuity / the complete behaviour on a concrete chain: 2 blocks, source + 1 pass stage + recycler,
3 data blocks; this complete schedule ends with everything finished and stage 1 (the pass stage) having seen the data
in order -/
example : ((([0, 0, 1, 1, 1, 1, 1, 2, 2, 2, 2, 2, 3, 3, 3, 1, 1, 2, 2, 3, 3, 1, 1, 0, 2, 2, 0, 3, 3, 3, 3, 0, 0, 0]).foldl
      (fun (o : Option Chain) t => o.bind (·.step t)) (some (Chain.init 2 2 [11, 12, 13]))).map
      (fun c => (c.allDone, c.seen 1, (c.st 0).out, c.drained))) =
    some (true, [11, 12, 13], [.val 11, .val 12, .val 13, .poison], [.val 132, .poison]) := by decide +kernel

/-- **Stateful stream transducers as stages** (for C07's `h_stages`).  Let every pass-through stage `i`
(`1 ≤ i < m`) run an arbitrary deterministic, possibly STATEFUL, stream transducer `T.step i : state × block →
state × block` (its loop body keeps the state; a block is its content, an abstract `Nat`).  For every number of
blocks `b ≥ 1`, every `m ≥ 1`, every data and **every schedule**:
(a) at every moment, the blocks stage `i` has produced (with the one in its hand) carry exactly the output of its
    transducer, started in `T.init i`, on the blocks it has received so far — block boundaries of the schedule,
    interleavings and the number of recycled blocks are not observable;
(b) once `Chain::Wait` has returned, the output of stage `i` is the source data pushed through the transducers of
    stages `1..i` in order (`T.pipeline data i`), followed by exactly one poison, and stage `i+1` has received
    exactly that.
All other clauses of `chain_ring` (order, poison once and last, capacity, deadlock freedom, termination) hold for
these chains as well (`rinv_reach`, `chain_no_deadlock_inv`, `chain_measure_step` are proved for arbitrary stage
functions).  In the `Link` protocol a stage emits exactly one block per block received, so there is no extra
output at poison ("final flush"): state that must leave a stage has to ride on its blocks. -/
theorem chain_stream_transducer {τ : Type} (T : Transducers τ) {b m : Nat} {data : List Nat} {c : Chain}
    (hb : 0 < b) (hm : 1 ≤ m) (hr : Chain.Reach (Chain.initT b m data T.toStageFn.tr) c) :
    (∀ i, 1 ≤ i → i < m →
        valsOf ((c.st i).out ++ pend (c.st i)) = T.run i (T.init i) (valsOf (c.st i).inp))
    ∧ (c.main = .finished → ∀ i, i < m →
        (c.st i).out = (T.pipeline data i).map Item.val ++ [Item.poison] ∧ (c.st (i + 1)).inp = (c.st i).out) := by
  letI := T.toStageFn
  have h : RInv b m data c := rinv_reach hb hm hr
  exact ⟨fun i => h.transducer_out T, h.pipeline_out T⟩

/-- non-vacuity: a running-sum transducer (stateful) between source and recycler, 2 blocks, data 1,2,3: the stage's
output is the prefix sums whatever the schedule; here the lowest-thread-first schedule -/
example : ((([0, 0, 1, 1, 1, 1, 1, 2, 2, 2, 2, 2, 3, 3, 3, 1, 1, 2, 2, 3, 3, 1, 1, 0, 2, 2, 0, 3, 3, 3, 3, 0, 0, 0]).foldl
      (fun (o : Option Chain) t => o.bind (·.step t))
      (some (Chain.initT 2 2 [1, 2, 3]
        (Transducers.toStageFn ⟨fun _ => 0, fun _ s v => (s + v, s + v)⟩).tr))).map
      (fun c => (c.allDone, (c.st 1).out))) = some (true, [.val 1, .val 3, .val 6, .poison]) := by decide +kernel

end chain

/-! ## Part 4: refinement — the semaphore queue *is* an atomic bounded FIFO

The ThreadPool and Chain models above treat a `PCQueue` as an atomic bounded FIFO with the transition functions
`KV.Chain.fifoPush` / `KV.Chain.fifoPop`, and so do the three queues of the filter controller model
(`lean/Model/FilterCtl.lean`, property C12; that its guards and updates are these two functions is
`KV.C12.ctl_queues_are_fifo`).
`pcqueue_refines_fifo` justifies this by a theorem about the step-level model of Part 1:
with the abstraction `absBuf s` = values written and not yet read (oldest first) and the critical-section
bodies as linearisation points,
* every synchronisation step of every thread, in every reachable state, is either a stutter step of the
  atomic FIFO, or `fifoPush cap` of the produced value (enabled: the buffer is not full), or `fifoPop`
  returning exactly the value the consumer receives;
* hence along every schedule the sequence of linearised operations is a run of the atomic FIFO of capacity `cap`
  starting empty and ending in `absBuf s` (the linearisation point of an operation is its critical-section body, which
  the model's program counter passes between the call, `wait`, and the return, `post`).
The liveness half (an operation enabled in the atomic FIFO is eventually completed by the implementation) is
`no_deadlock` + `terminates` of Part 1.  To cite from another model: `KV.C17.pcqueue_refines_fifo`. -/
section refinement
open KV.Chain (fifoPush fifoPop)

theorem pcqueue_refines_fifo (hcap : 0 < cap) :
    (∀ {s s' : State} {tid : Nat}, Reach (mkInit cap ps qs) s → step s tid = some s' →
        match stepEvent s tid with
        | none => absBuf s' = absBuf s
        | some (.push _ v) => fifoPush cap (absBuf s) v = some (absBuf s')
        | some (.pop _ v) => fifoPop (absBuf s) = some (v, absBuf s'))
    ∧ (∀ (sched : List Nat) (s : State), runSched (mkInit cap ps qs) sched = some s →
        fifoRun cap [] (events (mkInit cap ps qs) sched) = some (absBuf s)) := by
  constructor
  · intro s s' tid hr hs
    obtain ⟨h, hc⟩ := reach_inv hcap hr
    have := step_refines h.core hs
    rw [hc] at this
    exact this
  · intro sched s hrun
    exact run_refines (inv_init cap ps qs hcap).core sched hrun

/-- the ThreadPool model's queue operations are literally these FIFO operations -/
theorem pool_uses_fifo (p : KV.Chain.Pool) :
    (∀ x rest, p.todo = x :: rest → (p.step 0).map (·.q) = fifoPush p.cap p.q x)
    ∧ (∀ i, p.wpc[i]? = some .running → (p.step (i + 1)).map (·.q) = (fifoPop p.q).map (·.2)) := by
  refine ⟨fun x rest ht => ?_, fun i hi => ?_⟩
  · rw [KV.Chain.Pool.step_submit ht]
    unfold fifoPush
    split <;> rfl
  · rw [KV.Chain.Pool.step_consume hi]
    cases hq : p.q with
    | nil => rfl
    | cons x r => cases x <;> rfl

example : events demoInit [0,0,0,0,0, 1,1,1,1,1, 2,2,2,2,2, 0,0,0,0,0, 3,3,3,3,3, 2,2,2,2,2]
    = [.push 0 7, .push 1 9, .pop 2 7, .push 0 8, .pop 3 9, .pop 2 8] := by decide +kernel

end refinement

/-! ## Part 5: signals — `WaitSemaphore` is transparent to EINTR (util/pcqueue.hh:59-71)

A signal handled without `SA_RESTART` makes `sem_wait` return EINTR; `WaitSemaphore` must go round its loop again.
(Only the boost-semaphore variant is compiled on this platform; the `__APPLE__` variant — mach semaphores,
`semaphore_wait` — is not compiled here and is outside the tie.) -/
section eintr

/-- **EINTR transparency.**  For every pattern of EINTR returns (any number `k`, unbounded):
(1) the loop is left exactly by the `sem_wait` that took a token, with exactly one token taken;
(2) while only EINTR has been returned the loop has not been left;
(3) conversely whenever the loop has been left a token was available, exactly one was taken, by the last call;
(4) at the level of the queue model an interrupt of a waiting thread is a stutter step, so the states reachable
    with arbitrary interrupts are exactly the states reachable without, and every theorem of Part 1 holds
    unchanged for `ReachI`. -/
theorem wait_eintr_transparent :
    (∀ (k c : Nat) (os : List WaitOutcome), 0 < c →
        waitSemaphore c (List.replicate k .eintr ++ .taken :: os) = some (c - 1, os))
    ∧ (∀ k c : Nat, waitSemaphore c (List.replicate k .eintr) = none)
    ∧ (∀ (c c' : Nat) (l rest : List WaitOutcome), waitSemaphore c l = some (c', rest) →
        ∃ k, l = List.replicate k .eintr ++ .taken :: rest ∧ 0 < c ∧ c' = c - 1)
    ∧ (∀ s0 s : State, ReachI s0 s ↔ Reach s0 s) := by
  exact ⟨fun k c os hc => waitSemaphore_returns k c hc os, waitSemaphore_waiting,
          fun c c' l rest h => waitSemaphore_some h, fun s0 s => ⟨reachI_reach, reach_reachI⟩⟩

theorem fifo_exactly_once_with_signals (hcap : 0 < cap) (hr : ReachI (mkInit cap ps qs) s) :
    s.reads.map (·.2) = (s.writes.map (·.2)).take s.reads.length :=
  fifo_exactly_once hcap (reachI_reach hr)

/-- the theorem depends on the retry: the loop seeded as C17-3 leaves `WaitSemaphore` after an EINTR although the
semaphore is empty and no token was taken -/
example : waitSemaphoreFlagNeverSet 0 [.eintr, .taken] = some (0, [.taken])
    ∧ waitSemaphore 0 [.eintr, .eintr] = none := by decide +kernel

end eintr

/-! ## Part 6: `util::stream::Stream` (util/stream/stream.hh) -/
section stream
open KV.Chain

/-- **Stream records.**  For every sequence of blocks received by the `Link` of a `Stream` — any number of blocks,
any pattern of empty blocks (first, last, consecutive, all) —
`for (Stream s(position); s; ++s) yield(*s)` yields exactly the concatenation of the valid records of the blocks,
in order, every read lying inside `ValidSize` of the current block (`get` returns `none` for a read beyond it, and
no `none` appears); at the end the stream is null, and every block followed by exactly one poison has been passed
downstream. -/
theorem stream_records (blocks : List (List Nat)) :
    (Stream.collect (blocks.flatten.length + 1) (Stream.init blocks)).1 = blocks.flatten.map some
    ∧ (Stream.collect (blocks.flatten.length + 1) (Stream.init blocks)).2.null = true
    ∧ (Stream.collect (blocks.flatten.length + 1) (Stream.init blocks)).2.link.finish = blocks.map some ++ [none] := by
  cases blocks with
  | nil => simp [Stream.init, SLink.init, startBlock, skipEmpty, Stream.collect, Stream.collectWith, SLink.finish]
  | cons b0 rest =>
    have := collect_from rest b0 [] false ((b0 :: rest).flatten.length + 1) (by omega)
    rw [show Stream.init (b0 :: rest) = startBlock { cur := some b0, rest := rest, passed := [], poisoned := false }
      from rfl, this]
    simp [endStream, SLink.finish]

/-- non-vacuity, and dependence on skipping ALL empty blocks: with two adjacent empty blocks the `StartBlock` of the
change seeded as C17-4 lands on an empty block and reads beyond its `ValidSize` (`none`) -/
example : (Stream.collect 10 (Stream.init [[1, 2], [], [], [3], []])).1 = [some 1, some 2, some 3]
    ∧ (Stream.collectWith startBlockOnce 4 (startBlockOnce (SLink.init [[1, 2], [], [], [3]]))).1
        = [some 1, some 2, none, none] := by decide +kernel

end stream

/-! ## Part 7: the composed system — clients running on the STEP-LEVEL queues

`lean/Model/PCQueueSys.lean`: any number of client threads, each an arbitrary program over a local state that
touches any number of queues only through `Produce` / `Consume` (plus local steps and waiting for another thread's
local state: thread start, `join`).  In the step-level system (`cstep`) every queue is a `PCQueue.State` of Part 1
(semaphores, mutexes, ring, cursors), a call arms the thread's entry in that queue, the micro-steps are the steps
of Part 1 with the hook-point program counters, the return hands the value to the client; `cintr` is an EINTR of a
thread inside an operation.  In the atomic system (`astep`) every queue is a list with `fifoPush` / `fifoPop`.
Abstraction `abs`: queue content = values written and not yet read; a thread inside an operation has made its
abstract step iff it has passed its critical-section body. -/
section composed
open KV.Sys KV.Chain

/-- **Client-generic stuttering refinement** (any client programs, any number of queues and threads, any
capacities ≥ 1, any schedule, arbitrary EINTR interrupts): every step of the composed step-level system is a
stutter step or exactly one step of the atomic-FIFO system under `abs` (forward simulation, `sim_step`), an
interrupt is a stutter step, and hence every reachable state of the step-level system abstracts to a reachable
state of the atomic system running the same programs. -/
theorem steplevel_refines_atomic {σ : Type} (P : Prog σ) (loc0 : Nat → σ) (hcap : ∀ q, 0 < P.cap q) :
    (∀ c c' t, CInv P c → cstep P c t = some c' →
        CInv P c' ∧ (Sys.abs c' = Sys.abs c ∨ astep P (Sys.abs c) t = some (Sys.abs c')))
    ∧ (∀ (c c' : CState σ) t, cintr c t = some c' → c' = c)
    ∧ (∀ c, CReach P (cinit P loc0) c → CInv P c ∧ AReach P (ainit loc0) (Sys.abs c)) := by
  refine ⟨fun c c' t h hs => ?_, fun _ _ _ hs => sim_intr hs, fun _ hr => ⟨(creach_refines hcap hr).1, (creach_refines hcap hr).2.2⟩⟩
  obtain ⟨h1, hrel, _⟩ := sim_step h hs
  refine ⟨h1, ?_⟩
  rcases hrel with ⟨e, _⟩ | ⟨e, _⟩
  · exact Or.inl e
  · exact Or.inr e

/-- **ThreadPool on the step-level queue.**  The ThreadPool as client program (`poolProg`: the user thread produces
the requests and one poison per worker and joins the workers; worker `i` consumes until poison) running on the
step-level `PCQueue` with arbitrary interrupts: the abstraction of every reachable state is a reachable state of
the `Pool` model, so the safety clauses of `pool_exactly_once` hold for it: conservation of
`requests ++ poison^w` (nothing lost, duplicated or reordered), per-worker attribution, capacity, and — once the
abstract state says everything has finished — every request handled exactly once.  (The abstract no-deadlock and
measure clauses also hold for the denoted `Pool` state; deadlock freedom and termination of the *composed* system
itself are `pool_steplevel_no_deadlock` and `pool_steplevel_terminates` of Part 9.) -/
theorem pool_exactly_once_steplevel {w : Nat} {reqs : List Nat} (hw : 0 < w) (hcap : 0 < cap)
    {c : CState PLoc} (hr : CReach (poolProg cap w) (cinit (poolProg cap w) (poolLoc0 w reqs)) c) :
    let p := toPool cap w (Sys.abs c)
    Pool.Reach (Pool.init cap w reqs) p
    ∧ p.log.map (·.2) ++ p.q ++ p.todo = reqs.map Item.val ++ List.replicate w Item.poison
    ∧ (∀ i, i < w → p.handled.getD i [] = ((p.log.filter (fun x => x.1 == i)).map (·.2)).filterMap Item.val?)
    ∧ p.q.length ≤ cap
    ∧ (p.allDone = true →
        (p.log.map (·.2)).filterMap Item.val? = reqs ∧ p.q = [] ∧ p.wpc.all (· == .finished) = true) := by
  intro p
  obtain ⟨_, _, _, hp⟩ := (pool_presents cap w reqs).creach (fun _ => hcap) (poolOK_init cap w reqs) hr
  obtain ⟨h1, h2, h3, _, _, h6⟩ := pool_exactly_once hw hcap hp
  exact ⟨hp, h1, h2, h3, h6⟩

/-- **Chain on the step-level queues.**  The chain as client program (`chainProg`: the user thread runs
`Chain::Start` and `Chain::Wait`, thread `i+1` runs the `Link` loop of stage `i`, thread start and `join` are
`await`s) running on `m+1` step-level `PCQueue`s with arbitrary interrupts: the abstraction of every reachable
state is a reachable state of the `Chain` model (`chain_astep_eq`: the atomic client system with `chainProg` IS the
`Chain` model), so the safety clauses of `chain_ring` hold for it: order, content, poison at most once and last and
iff finished, capacity, "Chain ending without poison" unreachable, and the final delivery once the abstract state
says `Chain::Wait` has returned.  (The abstract `chain_ring` clauses 5 and 6 hold for the denoted `Chain` state;
deadlock freedom and termination of the composed system itself are `chain_steplevel_no_deadlock` and
`chain_steplevel_terminates` of Part 9.) -/
theorem chain_ring_steplevel {b m : Nat} {data : List Nat} (hb : 0 < b) (hm : 1 ≤ m)
    {c : CState CLoc}
    (hr : CReach (chainProg (Chain.init b m data)) (cinit (chainProg (Chain.init b m data)) (chainLoc0 b)) c) :
    let x := toChain (Chain.init b m data) (Sys.abs c)
    Chain.Reach (Chain.init b m data) x
    ∧ ((∀ i, i < m → (x.st i).out = (x.st (i + 1)).inp ++ x.q (i + 1))
        ∧ List.replicate (b - fillRem x) (Item.val 0) ++ (x.st m).out = (x.st 0).inp ++ x.drained ++ x.q 0)
    ∧ (∀ i, i ≤ m → (x.st i).out ++ pend (x.st i) = @outFrom defaultStageFn m data i [] (x.st i).inp
        ∧ (1 ≤ i → (x.st i).out ++ pend (x.st i) = (x.st i).inp.map (passOf m i)))
    ∧ (∀ i, i ≤ m → Item.poison ∉ (x.st i).out.dropLast ∧ ((x.st i).pc = .finished ↔ Item.poison ∈ (x.st i).out))
    ∧ (∀ j, j ≤ m → (x.q j).length ≤ b)
    ∧ (x.main ≠ .aborted
        ∧ (x.main = .finished →
            (∀ i, i ≤ m → (x.st i).pc = .finished) ∧ Item.poison ∈ x.drained
            ∧ (x.st 0).out = data.map Item.val ++ [Item.poison]
            ∧ ∀ i, i < m → x.q (i + 1) = [] ∧ (x.st (i + 1)).inp = (x.st i).out)) := by
  intro x
  letI := defaultStageFn
  obtain ⟨_, _, _, hx⟩ := (chain_presents hb hm).creach (fun _ => hb) (chainOK_init b m data) hr
  obtain ⟨h1, h2, h3, h4, _, _, h7⟩ := chain_ring hb hm hx
  exact ⟨hx, h1, h2, h3, h4, h7⟩

/-- **The per-queue facts behind the liveness transport.**  The theorems of Part 9 rest on two facts about one queue,
here lifted to the composed system, for arbitrary client programs:
(1) *progress at an enabled abstract operation*: if a thread is inside `Produce(q)` / `Consume(q)` before its
    linearisation point and the abstract FIFO operation is enabled in `abs c` (buffer not full resp. not empty), then
    some thread of the composed system can take a micro-step in queue `q` (`queue_progress` per queue:
    the open-system version of `no_deadlock`);
(2) *bounded operations*: every micro-step uses exactly one unit of the queue's `measure` (five per operation),
    and an interrupt does not change the state, so an interrupt-fair run spends finitely many transitions per
    operation. -/
theorem steplevel_liveness_partial {σ : Type} {P : Prog σ} {c : CState σ} (h : CInv P c) :
    (∀ t q, t < P.nthreads → (c.mode t).queue = some q → linearized (c.qs q) t = false →
        ((∀ v k, c.mode t = .inP q v k → ((Sys.abs c).q q).length < P.cap q)
          ∧ (∀ k, c.mode t = .inC q k → (Sys.abs c).q q ≠ [])) →
        ∃ t', cstep P c t' ≠ none)
    ∧ (∀ q t s', step (c.qs q) t = some s' → PCQueue.measure s' + 1 = PCQueue.measure (c.qs q))
    ∧ (∀ t c', cintr c t = some c' → c' = c) := by
  exact ⟨fun t q ht hq hpre hen => steplevel_op_progress h ht hq hpre hen, fun q t s' hs => measure_step hs,
          fun t c' hs => sim_intr hs⟩

end composed

/-! ## Part 8: the exception path — a failing element copy is transparent (util/pcqueue.hh:96-104, 113-121)

"Strong exception guarantee if operator= throws": inside the critical section the copy may throw; the catch block
gives the semaphore token back, unwinding releases the mutex, and because the ring wrap stands AFTER the `try` the
cursor has not moved. -/
section copyfail

/-- **A failed copy is a stutter step.**  `fail s t g` (the copy of thread `t`, at its critical-section body,
throws; `g` = whatever a half-finished `Produce` left in the slot): the invariant of Part 1 is preserved, the ghost
histories, both cursors, the capacity and the abstract FIFO are unchanged; hence in every state reachable with
arbitrarily many failed copies (and EINTR interrupts) at arbitrary moments (`ReachF`) the invariant holds and with it
every safety theorem of Part 1 — semaphore accounting, capacity, FIFO exactly-once for the values SUCCESSFULLY
produced, per-pair order, and "some thread can step" (termination then needs that copies do not fail forever). -/
theorem copy_failure_transparent (hcap : 0 < cap) :
    (∀ {s s' : State} {t g : Nat}, ReachF (mkInit cap ps qs) s → fail s t g = some s' →
        s'.writes = s.writes ∧ s'.reads = s.reads ∧ s'.produceAt = s.produceAt ∧ s'.consumeAt = s.consumeAt
        ∧ absBuf s' = absBuf s ∧ s'.cap = s.cap)
    ∧ (∀ {s : State}, ReachF (mkInit cap ps qs) s →
        Inv (ps.map List.length).sum qs.sum s
        ∧ s.reads.map (·.2) = (s.writes.map (·.2)).take s.reads.length
        ∧ s.writes.length - s.reads.length ≤ s.cap
        ∧ s.empty + s.used + inFlightProducers s + inFlightConsumers s = s.cap) := by
  have hinv : ∀ {s : State}, ReachF (mkInit cap ps qs) s → Inv (ps.map List.length).sum qs.sum s :=
    fun hr => inv_reachF (inv_init cap ps qs hcap) hr
  refine ⟨fun hr hf => ?_, fun {s} hr => ?_⟩
  · exact (fail_stutter (hinv hr) hf).2
  · have h := hinv hr
    exact ⟨h, h.fifo, h.core.occupied_le, h.core.token_count⟩

/-- non-vacuity and dependence on the order "copy, then advance": one producer (value 7), one consumer, capacity 2;
the first copy of the producer throws, it retries, the consumer then reads.  With the real exception path the
consumer receives 7; with the cursor advanced before the copy (the change seeded as C17-5) the value is written
to slot 1 and the consumer receives the content of slot 0, which nobody produced. -/
example :
    ((((((((((((some (mkInit 2 [[7]] [1])).bind (step · 0)).bind (step · 0)).bind (fail · 0 99)).bind (step · 0)).bind
        (step · 0)).bind (step · 0)).bind (step · 0)).bind (step · 0)).bind (step · 1)).bind (step · 1)).bind
        (step · 1)).map (fun s => (s.writes, s.reads)) = some ([(0, 7)], [(1, 7)])
    ∧ ((((((((((((some (mkInit 2 [[7]] [1])).bind (step · 0)).bind (step · 0)).bind (failCursorFirst · 0 99)).bind
        (step · 0)).bind (step · 0)).bind (step · 0)).bind (step · 0)).bind (step · 0)).bind (step · 1)).bind
        (step · 1)).bind (step · 1)).map (fun s => (s.writes, s.reads)) = some ([(0, 7)], [(1, 99)]) := by
  decide +kernel

end copyfail

/-! ## Part 9: liveness of the composed system

Deadlock freedom and termination are transported from the atomic models to the systems running on the step-level
queues (client-generic, `lean/Proofs/PCQueueSysLive.lean`; the ThreadPool and the Chain enter through `pool_presents`,
`chain_presents`).  The one place where more than the simulation is needed is an abstractly enabled `await` on a thread
that is inside an operation: the awaited predicate is on that thread's local state, which only changes at its return,
and by `AwaitQuiet` it does not hold in a state from which that thread calls a queue operation, so that thread is past
its body and can itself progress.  The fairness assumption on signals is a hypothesis on the run (`InterruptFair E`: at
most `E` consecutive EINTR, i.e. finitely many per wait), never an axiom; lexicographically: (`cmeasure`, EINTRs still
allowed before the next step). -/
section liveness
open KV.Sys KV.Chain

/-- **ThreadPool on the step-level queue: no deadlock.**  In every reachable state (arbitrary schedule, arbitrary
interrupts), unless the denoted `Pool` state says everything has finished, some thread can take a step. -/
theorem pool_steplevel_no_deadlock {w : Nat} {reqs : List Nat} (hw : 0 < w) (hcap : 0 < cap)
    {c : CState PLoc} (hr : CReach (poolProg cap w) (cinit (poolProg cap w) (poolLoc0 w reqs)) c)
    (hnd : (toPool cap w (Sys.abs c)).allDone = false) : ∃ t, cstep (poolProg cap w) c t ≠ none := by
  obtain ⟨h, hml, hok⟩ := (pool_presents cap w reqs).creach (fun _ => hcap) (poolOK_init cap w reqs) hr
  exact (pool_presents cap w reqs).no_deadlock (awaitQuiet_pool cap w) h hml hok
    (pool_no_deadlock_inv hw (p := toPool cap w (Sys.abs c)) hcap (pinv_reach hok.2) hnd)

/-- **ThreadPool on the step-level queue: termination.**  From every reachable state `c`, for every run `ls`
(steps of arbitrary threads and EINTR interrupts in any order) ending in `c'`:
(1) the number of steps is at most `cmeasure c` — however many interrupts occur;
(2) if the run is interrupt-fair (at most `E` consecutive EINTR) its length is at most `cmeasure c · (E+1) + E`:
    every interrupt-fair run is finite;
(3) if no thread can step in `c'` (the run is maximal) then the denoted `Pool` state has finished: every request
    has been handled exactly once, the queue is empty and every worker has returned. -/
theorem pool_steplevel_terminates {w : Nat} {reqs : List Nat} (hw : 0 < w) (hcap : 0 < cap)
    {c : CState PLoc} (hr : CReach (poolProg cap w) (cinit (poolProg cap w) (poolLoc0 w reqs)) c)
    (ls : List Label) (c' : CState PLoc) (hrun : crun (poolProg cap w) c ls = some c') (E : Nat) :
    let μ := cmeasure (poolProg cap w) (fun a => (toPool cap w a).measure)
    countSteps ls + μ c' ≤ μ c
    ∧ (InterruptFair E 0 ls → ls.length ≤ μ c * (E + 1) + E)
    ∧ ((∀ t, cstep (poolProg cap w) c' t = none) →
        let p := toPool cap w (Sys.abs c')
        p.allDone = true ∧ (p.log.map (·.2)).filterMap Item.val? = reqs ∧ p.q = []) := by
  intro μ
  have hp := pool_presents cap w reqs
  obtain ⟨h, hml0, hok⟩ := hp.creach (fun _ => hcap) (poolOK_init cap w reqs) hr
  obtain ⟨h', hml, hok', hle, hfair⟩ :=
    hp.run_bounded Pool.measure (fun _ _ _ _ hs => pool_measure_step hs) h hml0 hok hrun E
  refine ⟨hle, hfair, fun hmax => ?_⟩
  · intro p
    have hdone : p.allDone = true :=
      (pinv_reach hok'.2).stuck_done hw (p := p) hcap (hp.stuck (awaitQuiet_pool cap w) h' hml hok' hmax)
    obtain ⟨_, _, _, _, _, h6⟩ := pool_exactly_once hw hcap hok'.2
    obtain ⟨e1, e2, _⟩ := h6 hdone
    exact ⟨hdone, e1, e2⟩

/-- **Chain on step-level queues: no deadlock.**  In every reachable state (arbitrary schedule, arbitrary
interrupts), unless the denoted `Chain` state says the user thread and all stages have finished, some thread can
take a step. -/
theorem chain_steplevel_no_deadlock {b m : Nat} {data : List Nat} (hb : 0 < b) (hm : 1 ≤ m) {c : CState CLoc}
    (hr : CReach (chainProg (Chain.init b m data)) (cinit (chainProg (Chain.init b m data)) (chainLoc0 b)) c)
    (hnd : (toChain (Chain.init b m data) (Sys.abs c)).main ≠ .finished
      ∨ ∃ i, i ≤ m ∧ ((toChain (Chain.init b m data) (Sys.abs c)).st i).pc ≠ .finished) :
    ∃ t, cstep (chainProg (Chain.init b m data)) c t ≠ none := by
  letI := defaultStageFn
  have hp := chain_presents (data := data) hb hm
  obtain ⟨h, hml, hok⟩ := hp.creach (fun _ => hb) (chainOK_init b m data) hr
  exact hp.no_deadlock (awaitQuiet_chain _) h hml hok (chain_no_deadlock_inv (rinv_reach hb hm hok.2) hnd)

/-- **Chain on step-level queues: termination.**  From every reachable state `c`, for every run `ls` (steps and
EINTR interrupts in any order) ending in `c'`: (1) the number of steps is at most `cmeasure c`; (2) an
interrupt-fair run (at most `E` consecutive EINTR) has length at most `cmeasure c · (E+1) + E`; (3) if no thread can
step in `c'` then in the denoted `Chain` state `Chain::Wait` has returned and all stages have finished, so the final
clauses of `chain_ring` apply (poison consumed by `Wait`, source output = data ++ [poison], everything handed over). -/
theorem chain_steplevel_terminates {b m : Nat} {data : List Nat} (hb : 0 < b) (hm : 1 ≤ m) {c : CState CLoc}
    (hr : CReach (chainProg (Chain.init b m data)) (cinit (chainProg (Chain.init b m data)) (chainLoc0 b)) c)
    (ls : List Label) (c' : CState CLoc) (hrun : crun (chainProg (Chain.init b m data)) c ls = some c') (E : Nat) :
    let μ := cmeasure (chainProg (Chain.init b m data))
      (fun a => chainMeasure b m data (toChain (Chain.init b m data) a))
    countSteps ls + μ c' ≤ μ c
    ∧ (InterruptFair E 0 ls → ls.length ≤ μ c * (E + 1) + E)
    ∧ ((∀ t, cstep (chainProg (Chain.init b m data)) c' t = none) →
        let x := toChain (Chain.init b m data) (Sys.abs c')
        x.main = .finished ∧ (∀ i, i ≤ m → (x.st i).pc = .finished) ∧ Item.poison ∈ x.drained
        ∧ (x.st 0).out = data.map Item.val ++ [Item.poison]) := by
  intro μ
  letI := defaultStageFn
  have hp := chain_presents (data := data) hb hm
  obtain ⟨h, hml0, hok⟩ := hp.creach (fun _ => hb) (chainOK_init b m data) hr
  obtain ⟨h', hml, hok', hle, hfair⟩ := hp.run_bounded (chainMeasure b m data)
    (fun _ _ _ ha hs => chain_measure_step (rinv_reach hb hm ha.2) hs) h hml0 hok hrun E
  refine ⟨hle, hfair, fun hmax => ?_⟩
  · intro x
    have hfin : x.main = .finished ∧ ∀ i, i ≤ m → (x.st i).pc = .finished :=
      (rinv_reach hb hm hok'.2).stuck_finished (hp.stuck (awaitQuiet_chain _) h' hml hok' hmax)
    obtain ⟨_, _, _, _, _, _, _, hend⟩ := chain_ring hb hm hok'.2
    obtain ⟨_, hp, hsrc, _⟩ := hend hfin.1
    exact ⟨hfin.1, hfin.2, hp, hsrc⟩

end liveness

end KV.C17
