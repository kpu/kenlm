import Generated.C11
import Proofs.Basics
import Proofs.FilterVocab
import Proofs.FilterHeader
import Proofs.FilterSearchEval
import Proofs.FilterSearchGraph
/-!
# C11 — Filtering keeps exactly the n-grams a restricted decoder can query

Model: `Model/Filter.lean`.  `verdict mode opts ngram` is what `Filter::AddNGram(ngram, line,
output)` does with one line (`all` = every output file, `only ks` = files `ks`);
`arpaFile` / `rawFile` are the bytes written to output file `k`.

Proved here: `out_sublist` (+ `out_sublist_binary`, `out_sublist_multiple`), `header_counts`
(+ `header_counts_counter`, `raw_counter` for the counters of the output classes), `kept_iff_single`,
`kept_iff_union` and `kept_iff_multi` (soundness and completeness of `FirstIntersectionSorted` /
`AllIntersection`, for every order of the ranges), `context_option`, `copy_identity`,
`decode_equiv` (+ `decode_equiv_sentence`).
Phrase mode: `phrase_sound` (what the specification `Tiles` allows is accepted by the model of the
search graph) and the lazy search of lm/filter/phrase.cc against that graph model
(`KV.C11.lowerBound_spec`, `phrase_multi_correct`, `phrase_union_correct`, `phrase_search_eq_graph`,
`phrase_end_to_end`); `OldSearch` and `union_value_or_zero_drops_first_sentence` show that the
seeded changes C11-1 and C11-9 break these statements.
-/
namespace KV.C11
open KV.Filter

/-- the n-gram lines written to file `k` are a sublist of the input lines
(same bytes, same order), provided no line is sent twice to the same file. -/
theorem out_sublist (vs : Item → Verdict) (k : Nat) (items : List Item)
    (h : ∀ it ∈ items, (vs it).copies k ≤ 1) :
    (keptLines vs k items).Sublist (items.map (·.line)) := by
  induction items with
  | nil => exact List.Sublist.slnil
  | cons it r ih =>
    have hr := ih (fun x hx => h x (List.mem_cons_of_mem _ hx))
    have hc := h it List.mem_cons_self
    show (List.replicate ((vs it).copies k) it.line ++ keptLines vs k r).Sublist (it.line :: r.map (·.line))
    rcases Nat.lt_or_ge ((vs it).copies k) 1 with h0 | h1
    · rw [Nat.lt_one_iff.mp h0]; exact hr.cons _
    · rw [Nat.le_antisymm hc h1]; exact hr.cons_cons _

theorem copies_le_one_binary (m : Mode) (o : Opts) (g : Bytes) (k : Nat)
    (hm : ∀ s, m ≠ .multiple s) : (verdict m o g).copies k ≤ 1 := by
  cases m with
  | copy => exact Nat.le_refl 1
  | single V => exact Verdict.ite_copies_le_one _ k
  | union s => exact Verdict.ite_copies_le_one _ k
  | multiple s => exact absurd rfl (hm s)

theorem out_sublist_binary (m : Mode) (o : Opts) (items : List Item) (k : Nat) (hm : ∀ s, m ≠ .multiple s) :
    (keptLines (fun it => verdict m o it.ngram) k items).Sublist (items.map (·.line)) :=
  out_sublist _ k items (fun it _ => copies_le_one_binary m o it.ngram k hm)

theorem raw_file_eq (items : List Item) (vs : Item → Verdict) (k : Nat) :
    rawFile items vs k = joinLines (keptLines vs k items) := rfl

/-- the ARPA output starts with the `\data\` header whose count for order
`n` is the number of lines written in section `n`; the space reserved with the input's counts
is padded with newlines; the sections follow with exactly the kept lines. -/
theorem header_counts (a : Arpa) (vs : Item → Verdict) (k : Nat) :
    ∃ pad, arpaFile a vs k =
      countsHeader ((a.orders.map (keptLines vs k)).map List.length) ++ List.replicate pad 10 ++
      sectionsBody 1 (a.orders.map (keptLines vs k)) ++ bEnd ++ [10] :=
  ⟨_, rfl⟩

/-- **header_counts at the level of `ARPAOutput`'s counter**: the calls that reach output file
`k` during the sequential run (= during every threaded run, C12 `ctl_output_arpa`), fed to the
model of `ARPAOutput` (`BeginLength` resets the counter, `AddNGram` increments it, `EndLength`
stores it per order, `Finish` writes the counts over the reservation), produce exactly
`arpaFile`: the header counts the lines actually written in each section. -/
theorem header_counts_counter (a : Arpa) (vs : Item → Verdict) (k : Nat) :
    KV.FilterDrv.renderArpa (countsHeader a.counts).length
        (KV.FilterCtl.fileLog k (KV.FilterCtl.seqLog vs (KV.FilterCtl.arpaProgram a.orders))) = arpaFile a vs k := by
  have hb := KV.FilterDrv.body_foldl (KV.FilterCtl.fileLog k (KV.FilterCtl.seqLog vs (KV.FilterCtl.arpaOrders 1 a.orders))) {}
  rw [KV.FilterDrv.body_orders] at hb
  simp only [KV.FilterDrv.renderArpa, KV.FilterCtl.arpaProgram, arpaFile]
  rw [KV.FilterDrv.counts_orders vs k a.orders 1 {} rfl]
  show _ ++ _ ++ KV.FilterDrv.body _ = _
  rw [hb]
  simp [KV.FilterDrv.body, List.append_assoc]

/-- raw format counterpart: the calls that reach file `k`, written by `CountOutput`, are `rawFile` -/
theorem raw_counter (items : List Item) (vs : Item → Verdict) (k : Nat) :
    KV.FilterDrv.renderRaw (KV.FilterCtl.fileLog k (KV.FilterCtl.seqLog vs (KV.FilterCtl.rawProgram items))) = rawFile items vs k := by
  rw [KV.FilterCtl.rawProgram, KV.FilterDrv.fileLog_adds]
  simp [KV.FilterCtl.seqLog, KV.FilterCtl.fileLog, KV.FilterDrv.renderRaw, rawFile, joinLines, KV.FilterDrv.keptLines_eq,
    List.filterMap_map, List.flatMap_def, Function.comp_def]

/-- kept iff every word other than a `<tag>` is in the vocabulary -/
theorem kept_iff_single (V : List Bytes) (o : Opts) (g : Bytes) :
    verdict (.single V) o g = .all ↔
      ∀ w ∈ words (if o.context then contextOf g else g), isTag w = true ∨ w ∈ V := by
  rw [← passSingle_iff]
  exact Verdict.ite_eq_all _

theorem single_verdict_cases (V : List Bytes) (o : Opts) (g : Bytes) :
    verdict (.single V) o g = .all ∨ verdict (.single V) o g = .only [] := by
  exact Verdict.ite_cases _

/-- in union mode an n-gram is kept exactly when one sentence contains all
its non-tag words (trivially so when it has none).  Uses soundness and completeness of
`FirstIntersectionSorted`'s restart loop (`firstInter_isSome_iff`, valid for every order of the
ranges — `std::sort` leaves ties unspecified) and that posting lists are strictly increasing. -/
theorem kept_iff_union (sents : List (List Bytes)) (o : Opts) (g : Bytes) :
    verdict (.union sents) o g = .all ↔
      ∃ c : Nat, ∀ w ∈ (words (if o.context then contextOf g else g)).filter (fun w => !isTag w),
        ∃ sent : List Bytes, sents[c]? = some sent ∧ w ∈ sent := by
  rw [← passUnion_iff]
  exact Verdict.ite_eq_all _

theorem kept_union_sound (sents : List (List Bytes)) (o : Opts) (g : Bytes)
    (h : verdict (.union sents) o g = .all) :
    ∃ c : Nat, ∀ w ∈ (words (if o.context then contextOf g else g)).filter (fun w => !isTag w),
      ∃ sent : List Bytes, sents[c]? = some sent ∧ w ∈ sent :=
  (kept_iff_union sents o g).mp h

/-- in multiple mode a line goes to all files iff it has no non-tag word;
otherwise it goes to file `s` iff sentence `s` contains all its non-tag words, and each such
file is named exactly once, in increasing order (`AllIntersection` enumerates exactly the
intersection of the posting lists). -/
theorem kept_iff_multi (sents : List (List Bytes)) (ws : List Bytes) :
    (multiVerdict sents ws = .all ↔ ws.filter (fun w => !isTag w) = []) ∧
    (∀ ks, multiVerdict sents ws = .only ks →
      ks.Pairwise (· < ·) ∧
      ∀ s : Nat, s ∈ ks ↔ (ws.filter (fun w => !isTag w) ≠ [] ∧
        ∀ w ∈ ws.filter (fun w => !isTag w), ∃ sent : List Bytes, sents[s]? = some sent ∧ w ∈ sent)) := by
  exact multiVerdict_spec sents ws

theorem kept_multi_sound (sents : List (List Bytes)) (ws : List Bytes) (ks : List Nat) (s : Nat)
    (h : multiVerdict sents ws = .only ks) (hs : s ∈ ks) :
    ∀ w ∈ ws.filter (fun w => !isTag w), ∃ sent : List Bytes, sents[s]? = some sent ∧ w ∈ sent :=
  ((((multiVerdict_spec sents ws).2 ks h).2 s).mp hs).2

/-- multiple mode: every file receives a sublist of the input lines (no line twice) -/
theorem out_sublist_multiple (sents : List (List Bytes)) (o : Opts) (items : List Item) (k : Nat) :
    (keptLines (fun it => verdict (.multiple sents) o it.ngram) k items).Sublist (items.map (·.line)) := by
  apply out_sublist
  intro it _
  simp only [verdict, verdictWords]
  generalize words (if o.context then contextOf it.ngram else it.ngram) = ws
  cases hv : multiVerdict sents ws with
  | all => simp [Verdict.copies]
  | only ks =>
    simp only [Verdict.copies]
    exact Inc.count_le_one ((multiVerdict_spec sents ws).2 ks hv).1 k

/-- with `context` the filter looks at the n-gram without its last word
(everything before the last space at a position > 0) -/
theorem context_option (m : Mode) (g : Bytes) :
    verdict m { context := true } g = verdict m { context := false } (contextOf g) := by
  cases m <;> simp [verdict]

/-- copy mode writes every entry -/
theorem copy_identity (o : Opts) (items : List Item) :
    keptLines (fun it => verdict .copy o it.ngram) 0 items = items.map (·.line) := by
  induction items with
  | nil => rfl
  | cons it r ih =>
    simp only [keptLines, List.flatMap_cons, List.map_cons] at ih ⊢
    rw [ih]; simp [verdict, Verdict.copies]

/-! ## decoding with the filtered model

A self-contained back-off model: a model maps an
n-gram (list of words, oldest first) to `(log-prob, back-off)`; `score` is the textbook
recursion, `matched` the length of the longest matching n-gram. -/

abbrev Word := Nat
abbrev LM := List Word → Option (Int × Int)

/-- `score A ctx w`: log p(w | ctx) with back-off; `unk` is the score of an unknown unigram -/
def score (A : LM) (unk : Int) : List Word → Word → Int
  | [], w => match A [w] with
    | some (p, _) => p
    | none => unk
  | c :: ctx, w => match A (c :: ctx ++ [w]) with
    | some (p, _) => p
    | none => (match A (c :: ctx) with | some (_, b) => b | none => 0) + score A unk ctx w

/-- length of the longest n-gram ending in `w` that the model contains -/
def matched (A : LM) : List Word → Word → Nat
  | [], w => match A [w] with
    | some _ => 1
    | none => 0
  | c :: ctx, w => match A (c :: ctx ++ [w]) with
    | some _ => (c :: ctx).length + 1
    | none => matched A ctx w

def restrict (A : LM) (K : List Word → Bool) : LM := fun g => if K g then A g else none

/-- if every n-gram of the model whose words all pass (`V`: vocabulary ∪
tags, with OOV words already mapped to `<unk>`, which is a tag) is kept, then on every context
and word over `V` the filtered model gives the same score and the same matched length. -/
theorem decode_equiv (A : LM) (K : List Word → Bool) (V : Word → Bool) (unk : Int)
    (hK : ∀ g, (∀ w ∈ g, V w = true) → A g ≠ none → K g = true)
    (ctx : List Word) (w : Word) (hc : ∀ c ∈ ctx, V c = true) (hw : V w = true) :
    score (restrict A K) unk ctx w = score A unk ctx w ∧ matched (restrict A K) ctx w = matched A ctx w := by
  have key : ∀ g, (∀ x ∈ g, V x = true) → restrict A K g = A g := by
    intro g hg
    unfold restrict
    by_cases hA : A g = none
    · rw [hA]; simp
    · rw [if_pos (hK g hg hA)]
  induction ctx with
  | nil =>
    have h1 := key [w] (by intro x hx; simp at hx; rw [hx]; exact hw)
    simp [score, matched, h1]
  | cons c ctx ih =>
    have hc' : ∀ x ∈ ctx, V x = true := fun x hx => hc x (List.mem_cons_of_mem _ hx)
    obtain ⟨ih1, ih2⟩ := ih hc'
    have h1 := key (c :: ctx ++ [w]) (by
      intro x hx
      simp only [List.cons_append, List.mem_cons, List.mem_append, List.not_mem_nil, or_false] at hx
      rcases hx with rfl | hx | rfl
      · exact hc _ List.mem_cons_self
      · exact hc' x hx
      · exact hw)
    have h2 := key (c :: ctx) hc
    simp only [score, matched, h1, h2, ih1, ih2]
    trivial

/-- whole sentences: the sum of the scores over any sentence whose words pass -/
def sentenceScore (A : LM) (unk : Int) (order : Nat) : List Word → List Word → Int
  | _, [] => 0
  | hist, w :: rest =>
    score A unk (hist.drop (hist.length + 1 - order)) w + sentenceScore A unk order (hist ++ [w]) rest

theorem decode_equiv_sentence (A : LM) (K : List Word → Bool) (V : Word → Bool) (unk : Int) (order : Nat)
    (hK : ∀ g, (∀ w ∈ g, V w = true) → A g ≠ none → K g = true)
    (hist sent : List Word) (hh : ∀ c ∈ hist, V c = true) (hs : ∀ c ∈ sent, V c = true) :
    sentenceScore (restrict A K) unk order hist sent = sentenceScore A unk order hist sent := by
  induction sent generalizing hist with
  | nil => rfl
  | cons w rest ih =>
    have hw := hs w List.mem_cons_self
    have hd : ∀ c ∈ hist.drop (hist.length + 1 - order), V c = true :=
      fun c hc => hh c (List.mem_of_mem_drop hc)
    have h1 := (decode_equiv A K V unk hK _ w hd hw).1
    have h2 := ih (hist ++ [w]) (by
      intro c hc
      rcases List.mem_append.mp hc with hc | hc
      · exact hh c hc
      · simp at hc; rw [hc]; exact hw) (fun c hc => hs c (List.mem_cons_of_mem _ hc))
    simp only [sentenceScore, h1, h2]

/-- non-vacuity: a model with a bigram that is dropped, a vocabulary that keeps the rest -/
example :
    let A : LM := fun g => if g = [1] then some (-10, -3) else if g = [2] then some (-20, 0)
                           else if g = [1, 2] then some (-5, 0) else if g = [3] then some (-7, -1)
                           else if g = [3, 1] then some (-2, 0) else none
    let V : Word → Bool := fun w => w = 1 || w = 2
    let K : List Word → Bool := fun g => g.all V
    (∀ g, (∀ w ∈ g, V w = true) → A g ≠ none → K g = true) ∧
      score (restrict A K) (-100) [1] 2 = -5 ∧ score (restrict A K) (-100) [2] 1 = -10 ∧ restrict A K [3, 1] = none := by
  refine ⟨?_, by decide +kernel, by decide +kernel, by decide +kernel⟩
  intro g hg _
  simp only [List.all_eq_true]
  exact hg

/-! ## phrase mode

`Tiles phrases g` (Proofs/FilterPhrase.lean): `g` is a contiguous part of one phrase, or a
non-empty end of a phrase ++ whole phrases ++ a non-empty beginning of a phrase — exactly "can
be read off a concatenation of the sentence's phrases".  `tilesB` is its executable form (the
driver's lower bound `.must<k>`, cross-checked against an independent Python DP and a literal
enumeration of concatenations).  `graphAccept` models the arcs `BuildGraph` creates from the
`Substrings` tables, including the `break`s on absent keys, with acceptance = a path of arcs
that all contain the sentence; the checks compare it **byte for byte** with `bin/filter phrase`.
The lazy evaluation of that graph (`Vertex::LowerBound` / `Arc::LowerBound` with priority queues)
is the subject of the next section; hashing is not modelled. -/

/-- (one direction, as the property states; for the search graph): every
n-gram that can be read off a concatenation of the phrases of sentence `s` is accepted for `s` -/
theorem phrase_sound (sents : List (List (List Bytes))) (s : Nat) (g : List Bytes)
    (h : Tiles (sents.getD s []) g) : graphAccept sents s g = true :=
  tilesB_graphAccept sents s g (tilesB_of_Tiles _ g h)

/-- … and therefore sentence `s` is among the outputs of the model of `phrase::Multiple`
(resp. the n-gram passes `phrase::Union`) -/
theorem phrase_sound_multiple (sents : List (List (List Bytes))) (ws : List Bytes) (s : Nat) (hs : s < sents.length)
    (h : Tiles (sents.getD s []) (phraseWords ws)) :
    phraseVerdict sents ws = .all ∨ ∃ ks, phraseVerdict sents ws = .only ks ∧ s ∈ ks := by
  unfold phraseVerdict
  by_cases hg : phraseWords ws = []
  · left; simp [hg]
  · right
    simp only [hg, if_false]
    refine ⟨_, rfl, ?_⟩
    simp only [List.mem_filter, List.mem_range]
    exact ⟨hs, phrase_sound sents s _ h⟩

theorem phrase_sound_union (sents : List (List (List Bytes))) (ws : List Bytes) (s : Nat) (hs : s < sents.length)
    (h : Tiles (sents.getD s []) (phraseWords ws)) : phraseVerdictUnion sents ws = .all := by
  unfold phraseVerdictUnion
  rcases phrase_sound_multiple sents ws s hs h with h | ⟨ks, h, hk⟩
  · rw [h]
  · rw [h]
    cases ks with
    | nil => cases hk
    | cons k ks => rfl

/-- the `FindSubstring` path at the highest order the tools are built for (`KENLM_MAX_ORDER`,
regenerated from lm/max_order.hh): an n-gram of that order lying inside one phrase of sentence `s`
is accepted — there is no length limit on the indexed parts of a phrase -/
theorem phrase_sound_max_order (sents : List (List (List Bytes))) (s : Nat) (g a b : List Bytes)
    (_hlen : g.length = KV.Gen.C11.kenlmMaxOrder) (hp : a ++ g ++ b ∈ sents.getD s []) :
    graphAccept sents s g = true :=
  phrase_sound sents s g (Or.inl ⟨_, hp, a, b, rfl⟩)

/-! ## the lazy search of lm/filter/phrase.cc

`Model/FilterPhraseSearch.lean` models `Arc::LowerBound`, `Vertex::LowerBound` (priority queue by
current candidate) and the `Evaluate` loops of `phrase::Union` / `phrase::Multiple` over the arcs
of `BuildGraph` (`buildGraph`, semantic tables).  `PAcc arcs v s`: some path of arcs that all
contain sentence `s` ends at vertex `v`.  `Good arcs σ L`: every arc's remaining range is a suffix
of its sentence list and still holds every sentence `≥ L` that its source vertex accepts. -/

/-- from a `Good` state with low-water mark `L ≤ to`, `Vertex::LowerBound(v, to)`
(nesting depth `d > v`: fuel proved sufficient) leaves the state `Good` at `to`, does not touch arcs
into higher vertices, and returns `none` only if no sentence `≥ to` is accepted at `v`, else some
`c ≥ to` such that nothing in `[to, c)` is accepted and `c` itself is accepted when `c = to`. -/
theorem lowerBound_spec (arcs : List PArc) (hw : WFG arcs) (d v : Nat) (hv : v < d)
    (σ : PState) (L to : Nat) (hg : Good arcs σ L) (hl : L ≤ to) :
    Good arcs (vertexLB false arcs d v to σ).2 to ∧
    (∀ (j : Nat) (b : PArc), arcs[j]? = some b → v < b.to → restOf (vertexLB false arcs d v to σ).2 j = restOf σ j) ∧
    match (vertexLB false arcs d v to σ).1 with
    | none => ∀ s, to ≤ s → ¬ PAcc arcs v s
    | some c => to ≤ c ∧ (c = to → PAcc arcs v to) ∧ (∀ s, to ≤ s → s < c → ¬ PAcc arcs v s) ∧ (c = to ∨ c ≤ maxSent arcs) :=
  KV.Filter.lowerBound_spec hw d v hv σ L to hg hl

theorem buildGraph_accepts (sents : List (List (List Bytes))) (s : Nat) (g : List Bytes) :
    WFG (buildGraph sents g) ∧ (PAcc (buildGraph sents g) (g.length - 1) s ↔ graphAccept sents s g = true) :=
  ⟨buildGraph_wf sents g, acc_iff_graphAccept sents s g⟩

/-- `phrase::Multiple::Evaluate` reports exactly `{s | graphAccept s}`,
each once, in increasing order -/
theorem phrase_multi_correct (sents : List (List (List Bytes))) (g : List Bytes) :
    let arcs := buildGraph sents g
    let out := multiEval false arcs (g.length - 1) (maxSent arcs + 2) 0 (initState arcs)
    (∀ s, s ∈ out ↔ graphAccept sents s g = true) ∧ out.Pairwise (· < ·) := by
  obtain ⟨h1, h2⟩ := multiEval_correct (buildGraph_wf sents g) (g.length - 1)
  exact ⟨fun s => by rw [h1 s, acc_iff_graphAccept], h2⟩

/-- `phrase::Union::Evaluate` answers true iff some sentence is accepted -/
theorem phrase_union_correct (sents : List (List (List Bytes))) (g : List Bytes) :
    let arcs := buildGraph sents g
    unionEval false arcs (g.length - 1) (maxSent arcs + 2) 0 (initState arcs) = true ↔
      ∃ s, graphAccept sents s g = true := by
  simp only
  rw [unionEval_correct (buildGraph_wf sents g) (g.length - 1)]
  exact ⟨fun ⟨s, h⟩ => ⟨s, (acc_iff_graphAccept sents s g).mp h⟩, fun ⟨s, h⟩ => ⟨s, (acc_iff_graphAccept sents s g).mpr h⟩⟩

/-- the model of the lazy search and the declarative graph model are the same function (so the
driver's `.search<k>` and `.graph<k>` files coincide by theorem, not only by test) -/
theorem phrase_search_eq_graph (sents : List (List (List Bytes))) (ws : List Bytes) :
    phraseSearch false sents ws = phraseVerdict sents ws := by
  unfold phraseSearch phraseVerdict
  by_cases hg : phraseWords ws = []
  · simp [hg]
  · simp only [hg, if_false]
    congr 1
    obtain ⟨h1, h2⟩ := multiEval_correct (buildGraph_wf sents (phraseWords ws)) ((phraseWords ws).length - 1)
    apply strict_sorted_ext (fun _ _ => Nat.lt_asymm) h2 (inc_filter_range _ _)
    intro s
    rw [h1 s, acc_iff_graphAccept]
    simp only [List.mem_filter, List.mem_range]
    exact ⟨fun h => ⟨graphAccept_lt h, h⟩, fun h => h.2⟩

/-- **the property's phrase clause end to end**: an n-gram that can be read off a concatenation
of the phrases of sentence `s` is sent to output `s` by the model of the real search -/
theorem phrase_end_to_end (sents : List (List (List Bytes))) (ws : List Bytes) (s : Nat) (hs : s < sents.length)
    (h : Tiles (sents.getD s []) (phraseWords ws)) :
    phraseSearch false sents ws = .all ∨ ∃ ks, phraseSearch false sents ws = .only ks ∧ s ∈ ks := by
  rw [phrase_search_eq_graph]
  exact phrase_sound_multiple sents ws s hs h

theorem phrase_end_to_end_union (sents : List (List (List Bytes))) (ws : List Bytes) (s : Nat) (_hs : s < sents.length)
    (h : Tiles (sents.getD s []) (phraseWords ws)) : phraseSearchUnion false sents ws = .all := by
  unfold phraseSearchUnion
  by_cases hg : phraseWords ws = []
  · simp [hg]
  · simp only [hg, if_false]
    have := (phrase_union_correct sents (phraseWords ws)).mpr ⟨s, phrase_sound sents s _ h⟩
    rw [this]; rfl

/-! ### Old: the search of seeded change C11-1 ("advance the source vertex to the candidate
straight away", `mutant = true`) does not meet `KV.Filter.lowerBound_spec` -/
namespace OldSearch

def sents6 : List (List (List Bytes)) :=
  [[[[98]]], [[[99]], [[100]]], [[[122]]], [[[97]], [[98], [99]], [[100]]], [[[122]], [[121]]], [[[97]], [[98]]]]
def g4 : List Bytes := [[97], [98], [99], [100]]

/-- on the six-sentence file of seeded/C11-1 and the n-gram `a b c d`: the state after the
first `LowerBound(0)` of the correct code is `Good`; the mutant's `LowerBound(1)` from it drops
sentence 3 from the right-aligned arc for `a` although it is valid there -/
theorem lowerBound_spec_fails_mutant :
    ¬ (∀ (arcs : List PArc), WFG arcs → ∀ (d v : Nat), v < d → ∀ (σ : PState) (L to : Nat), Good arcs σ L → L ≤ to →
        Good arcs (vertexLB true arcs d v to σ).2 to) := by
  intro h
  have hw := buildGraph_wf sents6 g4
  have hg1 := (KV.Filter.lowerBound_spec hw 4 3 (Nat.lt_succ_self 3) (initState (buildGraph sents6 g4)) 0 0 good_init (Nat.le_refl _)).1
  have hbad := h (buildGraph sents6 g4) hw 4 3 (Nat.lt_succ_self 3) _ 0 1 hg1 (Nat.zero_le 1)
  have harc : (buildGraph sents6 g4)[0]? = some ⟨none, 0, [3, 5]⟩ := by decide +kernel
  have hmem := hbad.keep 0 _ harc 3 ⟨by decide, Or.inl rfl⟩ (by decide)
  have hrest : restOf (vertexLB true (buildGraph sents6 g4) 4 3 1
      (vertexLB false (buildGraph sents6 g4) 4 3 0 (initState (buildGraph sents6 g4))).2).2 0 = [5] := by decide +kernel
  rw [hrest] at hmem
  simp at hmem

/-- … and consequently `Evaluate` loses the n-gram for sentence 3, which the graph accepts -/
theorem multi_wrong_mutant :
    multiEval true (buildGraph sents6 g4) 3 (maxSent (buildGraph sents6 g4) + 2) 0 (initState (buildGraph sents6 g4)) = [] ∧
    multiEval false (buildGraph sents6 g4) 3 (maxSent (buildGraph sents6 g4) + 2) 0 (initState (buildGraph sents6 g4)) = [3] ∧
    graphAccept sents6 3 g4 = true := by decide +kernel

end OldSearch

/-- the lower bound the checks enforce is implied by the graph model (so "tool = graph model"
on a run implies "tool ⊇ Tiles" on that run) -/
theorem must_le_graph (sents : List (List (List Bytes))) (ws : List Bytes) (ks : List Nat) (s : Nat)
    (h : phraseMust sents ws = .only ks) (hs : s ∈ ks) :
    ∃ ks', phraseVerdict sents ws = .only ks' ∧ s ∈ ks' := by
  unfold phraseMust at h
  unfold phraseVerdict
  by_cases hg : phraseWords ws = []
  · simp [hg] at h
  · simp only [hg, if_false] at h ⊢
    injection h with h; subst h
    refine ⟨_, rfl, ?_⟩
    simp only [List.mem_filter, List.mem_range] at hs ⊢
    exact ⟨hs.1, tilesB_graphAccept sents s _ hs.2⟩

/-- non-vacuity: the n-gram of seeded/C11-1 — `a b c d` tiles sentence 3 (`a | b c | d`) only
(a = 97, b = 98, c = 99, d = 100, y = 121, z = 122) -/
example :
    let sents : List (List (List Bytes)) :=
      [[[[98]]], [[[99]], [[100]]], [[[122]]], [[[97]], [[98], [99]], [[100]]], [[[122]], [[121]]], [[[97]], [[98]]]]
    let g : List Bytes := [[97], [98], [99], [100]]
    (List.range 6).filter (fun s => tilesB (sents.getD s []) g) = [3] ∧
      (List.range 6).filter (fun s => graphAccept sents s g) = [3] := by decide +kernel

open KV.Filter in
/-- the seeded `PassNGram` of `vocab::Union` (C11-9): `FirstIntersection(sets_).value_or(0)` converted to `bool` — a lowest
common sentence id of 0 reads as "no common sentence" -/
def passUnionValueOr0 (sents : List (List Bytes)) (ws : List Bytes) : Bool :=
  match gatherSets sents ws with
  | none => false
  | some [] => true
  | some sets => (firstInter (sortBySize sets)).getD 0 != 0


open KV.Filter in
/-- (negation witness, `decide`): with a single vocabulary sentence `a b`, the
unigram `a` is kept by `vocab::Union::PassNGram` (`kept_iff_union`: sentence 0 contains it) but dropped by the variant that
converts `FirstIntersection(...).value_or(0)` to `bool`, because the lowest common sentence id is 0; an n-gram whose words
meet only in sentence 1 is kept by both. -/
theorem union_value_or_zero_drops_first_sentence :
    passUnion [[[97], [98]], [[99]]] [[97]] = true ∧ passUnionValueOr0 [[[97], [98]], [[99]]] [[97]] = false
    ∧ passUnion [[[97], [98]], [[99]]] [[99]] = true ∧ passUnionValueOr0 [[[97], [98]], [[99]]] [[99]] = true := by
  decide +kernel

end KV.C11
